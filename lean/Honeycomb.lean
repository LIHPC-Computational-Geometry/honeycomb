import Honeycomb.Model.Basic
import Honeycomb.Model.Stm
import Honeycomb.Model.Map
import Honeycomb.Model.Ops
import Honeycomb.Model.Ops2
import Honeycomb.Model.Ops3
import Honeycomb.Gen.Anchors
import Honeycomb.Model.Val
import Honeycomb.Model.WF
import Honeycomb.Model.Session
import Honeycomb.Model.Session3
import Honeycomb.Gen.GridTables
import Honeycomb.Model.Grid
import Honeycomb.Model.SessionGrid
import Honeycomb.Model.CmapText
import Honeycomb.Model.CmapChars
import Honeycomb.Model.SessionIO
import Honeycomb.Model.Kernels.Geom2
import Honeycomb.Model.Kernels.VertexInsertion
import Honeycomb.Model.Kernels.Fan
import Honeycomb.Model.Kernels.EarClip
import Honeycomb.Model.SessionKernels
import Honeycomb.Model.Kernels.Swap
import Honeycomb.Model.Kernels.Cut
import Honeycomb.Model.Kernels.Collapse
import Honeycomb.Model.SessionRemesh
import Honeycomb.Model.Geometry
import Honeycomb.Model.Rounding
import Honeycomb.Model.SessionGeo
import Honeycomb.Model.Scene
import Honeycomb.Model.SessionScene
import Honeycomb.Model.Vtk
import Honeycomb.Model.VtkText
import Honeycomb.Model.SessionVtk
import Honeycomb.Model.Grisubal
import Honeycomb.Model.Capture
import Honeycomb.Model.Clip
import Honeycomb.Model.GrisubalInsert
import Honeycomb.Model.SessionCapture
import Honeycomb.Model.SessionAll
import Honeycomb.Lemmas.ListFacts
import Honeycomb.Lemmas.Run
import Honeycomb.Lemmas.SewOf
import Honeycomb.Lemmas.AnchorMerge
import Honeycomb.Lemmas.WFLink
import Honeycomb.Props.C01
import Honeycomb.Props.C01b
import Honeycomb.Props.C01Gen
import Honeycomb.Props.C01Gen2
import Honeycomb.Props.C05Gen
import Honeycomb.Props.C05Gen3
import Honeycomb.Props.C02Gen3
import Honeycomb.Props.C18Gen
import Honeycomb.Props.C14Gen
import Honeycomb.Props.C14GenN
import Honeycomb.Props.C18b
import Honeycomb.Props.C02GenApi
import Honeycomb.Props.C01GenApi
import Honeycomb.Lemmas.StmThy
import Honeycomb.Lemmas.MapLawful
import Honeycomb.Props.C06
import Honeycomb.Props.C08
import Honeycomb.Props.C18
import Honeycomb.Lemmas.GridGeneric
import Honeycomb.Lemmas.GridLink
import Honeycomb.Lemmas.GridLattice
import Honeycomb.Lemmas.GridSquare
import Honeycomb.Lemmas.GridSplit
import Honeycomb.Props.C12
import Honeycomb.Lemmas.Bfs
import Honeycomb.Lemmas.Walk1
import Honeycomb.Lemmas.Ties
import Honeycomb.Props.C03
import Honeycomb.Lemmas.CmapText
import Honeycomb.Props.C09
import Honeycomb.Lemmas.Attr
import Honeycomb.Props.C04
import Honeycomb.Props.C10
import Honeycomb.Props.C19
import Honeycomb.Lemmas.Rounding
import Honeycomb.Props.C19b
import Honeycomb.Lemmas.RoundingRange
import Honeycomb.Props.C19c
import Honeycomb.Props.C19Gen
import Honeycomb.Props.C20
import Honeycomb.Props.C20b
import Honeycomb.Props.C20c
import Honeycomb.Model.StmProto
import Honeycomb.Props.C07
import Honeycomb.Lemmas.KernelWF
import Honeycomb.Props.C14
import Honeycomb.Props.C13
import Honeycomb.Lemmas.CellCalc
import Honeycomb.Props.C04Cells
import Honeycomb.Props.C04Cells2
import Honeycomb.Props.C04Gen
import Honeycomb.Lemmas.Link3
import Honeycomb.Lemmas.Sew3
import Honeycomb.Props.C02
import Honeycomb.Props.C05
import Honeycomb.Props.C11
import Honeycomb.Props.C11b
import Honeycomb.Props.C11c
import Honeycomb.Props.C11d
import Honeycomb.Props.C11e
import Honeycomb.Props.C11f
import Honeycomb.Props.C16
import Honeycomb.Lemmas.GrisubalCross
import Honeycomb.Props.C16Cross
import Honeycomb.Props.C17
import Honeycomb.Props.C17Surf
import Honeycomb.Props.C16Clip
import Honeycomb.Props.C16Insert
import Honeycomb.Props.C16Grid
import Honeycomb.Props.C16Edges
import Honeycomb.Props.C16EdgeInsert
import Honeycomb.Props.C16Chain
import Honeycomb.Props.C16ChainGrid
import Honeycomb.Props.C16Step5Total
import Honeycomb.Props.C16InsertTotal
import Honeycomb.Props.C16Steps23Total
import Honeycomb.Props.C16Step5Pipe
import Honeycomb.Model.StmProtoB
import Honeycomb.Props.C07B
import Honeycomb.Props.C07Live
import Honeycomb.Props.C15
import Honeycomb.Lemmas.Cell3
import Honeycomb.Props.C05Cells
import Honeycomb.Lemmas.KernelWF2
import Honeycomb.Props.C13b
import Honeycomb.Lemmas.Grid3Vertex
import Honeycomb.Lemmas.GridCount
import Honeycomb.Lemmas.Grid3Count
import Honeycomb.Props.C12b
import Honeycomb.Props.C14b
import Honeycomb.Lemmas.Bfs3
import Honeycomb.Props.C03b
import Honeycomb.Props.C03Gen
import Honeycomb.Lemmas.Cell3b
import Honeycomb.Props.C05Cells2
import Honeycomb.Lemmas.RemeshBeta
import Honeycomb.Lemmas.RemeshCells
import Honeycomb.Lemmas.RemeshFixtures
import Honeycomb.Lemmas.RemeshValues
import Honeycomb.Props.C15b
import Honeycomb.Props.C15c
import Honeycomb.Props.C15d
import Honeycomb.Props.C15Gen
import Honeycomb.Props.C15GenB
import Honeycomb.Props.C15GenC
import Honeycomb.Props.C02b
import Honeycomb.Props.C02Gen
import Honeycomb.Props.C05Succ
import Honeycomb.Props.C05Cells3
import Honeycomb.Props.C05SuccLaw
import Honeycomb.Props.C05Cells3Data
import Honeycomb.Props.C14c
import Honeycomb.Props.C13c
import Honeycomb.Lemmas.PosCalc
import Honeycomb.Props.C13d
import Honeycomb.Props.C13e
import Honeycomb.Props.C13f
import Honeycomb.Props.C14d
import Honeycomb.Lemmas.CmapChars
import Honeycomb.Props.C09b
import Honeycomb.Props.C10b
import Honeycomb.Props.C12c
import Honeycomb.Lemmas.Grid3Face
import Honeycomb.Lemmas.Grid3Edge
import Honeycomb.Props.C12d
import Honeycomb.Props.C12Gen
import Honeycomb.Props.C13Gen
import Honeycomb.Props.C13GenB
import Honeycomb.Props.C16Gen
import Honeycomb.Props.C17Gen

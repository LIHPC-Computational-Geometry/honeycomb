/-
  L1 — the state of a combinatorial map (2-D: 3 β rows, 3-D: 4 β rows) and its
  transactional variables.

  Rust                                   model
  ----                                   -----
  betas: Vec<[TVar<u32>; N]>             b : Array (Array Nat)   (row i = β_i, column = dart)
  unused_darts: Vec<TVar<bool>>          u : Array Bool
  vertices: AttrSparseVec<VertexN<T>>    a[0] : Array (Option X)       (storage 0)
  attributes: AttrStorageManager         a[1..] : Array (Option X)     (one per attribute kind)
  n_darts                                n
-/
import Honeycomb.Model.Basic
import Honeycomb.Model.Stm

namespace HC

/-- error values: the variant name of the Rust error enum and its dart payload -/
structure Err where
  tag : String
  args : List Nat := []
  deriving Repr, DecidableEq, Inhabited

structure Map (X : Type) where
  n : Nat
  b : Array (Array Nat)
  u : Array Bool
  a : Array (Array (Option X))
  /-- fault countdown of the *test attribute types* (thread-local in the harness, not a TVar):
      0 = disabled, k+1 = the (k+1)-th attribute-law call from now fails.  Only the C06 fault
      campaign sets it. -/
  fc : Nat := 0
  deriving Repr

inductive MVar where
  | b (i d : Nat)
  | u (d : Nat)
  | a (s d : Nat)
  | fc
  deriving DecidableEq, Repr

inductive MVal (X : Type) where
  | n (x : Nat)
  | f (x : Bool)
  | o (x : Option X)
  deriving Repr

namespace MVal
variable {X : Type}
def nat : MVal X → Nat | .n x => x | _ => 0
def bool : MVal X → Bool | .f x => x | _ => false
def opt : MVal X → Option X | .o x => x | _ => none
end MVal

namespace Map
variable {X : Type}

def β (m : Map X) (i d : Nat) : Nat := rd (rd m.b i) d
def setβ (m : Map X) (i d v : Nat) : Map X := { m with b := wr m.b i (wr (rd m.b i) d v) }
def okβ (m : Map X) (i d : Nat) : Bool := i < m.b.size && d < (rd m.b i).size

def unused (m : Map X) (d : Nat) : Bool := rd m.u d
def setU (m : Map X) (d : Nat) (v : Bool) : Map X := { m with u := wr m.u d v }
def okU (m : Map X) (d : Nat) : Bool := d < m.u.size

def att (m : Map X) (s d : Nat) : Option X := rd (rd m.a s) d
def setA (m : Map X) (s d : Nat) (v : Option X) : Map X :=
  { m with a := wr m.a s (wr (rd m.a s) d v) }
def okA (m : Map X) (s d : Nat) : Bool := s < m.a.size && d < (rd m.a s).size

/-! lens laws -/

theorem β_setβ (m : Map X) (i d v j e : Nat) :
    (m.setβ i d v).β j e = if i = j ∧ d = e ∧ m.okβ i d then v else m.β j e := by
  unfold β setβ okβ
  simp only [rd_wr]
  by_cases h1 : i = j
  · subst h1
    by_cases h2 : i < m.b.size
    · simp only [h2, and_self, if_true, rd_wr]
      by_cases h3 : d = e <;> simp [h3]
    · simp [h2]
  · simp [h1]

theorem okβ_setβ (m : Map X) (i d v j e : Nat) : (m.setβ i d v).okβ j e = m.okβ j e := by
  unfold setβ okβ
  simp only [size_wr, rd_wr]
  by_cases h1 : i = j ∧ i < m.b.size
  · obtain ⟨h1, h2⟩ := h1
    subst h1
    simp [h2, size_wr]
  · simp [h1]

theorem unused_setβ (m : Map X) (i d v e : Nat) : (m.setβ i d v).unused e = m.unused e := rfl
theorem okU_setβ (m : Map X) (i d v e : Nat) : (m.setβ i d v).okU e = m.okU e := rfl
theorem att_setβ (m : Map X) (i d v s e : Nat) : (m.setβ i d v).att s e = m.att s e := rfl
theorem okA_setβ (m : Map X) (i d v s e : Nat) : (m.setβ i d v).okA s e = m.okA s e := rfl
theorem n_setβ (m : Map X) (i d v : Nat) : (m.setβ i d v).n = m.n := rfl

theorem unused_setU (m : Map X) (d e : Nat) (v : Bool) :
    (m.setU d v).unused e = if d = e ∧ m.okU d then v else m.unused e := by
  unfold unused setU okU; simp [rd_wr]

theorem okU_setU (m : Map X) (d e : Nat) (v : Bool) : (m.setU d v).okU e = m.okU e := by
  unfold setU okU; simp [size_wr]

theorem β_setU (m : Map X) (d : Nat) (v : Bool) (j e : Nat) : (m.setU d v).β j e = m.β j e := rfl
theorem okβ_setU (m : Map X) (d : Nat) (v : Bool) (j e : Nat) : (m.setU d v).okβ j e = m.okβ j e := rfl
theorem att_setU (m : Map X) (d : Nat) (v : Bool) (s e : Nat) : (m.setU d v).att s e = m.att s e := rfl
theorem okA_setU (m : Map X) (d : Nat) (v : Bool) (s e : Nat) : (m.setU d v).okA s e = m.okA s e := rfl
theorem n_setU (m : Map X) (d : Nat) (v : Bool) : (m.setU d v).n = m.n := rfl

theorem att_setA (m : Map X) (s d : Nat) (v : Option X) (t e : Nat) :
    (m.setA s d v).att t e = if s = t ∧ d = e ∧ m.okA s d then v else m.att t e := by
  unfold att setA okA
  simp only [rd_wr]
  by_cases h1 : s = t
  · subst h1
    by_cases h2 : s < m.a.size
    · simp only [h2, and_self, if_true, rd_wr]
      by_cases h3 : d = e <;> simp [h3]
    · simp [h2]
  · simp [h1]

theorem okA_setA (m : Map X) (s d : Nat) (v : Option X) (t e : Nat) :
    (m.setA s d v).okA t e = m.okA t e := by
  unfold setA okA
  simp only [size_wr, rd_wr]
  by_cases h1 : s = t ∧ s < m.a.size
  · obtain ⟨h1, h2⟩ := h1
    subst h1
    simp [h2, size_wr]
  · simp [h1]

theorem β_setA (m : Map X) (s d : Nat) (v : Option X) (j e : Nat) : (m.setA s d v).β j e = m.β j e := rfl
theorem okβ_setA (m : Map X) (s d : Nat) (v : Option X) (j e : Nat) : (m.setA s d v).okβ j e = m.okβ j e := rfl
theorem unused_setA (m : Map X) (s d : Nat) (v : Option X) (e : Nat) : (m.setA s d v).unused e = m.unused e := rfl
theorem okU_setA (m : Map X) (s d : Nat) (v : Option X) (e : Nat) : (m.setA s d v).okU e = m.okU e := rfl
theorem n_setA (m : Map X) (s d : Nat) (v : Option X) : (m.setA s d v).n = m.n := rfl
/-- stated for the unfolded record: `rfl` at `(m.setA s d v).fc = m.fc` first compares the two maps -/
theorem fc_setA (m : Map X) (s d : Nat) (v : Option X) : (m.setA s d v).fc = m.fc := by
  unfold setA; rfl

end Map

instance {X : Type} : Store (Map X) MVar (MVal X) where
  sget m v := match v with
    | .b i d => .n (m.β i d)
    | .u d => .f (m.unused d)
    | .a s d => .o (m.att s d)
    | .fc => .n m.fc
  sset m v x := match v, x with
    | .b i d, .n y => m.setβ i d y
    | .u d, .f y => m.setU d y
    | .a s d, .o y => m.setA s d y
    | .fc, .n y => { m with fc := y }
    | _, _ => m
  svalid m v := match v with
    | .b i d => m.okβ i d
    | .u d => m.okU d
    | .a s d => m.okA s d
    | .fc => true
  styped _ v x := match v, x with
    | .b _ _, .n _ => true
    | .u _, .f _ => true
    | .a _ _, .o _ => true
    | .fc, .n _ => true
    | _, _ => false

/-- transactional closures over a map -/
abbrev P (X α : Type) := Prog MVar (MVal X) Err α

section Prim
variable {X α : Type}

/-- `self.betas[(i, d)].read(trans)?` -/
def rB (i d : Nat) : P X Nat := .read (.b i d) (fun x => .ret x.nat)
/-- `self.betas[(i, d)].write(trans, v)?` -/
def wB (i d v : Nat) : P X Unit := .write (.b i d) (.n v) (.ret ())
def rU (d : Nat) : P X Bool := .read (.u d) (fun x => .ret x.bool)
def wU (d : Nat) (v : Bool) : P X Unit := .write (.u d) (.f v) (.ret ())
def rA (s d : Nat) : P X (Option X) := .read (.a s d) (fun x => .ret x.opt)
def wA (s d : Nat) (v : Option X) : P X Unit := .write (.a s d) (.o v) (.ret ())
def rF : P X Nat := .read .fc (fun x => .ret x.nat)
def wF (v : Nat) : P X Unit := .write .fc (.n v) (.ret ())
def abort (e : Err) : P X α := .abort e

open Store

@[simp] theorem run_ret (a : α) (m : Map X) : run (Prog.ret a : P X α) m = (.ok a, m) := rfl
@[simp] theorem run_abort (e : Err) (m : Map X) : run (abort e : P X α) m = (.err e, m) := rfl
@[simp] theorem run_abort' (e : Err) (m : Map X) : run (Prog.abort e : P X α) m = (.err e, m) := rfl
@[simp] theorem run_panic (m : Map X) : run (Prog.panic : P X α) m = (.panic, m) := rfl
@[simp] theorem run_retry (m : Map X) : run (Prog.retry : P X α) m = (.retry, m) := rfl

@[simp] theorem run_rB (i d : Nat) (k : Nat → P X α) (m : Map X) :
    run ((rB i d).bind k) m = if m.okβ i d then run (k (m.β i d)) m else (.panic, m) := by
  simp [rB, run, svalid, sget, MVal.nat]

@[simp] theorem run_wB (i d v : Nat) (k : Unit → P X α) (m : Map X) :
    run ((wB i d v).bind k) m = if m.okβ i d then run (k ()) (m.setβ i d v) else (.panic, m) := by
  simp [wB, run, svalid, sset, styped]

@[simp] theorem run_rU (d : Nat) (k : Bool → P X α) (m : Map X) :
    run ((rU d).bind k) m = if m.okU d then run (k (m.unused d)) m else (.panic, m) := by
  simp [rU, run, svalid, sget, MVal.bool]

@[simp] theorem run_wU (d : Nat) (v : Bool) (k : Unit → P X α) (m : Map X) :
    run ((wU d v).bind k) m = if m.okU d then run (k ()) (m.setU d v) else (.panic, m) := by
  simp [wU, run, svalid, sset, styped]

@[simp] theorem run_rA (s d : Nat) (k : Option X → P X α) (m : Map X) :
    run ((rA s d).bind k) m = if m.okA s d then run (k (m.att s d)) m else (.panic, m) := by
  simp [rA, run, svalid, sget, MVal.opt]

@[simp] theorem run_wA (s d : Nat) (v : Option X) (k : Unit → P X α) (m : Map X) :
    run ((wA s d v).bind k) m = if m.okA s d then run (k ()) (m.setA s d v) else (.panic, m) := by
  simp [wA, run, svalid, sset, styped]

@[simp] theorem run_rF (k : Nat → P X α) (m : Map X) :
    run ((rF).bind k) m = run (k m.fc) m := by
  simp [rF, run, svalid, sget, MVal.nat]

@[simp] theorem run_wF (v : Nat) (k : Unit → P X α) (m : Map X) :
    run ((wF v).bind k) m = run (k ()) { m with fc := v } := by
  simp [wF, run, svalid, sset, styped]

@[simp] theorem run_rB' (i d : Nat) (m : Map X) :
    run (rB i d : P X Nat) m = if m.okβ i d then (.ok (m.β i d), m) else (.panic, m) := by
  simp [rB, run, svalid, sget, MVal.nat]

@[simp] theorem run_wB' (i d v : Nat) (m : Map X) :
    run (wB i d v : P X Unit) m = if m.okβ i d then (.ok (), m.setβ i d v) else (.panic, m) := by
  simp [wB, run, svalid, sset, styped]

@[simp] theorem run_rU' (d : Nat) (m : Map X) :
    run (rU d : P X Bool) m = if m.okU d then (.ok (m.unused d), m) else (.panic, m) := by
  simp [rU, run, svalid, sget, MVal.bool]

@[simp] theorem run_wU' (d : Nat) (v : Bool) (m : Map X) :
    run (wU d v : P X Unit) m = if m.okU d then (.ok (), m.setU d v) else (.panic, m) := by
  simp [wU, run, svalid, sset, styped]

@[simp] theorem run_rA' (s d : Nat) (m : Map X) :
    run (rA s d : P X (Option X)) m = if m.okA s d then (.ok (m.att s d), m) else (.panic, m) := by
  simp [rA, run, svalid, sget, MVal.opt]

@[simp] theorem run_wA' (s d : Nat) (v : Option X) (m : Map X) :
    run (wA s d v : P X Unit) m = if m.okA s d then (.ok (), m.setA s d v) else (.panic, m) := by
  simp [wA, run, svalid, sset, styped]

end Prim

end HC

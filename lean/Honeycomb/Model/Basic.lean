/-
  Basic array calculus used by every model file.

  All accesses to the flat vectors of the Rust code (`Vec<TVar<_>>`) go through
  `rd` / `wr`.  They are total; the *model semantics* (`Stm.lean`) checks the
  index range separately and yields `panic` exactly where Rust's `Index` impl
  would panic.
-/

namespace HC

/-- read with a default (the default is never observed: the semantics guards the range) -/
def rd {α : Type} [Inhabited α] (a : Array α) (i : Nat) : α := a.getD i default

/-- in-bounds write (no-op out of bounds; the semantics panics before) -/
def wr {α : Type} (a : Array α) (i : Nat) (v : α) : Array α := a.setIfInBounds i v

theorem size_wr {α : Type} (a : Array α) (i : Nat) (v : α) : (wr a i v).size = a.size := by
  simp [wr]

theorem rd_wr {α : Type} [Inhabited α] (a : Array α) (i j : Nat) (v : α) :
    rd (wr a i v) j = if i = j ∧ i < a.size then v else rd a j := by
  unfold rd wr
  rw [Array.getD_eq_getD_getElem?, Array.getD_eq_getD_getElem?, Array.getElem?_setIfInBounds]
  by_cases h : i = j
  · subst h
    by_cases h2 : i < a.size
    · simp [h2]
    · simp [h2]
  · simp [h]

theorem rd_wr_same {α : Type} [Inhabited α] (a : Array α) (i : Nat) (v : α) (h : i < a.size) :
    rd (wr a i v) i = v := by simp [rd_wr, h]

theorem rd_wr_ne {α : Type} [Inhabited α] (a : Array α) (i j : Nat) (v : α) (h : i ≠ j) :
    rd (wr a i v) j = rd a j := by simp [rd_wr, h]

theorem rd_oob {α : Type} [Inhabited α] (a : Array α) (i : Nat) (h : a.size ≤ i) :
    rd a i = default := by
  unfold rd; rw [Array.getD_eq_getD_getElem?]
  have : a[i]? = none := by simp; omega
  simp [this]

theorem wr_oob {α : Type} (a : Array α) (i : Nat) (v : α) (h : a.size ≤ i) : wr a i v = a := by
  unfold wr
  apply Array.ext
  · simp
  · intro j h1 h2
    rw [Array.getElem_setIfInBounds h2]
    have : i ≠ j := by omega
    simp [this]

theorem getD_mem {α : Type} {l : List α} {d : α} {j : Nat} (h : j < l.length) : l.getD j d ∈ l := by
  rw [List.getD_eq_getElem?_getD, List.getElem?_eq_getElem h]
  exact List.getElem_mem h

theorem rd_replicate {α : Type} [Inhabited α] (n : Nat) (x : α) (i : Nat) (h : i < n) :
    rd (Array.replicate n x) i = x := by
  unfold rd
  simp [Array.getD_eq_getD_getElem?, h]

theorem rd_push_lt {α : Type} [Inhabited α] (a : Array α) (x : α) (i : Nat) (h : i < a.size) :
    rd (a.push x) i = rd a i := by
  unfold rd
  have : i ≠ a.size := by omega
  simp [Array.getD_eq_getD_getElem?, Array.getElem?_push, this]

theorem rd_push_eq {α : Type} [Inhabited α] (a : Array α) (x : α) :
    rd (a.push x) a.size = x := by
  unfold rd; simp [Array.getD_eq_getD_getElem?]

/-- extend an array with `k` copies of `x` (Rust: `Vec::extend((0..k).map(|_| new))`) -/
def ext {α : Type} (a : Array α) (k : Nat) (x : α) : Array α := a ++ Array.replicate k x

theorem size_ext {α : Type} (a : Array α) (k : Nat) (x : α) : (ext a k x).size = a.size + k := by
  simp [ext]

theorem rd_ext_lt {α : Type} [Inhabited α] (a : Array α) (k : Nat) (x : α) (i : Nat)
    (h : i < a.size) : rd (ext a k x) i = rd a i := by
  unfold rd ext
  simp [Array.getD_eq_getD_getElem?, Array.getElem?_append, h]

theorem rd_ext_ge {α : Type} [Inhabited α] (a : Array α) (k : Nat) (x : α) (i : Nat)
    (h1 : a.size ≤ i) (h2 : i < a.size + k) : rd (ext a k x) i = x := by
  unfold rd ext
  have h3 : ¬ i < a.size := by omega
  have h4 : i - a.size < k := by omega
  simp [Array.getD_eq_getD_getElem?, Array.getElem?_append, h3, h4]

end HC

/-
  L1 — `CMap3`: links (dim3/links/{one,two,three}.rs), sews (dim3/sews/{one,two,three}.rs),
  cell identifiers and iterators (dim3/basic_ops.rs), orbits (dim3/orbits.rs).

  Every definition mirrors one Rust function, with the same reads in the same order.  The model
  describes what the code *does*.

  Loops of the Rust code are structural recursions on an explicit fuel; running out of fuel is
  `panic` (unreachable: see the comment at each loop).
-/
import Honeycomb.Model.Ops
import Honeycomb.Model.Ops2

namespace HC
variable {X : Type}

/-! ## orbits (`dim3/orbits.rs`) -/

/-- images examined for dart `d` under a 3-D policy, as in `CMap3::orbit_transac`
    (the non-transactional `orbit` computes the same images from the same cells) -/
def gen3 : Policy → Nat → P X (List Nat)
  | .vertex, d => do
      let b0 ← rB 0 d
      let b2 ← rB 2 d
      let b3 ← rB 3 d
      let i1 ← rB 3 b2
      let i2 ← rB 1 b3
      let i3 ← rB 1 b2
      let i4 ← rB 3 b0
      let i5 ← rB 2 b0
      -- inverse of `β3∘β2` (/repo e8bc83e, repair of D13): not derivable around an open face
      let i6 ← rB 2 b3
      pure [i1, i2, i3, i4, i5, i6]
  | .vertexLinear, d => do
      let b2 ← rB 2 d
      let b3 ← rB 3 d
      let i1 ← rB 3 b2
      let i2 ← rB 1 b3
      let i3 ← rB 1 b2
      pure [i1, i2, i3]
  | .edge, d => do
      let i1 ← rB 2 d
      let i2 ← rB 3 d
      pure [i1, i2]
  | .face, d => do
      let i1 ← rB 1 d
      let i2 ← rB 0 d
      let i3 ← rB 3 d
      pure [i1, i2, i3]
  | .faceLinear, d => do
      let i1 ← rB 1 d
      let i2 ← rB 3 d
      pure [i1, i2]
  | .volume, d => do
      let i1 ← rB 1 d
      let i2 ← rB 0 d
      let i3 ← rB 2 d
      pure [i1, i2, i3]
  | .volumeLinear, d => do
      let i1 ← rB 1 d
      let i2 ← rB 2 d
      pure [i1, i2]
  | .custom bs, d => do
      let rec go : List Nat → List Nat → P X (List Nat)
        | [], acc => pure acc
        | i :: is, acc => do
            -- `beta_rt_transac`: `assert!(i < 4)`
            if i < 4 then
              let im ← rB i d
              go is (acc ++ [im])
            else Prog.panic
      go bs []

/-- `orbit_transac` / `orbit` (3-D), collected.  Same BFS shape as the 2-D code: the marked set is
    seeded with the null dart and the start, images are marked when pushed. -/
def orbit3 (n : Nat) (pol : Policy) (d : Nat) : P X (List Nat) := orbitWith n (gen3 pol) d

/-! ## cell identifiers (`dim3/basic_ops.rs`) -/

/-- the traversal of `vertex_id_transac` / `edge_id_transac` / `volume_id_transac`: darts are
    marked when *popped* (the marked set is seeded with the null dart only), every image is pushed
    unconditionally, `min` is updated on every newly marked dart.

    Fuel: a dart is expanded at most once and every expansion pushes at most 6 images, so there
    are at most `1 + 6 * (n - 1)` pops; callers pass `8 * n + 8`. -/
def popLoop (gen : Nat → P X (List Nat)) : Nat → List Nat → List Nat → Nat → P X Nat
  | 0, _, _, _ => Prog.panic
  | _ + 1, [], _, mn => pure mn
  | f + 1, d :: rest, marked, mn =>
      if marked.contains d then popLoop gen f rest marked mn
      else do
        let ims ← gen d
        popLoop gen f (rest ++ ims) (marked ++ [d]) (min mn d)

/-- images pushed by `vertex_id_transac`, in push order:
    `β1∘β3, β3∘β2, β1∘β2, β3∘β0, β2∘β0, β2∘β3` (reads: `β0 d, β2 d, β3 d` first; the sixth image —
    the inverse of `β3∘β2`, /repo e8bc83e, repair of D13 — reuses the `β3 d` already read) -/
def genVid3 (d : Nat) : P X (List Nat) := do
  let b0 ← rB 0 d
  let b2 ← rB 2 d
  let b3 ← rB 3 d
  let i1 ← rB 1 b3
  let i2 ← rB 3 b2
  let i3 ← rB 1 b2
  let i4 ← rB 3 b0
  let i5 ← rB 2 b0
  let i6 ← rB 2 b3
  pure [i1, i2, i3, i4, i5, i6]

/-- `vertex_id_transac` (3-D).  `vertexId3 n 0 = 0` without any read. -/
def vertexId3 (n d : Nat) : P X Nat := popLoop genVid3 (8 * n + 8) [d] [0] d

/-- `edge_id_transac` (3-D): BFS over `β2, β3` -/
def edgeId3 (n d : Nat) : P X Nat :=
  popLoop (fun e => do
    let i1 ← rB 2 e
    let i2 ← rB 3 e
    pure [i1, i2]) (8 * n + 8) [d] [0] d

/-- `volume_id_transac`: BFS over `β1, β0, β2` -/
def volumeId3 (n d : Nat) : P X Nat :=
  popLoop (fun e => do
    let i1 ← rB 1 e
    let i2 ← rB 0 e
    let i3 ← rB 2 e
    pure [i1, i2, i3]) (8 * n + 8) [d] [0] d

/-- the `while marked.insert(lb) || marked.insert(rb)` loop of `face_id_transac`; `i`/`j` are the
    β used on the left / right side (`1, 0` forward, `0, 1` backward).  Note the short-circuit:
    when `lb` is newly inserted, `rb` is *not* inserted in that round.

    Fuel: every executed round inserts a new dart that is then read (hence `< n`), so there are
    at most `n - 1` rounds; callers pass `n + 1`. -/
def faceWalk3 (i j : Nat) : Nat → Nat → Nat → List Nat → Nat → P X (Nat × Nat × List Nat × Nat)
  | 0, _, _, _, _ => Prog.panic
  | f + 1, lb, rb, marked, mn =>
      let go (marked' : List Nat) : P X (Nat × Nat × List Nat × Nat) := do
        let lb' ← rB i lb
        let rb' ← rB j rb
        let mn1 := if lb' ≠ 0 then min mn lb' else mn
        let mn2 := if rb' ≠ 0 then min mn1 rb' else mn1
        faceWalk3 i j f lb' rb' marked' mn2
      if !marked.contains lb then go (marked ++ [lb])
      else if !marked.contains rb then go (marked ++ [rb])
      else pure (lb, rb, marked, mn)

/-- `face_id_transac` (3-D): two-sided lock-step walk (`β1` on the dart's side, `β0` on the
    `β3` side), then the other direction when either side ended on the null dart (this includes
    every 3-free dart, since then `rb = 0` throughout). -/
def faceId3 (n d : Nat) : P X Nat := do
  let b3 ← rB 3 d
  let mn0 := if b3 = 0 then d else min d b3
  let (lb, rb, marked, mn) ← faceWalk3 1 0 (n + 1) d b3 [0] mn0
  if lb = 0 ∨ rb = 0 then do
    let lb' ← rB 0 d
    let rb' ← rB 1 b3
    let mn1 := if lb' ≠ 0 then min mn lb' else mn
    let mn2 := if rb' ≠ 0 then min mn1 rb' else mn1
    let (_, _, _, mn') ← faceWalk3 0 1 (n + 1) lb' rb' marked mn2
    pure mn'
  else pure mn

/-! ## links (`dim3/links`) -/

/-- `one_link` (3-D): also 1-links the β3 images, in the opposite direction -/
def oneLink3 (l r : Nat) : P X Unit := do
  oneLinkCore l r
  let b3l ← rB 3 l
  let b3r ← rB 3 r
  if b3l ≠ 0 ∧ b3r ≠ 0 then oneLinkCore b3r b3l else pure ()

/-- `one_unlink` (3-D) -/
def oneUnlink3 (l : Nat) : P X Unit := do
  let r ← rB 1 l
  oneUnlinkCore l
  let b3l ← rB 3 l
  let b3r ← rB 3 r
  if b3l ≠ 0 ∧ b3r ≠ 0 then do
    let x ← rB 1 b3r
    if x ≠ b3l then abort (errAsym l r) else
    oneUnlinkCore b3r
  else pure ()

/-- one direction of the lock-step walk of `three_link`: `while lside != stop && lside != 0`
    (`stop = ld` forward, `stop = 0` backward); `i`/`j` = β followed on the left / right.
    Returns the final `(lside, rside)`.

    Fuel: every round 3-links a dart `lside` that was 3-free (`three_link_core` fails otherwise),
    so a dart is visited at most once: at most `n - 1` rounds; callers pass `n + 1`. -/
def threeLinkWalk (ld rd stop i j : Nat) : Nat → Nat → Nat → P X (Nat × Nat)
  | 0, _, _ => Prog.panic
  | f + 1, ls, rs =>
      if ls ≠ stop ∧ ls ≠ 0 then do
        if rs = 0 then abort (errAsym ld rd) else
        iLinkCore 3 ls rs
        let ls' ← rB i ls
        let rs' ← rB j rs
        threeLinkWalk ld rd stop i j f ls' rs'
      else pure (ls, rs)

/-- `three_link` (after the repair of D1/D1b in /repo): when the left walk closes
    (`lside == ld`) the right walk must close at the same step (`rside == rd`); when the left
    backward walk of an open face ends, the right one must have ended too. -/
def threeLink3 (n ld rd : Nat) : P X Unit := do
  iLinkCore 3 ld rd
  let ls0 ← rB 1 ld
  let rs0 ← rB 0 rd
  let (ls, rs) ← threeLinkWalk ld rd ld 1 0 (n + 1) ls0 rs0
  if ls = 0 then do
    if rs ≠ 0 then abort (errAsym ld rd) else
    let ls1 ← rB 0 ld
    let rs1 ← rB 1 rd
    let (_, rs2) ← threeLinkWalk ld rd 0 0 1 (n + 1) ls1 rs1
    if rs2 ≠ 0 then abort (errAsym ld rd) else
    pure ()
  else if rs ≠ rd then abort (errAsym ld rd)
  else pure ()

/-- one direction of the walk of `three_unlink`.  `again` = the backward loop re-reads
    `β3 rside` for its `assert_eq!` (never fails: same transaction).  Fuel as `threeLinkWalk`
    (`three_unlink_core` fails on a dart that is already 3-free). -/
def threeUnlinkWalk (ld rd stop i j : Nat) (again : Bool) : Nat → Nat → Nat → P X (Nat × Nat)
  | 0, _, _ => Prog.panic
  | f + 1, ls, rs =>
      if ls ≠ stop ∧ ls ≠ 0 then do
        let x ← rB 3 rs
        if ls ≠ x then abort (errAsym ld rd) else
        let y ← if again then rB 3 rs else pure ls
        if ls ≠ y then Prog.panic else
        iUnlinkCore 3 ls
        let ls' ← rB i ls
        let rs' ← rB j rs
        threeUnlinkWalk ld rd stop i j again f ls' rs'
      else pure (ls, rs)

/-- `three_unlink` -/
def threeUnlink3 (n ld : Nat) : P X Unit := do
  let rd ← rB 3 ld
  iUnlinkCore 3 ld
  let ls0 ← rB 1 ld
  let rs0 ← rB 0 rd
  let (ls, rs) ← threeUnlinkWalk ld rd ld 1 0 false (n + 1) ls0 rs0
  if ls = 0 then do
    if rs ≠ 0 then abort (errAsym ld rd) else
    let ls1 ← rB 0 ld
    let rs1 ← rB 1 rd
    let _ ← threeUnlinkWalk ld rd 0 0 1 true (n + 1) ls1 rs1
    pure ()
  else pure ()

/-! ## sews (`dim3/sews`) -/

/-- `one_sew` (3-D).  The new vertex id is `min` of the two old ids (not recomputed). -/
def oneSew3 (cfg : Cfg X) (n l r : Nat) : P X Unit := do
  let b3l ← rB 3 l
  let b2l ← rB 2 l
  let vl ← if b3l ≠ 0 then vertexId3 n b3l
           else if b2l ≠ 0 then vertexId3 n b2l
           else pure 0
  let vr ← vertexId3 n r
  oneLink3 l r
  if vl ≠ 0 then do
    let nv := min vr vl
    mergeS cfg 0 nv vl vr
    mergeAttrs cfg 0 nv vl vr
  else pure ()

/-- `one_unsew` (3-D) -/
def oneUnsew3 (cfg : Cfg X) (n l : Nat) : P X Unit := do
  let r ← rB 1 l
  let vold ← vertexId3 n r
  oneUnlink3 l
  let b2l ← rB 2 l
  let b3l ← rB 3 l
  if b2l = 0 ∧ b3l = 0 then pure () else
  let vl ← vertexId3 n (if b2l ≠ 0 then b2l else b3l)
  let vr ← vertexId3 n r
  if vl ≠ vr then do
    splitS cfg 0 vl vr vold
    splitAttrs cfg 0 vl vr vold
  else pure ()

/-- `two_sew` (3-D) -/
def twoSew3 (cfg : Cfg X) (n l r : Nat) : P X Unit := do
  let b1l ← rB 1 l
  let b1r ← rB 1 r
  if b1l = 0 ∧ b1r = 0 then do
    let el ← edgeId3 n l
    let er ← edgeId3 n r
    iLinkCore 2 l r
    let en ← edgeId3 n l
    mergeAttrs cfg 1 en el er
  else if b1l = 0 then do
    let el ← edgeId3 n l
    let er ← edgeId3 n r
    let lv ← vertexId3 n l
    let b1rv ← vertexId3 n b1r
    iLinkCore 2 l r
    let lvn ← vertexId3 n l
    let en ← edgeId3 n l
    mergeS cfg 0 lvn lv b1rv
    mergeAttrs cfg 0 lvn lv b1rv
    mergeAttrs cfg 1 en el er
  else if b1r = 0 then do
    let el ← edgeId3 n l
    let er ← edgeId3 n r
    let b1lv ← vertexId3 n b1l
    let rv ← vertexId3 n r
    iLinkCore 2 l r
    let rvn ← vertexId3 n r
    let en ← edgeId3 n l
    mergeS cfg 0 rvn b1lv rv
    mergeAttrs cfg 0 rvn b1lv rv
    mergeAttrs cfg 1 en el er
  else do
    let el ← edgeId3 n l
    let er ← edgeId3 n r
    let lv ← vertexId3 n l
    let b1rv ← vertexId3 n b1r
    let b1lv ← vertexId3 n b1l
    let rv ← vertexId3 n r
    let pl ← rA 0 lv
    let pb1r ← rA 0 b1rv
    let pb1l ← rA 0 b1lv
    let pr ← rA 0 rv
    let bad := match pl, pb1r, pb1l, pr with
      | some a, some b, some c, some d => cfg.badOrient a b c d
      | _, _, _, _ => false
    if bad then abort (errBadGeometry 2 l r) else
    iLinkCore 2 l r
    let lvn ← vertexId3 n l
    let rvn ← vertexId3 n r
    let en ← edgeId3 n l
    mergeS cfg 0 lvn lv b1rv
    mergeS cfg 0 rvn b1lv rv
    mergeAttrs cfg 0 lvn lv b1rv
    mergeAttrs cfg 0 rvn b1lv rv
    mergeAttrs cfg 1 en el er

/-- `two_unsew` (3-D) -/
def twoUnsew3 (cfg : Cfg X) (n l : Nat) : P X Unit := do
  let r ← rB 2 l
  let b1l ← rB 1 l
  let b1r ← rB 1 r
  if b1l = 0 ∧ b1r = 0 then do
    let eold ← edgeId3 n l
    iUnlinkCore 2 l
    let enl ← edgeId3 n l
    let enr ← edgeId3 n r
    splitAttrs cfg 1 enl enr eold
  else if b1l = 0 then do
    let eold ← edgeId3 n l
    let lvold ← vertexId3 n l
    iUnlinkCore 2 l
    let enl ← edgeId3 n l
    let enr ← edgeId3 n r
    splitAttrs cfg 1 enl enr eold
    let a ← vertexId3 n l
    let b ← vertexId3 n b1r
    splitS cfg 0 a b lvold
    splitAttrs cfg 0 a b lvold
  else if b1r = 0 then do
    let eold ← edgeId3 n l
    let rvold ← vertexId3 n r
    iUnlinkCore 2 l
    let enl ← edgeId3 n l
    let enr ← edgeId3 n r
    splitAttrs cfg 1 enl enr eold
    let a ← vertexId3 n b1l
    let b ← vertexId3 n r
    splitS cfg 0 a b rvold
    splitAttrs cfg 0 a b rvold
  else do
    let eold ← edgeId3 n l
    let lvold ← vertexId3 n l
    let rvold ← vertexId3 n r
    iUnlinkCore 2 l
    let enl ← edgeId3 n l
    let enr ← edgeId3 n r
    splitAttrs cfg 1 enl enr eold
    let a ← vertexId3 n l
    let b ← vertexId3 n b1r
    let c ← vertexId3 n b1l
    let d ← vertexId3 n r
    splitS cfg 0 a b lvold
    splitS cfg 0 c d rvold
    splitAttrs cfg 0 a b lvold
    splitAttrs cfg 0 c d rvold

/-- the two face walks used by `three_sew` / `three_unsew`:
    `self.orbit_transac(trans, Custom(&[1, 0]), ld)` and
    `self.orbit_transac(trans, Custom(&[0, 1]), rd)`, each collected into a `Vec` up front
    (first the left walk, then the right one), before any identifier is read.

    (Since /repo commit "fix: three_sew and three_unsew walk the two faces through the
    transaction" — DESIGN.md §8-D4 — both walks read the transaction's view, as this model always
    did; before it the code used the non-transactional `orbit`, which only agreed with the model
    when the enclosing transaction had not written β0/β1 before the call.) -/
def faceOrbits3 (n ld rd : Nat) : P X (List Nat × List Nat) := do
  let lo ← orbitWith n (gen3 (.custom [1, 0])) ld
  let ro ← orbitWith n (gen3 (.custom [0, 1])) rd
  pure (lo, ro)

/-- the collecting loop of `three_sew` over the zipped face walks -/
def threeSewCollect (n : Nat) :
    List (Nat × Nat) → List (Nat × Nat) → List (Nat × Nat) → P X (List (Nat × Nat) × List (Nat × Nat))
  | [], es, vs => pure (es, vs)
  | (l, r) :: rest, es, vs => do
      let el ← edgeId3 n l
      let er ← edgeId3 n r
      let b1l ← rB 1 l
      let b2l ← rB 2 l
      let v1 ← vertexId3 n (if b1l = 0 then b2l else b1l)
      let v2 ← vertexId3 n r
      let b0l ← rB 0 l
      if b0l = 0 then do
        let b1r ← rB 1 r
        let b2r ← rB 2 r
        let v3 ← vertexId3 n l
        let v4 ← vertexId3 n (if b1r = 0 then b2r else b1r)
        threeSewCollect n rest (es ++ [(el, er)]) (vs ++ [(v1, v2), (v3, v4)])
      else
        threeSewCollect n rest (es ++ [(el, er)]) (vs ++ [(v1, v2)])

/-- pairs kept by the `filter` of the merge loops -/
def keepPair (p : Nat × Nat) : Bool := p.1 ≠ p.2 ∧ p.1 ≠ 0 ∧ p.2 ≠ 0

/-- `three_sew` -/
def threeSew3 (cfg : Cfg X) (n ld rd : Nat) : P X Unit := do
  let (lo, ro) ← faceOrbits3 n ld rd
  let lface := listMin lo ld
  let rface := listMin ro rd
  let (edges, verts) ← threeSewCollect n (lo.zip ro) [] []
  -- orientation of the argument darts only
  let b1l ← rB 1 ld
  let b2l ← rB 2 ld
  let b1r ← rB 1 rd
  let b2r ← rB 2 rd
  let vl ← vertexId3 n ld
  let vr ← vertexId3 n rd
  let vb1l ← vertexId3 n (if b1l = 0 then b2l else b1l)
  let vb1r ← vertexId3 n (if b1r = 0 then b2r else b1r)
  let pl ← rA 0 vl
  let pb1r ← rA 0 vb1r
  let pb1l ← rA 0 vb1l
  let pr ← rA 0 vr
  let bad := match pl, pb1r, pb1l, pr with
    | some a, some b, some c, some d => cfg.badOrient a b c d
    | _, _, _, _ => false
  if bad then abort (errBadGeometry 3 ld rd) else
  threeLink3 n ld rd
  mergeAttrs cfg 2 (min lface rface) lface rface
  forM_ (edges.filter keepPair) (fun p => mergeAttrs cfg 1 (min p.1 p.2) p.1 p.2)
  forM_ (verts.filter keepPair) (fun p => do
    mergeS cfg 0 (min p.1 p.2) p.1 p.2
    mergeAttrs cfg 0 (min p.1 p.2) p.1 p.2)

/-- the splitting loop of `three_unsew` over the zipped face walks -/
def threeUnsewLoop (cfg : Cfg X) (n : Nat) : List (Nat × Nat) → P X Unit
  | [] => pure ()
  | (l, r) :: rest => do
      let el ← edgeId3 n l
      let er ← edgeId3 n r
      splitAttrs cfg 1 el er (min el er)
      let b1l ← rB 1 l
      let b2l ← rB 2 l
      let v1 ← vertexId3 n (if b1l = 0 then b2l else b1l)
      let v2 ← vertexId3 n r
      splitS cfg 0 v1 v2 (min v1 v2)
      splitAttrs cfg 0 v1 v2 (min v1 v2)
      let b0l ← rB 0 l
      if b0l = 0 then do
        let b1r ← rB 1 r
        let b2r ← rB 2 r
        let v3 ← vertexId3 n l
        let v4 ← vertexId3 n (if b1r = 0 then b2r else b1r)
        splitS cfg 0 v3 v4 (min v3 v4)
        splitAttrs cfg 0 v3 v4 (min v3 v4)
        threeUnsewLoop cfg n rest
      else threeUnsewLoop cfg n rest

/-- `three_unsew` -/
def threeUnsew3 (cfg : Cfg X) (n ld : Nat) : P X Unit := do
  let rd ← rB 3 ld
  threeUnlink3 n ld
  let (lo, ro) ← faceOrbits3 n ld rd
  let lface := listMin lo ld
  let rface := listMin ro rd
  splitAttrs cfg 2 lface rface (min lface rface)
  threeUnsewLoop cfg n (lo.zip ro)

/-! ## iterators (non-transactional: one `atomically` per id computation) -/

/-- like `iterCells`, but `none` when an id computation panics (out-of-range image on a malformed
    map: the Rust iterator panics as soon as it reaches that dart) -/
def iterCellsChk (m : Map X) (idf : Nat → P X Nat) : Option (List Nat) :=
  (List.range m.n).foldl (fun acc d =>
    match acc with
    | none => none
    | some l =>
      if d = 0 ∨ m.unused d then some l else
      match (run (idf d) m).1 with
      | .ok v => if v = d then some (l ++ [d]) else some l
      | _ => none) (some [])

def iterVertices3 (m : Map X) : List Nat := iterCells m (vertexId3 m.n)
def iterEdges3 (m : Map X) : List Nat := iterCells m (edgeId3 m.n)
def iterFaces3 (m : Map X) : List Nat := iterCells m (faceId3 m.n)
def iterVolumes3 (m : Map X) : List Nat := iterCells m (volumeId3 m.n)

end HC

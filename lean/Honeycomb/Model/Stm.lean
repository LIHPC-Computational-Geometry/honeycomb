/-
  L0 — the transaction discipline of `fast-stm` as used by honeycomb.

  * `Prog`     : the shape of every transactional closure (`Fn(&mut Transaction) -> …`):
                 a tree of `read` / `write` on transactional variables ending in
                 `ret`, `abort e` (user error), `retry` (`StmError::Retry`) or `panic`.
  * `run`      : direct (sequential, in-place) semantics on a store.
  * `execLog`  : the semantics of `Transaction::read/write` — reads consult the log first,
                 the first read of a variable is recorded, writes only go to the log.
  * `atomically` / `atomicallyLog` : `atomically_with_err` — publish on `ok`, drop on error.

  Import-free (core only) so that the driver can be compiled natively.
-/

namespace HC

/-- three-way outcome of a closure / call. `retry` = `StmError::Retry`, `panic` = Rust panic. -/
inductive Out (ε α : Type) where
  | ok (a : α)
  | err (e : ε)
  | retry
  | panic
  deriving Repr, DecidableEq

/-- abstract store interface: variables, values, range check and typing of values -/
class Store (S : Type) (Var Val : outParam Type) where
  sget : S → Var → Val
  sset : S → Var → Val → S
  /-- the variable exists (Rust: index in range) -/
  svalid : S → Var → Bool
  /-- the value has the type of the variable -/
  styped : S → Var → Val → Bool

open Store

class LawfulStore (S : Type) (Var Val : outParam Type) [DecidableEq Var] [Store S Var Val] : Prop where
  sget_sset : ∀ (s : S) (v w : Var) (x : Val), svalid s v = true → styped s v x = true →
      sget (sset s v x) w = if v = w then x else sget s w
  svalid_sset : ∀ (s : S) (v w : Var) (x : Val), svalid (sset s v x) w = svalid s w
  styped_sset : ∀ (s : S) (v w : Var) (x y : Val), styped (sset s v x) w y = styped s w y
  styped_sget : ∀ (s : S) (v : Var), svalid s v = true → styped s v (sget s v) = true

inductive Prog (Var Val ε α : Type) : Type where
  | ret (a : α)
  | read (v : Var) (k : Val → Prog Var Val ε α)
  | write (v : Var) (x : Val) (k : Prog Var Val ε α)
  | abort (e : ε)
  | retry
  | panic

namespace Prog

variable {Var Val ε α β : Type}

/-- the caller handles the refusal itself: an `abort e` of `p` becomes the value `.error e` and the transaction goes on
    (the writes `p` made before aborting stay in the log, exactly as in fast-stm when the closure swallows an
    `Err(TransactionError::Abort(e))` instead of propagating it with `?`) -/
def attempt : Prog Var Val ε α → Prog Var Val ε (Except ε α)
  | .ret a => .ret (.ok a)
  | .read v k => .read v (fun x => (k x).attempt)
  | .write v x k => .write v x k.attempt
  | .abort e => .ret (.error e)
  | .retry => .retry
  | .panic => .panic

def bind : Prog Var Val ε α → (α → Prog Var Val ε β) → Prog Var Val ε β
  | .ret a, f => f a
  | .read v k, f => .read v (fun x => (k x).bind f)
  | .write v x k, f => .write v x (k.bind f)
  | .abort e, _ => .abort e
  | .retry, _ => .retry
  | .panic, _ => .panic

instance : Monad (Prog Var Val ε) where
  pure := .ret
  bind := Prog.bind

@[simp] theorem pure_eq (a : α) : (pure a : Prog Var Val ε α) = .ret a := rfl
@[simp] theorem bind_eq (p : Prog Var Val ε α) (f : α → Prog Var Val ε β) : p >>= f = p.bind f := rfl
@[simp] theorem ret_bind (a : α) (f : α → Prog Var Val ε β) : (Prog.ret a).bind f = f a := rfl
@[simp] theorem read_bind (v : Var) (k : Val → Prog Var Val ε α) (f : α → Prog Var Val ε β) :
    (Prog.read v k).bind f = .read v (fun x => (k x).bind f) := rfl
@[simp] theorem write_bind (v : Var) (x : Val) (k : Prog Var Val ε α) (f : α → Prog Var Val ε β) :
    (Prog.write v x k).bind f = .write v x (k.bind f) := rfl
@[simp] theorem abort_bind (e : ε) (f : α → Prog Var Val ε β) :
    (Prog.abort e : Prog Var Val ε α).bind f = .abort e := rfl
@[simp] theorem retry_bind (f : α → Prog Var Val ε β) :
    (Prog.retry : Prog Var Val ε α).bind f = .retry := rfl
@[simp] theorem panic_bind (f : α → Prog Var Val ε β) :
    (Prog.panic : Prog Var Val ε α).bind f = .panic := rfl

theorem bind_assoc {γ : Type} (p : Prog Var Val ε α) (f : α → Prog Var Val ε β)
    (g : β → Prog Var Val ε γ) : (p.bind f).bind g = p.bind (fun a => (f a).bind g) := by
  induction p with
  | ret a => rfl
  | read v k ih => simp [bind, ih]
  | write v x k ih => simp [bind, ih]
  | abort e => rfl
  | retry => rfl
  | panic => rfl

theorem bind_ret (p : Prog Var Val ε α) : p.bind .ret = p := by
  induction p with
  | ret a => rfl
  | read v k ih => simp [bind, ih]
  | write v x k ih => simp [bind, ih]
  | abort e => rfl
  | retry => rfl
  | panic => rfl

theorem bind_unit (p : Prog Var Val ε Unit) : p.bind (fun _ => .ret ()) = p := bind_ret p

theorem ite_bind (c : Prop) [Decidable c] (p q : Prog Var Val ε α) (f : α → Prog Var Val ε β) :
    (if c then p else q).bind f = if c then p.bind f else q.bind f := by
  split <;> rfl

end Prog

section Sem
variable {S Var Val ε α β : Type} [DecidableEq Var] [Store S Var Val]

/-- direct semantics: reads and writes act on the store in place.  The store at the point of
    failure is returned too (it is *not* what `atomically` publishes). -/
def run : Prog Var Val ε α → S → Out ε α × S
  | .ret a, s => (.ok a, s)
  | .read v k, s => if svalid s v then run (k (sget s v)) s else (.panic, s)
  | .write v x k, s => if svalid s v && styped s v x then run k (sset s v x) else (.panic, s)
  | .abort e, s => (.err e, s)
  | .retry, s => (.retry, s)
  | .panic, s => (.panic, s)

/-- `atomically_with_err` in the absence of concurrency: publish iff the closure returns `Ok`. -/
def atomically (p : Prog Var Val ε α) (s : S) : Out ε α × S :=
  match run p s with
  | (.ok a, s') => (.ok a, s')
  | (o, _) => (o, s)

/-- the transaction log: variables read from the store (with the value first seen) and the
    writes, newest first.  `LogVar::{Read, Write, ReadWrite}` is the per-variable summary of
    this pair. -/
structure Log (Var Val : Type) where
  reads : List (Var × Val) := []
  writes : List (Var × Val) := []

def Log.lastWrite (ℓ : Log Var Val) (v : Var) : Option Val :=
  (ℓ.writes.find? (fun p => p.1 = v)).map (·.2)

def Log.firstRead (ℓ : Log Var Val) (v : Var) : Option Val :=
  (ℓ.reads.find? (fun p => p.1 = v)).map (·.2)

/-- `Transaction::read`: logged write wins, then logged read, else read the store and log it. -/
def Log.read (ℓ : Log Var Val) (s : S) (v : Var) : Val × Log Var Val :=
  match ℓ.lastWrite v with
  | some x => (x, ℓ)
  | none =>
    match ℓ.firstRead v with
    | some x => (x, ℓ)
    | none => (sget s v, { ℓ with reads := (v, sget s v) :: ℓ.reads })

def Log.write (ℓ : Log Var Val) (v : Var) (x : Val) : Log Var Val :=
  { ℓ with writes := (v, x) :: ℓ.writes }

/-- publish the writes, oldest first (what `commit` does once validation passed; the real commit
    writes each variable once with its last value, which is observationally the same) -/
def Log.apply (ℓ : Log Var Val) (s : S) : S :=
  ℓ.writes.foldr (fun p s => sset s p.1 p.2) s

/-- log semantics: the store is never written while the closure runs -/
def execLog : Prog Var Val ε α → S → Log Var Val → Out ε α × Log Var Val
  | .ret a, _, ℓ => (.ok a, ℓ)
  | .read v k, s, ℓ =>
      if svalid s v then
        let (x, ℓ') := ℓ.read s v
        execLog (k x) s ℓ'
      else (.panic, ℓ)
  | .write v x k, s, ℓ =>
      if svalid s v && styped s v x then execLog k s (ℓ.write v x) else (.panic, ℓ)
  | .abort e, _, ℓ => (.err e, ℓ)
  | .retry, _, ℓ => (.retry, ℓ)
  | .panic, _, ℓ => (.panic, ℓ)

/-- `atomically_with_err` through the log: run on an empty log, commit on `Ok`, drop otherwise -/
def atomicallyLog (p : Prog Var Val ε α) (s : S) : Out ε α × S :=
  match execLog p s {} with
  | (.ok a, ℓ) => (.ok a, ℓ.apply s)
  | (o, _) => (o, s)

end Sem

end HC

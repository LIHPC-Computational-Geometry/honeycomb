/-
  Cells as connected components of dart-indexed ties.

  * `Conn E`: the equivalence closure of a relation; `SameCell g n` is `Conn (GStep g n)`.
  * `Glue R ps`: an equivalence glued along a list of pairs (`UnitedR R p q`: along one pair, in closed form);
    `Conn.glue`: more edges, each of which joins the classes of a listed pair, glue the classes along the list.
  * `Tie t f`: dart `z` ties the non-null darts that `t` reads from column `z` of the β function `f`.  A write at
    column `l` changes the tie of `l` and no other (`Tie.of_write`), so what a link does to the classes is read off
    the columns it writes (`Tie.gain_iff`, `tie_cols`): no image has to be followed backwards.
  * `BOK n f`: what this needs from a β function; flags and array sizes play no part (`bok_of_wf`, `BOK.link`).
  * For the Vertex policy `t` reads `β1 z, β2 z, β3 z`, the darts leaving the end of `z` (`vties`); the vertex cells
    of a well-formed β function are the components of these ties (`gv_iff`; a 2-map is a β function without a fourth
    row, `vg_iff`; `vties2` reads `β1 z, β2 z` only, for maps that have no β3).
  * `tie_add1`, `tie_link2`, `tie_link3`: the vertex cells after one more 1-link, after a 2-link, after 3-linking a
    list of pairs; `IsMinOf`, `isMinOf_union`: the least dart of a class, of a union of two classes.
-/
import Honeycomb.Lemmas.Bfs
import Honeycomb.Lemmas.WFLink

namespace HC

/-! ## connectivity of a relation -/

/-- equivalence closure of `E`, as paths from the left end -/
inductive Conn (E : Nat → Nat → Prop) : Nat → Nat → Prop where
  | refl (x : Nat) : Conn E x x
  | fwd {x y z : Nat} : Conn E x y → E y z → Conn E x z
  | bwd {x y z : Nat} : Conn E x y → E z y → Conn E x z

namespace Conn
variable {E E' : Nat → Nat → Prop}

theorem step {x y : Nat} (e : E x y) : Conn E x y := .fwd (.refl _) e

theorem trans {x y z : Nat} (h1 : Conn E x y) (h2 : Conn E y z) : Conn E x z := by
  induction h2 with
  | refl => exact h1
  | fwd _ e ih => exact .fwd ih e
  | bwd _ e ih => exact .bwd ih e

theorem symm {x y : Nat} (h : Conn E x y) : Conn E y x := by
  induction h with
  | refl => exact .refl _
  | fwd _ e ih => exact (Conn.bwd (.refl _) e).trans ih
  | bwd _ e ih => exact (Conn.fwd (.refl _) e).trans ih

theorem equiv (E : Nat → Nat → Prop) : Equivalence (Conn E) := ⟨.refl, .symm, .trans⟩

/-- the closure is the least equivalence above `E` -/
theorem le {R : Nat → Nat → Prop} (hR : Equivalence R) (hE : ∀ u v, E u v → R u v) {x y : Nat}
    (h : Conn E x y) : R x y := by
  induction h with
  | refl => exact hR.refl _
  | fwd _ e ih => exact hR.trans ih (hE _ _ e)
  | bwd _ e ih => exact hR.trans ih (hR.symm (hE _ _ e))

theorem mono (hE : ∀ u v, E u v → Conn E' u v) {x y : Nat} (h : Conn E x y) : Conn E' x y :=
  le (equiv E') hE h

end Conn

theorem sameCell_equiv (g : Nat → List Nat) (n : Nat) : Equivalence (SameCell g n) :=
  ⟨.refl, .symm, .trans⟩

theorem sameCell_iff_conn {g : Nat → List Nat} {n a b : Nat} : SameCell g n a b ↔ Conn (GStep g n) a b := by
  constructor
  · intro h
    induction h with
    | refl a => exact .refl a
    | step s => exact .step s
    | symm _ ih => exact ih.symm
    | trans _ _ ih1 ih2 => exact ih1.trans ih2
  · exact Conn.le (sameCell_equiv g n) (fun _ _ s => .step s)

/-! ## gluing classes -/

/-- uniting the classes of `p` and `q` in an arbitrary relation -/
def CellCalc.UnitedR (R : Nat → Nat → Prop) (p q d e : Nat) : Prop :=
  R d e ∨ (R d p ∧ R q e) ∨ (R d q ∧ R p e)

open CellCalc (UnitedR)

theorem unitedR_equiv {R : Nat → Nat → Prop} (hR : Equivalence R) (p q : Nat) : Equivalence (UnitedR R p q) := by
  refine ⟨fun d => Or.inl (hR.refl d), ?_, ?_⟩
  · rintro d e (h | ⟨h1, h2⟩ | ⟨h1, h2⟩)
    · exact Or.inl (hR.symm h)
    · exact Or.inr (Or.inr ⟨hR.symm h2, hR.symm h1⟩)
    · exact Or.inr (Or.inl ⟨hR.symm h2, hR.symm h1⟩)
  · rintro d b e (a | ⟨a1, a2⟩ | ⟨a1, a2⟩) (c | ⟨c1, c2⟩ | ⟨c1, c2⟩)
    · exact Or.inl (hR.trans a c)
    · exact Or.inr (Or.inl ⟨hR.trans a c1, c2⟩)
    · exact Or.inr (Or.inr ⟨hR.trans a c1, c2⟩)
    · exact Or.inr (Or.inl ⟨a1, hR.trans a2 c⟩)
    · -- d~p, q~b, b~p, q~e : p and q were already in the same class
      exact Or.inl (hR.trans a1 (hR.trans (hR.symm (hR.trans a2 c1)) c2))
    · exact Or.inl (hR.trans a1 c2)
    · exact Or.inr (Or.inr ⟨a1, hR.trans a2 c⟩)
    · exact Or.inl (hR.trans a1 c2)
    · exact Or.inl (hR.trans a1 (hR.trans (hR.symm (hR.trans a2 c1)) c2))

/-- uniting two darts of one class changes nothing -/
theorem unitedR_same {R : Nat → Nat → Prop} (hR : Equivalence R) {p q : Nat} (hpq : R p q) (d e : Nat) :
    UnitedR R p q d e ↔ R d e := by
  constructor
  · rintro (h | ⟨h1, h2⟩ | ⟨h1, h2⟩)
    · exact h
    · exact hR.trans h1 (hR.trans hpq h2)
    · exact hR.trans h1 (hR.trans (hR.symm hpq) h2)
  · exact Or.inl

/-- equivalence closure of `R` and the pairs of `ps` -/
inductive Cell3.Glue (R : Nat → Nat → Prop) (ps : List (Nat × Nat)) : Nat → Nat → Prop where
  | base {a b : Nat} : R a b → Glue R ps a b
  | pair {p q : Nat} : (p, q) ∈ ps → Glue R ps p q
  | symm {a b : Nat} : Glue R ps a b → Glue R ps b a
  | trans {a b c : Nat} : Glue R ps a b → Glue R ps b c → Glue R ps a c

open Cell3 (Glue)

theorem Cell3.Glue.mono {R : Nat → Nat → Prop} {ps qs : List (Nat × Nat)} (hsub : ∀ x, x ∈ ps → x ∈ qs)
    {a b : Nat} (h : Glue R ps a b) : Glue R qs a b := by
  induction h with
  | base h => exact .base h
  | pair h => exact .pair (hsub _ h)
  | symm _ ih => exact .symm ih
  | trans _ _ ih1 ih2 => exact .trans ih1 ih2

theorem glue_equiv (R : Nat → Nat → Prop) (hR : Equivalence R) (ps : List (Nat × Nat)) :
    Equivalence (Glue R ps) :=
  ⟨fun a => .base (hR.refl a), .symm, .trans⟩

/-- `Glue R ps` is the least equivalence above `R` that holds of the pairs of `ps` -/
theorem Cell3.Glue.le {R S : Nat → Nat → Prop} {ps : List (Nat × Nat)} (hS : Equivalence S)
    (hR : ∀ a b, R a b → S a b) (hps : ∀ pq, pq ∈ ps → S pq.1 pq.2) {a b : Nat} (h : Glue R ps a b) : S a b := by
  induction h with
  | base h => exact hR _ _ h
  | pair h => exact hps _ h
  | symm _ ih => exact hS.symm ih
  | trans _ _ ih1 ih2 => exact hS.trans ih1 ih2

theorem Cell3.glue_nil {R : Nat → Nat → Prop} (hR : Equivalence R) (d e : Nat) : Glue R [] d e ↔ R d e :=
  ⟨Glue.le hR (fun _ _ h => h) (fun _ hm => absurd hm List.not_mem_nil), .base⟩

/-- one pair: `Glue` in closed form -/
theorem glue_one {R : Nat → Nat → Prop} (hR : Equivalence R) (p q d e : Nat) :
    Glue R [(p, q)] d e ↔ UnitedR R p q d e := by
  constructor
  · refine Glue.le (unitedR_equiv hR p q) (fun _ _ h => Or.inl h) fun pq hm => ?_
    rw [List.mem_singleton.1 hm]
    exact Or.inr (Or.inl ⟨hR.refl _, hR.refl _⟩)
  · have pq : Glue R [(p, q)] p q := .pair (List.mem_singleton.2 rfl)
    rintro (h | ⟨h1, h2⟩ | ⟨h1, h2⟩)
    · exact .base h
    · exact .trans (.base h1) (.trans pq (.base h2))
    · exact .trans (.base h1) (.trans (.symm pq) (.base h2))

/-- gluing along a list is gluing along its parts one after the other -/
theorem glue_append {R : Nat → Nat → Prop} (hR : Equivalence R) (ps qs : List (Nat × Nat)) (d e : Nat) :
    Glue R (ps ++ qs) d e ↔ Glue (Glue R ps) qs d e := by
  constructor
  · refine Glue.le (glue_equiv _ (glue_equiv _ hR ps) qs) (fun _ _ h => .base (.base h)) fun pq hm => ?_
    rcases List.mem_append.1 hm with k | k
    · exact .base (.pair k)
    · exact .pair k
  · exact Glue.le (glue_equiv _ hR (ps ++ qs)) (fun _ _ h => h.mono fun x hx => List.mem_append.2 (Or.inl hx))
      fun pq hm => .pair (List.mem_append.2 (Or.inr hm))

/-- **the gluing lemma**: the edges of `E'` are old connections or new edges `N`, each new edge joins the classes of
    a listed pair, and nothing old is lost: the classes of `E'` are those of `E` glued along the list -/
theorem Conn.glue {E E' N : Nat → Nat → Prop} {ps : List (Nat × Nat)}
    (h1 : ∀ a b, E' a b → Conn E a b ∨ N a b)
    (hN : ∀ a b, N a b → ∃ pq, pq ∈ ps ∧ ((Conn E a pq.1 ∧ Conn E b pq.2) ∨ (Conn E a pq.2 ∧ Conn E b pq.1)))
    (h2 : ∀ a b, E a b → Conn E' a b)
    (hps : ∀ pq, pq ∈ ps → Conn E' pq.1 pq.2) (d e : Nat) : Conn E' d e ↔ Glue (Conn E) ps d e := by
  constructor
  · refine Conn.le (glue_equiv _ (Conn.equiv E) ps) fun a b s => ?_
    rcases h1 a b s with k | k
    · exact .base k
    · obtain ⟨pq, hm, ⟨k1, k2⟩ | ⟨k1, k2⟩⟩ := hN a b k
      · exact .trans (.base k1) (.trans (.pair hm) (.base k2.symm))
      · exact .trans (.base k1) (.trans (.symm (.pair hm)) (.base k2.symm))
  · exact Glue.le (Conn.equiv E') (fun _ _ k => Conn.le (Conn.equiv E') h2 k) hps

/-- one more edge `(a, b)`: a path either avoids it or crosses it once, in one direction -/
theorem Conn.add_edge {E E' : Nat → Nat → Prop} {a b : Nat} (hE : ∀ u v, E' u v → E u v ∨ (u = a ∧ v = b))
    {x y : Nat} (h : Conn E' x y) :
    Conn E x y ∨ (Conn E x a ∧ Conn E b y) ∨ (Conn E x b ∧ Conn E a y) := by
  refine Conn.le (unitedR_equiv (Conn.equiv E) a b) (fun u v e => ?_) h
  rcases hE u v e with e | ⟨rfl, rfl⟩
  · exact Or.inl (.step e)
  · exact Or.inr (Or.inl ⟨.refl _, .refl _⟩)

/-- the same when the new edges lie among `a` and `b`, in either order or from a dart to itself -/
theorem Conn.add_edge2 {E E' : Nat → Nat → Prop} {a b : Nat}
    (hE : ∀ u v, E' u v → Conn E u v ∨ ((u = a ∨ u = b) ∧ (v = a ∨ v = b))) {x y : Nat} (h : Conn E' x y) :
    Conn E x y ∨ (Conn E x a ∧ Conn E b y) ∨ (Conn E x b ∧ Conn E a y) := by
  refine Conn.le (unitedR_equiv (Conn.equiv E) a b) (fun u v e => ?_) h
  rcases hE u v e with e | ⟨rfl | rfl, rfl | rfl⟩
  · exact Or.inl e
  · exact Or.inl (.refl _)
  · exact Or.inr (Or.inl ⟨.refl _, .refl _⟩)
  · exact Or.inr (Or.inr ⟨.refl _, .refl _⟩)
  · exact Or.inl (.refl _)

/-- nothing is connected to a node no edge touches -/
theorem Conn.isolated {E : Nat → Nat → Prop} {t : Nat} (ht : ∀ u v, E u v → u ≠ t ∧ v ≠ t) {x : Nat}
    (h : Conn E x t) : x = t := by
  generalize hy : t = y at h
  induction h with
  | refl => rfl
  | fwd _ e _ => exact absurd hy.symm (ht _ _ e).2
  | bwd _ e _ => exact absurd hy.symm (ht _ _ e).1

/-! ## ties -/

/-- two non-null darts tied by some dart `z`: `t` reads both from column `z` of `f` -/
def Tie (t : (Nat → Nat → Nat) → Nat → List Nat) (f : Nat → Nat → Nat) (u v : Nat) : Prop :=
  ∃ z, u ∈ t f z ∧ v ∈ t f z ∧ u ≠ 0 ∧ v ≠ 0

/-- the columns outside `S` are unchanged: a tie of `f'` is a tie of `f`, or sits at a column of `S` -/
theorem Tie.of_write {t : (Nat → Nat → Nat) → Nat → List Nat} {f f' : Nat → Nat → Nat} {S : List Nat}
    (hcol : ∀ z, z ∉ S → t f' z = t f z) {u v : Nat} (h : Tie t f' u v) :
    Tie t f u v ∨ ∃ z, z ∈ S ∧ u ∈ t f' z ∧ v ∈ t f' z ∧ u ≠ 0 ∧ v ≠ 0 := by
  obtain ⟨z, a, b, c, d⟩ := h
  by_cases hz : z ∈ S
  · exact Or.inr ⟨z, hz, a, b, c, d⟩
  · rw [hcol z hz] at a b
    exact Or.inl ⟨z, a, b, c, d⟩

/-- … and when no column of `S` loses a member, the ties of `f'` are those of `f` and those of the columns of `S` -/
theorem Tie.gain_iff {t : (Nat → Nat → Nat) → Nat → List Nat} {f f' : Nat → Nat → Nat} {S : List Nat}
    (hcol : ∀ z, z ∉ S → t f' z = t f z) (hold : ∀ z, z ∈ S → ∀ u, u ∈ t f z → u ≠ 0 → u ∈ t f' z) (u v : Nat) :
    Tie t f' u v ↔ Tie t f u v ∨ ∃ z, z ∈ S ∧ u ∈ t f' z ∧ v ∈ t f' z ∧ u ≠ 0 ∧ v ≠ 0 := by
  constructor
  · exact Tie.of_write hcol
  · rintro (⟨z, a, b, c, d⟩ | ⟨z, _, a, b, c, d⟩)
    · by_cases hz : z ∈ S
      · exact ⟨z, hold z hz u a c, hold z hz v b d, c, d⟩
      · rw [← hcol z hz] at a b
        exact ⟨z, a, b, c, d⟩
    · exact ⟨z, a, b, c, d⟩

/-- **what writing some columns does to the classes**: the columns outside `S` are unchanged, a changed column loses
    no member, and the non-null members of each changed column lie in one old class, or in the two old classes of a
    listed pair; every listed pair is connected in `f'`.  Then the classes of `f'` are those of `f` glued along the
    list. -/
theorem tie_cols {t : (Nat → Nat → Nat) → Nat → List Nat} {f f' : Nat → Nat → Nat} {S : List Nat}
    {ps : List (Nat × Nat)}
    (hcol : ∀ z, z ∉ S → t f' z = t f z)
    (hold : ∀ z, z ∈ S → ∀ u, u ∈ t f z → u ≠ 0 → u ∈ t f' z)
    (hnew : ∀ z, z ∈ S → (∃ p, ∀ u, u ∈ t f' z → u ≠ 0 → Conn (Tie t f) u p) ∨
      ∃ pq, pq ∈ ps ∧ ∀ u, u ∈ t f' z → u ≠ 0 → Conn (Tie t f) u pq.1 ∨ Conn (Tie t f) u pq.2)
    (hps : ∀ pq, pq ∈ ps → Conn (Tie t f') pq.1 pq.2) (d e : Nat) :
    Conn (Tie t f') d e ↔ Glue (Conn (Tie t f)) ps d e := by
  refine Conn.glue (N := fun a b => ∃ pq, pq ∈ ps ∧ ((Conn (Tie t f) a pq.1 ∧ Conn (Tie t f) b pq.2) ∨
    (Conn (Tie t f) a pq.2 ∧ Conn (Tie t f) b pq.1))) (fun a b s => ?_) (fun a b k => k) (fun a b s => ?_) hps d e
  · rcases Tie.of_write hcol s with k | ⟨z, hz, ha, hb, a0, b0⟩
    · exact Or.inl (.step k)
    · rcases hnew z hz with ⟨p, hp⟩ | ⟨pq, hm, hp⟩
      · exact Or.inl ((hp a ha a0).trans (hp b hb b0).symm)
      · rcases hp a ha a0 with k1 | k1 <;> rcases hp b hb b0 with k2 | k2
        · exact Or.inl (k1.trans k2.symm)
        · exact Or.inr ⟨pq, hm, Or.inl ⟨k1, k2⟩⟩
        · exact Or.inr ⟨pq, hm, Or.inr ⟨k1, k2⟩⟩
        · exact Or.inl (k1.trans k2.symm)
  · obtain ⟨z, ha, hb, a0, b0⟩ := s
    by_cases hz : z ∈ S
    · exact .step ⟨z, hold z hz a ha a0, hold z hz b hb b0, a0, b0⟩
    · rw [← hcol z hz] at ha hb
      exact .step ⟨z, ha, hb, a0, b0⟩

/-! ## well-formed β functions -/

/-- what the cell theory needs from a β function (no flags, no array sizes); `inv` is `inv01`, `inv10` and the
    involutions in one statement, through the inverse index -/
structure BOK (n : Nat) (f : Nat → Nat → Nat) : Prop where
  z : ∀ i, f i 0 = 0
  lt : ∀ i y, f i y ≠ 0 → y < n ∧ f i y < n
  inv : ∀ i y, f i y ≠ 0 → f (invIdx i) (f i y) = y

theorem BOK.inv01 {n : Nat} {f : Nat → Nat → Nat} (hf : BOK n f) (y : Nat) (hy : f 1 y ≠ 0) : f 0 (f 1 y) = y :=
  hf.inv 1 y hy

theorem BOK.inv10 {n : Nat} {f : Nat → Nat → Nat} (hf : BOK n f) (y : Nat) (hy : f 0 y ≠ 0) : f 1 (f 0 y) = y :=
  hf.inv 0 y hy

theorem BOK.invI {n : Nat} {f : Nat → Nat → Nat} (hf : BOK n f) (i : Nat) (hi : i = 2 ∨ i = 3) (y : Nat)
    (hy : f i y ≠ 0) : f i (f i y) = y := by
  have := hf.inv i y hy
  rwa [invIdx_of_two_le (by omega)] at this

theorem BOK.inv2 {n : Nat} {f : Nat → Nat → Nat} (hf : BOK n f) (y : Nat) (hy : f 2 y ≠ 0) : f 2 (f 2 y) = y :=
  hf.invI 2 (Or.inl rfl) y hy

variable {X : Type}

/-- β outside the table is the null dart -/
theorem WF.β_oob {nb : Nat} {m : Map X} (h : WF nb m) {i z : Nat} (ho : ¬ (i < nb ∧ z < m.n)) : m.β i z = 0 := by
  unfold Map.β
  by_cases hi : i < nb
  · rw [rd_oob (rd m.b i) z (by rw [h.row i hi]; exact Nat.le_of_not_lt fun k => ho ⟨hi, k⟩)]
    rfl
  · rw [rd_oob m.b i (by rw [h.rows]; omega)]
    rw [rd_oob]
    · rfl
    · show (#[] : Array Nat).size ≤ z
      simp

theorem bok_of_wf {nb : Nat} {m : Map X} (h : WF nb m) : BOK m.n m.β where
  z := fun i => by
    by_cases hi : i < nb
    · exact h.null i hi
    · exact h.β_oob (fun k => hi k.1)
  lt := fun i y hy => by
    have : i < nb ∧ y < m.n := Classical.byContradiction fun k => hy (h.β_oob k)
    exact ⟨this.2, h.range i this.1 y this.2⟩
  inv := fun i y hy => by
    have : i < nb ∧ y < m.n := Classical.byContradiction fun k => hy (h.β_oob k)
    exact h.toWFβ.inv this.1 this.2 hy

/-- `βi l := r ; βj r := l`, `j` the inverse index of `i`, on an `i`-free `l` and a `j`-free `r`; the flags play no
    part -/
theorem BOK.link {n : Nat} {f f' : Nat → Nat → Nat} {i l r : Nat} (hf : BOK n f)
    (e : ∀ k x, f' k x = if invIdx i = k ∧ r = x then l else if i = k ∧ l = x then r else f k x)
    (l0 : l ≠ 0) (r0 : r ≠ 0) (ln : l < n) (rn : r < n) (h1 : f i l = 0) (h0 : f (invIdx i) r = 0) : BOK n f' := by
  refine ⟨fun k => ?_, fun k y hy => ?_, fun k y => ?_⟩
  · rw [e, if_neg (fun c => r0 c.2), if_neg (fun c => l0 c.2)]
    exact hf.z k
  · rw [e] at hy ⊢
    split at hy
    · rename_i c
      rw [if_pos c, ← c.2]
      exact ⟨rn, ln⟩
    · rename_i c
      rw [if_neg c]
      split at hy
      · rename_i c'
        rw [if_pos c', ← c'.2]
        exact ⟨ln, rn⟩
      · rename_i c'
        rw [if_neg c']
        exact hf.lt k y hy
  · exact link_inv e h1 h0 (hf.z k) (hf.inv k y)

/-! ## the vertex cells of a β function are the components of its ties -/

/-- the images of the Vertex policy of a 3-map (`Cell3.g3v m = gv m.β`) -/
def gv (f : Nat → Nat → Nat) (x : Nat) : List Nat :=
  [f 1 (f 3 x), f 3 (f 2 x), f 1 (f 2 x), f 3 (f 0 x), f 2 (f 0 x), f 2 (f 3 x)]

theorem mem_gv {f : Nat → Nat → Nat} {x b : Nat} : b ∈ gv f x ↔ (b = f 1 (f 3 x) ∨ b = f 3 (f 2 x) ∨
    b = f 1 (f 2 x) ∨ b = f 3 (f 0 x) ∨ b = f 2 (f 0 x) ∨ b = f 2 (f 3 x)) := by
  simp [gv]

/-- the images the Vertex policy examines on a 2-map (`C03.g2 m .vertex = vg m.β`) -/
def vg (f : Nat → Nat → Nat) (y : Nat) : List Nat := [f 1 (f 2 y), f 2 (f 0 y)]

/-- the vertex ties of `z`: the darts leaving the end of `z` -/
def vties (f : Nat → Nat → Nat) (z : Nat) : List Nat := [f 1 z, f 2 z, f 3 z]

theorem mem_vties {f : Nat → Nat → Nat} {z u : Nat} : u ∈ vties f z ↔ (u = f 1 z ∨ u = f 2 z ∨ u = f 3 z) := by
  simp [vties]

/-- the vertex ties of `z` on a 2-map, where there is no β3 -/
def vties2 (f : Nat → Nat → Nat) (z : Nat) : List Nat := [f 1 z, f 2 z]

theorem mem_vties2 {f : Nat → Nat → Nat} {z u : Nat} : u ∈ vties2 f z ↔ (u = f 1 z ∨ u = f 2 z) := by
  simp [vties2]

theorem mem3 {a b c u : Nat} : u ∈ [a, b, c] ↔ (u = a ∨ u = b ∨ u = c) := by
  simp

theorem tie_of_gstep {n : Nat} {f : Nat → Nat → Nat} (hf : BOK n f) {a b : Nat} (s : GStep (gv f) n a b) :
    Tie vties f a b := by
  obtain ⟨a0, _, b0, hb⟩ := s
  -- `b = f i (f j a)`: the tying dart is `z = f j a`, and `a = f j' z` with `j' = j`, or `1` for `j = 0`
  have key : ∀ i j j', (i = 1 ∨ i = 2 ∨ i = 3) → (j' = 1 ∨ j' = 2 ∨ j' = 3) → (f j a ≠ 0 → f j' (f j a) = a) →
      b = f i (f j a) → Tie vties f a b := by
    intro i j j' hi hj' back e
    have hne : f j a ≠ 0 := fun hh => b0 (by rw [e, hh, hf.z])
    refine ⟨f j a, mem_vties.2 ?_, mem_vties.2 ?_, a0, b0⟩
    · rcases hj' with rfl | rfl | rfl
      · exact Or.inl (back hne).symm
      · exact Or.inr (Or.inl (back hne).symm)
      · exact Or.inr (Or.inr (back hne).symm)
    · rcases hi with rfl | rfl | rfl
      · exact Or.inl e
      · exact Or.inr (Or.inl e)
      · exact Or.inr (Or.inr e)
  rcases mem_gv.1 hb with k | k | k | k | k | k
  · exact key 1 3 3 (by omega) (by omega) (hf.invI 3 (by omega) a) k
  · exact key 3 2 2 (by omega) (by omega) (hf.invI 2 (by omega) a) k
  · exact key 1 2 2 (by omega) (by omega) (hf.invI 2 (by omega) a) k
  · exact key 3 0 1 (by omega) (by omega) (hf.inv10 a) k
  · exact key 2 0 1 (by omega) (by omega) (hf.inv10 a) k
  · exact key 2 3 3 (by omega) (by omega) (hf.invI 3 (by omega) a) k

/-- tied darts are equal or one generator step apart -/
theorem gstep_of_tie {n : Nat} {f : Nat → Nat → Nat} (hf : BOK n f) {u v : Nat} (t : Tie vties f u v) :
    u = v ∨ GStep (gv f) n u v := by
  obtain ⟨z, hu, hv, u0, v0⟩ := t
  -- from `u = f i z` to `v = f j z ∈ gv f u`, through `z = f i' u`
  have mk : ∀ i, u = f i z → v ∈ gv f u → u = v ∨ GStep (gv f) n u v := fun i eu hm =>
    Or.inr ⟨u0, eu ▸ (hf.lt i z (eu ▸ u0)).2, v0, hm⟩
  have b1 : u = f 1 z → f 0 u = z := fun e => by
    subst e
    exact hf.inv01 z u0
  have b2 : u = f 2 z → f 2 u = z := fun e => by
    subst e
    exact hf.invI 2 (by omega) z u0
  have b3 : u = f 3 z → f 3 u = z := fun e => by
    subst e
    exact hf.invI 3 (by omega) z u0
  rcases mem_vties.1 hu with eu | eu | eu <;> rcases mem_vties.1 hv with ev | ev | ev
  · exact Or.inl (eu.trans ev.symm)
  · exact mk 1 eu (mem_gv.2 (by rw [b1 eu]; simp [ev]))
  · exact mk 1 eu (mem_gv.2 (by rw [b1 eu]; simp [ev]))
  · exact mk 2 eu (mem_gv.2 (by rw [b2 eu]; simp [ev]))
  · exact Or.inl (eu.trans ev.symm)
  · exact mk 2 eu (mem_gv.2 (by rw [b2 eu]; simp [ev]))
  · exact mk 3 eu (mem_gv.2 (by rw [b3 eu]; simp [ev]))
  · exact mk 3 eu (mem_gv.2 (by rw [b3 eu]; simp [ev]))
  · exact Or.inl (eu.trans ev.symm)

theorem same_of_tie {n : Nat} {f : Nat → Nat → Nat} (hf : BOK n f) {u v : Nat} (t : Tie vties f u v) :
    SameCell (gv f) n u v :=
  (gstep_of_tie hf t).elim (fun k => k ▸ .refl _) .step

/-- **the vertex cells of a β function are the components of its ties** -/
theorem gv_iff {n : Nat} {f : Nat → Nat → Nat} (hf : BOK n f) (a b : Nat) :
    SameCell (gv f) n a b ↔ Conn (Tie vties f) a b := by
  rw [sameCell_iff_conn]
  exact ⟨Conn.mono fun _ _ s => .step (tie_of_gstep hf s),
    Conn.mono fun _ _ t => sameCell_iff_conn.1 (same_of_tie hf t)⟩

theorem vcell_eq {n : Nat} {f : Nat → Nat → Nat} (hf : BOK n f) : Conn (Tie vties f) = SameCell (gv f) n :=
  funext fun a => funext fun b => propext (gv_iff hf a b).symm

/-- the Vertex policy of a 2-map is that of a 3-map on a β function without a fourth row -/
theorem vg_iff {n : Nat} {f : Nat → Nat → Nat} (z3 : ∀ x, f 3 x = 0) (z : ∀ i, f i 0 = 0) (a b : Nat) :
    SameCell (vg f) n a b ↔ SameCell (gv f) n a b := by
  have key : ∀ a b, GStep (vg f) n a b ↔ GStep (gv f) n a b := by
    intro a b
    unfold GStep
    rw [mem_gv, z3, z3, z3, z 1, z 2]
    simp only [vg, List.mem_cons, List.not_mem_nil, or_false]
    constructor
    · rintro ⟨p, q, b0, k | k⟩
      · exact ⟨p, q, b0, Or.inr (Or.inr (Or.inl k))⟩
      · exact ⟨p, q, b0, Or.inr (Or.inr (Or.inr (Or.inr (Or.inl k))))⟩
    · rintro ⟨p, q, b0, k | k | k | k | k | k⟩
      · exact absurd k b0
      · exact absurd k b0
      · exact ⟨p, q, b0, Or.inl k⟩
      · exact absurd k b0
      · exact ⟨p, q, b0, Or.inr k⟩
      · exact absurd k b0
  rw [sameCell_iff_conn, sameCell_iff_conn]
  exact ⟨Conn.mono fun _ _ s => .step ((key _ _).1 s), Conn.mono fun _ _ s => .step ((key _ _).2 s)⟩

theorem vcell2_eq {n : Nat} {f : Nat → Nat → Nat} (hf : BOK n f) (z3 : ∀ x, f 3 x = 0) :
    Conn (Tie vties f) = SameCell (vg f) n :=
  funext fun a => funext fun b => propext ((gv_iff hf a b).symm.trans (vg_iff z3 hf.z a b).symm)

/-! ## the vertex cells after a link, on ties -/

/-- the head of `l` as the 1-sews read it: through β3, else through β2 (`Cell3.headOf_eq`) -/
def head1 (f : Nat → Nat → Nat) (l : Nat) : Nat := if f 3 l ≠ 0 then f 3 l else f 2 l

/-- the head of `x` as the 2-sews read it: `β1 x`, else `β3 x` (`Cell3.headV m x`; `Cell3.pairsV2_eq`) -/
def head2 (f : Nat → Nat → Nat) (x : Nat) : Nat := if f 1 x ≠ 0 then f 1 x else f 3 x

/-- **one more 1-link**: only column `l` changes, from `[0, β2 l, β3 l]` to `[r, β2 l, β3 l]`: the class of `r` and
    the class of the head of `l` are united (nothing happens when `l` has no head) -/
theorem tie_add1 {f f' : Nat → Nat → Nat} {l r : Nat} (hr0 : r ≠ 0) (h1 : f 1 l = 0)
    (hvt : ∀ z, vties f' z = if l = z then [r, f 2 l, f 3 l] else vties f z) (d e : Nat) :
    Conn (Tie vties f') d e ↔
      if head1 f l = 0 then Conn (Tie vties f) d e else UnitedR (Conn (Tie vties f)) (head1 f l) r d e := by
  have cl : vties f' l = [r, f 2 l, f 3 l] := by rw [hvt, if_pos rfl]
  have hcol : ∀ z, z ∉ [l] → vties f' z = vties f z := fun z hz => by
    rw [hvt, if_neg (fun hh => hz (List.mem_singleton.2 hh.symm))]
  have hold : ∀ z, z ∈ [l] → ∀ u, u ∈ vties f z → u ≠ 0 → u ∈ vties f' z := fun z hz u hu u0 => by
    rw [List.mem_singleton.1 hz] at hu ⊢
    rw [cl, mem3]
    rw [mem_vties, h1] at hu
    exact hu.elim (fun k => absurd k u0) Or.inr
  -- the members of the new column: `r`, and the head of `l` with what is tied to it
  have hmem : ∀ u, u ∈ vties f' l → u ≠ 0 → u = r ∨ (head1 f l ≠ 0 ∧ Conn (Tie vties f) u (head1 f l)) := by
    intro u hu u0
    rw [cl, mem3] at hu
    unfold head1
    rcases hu with k | k | k
    · exact Or.inl k
    · subst k
      by_cases h3 : f 3 l ≠ 0
      · rw [if_pos h3]
        exact Or.inr ⟨h3, .step ⟨l, mem_vties.2 (Or.inr (Or.inl rfl)), mem_vties.2 (Or.inr (Or.inr rfl)), u0, h3⟩⟩
      · rw [if_neg h3]
        exact Or.inr ⟨u0, .refl _⟩
    · subst k
      rw [if_pos u0]
      exact Or.inr ⟨u0, .refl _⟩
  split
  · rename_i hh
    refine (tie_cols (ps := []) hcol hold (fun z hz => Or.inl ⟨r, fun u hu u0 => ?_⟩)
      (fun _ hm => absurd hm List.not_mem_nil) d e).trans (Cell3.glue_nil (Conn.equiv _) d e)
    rw [List.mem_singleton.1 hz] at hu
    exact (hmem u hu u0).elim (fun k => k ▸ .refl _) (fun k => absurd hh k.1)
  · rename_i hh
    refine (tie_cols (ps := [(head1 f l, r)]) hcol hold
      (fun z hz => Or.inr ⟨_, List.mem_singleton.2 rfl, fun u hu u0 => ?_⟩) (fun pq hm => ?_) d e).trans
      (glue_one (Conn.equiv _) _ _ d e)
    · rw [List.mem_singleton.1 hz] at hu
      exact (hmem u hu u0).elim (fun k => Or.inr (k ▸ .refl _)) (fun k => Or.inl k.2)
    · rw [List.mem_singleton.1 hm]
      refine .step ⟨l, ?_, ?_, hh, hr0⟩ <;> rw [cl, mem3]
      · unfold head1
        split
        · exact Or.inr (Or.inr rfl)
        · exact Or.inr (Or.inl rfl)
      · exact Or.inl rfl

/-- the vertex pairs united by a 2-link of `l` and `r`: `l` with the head of `r`, `r` with the head of `l` (a pair
    is dropped when the head is null) -/
def pairs2 (f : Nat → Nat → Nat) (l r : Nat) : List (Nat × Nat) :=
  (if head2 f r ≠ 0 then [(l, head2 f r)] else []) ++ (if head2 f l ≠ 0 then [(r, head2 f l)] else [])

/-- **a 2-link of two distinct 2-free darts**: the columns of `l` and `r` change, each gains its partner -/
theorem tie_link2 {f f' : Nat → Nat → Nat} {l r : Nat} (hl0 : l ≠ 0) (hr0 : r ≠ 0) (hlr : l ≠ r)
    (h2l : f 2 l = 0) (h2r : f 2 r = 0)
    (hvt : ∀ z, vties f' z = [f 1 z, if r = z then l else if l = z then r else f 2 z, f 3 z]) (d e : Nat) :
    Conn (Tie vties f') d e ↔ Glue (Conn (Tie vties f)) (pairs2 f l r) d e := by
  have hcol : ∀ z, z ∉ [l, r] → vties f' z = vties f z := fun z hz => by
    rw [hvt, if_neg (fun k => hz (by simp [k])), if_neg (fun k => hz (by simp [k]))]
    rfl
  -- the column of `x ∈ {l, r}` with partner `y`
  have side : ∀ x y, (x = l ∧ y = r) ∨ (x = r ∧ y = l) → vties f' x = [f 1 x, y, f 3 x] ∧ f 2 x = 0 := by
    rintro x y (⟨rfl, rfl⟩ | ⟨rfl, rfl⟩)
    · exact ⟨by rw [hvt, if_neg (Ne.symm hlr), if_pos rfl], h2l⟩
    · exact ⟨by rw [hvt, if_pos rfl], h2r⟩
  have sides : ∀ z, z ∈ [l, r] → ∃ y, (z = l ∧ y = r) ∨ (z = r ∧ y = l) := fun z hz => by
    rcases List.mem_cons.1 hz with k | k
    · exact ⟨r, Or.inl ⟨k, rfl⟩⟩
    · exact ⟨l, Or.inr ⟨List.mem_singleton.1 k, rfl⟩⟩
  -- its members: the partner, and the head of `x` with what is tied to it
  have hmem : ∀ x y, (x = l ∧ y = r) ∨ (x = r ∧ y = l) → ∀ u, u ∈ vties f' x → u ≠ 0 →
      u = y ∨ (head2 f x ≠ 0 ∧ Conn (Tie vties f) u (head2 f x)) := by
    intro x y hxy u hu u0
    rw [(side x y hxy).1, mem3] at hu
    unfold head2
    rcases hu with k | k | k
    · subst k
      rw [if_pos u0]
      exact Or.inr ⟨u0, .refl _⟩
    · exact Or.inl k
    · subst k
      by_cases h1 : f 1 x ≠ 0
      · rw [if_pos h1]
        exact Or.inr ⟨h1, .step ⟨x, mem_vties.2 (Or.inr (Or.inr rfl)), mem_vties.2 (Or.inl rfl), u0, h1⟩⟩
      · rw [if_neg h1]
        exact Or.inr ⟨u0, .refl _⟩
  have hpair : ∀ x y, (x = l ∧ y = r) ∨ (x = r ∧ y = l) → head2 f x ≠ 0 → (y, head2 f x) ∈ pairs2 f l r := by
    rintro x y (⟨rfl, rfl⟩ | ⟨rfl, rfl⟩) hh <;> unfold pairs2 <;> rw [List.mem_append]
    · exact Or.inr (by rw [if_pos hh]; exact List.mem_singleton.2 rfl)
    · exact Or.inl (by rw [if_pos hh]; exact List.mem_singleton.2 rfl)
  refine tie_cols hcol (fun z hz u hu u0 => ?_) (fun z hz => ?_) (fun pq hm => ?_) d e
  · obtain ⟨y, hxy⟩ := sides z hz
    rw [(side z y hxy).1, mem3]
    rw [mem_vties, (side z y hxy).2] at hu
    rcases hu with k | k | k
    · exact Or.inl k
    · exact absurd k u0
    · exact Or.inr (Or.inr k)
  · obtain ⟨y, hxy⟩ := sides z hz
    by_cases hh : head2 f z = 0
    · exact Or.inl ⟨y, fun u hu u0 => (hmem z y hxy u hu u0).elim (fun k => k ▸ .refl _) (fun k => absurd hh k.1)⟩
    · exact Or.inr ⟨_, hpair z y hxy hh, fun u hu u0 =>
        (hmem z y hxy u hu u0).elim (fun k => Or.inl (k ▸ .refl _)) (fun k => Or.inr k.2)⟩
  · -- a listed pair `(y, head of x)` sits in the new column of `x`
    have : ∃ x y, ((x = l ∧ y = r) ∨ (x = r ∧ y = l)) ∧ head2 f x ≠ 0 ∧ pq = (y, head2 f x) := by
      unfold pairs2 at hm
      rcases List.mem_append.1 hm with k | k <;> split at k
      · exact ⟨r, l, Or.inr ⟨rfl, rfl⟩, ‹_›, List.mem_singleton.1 k⟩
      · exact absurd k List.not_mem_nil
      · exact ⟨l, r, Or.inl ⟨rfl, rfl⟩, ‹_›, List.mem_singleton.1 k⟩
      · exact absurd k List.not_mem_nil
    obtain ⟨x, y, hxy, hh, rfl⟩ := this
    have y0 : y ≠ 0 := by
      rcases hxy with ⟨_, rfl⟩ | ⟨_, rfl⟩ <;> assumption
    refine .step ⟨x, ?_, ?_, y0, hh⟩ <;> rw [(side x y hxy).1, mem3]
    · exact Or.inr (Or.inl rfl)
    · unfold head2
      split
      · exact Or.inl rfl
      · exact Or.inr (Or.inr rfl)

/-- the head of `x` as the 3-sews read it: `β1 x`, else `β2 x` (`C05.headG_eq`) -/
def head3 (f : Nat → Nat → Nat) (x : Nat) : Nat := if f 1 x ≠ 0 then f 1 x else f 2 x

/-- the vertex pairs united by 3-linking the pairs of `ps`: the head of each linked dart with its partner, when the
    head exists -/
def pairs3 (f : Nat → Nat → Nat) (ps : List (Nat × Nat)) : List (Nat × Nat) :=
  ps.flatMap fun pq =>
    (if head3 f pq.1 ≠ 0 then [(head3 f pq.1, pq.2)] else []) ++
    (if head3 f pq.2 ≠ 0 then [(pq.1, head3 f pq.2)] else [])

theorem mem_pairs3 {f : Nat → Nat → Nat} {ps : List (Nat × Nat)} (x : Nat × Nat) :
    x ∈ pairs3 f ps ↔ ∃ pq, pq ∈ ps ∧ ((head3 f pq.1 ≠ 0 ∧ x = (head3 f pq.1, pq.2)) ∨
      (head3 f pq.2 ≠ 0 ∧ x = (pq.1, head3 f pq.2))) := by
  unfold pairs3
  rw [List.mem_flatMap]
  constructor
  · rintro ⟨pq, hm, hx⟩
    refine ⟨pq, hm, ?_⟩
    rcases List.mem_append.1 hx with hx | hx
    · by_cases c : head3 f pq.1 ≠ 0
      · rw [if_pos c] at hx
        exact Or.inl ⟨c, List.mem_singleton.1 hx⟩
      · rw [if_neg c] at hx
        exact absurd hx List.not_mem_nil
    · by_cases c : head3 f pq.2 ≠ 0
      · rw [if_pos c] at hx
        exact Or.inr ⟨c, List.mem_singleton.1 hx⟩
      · rw [if_neg c] at hx
        exact absurd hx List.not_mem_nil
  · rintro ⟨pq, hm, ⟨c, rfl⟩ | ⟨c, rfl⟩⟩
    · exact ⟨pq, hm, List.mem_append_left _ (by rw [if_pos c]; exact List.mem_singleton.2 rfl)⟩
    · exact ⟨pq, hm, List.mem_append_right _ (by rw [if_pos c]; exact List.mem_singleton.2 rfl)⟩

/-- **3-linking the pairs of `ps`** (each pair 3-free before): the column of every linked dart gains its partner -/
theorem tie_link3 {f f' : Nat → Nat → Nat} {ps : List (Nat × Nat)}
    (hvt : ∀ z, vties f' z = [f 1 z, f 2 z, f' 3 z])
    (hpairs : ∀ pq, pq ∈ ps → f' 3 pq.1 = pq.2 ∧ f' 3 pq.2 = pq.1 ∧ f 3 pq.1 = 0 ∧ f 3 pq.2 = 0 ∧
      pq.1 ≠ 0 ∧ pq.2 ≠ 0)
    (hrest : ∀ x, (∀ pq, pq ∈ ps → x ≠ pq.1 ∧ x ≠ pq.2) → f' 3 x = f 3 x) (d e : Nat) :
    Conn (Tie vties f') d e ↔ Glue (Conn (Tie vties f)) (pairs3 f ps) d e := by
  -- the linked darts, each with its partner `f' 3 z`, and the listed pair that joins the partner to the head
  have ends : ∀ z, z ∈ ps.flatMap (fun pq => [pq.1, pq.2]) → f 3 z = 0 ∧ f' 3 z ≠ 0 ∧
      (head3 f z ≠ 0 → (head3 f z, f' 3 z) ∈ pairs3 f ps ∨ (f' 3 z, head3 f z) ∈ pairs3 f ps) := by
    intro z hz
    obtain ⟨pq, hm, hz⟩ := List.mem_flatMap.1 hz
    obtain ⟨a1, a2, a3, a4, a5, a6⟩ := hpairs pq hm
    rcases List.mem_cons.1 hz with k | k
    · rw [k, a1]
      exact ⟨a3, a6, fun hh => Or.inl ((mem_pairs3 _).2 ⟨pq, hm, Or.inl ⟨hh, rfl⟩⟩)⟩
    · rw [List.mem_singleton.1 k, a2]
      exact ⟨a4, a5, fun hh => Or.inr ((mem_pairs3 _).2 ⟨pq, hm, Or.inr ⟨hh, rfl⟩⟩)⟩
  -- the members of the column of `z`: `f' 3 z`, and the head of `z` with what is tied to it
  have hmem : ∀ z u, u ∈ vties f' z → u ≠ 0 → u = f' 3 z ∨ (head3 f z ≠ 0 ∧ Conn (Tie vties f) u (head3 f z)) := by
    intro z u hu u0
    rw [hvt, mem3] at hu
    unfold head3
    rcases hu with k | k | k
    · subst k
      rw [if_pos u0]
      exact Or.inr ⟨u0, .refl _⟩
    · subst k
      by_cases h1 : f 1 z ≠ 0
      · rw [if_pos h1]
        exact Or.inr ⟨h1, .step ⟨z, mem_vties.2 (Or.inr (Or.inl rfl)), mem_vties.2 (Or.inl rfl), u0, h1⟩⟩
      · rw [if_neg h1]
        exact Or.inr ⟨u0, .refl _⟩
    · exact Or.inl k
  refine tie_cols (S := ps.flatMap fun pq => [pq.1, pq.2]) (fun z hz => ?_) (fun z hz u hu u0 => ?_)
    (fun z hz => ?_) (fun x hm => ?_) d e
  · rw [hvt, hrest z fun pq hm => ⟨fun k => hz (List.mem_flatMap.2 ⟨pq, hm, by rw [k]; exact List.mem_cons_self⟩),
      fun k => hz (List.mem_flatMap.2 ⟨pq, hm, by rw [k]; exact List.mem_cons_of_mem _ (List.mem_singleton.2 rfl)⟩)⟩]
    rfl
  · rw [hvt, mem3]
    rw [mem_vties, (ends z hz).1] at hu
    rcases hu with k | k | k
    · exact Or.inl k
    · exact Or.inr (Or.inl k)
    · exact absurd k u0
  · obtain ⟨_, _, hp⟩ := ends z hz
    by_cases hh : head3 f z = 0
    · exact Or.inl ⟨f' 3 z, fun u hu u0 => (hmem z u hu u0).elim (fun k => k ▸ .refl _) (fun k => absurd hh k.1)⟩
    · rcases hp hh with hm | hm
      · exact Or.inr ⟨_, hm, fun u hu u0 =>
          (hmem z u hu u0).elim (fun k => Or.inr (k ▸ .refl _)) (fun k => Or.inl k.2)⟩
      · exact Or.inr ⟨_, hm, fun u hu u0 =>
          (hmem z u hu u0).elim (fun k => Or.inl (k ▸ .refl _)) (fun k => Or.inr k.2)⟩
  · -- a listed pair sits in the new column of the linked dart whose head it names
    obtain ⟨pq, hp, ⟨c, rfl⟩ | ⟨c, rfl⟩⟩ := (mem_pairs3 x).1 hm
    · obtain ⟨a1, _, _, _, _, a6⟩ := hpairs pq hp
      refine .step ⟨pq.1, ?_, ?_, c, a6⟩ <;> rw [hvt, mem3]
      · unfold head3
        split
        · exact Or.inl rfl
        · exact Or.inr (Or.inl rfl)
      · exact Or.inr (Or.inr a1.symm)
    · obtain ⟨_, a2, _, _, a5, _⟩ := hpairs pq hp
      refine .step ⟨pq.2, ?_, ?_, a5, c⟩ <;> rw [hvt, mem3]
      · exact Or.inr (Or.inr a2.symm)
      · unfold head3
        split
        · exact Or.inl rfl
        · exact Or.inr (Or.inl rfl)

/-! ## the least dart of a class -/

/-- `v` is the smallest dart of the class of `d` -/
def Cell3.IsMinOf (R : Nat → Nat → Prop) (d v : Nat) : Prop := R d v ∧ ∀ e, R d e → e ≠ 0 → v ≤ e

open Cell3 (IsMinOf)

theorem Cell3.IsMinOf.congr {R : Nat → Nat → Prop} (hR : Equivalence R) {d d' v : Nat} (hv : IsMinOf R d v)
    (hs : R d d') : IsMinOf R d' v :=
  ⟨hR.trans (hR.symm hs) hv.1, fun e he he0 => hv.2 e (hR.trans hs he) he0⟩

theorem Cell3.IsMinOf.unique {R : Nat → Nat → Prop} {d v w : Nat} (hv : IsMinOf R d v) (hw : IsMinOf R d w)
    (hv0 : v ≠ 0) (hw0 : w ≠ 0) : v = w := by
  have a := hv.2 w hw.1 hw0
  have b := hw.2 v hv.1 hv0
  omega

/-- the smallest dart of the union of two classes -/
theorem Cell3.isMinOf_union {R G : Nat → Nat → Prop} {c p q vp vq : Nat}
    (hG : ∀ e, G c e ↔ (R p e ∨ R q e)) (hp : IsMinOf R p vp) (hq : IsMinOf R q vq) :
    IsMinOf G c (min vp vq) := by
  constructor
  · by_cases hle : vp ≤ vq
    · rw [Nat.min_eq_left hle]
      exact (hG _).2 (Or.inl hp.1)
    · rw [Nat.min_eq_right (by omega)]
      exact (hG _).2 (Or.inr hq.1)
  · intro e he he0
    rcases (hG e).1 he with k | k
    · have := hp.2 e k he0
      omega
    · have := hq.2 e k he0
      omega

end HC

/-
  A small Hoare calculus for kernels that are compositions of link / unlink cores, reads and
  attribute writes: `Keeps n u p` says that a successful run of `p` from a well-formed 2-map with
  dart count `n` and removal flags `u` ends in a well-formed 2-map with the same `n` and `u`.
  Since `n` and `u` never change, "is a live dart" (`Live n u d`) is a state-independent fact and
  the calculus composes sequentially.  Used by C13, C14 (vertex insertion) and, for `Live` and `Inv`, C15.
-/
import Honeycomb.Lemmas.WFLink
import Honeycomb.Props.C01
import Honeycomb.Model.Kernels.Geom2

namespace HC
variable {X α β : Type}

structure Inv (n : Nat) (u : Array Bool) (m : Map X) : Prop where
  wf : WF 3 m
  n_eq : m.n = n
  u_eq : m.u = u

/-- non-null, existing, not removed — phrased on the fixed `n`, `u` -/
def Live (n : Nat) (u : Array Bool) (d : Nat) : Prop := d ≠ 0 ∧ d < n ∧ rd u d = false

theorem Inv.inUse {n : Nat} {u : Array Bool} {m : Map X} (h : Inv n u m) {d : Nat} (hd : Live n u d) :
    C01.InUse m d := by
  refine ⟨hd.1, by rw [h.n_eq]; exact hd.2.1, ?_⟩
  unfold Map.unused; rw [h.u_eq]; exact hd.2.2

theorem Inv.live_image {n : Nat} {u : Array Bool} {m : Map X} (h : Inv n u m) {i d : Nat} (hi : i < 3) (hd : d < n)
    (hne : m.β i d ≠ 0) : Live n u (m.β i d) := by
  obtain ⟨a, b, c⟩ := C01.inUse_image h.wf (by omega) hi (by rw [h.n_eq]; exact hd) hne
  refine ⟨a, by rw [← h.n_eq]; exact b, ?_⟩
  unfold Map.unused at c
  rw [h.u_eq] at c
  exact c

theorem Inv.of_wf {m : Map X} (h : WF 3 m) : Inv m.n m.u m := ⟨h, rfl, rfl⟩

theorem Inv.sameTopo {n : Nat} {u : Array Bool} {m m' : Map X} (h : Inv n u m) (st : SameTopo m m') : Inv n u m' :=
  ⟨h.wf.sameTopo st, by rw [st.n]; exact h.n_eq, by rw [st.u]; exact h.u_eq⟩

theorem Inv.lt {n : Nat} {u : Array Bool} {m : Map X} (h : Inv n u m) {i d : Nat} (hok : m.okβ i d = true) : i < 3 ∧ d < n := by
  have := (h.wf.toSized.okβ i d).1 hok
  rw [h.n_eq] at this; exact this

/-- the SOURCE of a non-null image is a live dart (`Inv.live_image`: the image is) -/
theorem Inv.live_source {n : Nat} {u : Array Bool} {m : Map X} (h : Inv n u m) {i d : Nat} (hi : i < 3) (hd : d < n) (hne : m.β i d ≠ 0) :
    Live n u d := by
  have hd' : d < m.n := by rw [h.n_eq]; exact hd
  refine ⟨fun h0 => hne (by rw [h0]; exact h.wf.null i hi), hd, ?_⟩
  have h2 : m.unused d = false := by
    cases hc : m.unused d
    · rfl
    · exact absurd (h.wf.unusedFree d hd' hc i hi) hne
  unfold Map.unused at h2; rw [h.u_eq] at h2; exact h2

def Keeps (n : Nat) (u : Array Bool) (p : P X α) : Prop :=
  ∀ (m m' : Map X) (a : α), Inv n u m → run p m = (.ok a, m') → Inv n u m'

namespace Keeps
variable {n : Nat} {u : Array Bool}

theorem pure (a : α) : Keeps n u (pure a : P X α) := by
  intro m m' b h hr; simp at hr; rw [← hr.2]; exact h

theorem ret (a : α) : Keeps n u (Prog.ret a : P X α) := pure a

theorem panic : Keeps n u (Prog.panic : P X α) := by
  intro m m' b _ hr; simp at hr

theorem bind {p : P X α} {f : α → P X β} (hp : Keeps n u p) (hf : ∀ a, Keeps n u (f a)) :
    Keeps n u (p.bind f) := by
  intro m m' b h hr
  obtain ⟨a, m1, h1, h2⟩ := run_bind_ok hr
  exact hf a _ _ b (hp _ _ a h h1) h2

theorem of_attrOnly {p : P X α} (hp : AttrOnly p) : Keeps n u p := by
  intro m m' a h hr
  have st := hp m; rw [hr] at st
  exact ⟨h.wf.sameTopo st, by rw [st.n]; exact h.n_eq, by rw [st.u]; exact h.u_eq⟩

theorem of_readOnly {p : P X α} (hp : ReadOnly p) : Keeps n u p := of_attrOnly (AttrOnly.of_readOnly hp)

theorem ro_bind {p : P X α} {f : α → P X β} (hp : ReadOnly p) (hf : ∀ a, Keeps n u (f a)) :
    Keeps n u (p.bind f) := bind (of_readOnly hp) hf

theorem rB_bind {i d : Nat} {f : Nat → P X β}
    (hf : ∀ x, i < 3 → d < n → x < n → (x ≠ 0 → Live n u x) → Keeps n u (f x)) :
    Keeps n u ((rB i d).bind f) := by
  intro m m' b h hr
  rw [run_rB] at hr
  by_cases hok : m.okβ i d = true
  · simp only [hok, if_true] at hr
    have hid := (h.wf.toSized.okβ i d).1 hok
    have hx : m.β i d < m.n := h.wf.range i hid.1 d hid.2
    have hd : d < n := by rw [← h.n_eq]; exact hid.2
    exact hf (m.β i d) hid.1 hd (by rw [← h.n_eq]; exact hx) (h.live_image hid.1 hd) m m' b h hr
  · simp [hok] at hr

theorem oneLinkCore {l r : Nat} (hl : Live n u l) (hr : Live n u r) :
    Keeps n u (HC.oneLinkCore (X := X) l r) := by
  intro m m' a h hrun
  have := C01.safe_oneLinkCore (X := X) l r m m' a h.wf ⟨h.inUse hl, h.inUse hr⟩ hrun
  obtain ⟨_, _, _, _, rfl⟩ := oneLinkCore_ok hrun
  exact ⟨this, h.n_eq, h.u_eq⟩

theorem twoLinkCore {l r : Nat} (hl : Live n u l) (hr : Live n u r) (hlr : l ≠ r) :
    Keeps n u (HC.iLinkCore (X := X) 2 l r) := by
  intro m m' a h hrun
  have := C01.safe_twoLinkCore (X := X) l r m m' a h.wf ⟨h.inUse hl, h.inUse hr, hlr⟩ hrun
  obtain ⟨_, _, _, _, rfl⟩ := iLinkCore_ok hrun
  exact ⟨this, h.n_eq, h.u_eq⟩

theorem oneUnlinkCore {l : Nat} (hl : Live n u l) : Keeps n u (HC.oneUnlinkCore (X := X) l) := by
  intro m m' a h hrun
  have := C01.safe_oneUnlinkCore (X := X) l m m' a h.wf (h.inUse hl) hrun
  obtain ⟨_, _, _, rfl⟩ := oneUnlinkCore_ok hrun
  exact ⟨this, h.n_eq, h.u_eq⟩

theorem twoUnlinkCore {l : Nat} (hl : Live n u l) : Keeps n u (HC.iUnlinkCore (X := X) 2 l) := by
  intro m m' a h hrun
  have := C01.safe_twoUnlinkCore (X := X) l m m' a h.wf (h.inUse hl) hrun
  obtain ⟨_, _, _, rfl⟩ := iUnlinkCore_ok hrun
  exact ⟨this, h.n_eq, h.u_eq⟩

end Keeps

/-- `Keeps` with a (state-independent) postcondition on the returned value -/
def KeepsR (n : Nat) (u : Array Bool) (p : P X α) (R : α → Prop) : Prop :=
  ∀ (m m' : Map X) (a : α), Inv n u m → run p m = (.ok a, m') → Inv n u m' ∧ R a

namespace KeepsR
variable {n : Nat} {u : Array Bool}

theorem pure {R : α → Prop} (a : α) (h : R a) : KeepsR n u (pure a : P X α) R := by
  intro m m' b hi hr; simp at hr; rw [← hr.2, ← hr.1]; exact ⟨hi, h⟩

theorem bind {p : P X α} {f : α → P X β} {R : α → Prop} (hp : KeepsR n u p R)
    (hf : ∀ a, R a → Keeps n u (f a)) : Keeps n u (p.bind f) := by
  intro m m' b h hr
  obtain ⟨a, m1, h1, h2⟩ := run_bind_ok hr
  obtain ⟨i1, ra⟩ := hp _ _ a h h1
  exact hf a ra _ _ b i1 h2

theorem bindR {p : P X α} {f : α → P X β} {R : α → Prop} {S : β → Prop} (hp : KeepsR n u p R)
    (hf : ∀ a, R a → KeepsR n u (f a) S) : KeepsR n u (p.bind f) S := by
  intro m m' b h hr
  obtain ⟨a, m1, h1, h2⟩ := run_bind_ok hr
  obtain ⟨i1, ra⟩ := hp _ _ a h h1
  exact hf a ra _ _ b i1 h2

theorem of_keeps {p : P X α} (hp : Keeps n u p) : KeepsR n u p (fun _ => True) :=
  fun m m' a h hr => ⟨hp m m' a h hr, trivial⟩

theorem keeps_bindR {p : P X α} {f : α → P X β} {S : β → Prop} (hp : Keeps n u p)
    (hf : ∀ a, KeepsR n u (f a) S) : KeepsR n u (p.bind f) S :=
  bindR (of_keeps hp) (fun a _ => hf a)

end KeepsR

theorem Live.of_inUse {m : Map X} {d : Nat} (h : C01.InUse m d) : Live m.n m.u d := h

/-- the outcome is `ok a` and the store is `m'`, compared field by field (a map has no decidable equality of its
    own); one kernel evaluation of `runIs (run p m) a m'` gives `run p m = (.ok a, m')` for all later uses -/
def runIs [DecidableEq X] [DecidableEq α] (r : Out Err α × Map X) (a : α) (m' : Map X) : Bool :=
  match r with
  | (.ok b, m) => b = a ∧ m.n = m'.n ∧ m.b = m'.b ∧ m.u = m'.u ∧ m.a = m'.a ∧ m.fc = m'.fc
  | _ => false

theorem eq_of_runIs [DecidableEq X] [DecidableEq α] {r : Out Err α × Map X} {a : α} {m' : Map X}
    (h : runIs r a m' = true) : r = (.ok a, m') := by
  obtain ⟨o, ⟨n, b, u, a', fc⟩⟩ := r
  obtain ⟨n', b', u', a'', fc'⟩ := m'
  cases o <;> simp [runIs] at h
  obtain ⟨rfl, rfl, rfl, rfl, rfl, rfl⟩ := h
  rfl

theorem attrOnly_writeVtx (d : Nat) (v : Val) : AttrOnly (writeVtx d v) := by
  unfold writeVtx
  refine AttrOnly.bind (AttrOnly.of_readOnly (ReadOnly.rA _ _)) fun _ => ?_
  exact AttrOnly.bind (AttrOnly.wA _ _ _) fun _ => AttrOnly.pure _

end HC

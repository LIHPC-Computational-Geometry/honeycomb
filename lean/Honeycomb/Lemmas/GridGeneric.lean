/-
  Generic theory of "regular grid" β tables (DESIGN.md Appendix A5), shared by the three builders
  of C12.

  A `Shape` describes a table of `K` rows (local darts) × `nb` columns (β_0 … β_{nb-1}); every entry
  is `(dir, o)`: the image is local dart `o` of the same cell (`dir = 0`) or of the neighbouring
  cell in direction `dir` (1 = x-, 2 = x+, 3 = y-, 4 = y+, 5 = z-, 6 = z+), and it is the null
  dart when that neighbour does not exist.  `absβ` is the β function such a table defines on an
  `nx × ny × nz` grid with the dart numbering of `grid.rs`.

  Main result: `absWF` — if the finite, decidable check `Shape.Ok` holds (β0/β1 inverse columns,
  every further column pairs `(dir, o)` at row `j` with `(opp dir, j)` at row `o`), then the map is
  well-formed (`WF nb`) for **all** `nx, ny, nz ≥ 1`.
-/
import Honeycomb.Model.Grid
import Honeycomb.Model.WF

namespace HC

/-! ## index arithmetic (Appendix A5) -/

theorem add_mul_lt {a n b m : Nat} (ha : a < n) (hb : b < m) : a + n * b < n * m := by
  have h1 : n * (b + 1) ≤ n * m := Nat.mul_le_mul_left n hb
  have h2 : n * (b + 1) = n * b + n := Nat.mul_succ n b
  omega

theorem add_mul_mod {a n : Nat} (b : Nat) (ha : a < n) : (a + n * b) % n = a := by
  rw [Nat.add_mul_mod_self_left, Nat.mod_eq_of_lt ha]

theorem add_mul_div {a n : Nat} (b : Nat) (ha : a < n) : (a + n * b) / n = b := by
  have hn : 0 < n := by omega
  rw [Nat.add_mul_div_left _ _ hn, Nat.div_eq_of_lt ha, Nat.zero_add]

/-- index of cell `(ix, iy, iz)` in iteration order (x fastest) -/
def cellIdx (nx ny ix iy iz : Nat) : Nat := ix + nx * (iy + ny * iz)

/-- local dart `o` (0-based) of cell `(ix, iy, iz)` with `K` darts per cell -/
def dartOf (K nx ny ix iy iz o : Nat) : Nat := 1 + K * cellIdx nx ny ix iy iz + o

section Idx
variable {K nx ny nz ix iy iz o : Nat}

theorem cellIdx_lt (hx : ix < nx) (hy : iy < ny) (hz : iz < nz) :
    cellIdx nx ny ix iy iz < nx * ny * nz := by
  unfold cellIdx
  have h1 : iy + ny * iz < ny * nz := add_mul_lt hy hz
  have h2 := add_mul_lt hx h1
  rwa [← Nat.mul_assoc] at h2

theorem cellIdx_x (hx : ix < nx) : cellIdx nx ny ix iy iz % nx = ix := add_mul_mod _ hx

theorem cellIdx_div (hx : ix < nx) : cellIdx nx ny ix iy iz / nx = iy + ny * iz := add_mul_div _ hx

theorem cellIdx_y (hx : ix < nx) (hy : iy < ny) : cellIdx nx ny ix iy iz / nx % ny = iy := by
  rw [cellIdx_div hx, add_mul_mod _ hy]

theorem cellIdx_z (hx : ix < nx) (hy : iy < ny) : cellIdx nx ny ix iy iz / (nx * ny) = iz := by
  rw [← Nat.div_div_eq_div_mul, cellIdx_div hx, add_mul_div _ hy]

theorem dartOf_cell (ho : o < K) : (dartOf K nx ny ix iy iz o - 1) / K = cellIdx nx ny ix iy iz := by
  unfold dartOf
  have : 1 + K * cellIdx nx ny ix iy iz + o - 1 = o + K * cellIdx nx ny ix iy iz := by omega
  rw [this]; exact add_mul_div _ ho

theorem dartOf_local (ho : o < K) : (dartOf K nx ny ix iy iz o - 1) % K = o := by
  unfold dartOf
  have : 1 + K * cellIdx nx ny ix iy iz + o - 1 = o + K * cellIdx nx ny ix iy iz := by omega
  rw [this]; exact add_mul_mod _ ho

theorem dartOf_pos : 1 ≤ dartOf K nx ny ix iy iz o := by unfold dartOf; omega

theorem dartOf_le (hx : ix < nx) (hy : iy < ny) (hz : iz < nz) (ho : o < K) :
    dartOf K nx ny ix iy iz o ≤ K * (nx * ny * nz) := by
  unfold dartOf
  have h := cellIdx_lt (nx := nx) (ny := ny) (nz := nz) hx hy hz
  have h1 : K * (cellIdx nx ny ix iy iz + 1) ≤ K * (nx * ny * nz) := Nat.mul_le_mul_left K h
  have h2 : K * (cellIdx nx ny ix iy iz + 1) = K * cellIdx nx ny ix iy iz + K := Nat.mul_succ _ _
  omega

theorem dartOf_local_inj {o' : Nat} : dartOf K nx ny ix iy iz o = dartOf K nx ny ix iy iz o' ↔ o = o' := by
  unfold dartOf
  omega

theorem dartOf_lt_of_cell {ix' iy' iz' o' : Nat} (ho : o < K)
    (h : cellIdx nx ny ix iy iz < cellIdx nx ny ix' iy' iz') :
    dartOf K nx ny ix iy iz o < dartOf K nx ny ix' iy' iz' o' := by
  unfold dartOf
  have := Nat.mul_le_mul_left K (Nat.succ_le_of_lt h)
  rw [Nat.mul_succ] at this
  omega

/-- two darts coincide only if cell and local index coincide -/
theorem dartOf_inj {ix' iy' iz' o' : Nat} (hx : ix < nx) (hy : iy < ny) (ho : o < K)
    (hx' : ix' < nx) (hy' : iy' < ny) (ho' : o' < K)
    (h : dartOf K nx ny ix iy iz o = dartOf K nx ny ix' iy' iz' o') :
    ix = ix' ∧ iy = iy' ∧ iz = iz' ∧ o = o' := by
  have hc : cellIdx nx ny ix iy iz = cellIdx nx ny ix' iy' iz' := by
    rw [← dartOf_cell (K := K) (o := o) ho, h, dartOf_cell ho']
  have hl : o = o' := by
    rw [← dartOf_local (K := K) (nx := nx) (ny := ny) (ix := ix) (iy := iy) (iz := iz) ho, h, dartOf_local ho']
  refine ⟨?_, ?_, ?_, hl⟩
  · rw [← cellIdx_x (ny := ny) (iy := iy) (iz := iz) hx, hc, cellIdx_x hx']
  · rw [← cellIdx_y (iz := iz) hx hy, hc, cellIdx_y hx' hy']
  · rw [← cellIdx_z (iz := iz) hx hy, hc, cellIdx_z hx' hy']

/-- every dart `1 ≤ d ≤ K·nx·ny·nz` is a local dart of a cell -/
theorem decode {d : Nat} (hK : 0 < K) (hx : 0 < nx) (hy : 0 < ny) (h1 : 1 ≤ d)
    (h2 : d ≤ K * (nx * ny * nz)) :
    ∃ ix iy iz o, ix < nx ∧ iy < ny ∧ iz < nz ∧ o < K ∧ d = dartOf K nx ny ix iy iz o := by
  refine ⟨(d - 1) / K % nx, (d - 1) / K / nx % ny, (d - 1) / K / nx / ny, (d - 1) % K,
    Nat.mod_lt _ hx, Nat.mod_lt _ hy, ?_, Nat.mod_lt _ hK, ?_⟩
  · have hc : (d - 1) / K < nx * ny * nz := by
      rw [Nat.div_lt_iff_lt_mul hK]
      have := Nat.mul_comm K (nx * ny * nz)
      omega
    rw [Nat.div_div_eq_div_mul, Nat.div_lt_iff_lt_mul (Nat.mul_pos hx hy), Nat.mul_comm]
    exact hc
  · unfold dartOf cellIdx
    have e1 := Nat.mod_add_div ((d - 1) / K) nx
    have e2 := Nat.mod_add_div ((d - 1) / K / nx) ny
    have e3 := Nat.div_add_mod (d - 1) K
    rw [e2, e1]
    omega

end Idx

theorem cellIdx_surj {n1 n2 n3 s : Nat} (h1 : 0 < n1) (h2 : 0 < n2) (hs : s < n1 * n2 * n3) :
    ∃ i j l, i < n1 ∧ j < n2 ∧ l < n3 ∧ cellIdx n1 n2 i j l = s := by
  obtain ⟨i, j, l, o, hi, hj, hl, ho, e⟩ := decode (K := 1) (nx := n1) (ny := n2) (nz := n3) (d := s + 1)
    (by decide) h1 h2 (by omega) (by omega)
  refine ⟨i, j, l, hi, hj, hl, ?_⟩
  unfold dartOf at e
  omega

/-! ## shapes -/

structure Shape where
  K : Nat
  nb : Nat
  ent : List (List (Nat × Nat))

/-- entry of row `j` (local dart), column `i` (β_i) -/
def Shape.at (S : Shape) (j i : Nat) : Nat × Nat := (S.ent.getD j []).getD i (0, 0)

/-- opposite direction -/
def opp : Nat → Nat
  | 0 => 0
  | 1 => 2
  | 2 => 1
  | 3 => 4
  | 4 => 3
  | 5 => 6
  | _ => 5

/-- the image described by entry `(dir, o)` seen from cell `(ix, iy, iz)` -/
def absEntry (K nx ny nz ix iy iz dir o : Nat) : Nat :=
  match dir with
  | 0 => dartOf K nx ny ix iy iz o
  | 1 => if ix = 0 then 0 else dartOf K nx ny (ix - 1) iy iz o
  | 2 => if ix + 1 = nx then 0 else dartOf K nx ny (ix + 1) iy iz o
  | 3 => if iy = 0 then 0 else dartOf K nx ny ix (iy - 1) iz o
  | 4 => if iy + 1 = ny then 0 else dartOf K nx ny ix (iy + 1) iz o
  | 5 => if iz = 0 then 0 else dartOf K nx ny ix iy (iz - 1) o
  | _ => if iz + 1 = nz then 0 else dartOf K nx ny ix iy (iz + 1) o

/-- the β function a shape defines on the `nx × ny × nz` grid -/
def absβ (S : Shape) (nx ny nz i d : Nat) : Nat :=
  let c := (d - 1) / S.K
  let e := S.at ((d - 1) % S.K) i
  absEntry S.K nx ny nz (c % nx) (c / nx % ny) (c / (nx * ny)) e.1 e.2

/-- the finite check: column 0/1 are inverse permutations inside the cell; every further column
    pairs `(dir, o)` at row `j` with `(opp dir, j)` at row `o`, without fixed points -/
def Shape.Ok (S : Shape) : Prop :=
  0 < S.K ∧ 3 ≤ S.nb ∧
  (∀ j, j < S.K → ∀ i, i < S.nb → (S.at j i).2 < S.K ∧ (S.at j i).1 ≤ 6) ∧
  (∀ j, j < S.K → (S.at j 0).1 = 0 ∧ (S.at j 1).1 = 0 ∧
      (S.at (S.at j 1).2 0).2 = j ∧ (S.at (S.at j 0).2 1).2 = j) ∧
  (∀ j, j < S.K → ∀ i, i < S.nb → 2 ≤ i →
      S.at (S.at j i).2 i = (opp (S.at j i).1, j) ∧ ((S.at j i).1 = 0 → (S.at j i).2 ≠ j))

set_option synthInstance.maxSize 4096 in
set_option synthInstance.maxHeartbeats 400000 in
instance (S : Shape) : Decidable S.Ok := by unfold Shape.Ok; exact inferInstance

/-- neighbour relation: `(ix', iy', iz')` is the cell reached from `(ix, iy, iz)` in direction `dir` -/
def Nbr (dir ix iy iz ix' iy' iz' : Nat) : Prop :=
  match dir with
  | 0 => ix' = ix ∧ iy' = iy ∧ iz' = iz
  | 1 => ix' + 1 = ix ∧ iy' = iy ∧ iz' = iz
  | 2 => ix' = ix + 1 ∧ iy' = iy ∧ iz' = iz
  | 3 => ix' = ix ∧ iy' + 1 = iy ∧ iz' = iz
  | 4 => ix' = ix ∧ iy' = iy + 1 ∧ iz' = iz
  | 5 => ix' = ix ∧ iy' = iy ∧ iz' + 1 = iz
  | _ => ix' = ix ∧ iy' = iy ∧ iz' = iz + 1

section Abs
variable {K nx ny nz ix iy iz : Nat}

theorem dir_cases {dir : Nat} (h : dir ≤ 6) :
    dir = 0 ∨ dir = 1 ∨ dir = 2 ∨ dir = 3 ∨ dir = 4 ∨ dir = 5 ∨ dir = 6 := by omega

/-- an entry is null or a dart of the (existing) neighbour cell -/
theorem absEntry_cases (hx : ix < nx) (hy : iy < ny) (hz : iz < nz) {dir : Nat} (hd : dir ≤ 6) (o : Nat) :
    absEntry K nx ny nz ix iy iz dir o = 0 ∨
    ∃ ix' iy' iz', ix' < nx ∧ iy' < ny ∧ iz' < nz ∧ Nbr dir ix iy iz ix' iy' iz' ∧
      absEntry K nx ny nz ix iy iz dir o = dartOf K nx ny ix' iy' iz' o := by
  rcases dir_cases hd with h | h | h | h | h | h | h <;> subst h <;> simp only [absEntry, Nbr]
  · exact Or.inr ⟨ix, iy, iz, hx, hy, hz, ⟨rfl, rfl, rfl⟩, rfl⟩
  · by_cases h : ix = 0
    · exact Or.inl (if_pos h)
    · exact Or.inr ⟨ix - 1, iy, iz, by omega, hy, hz, ⟨by omega, rfl, rfl⟩, if_neg h⟩
  · by_cases h : ix + 1 = nx
    · exact Or.inl (if_pos h)
    · exact Or.inr ⟨ix + 1, iy, iz, by omega, hy, hz, ⟨rfl, rfl, rfl⟩, if_neg h⟩
  · by_cases h : iy = 0
    · exact Or.inl (if_pos h)
    · exact Or.inr ⟨ix, iy - 1, iz, hx, by omega, hz, ⟨rfl, by omega, rfl⟩, if_neg h⟩
  · by_cases h : iy + 1 = ny
    · exact Or.inl (if_pos h)
    · exact Or.inr ⟨ix, iy + 1, iz, hx, by omega, hz, ⟨rfl, rfl, rfl⟩, if_neg h⟩
  · by_cases h : iz = 0
    · exact Or.inl (if_pos h)
    · exact Or.inr ⟨ix, iy, iz - 1, hx, hy, by omega, ⟨rfl, rfl, by omega⟩, if_neg h⟩
  · by_cases h : iz + 1 = nz
    · exact Or.inl (if_pos h)
    · exact Or.inr ⟨ix, iy, iz + 1, hx, hy, by omega, ⟨rfl, rfl, rfl⟩, if_neg h⟩

/-- the back link: from the neighbour, the opposite direction leads back -/
theorem absEntry_back {ix' iy' iz' : Nat} (hx : ix < nx) (hy : iy < ny) (hz : iz < nz) {dir : Nat}
    (hd : dir ≤ 6) (h : Nbr dir ix iy iz ix' iy' iz') (o : Nat) :
    absEntry K nx ny nz ix' iy' iz' (opp dir) o = dartOf K nx ny ix iy iz o := by
  rcases dir_cases hd with e | e | e | e | e | e | e <;> subst e <;> simp only [Nbr] at h <;>
    obtain ⟨h1, h2, h3⟩ := h <;> subst_vars <;> simp only [absEntry, opp]
  · exact if_neg (by omega)
  · rw [if_neg (Nat.succ_ne_zero ix), Nat.add_sub_cancel]
  · exact if_neg (by omega)
  · rw [if_neg (Nat.succ_ne_zero iy), Nat.add_sub_cancel]
  · exact if_neg (by omega)
  · rw [if_neg (Nat.succ_ne_zero iz), Nat.add_sub_cancel]

theorem Nbr_ne {ix' iy' iz' dir : Nat} (hd : dir ≤ 6) (h0 : dir ≠ 0)
    (h : Nbr dir ix iy iz ix' iy' iz') : ¬ (ix = ix' ∧ iy = iy' ∧ iz = iz') := by
  rcases dir_cases hd with e | e | e | e | e | e | e <;> subst e <;> simp only [Nbr] at h <;> omega

theorem absEntry_nbr {K nx ny nz a b c a' b' c' dir : Nat} (hd1 : 1 ≤ dir) (hd : dir ≤ 6)
    (h : Nbr dir a b c a' b' c') (ha' : a' < nx) (hb' : b' < ny) (hc' : c' < nz) (o : Nat) :
    absEntry K nx ny nz a b c dir o = dartOf K nx ny a' b' c' o := by
  rcases dir_cases hd with e | e | e | e | e | e | e <;> subst e <;> simp only [Nbr] at h <;>
    obtain ⟨h1, h2, h3⟩ := h <;> subst_vars
  · omega
  all_goals simp only [absEntry, Nat.add_sub_cancel, Nat.succ_ne_zero, Nat.ne_of_lt ha', Nat.ne_of_lt hb',
    Nat.ne_of_lt hc', if_false]

theorem absEntry_eq_zero {K nx ny nz a b c dir o : Nat} (h1 : 1 ≤ dir) (h6 : dir ≤ 6) :
    absEntry K nx ny nz a b c dir o = 0 ↔
      ((dir = 1 ∧ a = 0) ∨ (dir = 2 ∧ a + 1 = nx) ∨ (dir = 3 ∧ b = 0) ∨ (dir = 4 ∧ b + 1 = ny) ∨
       (dir = 5 ∧ c = 0) ∨ (dir = 6 ∧ c + 1 = nz)) := by
  have key : ∀ (p : Prop) [Decidable p] (x y z : Nat), (if p then 0 else dartOf K nx ny x y z o) = 0 ↔ p := by
    intro p _ x y z
    split
    · exact iff_of_true rfl ‹_›
    · exact iff_of_false (Nat.ne_of_gt dartOf_pos) ‹_›
  rcases dir_cases h6 with e | e | e | e | e | e | e <;> subst e <;>
    simp only [absEntry, key, Nat.reduceEqDiff, true_and, false_and, or_false, false_or]
  omega

theorem absβ_dartOf (S : Shape) (hx : ix < nx) (hy : iy < ny) {o : Nat} (ho : o < S.K) (i : Nat) :
    absβ S nx ny nz i (dartOf S.K nx ny ix iy iz o) =
      absEntry S.K nx ny nz ix iy iz (S.at o i).1 (S.at o i).2 := by
  unfold absβ
  simp only [dartOf_cell ho, dartOf_local ho, cellIdx_x hx, cellIdx_y hx hy, cellIdx_z hx hy]

end Abs

/-! ## the grid map and its well-formedness -/

theorem gridMap_n (nb nd : Nat) (β : Nat → Nat → Nat) : (gridMap nb nd β).n = nd + 1 := rfl

theorem gridMap_β (nb nd : Nat) (β : Nat → Nat → Nat) (i d : Nat) :
    (gridMap nb nd β).β i d = if i < nb ∧ d ≤ nd ∧ d ≠ 0 then β i d else 0 := by
  unfold Map.β gridMap
  simp only
  by_cases hi : i < nb
  · rw [rd_tab _ _ _ hi]
    by_cases hd : d < nd + 1
    · rw [rd_tab _ _ _ hd]
      by_cases h0 : d = 0
      · simp [h0]
      · have : d ≤ nd := by omega
        simp [hi, h0, this]
    · have e : rd (tab (nd + 1) fun d => if d = 0 then 0 else β i d) d = default :=
        rd_oob _ _ (by rw [size_tab]; omega)
      rw [e]
      have : ¬ d ≤ nd := by omega
      simp [this]
  · have e : rd (tab nb fun i => tab (nd + 1) fun d => if d = 0 then 0 else β i d) i = default :=
      rd_oob _ _ (by rw [size_tab]; omega)
    rw [e]
    simp only [hi, false_and, if_false]
    exact rd_oob (default : Array Nat) d (Nat.zero_le _)

theorem gridMap_unused (nb nd : Nat) (β : Nat → Nat → Nat) (d : Nat) :
    (gridMap nb nd β).unused d = false := by
  unfold Map.unused gridMap Map.empty
  simp only
  by_cases h : d < nd + 1
  · exact rd_replicate _ _ _ h
  · exact rd_oob _ _ (by simp; omega)

theorem gridMap_sized (nb nd : Nat) (β : Nat → Nat → Nat) : Sized nb (gridMap nb nd β) where
  npos := by rw [gridMap_n]; omega
  rows := by unfold gridMap; simp only; exact size_tab _ _
  row := by
    intro i hi
    unfold gridMap
    simp only
    rw [rd_tab _ _ _ hi, size_tab]
    rfl
  usz := by unfold gridMap Map.empty; simp
  asz := by
    intro s hs
    have hs' : s < 6 := by
      unfold gridMap Map.empty at hs
      simpa using hs
    show nd + 1 ≤ (rd ((Array.replicate 6 (Array.replicate (nd + 1 + 1) none)).setIfInBounds 0
      (Array.replicate (nd + 1) none)) s).size
    have : (Array.replicate 6 (Array.replicate (nd + 1 + 1) (none : Option Val))).setIfInBounds 0
        (Array.replicate (nd + 1) none) = wr (Array.replicate 6 (Array.replicate (nd + 1 + 1) none)) 0
        (Array.replicate (nd + 1) none) := rfl
    rw [this, rd_wr]
    by_cases h0 : 0 = s
    · simp [h0.symm]
    · simp only [h0, false_and, if_false]
      rw [rd_replicate _ _ _ hs']
      simp

theorem gridMap_att_none (nb nd : Nat) (β : Nat → Nat → Nat) (s : Nat) : (gridMap nb nd β).att 0 s = none := by
  show rd (rd (Map.empty nb 6 (nd + 1) : Map Val).a 0) s = none
  unfold Map.empty
  simp only
  have : (Array.replicate 6 (Array.replicate (nd + 1 + 1) (none : Option Val))).setIfInBounds 0
      (Array.replicate (nd + 1) none) = wr (Array.replicate 6 (Array.replicate (nd + 1 + 1) none)) 0
      (Array.replicate (nd + 1) none) := rfl
  rw [this, rd_wr]
  simp only [Array.size_replicate, true_and, if_true, Nat.zero_lt_succ]
  by_cases h : s < nd + 1
  · exact rd_replicate _ _ _ h
  · exact rd_oob _ _ (by simp; omega)

theorem gridMap_β_dartOf {nb nd K nx ny nz ix iy iz o i : Nat} (β : Nat → Nat → Nat)
    (hnd : nd = K * (nx * ny * nz)) (hx : ix < nx) (hy : iy < ny) (hz : iz < nz) (ho : o < K) (hi : i < nb) :
    (gridMap nb nd β).β i (dartOf K nx ny ix iy iz o) = β i (dartOf K nx ny ix iy iz o) := by
  have h1 := dartOf_le hx hy hz ho
  have h2 : dartOf K nx ny ix iy iz o ≠ 0 := Nat.ne_of_gt dartOf_pos
  rw [gridMap_β, hnd, if_pos ⟨hi, h1, h2⟩]

theorem tab_congr {α : Type} (n : Nat) (f g : Nat → α) (h : ∀ i, i < n → f i = g i) : tab n f = tab n g := by
  unfold tab
  congr 1
  funext i
  exact h i.val i.isLt

theorem gridMap_congr (nb nd : Nat) (β β' : Nat → Nat → Nat)
    (h : ∀ i, i < nb → ∀ d, 1 ≤ d → d ≤ nd → β i d = β' i d) : gridMap nb nd β = gridMap nb nd β' := by
  have e : (tab nb fun i => tab (nd + 1) fun d => if d = 0 then 0 else β i d) =
      (tab nb fun i => tab (nd + 1) fun d => if d = 0 then 0 else β' i d) := by
    apply tab_congr
    intro i hi
    apply tab_congr
    intro d hd
    by_cases h0 : d = 0
    · simp [h0]
    · simp only [h0, if_false]
      exact h i hi d (by omega) (by omega)
  unfold gridMap
  rw [e]

theorem Shape.gridMap_eq (S : Shape) (hK : 0 < S.K) {nx ny nz nd : Nat} {β : Nat → Nat → Nat}
    (hnd : nd = S.K * (nx * ny * nz)) (hnx : 0 < nx) (hny : 0 < ny)
    (hβ : ∀ {ix iy iz o i}, ix < nx → iy < ny → iz < nz → o < S.K → i < S.nb →
      β i (dartOf S.K nx ny ix iy iz o) = absEntry S.K nx ny nz ix iy iz (S.at o i).1 (S.at o i).2) :
    gridMap S.nb nd β = gridMap S.nb (S.K * (nx * ny * nz)) (absβ S nx ny nz) := by
  subst hnd
  apply gridMap_congr
  intro i hi d h1 h2
  obtain ⟨ix, iy, iz, o, hx, hy, hz, ho, rfl⟩ := decode hK hnx hny h1 h2
  rw [absβ_dartOf S hx hy ho, hβ hx hy hz ho hi]

/-- the abstract grid map is well-formed for every size -/
theorem absWF (S : Shape) (hS : S.Ok) {nx ny nz : Nat} (hnx : 0 < nx) (hny : 0 < ny) :
    WF S.nb (gridMap S.nb (S.K * (nx * ny * nz)) (absβ S nx ny nz)) := by
  obtain ⟨hK, hnb, hbound, h01, hinv⟩ := hS
  have sized := gridMap_sized S.nb (S.K * (nx * ny * nz)) (absβ S nx ny nz)
  have hβ : ∀ i, i < S.nb → ∀ ix iy iz o, ix < nx → iy < ny → iz < nz → o < S.K →
      (gridMap S.nb (S.K * (nx * ny * nz)) (absβ S nx ny nz)).β i (dartOf S.K nx ny ix iy iz o) =
        absEntry S.K nx ny nz ix iy iz (S.at o i).1 (S.at o i).2 := by
    intro i hi ix iy iz o hx hy hz ho
    rw [gridMap_β_dartOf _ rfl hx hy hz ho hi, absβ_dartOf S hx hy ho i]
  have hdec : ∀ d, d < (gridMap S.nb (S.K * (nx * ny * nz)) (absβ S nx ny nz)).n → d ≠ 0 →
      ∃ ix iy iz o, ix < nx ∧ iy < ny ∧ iz < nz ∧ o < S.K ∧ d = dartOf S.K nx ny ix iy iz o := by
    intro d hd h0
    rw [gridMap_n] at hd
    exact decode hK hnx hny (by omega) (by omega)
  have hnull : ∀ i, (gridMap S.nb (S.K * (nx * ny * nz)) (absβ S nx ny nz)).β i 0 = 0 := by
    intro i; rw [gridMap_β]; simp
  refine { toSized := sized, null := fun i _ => hnull i, range := ?_, inv01 := ?_, inv10 := ?_,
           invol := ?_, unusedFree := ?_ }
  · intro i hi d hd
    by_cases h0 : d = 0
    · subst h0; rw [hnull]; exact sized.npos
    · obtain ⟨ix, iy, iz, o, hx, hy, hz, ho, rfl⟩ := hdec d hd h0
      rw [hβ i hi ix iy iz o hx hy hz ho, gridMap_n]
      have hb := hbound o ho i hi
      rcases absEntry_cases (K := S.K) hx hy hz hb.2 (S.at o i).2 with h | ⟨ix', iy', iz', hx', hy', hz', _, h⟩
      · rw [h]; omega
      · rw [h]
        have := dartOf_le (K := S.K) hx' hy' hz' hb.1
        omega
  · intro d hd hne
    have h0 : d ≠ 0 := by intro h; subst h; exact hne (hnull 1)
    obtain ⟨ix, iy, iz, o, hx, hy, hz, ho, rfl⟩ := hdec d hd h0
    obtain ⟨_, e1, e2, _⟩ := h01 o ho
    have hb := hbound o ho 1 (by omega)
    rw [hβ 1 (by omega) ix iy iz o hx hy hz ho, e1]
    simp only [absEntry]
    rw [hβ 0 (by omega) ix iy iz _ hx hy hz hb.1]
    obtain ⟨e3, _, _, _⟩ := h01 _ hb.1
    rw [e3, e2]
    simp only [absEntry]
  · intro d hd hne
    have h0 : d ≠ 0 := by intro h; subst h; exact hne (hnull 0)
    obtain ⟨ix, iy, iz, o, hx, hy, hz, ho, rfl⟩ := hdec d hd h0
    obtain ⟨e1, _, _, e2⟩ := h01 o ho
    have hb := hbound o ho 0 (by omega)
    rw [hβ 0 (by omega) ix iy iz o hx hy hz ho, e1]
    simp only [absEntry]
    rw [hβ 1 (by omega) ix iy iz _ hx hy hz hb.1]
    obtain ⟨_, e3, _, _⟩ := h01 _ hb.1
    rw [e3, e2]
    simp only [absEntry]
  · intro i hi h2 d hd hne
    have h0 : d ≠ 0 := by intro h; subst h; exact hne (hnull i)
    obtain ⟨ix, iy, iz, o, hx, hy, hz, ho, rfl⟩ := hdec d hd h0
    have hb := hbound o ho i hi
    obtain ⟨hpair, hfix⟩ := hinv o ho i hi h2
    rw [hβ i hi ix iy iz o hx hy hz ho] at hne ⊢
    rcases absEntry_cases (K := S.K) hx hy hz hb.2 (S.at o i).2 with h | ⟨ix', iy', iz', hx', hy', hz', hn, h⟩
    · exact absurd h hne
    · rw [h, hβ i hi ix' iy' iz' _ hx' hy' hz' hb.1, hpair]
      simp only
      refine ⟨absEntry_back hx hy hz hb.2 hn o, ?_⟩
      intro heq
      obtain ⟨a, b, c, e⟩ := dartOf_inj hx' hy' hb.1 hx hy ho heq
      by_cases hd0 : (S.at o i).1 = 0
      · exact hfix hd0 e
      · exact Nbr_ne hb.2 hd0 hn ⟨a.symm, b.symm, c.symm⟩
  · intro d _ hu
    rw [gridMap_unused] at hu
    exact absurd hu (by simp)

end HC

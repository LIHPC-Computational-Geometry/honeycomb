/-
  β-level effect of the 2-D sews and link cores, as updates of the β *function* `m.β : Nat → Nat → Nat`.

  A successful sew / unsew is its link core followed by attribute moves that do not touch the topology
  (`topo_*` of Lemmas/SewOf), so the β images after the call are those after the core.  The images are stated as
  `upd`-chains on the function `m.β`, so that straight-line kernels (swap, cuts and collapse of C15; through Lemmas/KernelWF2 the kernels of C13, C14 and
  C16EdgeInsert) can be executed symbolically: the final β function is a closed expression in the initial one, evaluated at
  the named darts one update at a time from pairwise distinctness.
-/
import Honeycomb.Lemmas.SewOf
import Honeycomb.Lemmas.WFLink


namespace HC
variable {X : Type}

/-- `f` with the image of `(i, d)` replaced by `v` -/
def upd (f : Nat → Nat → Nat) (i d v : Nat) : Nat → Nat → Nat := fun j e => if i = j ∧ d = e then v else f j e

theorem upd_apply (f : Nat → Nat → Nat) (i d v j e : Nat) :
    upd f i d v j e = if i = j ∧ d = e then v else f j e := rfl

/-- β function after `one_link_core(l, r)` -/
def lnk1 (f : Nat → Nat → Nat) (l r : Nat) : Nat → Nat → Nat := upd (upd f 1 l r) 0 r l
/-- β function after `one_unlink_core(l)` -/
def unl1 (f : Nat → Nat → Nat) (l : Nat) : Nat → Nat → Nat := upd (upd f 1 l 0) 0 (f 1 l) 0
/-- β function after `two_link_core(l, r)` -/
def lnk2 (f : Nat → Nat → Nat) (l r : Nat) : Nat → Nat → Nat := upd (upd f 2 l r) 2 r l
/-- β function after `two_unlink_core(l)` -/
def unl2 (f : Nat → Nat → Nat) (l : Nat) : Nat → Nat → Nat := upd (upd f 2 l 0) 2 (f 2 l) 0

/-! ## the four updates, image by image

One lemma per update and dimension, plus a frame lemma for the darts an update does not name.  With the pairwise
distinctness of the named darts in both orientations (`nodup_cons_ne`) `simp only` evaluates a composed update at a
named dart without ever building the tree of undecided tests.  The calls list `↓reduceIte`: `simp only` alone does
not decide a test before it simplifies the two branches. -/

theorem lnk1_zero' (f : Nat → Nat → Nat) (l r z : Nat) : lnk1 f l r 0 z = if r = z then l else f 0 z := by
  simp [lnk1, upd_apply]
theorem lnk1_one' (f : Nat → Nat → Nat) (l r z : Nat) : lnk1 f l r 1 z = if l = z then r else f 1 z := by
  simp [lnk1, upd_apply]
theorem lnk1_two' (f : Nat → Nat → Nat) (l r z : Nat) : lnk1 f l r 2 z = f 2 z := by simp [lnk1, upd_apply]
theorem unl1_zero' (f : Nat → Nat → Nat) (l z : Nat) : unl1 f l 0 z = if f 1 l = z then 0 else f 0 z := by
  simp [unl1, upd_apply]
theorem unl1_one' (f : Nat → Nat → Nat) (l z : Nat) : unl1 f l 1 z = if l = z then 0 else f 1 z := by
  simp [unl1, upd_apply]
theorem unl1_two' (f : Nat → Nat → Nat) (l z : Nat) : unl1 f l 2 z = f 2 z := by simp [unl1, upd_apply]
theorem lnk2_zero' (f : Nat → Nat → Nat) (l r z : Nat) : lnk2 f l r 0 z = f 0 z := by simp [lnk2, upd_apply]
theorem lnk2_one' (f : Nat → Nat → Nat) (l r z : Nat) : lnk2 f l r 1 z = f 1 z := by simp [lnk2, upd_apply]
theorem lnk2_two' (f : Nat → Nat → Nat) (l r z : Nat) :
    lnk2 f l r 2 z = if r = z then l else if l = z then r else f 2 z := by simp [lnk2, upd_apply]
theorem unl2_zero' (f : Nat → Nat → Nat) (l z : Nat) : unl2 f l 0 z = f 0 z := by simp [unl2, upd_apply]
theorem unl2_one' (f : Nat → Nat → Nat) (l z : Nat) : unl2 f l 1 z = f 1 z := by simp [unl2, upd_apply]
theorem unl2_two' (f : Nat → Nat → Nat) (l z : Nat) :
    unl2 f l 2 z = if f 2 l = z then 0 else if l = z then 0 else f 2 z := by simp [unl2, upd_apply]

theorem lnk1_frame {f : Nat → Nat → Nat} {l r i z : Nat} (h1 : l ≠ z) (h2 : r ≠ z) : lnk1 f l r i z = f i z := by
  simp [lnk1, upd_apply, h1, h2]
theorem unl1_frame {f : Nat → Nat → Nat} {l i z : Nat} (h1 : l ≠ z) (h2 : f 1 l ≠ z) : unl1 f l i z = f i z := by
  simp [unl1, upd_apply, h1, h2]
theorem lnk2_frame {f : Nat → Nat → Nat} {l r i z : Nat} (h1 : l ≠ z) (h2 : r ≠ z) : lnk2 f l r i z = f i z := by
  simp [lnk2, upd_apply, h1, h2]
theorem unl2_frame {f : Nat → Nat → Nat} {l i z : Nat} (h1 : l ≠ z) (h2 : f 2 l ≠ z) : unl2 f l i z = f i z := by
  simp [unl2, upd_apply, h1, h2]

theorem not_mem_ne {a : Nat} {l : List Nat} : a ∉ l ↔ ∀ b ∈ l, a ≠ b ∧ b ≠ a :=
  ⟨fun h _ hb => ⟨fun e => h (e ▸ hb), fun e => h (e ▸ hb)⟩, fun h hm => (h a hm).1 rfl⟩

theorem nodup_cons_ne {a : Nat} {l : List Nat} : (a :: l).Nodup ↔ (∀ b ∈ l, a ≠ b ∧ b ≠ a) ∧ l.Nodup := by
  rw [List.nodup_cons, not_mem_ne]

/-- `l → a → b → l` is a closed β1-triangle of `f`: the three β1 images and the three β0 images -/
structure Tri (f : Nat → Nat → Nat) (l a b : Nat) : Prop where
  l1 : f 1 l = a
  a1 : f 1 a = b
  b1 : f 1 b = l
  a0 : f 0 a = l
  b0 : f 0 b = a
  l0 : f 0 l = b

theorem Tri.of_wf {m : Map X} (hwf : WF 3 m) {e : Nat} (he : e < m.n) (htri : m.β 1 (m.β 1 e) = m.β 0 e)
    (hb : m.β 0 e ≠ 0) : Tri m.β e (m.β 1 e) (m.β 0 e) := by
  have a0 : m.β 1 e ≠ 0 := fun hh => hb (by rw [← htri, hh]; exact hwf.null 1 (by omega))
  have ha : m.β 1 e < m.n := hwf.range 1 (by omega) e he
  refine ⟨rfl, htri, hwf.inv10 e he hb, hwf.inv01 e he a0, ?_, rfl⟩
  rw [← htri]
  exact hwf.inv01 _ ha (by rw [htri]; exact hb)

/-- what a topology-changing step preserves besides its β update -/
structure Step (m m' : Map X) (g : Nat → Nat → Nat) : Prop where
  β : m'.β = g
  n : m'.n = m.n
  u : m'.u = m.u

theorem β_of_sameTopo {m m' : Map X} (st : SameTopo m m') : m'.β = m.β :=
  funext fun i => funext fun d => st.β i d

theorem Step.sameTopo {m m1 m' : Map X} {g : Nat → Nat → Nat} (h : Step m m1 g) (st : SameTopo m1 m') : Step m m' g :=
  ⟨by rw [β_of_sameTopo st]; exact h.β, by rw [st.n]; exact h.n, by rw [st.u]; exact h.u⟩

theorem β_setβ_ok (m : Map X) {i d : Nat} (v : Nat) (hok : m.okβ i d = true) : (m.setβ i d v).β = upd m.β i d v := by
  funext j e
  rw [Map.β_setβ, upd_apply]
  simp [hok]

theorem step_oneLinkCore {l r : Nat} {m m' : Map X} {a : Unit} (h : run (oneLinkCore (X := X) l r) m = (.ok a, m')) :
    m.β 1 l = 0 ∧ m.β 0 r = 0 ∧ Step m m' (lnk1 m.β l r) := by
  obtain ⟨o1, o0, h1, h0, rfl⟩ := oneLinkCore_ok h
  refine ⟨h1, h0, ?_, rfl, rfl⟩
  unfold Map.link1
  rw [β_setβ_ok _ _ (by rw [Map.okβ_setβ]; exact o0), β_setβ_ok _ _ o1]
  rfl

theorem step_twoLinkCore {l r : Nat} {m m' : Map X} {a : Unit} (h : run (iLinkCore (X := X) 2 l r) m = (.ok a, m')) :
    m.β 2 l = 0 ∧ m.β 2 r = 0 ∧ Step m m' (lnk2 m.β l r) := by
  obtain ⟨o1, o0, h1, h0, rfl⟩ := iLinkCore_ok h
  refine ⟨h1, h0, ?_, rfl, rfl⟩
  unfold Map.linkI
  rw [β_setβ_ok _ _ (by rw [Map.okβ_setβ]; exact o0), β_setβ_ok _ _ o1]
  rfl

theorem step_oneUnlinkCore {l : Nat} {m m' : Map X} {a : Unit} (h : run (oneUnlinkCore (X := X) l) m = (.ok a, m')) :
    m.β 1 l ≠ 0 ∧ Step m m' (unl1 m.β l) := by
  obtain ⟨o1, o0, hne, rfl⟩ := oneUnlinkCore_ok h
  refine ⟨hne, ?_, rfl, rfl⟩
  unfold Map.unlink1
  rw [β_setβ_ok _ _ (by rw [Map.okβ_setβ]; exact o0), β_setβ_ok _ _ o1]
  rfl

theorem step_twoUnlinkCore {l : Nat} {m m' : Map X} {a : Unit} (h : run (iUnlinkCore (X := X) 2 l) m = (.ok a, m')) :
    m.β 2 l ≠ 0 ∧ Step m m' (unl2 m.β l) := by
  obtain ⟨o1, o0, hne, rfl⟩ := iUnlinkCore_ok h
  refine ⟨hne, ?_, rfl, rfl⟩
  unfold Map.unlinkI
  rw [β_setβ_ok _ _ (by rw [Map.okβ_setβ]; exact o0), β_setβ_ok _ _ o1]
  rfl

/-! ## β effect of the four sews -/

theorem step_oneSew2 {cfg : Cfg X} {n l r : Nat} {m m' : Map X} {a : Unit} (h : run (oneSew2 cfg n l r) m = (.ok a, m')) :
    m.β 1 l = 0 ∧ m.β 0 r = 0 ∧ Step m m' (lnk1 m.β l r) := by
  obtain ⟨m1, h1, st⟩ := (topo_oneSew2 cfg n l r).ok h
  obtain ⟨p1, p2, s⟩ := step_oneLinkCore h1
  exact ⟨p1, p2, s.sameTopo st⟩

theorem step_oneUnsew2 {cfg : Cfg X} {n l : Nat} {m m' : Map X} {a : Unit} (h : run (oneUnsew2 cfg n l) m = (.ok a, m')) :
    m.β 1 l ≠ 0 ∧ Step m m' (unl1 m.β l) := by
  obtain ⟨m1, h1, st⟩ := (topo_oneUnsew2 cfg n l).ok h
  obtain ⟨p1, s⟩ := step_oneUnlinkCore h1
  exact ⟨p1, s.sameTopo st⟩

theorem step_twoSew2 {cfg : Cfg X} {n l r : Nat} {m m' : Map X} {a : Unit} (h : run (twoSew2 cfg n l r) m = (.ok a, m')) :
    m.β 2 l = 0 ∧ m.β 2 r = 0 ∧ Step m m' (lnk2 m.β l r) := by
  obtain ⟨m1, h1, st⟩ := (topo_twoSew2 cfg n l r).ok h
  obtain ⟨p1, p2, s⟩ := step_twoLinkCore h1
  exact ⟨p1, p2, s.sameTopo st⟩

theorem step_twoUnsew2 {cfg : Cfg X} {n l : Nat} {m m' : Map X} {a : Unit} (h : run (twoUnsew2 cfg n l) m = (.ok a, m')) :
    m.β 2 l ≠ 0 ∧ Step m m' (unl2 m.β l) := by
  obtain ⟨m1, h1, st⟩ := (topo_twoUnsew2 cfg n l).ok h
  obtain ⟨p1, s⟩ := step_twoUnlinkCore h1
  exact ⟨p1, s.sameTopo st⟩

theorem step_attrOnly {α : Type} {p : P X α} (hp : AttrOnly p) {m m' : Map X} {a : α} (h : run p m = (.ok a, m')) :
    Step m m' m.β := by
  have st := hp m; rw [h] at st
  exact ⟨β_of_sameTopo st, st.n, st.u⟩

/-- chaining: a step from `m1` expressed on `m1.β`, rewritten on the initial β function -/
theorem Step.trans {m m1 m2 : Map X} {g : Nat → Nat → Nat} {F : (Nat → Nat → Nat) → Nat → Nat → Nat}
    (h1 : Step m m1 g) (h2 : Step m1 m2 (F m1.β)) : Step m m2 (F g) :=
  ⟨by rw [h2.β, h1.β], by rw [h2.n, h1.n], by rw [h2.u, h1.u]⟩

/-! ## symbolic execution: the β function after a straight-line kernel -/

/-- every successful run of `p` turns the β function `f` into `F f` (and keeps `n` and the flags) -/
def Eff {α : Type} (p : P X α) (F : (Nat → Nat → Nat) → Nat → Nat → Nat) : Prop :=
  ∀ m m' a, run p m = (.ok a, m') → Step m m' (F m.β)

namespace Eff
variable {α β : Type}

theorem bind {p : P X α} {q : α → P X β} {F G : (Nat → Nat → Nat) → Nat → Nat → Nat}
    (hp : Eff p F) (hq : ∀ a, Eff (q a) G) : Eff (p.bind q) (fun f => G (F f)) := by
  intro m m' b h
  obtain ⟨a, m1, h1, h2⟩ := run_bind_ok h
  have s1 := hp m m1 a h1
  have s2 := hq a m1 m' b h2
  exact Step.trans (F := G) s1 s2

theorem attr {p : P X α} (hp : AttrOnly p) : Eff p (fun f => f) := fun _ _ _ h => step_attrOnly hp h

theorem ro {p : P X α} (hp : ReadOnly p) : Eff p (fun f => f) := attr (AttrOnly.of_readOnly hp)

theorem attr_bind {p : P X α} {q : α → P X β} {G : (Nat → Nat → Nat) → Nat → Nat → Nat}
    (hp : AttrOnly p) (hq : ∀ a, Eff (q a) G) : Eff (p.bind q) G := bind (attr hp) hq

theorem ro_bind {p : P X α} {q : α → P X β} {G : (Nat → Nat → Nat) → Nat → Nat → Nat}
    (hp : ReadOnly p) (hq : ∀ a, Eff (q a) G) : Eff (p.bind q) G := attr_bind (AttrOnly.of_readOnly hp) hq

/-- a β read: the continuation's effect may depend on the value read -/
theorem rB_bind {i d : Nat} {k : Nat → P X β} {G : Nat → (Nat → Nat → Nat) → Nat → Nat → Nat}
    (hk : ∀ x, Eff (k x) (G x)) : Eff ((rB i d).bind k) (fun f => G (f i d) f) := by
  intro m m' b h
  rw [run_rB] at h
  by_cases hok : m.okβ i d = true
  · simp only [hok, if_true] at h
    exact hk _ m m' b h
  · simp [hok] at h

theorem ite {c : Prop} [Decidable c] {p q : P X α} {F G : (Nat → Nat → Nat) → Nat → Nat → Nat}
    (hp : Eff p F) (hq : Eff q G) : Eff (if c then p else q) (fun f => if c then F f else G f) := by
  by_cases hc : c
  · simp only [hc, if_true]; exact hp
  · simp only [hc, if_false]; exact hq

theorem abort (e : Err) (F : (Nat → Nat → Nat) → Nat → Nat → Nat) : Eff (HC.abort e : P X α) F := by
  intro m m' a h; simp at h

theorem pure (a : α) : Eff (Pure.pure a : P X α) (fun f => f) := by
  intro m m' b h; simp at h; rw [← h.2]; exact ⟨rfl, rfl, rfl⟩

theorem oneSew2 (cfg : Cfg X) (n l r : Nat) : Eff (HC.oneSew2 cfg n l r) (fun f => lnk1 f l r) :=
  fun _ _ _ h => (step_oneSew2 h).2.2

theorem oneUnsew2 (cfg : Cfg X) (n l : Nat) : Eff (HC.oneUnsew2 cfg n l) (fun f => unl1 f l) :=
  fun _ _ _ h => (step_oneUnsew2 h).2

theorem twoSew2 (cfg : Cfg X) (n l r : Nat) : Eff (HC.twoSew2 cfg n l r) (fun f => lnk2 f l r) :=
  fun _ _ _ h => (step_twoSew2 h).2.2

theorem twoUnsew2 (cfg : Cfg X) (n l : Nat) : Eff (HC.twoUnsew2 cfg n l) (fun f => unl2 f l) :=
  fun _ _ _ h => (step_twoUnsew2 h).2

theorem oneLinkCore (l r : Nat) : Eff (HC.oneLinkCore (X := X) l r) (fun f => lnk1 f l r) :=
  fun _ _ _ h => (step_oneLinkCore h).2.2

theorem twoLinkCore (l r : Nat) : Eff (HC.iLinkCore (X := X) 2 l r) (fun f => lnk2 f l r) :=
  fun _ _ _ h => (step_twoLinkCore h).2.2

theorem twoUnlinkCore (l : Nat) : Eff (HC.iUnlinkCore (X := X) 2 l) (fun f => unl2 f l) :=
  fun _ _ _ h => (step_twoUnlinkCore h).2

end Eff

end HC

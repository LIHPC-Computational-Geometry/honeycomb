/-
  Cell calculus for several simultaneous pairs (2-sews and 3-sews of a 3-map), continuing
  Lemmas/Cell3.lean.

  * `sameCell_glue`: if the generator steps of `g'` are those of `g` plus new steps each of which
    joins the old cells of some pair of `ps`, the cells of `g'` are `Glue (SameCell g) ps` (`Glue`,
    `Conn.glue` of Lemmas/Ties);
  * `glue_sep`: under the property's proviso — no old cell takes part in two pairs
    (`ps.Pairwise (Far R)`) — `Glue` is the old relation plus, for each pair, the union of its two
    cells;
  * edge cells `g3e` (`⟨β2, β3⟩`) and `edgeId3_spec`; face cells `g3f` and the face walks `gIJ` of
    `three_sew` on closed faces;
  * `vertex_cells_link2`, `edge_cells_link2` — what a 2-link does to the vertex / edge cells of a
    3-map; `relink2_β` — re-linking what a 2-unlink removed gives back β;
  * `Linked3 m m' ps` (Lemmas/Link3) — `m'` is `m` with the pairs of `ps` 3-linked: `Linked3.vertex_cells`,
    the vertex cells, from the ties; `threeLink3_linked` / `threeUnlink3_unlinked`: `three_link` links and
    `three_unlink` unlinks whole faces (`Covered`, from `Zipped`).
-/
import Honeycomb.Lemmas.Cell3

namespace HC.Cell3
open HC HC.CellCalc
variable {X : Type}

-- goals about a pair `pq` of a list compare `m.β i pq.1` with `m.β i p`: the unifier must not unfold `β`
attribute [local irreducible] Map.β

/-! ## gluing a list of pairs -/

/-- **Appendix A3 for a list of pairs**: new generator steps each of which joins the old cells of
    some pair of the list -/
theorem sameCell_glue {g g' : Nat → List Nat} {n : Nat} {ps : List (Nat × Nat)} {N : Nat → Nat → Prop}
    (hstep : ∀ a b, GStep g' n a b ↔ (GStep g n a b ∨ N a b ∨ N b a))
    (hN : ∀ a b, N a b → ∃ pq, pq ∈ ps ∧ ((SameCell g n a pq.1 ∧ SameCell g n b pq.2) ∨
      (SameCell g n a pq.2 ∧ SameCell g n b pq.1)))
    (hps : ∀ pq, pq ∈ ps → SameCell g' n pq.1 pq.2) (d e : Nat) :
    SameCell g' n d e ↔ Glue (SameCell g n) ps d e := by
  have eq : ∀ g, SameCell g n = Conn (GStep g n) := fun g =>
    funext fun a => funext fun b => propext sameCell_iff_conn
  rw [eq, eq] at *
  refine Conn.glue (N := fun a b => N a b ∨ N b a) (fun a b s => ?_) (fun a b k => ?_)
    (fun a b s => .step ((hstep a b).2 (Or.inl s))) hps d e
  · exact ((hstep a b).1 s).imp_left .step
  · rcases k with k | k
    · exact hN a b k
    · obtain ⟨pq, hm, hc⟩ := hN b a k
      exact ⟨pq, hm, hc.symm.imp And.symm And.symm⟩

/-! ## the proviso: no old cell takes part in two pairs -/

/-- no endpoint of `x` is `R`-related to an endpoint of `y` -/
def Far (R : Nat → Nat → Prop) (x y : Nat × Nat) : Prop :=
  ¬ R x.1 y.1 ∧ ¬ R x.1 y.2 ∧ ¬ R x.2 y.1 ∧ ¬ R x.2 y.2

theorem Far.symm {R : Nat → Nat → Prop} (hR : Equivalence R) {x y : Nat × Nat} (h : Far R x y) : Far R y x :=
  ⟨fun k => h.1 (hR.symm k), fun k => h.2.2.1 (hR.symm k), fun k => h.2.1 (hR.symm k),
    fun k => h.2.2.2 (hR.symm k)⟩

theorem pairwise_mem {α : Type} {P : α → α → Prop} {l : List α} (h : l.Pairwise P) {x y : α}
    (hx : x ∈ l) (hy : y ∈ l) : x = y ∨ P x y ∨ P y x := by
  induction l with
  | nil => simp at hx
  | cons a t ih =>
      have hc := List.pairwise_cons.1 h
      rcases List.mem_cons.1 hx with rfl | hx' <;> rcases List.mem_cons.1 hy with rfl | hy'
      · exact Or.inl rfl
      · exact Or.inr (Or.inl (hc.1 _ hy'))
      · exact Or.inr (Or.inr (hc.1 _ hx'))
      · exact ih hc.2 hx' hy'

/-- the relation `Glue` reduces to under the proviso -/
def Sep (R : Nat → Nat → Prop) (ps : List (Nat × Nat)) (d e : Nat) : Prop :=
  R d e ∨ ∃ pq, pq ∈ ps ∧ ((R d pq.1 ∧ R pq.2 e) ∨ (R d pq.2 ∧ R pq.1 e))

/-- two pairs of a separated list that touch the same old cell are the same pair -/
theorem sep_same {R : Nat → Nat → Prop} (hR : Equivalence R) {ps : List (Nat × Nat)}
    (hsep : ps.Pairwise (Far R)) {x y : Nat × Nat} (hx : x ∈ ps) (hy : y ∈ ps) {a b : Nat}
    (ha : a = x.1 ∨ a = x.2) (hb : b = y.1 ∨ b = y.2) (hab : R a b) : x = y := by
  rcases pairwise_mem hsep hx hy with h | h | h
  · exact h
  · exfalso
    rcases ha with rfl | rfl <;> rcases hb with rfl | rfl
    · exact h.1 hab
    · exact h.2.1 hab
    · exact h.2.2.1 hab
    · exact h.2.2.2 hab
  · exfalso
    have h' := h.symm hR
    rcases ha with rfl | rfl <;> rcases hb with rfl | rfl
    · exact h'.1 hab
    · exact h'.2.1 hab
    · exact h'.2.2.1 hab
    · exact h'.2.2.2 hab

theorem glue_sep {R : Nat → Nat → Prop} (hR : Equivalence R) {ps : List (Nat × Nat)}
    (hsep : ps.Pairwise (Far R)) (d e : Nat) : Glue R ps d e ↔ Sep R ps d e := by
  have sy : ∀ a b, Sep R ps a b → Sep R ps b a := by
    rintro a b (h | ⟨pq, hm, ⟨h1, h2⟩ | ⟨h1, h2⟩⟩)
    · exact Or.inl (hR.symm h)
    · exact Or.inr ⟨pq, hm, Or.inr ⟨hR.symm h2, hR.symm h1⟩⟩
    · exact Or.inr ⟨pq, hm, Or.inl ⟨hR.symm h2, hR.symm h1⟩⟩
  have tr : ∀ a b c, Sep R ps a b → Sep R ps b c → Sep R ps a c := by
    rintro a b c (h | ⟨x, hx, hxc⟩) (k | ⟨y, hy, hyc⟩)
    · exact Or.inl (hR.trans h k)
    · rcases hyc with ⟨k1, k2⟩ | ⟨k1, k2⟩
      · exact Or.inr ⟨y, hy, Or.inl ⟨hR.trans h k1, k2⟩⟩
      · exact Or.inr ⟨y, hy, Or.inr ⟨hR.trans h k1, k2⟩⟩
    · rcases hxc with ⟨h1, h2⟩ | ⟨h1, h2⟩
      · exact Or.inr ⟨x, hx, Or.inl ⟨h1, hR.trans h2 k⟩⟩
      · exact Or.inr ⟨x, hx, Or.inr ⟨h1, hR.trans h2 k⟩⟩
    · -- both through a pair: the two pairs touch the old cell of `b`, hence coincide
      rcases hxc with ⟨h1, h2⟩ | ⟨h1, h2⟩ <;> rcases hyc with ⟨k1, k2⟩ | ⟨k1, k2⟩
      · -- a~x1, x2~b, b~y1, y2~c
        have := sep_same hR hsep hx hy (Or.inr rfl) (Or.inl rfl) (hR.trans h2 k1)
        subst this
        -- x1 ~ x2: the pair is inside one cell
        exact Or.inr ⟨x, hx, Or.inl ⟨h1, k2⟩⟩
      · -- a~x1, x2~b, b~y2, y1~c
        have := sep_same hR hsep hx hy (Or.inr rfl) (Or.inr rfl) (hR.trans h2 k1)
        subst this
        exact Or.inl (hR.trans h1 k2)
      · -- a~x2, x1~b, b~y1, y2~c
        have := sep_same hR hsep hx hy (Or.inl rfl) (Or.inl rfl) (hR.trans h2 k1)
        subst this
        exact Or.inl (hR.trans h1 k2)
      · -- a~x2, x1~b, b~y2, y1~c
        have := sep_same hR hsep hx hy (Or.inl rfl) (Or.inr rfl) (hR.trans h2 k1)
        subst this
        exact Or.inr ⟨x, hx, Or.inr ⟨h1, k2⟩⟩
  constructor
  · intro h
    induction h with
    | base h => exact Or.inl h
    | pair h => exact Or.inr ⟨_, h, Or.inl ⟨hR.refl _, hR.refl _⟩⟩
    | symm _ ih => exact sy _ _ ih
    | trans _ _ ih1 ih2 => exact tr _ _ _ ih1 ih2
  · rintro (h | ⟨⟨p, q⟩, hm, ⟨h1, h2⟩ | ⟨h1, h2⟩⟩)
    · exact .base h
    · exact .trans (.base h1) (.trans (.pair hm) (.base h2))
    · exact .trans (.base h1) (.trans (.symm (.pair hm)) (.base h2))

/-- under the proviso, the new cell of a dart of a pair is the union of the two old cells -/
theorem glue_sep_pair {R : Nat → Nat → Prop} (hR : Equivalence R) {ps : List (Nat × Nat)}
    (hsep : ps.Pairwise (Far R)) {pq : Nat × Nat} (hm : pq ∈ ps) (e : Nat) :
    Glue R ps pq.1 e ↔ (R pq.1 e ∨ R pq.2 e) := by
  rw [glue_sep hR hsep]
  constructor
  · rintro (h | ⟨y, hy, ⟨k1, k2⟩ | ⟨k1, k2⟩⟩)
    · exact Or.inl h
    · have := sep_same hR hsep hm hy (Or.inl rfl) (Or.inl rfl) k1
      subst this; exact Or.inr k2
    · have := sep_same hR hsep hm hy (Or.inl rfl) (Or.inr rfl) k1
      subst this; exact Or.inl k2
  · rintro (h | h)
    · exact Or.inl h
    · exact Or.inr ⟨pq, hm, Or.inl ⟨hR.refl _, h⟩⟩

/-- … and the cell of a dart whose old cell is in no pair does not change -/
theorem glue_sep_other {R : Nat → Nat → Prop} (hR : Equivalence R) {ps : List (Nat × Nat)}
    (hsep : ps.Pairwise (Far R)) {d : Nat} (hd : ∀ pq, pq ∈ ps → ¬ R d pq.1 ∧ ¬ R d pq.2) (e : Nat) :
    Glue R ps d e ↔ R d e := by
  rw [glue_sep hR hsep]
  constructor
  · rintro (h | ⟨y, hy, ⟨k1, _⟩ | ⟨k1, _⟩⟩)
    · exact h
    · exact absurd k1 (hd y hy).1
    · exact absurd k1 (hd y hy).2
  · exact Or.inl


/-! ## edge cells `⟨β2, β3⟩` and `edge_id_transac` -/

/-- the two images pushed by `edge_id_transac` -/
def g3e (m : Map X) (x : Nat) : List Nat := [m.β 2 x, m.β 3 x]

theorem g3e_range {m : Map X} (h : WF 4 m) : ∀ a, a < m.n → ∀ y, y ∈ g3e m a → y < m.n := by
  intro a ha y hy
  simp only [g3e, List.mem_cons, List.not_mem_nil, or_false] at hy
  rcases hy with rfl | rfl
  · exact h.range 2 (by omega) a ha
  · exact h.range 3 (by omega) a ha

theorem g3e_null {m : Map X} (h : WF 4 m) : ∀ y, y ∈ g3e m 0 → y = 0 := by
  intro y hy
  simp only [g3e, List.mem_cons, List.not_mem_nil, or_false, h.null 2 (by omega), h.null 3 (by omega),
    or_self] at hy
  exact hy

theorem gstep3e_iff (m : Map X) (a b : Nat) :
    GStep (g3e m) m.n a b ↔ a ≠ 0 ∧ a < m.n ∧ b ≠ 0 ∧ (b = m.β 2 a ∨ b = m.β 3 a) := by
  unfold GStep g3e
  simp only [List.mem_cons, List.not_mem_nil, or_false]

theorem g3e_invClosed {m : Map X} (h : WF 4 m) : InvClosed (g3e m) m.n := by
  intro x hx y hy hy0
  simp only [g3e, List.mem_cons, List.not_mem_nil, or_false] at hy ⊢
  rcases hy with rfl | rfl
  · exact Or.inl (invol_back h (by omega) (by omega) hx hy0).symm
  · exact Or.inr (invol_back h (by omega) (by omega) hx hy0).symm

/-- `v` is the smallest dart of the edge cell of `d` -/
def IsEid3 (m : Map X) (d v : Nat) : Prop := IsMinOf (SameCell (g3e m) m.n) d v

/-- **what `edge_id_transac` returns**: the smallest dart of the `⟨β2, β3⟩` cell -/
theorem edgeId3_spec {m m' : Map X} (h : WF 4 m) {n' d v : Nat} (hd0 : d ≠ 0) (hd : d < m.n)
    (hr : run (edgeId3 (X := X) n' d) m = (.ok v, m')) : m' = m ∧ IsEid3 m d v := by
  unfold edgeId3 at hr
  have hgen : ∀ x ims m1, run ((fun e => do
      let i1 ← rB 2 e
      let i2 ← rB 3 e
      pure [i1, i2] : Nat → P X (List Nat)) x) m = (.ok ims, m1) → m1 = m ∧ ims = g3e m x := by
    intro x ims m1 hg
    replace hg := run_rB_bind_ok (run_rB_bind_ok hg)
    obtain ⟨e, hm⟩ := run_pure_ok hg
    exact ⟨hm, e⟩
  exact popLoop_min hgen (g3e_null h) (g3e_range h) (g3e_invClosed h) hd0 hd hr

theorem sameCellE_ne_zero {m : Map X} (h : WF 4 m) {d v : Nat} (hd0 : d ≠ 0) (hd : d < m.n)
    (hs : SameCell (g3e m) m.n d v) : v ≠ 0 :=
  ((sameCell_iff_reach (g3e_null h) (g3e_range h) (g3e_invClosed h) hd0 hd v).1 hs).1

theorem g3e_congr {m m' : Map X} (hβ : ∀ j e, m'.β j e = m.β j e) : g3e m' = g3e m := by
  funext x; unfold g3e; simp only [hβ]

/-! ## what a 2-link does to the cells of a 3-map -/

/-- the dart through which `two_sew` reads the vertex at the head of `x`: `β1 x`, else `β3 x` (same
    old vertex cell when both exist) -/
def headV (m : Map X) (x : Nat) : Nat := if m.β 1 x ≠ 0 then m.β 1 x else m.β 3 x

/-- the vertex pairs united by a 2-link of `l` and `r`: `l` with the head of `r`, `r` with the head
    of `l` (a pair is dropped when the head is null: open 3-free face) -/
def pairsV2 (m : Map X) (l r : Nat) : List (Nat × Nat) :=
  (if headV m r ≠ 0 then [(l, headV m r)] else []) ++ (if headV m l ≠ 0 then [(r, headV m l)] else [])

theorem pairsV2_eq (m : Map X) (l r : Nat) : pairsV2 m l r = pairs2 m.β l r := rfl

theorem edge_cells_link2 {m : Map X} (h : WF 4 m) {l r : Nat}
    (hl0 : l ≠ 0) (hr0 : r ≠ 0) (hlr : l ≠ r) (hl : l < m.n) (hr : r < m.n)
    (h2l : m.β 2 l = 0) (h2r : m.β 2 r = 0) (d e : Nat) :
    SameCell (g3e (m.linkI 2 l r)) m.n d e ↔ Glue (SameCell (g3e m) m.n) [(l, r)] d e := by
  have eβ := h.toSized.β_linkI (i := 2) (by omega) hl hr
  have e2 : ∀ x, (m.linkI 2 l r).β 2 x = if r = x then l else if l = x then r else m.β 2 x := by
    intro x; rw [eβ]; simp
  have e3 : ∀ x, (m.linkI 2 l r).β 3 x = m.β 3 x := by intro x; rw [eβ]; simp
  have hn : (m.linkI 2 l r).n = m.n := rfl
  refine sameCell_glue (N := fun a b => a = l ∧ b = r) (fun a b => ?_) (fun a b k => ?_) (fun pq hm => ?_) d e
  · have g1 := gstep3e_iff (m.linkI 2 l r) a b
    rw [hn] at g1
    rw [g1, gstep3e_iff m a b, e2, e3]
    constructor
    · rintro ⟨ha0, ha, hb0, k | k⟩
      · by_cases c1 : r = a
        · rw [if_pos c1] at k; exact Or.inr (Or.inr ⟨k, c1.symm⟩)
        · rw [if_neg c1] at k
          by_cases c2 : l = a
          · rw [if_pos c2] at k; exact Or.inr (Or.inl ⟨c2.symm, k⟩)
          · rw [if_neg c2] at k; exact Or.inl ⟨ha0, ha, hb0, Or.inl k⟩
      · exact Or.inl ⟨ha0, ha, hb0, Or.inr k⟩
    · rintro (⟨ha0, ha, hb0, k | k⟩ | ⟨rfl, rfl⟩ | ⟨rfl, rfl⟩)
      · refine ⟨ha0, ha, hb0, Or.inl ?_⟩
        have c1 : ¬ r = a := fun hh => hb0 (by rw [k, ← hh, h2r])
        have c2 : ¬ l = a := fun hh => hb0 (by rw [k, ← hh, h2l])
        rw [if_neg c1, if_neg c2]; exact k
      · exact ⟨ha0, ha, hb0, Or.inr k⟩
      · exact ⟨hl0, hl, hr0, Or.inl (by rw [if_neg (fun hh => hlr hh.symm), if_pos rfl])⟩
      · exact ⟨hr0, hr, hl0, Or.inl (by rw [if_pos rfl])⟩
  · obtain ⟨rfl, rfl⟩ := k
    exact ⟨(a, b), by simp, Or.inl ⟨.refl _, .refl _⟩⟩
  · have : pq = (l, r) := by simpa using hm
    subst this
    refine .step ?_
    have g1 := gstep3e_iff (m.linkI 2 l r) l r
    rw [hn] at g1
    rw [g1, e2]
    exact ⟨hl0, hl, hr0, Or.inl (by rw [if_neg (fun hh => hlr hh.symm), if_pos rfl])⟩

/-- **vertex cells after a 2-link of two distinct 2-free darts**: the cells of `l` and of the head of `r`, and those
    of `r` and of the head of `l`, are united -/
theorem vertex_cells_link2 {m : Map X} (h : WF 4 m) {l r : Nat}
    (hl0 : l ≠ 0) (hr0 : r ≠ 0) (hlr : l ≠ r) (hl : l < m.n) (hr : r < m.n)
    (h2l : m.β 2 l = 0) (h2r : m.β 2 r = 0) (d e : Nat) :
    SameCell (g3v (m.linkI 2 l r)) m.n d e ↔ Glue (SameCell (g3v m) m.n) (pairsV2 m l r) d e := by
  have eβ := h.toSized.β_linkI (i := 2) (by omega) hl hr
  have hf := bok_of_wf h
  have hf' : BOK m.n (m.linkI 2 l r).β := hf.link (i := 2) eβ hl0 hr0 hl hr h2l h2r
  have hvt : ∀ z, vties (m.linkI 2 l r).β z =
      [m.β 1 z, if r = z then l else if l = z then r else m.β 2 z, m.β 3 z] := fun z => by
    unfold vties
    rw [eβ 1 z, eβ 2 z, eβ 3 z]
    simp only [show ¬ (2 = 1) by omega, show ¬ (2 = 3) by omega, false_and, if_false, true_and]
  have key := tie_link2 hl0 hr0 hlr h2l h2r hvt d e
  rw [vcell_eq hf', vcell_eq hf, ← pairsV2_eq] at key
  exact key

/-- re-linking what `two_unlink_core` unlinked restores every image -/
theorem relink2_β {m : Map X} (h : WF 4 m) {l : Nat} (hl : l < m.n) (hne : m.β 2 l ≠ 0) (j e : Nat) :
    ((m.unlinkI 2 l).linkI 2 l (m.β 2 l)).β j e = m.β j e :=
  h.toSized.β_relinkI (by omega) hl (h.range 2 (by omega) l hl) (invol_back h (by omega) (by omega) hl hne) j e

/-- **the cells before a 2-unlink, from those after it**: the 2-link read backwards -/
theorem cells_unlink2 {m : Map X} (hwf : WF 4 m) {l : Nat} (hl0 : l ≠ 0) (hln : l < m.n) (hne : m.β 2 l ≠ 0) :
    (∀ d e, SameCell (g3v m) m.n d e ↔
      Glue (SameCell (g3v (m.unlinkI 2 l)) m.n) (pairsV2 (m.unlinkI 2 l) l (m.β 2 l)) d e) ∧
    ∀ d e, SameCell (g3e m) m.n d e ↔ Glue (SameCell (g3e (m.unlinkI 2 l)) m.n) [(l, m.β 2 l)] d e := by
  have hrn := hwf.range 2 (by omega) l hln
  have hwf1 : WF 4 (m.unlinkI 2 l) := hwf.unlinkI (by omega) (by omega) hln hne
  have hlr : l ≠ m.β 2 l := fun hh => (hwf.invol 2 (by omega) (by omega) l hln hne).2 hh.symm
  have eβ := hwf.toSized.β_unlinkI (i := 2) (by omega) hln hrn
  have h2l : (m.unlinkI 2 l).β 2 l = 0 := by
    rw [eβ]
    simp
  have h2r : (m.unlinkI 2 l).β 2 (m.β 2 l) = 0 := by
    rw [eβ]
    simp
  have hβ := relink2_β hwf hln hne
  refine ⟨fun d e => ?_, fun d e => ?_⟩
  · rw [← sameCell_of_β_eq hβ m.n d e]
    exact vertex_cells_link2 hwf1 hl0 hne hlr hln hrn h2l h2r d e
  · rw [← g3e_congr hβ]
    exact edge_cells_link2 hwf1 hl0 hne hlr hln hrn h2l h2r d e

/-! ## `three_link` on closed faces -/

/-- **`three_link` on a CLOSED left face**: exactly the pairs `(β1^t ld, β0^t rd)`, `t < L`, get
    3-linked, `L` being the number of darts of both faces -/
theorem threeLink3_linked_closed {n ld rd : Nat} {m m' : Map X} {u : Unit} (hs : Sized 4 m)
    (hl0 : ld ≠ 0) (hr0 : rd ≠ 0) (hclosed : ∀ t, it m 1 t ld ≠ 0)
    (h : run (threeLink3 (X := X) n ld rd) m = (.ok u, m')) :
    ∃ L, 0 < L ∧ Linked3 m m' (walkPairs m 1 0 L ld rd) ∧ it m 1 L ld = ld ∧ it m 0 L rd = rd ∧
      ∀ t, 0 < t → t < L → it m 1 t ld ≠ ld := by
  obtain ⟨_, _, _, _, k, hmin, hcase⟩ := threeLink3_walks hs hl0 hr0 h
  rcases hcase with ⟨hpl, hpr, LF⟩ | ⟨e0, _⟩
  · exact ⟨k + 1, by omega, LF, hpl, hpr, hmin⟩
  · exact absurd e0 (hclosed _)


/-! ## cells whose generators are "something that ignores β3, plus β3": edges and faces -/

/-- generator lists of the form `base ++ [β3 x]` -/
def gB3 (base : Map X → Nat → List Nat) (m : Map X) (x : Nat) : List Nat := base m x ++ [m.β 3 x]

/-- the face images `β1, β0, β3` -/
def g3f (m : Map X) (x : Nat) : List Nat := [m.β 1 x, m.β 0 x, m.β 3 x]

theorem g3e_eq (m : Map X) : g3e m = gB3 (fun m x => [m.β 2 x]) m := rfl
theorem g3f_eq (m : Map X) : g3f m = gB3 (fun m x => [m.β 1 x, m.β 0 x]) m := rfl

/-- 3-linking the pairs of `ps` adds exactly these pairs to the generator steps -/
theorem gstep_linked3 {base : Map X → Nat → List Nat} {m m' : Map X} {ps : List (Nat × Nat)}
    (hbase : ∀ x, base m' x = base m x) (L : Linked3 m m' ps) (a b : Nat) :
    GStep (gB3 base m') m.n a b ↔ (GStep (gB3 base m) m.n a b ∨ (a, b) ∈ ps ∨ (b, a) ∈ ps) := by
  unfold GStep gB3
  simp only [List.mem_append, List.mem_singleton, hbase]
  constructor
  · rintro ⟨ha0, ha, hb0, k | k⟩
    · exact Or.inl ⟨ha0, ha, hb0, Or.inl k⟩
    · by_cases hend : ∃ pq, pq ∈ ps ∧ (a = pq.1 ∨ a = pq.2)
      · obtain ⟨⟨p, q⟩, hm, hc⟩ := hend
        obtain ⟨a1, a2⟩ := L.new hm
        rcases hc with rfl | rfl
        · exact Or.inr (Or.inl (by rw [k, a1]; exact hm))
        · exact Or.inr (Or.inr (by rw [k, a2]; exact hm))
      · have : m'.β 3 a = m.β 3 a := L.rest a fun pq hm =>
          ⟨fun hh => hend ⟨pq, hm, Or.inl hh⟩, fun hh => hend ⟨pq, hm, Or.inr hh⟩⟩
        exact Or.inl ⟨ha0, ha, hb0, Or.inr (by rw [k, this])⟩
  · rintro (⟨ha0, ha, hb0, k | k⟩ | hm | hm)
    · exact ⟨ha0, ha, hb0, Or.inl k⟩
    · refine ⟨ha0, ha, hb0, Or.inr ?_⟩
      have : m'.β 3 a = m.β 3 a := L.rest a fun pq hm => by
        obtain ⟨a3, a4⟩ := L.free hm
        exact ⟨fun hh => hb0 (by rw [k, hh, a3]), fun hh => hb0 (by rw [k, hh, a4])⟩
      rw [this]; exact k
    · obtain ⟨a1, _, _, _, a5, a6, a7, _⟩ := L.pairs _ hm
      exact ⟨a5, a7, a6, Or.inr a1.symm⟩
    · obtain ⟨_, a2, _, _, a5, a6, _, a8⟩ := L.pairs _ hm
      exact ⟨a6, a8, a5, Or.inr a2.symm⟩

/-- … hence the new cells are the old ones with the cells of each pair united -/
theorem cells_linked3 {base : Map X → Nat → List Nat} {m m' : Map X} {ps : List (Nat × Nat)}
    (hbase : ∀ x, base m' x = base m x) (L : Linked3 m m' ps) (d e : Nat) :
    SameCell (gB3 base m') m.n d e ↔ Glue (SameCell (gB3 base m) m.n) ps d e := by
  refine sameCell_glue (N := fun a b => (a, b) ∈ ps) (gstep_linked3 hbase L) (fun a b k => ?_) (fun pq hm => ?_) d e
  · exact ⟨(a, b), k, Or.inl ⟨.refl _, .refl _⟩⟩
  · exact .step ((gstep_linked3 hbase L _ _).2 (Or.inr (Or.inl hm)))

/-- pairs that all join the same two cells glue like one pair -/
theorem glue_same_cells {R : Nat → Nat → Prop} (hR : Equivalence R) {ps : List (Nat × Nat)} {p q : Nat}
    (hall : ∀ pq, pq ∈ ps → R pq.1 p ∧ R pq.2 q) (hne : ∃ pq, pq ∈ ps) (d e : Nat) :
    Glue R ps d e ↔ Glue R [(p, q)] d e := by
  constructor
  · intro h
    induction h with
    | base h => exact .base h
    | pair hm =>
        obtain ⟨k1, k2⟩ := hall _ hm
        exact .trans (.base k1) (.trans (.pair (by simp)) (.base (hR.symm k2)))
    | symm _ ih => exact .symm ih
    | trans _ _ ih1 ih2 => exact .trans ih1 ih2
  · intro h
    induction h with
    | base h => exact .base h
    | @pair p' q' hm =>
        have : p' = p ∧ q' = q := by simpa using hm
        obtain ⟨rfl, rfl⟩ := this
        obtain ⟨pq, hmem⟩ := hne
        obtain ⟨k1, k2⟩ := hall _ hmem
        exact .trans (.base (hR.symm k1)) (.trans (.pair hmem) (.base k2))
    | symm _ ih => exact .symm ih
    | trans _ _ ih1 ih2 => exact .trans ih1 ih2

/-! ## closed faces: the β-cycle, its BFS walk, its smallest dart -/

/-- the two images of the face walks of `three_sew` (`Custom(&[i, j])`) -/
def gIJ (m : Map X) (i j x : Nat) : List Nat := [m.β i x, m.β j x]

theorem run_gen3_custom2 {m : Map X} (h : WF 4 m) {i j x : Nat} (hi : i < 4) (hj : j < 4) (hx : x < m.n) :
    run (gen3 (X := X) (.custom [i, j]) x) m = (.ok (gIJ m i j x), m) := by
  unfold gen3 gen3.go gen3.go gen3.go
  simp only [hi, hj, if_true, Prog.bind_eq, run_rB, h.okβ_of_lt hi hx, h.okβ_of_lt hj hx, Prog.pure_eq, run_ret,
    List.nil_append, List.cons_append, gIJ]

/-- the `β i`-cycle through `d` is closed, with `L` darts -/
structure Cyc (m : Map X) (i d L : Nat) : Prop where
  pos : 0 < L
  per : it m i L d = d
  nz : ∀ t, it m i t d ≠ 0

theorem Cyc.it_mod {m : Map X} {i d L : Nat} (c : Cyc m i d L) : ∀ t, it m i t d = it m i (t % L) d := by
  intro t
  induction t using Nat.strongRecOn with
  | _ t ih =>
      by_cases ht : t < L
      · rw [Nat.mod_eq_of_lt ht]
      · have hle : L ≤ t := by omega
        have := ih (t - L) (by have := c.pos; omega)
        rw [show t = L + (t - L) by omega, it_add, c.per, this, Nat.add_mod_left]

theorem Cyc.mod {m : Map X} {i d L : Nat} (c : Cyc m i d L) (t : Nat) : ∃ s, s < L ∧ it m i t d = it m i s d :=
  ⟨t % L, Nat.mod_lt t c.pos, c.it_mod t⟩

/-- on a closed cycle the inverse image is `L - 1` steps ahead -/
theorem Cyc.pred {m : Map X} (h : WF 4 m) {i j d L : Nat} (dir : Dir i j) (hd : d < m.n) (c : Cyc m i d L)
    (t : Nat) : m.β j (it m i t d) = it m i (t + (L - 1)) d := by
  have hi4 : i < 4 := by have := dir.ilt; omega
  have e : it m i (t + (L - 1) + 1) d = it m i t d := by
    rw [show t + (L - 1) + 1 = L + t by have := c.pos; omega, it_add, c.per]
  rw [it_succ'] at e
  have := h.inv_ij dir (it_lt h hi4 (t + (L - 1)) d hd) (by rw [e]; exact c.nz t)
  rw [e] at this; exact this

/-- membership in the cycle is invariant under the face steps of a 3-free cycle -/
theorem cyc_step {m : Map X} (h : WF 4 m) {i j d L : Nat} (dir : Dir i j) (hd : d < m.n) (c : Cyc m i d L)
    (hfree : ∀ t, m.β 3 (it m i t d) = 0) {a b : Nat} (ha0 : a ≠ 0) (ha : a < m.n) (hb0 : b ≠ 0)
    (hb : b = m.β i a ∨ b = m.β j a ∨ b = m.β 3 a) :
    (∃ t, a = it m i t d) ↔ (∃ t, b = it m i t d) := by
  have hi4 : i < 4 := by have := dir.ilt; omega
  have hj4 : j < 4 := by have := dir.jlt; omega
  have hbn : b < m.n := by
    rcases hb with rfl | rfl | rfl
    · exact h.range i hi4 a ha
    · exact h.range j hj4 a ha
    · exact h.range 3 (by omega) a ha
  -- the predecessor of a dart of the cycle is on the cycle
  have pred : ∀ t, ∃ s, m.β j (it m i t d) = it m i s d := fun t => ⟨_, c.pred h dir hd t⟩
  constructor
  · rintro ⟨t, rfl⟩
    rcases hb with rfl | rfl | rfl
    · exact ⟨t + 1, (it_succ' m i t d).symm⟩
    · exact pred t
    · exact absurd (hfree t) hb0
  · rintro ⟨t, rfl⟩
    rcases hb with hb | hb | hb
    · -- a = β j b
      have := h.inv_ij dir ha (by rw [← hb]; exact hb0)
      rw [← hb] at this
      rw [← this]; exact pred t
    · have := h.inv_ij dir.symm ha (by rw [← hb]; exact hb0)
      rw [← hb] at this
      exact ⟨t + 1, by rw [it_succ', this]⟩
    · exfalso
      have := invol_back h (i := 3) (by omega) (by omega) ha (by rw [← hb]; exact hb0)
      rw [← hb, hfree t] at this
      exact ha0 this.symm

theorem gstep3f_iff (m : Map X) (a b : Nat) :
    GStep (g3f m) m.n a b ↔ a ≠ 0 ∧ a < m.n ∧ b ≠ 0 ∧ (b = m.β 1 a ∨ b = m.β 0 a ∨ b = m.β 3 a) := by
  unfold GStep g3f
  simp only [List.mem_cons, List.not_mem_nil, or_false]

/-- **the face cell of a dart of a closed 3-free cycle is the cycle** -/
theorem face_cell_cycle {m : Map X} (h : WF 4 m) {i j d L : Nat} (dir : Dir i j) (hd : d < m.n)
    (c : Cyc m i d L) (hfree : ∀ t, m.β 3 (it m i t d) = 0) (e : Nat) :
    SameCell (g3f m) m.n d e ↔ ∃ t, e = it m i t d := by
  have hi4 : i < 4 := by have := dir.ilt; omega
  have perm : ∀ a b, (b = m.β 1 a ∨ b = m.β 0 a ∨ b = m.β 3 a) → (b = m.β i a ∨ b = m.β j a ∨ b = m.β 3 a) := by
    intro a b hb
    rcases dir with ⟨rfl, rfl⟩ | ⟨rfl, rfl⟩
    · exact hb
    · rcases hb with k | k | k
      · exact Or.inr (Or.inl k)
      · exact Or.inl k
      · exact Or.inr (Or.inr k)
  constructor
  · intro hs
    have inv : ∀ a b, SameCell (g3f m) m.n a b → ((∃ t, a = it m i t d) ↔ (∃ t, b = it m i t d)) := by
      intro a b hab
      induction hab with
      | refl a => exact Iff.rfl
      | step hs =>
          obtain ⟨ha0, ha, hb0, hb⟩ := (gstep3f_iff m _ _).1 hs
          exact cyc_step h dir hd c hfree ha0 ha hb0 (perm _ _ hb)
      | symm _ ih => exact ih.symm
      | trans _ _ ih1 ih2 => exact ih1.trans ih2
    exact (inv d e hs).1 ⟨0, rfl⟩
  · rintro ⟨t, rfl⟩
    induction t with
    | zero => exact .refl _
    | succ t ih =>
        refine .trans ih (.step ((gstep3f_iff m _ _).2 ⟨c.nz t, it_lt h hi4 t d hd, c.nz (t + 1), ?_⟩))
        rw [it_succ']
        rcases dir with ⟨rfl, rfl⟩ | ⟨rfl, rfl⟩
        · exact Or.inl rfl
        · exact Or.inr (Or.inl rfl)

theorem gIJ_range {m : Map X} (h : WF 4 m) {i j : Nat} (hi : i < 4) (hj : j < 4) :
    ∀ a, a < m.n → ∀ y, y ∈ gIJ m i j a → y < m.n := by
  intro a ha y hy
  simp only [gIJ, List.mem_cons, List.not_mem_nil, or_false] at hy
  rcases hy with rfl | rfl
  · exact h.range i hi a ha
  · exact h.range j hj a ha

theorem gIJ_null {m : Map X} (h : WF 4 m) {i j : Nat} (hi : i < 4) (hj : j < 4) :
    ∀ y, y ∈ gIJ m i j 0 → y = 0 := by
  intro y hy
  simp only [gIJ, List.mem_cons, List.not_mem_nil, or_false, h.null i hi, h.null j hj, or_self] at hy
  exact hy

/-- the face walk of `three_sew` from a dart of a closed cycle: it succeeds and lists the cycle -/
theorem face_orbit_cycle {m : Map X} (h : WF 4 m) {i j d L : Nat} (dir : Dir i j) (hd0 : d ≠ 0) (hd : d < m.n)
    (c : Cyc m i d L) :
    run (orbitWith m.n (gen3 (X := X) (.custom [i, j])) d) m =
      (.ok (bfsPure (gIJ m i j) (m.n + 1) [d] [0, d] []), m) ∧
    ∀ x, x ∈ bfsPure (gIJ m i j) (m.n + 1) [d] [0, d] [] ↔ ∃ t, x = it m i t d := by
  have hi4 : i < 4 := by have := dir.ilt; omega
  have hj4 : j < 4 := by have := dir.jlt; omega
  refine ⟨run_orbitWith (fun x hx => run_gen3_custom2 h hi4 hj4 hx) (gIJ_range h hi4 hj4) hd0 hd, ?_⟩
  obtain ⟨_, _, _, hmem, _⟩ := bfsPure_spec (gIJ_null h hi4 hj4) (gIJ_range h hi4 hj4) hd0 hd
  intro x
  rw [hmem]
  constructor
  · rintro ⟨hx0, hr⟩
    -- every reachable dart is on the cycle (the β3-free argument with β3 replaced by nothing)
    have : ∀ y, Reach (gIJ m i j) d y → y ≠ 0 → ∃ t, y = it m i t d := by
      intro y hy
      induction hy with
      | refl => intro _; exact ⟨0, rfl⟩
      | tail hab hc ih =>
          rename_i b cc
          intro hc0
          have hb0 : b ≠ 0 := Reach.pred_ne_zero (gIJ_null h hi4 hj4) hc hc0
          obtain ⟨t, rfl⟩ := ih hb0
          simp only [gIJ, List.mem_cons, List.not_mem_nil, or_false] at hc
          rcases hc with rfl | rfl
          · exact ⟨t + 1, (it_succ' m i t d).symm⟩
          · exact ⟨_, c.pred h dir hd t⟩
    exact this x hr hx0
  · rintro ⟨t, rfl⟩
    refine ⟨c.nz t, ?_⟩
    induction t with
    | zero => exact .refl _
    | succ t ih =>
        rw [it_succ']
        exact .tail ih (by simp [gIJ])

/-- `v` is the smallest dart of the face cell of `d` -/
def IsFid3 (m : Map X) (d v : Nat) : Prop := IsMinOf (SameCell (g3f m) m.n) d v

/-- the face identifier `three_sew` computes (minimum of its face walk) is the smallest dart of the
    face cell, on a closed 3-free face -/
theorem face_min_cycle {m : Map X} (h : WF 4 m) {i j d L : Nat} (dir : Dir i j) (hd0 : d ≠ 0) (hd : d < m.n)
    (c : Cyc m i d L) (hfree : ∀ t, m.β 3 (it m i t d) = 0) :
    IsFid3 m d (listMin (bfsPure (gIJ m i j) (m.n + 1) [d] [0, d] []) d) := by
  obtain ⟨_, hmem⟩ := face_orbit_cycle (X := X) h dir hd0 hd c
  have hdm : d ∈ bfsPure (gIJ m i j) (m.n + 1) [d] [0, d] [] := (hmem d).2 ⟨0, rfl⟩
  obtain ⟨k1, k2⟩ := listMin_spec hdm
  constructor
  · exact (face_cell_cycle h dir hd c hfree _).2 ((hmem _).1 k1)
  · intro e he _
    exact k2 e ((hmem e).2 ((face_cell_cycle h dir hd c hfree e).1 he))


/-! ## what 3-linking a list of pairs does to the vertex cells -/

/-- **vertex cells after 3-linking the pairs of `ps`**: the head of each linked dart (its successor, else its β2
    image) and its partner are united -/
theorem Linked3.vertex_cells {m m' : Map X} (h : WF 4 m) (h' : WF 4 m') {ps : List (Nat × Nat)}
    (L : Linked3 m m' ps) (d e : Nat) :
    SameCell (g3v m') m.n d e ↔ Glue (SameCell (g3v m) m.n) (pairs3 m.β ps) d e := by
  have hvt : ∀ z, vties m'.β z = [m.β 1 z, m.β 2 z, m'.β 3 z] := fun z => by
    unfold vties
    rw [L.other 1 z (by omega), L.other 2 z (by omega)]
  have key := tie_link3 hvt (fun pq hm => by
    obtain ⟨a1, a2, a3, a4, a5, a6, _⟩ := L.pairs pq hm
    exact ⟨a1, a2, a3, a4, a5, a6⟩) L.rest d e
  rw [vcell3_eq h', L.n, vcell3_eq h] at key
  exact key

/-- the vertex pairs united by 3-linking `ps`, when every linked dart has a successor: the head of
    each linked dart with its partner -/
def pairsV3 (m : Map X) (ps : List (Nat × Nat)) : List (Nat × Nat) :=
  ps.map (fun pq => (m.β 1 pq.1, pq.2)) ++ ps.map (fun pq => (pq.1, m.β 1 pq.2))

/-- **vertex cells after 3-linking the pairs of `ps`** (every linked dart has a successor) -/
theorem vertex_cells_linked3 {m m' : Map X} (h : WF 4 m) (h' : WF 4 m') {ps : List (Nat × Nat)}
    (L : Linked3 m m' ps) (hsucc : ∀ pq, pq ∈ ps → m.β 1 pq.1 ≠ 0 ∧ m.β 1 pq.2 ≠ 0) (d e : Nat) :
    SameCell (g3v m') m.n d e ↔ Glue (SameCell (g3v m) m.n) (pairsV3 m ps) d e := by
  have hd : ∀ pq, pq ∈ ps → head3 m.β pq.1 = m.β 1 pq.1 ∧ head3 m.β pq.2 = m.β 1 pq.2 := fun pq hm => by
    unfold head3
    rw [if_pos (hsucc pq hm).1, if_pos (hsucc pq hm).2]
    exact ⟨rfl, rfl⟩
  have mem : ∀ x, x ∈ pairs3 m.β ps ↔ x ∈ pairsV3 m ps := fun x => by
    unfold pairsV3
    rw [mem_pairs3, List.mem_append, List.mem_map, List.mem_map]
    constructor
    · rintro ⟨pq, hm, ⟨_, k⟩ | ⟨_, k⟩⟩
      · exact Or.inl ⟨pq, hm, by rw [k, (hd pq hm).1]⟩
      · exact Or.inr ⟨pq, hm, by rw [k, (hd pq hm).2]⟩
    · rintro (⟨pq, hm, k⟩ | ⟨pq, hm, k⟩)
      · exact ⟨pq, hm, Or.inl ⟨by rw [(hd pq hm).1]; exact (hsucc pq hm).1, by rw [← k, (hd pq hm).1]⟩⟩
      · exact ⟨pq, hm, Or.inr ⟨by rw [(hd pq hm).2]; exact (hsucc pq hm).2, by rw [← k, (hd pq hm).2]⟩⟩
  rw [L.vertex_cells h h']
  exact ⟨Glue.mono fun x => (mem x).1, Glue.mono fun x => (mem x).2⟩


/-! ## two BFS walks in lock-step -/

/-- element-wise related lists (core's `List.Forall₂`, on lists of darts) -/
inductive Rel2 (Φ : Nat → Nat → Prop) : List Nat → List Nat → Prop where
  | nil : Rel2 Φ [] []
  | cons {a b : Nat} {l l' : List Nat} : Φ a b → Rel2 Φ l l' → Rel2 Φ (a :: l) (b :: l')

theorem Rel2.append {Φ : Nat → Nat → Prop} {l1 l1' l2 l2' : List Nat} (h1 : Rel2 Φ l1 l1') (h2 : Rel2 Φ l2 l2') :
    Rel2 Φ (l1 ++ l2) (l1' ++ l2') := by
  induction h1 with
  | nil => exact h2
  | cons h _ ih => exact .cons h ih

theorem Rel2.zip_mem {Φ : Nat → Nat → Prop} {l l' : List Nat} (h : Rel2 Φ l l') :
    (∀ pq, pq ∈ l.zip l' → Φ pq.1 pq.2) ∧ (∀ a, a ∈ l → ∃ b, (a, b) ∈ l.zip l') := by
  induction h with
  | nil => exact ⟨fun pq h => absurd h (by simp), fun a h => absurd h (by simp)⟩
  | @cons a b l l' hab _ ih =>
      constructor
      · intro pq hm
        simp only [List.zip_cons_cons, List.mem_cons] at hm
        rcases hm with rfl | hm
        · exact hab
        · exact ih.1 pq hm
      · intro x hx
        rcases List.mem_cons.1 hx with rfl | hx
        · exact ⟨b, by simp⟩
        · obtain ⟨y, hy⟩ := ih.2 x hx
          exact ⟨y, by simp [hy]⟩

/-- `Φ` relates equal darts to equal darts, both ways -/
def BiUnique (Φ : Nat → Nat → Prop) : Prop := ∀ x y x' y', Φ x y → Φ x' y' → (x = x' ↔ y = y')

theorem Rel2.contains {Φ : Nat → Nat → Prop} (hb : BiUnique Φ) {l l' : List Nat} (h : Rel2 Φ l l') {x y : Nat}
    (hxy : Φ x y) : l.contains x = l'.contains y := by
  induction h with
  | nil => rfl
  | @cons a b l l' hab _ ih =>
      have e := hb x y a b hxy hab
      simp only [List.contains_cons, ih]
      by_cases c : x = a
      · have c' : y = b := e.1 c
        simp [c, c']
      · have c' : ¬ y = b := fun hh => c (e.2 hh)
        have b1 : (x == a) = false := by simp [c]
        have b2 : (y == b) = false := by simp [c']
        rw [b1, b2]

theorem Rel2.fold {Φ : Nat → Nat → Prop} (hb : BiUnique Φ) {ims ims' : List Nat} (hi : Rel2 Φ ims ims') :
    ∀ {p p' mk mk' : List Nat}, Rel2 Φ p p' → Rel2 Φ mk mk' →
      Rel2 Φ (ims.foldl bfsCheck (p, mk)).1 (ims'.foldl bfsCheck (p', mk')).1 ∧
      Rel2 Φ (ims.foldl bfsCheck (p, mk)).2 (ims'.foldl bfsCheck (p', mk')).2 := by
  induction hi with
  | nil => intro p p' mk mk' hp hm; exact ⟨hp, hm⟩
  | @cons a b l l' hab _ ih =>
      intro p p' mk mk' hp hm
      simp only [List.foldl_cons]
      have hc := hm.contains hb hab
      unfold bfsCheck
      simp only
      by_cases c : mk.contains a = true
      · rw [if_pos c, if_pos (by rw [← hc]; exact c)]
        exact ih hp hm
      · rw [if_neg c, if_neg (by rw [← hc]; exact c)]
        exact ih (hp.append (.cons hab .nil)) (hm.append (.cons hab .nil))

/-- two BFS runs over related generators from related states stay related -/
theorem bfsPure_lockstep {Φ : Nat → Nat → Prop} (hb : BiUnique Φ) {g g' : Nat → List Nat}
    (hstep : ∀ x y, Φ x y → Rel2 Φ (g x) (g' y)) :
    ∀ (fuel : Nat) (p p' mk mk' out out' : List Nat), Rel2 Φ p p' → Rel2 Φ mk mk' → Rel2 Φ out out' →
      Rel2 Φ (bfsPure g fuel p mk out) (bfsPure g' fuel p' mk' out') := by
  intro fuel
  induction fuel with
  | zero => intro p p' mk mk' out out' _ _ ho; exact ho
  | succ f ih =>
      intro p p' mk mk' out out' hp hm ho
      cases hp with
      | nil => exact ho
      | @cons a b l l' hab hl =>
          unfold bfsPure
          obtain ⟨k1, k2⟩ := (Rel2.fold hb (hstep a b hab)) hl hm
          exact ih _ _ _ _ _ _ k1 k2 (ho.append (.cons hab .nil))

/-! ## the two face walks of `three_sew` on closed faces of equal length -/

theorem it_inj {m : Map X} (h : WF 4 m) {i j : Nat} (dir : Dir i j) : ∀ (t x y : Nat), x < m.n → y < m.n →
    it m i t x = it m i t y → it m i t x ≠ 0 → x = y := by
  have hi4 : i < 4 := by have := dir.ilt; omega
  intro t
  induction t with
  | zero => intro x y _ _ he _; exact he
  | succ t ih =>
      intro x y hx hy he hne
      rw [it_succ', it_succ'] at he
      rw [it_succ'] at hne
      have hx0 : it m i t x ≠ 0 := fun hh => hne (by rw [hh]; exact h.null i hi4)
      have e1 := h.inv_ij dir (it_lt h hi4 t x hx) hne
      have hne' : m.β i (it m i t y) ≠ 0 := by rw [← he]; exact hne
      have e2 := h.inv_ij dir (it_lt h hi4 t y hy) hne'
      rw [he, e2] at e1
      exact ih x y hx hy e1.symm hx0

/-- distinct positions of one period are distinct darts -/
theorem Cyc.inj {m : Map X} (h : WF 4 m) {i j d L : Nat} (dir : Dir i j) (hd : d < m.n) (c : Cyc m i d L)
    (hmin : ∀ t, 0 < t → t < L → it m i t d ≠ d) {s t : Nat} (hs : s < L) (ht : t < L)
    (he : it m i s d = it m i t d) : s = t := by
  have hi4 : i < 4 := by have := dir.ilt; omega
  have key : ∀ s t, s < t → t < L → it m i s d = it m i t d → False := by
    intro s t hst ht he
    have e : it m i t d = it m i s (it m i (t - s) d) := by
      rw [← it_add]; congr 1; omega
    rw [e] at he
    have := it_inj h dir s d (it m i (t - s) d) hd (it_lt h hi4 _ d hd) he (c.nz s)
    exact hmin (t - s) (by omega) (by omega) this.symm
  rcases Nat.lt_trichotomy s t with hlt | heq | hgt
  · exact absurd he (fun he => key s t hlt ht he)
  · exact heq
  · exact absurd he.symm (fun he => key t s hgt hs he)

/-- the relation between the two face walks: null with null, `β1^t ld` with `β0^t rd` -/
def FacePhi (m : Map X) (ld rd x y : Nat) : Prop :=
  (x = 0 ∧ y = 0) ∨ ∃ t, x = it m 1 t ld ∧ y = it m 0 t rd

/-- **the zipped face walks of `three_sew` are exactly the pairs `three_link` links** (closed faces
    with the same number `L` of darts) -/
theorem zip_face_walks {m : Map X} (h : WF 4 m) {ld rd L : Nat} (hl0 : ld ≠ 0)
    (hln : ld < m.n) (hrn : rd < m.n) (cl : Cyc m 1 ld L) (cr : Cyc m 0 rd L)
    (hminl : ∀ t, 0 < t → t < L → it m 1 t ld ≠ ld) (hminr : ∀ t, 0 < t → t < L → it m 0 t rd ≠ rd)
    (pq : Nat × Nat) :
    pq ∈ (bfsPure (gIJ m 1 0) (m.n + 1) [ld] [0, ld] []).zip (bfsPure (gIJ m 0 1) (m.n + 1) [rd] [0, rd] []) ↔
      pq ∈ walkPairs m 1 0 L ld rd := by
  have d10 : Dir 1 0 := Or.inl ⟨rfl, rfl⟩
  have d01 : Dir 0 1 := Or.inr ⟨rfl, rfl⟩
  have hb : BiUnique (FacePhi m ld rd) := by
    rintro x y x' y' (⟨rfl, rfl⟩ | ⟨t, rfl, rfl⟩) (⟨rfl, rfl⟩ | ⟨t', rfl, rfl⟩)
    · exact ⟨fun _ => rfl, fun _ => rfl⟩
    · exact ⟨fun hh => absurd hh.symm (cl.nz t'), fun hh => absurd hh.symm (cr.nz t')⟩
    · exact ⟨fun hh => absurd hh (cl.nz t), fun hh => absurd hh (cr.nz t)⟩
    · rw [cl.it_mod t, cl.it_mod t', cr.it_mod t, cr.it_mod t']
      have a := Nat.mod_lt t cl.pos
      have b := Nat.mod_lt t' cl.pos
      constructor
      · intro hh; rw [cl.inj h d10 hln hminl a b hh]
      · intro hh; rw [cr.inj h d01 hrn hminr a b hh]
  have n0 := h.null 0 (by omega)
  have n1 := h.null 1 (by omega)
  have hstep : ∀ x y, FacePhi m ld rd x y → Rel2 (FacePhi m ld rd) (gIJ m 1 0 x) (gIJ m 0 1 y) := by
    rintro x y (⟨rfl, rfl⟩ | ⟨t, rfl, rfl⟩)
    · unfold gIJ; rw [n0, n1]
      exact .cons (Or.inl ⟨rfl, rfl⟩) (.cons (Or.inl ⟨rfl, rfl⟩) .nil)
    · unfold gIJ
      refine .cons (Or.inr ⟨t + 1, (it_succ' m 1 t ld).symm, (it_succ' m 0 t rd).symm⟩) (.cons (Or.inr ⟨t + (L - 1), ?_, ?_⟩) .nil)
      · exact cl.pred h d10 hln t
      · exact cr.pred h d01 hrn t
  have phi0 : FacePhi m ld rd ld rd := Or.inr ⟨0, rfl, rfl⟩
  have R := bfsPure_lockstep hb hstep (m.n + 1) [ld] [rd] [0, ld] [0, rd] [] []
    (.cons phi0 .nil) (.cons (Or.inl ⟨rfl, rfl⟩) (.cons phi0 .nil)) .nil
  obtain ⟨z1, z2⟩ := R.zip_mem
  obtain ⟨_, hmem⟩ := face_orbit_cycle (X := X) h d10 hl0 hln cl
  obtain ⟨_, _, hno0, _, _⟩ := bfsPure_spec (gIJ_null h (i := 1) (j := 0) (by omega) (by omega))
    (gIJ_range h (i := 1) (j := 0) (by omega) (by omega)) hl0 hln
  constructor
  · intro hm
    have hphi := z1 pq hm
    have hx : pq.1 ∈ bfsPure (gIJ m 1 0) (m.n + 1) [ld] [0, ld] [] := (List.of_mem_zip hm).1
    rcases hphi with ⟨k1, _⟩ | ⟨t, k1, k2⟩
    · exact absurd (k1 ▸ hx) hno0
    · refine (mem_walkPairs L ld rd pq).2 ⟨t % L, Nat.mod_lt t cl.pos, ?_⟩
      rw [← cl.it_mod t, ← cr.it_mod t, ← k1, ← k2]
  · intro hm
    obtain ⟨t, ht, rfl⟩ := (mem_walkPairs L ld rd pq).1 hm
    obtain ⟨y, hy⟩ := z2 (it m 1 t ld) ((hmem _).2 ⟨t, rfl⟩)
    have hphi := z1 _ hy
    have : y = it m 0 t rd := ((hb _ _ _ _ hphi (Or.inr ⟨t, rfl, rfl⟩)).1 rfl)
    rw [← this]; exact hy


/-- the vertex pairs of a 3-link of two closed faces: the head of each left dart with its partner -/
def pairsA (m : Map X) (ps : List (Nat × Nat)) : List (Nat × Nat) := ps.map (fun pq => (m.β 1 pq.1, pq.2))

/-- on closed faces the pairs "left dart — head of its partner" are among the pairs "head of a
    left dart — its partner" (shifted by one position) -/
theorem pairsV3_closed {m : Map X} (h : WF 4 m) {ld rd L : Nat} (hrn : rd < m.n)
    (cl : Cyc m 1 ld L) (cr : Cyc m 0 rd L) (x : Nat × Nat) :
    x ∈ pairsV3 m (walkPairs m 1 0 L ld rd) ↔ x ∈ pairsA m (walkPairs m 1 0 L ld rd) := by
  have d01 : Dir 0 1 := Or.inr ⟨rfl, rfl⟩
  unfold pairsV3 pairsA
  constructor
  · intro hm
    rcases List.mem_append.1 hm with hm | hm
    · exact hm
    · obtain ⟨pq, hp, rfl⟩ := List.mem_map.1 hm
      obtain ⟨t, ht, rfl⟩ := (mem_walkPairs L ld rd pq).1 hp
      -- (p_t, β1 q_t) = (β1 p_s, q_s), s = (t + L - 1) % L
      refine List.mem_map.2 ⟨(it m 1 ((t + (L - 1)) % L) ld, it m 0 ((t + (L - 1)) % L) rd),
        (mem_walkPairs L ld rd _).2 ⟨(t + (L - 1)) % L, Nat.mod_lt _ cl.pos, rfl⟩, ?_⟩
      simp only
      rw [← cl.it_mod, ← cr.it_mod, ← it_succ', cr.pred h d01 hrn t]
      congr 1
      rw [show t + (L - 1) + 1 = L + t by have := cl.pos; omega, it_add, cl.per]
  · intro hm; exact List.mem_append_left _ hm


/-! ## `three_link` links WHOLE faces (closed or open) -/

/-- the darts of `ps` are closed under the non-null β0 / β1 images, side by side -/
def Covered (m : Map X) (ps : List (Nat × Nat)) : Prop :=
  ∀ pq, pq ∈ ps → ∀ e, e < 2 →
    (m.β e pq.1 ≠ 0 → ∃ pq', pq' ∈ ps ∧ pq'.1 = m.β e pq.1) ∧
    (m.β e pq.2 ≠ 0 → ∃ pq', pq' ∈ ps ∧ pq'.2 = m.β e pq.2)

theorem Zipped.covered {m : Map X} {ps : List (Nat × Nat)} (Z : Zipped m ps) : Covered m ps := by
  intro pq hp e he
  have : e = 0 ∨ e = 1 := by omega
  rcases this with rfl | rfl
  · exact ⟨fun h => ⟨_, (Z pq hp).2 (.inl h), rfl⟩, fun h => ⟨_, (Z pq hp).1 (.inr h), rfl⟩⟩
  · exact ⟨fun h => ⟨_, (Z pq hp).1 (.inl h), rfl⟩, fun h => ⟨_, (Z pq hp).2 (.inr h), rfl⟩⟩

/-- **`three_link` links whole faces**: exactly the pairs of a list `ps` get 3-linked, `(ld, rd)` is
    one of them, and the darts of `ps` are closed under the non-null β0 / β1 images on each side -/
theorem threeLink3_linked {n ld rd : Nat} {m m' : Map X} {u : Unit} (hw : WF 4 m)
    (hl0 : ld ≠ 0) (hr0 : rd ≠ 0)
    (h : run (threeLink3 (X := X) n ld rd) m = (.ok u, m')) :
    ∃ ps, Linked3 m m' ps ∧ (ld, rd) ∈ ps ∧ Covered m ps := by
  obtain ⟨hln, hrn, _, _, k, _, hcase⟩ := threeLink3_walks hw.toSized hl0 hr0 h
  have mem0 : (ld, rd) ∈ walkPairs m 1 0 (k + 1) ld rd := (mem_walkPairs _ ld rd _).2 ⟨0, by omega, rfl⟩
  rcases hcase with ⟨hpl, hpr, LF⟩ | ⟨eF, eG, k', LA, eA, eB⟩
  · refine ⟨_, LF, mem0, (zipped_closed hw hln hrn (fun t ht => ?_) hpl hpr).covered⟩
    obtain ⟨a5, a6⟩ := LF.nz ((mem_walkPairs _ ld rd _).2 ⟨t, by omega, rfl⟩)
    exact ⟨a5, a6⟩
  · refine ⟨_, LA, List.mem_append_left _ mem0,
      (zipped_open hw hln hrn eF eG eA eB (fun t ht => ?_) (fun s hs' => ?_) (fun x => List.mem_append)).covered⟩
    · obtain ⟨a5, a6⟩ :=
        LA.nz (List.mem_append_left _ ((mem_walkPairs _ ld rd _).2 ⟨t, ht, rfl⟩))
      exact ⟨a5, a6⟩
    · obtain ⟨a5, a6⟩ :=
        LA.nz (List.mem_append_right _ ((mem_walkPairs _ _ _ _).2 ⟨s, hs', rfl⟩))
      exact ⟨a5, a6⟩


/-! ## `three_unlink` unlinks WHOLE faces (on mirrored, wholly 3-linked faces) -/

/-- on a mirrored map, the right-hand face of two faces 3-linked in lock step closes where the
    left-hand one does -/
theorem mirror_closes {m : Map X} (hw : WF 4 m) (hM : Mirror m) {ld k : Nat} (hln : ld < m.n)
    (hne : m.β 3 ld ≠ 0) (hpl : it m 1 (k + 1) ld = ld)
    (h3 : m.β 3 (it m 1 k ld) = it m 0 k (m.β 3 ld)) (h0 : it m 0 k (m.β 3 ld) ≠ 0) :
    it m 0 (k + 1) (m.β 3 ld) = m.β 3 ld := by
  have hl0 : ld ≠ 0 := fun hh => hne (by rw [hh]; exact hw.null 3 (by omega))
  have e1 : m.β 1 (it m 1 k ld) = ld := by rw [← it_succ']; exact hpl
  have key := mirror_back hw hM (it_lt hw (i := 1) (by omega) k ld hln) (by rw [e1]; exact hl0) (by rw [h3]; exact h0)
    (by rw [e1]; exact hne)
  rw [e1, h3] at key
  rw [it_succ']; exact key

/-- on a mirrored map whose faces are 3-linked as a whole, the right-hand side of two 3-linked open
    faces ends where the left-hand side ends -/
theorem ends_together {m : Map X} (hw : WF 4 m) (hM : Mirror m) (hS : Sided3 m) {ld k' : Nat}
    (hln : ld < m.n) (hne : m.β 3 ld ≠ 0)
    (linkedB : ∀ s, s < k' → m.β 3 (it m 0 s (m.β 0 ld)) = it m 1 s (m.β 1 (m.β 3 ld)) ∧
      it m 0 s (m.β 0 ld) ≠ 0 ∧ it m 1 s (m.β 1 (m.β 3 ld)) ≠ 0)
    (eA : it m 0 k' (m.β 0 ld) = 0) : it m 1 k' (m.β 1 (m.β 3 ld)) = 0 := by
  cases k' with
  | zero => exact mirror_end hw hM hS hln hne eA
  | succ k'' =>
      obtain ⟨l1, _, l3⟩ := linkedB k'' (by omega)
      have := mirror_end hw hM hS (it_lt hw (i := 0) (by omega) k'' _ (hw.range 0 (by omega) ld hln))
        (by rw [l1]; exact l3) (by rw [← it_succ']; exact eA)
      rw [l1] at this
      rw [it_succ']; exact this

/-- **`three_unlink` unlinks whole faces** on a mirrored map whose faces are 3-linked as a whole:
    `m` is the resulting map with exactly the pairs of a list `ps` 3-linked, `(ld, β3 ld)` is one
    of them, and the darts of `ps` are closed under the non-null β0 / β1 images on each side -/
theorem threeUnlink3_unlinked {n ld : Nat} {m m' : Map X} {u : Unit} (hw : WF 4 m) (hM : Mirror m)
    (hS : Sided3 m) (hln : ld < m.n)
    (h : run (threeUnlink3 (X := X) n ld) m = (.ok u, m')) :
    ∃ ps, Linked3 m' m ps ∧ (ld, m.β 3 ld) ∈ ps ∧ Covered m ps ∧ WF 4 m' := by
  obtain ⟨hne, k, m1, LF, hw1, _, _, hcase⟩ := threeUnlink3_walks hw hln h
  have hrn : m.β 3 ld < m.n := hw.range 3 (by omega) ld hln
  have mem0 : (ld, m.β 3 ld) ∈ walkPairs m 1 0 (k + 1) ld (m.β 3 ld) :=
    (mem_walkPairs _ ld _ _).2 ⟨0, by omega, rfl⟩
  -- in `m` the visited pairs are 3-linked to each other
  have linkedF : ∀ t, t < k + 1 → m.β 3 (it m 1 t ld) = it m 0 t (m.β 3 ld) ∧ it m 1 t ld ≠ 0 ∧
      it m 0 t (m.β 3 ld) ≠ 0 := by
    intro t ht
    obtain ⟨a1, _, _, _, a5, a6, _, _⟩ := LF.pairs _ ((mem_walkPairs _ ld _ _).2 ⟨t, ht, rfl⟩)
    exact ⟨a1, a5, a6⟩
  rcases hcase with ⟨hpl, rfl⟩ | ⟨eF, eG, k', LA, hw2, eA, _⟩
  · -- closed left face: by the mirror condition the right one closes at the same step
    have hpr := mirror_closes hw hM hln hne hpl (linkedF k (by omega)).1 (linkedF k (by omega)).2.2
    exact ⟨_, LF, mem0,
      (zipped_closed hw hln hrn (fun t ht => (linkedF t (by omega)).2) hpl hpr).covered, hw1⟩
  · have linkedB : ∀ s, s < k' → m.β 3 (it m 0 s (m.β 0 ld)) = it m 1 s (m.β 1 (m.β 3 ld)) ∧
        it m 0 s (m.β 0 ld) ≠ 0 ∧ it m 1 s (m.β 1 (m.β 3 ld)) ≠ 0 := by
      intro s hs'
      obtain ⟨a1, _, _, _, a5, a6, _, _⟩ :=
        LA.pairs _ (List.mem_append_left _ ((mem_walkPairs _ _ _ _).2 ⟨s, hs', rfl⟩))
      exact ⟨a1, a5, a6⟩
    exact ⟨_, LA, List.mem_append_right _ mem0,
      (zipped_open hw hln hrn eF eG eA (ends_together hw hM hS hln hne linkedB eA)
        (fun t ht => (linkedF t ht).2) (fun s hs' => (linkedB s hs').2)
        (fun x => List.mem_append.trans Or.comm)).covered, hw2⟩

/-- **`three_unlink` on a CLOSED left face of a mirrored map**: `m` is the result with exactly the
    pairs `(β1^t ld, β0^t (β3 ld))`, `t < L`, 3-linked; both faces are closed with `L` darts -/
theorem threeUnlink3_unlinked_closed {n ld : Nat} {m m' : Map X} {u : Unit} (hw : WF 4 m) (hM : Mirror m)
    (hln : ld < m.n) (hclosed : ∀ t, it m 1 t ld ≠ 0)
    (h : run (threeUnlink3 (X := X) n ld) m = (.ok u, m')) :
    ∃ L, m.β 3 ld ≠ 0 ∧ Linked3 m' m (walkPairs m 1 0 L ld (m.β 3 ld)) ∧ Cyc m 1 ld L ∧
      Cyc m 0 (m.β 3 ld) L ∧ (∀ t, 0 < t → t < L → it m 1 t ld ≠ ld) ∧
      (∀ t, 0 < t → t < L → it m 0 t (m.β 3 ld) ≠ m.β 3 ld) ∧ WF 4 m' := by
  obtain ⟨hne, k, m1, LF, hw1, _, hminl, hcase⟩ := threeUnlink3_walks hw hln h
  rcases hcase with ⟨hpl, rfl⟩ | ⟨e0, _⟩
  · have linkedF : ∀ t, t < k + 1 → m.β 3 (it m 1 t ld) = it m 0 t (m.β 3 ld) ∧ it m 0 t (m.β 3 ld) ≠ 0 := by
      intro t ht
      obtain ⟨a1, _, _, _, _, a6, _, _⟩ := LF.pairs _ ((mem_walkPairs _ ld _ _).2 ⟨t, ht, rfl⟩)
      exact ⟨a1, a6⟩
    have hpr := mirror_closes hw hM hln hne hpl (linkedF k (by omega)).1 (linkedF k (by omega)).2
    have cr : Cyc m 0 (m.β 3 ld) (k + 1) :=
      ⟨by omega, hpr, periodic_nz (hw.null 0 (by omega)) (by omega) hpr hne⟩
    refine ⟨k + 1, hne, LF, ⟨by omega, hpl, hclosed⟩, cr, hminl, ?_, hw1⟩
    intro t h0 ht hh
    -- q_t = rd ⇒ p_t = ld (β3 is injective on linked darts)
    obtain ⟨l1, _⟩ := linkedF t ht
    have b1 := invol_back hw (i := 3) (by omega) (by omega) (it_lt hw (i := 1) (by omega) t ld hln) (by rw [l1, hh]; exact hne)
    rw [l1, hh, invol_back hw (by omega) (by omega) hln hne] at b1
    exact hminl t h0 ht b1.symm
  · exact absurd e0 (hclosed _)

end HC.Cell3

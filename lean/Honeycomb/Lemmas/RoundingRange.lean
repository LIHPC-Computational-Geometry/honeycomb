/-
  Range tracking for the bounded-exponent rounding `HC.Geo.rndB` (Model/Rounding.lean).

  `G g h x` : `x` is a multiple of `2^g` and `|x| ≤ 2^h`.  Floats of a bounded range live on such a grid,
  sums / differences / products of grid numbers live on explicit grids, rounding keeps both the grid and
  the cap, a NONZERO grid number is at least `2^g` in absolute value — hence every intermediate result of a
  polynomial expression is either zero or in the normal range as soon as `emin ≤ grid` and `cap ≤ emax`,
  and there the bounded rounding coincides with the unbounded one (`rndB_eq_rnd`, `rndB_of_G`).
-/
import Honeycomb.Lemmas.Rounding

namespace HC.Rounding
open HC.Geo

/-! ## `rndB` coincides with `rnd` in the normal range -/

theorem abs_ite (x : ℚ) : (if x < 0 then -x else x) = |x| := by
  split
  · rename_i h; exact (abs_of_neg h).symm
  · rename_i h; exact (abs_of_nonneg (not_lt.mp h)).symm

theorem maxFinite_eq (p : ℕ) (emax : ℤ) :
    maxFinite p emax = (((2 ^ p - 1 : ℕ) : ℚ)) * (2 : ℚ) ^ (emax - (p : ℤ) + 1) := by
  simp only [maxFinite, pow2_eq]

theorem two_zpow_le_maxFinite {p : ℕ} (hp : 0 < p) (emax : ℤ) : (2 : ℚ) ^ emax ≤ maxFinite p emax := by
  rw [maxFinite_eq]
  have e : (2 : ℚ) ^ emax = (2 : ℚ) ^ ((p : ℤ) - 1) * 2 ^ (emax - (p : ℤ) + 1) := by
    rw [← two_zpow_add]; congr 1; ring
  rw [e]
  apply mul_le_mul_of_nonneg_right _ (two_zpow_pos _).le
  rw [zpow_pred_cast hp]
  have h1 : 2 ^ (p - 1) ≤ 2 ^ p - 1 := by
    have : 2 ^ p = 2 * 2 ^ (p - 1) := by
      conv_lhs => rw [show p = (p - 1) + 1 by omega, pow_succ]
      ring
    have := Nat.one_le_two_pow (n := p - 1)
    omega
  have : (((2 : ℤ) ^ (p - 1) : ℤ) : ℚ) = (((2 ^ (p - 1) : ℕ)) : ℚ) := by push_cast; rfl
  rw [this]; exact_mod_cast h1

/-- `|x| ≤ 2^h` is kept by rounding (`2^h` is a floating-point number) -/
theorem abs_rnd_le_two_zpow {p : ℕ} (hp : 0 < p) {x : ℚ} {h : ℤ} (hx : |x| ≤ (2 : ℚ) ^ h) :
    |rnd p x| ≤ (2 : ℚ) ^ h := by
  have hrep : rnd p ((2 : ℚ) ^ h) = (2 : ℚ) ^ h :=
    rnd_of_representable hp ⟨1, h, by simpa using Nat.one_le_two_pow, by simp⟩
  have hle := abs_le.mp hx
  rw [abs_le]
  constructor
  · have := rnd_monotone hp _ _ hle.1
    rwa [rnd_neg, hrep] at this
  · have := rnd_monotone hp _ _ hle.2
    rwa [hrep] at this

/-- **the bounded rounding is the unbounded one** on zero and on the normal range -/
theorem rndB_eq_rnd {p : ℕ} (hp : 0 < p) {emin emax : ℤ} {x : ℚ}
    (hlo : x = 0 ∨ (2 : ℚ) ^ emin ≤ |x|) (hhi : |x| ≤ (2 : ℚ) ^ emax) :
    rndB p emin emax x = some (rnd p x) := by
  rcases hlo with rfl | hlo
  · have : (0 : ℚ) < pow2 emin := by rw [pow2_eq]; exact two_zpow_pos _
    simp [rndB, this, rnd_zero, show roundEven (0 : ℚ) = 0 from by
      have := roundEven_intCast 0; simpa using this]
  · unfold rndB
    simp only [abs_ite, pow2_eq]
    rw [if_neg (not_lt.mpr hlo)]
    have := (abs_rnd_le_two_zpow hp hhi).trans (two_zpow_le_maxFinite hp emax)
    rw [if_neg (not_lt.mpr this)]

/-! ## grids -/

/-- `x` is a multiple of `2^g` with `|x| ≤ 2^h` -/
def G (g h : ℤ) (x : ℚ) : Prop := (∃ k : ℤ, x = (k : ℚ) * 2 ^ g) ∧ |x| ≤ (2 : ℚ) ^ h

theorem G.zero (g h : ℤ) : G g h 0 := ⟨⟨0, by simp⟩, by simpa using (two_zpow_pos h).le⟩

/-- a nonzero grid number is at least one grid step -/
theorem G.lower {g h : ℤ} {x : ℚ} (hx : G g h x) (h0 : x ≠ 0) : (2 : ℚ) ^ g ≤ |x| := by
  obtain ⟨⟨k, rfl⟩, _⟩ := hx
  have hk : k ≠ 0 := by rintro rfl; simp at h0
  rw [abs_mul, abs_of_pos (two_zpow_pos g)]
  have : (1 : ℚ) ≤ |(k : ℚ)| := by
    have : (1 : ℤ) ≤ |k| := Int.one_le_abs hk
    exact_mod_cast this
  calc (2 : ℚ) ^ g = 1 * 2 ^ g := (one_mul _).symm
    _ ≤ |(k : ℚ)| * 2 ^ g := mul_le_mul_of_nonneg_right this (two_zpow_pos g).le

theorem G.neg {g h : ℤ} {x : ℚ} (hx : G g h x) : G g h (-x) := by
  obtain ⟨⟨k, rfl⟩, hb⟩ := hx
  exact ⟨⟨-k, by push_cast; ring⟩, by rwa [abs_neg]⟩

theorem G.add {g h : ℤ} {x y : ℚ} (hx : G g h x) (hy : G g h y) : G g (h + 1) (x + y) := by
  obtain ⟨⟨k, rfl⟩, hbx⟩ := hx
  obtain ⟨⟨l, rfl⟩, hby⟩ := hy
  refine ⟨⟨k + l, by push_cast; ring⟩, ?_⟩
  rw [two_zpow_succ]
  have := abs_add_le ((k : ℚ) * 2 ^ g) ((l : ℚ) * 2 ^ g)
  linarith

theorem G.sub {g h : ℤ} {x y : ℚ} (hx : G g h x) (hy : G g h y) : G g (h + 1) (x - y) := by
  rw [sub_eq_add_neg]; exact hx.add hy.neg

theorem G.mul {g1 h1 g2 h2 : ℤ} {x y : ℚ} (hx : G g1 h1 x) (hy : G g2 h2 y) :
    G (g1 + g2) (h1 + h2) (x * y) := by
  obtain ⟨⟨k, rfl⟩, hbx⟩ := hx
  obtain ⟨⟨l, rfl⟩, hby⟩ := hy
  refine ⟨⟨k * l, by rw [two_zpow_add]; push_cast; ring⟩, ?_⟩
  rw [abs_mul, two_zpow_add]
  exact mul_le_mul hbx hby (abs_nonneg _) (two_zpow_pos _).le

/-- halving moves to the next finer grid -/
theorem G.half {g h : ℤ} {x : ℚ} (hx : G g h x) : G (g - 1) (h - 1) (x / 2) := by
  obtain ⟨⟨k, rfl⟩, hb⟩ := hx
  have e : (2 : ℚ) ^ g = 2 ^ (g - 1) * 2 := by rw [← two_zpow_succ]; congr 1; ring
  have e' : (2 : ℚ) ^ h = 2 ^ (h - 1) * 2 := by rw [← two_zpow_succ]; congr 1; ring
  refine ⟨⟨k, by rw [e]; ring⟩, ?_⟩
  rw [abs_div, abs_of_pos (by norm_num : (0 : ℚ) < 2), div_le_iff₀ (by norm_num), ← e']
  exact hb

theorem exists_int_mul_zpow {g e : ℤ} (hge : g ≤ e) (k : ℤ) : ∃ j : ℤ, (k : ℚ) * 2 ^ e = (j : ℚ) * 2 ^ g := by
  obtain ⟨d, hd⟩ := Int.eq_ofNat_of_zero_le (sub_nonneg.mpr hge)
  refine ⟨k * 2 ^ d, ?_⟩
  have : (2 : ℚ) ^ e = 2 ^ (e - g) * 2 ^ g := by rw [← two_zpow_add]; congr 1; ring
  rw [this, hd, zpow_natCast]; push_cast; ring

theorem G.mono {g g' h h' : ℤ} {x : ℚ} (hx : G g h x) (hg : g' ≤ g) (hh : h ≤ h') : G g' h' x := by
  obtain ⟨⟨k, rfl⟩, hb⟩ := hx
  exact ⟨exists_int_mul_zpow hg k, hb.trans (two_zpow_le hh)⟩

/-- **rounding keeps the grid and the cap** -/
theorem G.rnd {p : ℕ} (hp : 0 < p) {g h : ℤ} {x : ℚ} (hx : G g h x) : G g h (rnd p x) := by
  refine ⟨?_, abs_rnd_le_two_zpow hp hx.2⟩
  obtain ⟨⟨k, hk⟩, _⟩ := hx
  -- positive case, then symmetry
  have pos : ∀ {a : ℚ} {k : ℤ}, 0 < a → a = (k : ℚ) * 2 ^ g → ∃ j : ℤ, rndPos p a = (j : ℚ) * 2 ^ g := by
    intro a k ha hk
    set e := ilog2 a - ((p : ℤ) - 1) with he
    by_cases hge : g ≤ e
    · -- result is a multiple of 2^e, which is a multiple of 2^g
      rw [rndPos_def, ← he]
      exact exists_int_mul_zpow hge _
    · -- the grid is coarser than the ulp: a is representable
      have hlt : e < g := not_le.mp hge
      obtain ⟨d, hd⟩ := Int.eq_ofNat_of_zero_le (sub_nonneg.mpr hlt.le)
      have hm : a / 2 ^ e = ((k * 2 ^ d : ℤ) : ℚ) := by
        rw [hk, mul_div_assoc, ← two_zpow_sub, hd, zpow_natCast]; push_cast; rfl
      refine ⟨k, ?_⟩
      rw [rndPos_def, ← he, hm, roundEven_intCast, ← hm, ← hk]
      field_simp
  rcases lt_trichotomy x 0 with hneg | h0 | hpos
  · obtain ⟨j, hj⟩ := pos (a := -x) (k := -k) (neg_pos.mpr hneg) (by rw [hk]; push_cast; ring)
    exact ⟨-j, by rw [rnd_of_neg p hneg, hj]; push_cast; ring⟩
  · subst h0; exact ⟨0, by simp [rnd_zero]⟩
  · obtain ⟨j, hj⟩ := pos hpos hk
    exact ⟨j, by rw [rnd_of_pos p hpos, hj]⟩

/-- **on a grid inside the exponent range the bounded rounding is the unbounded one** -/
theorem rndB_of_G {p : ℕ} (hp : 0 < p) {emin emax g h : ℤ} {x : ℚ} (hx : G g h x)
    (hg : emin ≤ g) (hh : h ≤ emax) : rndB p emin emax x = some (rnd p x) := by
  apply rndB_eq_rnd hp
  · by_cases h0 : x = 0
    · exact Or.inl h0
    · exact Or.inr ((two_zpow_le hg).trans (hx.lower h0))
  · exact hx.2.trans (two_zpow_le hh)

/-- a `p`-bit number of magnitude in `[2^lo, 2^hi]` (or zero) lies on the grid `2^(lo - p)` -/
theorem G.of_representable {p : ℕ} {lo hi : ℤ} {x : ℚ} (hr : Representable p x)
    (hlo : x = 0 ∨ (2 : ℚ) ^ lo ≤ |x|) (hhi : |x| ≤ (2 : ℚ) ^ hi) : G (lo - (p : ℤ)) hi x := by
  refine ⟨?_, hhi⟩
  rcases hlo with rfl | hlo
  · exact ⟨0, by simp⟩
  obtain ⟨n, e, hn, rfl⟩ := hr
  -- |n| ≤ 2^p and 2^lo ≤ |n|·2^e give lo - p ≤ e
  have hnq : |(n : ℚ)| ≤ (2 : ℚ) ^ (p : ℤ) := by
    rw [zpow_cast]
    have : (n.natAbs : ℤ) ≤ ((2 ^ p : ℕ) : ℤ) := by exact_mod_cast hn
    rw [Int.natCast_natAbs] at this
    have h2 : |n| ≤ (2 : ℤ) ^ p := by simpa using this
    exact_mod_cast h2
  rw [abs_mul, abs_of_pos (two_zpow_pos e)] at hlo
  have : (2 : ℚ) ^ lo ≤ 2 ^ ((p : ℤ) + e) := by
    rw [two_zpow_add]; exact hlo.trans (mul_le_mul_of_nonneg_right hnq (two_zpow_pos e).le)
  have hle : lo ≤ (p : ℤ) + e := two_zpow_le_iff.mp this
  exact exists_int_mul_zpow (by omega) n

end HC.Rounding

/-
  Generic facts about the direct semantics `run` on maps: sequencing, programs that stay inside a reflexive and
  transitive relation between the store before and after (`Rel R p`, rules once for every such `R`), of which
  read-only programs (`R` = equality; the lemmas that peel a successful run; the BFS and the 2-D identifiers are
  read-only), programs that only touch attribute storages (`AttrOnly`, `R = SameTopo`) and programs that touch
  neither attribute values nor the fault countdown (`TopoOnly`, `R = SameAttrs`: the link cores) are the instances.
-/
import Honeycomb.Model.Ops2
import Honeycomb.Lemmas.StmThy

namespace HC
variable {X α γ : Type}

theorem run_bind (p : P X α) (f : α → P X γ) (m : Map X) :
    run (p.bind f) m =
      match run p m with
      | (.ok a, m') => run (f a) m'
      | (.err e, m') => (.err e, m')
      | (.retry, m') => (.retry, m')
      | (.panic, m') => (.panic, m') := by
  rw [run_bind_gen]
  rcases run p m with ⟨o, m'⟩
  cases o <;> rfl

theorem run_bind_ok {p : P X α} {f : α → P X γ} {m m'' : Map X} {b : γ}
    (h : run (p.bind f) m = (.ok b, m'')) :
    ∃ a m', run p m = (.ok a, m') ∧ run (f a) m' = (.ok b, m'') := by
  rw [run_bind] at h
  match hp : run p m with
  | (.ok a, m') => rw [hp] at h; exact ⟨a, m', rfl, h⟩
  | (.err e, m') => rw [hp] at h; simp at h
  | (.retry, m') => rw [hp] at h; simp at h
  | (.panic, m') => rw [hp] at h; simp at h

theorem run_bind_of_ok {p : P X α} {f : α → P X γ} {m m' : Map X} {a : α}
    (h : run p m = (.ok a, m')) : run (p.bind f) m = run (f a) m' := by
  rw [run_bind, h]

theorem run_eq_of_fst {p : P X α} {m : Map X} {a : α} (h : (run p m).1 = .ok a) :
    run p m = (.ok a, (run p m).2) :=
  Prod.ext h rfl

theorem run_ok_inj {p : P X α} {m m1 m2 : Map X} {a b : α}
    (h1 : run p m = (.ok a, m1)) (h2 : run p m = (.ok b, m2)) : a = b := by
  rw [h1] at h2
  simp at h2
  exact h2.1

theorem run_bind_snd (p : P X α) (f : α → P X γ) (m : Map X) :
    (run (p.bind f) m).2 =
      match run p m with
      | (.ok a, m') => (run (f a) m').2
      | (_, m') => m' := by
  rw [run_bind]
  match run p m with
  | (.ok a, m') => rfl
  | (.err e, m') => rfl
  | (.retry, m') => rfl
  | (.panic, m') => rfl

theorem run_attempt (p : P X α) (m : Map X) :
    run p.attempt m =
      match run p m with
      | (.ok a, m') => (.ok (.ok a), m')
      | (.err e, m') => (.ok (.error e), m')
      | (.retry, m') => (.retry, m')
      | (.panic, m') => (.panic, m') := by
  induction p generalizing m with
  | ret a => simp [Prog.attempt, run]
  | read v k ih =>
      simp only [Prog.attempt, run]
      split
      · exact ih _ m
      · rfl
  | write v x k ih =>
      simp only [Prog.attempt, run]
      split
      · exact ih _
      · rfl
  | abort e => simp [Prog.attempt, run]
  | retry => simp [Prog.attempt, run]
  | panic => simp [Prog.attempt, run]

/-! ## programs that stay inside a relation -/

/-- a reflexive and transitive relation between the store before and the store after -/
structure Pre (R : Map X → Map X → Prop) : Prop where
  refl : ∀ m, R m m
  trans : ∀ {m m' m''}, R m m' → R m' m'' → R m m''

/-- whatever its outcome, `p` leaves a store `R`-related to the one it started from -/
def Rel (R : Map X → Map X → Prop) (p : P X α) : Prop := ∀ m : Map X, R m (run p m).2

theorem Rel.run {R : Map X → Map X → Prop} {p : P X α} (h : Rel R p) {m m' : Map X} {o : Out Err α}
    (hr : run p m = (o, m')) : R m m' := by
  have := h m
  rw [hr] at this
  exact this

theorem Rel.mono {R R' : Map X → Map X → Prop} {p : P X α} (h : Rel R p) (hR : ∀ m m', R m m' → R' m m') :
    Rel R' p := fun m => hR _ _ (h m)

theorem Rel.ite {R : Map X → Map X → Prop} {c : Prop} [Decidable c] {p q : P X α} (hp : Rel R p) (hq : Rel R q) :
    Rel R (if c then p else q) := by
  split <;> assumption

theorem Rel.wF {R : Map X → Map X → Prop} {v : Nat} (h : ∀ m : Map X, R m { m with fc := v }) :
    Rel R (wF v : P X Unit) := by
  intro m
  simp only [HC.wF, HC.run, Store.svalid, Store.sset, Store.styped, Bool.and_self, if_true]
  exact h m

namespace Pre
variable {R : Map X → Map X → Prop} (F : Pre R)
include F

theorem pure (a : α) : Rel R (pure a : P X α) := fun m => F.refl m
theorem abort (e : Err) : Rel R (abort e : P X α) := fun m => F.refl m
theorem panic : Rel R (Prog.panic : P X α) := fun m => F.refl m
theorem retry : Rel R (Prog.retry : P X α) := fun m => F.refl m

theorem bind {p : P X α} {f : α → P X γ} (hp : Rel R p) (hf : ∀ a, Rel R (f a)) : Rel R (p.bind f) := by
  intro m
  rw [run_bind_snd]
  have := hp m
  match h : HC.run p m with
  | (.ok a, m') => rw [h] at this; exact F.trans this (hf a m')
  | (.err e, m') => rw [h] at this; exact this
  | (.retry, m') => rw [h] at this; exact this
  | (.panic, m') => rw [h] at this; exact this

theorem forM_ {γ : Type} (l : List γ) (f : γ → P X Unit) (hf : ∀ x, x ∈ l → Rel R (f x)) : Rel R (HC.forM_ l f) := by
  induction l with
  | nil => exact F.pure _
  | cons x xs ih =>
      unfold HC.forM_
      exact F.bind (hf x (List.mem_cons_self ..)) fun _ => ih fun y hy => hf y (List.mem_cons_of_mem _ hy)

/-- a write stays inside `R` when the updated store is related to the old one -/
theorem wB {i d v : Nat} (h : ∀ m, R m (m.setβ i d v)) : Rel R (wB i d v : P X Unit) := by
  intro m
  simp only [run_wB']
  split
  · exact h m
  · exact F.refl m

theorem wU {d : Nat} {v : Bool} (h : ∀ m, R m (m.setU d v)) : Rel R (wU d v : P X Unit) := by
  intro m
  simp only [run_wU']
  split
  · exact h m
  · exact F.refl m

theorem wA {s d : Nat} {v : Option X} (h : ∀ m, R m (m.setA s d v)) : Rel R (wA s d v : P X Unit) := by
  intro m
  simp only [run_wA']
  split
  · exact h m
  · exact F.refl m

end Pre

/-! ## read-only programs -/

/-- the program never changes the store: `Rel` for equality -/
def ReadOnly (p : P X α) : Prop := ∀ m : Map X, (run p m).2 = m

theorem ReadOnly.ret (a : α) : ReadOnly (Prog.ret a : P X α) := fun _ => rfl
theorem ReadOnly.pure (a : α) : ReadOnly (pure a : P X α) := fun _ => rfl
theorem ReadOnly.abort (e : Err) : ReadOnly (abort e : P X α) := fun _ => rfl
theorem ReadOnly.panic : ReadOnly (Prog.panic : P X α) := fun _ => rfl

theorem pre_eq : Pre (fun m m' : Map X => m' = m) := ⟨fun _ => rfl, fun h1 h2 => h2.trans h1⟩

theorem Pre.ro {R : Map X → Map X → Prop} (F : Pre R) {p : P X α} (h : ReadOnly p) : Rel R p := fun m => by
  rw [h m]
  exact F.refl m

theorem Pre.ro_bind {R : Map X → Map X → Prop} (F : Pre R) {p : P X α} {f : α → P X γ} (hp : ReadOnly p)
    (hf : ∀ a, Rel R (f a)) : Rel R (p.bind f) :=
  F.bind (F.ro hp) hf

theorem ReadOnly.bind {p : P X α} {f : α → P X γ} (hp : ReadOnly p) (hf : ∀ a, ReadOnly (f a)) :
    ReadOnly (p.bind f) :=
  pre_eq.bind hp hf

theorem ReadOnly.rB (i d : Nat) : ReadOnly (rB i d : P X Nat) := by
  intro m; simp only [run_rB']; split <;> rfl
theorem ReadOnly.rU (d : Nat) : ReadOnly (rU d : P X Bool) := by
  intro m; simp only [run_rU']; split <;> rfl
theorem ReadOnly.rA (s d : Nat) : ReadOnly (rA s d : P X (Option X)) := by
  intro m; simp only [run_rA']; split <;> rfl

theorem ReadOnly.rF : ReadOnly (rF : P X Nat) := by
  intro m
  simp [HC.rF, run, Store.svalid, Store.sget]

theorem ReadOnly.ite {c : Prop} [Decidable c] {p q : P X α} (hp : ReadOnly p) (hq : ReadOnly q) :
    ReadOnly (if c then p else q) :=
  Rel.ite (R := fun m m' => m' = m) hp hq

theorem ReadOnly.run_ok {p : P X α} (hp : ReadOnly p) {m m' : Map X} {a : α}
    (h : run p m = (.ok a, m')) : m' = m :=
  Rel.run (R := fun m m' => m' = m) hp h

theorem atomically_readOnly {p : P X α} (hp : ReadOnly p) (m : Map X) :
    atomically p m = run p m := by
  have h2 := hp m
  unfold atomically
  match hr : run p m with
  | (.ok a, m') => rfl
  | (.err e, m') => rw [hr] at h2; simp only at h2; rw [h2]
  | (.retry, m') => rw [hr] at h2; simp only at h2; rw [h2]
  | (.panic, m') => rw [hr] at h2; simp only at h2; rw [h2]

/-! ## peeling a successful run -/

theorem run_pure_ok {a b : α} {m m' : Map X} (h : run (pure a : P X α) m = (.ok b, m')) :
    b = a ∧ m' = m := by
  simp only [Prog.pure_eq, run_ret, Prod.mk.injEq, Out.ok.injEq] at h
  exact ⟨h.1.symm, h.2.symm⟩

theorem run_ite_abort_ok {c : Prop} [Decidable c] {e : Err} {p : P X α} {m m' : Map X} {a : α}
    (h : run (if c then (abort e : P X α) else p) m = (.ok a, m')) : ¬ c ∧ run p m = (.ok a, m') := by
  by_cases hc : c
  · rw [if_pos hc] at h; simp at h
  · rw [if_neg hc] at h; exact ⟨hc, h⟩

theorem run_ro_bind_ok {α β : Type} {p : P X α} {f : α → P X β} (hp : ReadOnly p) {m m' : Map X} {b : β}
    (h : run (p.bind f) m = (.ok b, m')) : ∃ a, run p m = (.ok a, m) ∧ run (f a) m = (.ok b, m') := by
  obtain ⟨a, m1, h1, h2⟩ := run_bind_ok h
  have := hp.run_ok h1; subst this
  exact ⟨a, h1, h2⟩

theorem run_rB_ok {i d x : Nat} {m m' : Map X} (h : run (rB i d : P X Nat) m = (.ok x, m')) :
    x = m.β i d ∧ m' = m ∧ m.okβ i d = true := by
  rw [run_rB'] at h
  split at h
  · rename_i hok
    simp only [Prod.mk.injEq, Out.ok.injEq] at h; exact ⟨h.1.symm, h.2.symm, hok⟩
  · simp at h

theorem rB_bind_ok {β : Type} {i d : Nat} {f : Nat → P X β} {m m' : Map X} {b : β}
    (h : run ((rB i d).bind f) m = (.ok b, m')) : m.okβ i d = true ∧ run (f (m.β i d)) m = (.ok b, m') := by
  rw [run_rB] at h
  by_cases hok : m.okβ i d = true
  · exact ⟨hok, by simpa [hok] using h⟩
  · simp [hok] at h

theorem run_rB_bind_ok {β : Type} {i d : Nat} {f : Nat → P X β} {m m' : Map X} {b : β}
    (h : run ((rB i d).bind f) m = (.ok b, m')) : run (f (m.β i d)) m = (.ok b, m') :=
  (rB_bind_ok h).2

theorem run_rA_ok {s d : Nat} {x : Option X} {m m' : Map X} (h : run (rA s d : P X (Option X)) m = (.ok x, m')) :
    x = m.att s d ∧ m' = m := by
  rw [run_rA'] at h
  split at h
  · simp only [Prod.mk.injEq, Out.ok.injEq] at h; exact ⟨h.1.symm, h.2.symm⟩
  · simp at h

theorem run_rA_bind_ok {β : Type} {s d : Nat} {f : Option X → P X β} {m m' : Map X} {b : β}
    (h : run ((rA s d).bind f) m = (.ok b, m')) : run (f (m.att s d)) m = (.ok b, m') := by
  obtain ⟨x, hx, h⟩ := run_ro_bind_ok (ReadOnly.rA _ _) h
  rw [(run_rA_ok hx).1] at h
  exact h

theorem rA_ok {s d : Nat} {k : Option X → P X α} {m m' : Map X} {a : α}
    (h : run ((rA s d).bind k) m = (.ok a, m')) : m.okA s d = true ∧ run (k (m.att s d)) m = (.ok a, m') := by
  rw [run_rA] at h
  by_cases hok : m.okA s d = true
  · exact ⟨hok, by simpa [hok] using h⟩
  · simp [hok] at h

theorem wA_ok {s d : Nat} {v : Option X} {k : Unit → P X α} {m m' : Map X} {a : α}
    (h : run ((wA s d v).bind k) m = (.ok a, m')) : m.okA s d = true ∧ run (k ()) (m.setA s d v) = (.ok a, m') := by
  rw [run_wA] at h
  by_cases hok : m.okA s d = true
  · exact ⟨hok, by simpa [hok] using h⟩
  · simp [hok] at h

/-! ## BFS and identifiers are read-only -/

theorem readOnly_bfs (gen : Nat → P X (List Nat)) (hg : ∀ d, ReadOnly (gen d)) :
    ∀ fuel pending marked out, ReadOnly (bfs gen fuel pending marked out) := by
  intro fuel
  induction fuel with
  | zero => intro p mk o; exact ReadOnly.pure _
  | succ f ih =>
      intro p mk o
      cases p with
      | nil => exact ReadOnly.pure _
      | cons d rest =>
          unfold bfs
          exact ReadOnly.bind (hg d) (fun ims => ih _ _ _)

theorem readOnly_gen2_custom_go (d : Nat) : ∀ bs acc, ReadOnly (gen2.go (X := X) d bs acc) := by
  intro bs
  induction bs with
  | nil => intro acc; exact ReadOnly.pure _
  | cons i is ih =>
      intro acc
      unfold gen2.go
      split
      · exact ReadOnly.bind (ReadOnly.rB _ _) (fun im => ih _)
      · exact ReadOnly.panic

theorem readOnly_gen2 (pol : Policy) (d : Nat) : ReadOnly (gen2 (X := X) pol d) := by
  cases pol <;> unfold gen2
  · exact ReadOnly.bind (ReadOnly.rB _ _) fun _ => ReadOnly.bind (ReadOnly.rB _ _) fun _ =>
      ReadOnly.bind (ReadOnly.rB _ _) fun _ => ReadOnly.bind (ReadOnly.rB _ _) fun _ => ReadOnly.pure _
  · exact ReadOnly.bind (ReadOnly.rB _ _) fun _ => ReadOnly.bind (ReadOnly.rB _ _) fun _ => ReadOnly.pure _
  · exact ReadOnly.bind (ReadOnly.rB _ _) fun _ => ReadOnly.pure _
  · exact ReadOnly.bind (ReadOnly.rB _ _) fun _ => ReadOnly.bind (ReadOnly.rB _ _) fun _ => ReadOnly.pure _
  · exact ReadOnly.bind (ReadOnly.rB _ _) fun _ => ReadOnly.pure _
  · exact ReadOnly.panic
  · exact ReadOnly.panic
  · exact readOnly_gen2_custom_go d _ _

theorem readOnly_orbit2 (n : Nat) (pol : Policy) (d : Nat) : ReadOnly (orbit2 (X := X) n pol d) :=
  readOnly_bfs _ (readOnly_gen2 pol) _ _ _ _

theorem readOnly_vertexId2 (n d : Nat) : ReadOnly (vertexId2 (X := X) n d) :=
  ReadOnly.bind (readOnly_bfs _ (readOnly_gen2 .vertex) _ _ _ _) fun _ => ReadOnly.pure _

theorem readOnly_faceId2 (n d : Nat) : ReadOnly (faceId2 (X := X) n d) :=
  ReadOnly.bind (readOnly_bfs _ (readOnly_gen2 .face) _ _ _ _) fun _ => ReadOnly.pure _

theorem readOnly_edgeId2 (d : Nat) : ReadOnly (edgeId2 (X := X) d) :=
  ReadOnly.bind (ReadOnly.rB _ _) fun _ => ReadOnly.ite (ReadOnly.pure _) (ReadOnly.pure _)

theorem iterCells_nodup (m : Map X) (idf : Nat → P X Nat) : (iterCells m idf).Nodup :=
  List.Nodup.sublist List.filter_sublist List.nodup_range

/-! ## programs that only write attribute storages (and the fault countdown) -/

/-- same topology, same flags, same sizes: only attribute *values* (and `fc`) may differ -/
structure SameTopo (m m' : Map X) : Prop where
  n : m'.n = m.n
  b : m'.b = m.b
  u : m'.u = m.u
  asz : m'.a.size = m.a.size
  rsz : ∀ s, (rd m'.a s).size = (rd m.a s).size

theorem SameTopo.refl (m : Map X) : SameTopo m m := ⟨rfl, rfl, rfl, rfl, fun _ => rfl⟩

theorem SameTopo.trans {m m' m'' : Map X} (h1 : SameTopo m m') (h2 : SameTopo m' m'') : SameTopo m m'' :=
  ⟨h2.n.trans h1.n, h2.b.trans h1.b, h2.u.trans h1.u, h2.asz.trans h1.asz,
    fun s => (h2.rsz s).trans (h1.rsz s)⟩

theorem SameTopo.symm {m m' : Map X} (st : SameTopo m m') : SameTopo m' m :=
  ⟨st.n.symm, st.b.symm, st.u.symm, st.asz.symm, fun s => (st.rsz s).symm⟩

theorem SameTopo.setA (m : Map X) (s d : Nat) (v : Option X) : SameTopo m (m.setA s d v) := by
  refine ⟨rfl, rfl, rfl, ?_, ?_⟩
  · simp [Map.setA, size_wr]
  · intro t
    simp only [Map.setA, rd_wr]
    split
    · rename_i h; rw [size_wr, h.1]
    · rfl

theorem SameTopo.β {m m' : Map X} (st : SameTopo m m') (i d : Nat) : m'.β i d = m.β i d := by
  unfold Map.β; rw [st.b]

theorem SameTopo.unused {m m' : Map X} (st : SameTopo m m') (d : Nat) : m'.unused d = m.unused d := by
  unfold Map.unused; rw [st.u]

theorem SameTopo.okA {m m' : Map X} (st : SameTopo m m') (s d : Nat) : m'.okA s d = m.okA s d := by
  unfold Map.okA; rw [st.asz, st.rsz]

/-- the program only writes attribute values (whatever its outcome): `Rel SameTopo` -/
def AttrOnly (p : P X α) : Prop := ∀ m : Map X, SameTopo m (run p m).2

theorem pre_sameTopo : Pre (SameTopo (X := X)) := ⟨SameTopo.refl, SameTopo.trans⟩

theorem AttrOnly.of_readOnly {p : P X α} (h : ReadOnly p) : AttrOnly p := pre_sameTopo.ro h

theorem AttrOnly.run_ok {p : P X α} (hp : AttrOnly p) {m m' : Map X} {a : α}
    (h : run p m = (.ok a, m')) : SameTopo m m' :=
  Rel.run hp h

theorem AttrOnly.pure (a : α) : AttrOnly (pure a : P X α) := pre_sameTopo.pure a
theorem AttrOnly.abort (e : Err) : AttrOnly (abort e : P X α) := pre_sameTopo.abort e

theorem AttrOnly.bind {p : P X α} {f : α → P X γ} (hp : AttrOnly p) (hf : ∀ a, AttrOnly (f a)) :
    AttrOnly (p.bind f) :=
  pre_sameTopo.bind hp hf

theorem AttrOnly.wA (s d : Nat) (v : Option X) : AttrOnly (wA s d v : P X Unit) :=
  pre_sameTopo.wA fun m => SameTopo.setA m s d v

theorem AttrOnly.rF : AttrOnly (rF : P X Nat) := pre_sameTopo.ro ReadOnly.rF

theorem AttrOnly.wF (v : Nat) : AttrOnly (wF v : P X Unit) :=
  Rel.wF fun _ => ⟨rfl, rfl, rfl, rfl, fun _ => rfl⟩

theorem AttrOnly.ite {c : Prop} [Decidable c] {p q : P X α} (hp : AttrOnly p) (hq : AttrOnly q) :
    AttrOnly (if c then p else q) :=
  Rel.ite hp hq

theorem ao_vid (n d : Nat) : AttrOnly (vertexId2 (X := X) n d) := AttrOnly.of_readOnly (readOnly_vertexId2 n d)
theorem ao_eid (d : Nat) : AttrOnly (edgeId2 (X := X) d) := AttrOnly.of_readOnly (readOnly_edgeId2 d)

theorem attrOnly_exceptCall {Y : Type} (r : Except Err Y) :
    AttrOnly (match r with | .ok y => (pure y : P X Y) | .error e => abort e) := by
  cases r
  · exact AttrOnly.abort _
  · exact AttrOnly.pure _

theorem attrOnly_lawCall {Y : Type} (t : Bool) (e : Err) (r : Except Err Y) :
    AttrOnly (lawCall (X := X) t e r) := by
  unfold lawCall
  split
  · refine AttrOnly.bind AttrOnly.rF fun c => ?_
    refine AttrOnly.ite (AttrOnly.abort _) ?_
    refine AttrOnly.ite ?_ (attrOnly_exceptCall r)
    exact AttrOnly.bind (AttrOnly.wF _) fun _ => attrOnly_exceptCall r
  · exact attrOnly_exceptCall r

theorem attrOnly_mergeS (cfg : Cfg X) (s out l r : Nat) : AttrOnly (mergeS cfg s out l r) := by
  unfold mergeS
  split
  · refine AttrOnly.bind (AttrOnly.of_readOnly (ReadOnly.rA _ _)) fun v => ?_
    exact AttrOnly.bind (AttrOnly.wA _ _ _) fun _ => AttrOnly.wA _ _ _
  refine AttrOnly.bind (AttrOnly.of_readOnly (ReadOnly.rA _ _)) fun vl => ?_
  refine AttrOnly.bind (AttrOnly.of_readOnly (ReadOnly.rA _ _)) fun vr => ?_
  refine AttrOnly.bind (attrOnly_lawCall _ _ _) fun v => ?_
  refine AttrOnly.bind (AttrOnly.wA _ _ _) fun _ => ?_
  refine AttrOnly.bind (AttrOnly.wA _ _ _) fun _ => ?_
  exact AttrOnly.wA _ _ _

theorem attrOnly_splitS (cfg : Cfg X) (s lo ro inp : Nat) : AttrOnly (splitS cfg s lo ro inp) := by
  unfold splitS
  split
  · refine AttrOnly.bind (AttrOnly.of_readOnly (ReadOnly.rA _ _)) fun v => ?_
    exact AttrOnly.bind (AttrOnly.wA _ _ _) fun _ => AttrOnly.wA _ _ _
  refine AttrOnly.bind (AttrOnly.of_readOnly (ReadOnly.rA _ _)) fun v => ?_
  refine AttrOnly.bind (attrOnly_lawCall _ _ _) fun ab => ?_
  refine AttrOnly.bind (AttrOnly.wA _ _ _) fun _ => ?_
  refine AttrOnly.bind (AttrOnly.wA _ _ _) fun _ => ?_
  exact AttrOnly.wA _ _ _

theorem attrOnly_forM_ {γ : Type} (l : List γ) (f : γ → P X Unit) (hf : ∀ x, AttrOnly (f x)) :
    AttrOnly (forM_ l f) :=
  pre_sameTopo.forM_ l f fun x _ => hf x

theorem attrOnly_mergeAttrs (cfg : Cfg X) (k out l r : Nat) : AttrOnly (mergeAttrs cfg k out l r) :=
  attrOnly_forM_ _ _ fun s => attrOnly_mergeS cfg s out l r

theorem attrOnly_splitAttrs (cfg : Cfg X) (k lo ro inp : Nat) : AttrOnly (splitAttrs cfg k lo ro inp) :=
  attrOnly_forM_ _ _ fun s => attrOnly_splitS cfg s lo ro inp

/-! ## programs that write neither attribute values nor the fault countdown (the links) -/

/-- same attribute arrays, same fault countdown -/
def SameAttrs (m m' : Map X) : Prop := m'.a = m.a ∧ m'.fc = m.fc

theorem pre_sameAttrs : Pre (SameAttrs (X := X)) :=
  ⟨fun _ => ⟨rfl, rfl⟩, fun h1 h2 => ⟨h2.1.trans h1.1, h2.2.trans h1.2⟩⟩

theorem SameAttrs.fc_att {m m' : Map X} (h : SameAttrs m m') :
    m'.fc = m.fc ∧ (∀ s e, m'.att s e = m.att s e) ∧ m'.a = m.a :=
  ⟨h.2, fun s e => by unfold Map.att; rw [h.1], h.1⟩

/-- the program writes neither attribute values nor the fault countdown (whatever its outcome) -/
abbrev TopoOnly (p : P X α) : Prop := Rel SameAttrs p

theorem TopoOnly.run_ok {p : P X α} (hp : TopoOnly p) {m m' : Map X} {a : α}
    (h : run p m = (.ok a, m')) : m'.a = m.a ∧ m'.fc = m.fc :=
  Rel.run hp h

theorem TopoOnly.fc0 {p : P X α} (hp : TopoOnly p) {m m' : Map X} {a : α} (hfc : m.fc = 0)
    (h : run p m = (.ok a, m')) : m'.fc = 0 :=
  (hp.run_ok h).2.trans hfc

theorem TopoOnly.att {p : P X α} (hp : TopoOnly p) {m m' : Map X} {a : α}
    (h : run p m = (.ok a, m')) (s d : Nat) : m'.att s d = m.att s d :=
  (hp.run h).fc_att.2.1 s d

theorem topoOnly_wB (i d v : Nat) : TopoOnly (wB i d v : P X Unit) := pre_sameAttrs.wB fun _ => ⟨rfl, rfl⟩

/-! ## no program changes the dart count or the number of attribute storages -/

theorem sset_n (m : Map X) (v : MVar) (x : MVal X) : (Store.sset m v x).n = m.n := by
  cases v <;> cases x <;> rfl

theorem run_n (p : P X α) : ∀ m : Map X, (run p m).2.n = m.n := by
  induction p with
  | ret a => intro m; rfl
  | read v k ih =>
      intro m
      simp only [run]
      split
      · exact ih _ m
      · rfl
  | write v x k ih =>
      intro m
      simp only [run]
      split
      · rw [ih, sset_n]
      · rfl
  | abort e => intro m; rfl
  | retry => intro m; rfl
  | panic => intro m; rfl


theorem run_asize (p : P X α) : ∀ m : Map X, (run p m).2.a.size = m.a.size := by
  induction p with
  | ret a => intro m; rfl
  | read v k ih =>
      intro m
      simp only [run]
      split
      · exact ih _ m
      · rfl
  | write v x k ih =>
      intro m
      simp only [run]
      split
      · rw [ih]
        cases v <;> cases x <;> first | rfl | (simp only [Store.sset, Map.setA, size_wr])
      · rfl
  | abort e => intro m; rfl
  | retry => intro m; rfl
  | panic => intro m; rfl

theorem asize_of_run {p : P X α} {m m' : Map X} {o : Out Err α} (h : run p m = (o, m')) :
    m'.a.size = m.a.size := by
  have := run_asize p m
  rw [h] at this
  exact this

end HC

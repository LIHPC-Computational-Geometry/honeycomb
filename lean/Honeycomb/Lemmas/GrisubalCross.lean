/-
  Lemmas for `Props/C16Cross.lean` (step 1 of grisubal, `crossingsOf`): `Rat.floor`, integer ranges,
  the stable insertion sort, affine parametrisations, and the intersection macros in normalised
  coordinates (cell units from the grid origin).
-/
import Mathlib.Algebra.Order.Field.Rat
import Mathlib.Tactic.Linarith
import Mathlib.Tactic.Ring
import Mathlib.Tactic.FieldSimp
import Mathlib.Data.List.Nodup
import Mathlib.Algebra.Order.Ring.Abs
import Honeycomb.Model.Grisubal


namespace HC.Cross
open HC

/-! ## `Rat.floor` -/

theorem lt_floor_succ (q : Rat) : q < ((q.floor : Int) : Rat) + 1 := by
  have := Rat.lt_floor_add_one q; push_cast at this; exact this

theorem le_floor {z : Int} {q : Rat} (h : (z : Rat) ≤ q) : z ≤ q.floor := by
  by_contra hc
  have h1 : q.floor + 1 ≤ z := by omega
  have h2 : ((q.floor + 1 : Int) : Rat) ≤ (z : Rat) := Int.cast_le.2 h1
  have := lt_floor_succ q
  push_cast at h2
  linarith

theorem floor_lt {z : Int} {q : Rat} (h : q < (z : Rat)) : q.floor < z := by
  have h1 := Rat.floor_le q
  have : ((q.floor : Int) : Rat) < (z : Rat) := lt_of_le_of_lt h1 h
  exact Int.cast_lt.1 this

theorem floor_mono {q r : Rat} (h : q ≤ r) : q.floor ≤ r.floor := le_floor (le_trans (Rat.floor_le q) h)

theorem floor_eq {z : Int} {q : Rat} (h1 : (z : Rat) ≤ q) (h2 : q < (z : Rat) + 1) : q.floor = z := by
  have a := le_floor h1
  have b : q.floor < z + 1 := floor_lt (by push_cast; exact h2)
  omega

def NonInt (q : Rat) : Prop := ∀ z : Int, q ≠ (z : Rat)

theorem NonInt.floor_lt {q : Rat} (h : NonInt q) : ((q.floor : Int) : Rat) < q :=
  lt_of_le_of_ne (Rat.floor_le q) (fun e => h _ e.symm)

theorem lt_int_iff {q : Rat} {z : Int} : q < (z : Rat) ↔ q.floor < z := by
  refine ⟨floor_lt, fun h => ?_⟩
  have h1 : ((q.floor + 1 : Int) : Rat) ≤ (z : Rat) := Int.cast_le.2 h
  have := lt_floor_succ q
  push_cast at h1
  linarith

theorem NonInt.int_lt_iff {q : Rat} (h : NonInt q) {z : Int} : (z : Rat) < q ↔ z ≤ q.floor :=
  ⟨fun h1 => le_floor (le_of_lt h1), fun h1 => lt_of_le_of_lt (Int.cast_le.2 h1) h.floor_lt⟩

/-! ## integer ranges -/

theorem mem_irange {lo hi x : Int} : x ∈ irange lo hi ↔ lo ≤ x ∧ x < hi := by
  unfold irange
  simp only [List.mem_map, List.mem_range]
  constructor
  · rintro ⟨k, hk, rfl⟩; omega
  · rintro ⟨h1, h2⟩; exact ⟨(x - lo).toNat, by omega, by omega⟩

theorem irange_pairwise (lo hi : Int) : (irange lo hi).Pairwise (· < ·) := by
  unfold irange
  rw [List.pairwise_map]
  exact List.Pairwise.imp (fun h => by omega) List.pairwise_lt_range

theorem irange_single (lo : Int) : irange lo (lo + 1) = [lo] := by
  simp [irange]

theorem irange_length (lo hi : Int) : (irange lo hi).length = (hi - lo).toNat := by
  simp [irange]

/-! ## the stable insertion sort by a rational key

  `insertByS` / `sortByS` (by `Cross.s`) and `insertHit` / `sortHits` (by `Hit.t`) of the model are the two
  instances. -/

section
variable {α : Type} (key : α → Rat)

def insertBy (c : α) : List α → List α
  | [] => [c]
  | d :: ds => if key c < key d then c :: d :: ds else d :: insertBy c ds

def sortBy (l : List α) : List α := l.foldl (fun acc c => insertBy key c acc) []

theorem insertBy_perm (c : α) (l : List α) : (insertBy key c l).Perm (c :: l) := by
  induction l with
  | nil => exact List.Perm.refl _
  | cons e es ih =>
      unfold insertBy
      split
      · exact List.Perm.refl _
      · exact (List.Perm.cons e ih).trans (List.Perm.swap c e es)

theorem sorted_insertBy (c : α) (l : List α) (h : l.Pairwise (fun a b => key a ≤ key b)) :
    (insertBy key c l).Pairwise (fun a b => key a ≤ key b) := by
  induction l with
  | nil => simp [insertBy]
  | cons e es ih =>
      unfold insertBy
      rw [List.pairwise_cons] at h
      split
      · rename_i hlt
        rw [List.pairwise_cons]
        refine ⟨?_, List.pairwise_cons.2 h⟩
        intro a ha
        rcases List.mem_cons.1 ha with rfl | ha
        · exact le_of_lt hlt
        · exact le_trans (le_of_lt hlt) (h.1 a ha)
      · rename_i hlt
        rw [List.pairwise_cons]
        refine ⟨?_, ih h.2⟩
        intro a ha
        rcases List.mem_cons.1 ((insertBy_perm key c es).mem_iff.1 ha) with rfl | ha
        · exact not_lt.1 hlt
        · exact h.1 a ha

theorem sortBy_aux (l acc : List α) (h : acc.Pairwise (fun a b => key a ≤ key b)) :
    (l.foldl (fun acc c => insertBy key c acc) acc).Perm (l ++ acc) ∧
    (l.foldl (fun acc c => insertBy key c acc) acc).Pairwise (fun a b => key a ≤ key b) := by
  induction l generalizing acc with
  | nil => exact ⟨List.Perm.refl _, h⟩
  | cons c cs ih =>
      simp only [List.foldl_cons]
      obtain ⟨p, q⟩ := ih _ (sorted_insertBy key c acc h)
      refine ⟨p.trans ?_, q⟩
      refine (List.Perm.append_left cs (insertBy_perm key c acc)).trans ?_
      simp only [List.cons_append]
      exact List.perm_middle

theorem sortBy_perm (l : List α) : (sortBy key l).Perm l := by
  simpa [sortBy] using (sortBy_aux key l [] List.Pairwise.nil).1

theorem sortBy_sorted (l : List α) : (sortBy key l).Pairwise (fun a b => key a ≤ key b) :=
  (sortBy_aux key l [] List.Pairwise.nil).2

theorem sortBy_strict {l : List α} (hn : l.Pairwise (fun a b => key a ≠ key b)) :
    (sortBy key l).Pairwise (fun a b => key a < key b) := by
  have h1 : (l.map key).Nodup := by
    rw [List.Nodup, List.pairwise_map]; exact hn
  have h2 : ((sortBy key l).map key).Nodup := ((sortBy_perm key l).map _).nodup_iff.2 h1
  rw [List.Nodup, List.pairwise_map] at h2
  exact (sortBy_sorted key l).imp₂ (fun a b h hne => lt_of_le_of_ne h hne) h2

end

theorem insertByS_eq (c : Cross) (l : List Cross) : insertByS c l = insertBy (·.s) c l := by
  induction l with
  | nil => rfl
  | cons d ds ih => simp only [insertByS, insertBy, ih]

theorem sortByS_eq (l : List Cross) : sortByS l = sortBy (·.s) l := by
  unfold sortByS sortBy
  simp only [insertByS_eq]

theorem mem_sortByS (l : List Cross) (c : Cross) : c ∈ sortByS l ↔ c ∈ l := by
  rw [sortByS_eq]; exact (sortBy_perm _ l).mem_iff

theorem sortByS_strict {l : List Cross} (hn : l.Pairwise (fun a b => a.s ≠ b.s)) :
    (sortByS l).Pairwise (fun a b => a.s < b.s) := by
  rw [sortByS_eq]; exact sortBy_strict _ hn

/-! ## affine parametrisation of one coordinate -/

/-- the coordinate at parameter `s` -/
def lin (q0 q1 s : Rat) : Rat := q0 + s * (q1 - q0)

/-- the parameter at which the coordinate `p0 → p1` equals `K` -/
def sK (p0 p1 K : Rat) : Rat := (K - p0) / (p1 - p0)

theorem lin_sK {p0 p1 : Rat} (h : p0 ≠ p1) (K : Rat) : lin p0 p1 (sK p0 p1 K) = K := by
  have : p1 - p0 ≠ 0 := sub_ne_zero.2 (Ne.symm h)
  unfold lin sK; field_simp; ring

theorem sK_unique {p0 p1 s K : Rat} (h : p0 ≠ p1) (e : lin p0 p1 s = K) : s = sK p0 p1 K := by
  have : p1 - p0 ≠ 0 := sub_ne_zero.2 (Ne.symm h)
  unfold lin at e; unfold sK; field_simp; linarith

theorem sK_lt_iff_up {p0 p1 K K' : Rat} (h : p0 < p1) : sK p0 p1 K < sK p0 p1 K' ↔ K < K' := by
  unfold sK
  rw [div_lt_div_iff_of_pos_right (by linarith)]
  constructor <;> intro <;> linarith

theorem sK_lt_iff_down {p0 p1 K K' : Rat} (h : p1 < p0) : sK p0 p1 K < sK p0 p1 K' ↔ K' < K := by
  unfold sK
  have e : ∀ K : Rat, (K - p0) / (p1 - p0) = (p0 - K) / (p0 - p1) := by
    intro K; rw [← neg_sub p0 K, ← neg_sub p0 p1, neg_div_neg_eq]
  rw [e K, e K', div_lt_div_iff_of_pos_right (by linarith)]
  constructor <;> intro <;> linarith

theorem sK_zero (p0 p1 : Rat) : sK p0 p1 p0 = 0 := by simp [sK]

theorem sK_one {p0 p1 : Rat} (h : p0 ≠ p1) : sK p0 p1 p1 = 1 := by
  have : p1 - p0 ≠ 0 := sub_ne_zero.2 (Ne.symm h)
  unfold sK; field_simp

theorem sK_mem {p0 p1 K : Rat} (h : (p0 < K ∧ K < p1) ∨ (p1 < K ∧ K < p0)) :
    0 < sK p0 p1 K ∧ sK p0 p1 K < 1 := by
  rcases h with ⟨h1, h2⟩ | ⟨h1, h2⟩
  · have hlt : p0 < p1 := lt_trans h1 h2
    have a := (sK_lt_iff_up (K := p0) (K' := K) hlt).2 h1
    have b := (sK_lt_iff_up (K := K) (K' := p1) hlt).2 h2
    rw [sK_zero] at a; rw [sK_one (ne_of_lt hlt)] at b; exact ⟨a, b⟩
  · have hlt : p1 < p0 := lt_trans h1 h2
    have a := (sK_lt_iff_down (K := p0) (K' := K) hlt).2 h2
    have b := (sK_lt_iff_down (K := K) (K' := p1) hlt).2 h1
    rw [sK_zero] at a; rw [sK_one (ne_of_gt hlt)] at b; exact ⟨a, b⟩

theorem lin_between {p0 p1 s : Rat} (h0 : 0 < s) (h1 : s < 1) (h : p0 ≠ p1) :
    (p0 < lin p0 p1 s ∧ lin p0 p1 s < p1) ∨ (p1 < lin p0 p1 s ∧ lin p0 p1 s < p0) := by
  unfold lin
  rcases lt_or_gt_of_ne h with hlt | hlt
  · left; constructor <;> nlinarith
  · right; constructor <;> nlinarith

theorem lin_mem {q0 q1 s : Rat} (h0 : 0 ≤ s) (h1 : s ≤ 1) : min q0 q1 ≤ lin q0 q1 s ∧ lin q0 q1 s ≤ max q0 q1 := by
  unfold lin
  rcases le_total q0 q1 with h | h
  · rw [min_eq_left h, max_eq_right h]; constructor <;> nlinarith
  · rw [min_eq_right h, max_eq_left h]; constructor <;> nlinarith

theorem lin_gt {q0 q1 s m : Rat} (h0 : 0 ≤ s) (h1 : s ≤ 1) (a : m < q0) (b : m < q1) : m < lin q0 q1 s :=
  lt_of_lt_of_le (lt_min a b) (lin_mem h0 h1).1

theorem lin_lt {q0 q1 s m : Rat} (h0 : 0 ≤ s) (h1 : s ≤ 1) (a : q0 < m) (b : q1 < m) : lin q0 q1 s < m :=
  lt_of_le_of_lt (lin_mem h0 h1).2 (max_lt a b)

theorem lin_sub (q0 q1 s s' : Rat) : lin q0 q1 s - lin q0 q1 s' = (s - s') * (q1 - q0) := by
  unfold lin; ring

/-! ## normalised coordinates and the four macros -/

def nU (g : GGrid) (p : Pt) : Rat := (p.1 - g.ox) / g.cx
def nV (g : GGrid) (p : Pt) : Rat := (p.2 - g.oy) / g.cy

theorem nU_segPoint (g : GGrid) (a b : Pt) (s : Rat) (hcx : 0 < g.cx) :
    nU g (segPoint a b s) = lin (nU g a) (nU g b) s := by
  have h1 : g.cx ≠ 0 := ne_of_gt hcx
  unfold nU segPoint lin; field_simp; ring

theorem nV_segPoint (g : GGrid) (a b : Pt) (s : Rat) (hcy : 0 < g.cy) :
    nV g (segPoint a b s) = lin (nV g a) (nV g b) s := by
  have h1 : g.cy ≠ 0 := ne_of_gt hcy
  unfold nV segPoint lin; field_simp; ring

theorem nU_ne {g : GGrid} {a b : Pt} (hcx : 0 < g.cx) (h : a.1 ≠ b.1) : nU g a ≠ nU g b := by
  have h1 : g.cx ≠ 0 := ne_of_gt hcx
  intro e; apply h
  unfold nU at e
  field_simp at e
  linarith

theorem nV_ne {g : GGrid} {a b : Pt} (hcy : 0 < g.cy) (h : a.2 ≠ b.2) : nV g a ≠ nV g b := by
  have h1 : g.cy ≠ 0 := ne_of_gt hcy
  intro e; apply h
  unfold nV at e
  field_simp at e
  linarith

/-- index of the grid line a directed side lies on: the far side if `pos` -/
def fwd (pos : Bool) (x : Int) : Rat := (x : Rat) + (if pos then 1 else 0)

theorem vCross_s (g : GGrid) (a b : Pt) (pos : Bool) (x y : Int) (hcx : 0 < g.cx) (hd : a.1 ≠ b.1) :
    (vCross g a b pos x y).s = sK (nU g a) (nU g b) (fwd pos x) := by
  have h1 : g.cx ≠ 0 := ne_of_gt hcx
  have h2 : b.1 - a.1 ≠ 0 := sub_ne_zero.2 (Ne.symm hd)
  have h3 : (b.1 - g.ox) / g.cx - (a.1 - g.ox) / g.cx = (b.1 - a.1) / g.cx := by field_simp; ring
  cases pos <;>
    simp only [vCross, leftI, rightI, cornerOf, nU, sK, fwd, if_true, if_false, Bool.false_eq_true] <;>
    (rw [h3]; field_simp; ring)

theorem vCross_t (g : GGrid) (a b : Pt) (pos : Bool) (x y : Int) (hcy : 0 < g.cy) :
    (vCross g a b pos x y).t =
      if pos then lin (nV g a) (nV g b) (vCross g a b pos x y).s - y
      else (y : Rat) + 1 - lin (nV g a) (nV g b) (vCross g a b pos x y).s := by
  have h1 : g.cy ≠ 0 := ne_of_gt hcy
  -- `t` is affine in `s`: the quotient that `s` stands for is kept out of the field arithmetic
  cases pos
  · simp only [vCross, leftI, cornerOf, nV, lin, if_false, Bool.false_eq_true]
    generalize (g.ox + (x : Rat) * g.cx - a.1) / (b.1 - a.1) = s
    field_simp
    ring
  · simp only [vCross, rightI, cornerOf, nV, lin, if_true]
    generalize (g.ox + ((x : Rat) + 1) * g.cx - a.1) / (b.1 - a.1) = s
    field_simp
    ring

theorem hCross_s (g : GGrid) (a b : Pt) (pos : Bool) (x y : Int) (hcy : 0 < g.cy) (hd : a.2 ≠ b.2) :
    (hCross g a b pos x y).s = sK (nV g a) (nV g b) (fwd pos y) := by
  have h1 : g.cy ≠ 0 := ne_of_gt hcy
  have h2 : b.2 - a.2 ≠ 0 := sub_ne_zero.2 (Ne.symm hd)
  have h3 : (b.2 - g.oy) / g.cy - (a.2 - g.oy) / g.cy = (b.2 - a.2) / g.cy := by field_simp; ring
  cases pos <;>
    simp only [hCross, upI, downI, cornerOf, nV, sK, fwd, if_true, if_false, Bool.false_eq_true] <;>
    (rw [h3]; field_simp; ring)

theorem hCross_t (g : GGrid) (a b : Pt) (pos : Bool) (x y : Int) (hcx : 0 < g.cx) :
    (hCross g a b pos x y).t =
      if pos then (x : Rat) + 1 - lin (nU g a) (nU g b) (hCross g a b pos x y).s
      else lin (nU g a) (nU g b) (hCross g a b pos x y).s - x := by
  have h1 : g.cx ≠ 0 := ne_of_gt hcx
  cases pos
  · simp only [hCross, downI, cornerOf, nU, lin, if_false, Bool.false_eq_true]
    generalize (g.oy + (y : Rat) * g.cy - a.2) / (b.2 - a.2) = s
    field_simp
    ring
  · simp only [hCross, upI, cornerOf, nU, lin, if_true]
    generalize (g.oy + ((y : Rat) + 1) * g.cy - a.2) / (b.2 - a.2) = s
    field_simp
    ring

end HC.Cross

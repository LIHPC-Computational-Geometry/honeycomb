/-
  Vertices of the 3-D hex grid (`build_3d_grid`): which darts share a vertex, what `vertex_id`
  returns, and which coordinates the placement loop leaves under it — for ALL `nx, ny, nz ≥ 1`.

  `kap o` is the corner (in `{0,1}³`) of the cell at which local dart `o` starts, READ OFF THE
  GENERATED ARMS of `generate_hex_offset` (`Gen.hexOffsetArms`); `pt3 d` is the lattice point of
  dart `d`.  Finite facts about the generated β table and the generated arms (`hexFacts`,
  `hexWithin`, `hexFaceDart`, by evaluation) say that the six images examined by `vertex_id_transac`
  keep the corner (shifted by the neighbour's offset across a face), that the three darts of a
  corner are linked inside the cell, and that every face through a corner carries a dart of it.
  * `hex_closed`   the images keep the lattice point;
  * `box_reach`    the walk through the cells round one or two lattice points (a box), along x, y, z;
  * `hex_reach`    hence any set closed under the images that contains a dart contains every dart with
                   the same lattice point (`Grid3Edge.edge_reach`: with the same geometric edge);
  * `cid_least`    the cell identifier of `Lemmas/Bfs.lean` is the least dart of its class, for any key
                   function the images keep and closed sets respect (`count_least`: one identifier per
                   key); used for vertices here and for edges in `Grid3Edge.lean`;
  * `vid3_spec`    hence `vertex_id d` is the smallest dart with the lattice point of `d` (total
                   correctness);
  * `hexOffset_D3` index decoding of `generate_hex_offset` (local darts 1..23; the arm of local dart
                   24 decodes the wrong cell but is never used: dart 12 of the cell is smaller);
  * `hex3_att`     after the placement loop the slot `vertex_id d` of **every** dart `d` holds
                   `origin + (i·lx, j·ly, k·lz)` for `(i, j, k) = pt3 d`.
-/
import Honeycomb.Lemmas.GridLink
import Honeycomb.Lemmas.GridCount
import Honeycomb.Props.C03b
import Honeycomb.Lemmas.WFLink

namespace HC.Grid3Vertex
open HC HC.Gen

/-- the β part of `build_3d_grid` -/
abbrev H3 (nx ny nz : Nat) : Map Val := gridMap 4 (hexK * nx * ny * nz) (hexβ nx ny nz)

theorem H3_wf {nx ny : Nat} (nz : Nat) (hnx : 0 < nx) (hny : 0 < ny) : WF 4 (H3 nx ny nz) := by
  have h := absWF hexShape hexShape_ok (nz := nz) hnx hny
  rw [← hexMap_eq hnx hny] at h
  exact h

/-- local dart `o` of cell `(a, b, c)` -/
abbrev D3 (nx ny a b c o : Nat) : Nat := dartOf 24 nx ny a b c o

/-! ## finite facts about the generated tables -/

/-- corner of the cell at which local dart `o` (0-based) starts: the arm of `generate_hex_offset`
    for `p = (o + 1) mod 24` -/
def kap (o : Nat) : Nat × Nat × Nat :=
  match hexOffsetArms.find? (fun a => a.1.contains ((o + 1) % 24)) with
  | some (_, c) => c
  | none => (0, 0, 0)

/-- local image under β_i -/
def pp (i o : Nat) : Nat := (hexShape.at o i).2
/-- direction of the neighbour across the face of local dart `o` -/
def dir3 (o : Nat) : Nat := (hexShape.at o 3).1

/-- corner `k'` seen from the neighbour in direction `dir` is corner `k` seen from here -/
def CornerRel (dir : Nat) (k' k : Nat × Nat × Nat) : Prop :=
  match dir with
  | 0 => k' = k
  | 1 => k'.1 = k.1 + 1 ∧ k'.2.1 = k.2.1 ∧ k'.2.2 = k.2.2
  | 2 => k'.1 + 1 = k.1 ∧ k'.2.1 = k.2.1 ∧ k'.2.2 = k.2.2
  | 3 => k'.1 = k.1 ∧ k'.2.1 = k.2.1 + 1 ∧ k'.2.2 = k.2.2
  | 4 => k'.1 = k.1 ∧ k'.2.1 + 1 = k.2.1 ∧ k'.2.2 = k.2.2
  | 5 => k'.1 = k.1 ∧ k'.2.1 = k.2.1 ∧ k'.2.2 = k.2.2 + 1
  | _ => k'.1 = k.1 ∧ k'.2.1 = k.2.1 ∧ k'.2.2 + 1 = k.2.2

instance (dir : Nat) (k' k : Nat × Nat × Nat) : Decidable (CornerRel dir k' k) := by
  unfold CornerRel; split <;> exact inferInstance

/-- the face in direction `dir` passes through corner `k` -/
def Compat (dir : Nat) (k : Nat × Nat × Nat) : Prop :=
  match dir with
  | 1 => k.1 = 0
  | 2 => k.1 = 1
  | 3 => k.2.1 = 0
  | 4 => k.2.1 = 1
  | 5 => k.2.2 = 0
  | 6 => k.2.2 = 1
  | _ => False

instance (dir : Nat) (k : Nat × Nat × Nat) : Decidable (Compat dir k) := by
  unfold Compat; split <;> exact inferInstance

theorem hexFacts : ∀ o, o < 24 →
    (hexShape.at o 0).1 = 0 ∧ (hexShape.at o 1).1 = 0 ∧ (hexShape.at o 2).1 = 0 ∧
    pp 0 o < 24 ∧ pp 1 o < 24 ∧ pp 2 o < 24 ∧ pp 3 o < 24 ∧ 1 ≤ dir3 o ∧ dir3 o ≤ 6 ∧
    (kap o).1 ≤ 1 ∧ (kap o).2.1 ≤ 1 ∧ (kap o).2.2 ≤ 1 ∧
    kap (pp 1 (pp 2 o)) = kap o ∧ kap (pp 2 (pp 0 o)) = kap o ∧
    CornerRel (dir3 (pp 2 o)) (kap (pp 3 (pp 2 o))) (kap o) ∧
    CornerRel (dir3 (pp 0 o)) (kap (pp 3 (pp 0 o))) (kap o) ∧
    CornerRel (dir3 o) (kap (pp 1 (pp 3 o))) (kap o) ∧
    CornerRel (dir3 o) (kap (pp 2 (pp 3 o))) (kap o) := by decide +kernel

theorem hex_pp_lt {o : Nat} (i : Nat) (hi : i < 4) (ho : o < 24) : pp i o < 24 := by
  obtain ⟨_, _, _, q0, q1, q2, q3, _⟩ := hexFacts o ho
  have i4 : i = 0 ∨ i = 1 ∨ i = 2 ∨ i = 3 := by omega
  rcases i4 with rfl | rfl | rfl | rfl <;> assumption

theorem hex_dir3 {o : Nat} (ho : o < 24) : 1 ≤ dir3 o ∧ dir3 o ≤ 6 := by
  obtain ⟨_, _, _, _, _, _, _, d1, d6, _⟩ := hexFacts o ho
  exact ⟨d1, d6⟩

theorem hex_kap_le {o : Nat} (ho : o < 24) : (kap o).1 ≤ 1 ∧ (kap o).2.1 ≤ 1 ∧ (kap o).2.2 ≤ 1 := by
  obtain ⟨_, _, _, _, _, _, _, _, _, k1, k2, k3, _⟩ := hexFacts o ho
  exact ⟨k1, k2, k3⟩

theorem hexWithin : ∀ o, o < 24 → ∀ o', o' < 24 → kap o' = kap o →
    o' = o ∨ o' = pp 1 (pp 2 o) ∨ o' = pp 2 (pp 0 o) := by decide +kernel

theorem hexFaceDart' : ∀ kx, kx < 2 → ∀ ky, ky < 2 → ∀ kz, kz < 2 → ∀ dir, dir < 7 → Compat dir (kx, ky, kz) →
    (List.range 24).any (fun o => decide (kap o = (kx, ky, kz) ∧ dir3 o = dir)) = true := by decide +kernel

theorem hexFaceDart {kx ky kz dir : Nat} (hx : kx < 2) (hy : ky < 2) (hz : kz < 2) (hd : dir < 7)
    (hc : Compat dir (kx, ky, kz)) : ∃ o, o < 24 ∧ kap o = (kx, ky, kz) ∧ dir3 o = dir := by
  have := hexFaceDart' kx hx ky hy kz hz dir hd hc
  rw [List.any_eq_true] at this
  obtain ⟨o, ho, h⟩ := this
  exact ⟨o, List.mem_range.mp ho, by simpa using h⟩

/-- every corner is the start of some local dart; local dart 12 (index 11) starts at the corner of
    local dart 24 (index 23); the arms of `generate_hex_offset` cover `p = 1..23` consistently -/
theorem hexMisc : (∀ kx, kx < 2 → ∀ ky, ky < 2 → ∀ kz, kz < 2 →
      (List.range 24).any (fun o => decide (kap o = (kx, ky, kz))) = true) ∧ kap 11 = kap 23 ∧
    (∀ o, o < 23 → (hexOffsetArms.find? (fun a => a.1.contains (o + 1))).map (·.2) = some (kap o)) := by decide +kernel

/-- neighbour cell + its corner = this cell + this corner -/
theorem pt_shift {dir a b c a' b' c' : Nat} {k' k : Nat × Nat × Nat} (hd : dir ≤ 6)
    (hn : Nbr dir a b c a' b' c') (hr : CornerRel dir k' k) :
    (a' + k'.1, b' + k'.2.1, c' + k'.2.2) = (a + k.1, b + k.2.1, c + k.2.2) := by
  rcases dir_cases hd with e | e | e | e | e | e | e <;> subst e <;> simp only [Nbr] at hn <;>
    simp only [CornerRel] at hr <;> obtain ⟨h1, h2, h3⟩ := hn
  · subst hr; subst h1 h2 h3; rfl
  all_goals (obtain ⟨r1, r2, r3⟩ := hr; simp only [Prod.mk.injEq]; omega)

section
variable {nx ny nz : Nat} {m : Map Val}

theorem D3_lt {a b c o : Nat} (ha : a < nx) (hb : b < ny) (hc : c < nz) (ho : o < 24) :
    D3 nx ny a b c o < 24 * nx * ny * nz + 1 := by
  have h1 := dartOf_le (K := 24) ha hb hc ho
  have e : 24 * (nx * ny * nz) = 24 * nx * ny * nz := by rw [Nat.mul_assoc 24, Nat.mul_assoc 24]
  unfold D3; omega

theorem D3_pos {a b c o : Nat} : 1 ≤ D3 nx ny a b c o := dartOf_pos

theorem D3_ne_zero {a b c o : Nat} : D3 nx ny a b c o ≠ 0 := Nat.ne_of_gt dartOf_pos

theorem H3_n : (H3 nx ny nz).n = 24 * nx * ny * nz + 1 := rfl

theorem βw (st : SameTopo (H3 nx ny nz) m) {a b c o i : Nat} (ha : a < nx) (hb : b < ny)
    (hc : c < nz) (ho : o < 24) (hi : i < 3) :
    m.β i (D3 nx ny a b c o) = D3 nx ny a b c (pp i o) := by
  rw [hexMap_β st ha hb hc ho (by omega)]
  obtain ⟨e0, e1, e2, _⟩ := hexFacts o ho
  have i3 : i = 0 ∨ i = 1 ∨ i = 2 := by omega
  rcases i3 with rfl | rfl | rfl
  · rw [e0]; rfl
  · rw [e1]; rfl
  · rw [e2]; rfl

theorem β3_cases (st : SameTopo (H3 nx ny nz) m) {a b c o : Nat} (ha : a < nx) (hb : b < ny)
    (hc : c < nz) (ho : o < 24) :
    m.β 3 (D3 nx ny a b c o) = 0 ∨ ∃ a' b' c', a' < nx ∧ b' < ny ∧ c' < nz ∧
      Nbr (dir3 o) a b c a' b' c' ∧ m.β 3 (D3 nx ny a b c o) = D3 nx ny a' b' c' (pp 3 o) := by
  rw [hexMap_β st ha hb hc ho (by decide)]
  have hd := (hex_dir3 ho).2
  exact absEntry_cases (K := 24) ha hb hc hd (pp 3 o)

theorem β3_nbr (st : SameTopo (H3 nx ny nz) m) {a b c o a' b' c' : Nat} (ha : a < nx) (hb : b < ny)
    (hc : c < nz) (ho : o < 24) (hn : Nbr (dir3 o) a b c a' b' c') (ha' : a' < nx) (hb' : b' < ny)
    (hc' : c' < nz) : m.β 3 (D3 nx ny a b c o) = D3 nx ny a' b' c' (pp 3 o) := by
  rw [hexMap_β st ha hb hc ho (by decide)]
  obtain ⟨d1, d6⟩ := hex_dir3 ho
  exact absEntry_nbr d1 d6 hn ha' hb' hc' (pp 3 o)

/-- the iterators on the grid: no dart is unused -/
theorem iterCells_grid (st : SameTopo (H3 nx ny nz) m) (idP : Nat → P Val Nat) :
    iterCells m idP =
      (List.range (24 * nx * ny * nz + 1)).filter (fun d => decide (d ≠ 0 ∧ okVal (run (idP d) m) 0 = d)) := by
  rw [GridCount.iterCells_eq_filter idP (fun d => decide (d ≠ 0 ∧ okVal (run (idP d) m) 0 = d))
    (gridMap_unused_of st) (by simp)
    (fun d h1 _ => by simp only [Nat.ne_of_gt h1, ne_eq, not_false_eq_true, true_and]), st.n, H3_n]

/-! ## lattice points -/

/-- lattice point of local dart `o` of cell `(a, b, c)` -/
def P3 (a b c o : Nat) : Nat × Nat × Nat := (a + (kap o).1, b + (kap o).2.1, c + (kap o).2.2)

/-- lattice point at the origin of dart `d` -/
def pt3 (nx ny d : Nat) : Nat × Nat × Nat :=
  P3 ((d - 1) / 24 % nx) ((d - 1) / 24 / nx % ny) ((d - 1) / 24 / (nx * ny)) ((d - 1) % 24)

theorem pt3_D {a b c o : Nat} (ha : a < nx) (hb : b < ny) (ho : o < 24) :
    pt3 nx ny (D3 nx ny a b c o) = P3 a b c o := by
  unfold pt3 D3
  rw [dartOf_cell ho, dartOf_local ho, cellIdx_x ha, cellIdx_y ha hb, cellIdx_z ha hb]

/-- a dart of the grid -/
def IsD3 (nx ny nz d : Nat) : Prop :=
  ∃ a b c o, a < nx ∧ b < ny ∧ c < nz ∧ o < 24 ∧ d = D3 nx ny a b c o

theorem isD3_of_range (hnx : 0 < nx) (hny : 0 < ny) {d : Nat} (h1 : 1 ≤ d)
    (h2 : d ≤ 24 * nx * ny * nz) : IsD3 nx ny nz d := by
  have h2' : d ≤ 24 * (nx * ny * nz) := by rw [← Nat.mul_assoc, ← Nat.mul_assoc]; exact h2
  obtain ⟨a, b, c, o, ha, hb, hc, ho, e⟩ := decode (K := 24) (by decide) hnx hny h1 h2'
  exact ⟨a, b, c, o, ha, hb, hc, ho, e⟩

theorem isD3_pt {a b c o a' b' c' o' : Nat} (ha : a < nx) (hb : b < ny) (ho : o < 24) (ha' : a' < nx) (hb' : b' < ny)
    (hc' : c' < nz) (ho' : o' < 24) (hp : P3 a' b' c' o' = P3 a b c o) :
    IsD3 nx ny nz (D3 nx ny a' b' c' o') ∧ pt3 nx ny (D3 nx ny a' b' c' o') = pt3 nx ny (D3 nx ny a b c o) :=
  ⟨⟨a', b', c', o', ha', hb', hc', ho', rfl⟩, by rw [pt3_D ha' hb' ho', pt3_D ha hb ho, hp]⟩

theorem IsD3.lt {d : Nat} (h : IsD3 nx ny nz d) : d < 24 * nx * ny * nz + 1 := by
  obtain ⟨a, b, c, o, ha, hb, hc, ho, rfl⟩ := h
  exact D3_lt ha hb hc ho

theorem IsD3.ne_zero {d : Nat} (h : IsD3 nx ny nz d) : d ≠ 0 := by
  obtain ⟨a, b, c, o, _, _, _, _, rfl⟩ := h
  exact D3_ne_zero

theorem hex_closed (st : SameTopo (H3 nx ny nz) m) (wf : WF 4 m) {x : Nat} (hx : IsD3 nx ny nz x) :
    ∀ y, y ∈ C03.g3 m .vertex x → y = 0 ∨ IsD3 nx ny nz y ∧ pt3 nx ny y = pt3 nx ny x := by
  obtain ⟨a, b, c, o, ha, hb, hc, ho, rfl⟩ := hx
  have n1 : m.β 1 0 = 0 := wf.null 1 (by decide)
  have n2 : m.β 2 0 = 0 := wf.null 2 (by decide)
  obtain ⟨_, _, _, q0, q1, q2, q3, d1, d6, _, _, _, f1, f2, f3, f4, f5, f6⟩ := hexFacts o ho
  intro y hy
  simp only [C03.g3, List.mem_cons, List.not_mem_nil, or_false] at hy
  rcases hy with rfl | rfl | rfl | rfl | rfl | rfl
  · rw [βw st ha hb hc ho (by decide)]
    rcases β3_cases st ha hb hc q2 with h | ⟨a', b', c', ha', hb', hc', hn, h⟩
    · left; exact h
    · right
      rw [h]
      exact isD3_pt ha hb ho ha' hb' hc' (hex_pp_lt 3 (by decide) q2) (pt_shift (hex_dir3 q2).2 hn f3)
  · rcases β3_cases st ha hb hc ho with h | ⟨a', b', c', ha', hb', hc', hn, h⟩
    · left; rw [h, n1]
    · right
      rw [h, βw st ha' hb' hc' q3 (by decide)]
      exact isD3_pt ha hb ho ha' hb' hc' (hex_pp_lt 1 (by decide) q3) (pt_shift d6 hn f5)
  · right
    rw [βw st ha hb hc ho (by decide), βw st ha hb hc q2 (by decide)]
    exact isD3_pt ha hb ho ha hb hc (hex_pp_lt 1 (by decide) q2) (by rw [P3, f1]; rfl)
  · rw [βw st ha hb hc ho (by decide)]
    rcases β3_cases st ha hb hc q0 with h | ⟨a', b', c', ha', hb', hc', hn, h⟩
    · left; exact h
    · right
      rw [h]
      exact isD3_pt ha hb ho ha' hb' hc' (hex_pp_lt 3 (by decide) q0) (pt_shift (hex_dir3 q0).2 hn f4)
  · right
    rw [βw st ha hb hc ho (by decide), βw st ha hb hc q0 (by decide)]
    exact isD3_pt ha hb ho ha hb hc (hex_pp_lt 2 (by decide) q0) (by rw [P3, f2]; rfl)
  · rcases β3_cases st ha hb hc ho with h | ⟨a', b', c', ha', hb', hc', hn, h⟩
    · left; rw [h, n2]
    · right
      rw [h, βw st ha' hb' hc' q3 (by decide)]
      exact isD3_pt ha hb ho ha' hb' hc' (hex_pp_lt 2 (by decide) q3) (pt_shift d6 hn f6)

/-! ## connectivity round a lattice point or a lattice edge -/

theorem cell_bit {n x : Nat} (hn : 0 < n) (hx : x ≤ n) : ∃ a κ, a < n ∧ κ < 2 ∧ a + κ = x := by
  by_cases h : x < n
  · exact ⟨x, 0, h, by decide, rfl⟩
  · exact ⟨n - 1, 1, by omega, by decide, by omega⟩

theorem add_bit_le {a n k : Nat} (ha : a < n) (hk : k ≤ 1) : a + k ≤ n :=
  Nat.le_trans (Nat.add_le_add_left hk a) ha

theorem add_bit_lt {a n k : Nat} (ha : a < n) (hk : k + 1 ≤ 1) : a + k < n := by
  omega

/-- along one axis: a cell position `t'` with corner bits `l', h'` that names the same two lattice
    coordinates as `t` with `l, h` is `t`, or one step down from bits 0, or one step up from bits 1 -/
theorem axis_move {C : Nat → Prop} {t t' l h l' h' : Nat} (hl : l ≤ 1) (hh : h ≤ 1) (hl' : l' ≤ 1) (hh' : h' ≤ 1)
    (el : t' + l' = t + l) (eh : t' + h' = t + h) (same : C t)
    (down : t' + 1 = t → l = 0 → h = 0 → C t') (up : t' = t + 1 → l = 1 → h = 1 → C t') : C t' := by
  by_cases e0 : t' = t
  · exact e0 ▸ same
  · by_cases e1 : t' < t
    · exact down (by omega) (by omega) (by omega)
    · exact up (by omega) (by omega) (by omega)

/-- the two lattice points that local dart `o` of cell `(a, b, c)` names through the corner functions
    `lo`, `hi` (`kap` twice for the origin of the dart; the two ends of its edge in `Grid3Edge.lean`) -/
def Pts (lo hi : Nat → Nat × Nat × Nat) (a b c o : Nat) : (Nat × Nat × Nat) × (Nat × Nat × Nat) :=
  ((a + (lo o).1, b + (lo o).2.1, c + (lo o).2.2), (a + (hi o).1, b + (hi o).2.1, c + (hi o).2.2))

variable {M : List Nat} {lo hi : Nat → Nat × Nat × Nat}

/-- If `M` contains, with a dart, the darts of its cell that name the same points (`within`) and, across
    every face through these points, a dart of the neighbour cell that names them (`move`), then `M`
    contains with a dart every dart of the grid that names the same points: the cells round the points
    form a box, walked along x, then y, then z. -/
theorem box_reach
    (bits : ∀ o, o < 24 → (hi o).1 ≤ 1 ∧ (hi o).2.1 ≤ 1 ∧ (hi o).2.2 ≤ 1 ∧
      (lo o).1 ≤ (hi o).1 ∧ (lo o).2.1 ≤ (hi o).2.1 ∧ (lo o).2.2 ≤ (hi o).2.2)
    (within : ∀ {a b c o o' : Nat}, a < nx → b < ny → c < nz → o < 24 → o' < 24 → lo o' = lo o → hi o' = hi o →
      D3 nx ny a b c o ∈ M → D3 nx ny a b c o' ∈ M)
    (move : ∀ {a b c o a' b' c' dir : Nat}, a < nx → b < ny → c < nz → o < 24 → a' < nx → b' < ny → c' < nz →
      dir ≤ 6 → Compat dir (lo o) → Compat dir (hi o) → Nbr dir a b c a' b' c' → D3 nx ny a b c o ∈ M →
      ∃ o1, o1 < 24 ∧ D3 nx ny a' b' c' o1 ∈ M ∧ Pts lo hi a' b' c' o1 = Pts lo hi a b c o)
    {a b c o a' b' c' o' : Nat} (ha : a < nx) (hb : b < ny) (hc : c < nz) (ho : o < 24) (ha' : a' < nx)
    (hb' : b' < ny) (hc' : c' < nz) (ho' : o' < 24) (hp : Pts lo hi a' b' c' o' = Pts lo hi a b c o)
    (hx : D3 nx ny a b c o ∈ M) : D3 nx ny a' b' c' o' ∈ M := by
  obtain ⟨k1', k2', k3', l1', l2', l3'⟩ := bits o' ho'
  have comp : ∀ {a b c o : Nat}, Pts lo hi a' b' c' o' = Pts lo hi a b c o →
      (a' + (lo o').1 = a + (lo o).1 ∧ a' + (hi o').1 = a + (hi o).1) ∧
      (b' + (lo o').2.1 = b + (lo o).2.1 ∧ b' + (hi o').2.1 = b + (hi o).2.1) ∧
      (c' + (lo o').2.2 = c + (lo o).2.2 ∧ c' + (hi o').2.2 = c + (hi o).2.2) := by
    intro a b c o h
    simp only [Pts, Prod.mk.injEq] at h
    exact ⟨⟨h.1.1, h.2.1⟩, ⟨h.1.2.1, h.2.2.1⟩, ⟨h.1.2.2, h.2.2.2⟩⟩
  obtain ⟨k1, k2, k3, l1, l2, l3⟩ := bits o ho
  obtain ⟨o1, ho1, m1, e1⟩ : ∃ o1, o1 < 24 ∧ D3 nx ny a' b c o1 ∈ M ∧ Pts lo hi a' b c o1 = Pts lo hi a b c o :=
    axis_move (C := fun t => ∃ o1, o1 < 24 ∧ D3 nx ny t b c o1 ∈ M ∧ Pts lo hi t b c o1 = Pts lo hi a b c o)
      (Nat.le_trans l1 k1) k1 (Nat.le_trans l1' k1') k1' (comp hp).1.1 (comp hp).1.2 ⟨o, ho, hx, rfl⟩
      (fun e z1 z2 => move (dir := 1) ha hb hc ho ha' hb hc (by decide) z1 z2 ⟨e, rfl, rfl⟩ hx)
      (fun e z1 z2 => move (dir := 2) ha hb hc ho ha' hb hc (by decide) z1 z2 ⟨e, rfl, rfl⟩ hx)
  rw [← e1] at hp
  obtain ⟨k1, k2, k3, l1, l2, l3⟩ := bits o1 ho1
  obtain ⟨o2, ho2, m2, e2⟩ : ∃ o2, o2 < 24 ∧ D3 nx ny a' b' c o2 ∈ M ∧ Pts lo hi a' b' c o2 = Pts lo hi a' b c o1 :=
    axis_move (C := fun t => ∃ o2, o2 < 24 ∧ D3 nx ny a' t c o2 ∈ M ∧ Pts lo hi a' t c o2 = Pts lo hi a' b c o1)
      (Nat.le_trans l2 k2) k2 (Nat.le_trans l2' k2') k2' (comp hp).2.1.1 (comp hp).2.1.2 ⟨o1, ho1, m1, rfl⟩
      (fun e z1 z2 => move (dir := 3) ha' hb hc ho1 ha' hb' hc (by decide) z1 z2 ⟨rfl, e, rfl⟩ m1)
      (fun e z1 z2 => move (dir := 4) ha' hb hc ho1 ha' hb' hc (by decide) z1 z2 ⟨rfl, e, rfl⟩ m1)
  rw [← e2] at hp
  obtain ⟨k1, k2, k3, l1, l2, l3⟩ := bits o2 ho2
  obtain ⟨o3, ho3, m3, e3⟩ : ∃ o3, o3 < 24 ∧ D3 nx ny a' b' c' o3 ∈ M ∧ Pts lo hi a' b' c' o3 = Pts lo hi a' b' c o2 :=
    axis_move (C := fun t => ∃ o3, o3 < 24 ∧ D3 nx ny a' b' t o3 ∈ M ∧ Pts lo hi a' b' t o3 = Pts lo hi a' b' c o2)
      (Nat.le_trans l3 k3) k3 (Nat.le_trans l3' k3') k3' (comp hp).2.2.1 (comp hp).2.2.2 ⟨o2, ho2, m2, rfl⟩
      (fun e z1 z2 => move (dir := 5) ha' hb' hc ho2 ha' hb' hc' (by decide) z1 z2 ⟨rfl, rfl, e⟩ m2)
      (fun e z1 z2 => move (dir := 6) ha' hb' hc ho2 ha' hb' hc' (by decide) z1 z2 ⟨rfl, rfl, e⟩ m2)
  rw [← e3] at hp
  obtain ⟨⟨x1, x2⟩, ⟨y1, y2⟩, ⟨z1, z2⟩⟩ := comp hp
  exact within ha' hb' hc' ho3 ho'
    (Prod.ext (Nat.add_left_cancel x1) (Prod.ext (Nat.add_left_cancel y1) (Nat.add_left_cancel z1)))
    (Prod.ext (Nat.add_left_cancel x2) (Prod.ext (Nat.add_left_cancel y2) (Nat.add_left_cancel z2))) m3

theorem vert_within (st : SameTopo (H3 nx ny nz) m)
    (hM : ∀ x, x ∈ M → x ≠ 0 → ∀ y, y ∈ C03.g3 m .vertex x → y ∈ M) {a b c o o' : Nat} (ha : a < nx) (hb : b < ny)
    (hc : c < nz) (ho : o < 24) (ho' : o' < 24) (hk : kap o' = kap o) (hx : D3 nx ny a b c o ∈ M) :
    D3 nx ny a b c o' ∈ M := by
  obtain ⟨_, _, _, q0, _, q2, _⟩ := hexFacts o ho
  rcases hexWithin o ho o' ho' hk with rfl | rfl | rfl
  · exact hx
  · have := hM _ hx D3_ne_zero (m.β 1 (m.β 2 (D3 nx ny a b c o))) (by simp [C03.g3])
    rwa [βw st ha hb hc ho (by decide), βw st ha hb hc q2 (by decide)] at this
  · have := hM _ hx D3_ne_zero (m.β 2 (m.β 0 (D3 nx ny a b c o))) (by simp [C03.g3])
    rwa [βw st ha hb hc ho (by decide), βw st ha hb hc q0 (by decide)] at this

/-- crossing a face through the origin of a dart -/
theorem vert_move (st : SameTopo (H3 nx ny nz) m)
    (hM : ∀ x, x ∈ M → x ≠ 0 → ∀ y, y ∈ C03.g3 m .vertex x → y ∈ M) {a b c o a' b' c' dir : Nat}
    (ha : a < nx) (hb : b < ny) (hc : c < nz) (ho : o < 24) (ha' : a' < nx) (hb' : b' < ny) (hc' : c' < nz)
    (hd : dir ≤ 6) (hcomp : Compat dir (kap o))
    (hn : Nbr dir a b c a' b' c') (hx : D3 nx ny a b c o ∈ M) :
    ∃ o1, o1 < 24 ∧ D3 nx ny a' b' c' o1 ∈ M ∧ Pts kap kap a' b' c' o1 = Pts kap kap a b c o := by
  obtain ⟨k1, k2, k3⟩ := hex_kap_le ho
  obtain ⟨o2, ho2, hk, hdir⟩ := hexFaceDart (kx := (kap o).1) (ky := (kap o).2.1) (kz := (kap o).2.2)
    (Nat.lt_succ_of_le k1) (Nat.lt_succ_of_le k2) (Nat.lt_succ_of_le k3) (Nat.lt_succ_of_le hd) hcomp
  have hx2 := vert_within st hM ha hb hc ho ho2 hk hx
  obtain ⟨_, _, _, _, _, _, q3, _, d6, _, _, _, _, _, _, _, _, f6⟩ := hexFacts o2 ho2
  have q23 := hex_pp_lt 2 (by decide) q3
  have him := hM _ hx2 D3_ne_zero (m.β 2 (m.β 3 (D3 nx ny a b c o2))) (by simp [C03.g3])
  rw [β3_nbr st ha hb hc ho2 (hdir ▸ hn) ha' hb' hc', βw st ha' hb' hc' q3 (by decide)] at him
  rw [hdir] at d6 f6
  have e := pt_shift d6 hn f6
  rw [hk] at e
  exact ⟨_, q23, him, by rw [Pts, e]; rfl⟩

theorem hex_reach (st : SameTopo (H3 nx ny nz) m)
    (hM : ∀ x, x ∈ M → x ≠ 0 → ∀ y, y ∈ C03.g3 m .vertex x → y ∈ M) {x y : Nat} (hx : IsD3 nx ny nz x)
    (hy : IsD3 nx ny nz y) (hp : pt3 nx ny y = pt3 nx ny x) (hxM : x ∈ M) : y ∈ M := by
  obtain ⟨a, b, c, o, ha, hb, hc, ho, rfl⟩ := hx
  obtain ⟨a', b', c', o', ha', hb', hc', ho', rfl⟩ := hy
  rw [pt3_D ha' hb' ho', pt3_D ha hb ho] at hp
  refine box_reach (lo := kap) (hi := kap) ?_ (fun ha hb hc ho ho' h _ => vert_within st hM ha hb hc ho ho' h)
    (fun ha hb hc ho ha' hb' hc' hd hcomp _ => vert_move st hM ha hb hc ho ha' hb' hc' hd hcomp)
    ha hb hc ho ha' hb' hc' ho' (show (P3 a' b' c' o', P3 a' b' c' o') = _ by rw [hp]; rfl) hxM
  intro o ho
  obtain ⟨k1, k2, k3⟩ := hex_kap_le ho
  exact ⟨k1, k2, k3, Nat.le_refl _, Nat.le_refl _, Nat.le_refl _⟩

/-! ## identifiers computed by the traversal: the least dart of a class -/

section Least
variable {K : Type} [DecidableEq K] {key : Nat → K}

theorem isD3_of_mem_cls (hnx : 0 < nx) (hny : 0 < ny) {k : K} {x : Nat} (h : x ∈ GridCount.cls (24 * nx * ny * nz + 1) key k) :
    IsD3 nx ny nz x := by
  obtain ⟨h1, h2, _⟩ := GridCount.mem_cls.mp h
  exact isD3_of_range hnx hny (by omega) (by omega)

/-- If the images `g x` of a dart are null or keep the key, and a set closed under `g` contains with a
    dart every dart of the same key, the cell identifier of `d` is the least dart with the key of `d`. -/
theorem cid_least (hnx : 0 < nx) (hny : 0 < ny) {g : Nat → List Nat} (H : GenOK g (24 * nx * ny * nz + 1))
    (closed : ∀ x, IsD3 nx ny nz x → ∀ y, y ∈ g x → y = 0 ∨ IsD3 nx ny nz y ∧ key y = key x)
    (reach : ∀ M : List Nat, (∀ x, x ∈ M → x ≠ 0 → ∀ y, y ∈ g x → y ∈ M) → ∀ x y, IsD3 nx ny nz x →
      IsD3 nx ny nz y → key y = key x → x ∈ M → y ∈ M)
    {d : Nat} (hd : IsD3 nx ny nz d) :
    cidG g (24 * nx * ny * nz + 1) d ∈ GridCount.cls (24 * nx * ny * nz + 1) key (key d) ∧
      ∀ y, y ∈ GridCount.cls (24 * nx * ny * nz + 1) key (key d) → cidG g (24 * nx * ny * nz + 1) d ≤ y := by
  have isD : ∀ x, x ≠ 0 → x < 24 * nx * ny * nz + 1 → IsD3 nx ny nz x := fun x h0 h =>
    isD3_of_range hnx hny (by omega) (by omega)
  obtain ⟨h1, h2⟩ := cidG_key H (key := key)
    (fun x h0 h hk y hy => (closed x (isD x h0 h) y hy).imp id fun e => e.2.trans hk)
    (fun y hy0 hy hk => reach_of_closed H hd.ne_zero hd.lt hy0 fun M hM hdM =>
      reach M hM d y hd (isD y hy0 hy) hk hdM)
    hd.ne_zero hd.lt
  exact ⟨GridCount.mem_cls.mpr h1, fun y hy => h2 y (GridCount.mem_cls.mp hy).1 (GridCount.mem_cls.mp hy).2.1
    (GridCount.mem_cls.mp hy).2.2⟩

theorem count_least (hnx : 0 < nx) (hny : 0 < ny) {idf : Nat → Nat} {V : K → Prop} {code : K → Nat} {N : Nat}
    (hid : ∀ d, IsD3 nx ny nz d → idf d ∈ GridCount.cls (24 * nx * ny * nz + 1) key (key d) ∧
      ∀ y, y ∈ GridCount.cls (24 * nx * ny * nz + 1) key (key d) → idf d ≤ y)
    (hV : ∀ d, IsD3 nx ny nz d → V (key d)) (inj : ∀ k k', V k → V k' → code k = code k' → k = k')
    (lt : ∀ k, V k → code k < N) (surj : ∀ t, t < N → ∃ d, IsD3 nx ny nz d ∧ code (key d) = t) :
    ((List.range (24 * nx * ny * nz + 1)).filter (fun d => decide (d ≠ 0 ∧ idf d = d))).length = N := by
  refine GridCount.count_ids (fun d h1 h2 => isD3_of_range hnx hny h1 (by omega)) (fun d h => ⟨h.ne_zero, h.lt⟩)
    ?_ ?_ hV inj lt surj
  · intro d e hd he hk
    have h := hid d hd
    rw [hk] at h
    exact min_unique h (hid e he) fun _ => Iff.rfl
  · intro d hd
    exact ⟨isD3_of_mem_cls hnx hny (hid d hd).1, (GridCount.mem_cls.mp (hid d hd).1).2.2⟩

end Least

/-! ## `vertex_id` -/

theorem vid3_spec (hnx : 0 < nx) (hny : 0 < ny) (st : SameTopo (H3 nx ny nz) m) {d : Nat}
    (hd : IsD3 nx ny nz d) :
    vid3 m d ∈ GridCount.cls (24 * nx * ny * nz + 1) (pt3 nx ny) (pt3 nx ny d) ∧
      ∀ y, y ∈ GridCount.cls (24 * nx * ny * nz + 1) (pt3 nx ny) (pt3 nx ny d) → vid3 m d ≤ y := by
  have wf : WF 4 m := (H3_wf nz hnx hny).sameTopo st
  have hn : m.n = 24 * nx * ny * nz + 1 := st.n
  have e : vid3 m d = cidG (C03.g3 m .vertex) (24 * nx * ny * nz + 1) d := by
    unfold vid3
    rw [(C03.C03_vertexId3_min wf hd.ne_zero (hn ▸ hd.lt)).1, ← hn]
    rfl
  rw [e]
  exact cid_least hnx hny (hn ▸ C03.g3_ok wf .vertex trivial) (fun x hx => hex_closed st wf hx)
    (fun M hM x y hx hy hk => hex_reach st hM hx hy hk) hd

theorem vid3_same (hnx : 0 < nx) (hny : 0 < ny) {m m' : Map Val} (st : SameTopo (H3 nx ny nz) m)
    (st' : SameTopo (H3 nx ny nz) m') {d e : Nat} (hd : IsD3 nx ny nz d) (he : IsD3 nx ny nz e)
    (hp : pt3 nx ny d = pt3 nx ny e) : vid3 m d = vid3 m' e := by
  have h := vid3_spec hnx hny st hd
  rw [hp] at h
  exact min_unique h (vid3_spec hnx hny st' he) fun _ => Iff.rfl

theorem vid3_pt (hnx : 0 < nx) (hny : 0 < ny) (st : SameTopo (H3 nx ny nz) m) {d : Nat}
    (hd : IsD3 nx ny nz d) : pt3 nx ny (vid3 m d) = pt3 nx ny d ∧ IsD3 nx ny nz (vid3 m d) :=
  have h := (vid3_spec hnx hny st hd).1
  ⟨(GridCount.mem_cls.mp h).2.2, isD3_of_mem_cls hnx hny h⟩

/-- a vertex identifier is never local dart 24 of a cell (local dart 12 is smaller, same corner) -/
theorem vid3_not_last (hnx : 0 < nx) (hny : 0 < ny) (st : SameTopo (H3 nx ny nz) m) {a b c : Nat}
    (ha : a < nx) (hb : b < ny) (hc : c < nz) : vid3 m (D3 nx ny a b c 23) ≠ D3 nx ny a b c 23 := by
  have hd : IsD3 nx ny nz (D3 nx ny a b c 23) := ⟨a, b, c, 23, ha, hb, hc, by decide, rfl⟩
  obtain ⟨_, h2⟩ := vid3_spec hnx hny st hd
  have hm : D3 nx ny a b c 11 ∈ GridCount.cls (24 * nx * ny * nz + 1) (pt3 nx ny) (pt3 nx ny (D3 nx ny a b c 23)) := by
    refine GridCount.mem_cls.mpr ⟨D3_lt ha hb hc (by decide), ?_, ?_⟩
    · exact D3_ne_zero
    · rw [pt3_D ha hb (by decide), pt3_D ha hb (by decide)]
      unfold P3; rw [hexMisc.2.1]
  have := h2 _ hm
  have : D3 nx ny a b c 11 < D3 nx ny a b c 23 := by unfold D3 dartOf; omega
  omega

end

/-! ## index decoding of `generate_hex_offset` -/

theorem hexOffsetIdx_D3 {nx ny a b c o : Nat} (ha : a < nx) (hb : b < ny) (ho : o < 23) :
    hexOffsetIdx (D3 nx ny a b c o) nx ny = (o + 1, a, b, c) := by
  have hnx : 0 < 24 * nx := by omega
  have hny : 0 < 24 * nx * ny := Nat.mul_pos hnx (by omega)
  have hd : D3 nx ny a b c o = (o + 1) + 24 * cellIdx nx ny a b c := by unfold D3 dartOf; omega
  have r1 : D3 nx ny a b c o % 24 = o + 1 := by rw [hd]; exact add_mul_mod _ (by omega)
  have q1 : D3 nx ny a b c o / 24 = cellIdx nx ny a b c := by rw [hd]; exact add_mul_div _ (by omega)
  have r2 : D3 nx ny a b c o % (24 * nx) = o + 1 + 24 * a := by rw [Nat.mod_mul, r1, q1, cellIdx_x ha]
  have q2 : D3 nx ny a b c o / (24 * nx) = b + ny * c := by rw [← Nat.div_div_eq_div_mul, q1, cellIdx_div ha]
  have r3 : D3 nx ny a b c o % (24 * nx * ny) = o + 1 + 24 * a + 24 * nx * b := by
    rw [Nat.mod_mul, r2, q2, add_mul_mod _ hb]
  have q3 : D3 nx ny a b c o / (24 * nx * ny) = c := by rw [← Nat.div_div_eq_div_mul, q2, add_mul_div _ hb]
  have e := Nat.mod_add_div (D3 nx ny a b c o) (24 * nx * ny)
  rw [r3, q3] at e
  unfold hexOffsetIdx
  simp only [r1, r2, r3]
  rw [← e, Nat.add_sub_cancel_left, Nat.add_sub_cancel_left, Nat.add_sub_cancel_left,
    Nat.mul_div_cancel_left _ (by decide : 0 < 24), Nat.mul_div_cancel_left _ hnx, Nat.mul_div_cancel_left _ hny]

theorem hexOffset_D3 {nx ny a b c o : Nat} (lx ly lz : Rat) (ha : a < nx) (hb : b < ny) (ho : o < 23) :
    hexOffset (D3 nx ny a b c o) nx ny lx ly lz =
      some ((((P3 a b c o).1 : Nat) : Rat) * lx, (((P3 a b c o).2.1 : Nat) : Rat) * ly,
        (((P3 a b c o).2.2 : Nat) : Rat) * lz) := by
  unfold hexOffset
  rw [hexOffsetIdx_D3 ha hb ho]
  have h := hexMisc.2.2 o ho
  simp only
  cases hf : hexOffsetArms.find? (fun a => a.1.contains (o + 1)) with
  | none => rw [hf] at h; simp at h
  | some r =>
      rw [hf] at h
      simp only [Option.map_some, Option.some.injEq] at h
      obtain ⟨l, ax, ay, az⟩ := r
      simp only at h
      simp only [P3, ← h]

/-! ## placement -/

section Place
variable (ox oy oz lx ly lz : Rat) {nx ny nz : Nat}

/-- coordinates of a lattice point -/
def coord3 (p : Nat × Nat × Nat) : Val :=
  .pt (ox + ((p.1 : Nat) : Rat) * lx) (oy + ((p.2.1 : Nat) : Rat) * ly) (oz + ((p.2.2 : Nat) : Rat) * lz)

theorem placeHex_eq (hnx : 0 < nx) (hny : 0 < ny) {m : Map Val} (st : SameTopo (H3 nx ny nz) m) {s : Nat}
    (hs : IsD3 nx ny nz s) :
    placeHex ox oy oz nx ny lx ly lz m s =
      if vid3 (H3 nx ny nz) s = s then m.setA 0 s (some (coord3 ox oy oz lx ly lz (pt3 nx ny s))) else m := by
  have hv : vid3 m s = vid3 (H3 nx ny nz) s := vid3_same hnx hny st (SameTopo.refl _) hs hs rfl
  obtain ⟨a, b, c, o, ha, hb, hc, ho, rfl⟩ := hs
  unfold placeHex
  rw [hv]
  by_cases h : vid3 (H3 nx ny nz) (D3 nx ny a b c o) = D3 nx ny a b c o
  · have ho' : o < 23 := by
      apply Classical.byContradiction
      intro hn
      have : o = 23 := by omega
      subst this
      exact vid3_not_last hnx hny (SameTopo.refl _) ha hb hc h
    simp only [h, if_true]
    rw [hexOffset_D3 lx ly lz ha hb ho', pt3_D ha hb ho]
    rfl
  · simp only [h, if_false]

theorem att_placeHex (hnx : 0 < nx) (hny : 0 < ny) {m : Map Val} (st : SameTopo (H3 nx ny nz) m) {d : Nat}
    (hd : IsD3 nx ny nz d) (s : Nat) :
    (placeHex ox oy oz nx ny lx ly lz m d).att 0 s =
      if s = d ∧ vid3 (H3 nx ny nz) s = s then some (coord3 ox oy oz lx ly lz (pt3 nx ny s)) else m.att 0 s := by
  rw [placeHex_eq ox oy oz lx ly lz hnx hny st hd]
  by_cases hv : vid3 (H3 nx ny nz) d = d
  · rw [if_pos hv, Map.att_setA]
    by_cases hs : s = d
    · subst hs
      rw [if_pos ⟨rfl, rfl, gridMap_okA0 st hd.lt⟩, if_pos ⟨rfl, hv⟩]
    · rw [if_neg (fun h => hs h.2.1.symm), if_neg (fun h => hs h.1)]
  · rw [if_neg hv, if_neg]
    rintro ⟨rfl, h⟩
    exact hv h

theorem fold_placeHex (hnx : 0 < nx) (hny : 0 < ny) :
    ∀ (l : List Nat) (m : Map Val), (∀ s, s ∈ l → IsD3 nx ny nz s) → SameTopo (H3 nx ny nz) m →
      SameTopo (H3 nx ny nz) (l.foldl (placeHex ox oy oz nx ny lx ly lz) m) ∧
      ∀ s, (l.foldl (placeHex ox oy oz nx ny lx ly lz) m).att 0 s =
        if s ∈ l ∧ vid3 (H3 nx ny nz) s = s then some (coord3 ox oy oz lx ly lz (pt3 nx ny s))
        else m.att 0 s := by
  intro l
  induction l with
  | nil => intro m _ st; exact ⟨st, fun s => by simp⟩
  | cons d ds ih =>
      intro m hl st
      have hd := hl d List.mem_cons_self
      have st1 : SameTopo (H3 nx ny nz) (placeHex ox oy oz nx ny lx ly lz m d) := by
        rw [placeHex_eq ox oy oz lx ly lz hnx hny st hd]
        split
        · exact st.trans (SameTopo.setA _ _ _ _)
        · exact st
      obtain ⟨st2, h2⟩ := ih (placeHex ox oy oz nx ny lx ly lz m d)
        (fun s hs => hl s (List.mem_cons_of_mem _ hs)) st1
      refine ⟨st2, fun s => ?_⟩
      rw [List.foldl_cons, h2 s, att_placeHex ox oy oz lx ly lz hnx hny st hd]
      by_cases h : vid3 (H3 nx ny nz) s = s
      · simp only [h, and_true, List.mem_cons]
        by_cases hs : s ∈ ds
        · simp only [hs, or_true, if_true]
        · simp only [hs, or_false, if_false]
      · simp only [h, and_false, if_false]

theorem H3_att_none (s : Nat) : (H3 nx ny nz).att 0 s = none := gridMap_att_none _ _ _ s

theorem hex3_att_slot (hnx : 0 < nx) (hny : 0 < ny) (s : Nat) :
    (buildHex3 ox oy oz nx ny nz lx ly lz).att 0 s =
      if (1 ≤ s ∧ s ≤ 24 * nx * ny * nz) ∧ vid3 (H3 nx ny nz) s = s
      then some (coord3 ox oy oz lx ly lz (pt3 nx ny s)) else none := by
  have key := (fold_placeHex ox oy oz lx ly lz hnx hny (List.range' 1 (hexK * nx * ny * nz)) (H3 nx ny nz)
    (by
      intro s hs
      rw [List.mem_range'_1] at hs
      have e : hexK * nx * ny * nz = 24 * nx * ny * nz := rfl
      exact isD3_of_range hnx hny hs.1 (by omega))
    (SameTopo.refl _)).2 s
  have hb : buildHex3 ox oy oz nx ny nz lx ly lz =
      (List.range' 1 (hexK * nx * ny * nz)).foldl (placeHex ox oy oz nx ny lx ly lz) (H3 nx ny nz) := rfl
  rw [hb, key, H3_att_none]
  have e : hexK * nx * ny * nz = 24 * nx * ny * nz := rfl
  have hm : s ∈ List.range' 1 (hexK * nx * ny * nz) ↔ (1 ≤ s ∧ s ≤ 24 * nx * ny * nz) := by
    rw [List.mem_range'_1]; omega
  simp only [hm]

theorem hex3_att (hnx : 0 < nx) (hny : 0 < ny) {d : Nat} (hd : IsD3 nx ny nz d) :
    (buildHex3 ox oy oz nx ny nz lx ly lz).att 0 (vid3 (buildHex3 ox oy oz nx ny nz lx ly lz) d) =
      some (coord3 ox oy oz lx ly lz (pt3 nx ny d)) := by
  have st : SameTopo (H3 nx ny nz) _ := sameTopo_hex3 ox oy oz nx ny nz lx ly lz
  have hv : vid3 (buildHex3 ox oy oz nx ny nz lx ly lz) d = vid3 (H3 nx ny nz) d :=
    vid3_same hnx hny st (SameTopo.refl _) hd hd rfl
  obtain ⟨hp, hv2⟩ := vid3_pt hnx hny (SameTopo.refl (H3 nx ny nz)) hd
  have hid := vid3_same hnx hny (SameTopo.refl (H3 nx ny nz)) (SameTopo.refl _) hv2 hd hp
  rw [hv, hex3_att_slot ox oy oz lx ly lz hnx hny]
  obtain ⟨a, b, c, o, ha, hb, hc, ho, e⟩ := hv2
  have h1 : 1 ≤ vid3 (H3 nx ny nz) d := by rw [e]; exact D3_pos
  have h2 : vid3 (H3 nx ny nz) d ≤ 24 * nx * ny * nz := by
    have := D3_lt ha hb hc ho; rw [e]; omega
  simp only [h1, h2, and_self, hid, if_true, hp]

end Place

end HC.Grid3Vertex

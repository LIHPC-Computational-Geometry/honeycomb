/-
  Vertex values at dart level, through the 2-D sews.

  `vvalT t m x = m.att t (vertex_id x)`: the value of a vertex-bound storage `t` seen from dart `x` (`vval` is
  storage 0, the coordinates; its rules are the `t = 0` instances).  The vertices of a well-formed 2-map are
  the components of its ties (Lemmas/Ties: `β2 z` and `β1 z`, the two darts leaving the end of `z`, are tied); a 1-sew
  adds one tie, a 1-unsew removes one, a 2-sew / 2-unsew two.  On that level the attribute semantics of the sews (C04) reads:

  * a 1-unsew, and a 2-unsew of an edge whose two darts have successors and whose end points are different vertices,
    never change the value seen from any dart (the vertex law copies on split, moves otherwise);
  * a 1-sew gives every dart of the two vertices it joins the merged value, and changes nothing elsewhere; so does,
    for each of its two pairs of vertices, a 2-sew of two darts with successors whose end points are different vertices
    (`vvalT_twoSew2_both`, read off the cell-level theorem `C04_twoSew2_cells`).
-/
import Honeycomb.Lemmas.RemeshBeta
import Honeycomb.Lemmas.Ties
import Honeycomb.Lemmas.RemeshCells
import Honeycomb.Props.C04Cells


namespace HC
open HC.C03

/-! ## the vertex graph of a β function, through its ties: a PAIR is `(β2 z, β1 z)`, the two darts leaving the end of `z` -/

/-- a non-null neighbour `w` of `y` in the vertex graph comes from a pair: some dart `z` has `{β2 z, β1 z} = {y, w}` -/
theorem step_pair {n : Nat} {f : Nat → Nat → Nat} (hf : BOK n f) {y w : Nat} (hw : w ∈ vg f y) (hw0 : w ≠ 0) :
    ∃ z, f 2 z ≠ 0 ∧ f 1 z ≠ 0 ∧ ((f 2 z = y ∧ f 1 z = w) ∨ (f 2 z = w ∧ f 1 z = y)) := by
  simp only [vg, List.mem_cons, List.mem_nil_iff, or_false] at hw
  rcases hw with rfl | rfl
  · have h2 : f 2 y ≠ 0 := fun hh => hw0 (by rw [hh]; exact hf.z 1)
    have y0 : y ≠ 0 := by intro hh; subst hh; exact h2 (hf.z 2)
    exact ⟨f 2 y, by rw [hf.inv2 y h2]; exact y0, hw0, Or.inl ⟨hf.inv2 y h2, rfl⟩⟩
  · have h0 : f 0 y ≠ 0 := fun hh => hw0 (by rw [hh]; exact hf.z 2)
    have y0 : y ≠ 0 := by intro hh; subst hh; exact h0 (hf.z 0)
    exact ⟨f 0 y, hw0, by rw [hf.inv10 y h0]; exact y0, Or.inr ⟨rfl, hf.inv10 y h0⟩⟩

/-- the converse of `step_pair`: the two darts leaving the end of `z` are neighbours in the vertex graph -/
theorem pair_step {n : Nat} {f : Nat → Nat → Nat} (hf : BOK n f) (z : Nat) (h2 : f 2 z ≠ 0) (h1 : f 1 z ≠ 0) :
    f 1 z ∈ vg f (f 2 z) ∧ f 2 z ∈ vg f (f 1 z) := by
  simp only [vg, List.mem_cons, List.mem_nil_iff, or_false]
  exact ⟨Or.inl (by rw [hf.inv2 z h2]), Or.inr (by rw [hf.inv01 z h1])⟩

/-- a pair, as a path: `β2 z = u`, `β1 z = v`, both non-null -/
theorem pair_reach {n : Nat} {f : Nat → Nat → Nat} (hf : BOK n f) (z : Nat) {u v : Nat} (e2 : f 2 z = u) (e1 : f 1 z = v)
    (u0 : u ≠ 0) (v0 : v ≠ 0) : Reach (vg f) u v := by
  subst e2; subst e1; exact Reach.single (pair_step hf z u0 v0).1

theorem vg_symm {n : Nat} {f : Nat → Nat → Nat} (hf : BOK n f) {u v : Nat} (h : Reach (vg f) u v) (hv0 : v ≠ 0) :
    Reach (vg f) v u := by
  induction h with
  | refl => exact .refl _
  | tail hab hc ih =>
      rename_i b c
      obtain ⟨z, z2, z1, hz⟩ := step_pair hf hc hv0
      have b0 : b ≠ 0 := by rcases hz with ⟨e, _⟩ | ⟨_, e⟩ <;> (rw [← e]; assumption)
      have back : Reach (vg f) c b := by
        rcases hz with ⟨e2, e1⟩ | ⟨e2, e1⟩
        · rw [← e2, ← e1]; exact Reach.single (pair_step hf z z2 z1).2
        · rw [← e2, ← e1]; exact Reach.single (pair_step hf z z2 z1).1
      exact back.trans (ih b0)

/-- paths of one vertex graph project to paths of the other as soon as the pairs do -/
theorem reach_of_pairs {n n' : Nat} {f f' : Nat → Nat → Nat} (hf : BOK n f) (hf' : BOK n' f') (π : Nat → Nat)
    (πne : ∀ y, y ≠ 0 → π y ≠ 0)
    (P : ∀ z, f' 2 z ≠ 0 → f' 1 z ≠ 0 → Reach (vg f) (π (f' 2 z)) (π (f' 1 z)))
    {p q : Nat} (h : Reach (vg f') p q) (hq0 : q ≠ 0) : Reach (vg f) (π p) (π q) := by
  induction h with
  | refl => exact .refl _
  | tail hab hc ih =>
      rename_i b c
      obtain ⟨z, z2, z1, hz⟩ := step_pair hf' hc hq0
      have b0 : b ≠ 0 := by rcases hz with ⟨e, _⟩ | ⟨_, e⟩ <;> (rw [← e]; assumption)
      have st : Reach (vg f) (π b) (π c) := by
        rcases hz with ⟨e2, e1⟩ | ⟨e2, e1⟩
        · rw [← e2, ← e1]; exact P z z2 z1
        · rw [← e2, ← e1]; exact vg_symm hf (P z z2 z1) (πne _ z1)
      exact (ih b0).trans st

/-- tied darts reach each other -/
theorem tie_reach {n : Nat} {f : Nat → Nat → Nat} (hf : BOK n f) {u v : Nat} (t : Tie vties2 f u v) : Reach (vg f) u v := by
  obtain ⟨z, hu, hv, u0, v0⟩ := t
  rcases mem_vties2.1 hu with hu | hu <;> rcases mem_vties2.1 hv with hv | hv
  · rw [hu, hv]
    exact .refl _
  · exact vg_symm hf (pair_reach hf z hv.symm hu.symm v0 u0) u0
  · exact pair_reach hf z hu.symm hv.symm u0 v0
  · rw [hu, hv]
    exact .refl _

/-- reaching a non-null dart in the vertex graph = being connected through ties -/
theorem reach_iff_conn {n : Nat} {f : Nat → Nat → Nat} (hf : BOK n f) {x y : Nat} (hy0 : y ≠ 0) :
    Reach (vg f) x y ↔ Conn (Tie vties2 f) x y := by
  constructor
  · intro h
    induction h with
    | refl => exact .refl _
    | tail hab hc ih =>
        rename_i b c
        obtain ⟨z, z2, z1, hz⟩ := step_pair hf hc hy0
        have t2 : f 2 z ∈ vties2 f z := mem_vties2.2 (Or.inr rfl)
        have t1 : f 1 z ∈ vties2 f z := mem_vties2.2 (Or.inl rfl)
        rcases hz with ⟨e2, e1⟩ | ⟨e2, e1⟩
        · subst e2
          subst e1
          exact .fwd (ih z2) ⟨z, t2, t1, z2, z1⟩
        · subst e2
          subst e1
          exact .fwd (ih z1) ⟨z, t1, t2, z1, z2⟩
  · intro h
    induction h with
    | refl => exact .refl _
    | fwd _ e ih =>
        obtain ⟨z, a, b, c, d⟩ := e
        exact (ih c).trans (tie_reach hf ⟨z, a, b, c, d⟩)
    | bwd _ e ih =>
        obtain ⟨z, a, b, c, d⟩ := e
        exact (ih d).trans (tie_reach hf ⟨z, b, a, d, c⟩)

/-! ## the ties after a link / unlink: those of the columns written -/

/-- the columns outside `S` are kept and those of `S` only gain entries: the ties of `f'` are those of `f` and those
    among the two entries of a column of `S` -/
theorem tie2_gain {f f' : Nat → Nat → Nat} {S : List Nat}
    (hout : ∀ z, z ∉ S → f' 1 z = f 1 z ∧ f' 2 z = f 2 z)
    (hin : ∀ z, z ∈ S → (f 1 z = 0 ∨ f 1 z = f' 1 z) ∧ (f 2 z = 0 ∨ f 2 z = f' 2 z)) (u v : Nat) :
    Tie vties2 f' u v ↔ Tie vties2 f u v ∨
      ∃ z, z ∈ S ∧ (u = f' 2 z ∨ u = f' 1 z) ∧ (v = f' 2 z ∨ v = f' 1 z) ∧ u ≠ 0 ∧ v ≠ 0 := by
  rw [Tie.gain_iff (f := f) (f' := f') (S := S)
    (fun z hz => by unfold vties2; rw [(hout z hz).1, (hout z hz).2])
    (fun z hz w hw w0 => by
      rw [mem_vties2] at hw ⊢
      rcases hw with k | k
      · exact ((hin z hz).1.elim (fun c => absurd (k.trans c) w0) fun c => Or.inl (k.trans c))
      · exact ((hin z hz).2.elim (fun c => absurd (k.trans c) w0) fun c => Or.inr (k.trans c)))]
  simp only [mem_vties2, Or.comm]

/-- a 1-link adds the ties of `β2 l` and `r` -/
theorem vtie_lnk1 {f : Nat → Nat → Nat} {l r : Nat} (h1 : f 1 l = 0) (u v : Nat) :
    Tie vties2 (lnk1 f l r) u v ↔
      Tie vties2 f u v ∨ ((u = f 2 l ∨ u = r) ∧ (v = f 2 l ∨ v = r) ∧ u ≠ 0 ∧ v ≠ 0) := by
  refine (tie2_gain (f := f) (S := [l]) (fun z hz => ?_) (fun z hz => ?_) u v).trans ?_
  · rw [lnk1_one', lnk1_two', if_neg (fun k => hz (List.mem_singleton.2 k.symm))]
    exact ⟨rfl, rfl⟩
  · rw [List.mem_singleton.1 hz, lnk1_two']
    exact ⟨Or.inl h1, Or.inr rfl⟩
  · simp only [List.mem_singleton, exists_eq_left, lnk1_one', lnk1_two', if_true]

/-- a 1-unlink removes the ties of `β2 l` and `β1 l` -/
theorem vtie_unl1 {f : Nat → Nat → Nat} {l : Nat} (u v : Nat) :
    Tie vties2 f u v ↔
      Tie vties2 (unl1 f l) u v ∨ ((u = f 2 l ∨ u = f 1 l) ∧ (v = f 2 l ∨ v = f 1 l) ∧ u ≠ 0 ∧ v ≠ 0) := by
  refine (tie2_gain (f := unl1 f l) (S := [l]) (fun z hz => ?_) (fun z hz => ?_) u v).trans ?_
  · rw [unl1_one', unl1_two', if_neg (fun k => hz (List.mem_singleton.2 k.symm))]
    exact ⟨rfl, rfl⟩
  · rw [List.mem_singleton.1 hz, unl1_one', unl1_two', if_pos rfl]
    exact ⟨Or.inl rfl, Or.inr rfl⟩
  · simp only [List.mem_singleton, exists_eq_left]

/-- a 2-link of two 2-free darts adds the ties of `r` and `β1 l`, and of `l` and `β1 r` -/
theorem vtie_lnk2 {f : Nat → Nat → Nat} {l r : Nat} (hl : f 2 l = 0) (hr : f 2 r = 0) (hlr : l ≠ r) (u v : Nat) :
    Tie vties2 (lnk2 f l r) u v ↔
      Tie vties2 f u v ∨ ((u = r ∨ u = f 1 l) ∧ (v = r ∨ v = f 1 l) ∧ u ≠ 0 ∧ v ≠ 0) ∨
        ((u = l ∨ u = f 1 r) ∧ (v = l ∨ v = f 1 r) ∧ u ≠ 0 ∧ v ≠ 0) := by
  refine (tie2_gain (f := f) (S := [l, r]) (fun z hz => ?_) (fun z hz => ?_) u v).trans ?_
  · rw [lnk2_one', lnk2_two', if_neg (fun k => hz (by simp [k])), if_neg (fun k => hz (by simp [k]))]
    exact ⟨rfl, rfl⟩
  · rw [lnk2_one']
    rcases List.mem_cons.1 hz with k | k
    · rw [k]
      exact ⟨Or.inr rfl, Or.inl hl⟩
    · rw [List.mem_singleton.1 k]
      exact ⟨Or.inr rfl, Or.inl hr⟩
  · simp only [List.mem_cons, List.not_mem_nil, or_false, exists_eq_or_imp, exists_eq_left, lnk2_one', lnk2_two',
      if_true, if_neg (Ne.symm hlr)]

/-- a 2-unlink removes the ties of `β2 l` and `β1 l`, and of `l` and `β1 (β2 l)` -/
theorem vtie_unl2 {f : Nat → Nat → Nat} {l : Nat} (hinv : f 2 (f 2 l) = l) (u v : Nat) :
    Tie vties2 f u v ↔
      Tie vties2 (unl2 f l) u v ∨ ((u = f 2 l ∨ u = f 1 l) ∧ (v = f 2 l ∨ v = f 1 l) ∧ u ≠ 0 ∧ v ≠ 0) ∨
        ((u = l ∨ u = f 1 (f 2 l)) ∧ (v = l ∨ v = f 1 (f 2 l)) ∧ u ≠ 0 ∧ v ≠ 0) := by
  refine (tie2_gain (f := unl2 f l) (S := [l, f 2 l]) (fun z hz => ?_) (fun z hz => ?_) u v).trans ?_
  · rw [unl2_one', unl2_two', if_neg (fun k => hz (by simp [k])), if_neg (fun k => hz (by simp [k]))]
    exact ⟨rfl, rfl⟩
  · rw [unl2_one', unl2_two']
    refine ⟨Or.inr rfl, Or.inl ?_⟩
    rcases List.mem_cons.1 hz with k | k
    · rw [k, if_pos rfl, ite_self]
    · rw [List.mem_singleton.1 k, if_pos rfl]
  · simp only [List.mem_cons, List.not_mem_nil, or_false, exists_eq_or_imp, exists_eq_left, hinv]

/-! ## vertex identifiers and values -/

/-- connected in the vertex graph of `s` -/
abbrev VC (s : Map Val) (x y : Nat) : Prop := Conn (Tie vties2 s.β) x y

/-- the value the vertex-bound storage `t` holds at the vertex of dart `x` (`PosCalc.pos` is the case `t = 0`) -/
def vvalT (t : Nat) (s : Map Val) (x : Nat) : Option Val := s.att t (cellId s .vertex x)

/-- storage 0, the coordinates -/
abbrev vval (s : Map Val) (x : Nat) : Option Val := vvalT 0 s x

theorem vvalT_eq (t : Nat) (s : Map Val) (x : Nat) : vvalT t s x = s.att t (cellId s .vertex x) := rfl

theorem vc_iff_reach {s : Map Val} (hw : WF 3 s) {x y : Nat} (y0 : y ≠ 0) :
    VC s x y ↔ Reach (g2 s .vertex) x y := (reach_iff_conn (bok_of_wf hw) y0).symm

theorem vid_of_vc {s : Map Val} (hw : WF 3 s) {x y : Nat} (x0 : x ≠ 0) (xn : x < s.n) (y0 : y ≠ 0) (yn : y < s.n) :
    cellId s .vertex x = cellId s .vertex y ↔ VC s x y := by
  rw [vc_iff_reach hw y0]
  exact (C03_same_id_iff_same_cell hw (pol := .vertex) trivial x0 xn y0 yn).1

/-- connected darts see the same value -/
theorem vvalT_of_vc {s : Map Val} (hw : WF 3 s) {t x y : Nat} (x0 : x ≠ 0) (xn : x < s.n) (y0 : y ≠ 0) (yn : y < s.n)
    (hc : VC s x y) : vvalT t s x = vvalT t s y := by
  rw [vvalT_eq, vvalT_eq, (vid_of_vc hw x0 xn y0 yn).2 hc]

/-- a dart is connected to its identifier -/
theorem vc_vid {s : Map Val} (hw : WF 3 s) {x : Nat} (x0 : x ≠ 0) (xn : x < s.n) :
    cellId s .vertex x ≠ 0 ∧ cellId s .vertex x < s.n ∧ VC s x (cellId s .vertex x) := by
  obtain ⟨c0, cn, _⟩ := cellId_idem hw (pol := .vertex) trivial x0 xn
  have sp := cellId_spec hw (pol := .vertex) trivial x0 xn
  exact ⟨c0, cn, (vc_iff_reach hw c0).2 ((mem_orb hw (pol := .vertex) trivial x0 xn _).1 sp.1).2⟩

/-- same connections, same identifier -/
theorem vid_congr {s s' : Map Val} (hw : WF 3 s) (hw' : WF 3 s') (hn : s'.n = s.n) {x : Nat} (x0 : x ≠ 0)
    (xn : x < s.n) (h : ∀ y, y ≠ 0 → (VC s' x y ↔ VC s x y)) : cellId s' .vertex x = cellId s .vertex x := by
  have sp := cellId_spec hw (pol := .vertex) trivial x0 xn
  have sp' := cellId_spec hw' (pol := .vertex) trivial x0 (by rw [hn]; exact xn)
  have mem : ∀ y, y ∈ orb s' .vertex x ↔ y ∈ orb s .vertex x := by
    intro y
    rw [mem_orb hw' (pol := .vertex) trivial x0 (by rw [hn]; exact xn), mem_orb hw (pol := .vertex) trivial x0 xn]
    constructor
    · rintro ⟨y0, r⟩; exact ⟨y0, (vc_iff_reach hw y0).1 ((h y y0).1 ((vc_iff_reach hw' y0).2 r))⟩
    · rintro ⟨y0, r⟩; exact ⟨y0, (vc_iff_reach hw' y0).1 ((h y y0).2 ((vc_iff_reach hw y0).2 r))⟩
  have a := sp.2 _ ((mem _).1 sp'.1)
  have b := sp'.2 _ ((mem _).2 sp.1)
  omega

/-! ## the connections after a 1-link / 1-unlink -/

/-- a 1-unlink only removes connections -/
theorem vc_unl1 {s s' : Map Val} {l : Nat} (hβ : s'.β = unl1 s.β l) {x y : Nat} (h : VC s' x y) : VC s x y :=
  Conn.mono (fun u v e => Conn.fwd (.refl _) ((vtie_unl1 (l := l) u v).2 (Or.inl (hβ ▸ e)))) h

/-- a 1-link connects no more than the two vertices it joins -/
theorem vc_lnk1 {s s' : Map Val} {l r : Nat} (hβ : s'.β = lnk1 s.β l r) (h1 : s.β 1 l = 0) {x y : Nat}
    (h : VC s' x y) : VC s x y ∨ (VC s x (s.β 2 l) ∧ VC s r y) ∨ (VC s x r ∧ VC s (s.β 2 l) y) := by
  refine Conn.add_edge2 (E := Tie vties2 s.β) (a := s.β 2 l) (b := r) (fun u v e => ?_) h
  rcases (vtie_lnk1 h1 u v).1 (hβ ▸ e) with e | ⟨hu, hv, _, _⟩
  · exact Or.inl (.step e)
  · exact Or.inr ⟨hu, hv⟩

/-- a 1-link from a dart without β2 neighbour connects nothing -/
theorem vc_lnk1_null {s s' : Map Val} {l r : Nat} (hβ : s'.β = lnk1 s.β l r) (h1 : s.β 1 l = 0) (h2 : s.β 2 l = 0)
    {x y : Nat} (h : VC s' x y) : VC s x y := by
  refine Conn.mono (fun u v e => ?_) h
  rcases (vtie_lnk1 h1 u v).1 (hβ ▸ e) with e | ⟨hu, hv, u0, v0⟩
  · exact Conn.fwd (.refl _) e
  · -- both are `r`
    rw [h2] at hu hv
    rw [hu.resolve_left u0, hv.resolve_left v0]
    exact .refl _

/-! ## the sews at the level of `vval` -/

open HC.C04 in
/-- **1-sew**: the β function becomes `lnk1`; when `β2 l` is null nothing else happens; otherwise the darts connected to
    `a = β2 l` or to `r` all see one value `W` afterwards — the merge of the two values when the two vertices were
    different, the common value otherwise — and every other dart sees what it saw. -/
theorem vvalT_oneSew2 (cfg : Cfg Val) {t : Nat} (ht : t ∈ vStores cfg) {n l r : Nat} {s s' : Map Val} (hw : WF 3 s) (hw' : WF 3 s') (hn : s.n = n)
    (hfc : s.fc = 0) (r0 : r ≠ 0) (rn : r < n) (hrun : run (oneSew2 cfg n l r) s = (.ok (), s')) :
    s'.β = lnk1 s.β l r ∧ s.β 1 l = 0 ∧ s'.n = s.n ∧ s'.fc = 0 ∧ (∀ x y, VC s x y → VC s' x y) ∧
    (s.β 2 l = 0 → ∀ x, x ≠ 0 → x < n → vvalT t s' x = vvalT t s x) ∧
    (s.β 2 l ≠ 0 → VC s' (s.β 2 l) r ∧ ∃ W : Option Val,
      (∀ x, x ≠ 0 → x < n → (VC s x (s.β 2 l) ∨ VC s x r) → vvalT t s' x = W) ∧
      (∀ x, x ≠ 0 → x < n → ¬ VC s x (s.β 2 l) → ¬ VC s x r → vvalT t s' x = vvalT t s x) ∧
      (cellId s .vertex (s.β 2 l) ≠ cellId s .vertex r →
        ∃ v, mergeVal (cfg.law t) (vvalT t s (s.β 2 l)) (vvalT t s r) = .ok v ∧ W = some v) ∧
      (cellId s .vertex (s.β 2 l) = cellId s .vertex r → W = vvalT t s r)) := by
  subst hn
  obtain ⟨m1, hcore, st, cases⟩ := C04_oneSew2_effect cfg s.n l r s s' () hfc hrun
  obtain ⟨h1l, _, sc⟩ := step_oneLinkCore hcore
  have fc1 := link1_fc hcore
  have hβ : s'.β = lnk1 s.β l r := by rw [β_of_sameTopo st]; exact sc.β
  have hn' : s'.n = s.n := by rw [st.n]; exact sc.n
  have hw1 : WF 3 m1 := hw'.sameTopo (SameTopo.symm st)
  have pairs : ∀ u v, Tie vties2 s'.β u v ↔ Tie vties2 s.β u v ∨
      ((u = s.β 2 l ∨ u = r) ∧ (v = s.β 2 l ∨ v = r) ∧ u ≠ 0 ∧ v ≠ 0) := by
    intro u v; rw [hβ]; exact vtie_lnk1 h1l u v
  have mono : ∀ x y, VC s x y → VC s' x y := fun x y h =>
    Conn.mono (fun u v e => Conn.fwd (.refl _) ((pairs u v).2 (Or.inl e))) h
  rcases cases with ⟨h20, rfl⟩ | ⟨h2, v1, v2, nv, hv1, hv2, hnv, mg⟩
  · refine ⟨hβ, h1l, hn', by rw [fc1.1]; exact hfc, mono, ?_, fun hh => absurd h20 hh⟩
    intro _ x x0 xn
    have same : ∀ y, y ≠ 0 → (VC s' x y ↔ VC s x y) := fun y _ => ⟨vc_lnk1_null hβ h1l h20, mono x y⟩
    unfold vvalT
    rw [vid_congr hw hw' hn' x0 xn same, fc1.2.1]
  · refine ⟨hβ, h1l, hn', by rw [mg.fc, fc1.1]; exact hfc, mono, fun hh => absurd hh h2, fun _ => ?_⟩
    have an : s.β 2 l < s.n := by
      by_cases hl : l < s.n
      · exact hw.range 2 (by decide) l hl
      · exact absurd (hw.β_oob (fun hh => hl hh.2)) h2
    have e1 : v1 = cellId s .vertex (s.β 2 l) := by
      have := (C03_vertexId2_min hw h2 an).1; rw [this] at hv1; simp at hv1; exact hv1.symm
    have e2 : v2 = cellId s .vertex r := by
      have := (C03_vertexId2_min hw r0 rn).1; rw [this] at hv2; simp at hv2; exact hv2.symm
    have e3 : nv = cellId s' .vertex r := by
      have := (C03_vertexId2_min hw1 r0 (by rw [sc.n]; exact rn)).1
      rw [sc.n] at this
      rw [this] at hnv; simp at hnv
      rw [← hnv]; exact (cellId_sameTopo st .vertex r).symm
    have new : VC s' (s.β 2 l) r := Conn.fwd (.refl _) ((pairs _ _).2 (Or.inr ⟨Or.inl rfl, Or.inr rfl, h2, r0⟩))
    have dec : ∀ x y, VC s' x y →
        VC s x y ∨ (VC s x (s.β 2 l) ∧ VC s r y) ∨ (VC s x r ∧ VC s (s.β 2 l) y) := fun x y => vc_lnk1 hβ h1l
    have att1 : ∀ t e, m1.att t e = s.att t e := fc1.2.1
    have z0 := ht
    refine ⟨new, s'.att t nv, ?_, ?_, ?_, ?_⟩
    · intro x x0 xn hx
      have : VC s' x r := by
        rcases hx with hx | hx
        · exact (mono _ _ hx).trans new
        · exact mono _ _ hx
      unfold vvalT
      rw [(vid_of_vc hw' x0 (by rw [hn']; exact xn) r0 (by rw [hn']; exact rn)).2 this, e3]
    · intro x x0 xn na nr
      have same : ∀ y, y ≠ 0 → (VC s' x y ↔ VC s x y) := by
        intro y _
        constructor
        · intro h
          rcases dec x y h with h | ⟨h, _⟩ | ⟨h, _⟩
          · exact h
          · exact absurd h na
          · exact absurd h nr
        · exact mono x y
      have ceq := vid_congr hw hw' hn' x0 xn same
      obtain ⟨c0, cn, cx⟩ := vc_vid hw x0 xn
      obtain ⟨a0', an', ca⟩ := vc_vid hw h2 an
      obtain ⟨r0', rn', cr⟩ := vc_vid hw r0 rn
      obtain ⟨n0', nn', cnv⟩ := vc_vid hw' r0 (by rw [hn']; exact rn)
      unfold vvalT
      rw [ceq, mg.frame t _ z0 ?_ ?_ ?_, att1]
      · -- not the new identifier
        intro hh
        rw [e3] at hh
        have : VC s' x r := (mono _ _ cx).trans (by rw [hh]; exact cnv.symm)
        rcases dec x r this with h | ⟨h, _⟩ | ⟨h, _⟩
        · exact nr h
        · exact na h
        · exact nr h
      · intro hh; rw [e1] at hh; exact na (cx.trans (by rw [hh]; exact ca.symm))
      · intro hh; rw [e2] at hh; exact nr (cx.trans (by rw [hh]; exact cr.symm))
    · intro hne
      obtain ⟨v, hv, hout⟩ := mg.merged (by rw [e1, e2]; exact hne) t z0
      refine ⟨v, ?_, hout⟩
      unfold vvalT
      rw [att1, att1, e1, e2] at hv
      exact hv
    · intro heq
      have := mg.moved (by rw [e1, e2]; exact heq) t z0
      rw [this, att1, e1, heq]
      rfl

/-- what the unsews need from the vertex law: a defined value is copied to both halves, an undefined one is an error -/
structure CopySplit (L : Law Val) : Prop where
  split : ∀ v, L.split v = .ok (v, v)
  splitNone : ∀ p, L.splitNone ≠ .ok p

theorem copySplit_avgLaw : CopySplit avgLaw := ⟨fun _ => rfl, fun _ h => by simp [avgLaw] at h⟩

theorem splitVal_copy {L : Law Val} (hL : CopySplit L) {o : Option Val} {a b : Val} (h : splitVal L o = .ok (a, b)) :
    o = some a ∧ b = a := by
  cases o with
  | none => exact absurd h (hL.splitNone _)
  | some v =>
      simp only [splitVal] at h
      rw [hL.split v] at h
      simp only [Except.ok.injEq, Prod.mk.injEq] at h
      exact ⟨by rw [h.1], by rw [← h.1, h.2]⟩

open HC.C04 in
/-- **1-unsew**: the β function becomes `unl1`; no dart sees another vertex value afterwards (the value is copied to
    both halves of a split vertex, moved otherwise) -/
theorem vvalT_oneUnsew2 (cfg : Cfg Val) {t : Nat} (ht : t ∈ vStores cfg) (hL : ∀ o a b, splitVal (cfg.law t) o = .ok (a, b) → o = some a ∧ b = a) {n l : Nat} {s s' : Map Val} (hw : WF 3 s)
    (hw' : WF 3 s') (hn : s.n = n) (hfc : s.fc = 0) (ln : l < n)
    (hrun : run (oneUnsew2 cfg n l) s = (.ok (), s')) :
    s'.β = unl1 s.β l ∧ s.β 1 l ≠ 0 ∧ s'.n = s.n ∧ s'.fc = 0 ∧ ∀ x, x ≠ 0 → x < n → vvalT t s' x = vvalT t s x := by
  subst hn
  obtain ⟨m1, hcore, st, cases⟩ := C04_oneUnsew2_effect cfg s.n l s s' () hfc hrun
  obtain ⟨h1l, sc⟩ := step_oneUnlinkCore hcore
  have fc1 := unlink1_fc hcore
  have hβ : s'.β = unl1 s.β l := by rw [β_of_sameTopo st]; exact sc.β
  have hn' : s'.n = s.n := by rw [st.n]; exact sc.n
  have hw1 : WF 3 m1 := hw'.sameTopo (SameTopo.symm st)
  have pairs : ∀ u v, Tie vties2 s.β u v ↔ Tie vties2 s'.β u v ∨
      ((u = s.β 2 l ∨ u = s.β 1 l) ∧ (v = s.β 2 l ∨ v = s.β 1 l) ∧ u ≠ 0 ∧ v ≠ 0) := by
    intro u v; rw [hβ]; exact vtie_unl1 u v
  have mono : ∀ x y, VC s' x y → VC s x y := fun x y h =>
    Conn.mono (fun u v e => Conn.fwd (.refl _) ((pairs u v).2 (Or.inl e))) h
  rcases cases with ⟨h20, rfl⟩ | ⟨h2, vold, nl, nr, hvold, hnl, hnr, sp⟩
  · refine ⟨hβ, h1l, hn', by rw [fc1.1]; exact hfc, ?_⟩
    intro x x0 xn
    have same : ∀ y, y ≠ 0 → (VC s' x y ↔ VC s x y) := by
      intro y _
      constructor
      · exact mono x y
      · intro h
        refine Conn.mono (fun u v e => ?_) h
        rcases (pairs u v).1 e with e | ⟨hu, hv, u0, v0⟩
        · exact Conn.fwd (.refl _) e
        · -- both are `β1 l`
          rw [h20] at hu hv
          rw [hu.resolve_left u0, hv.resolve_left v0]
          exact .refl _
    unfold vvalT
    rw [vid_congr hw hw' hn' x0 xn same, fc1.2.1]
  · refine ⟨hβ, h1l, hn', by rw [sp.fc, fc1.1]; exact hfc, ?_⟩
    have an : s.β 2 l < s.n := hw.range 2 (by decide) l ln
    have bn : s.β 1 l < s.n := hw.range 1 (by decide) l ln
    have e1 : vold = cellId s .vertex (s.β 1 l) := by
      have := (C03_vertexId2_min hw h1l bn).1; rw [this] at hvold; simp at hvold; exact hvold.symm
    have e2 : nl = cellId s' .vertex (s.β 2 l) := by
      have := (C03_vertexId2_min hw1 h2 (by rw [sc.n]; exact an)).1
      rw [sc.n] at this
      rw [this] at hnl; simp at hnl
      rw [← hnl]; exact (cellId_sameTopo st .vertex _).symm
    have e3 : nr = cellId s' .vertex (s.β 1 l) := by
      have := (C03_vertexId2_min hw1 h1l (by rw [sc.n]; exact bn)).1
      rw [sc.n] at this
      rw [this] at hnr; simp at hnr
      rw [← hnr]; exact (cellId_sameTopo st .vertex _).symm
    have old : VC s (s.β 2 l) (s.β 1 l) := Conn.fwd (.refl _) ((pairs _ _).2 (Or.inr ⟨Or.inl rfl, Or.inr rfl, h2, h1l⟩))
    have dec : ∀ x y, VC s x y →
        VC s' x y ∨ (VC s' x (s.β 2 l) ∧ VC s' (s.β 1 l) y) ∨ (VC s' x (s.β 1 l) ∧ VC s' (s.β 2 l) y) := fun x y h =>
      Conn.add_edge2 (E := Tie vties2 s'.β) (a := s.β 2 l) (b := s.β 1 l) (fun u v e => by
        rcases (pairs u v).1 e with e | ⟨hu, hv, _, _⟩
        · exact Or.inl (.step e)
        · exact Or.inr ⟨hu, hv⟩) h
    have att1 : ∀ t e, m1.att t e = s.att t e := fc1.2.1
    have z0 := ht
    have an' : s.β 2 l < s'.n := by rw [hn']; exact an
    have bn' : s.β 1 l < s'.n := by rw [hn']; exact bn
    -- the value at the two new identifiers is the old value
    have vals : s'.att t nl = s.att t vold ∧ s'.att t nr = s.att t vold := by
      by_cases hlr : nl = nr
      · have := sp.moved hlr t z0
        rw [att1] at this
        exact ⟨this, by rw [← hlr]; exact this⟩
      · obtain ⟨a, b, hs, hb, ha⟩ := sp.split hlr t z0
        rw [att1] at hs
        obtain ⟨h1, h2'⟩ := hL _ _ _ hs
        exact ⟨by rw [ha, h1], by rw [hb, h1, h2']⟩
    intro x x0 xn
    have xn' : x < s'.n := by rw [hn']; exact xn
    by_cases ca : VC s' x (s.β 2 l)
    · have o : VC s x (s.β 1 l) := (mono _ _ ca).trans old
      unfold vvalT
      rw [(vid_of_vc hw' x0 xn' h2 an').2 ca, ← e2, vals.1, e1, (vid_of_vc hw x0 xn h1l bn).2 o]
    · by_cases cb : VC s' x (s.β 1 l)
      · have o : VC s x (s.β 1 l) := mono _ _ cb
        unfold vvalT
        rw [(vid_of_vc hw' x0 xn' h1l bn').2 cb, ← e3, vals.2, e1, (vid_of_vc hw x0 xn h1l bn).2 o]
      · have same : ∀ y, y ≠ 0 → (VC s' x y ↔ VC s x y) := by
          intro y _
          constructor
          · exact mono x y
          · intro h
            rcases dec x y h with h | ⟨h, _⟩ | ⟨h, _⟩
            · exact h
            · exact absurd h ca
            · exact absurd h cb
        have ceq := vid_congr hw hw' hn' x0 xn same
        obtain ⟨c0, cn, cx⟩ := vc_vid hw' x0 xn'
        obtain ⟨_, _, cna⟩ := vc_vid hw' h2 an'
        obtain ⟨_, _, cnb⟩ := vc_vid hw' h1l bn'
        obtain ⟨_, _, cvo⟩ := vc_vid hw h1l bn
        unfold vvalT
        rw [← ceq, sp.frame t _ z0 ?_ ?_ ?_, att1]
        · intro hh; rw [e2] at hh; exact ca (cx.trans (by rw [hh]; exact cna.symm))
        · intro hh; rw [e3] at hh; exact cb (cx.trans (by rw [hh]; exact cnb.symm))
        · intro hh
          rw [e1] at hh
          -- `x` would be connected to the old identifier, hence to one of the two darts
          have : VC s x (s.β 1 l) := (mono _ _ cx).trans (by rw [hh]; exact cvo.symm)
          rcases dec x _ this with h | ⟨h, _⟩ | ⟨h, _⟩
          · exact cb h
          · exact ca h
          · exact cb h


open HC.C04 in
/-- **2-sew of two 1-free darts**: no pair appears, only the edge storages are merged: same vertices, same values -/
theorem vvalT_twoSew2_free (cfg : Cfg Val) {T : Nat} (hTe : T ∉ eStores cfg) {n l r : Nat} {s s' : Map Val} (hw : WF 3 s) (hw' : WF 3 s') (hn : s.n = n)
    (hfc : s.fc = 0) (hl0 : s.β 1 l = 0) (hr0 : s.β 1 r = 0) (hlr : l ≠ r)
    (hrun : run (twoSew2 cfg n l r) s = (.ok (), s')) :
    s'.β = lnk2 s.β l r ∧ s'.n = s.n ∧ s'.fc = 0 ∧ (∀ x y, VC s' x y ↔ VC s x y) ∧
    ∀ x, x ≠ 0 → x < n → vvalT T s' x = vvalT T s x := by
  subst hn
  obtain ⟨m1, eid, hcore, _, mg⟩ := C04_twoSew2_free cfg s.n l r s s' () hfc hl0 hr0 hrun
  obtain ⟨h2l, h2r, sc⟩ := step_twoLinkCore hcore
  have fc1 := linkI_fc hcore
  have hβ : s'.β = lnk2 s.β l r := by rw [β_of_sameTopo mg.topo]; exact sc.β
  have hn' : s'.n = s.n := by rw [mg.topo.n]; exact sc.n
  -- the two new ties are from `r` to itself and from `l` to itself
  have dec : ∀ u v, Tie vties2 s'.β u v → VC s u v := by
    intro u v e
    rw [hβ, vtie_lnk2 h2l h2r hlr] at e
    rcases e with e | ⟨hu, hv, u0, v0⟩ | ⟨hu, hv, u0, v0⟩
    · exact .step e
    · rw [hl0] at hu hv
      rw [hu.resolve_right u0, hv.resolve_right v0]
      exact .refl _
    · rw [hr0] at hu hv
      rw [hu.resolve_right u0, hv.resolve_right v0]
      exact .refl _
  have conn : ∀ x y, VC s' x y ↔ VC s x y := fun x y =>
    ⟨Conn.mono dec, Conn.mono (fun u v e => .step (by rw [hβ, vtie_lnk2 h2l h2r hlr]; exact Or.inl e))⟩
  refine ⟨hβ, hn', by rw [mg.fc, fc1.1]; exact hfc, conn, ?_⟩
  intro x x0 xn
  unfold vvalT
  rw [vid_congr hw hw' hn' x0 xn (fun y _ => conn x y), mg.other T _ hTe, fc1.2.1]

open HC.C04 in
/-- **2-unsew of an edge whose two darts have successors and whose end points are different vertices**: two pairs
    disappear, each end vertex is split (copied) or moved: no dart sees another value -/
theorem vvalT_twoUnsew2_both (cfg : Cfg Val) {T : Nat} (hT : T ∈ vStores cfg) (hTe : T ∉ eStores cfg) (hL : ∀ o a b, splitVal (cfg.law T) o = .ok (a, b) → o = some a ∧ b = a) {n l : Nat} {s s' : Map Val} (hw : WF 3 s)
    (hw' : WF 3 s') (hn : s.n = n) (hfc : s.fc = 0) (ln : l < n) (h1l : s.β 1 l ≠ 0) (h1r : s.β 1 (s.β 2 l) ≠ 0)
    (hdiff : ¬ VC s l (s.β 2 l))
    (hrun : run (twoUnsew2 cfg n l) s = (.ok (), s')) :
    s'.β = unl2 s.β l ∧ s.β 2 l ≠ 0 ∧ s'.n = s.n ∧ s'.fc = 0 ∧ (∀ x y, VC s' x y → VC s x y) ∧
    ∀ x, x ≠ 0 → x < n → vvalT T s' x = vvalT T s x := by
  subst hn
  obtain ⟨eold, m1, me, _, hcore, spE, st, cases⟩ := C04_twoUnsew2_effect cfg s.n l s s' () hfc hrun
  obtain ⟨h2, sc⟩ := step_twoUnlinkCore hcore
  have fc1 := unlinkI_fc hcore
  have hβ : s'.β = unl2 s.β l := by rw [β_of_sameTopo st]; exact sc.β
  have hn' : s'.n = s.n := by rw [st.n]; exact sc.n
  have l0 : l ≠ 0 := by intro hh; rw [hh, hw.null 2 (by decide)] at h2; exact h2 rfl
  have rn : s.β 2 l < s.n := hw.range 2 (by decide) l ln
  have pn : s.β 1 l < s.n := hw.range 1 (by decide) l ln
  have qn : s.β 1 (s.β 2 l) < s.n := hw.range 1 (by decide) _ rn
  have hinv : s.β 2 (s.β 2 l) = l := (hw.invol 2 (by decide) (by decide) l ln h2).1
  have pairs : ∀ u v, Tie vties2 s.β u v ↔ Tie vties2 s'.β u v ∨
      ((u = s.β 2 l ∨ u = s.β 1 l) ∧ (v = s.β 2 l ∨ v = s.β 1 l) ∧ u ≠ 0 ∧ v ≠ 0) ∨
      ((u = l ∨ u = s.β 1 (s.β 2 l)) ∧ (v = l ∨ v = s.β 1 (s.β 2 l)) ∧ u ≠ 0 ∧ v ≠ 0) := by
    intro u v; rw [hβ]; exact vtie_unl2 hinv u v
  have mono : ∀ x y, VC s' x y → VC s x y := fun x y h =>
    Conn.mono (fun u v e => Conn.fwd (.refl _) ((pairs u v).2 (Or.inl e))) h
  rcases cases with ⟨c, _, _⟩ | ⟨c, _, _⟩ | ⟨_, c, _⟩ | ⟨_, _, lvold, rvold, a, b, c, d, mv, hlv, hrv, ha, hb, hc, hd, sp1, sp2⟩
  · exact absurd c h1l
  · exact absurd c h1l
  · exact absurd c h1r
  refine ⟨hβ, h2, hn', by rw [sp2.fc, sp1.fc, spE.fc, fc1.1]; exact hfc, mono, ?_⟩
  -- the intermediate relation: the new pairs and `(r, p)`
  let E1 : Nat → Nat → Prop := fun u v => Tie vties2 s'.β u v ∨ (u = s.β 2 l ∧ v = s.β 1 l)
  have rp : VC s (s.β 2 l) (s.β 1 l) :=
    Conn.fwd (.refl _) ((pairs _ _).2 (Or.inr (Or.inl ⟨Or.inl rfl, Or.inr rfl, h2, h1l⟩)))
  have lq : VC s l (s.β 1 (s.β 2 l)) :=
    Conn.fwd (.refl _) ((pairs _ _).2 (Or.inr (Or.inr ⟨Or.inl rfl, Or.inr rfl, l0, h1r⟩)))
  have mono1 : ∀ x y, Conn E1 x y → VC s x y := fun x y h =>
    Conn.mono (fun u v e => by
      rcases e with e | ⟨hu, hv⟩
      · exact Conn.fwd (.refl _) ((pairs u v).2 (Or.inl e))
      · rw [hu, hv]; exact rp) h
  have dec2 : ∀ x y, VC s x y → Conn E1 x y ∨ (Conn E1 x l ∧ Conn E1 (s.β 1 (s.β 2 l)) y) ∨
      (Conn E1 x (s.β 1 (s.β 2 l)) ∧ Conn E1 l y) := fun x y h =>
    Conn.add_edge2 (E := E1) (a := l) (b := s.β 1 (s.β 2 l)) (fun u v e => by
      have rp1 : Conn E1 (s.β 2 l) (s.β 1 l) := .step (Or.inr ⟨rfl, rfl⟩)
      rcases (pairs u v).1 e with e | ⟨hu, hv, _, _⟩ | ⟨hu, hv, _, _⟩
      · exact Or.inl (.step (Or.inl e))
      · rcases hu with rfl | rfl <;> rcases hv with rfl | rfl
        · exact Or.inl (.refl _)
        · exact Or.inl rp1
        · exact Or.inl rp1.symm
        · exact Or.inl (.refl _)
      · exact Or.inr ⟨hu, hv⟩) h
  have dec1 : ∀ x y, Conn E1 x y → VC s' x y ∨ (VC s' x (s.β 2 l) ∧ VC s' (s.β 1 l) y) ∨
      (VC s' x (s.β 1 l) ∧ VC s' (s.β 2 l) y) := fun x y h =>
    Conn.add_edge (E := Tie vties2 s'.β) (a := s.β 2 l) (b := s.β 1 l) (fun u v e => by
      rcases e with e | ⟨hu, hv⟩
      · exact Or.inl e
      · exact Or.inr ⟨hu, hv⟩) h
  -- the two old vertices are different
  have nlr : ∀ y, VC s l y → VC s (s.β 2 l) y → False := fun y h1 h2' => hdiff (h1.trans h2'.symm)
  -- where the darts of the two old vertices end up
  have clsL : ∀ x, VC s x l → VC s' x l ∨ VC s' x (s.β 1 (s.β 2 l)) := by
    intro x hx
    have step : ∀ t, VC s l t → Conn E1 x t → VC s' x t := by
      intro t lt h
      rcases dec1 x t h with h | ⟨_, h⟩ | ⟨_, h⟩
      · exact h
      · exact (nlr t lt (rp.trans (mono _ _ h))).elim
      · exact (nlr t lt (mono _ _ h)).elim
    rcases dec2 x l hx with h | ⟨h, _⟩ | ⟨h, _⟩
    · exact Or.inl (step l (.refl _) h)
    · exact Or.inl (step l (.refl _) h)
    · exact Or.inr (step _ lq h)
  have clsR : ∀ x, VC s x (s.β 2 l) → VC s' x (s.β 2 l) ∨ VC s' x (s.β 1 l) := by
    intro x hx
    have h : Conn E1 x (s.β 2 l) := by
      rcases dec2 x _ hx with h | ⟨_, h⟩ | ⟨_, h⟩
      · exact h
      · exact (nlr _ lq (mono1 _ _ h).symm).elim
      · exact (hdiff (mono1 _ _ h)).elim
    rcases dec1 x _ h with h | ⟨h, _⟩ | ⟨h, _⟩
    · exact Or.inl h
    · exact Or.inl h
    · exact Or.inr h
  have clsO : ∀ x, ¬ VC s x l → ¬ VC s x (s.β 2 l) → ∀ y, VC s x y → VC s' x y := by
    intro x nl nr y h
    rcases dec2 x y h with h | ⟨h, _⟩ | ⟨h, _⟩
    · rcases dec1 x y h with h | ⟨h, _⟩ | ⟨h, _⟩
      · exact h
      · exact absurd (mono _ _ h) nr
      · exact absurd ((mono _ _ h).trans rp.symm) nr
    · exact absurd (mono1 _ _ h) nl
    · exact absurd ((mono1 _ _ h).trans lq.symm) nl
  have hwe : WF 3 me := (hw'.sameTopo (SameTopo.symm st)).sameTopo spE.topo
  have ste : SameTopo me s' := (SameTopo.symm spE.topo).trans st
  have hne : me.n = s.n := by rw [spE.topo.n]; exact sc.n
  have idOld : ∀ {x v : Nat}, x ≠ 0 → x < s.n → run (vertexId2 s.n x) s = (.ok v, s) → v = cellId s .vertex x := by
    intro x v x0 xn hv
    have := (C03_vertexId2_min hw x0 xn).1; rw [this] at hv; simp at hv; exact hv.symm
  have idNew : ∀ {x v : Nat}, x ≠ 0 → x < s.n → run (vertexId2 s.n x) me = (.ok v, me) → v = cellId s' .vertex x := by
    intro x v x0 xn hv
    have := (C03_vertexId2_min hwe x0 (by rw [hne]; exact xn)).1
    rw [hne] at this
    rw [this] at hv; simp at hv
    rw [← hv]; exact (cellId_sameTopo ste .vertex x).symm
  have eL := idOld l0 ln hlv
  have eR := idOld h2 rn hrv
  have ea := idNew l0 ln ha
  have eb := idNew h1r qn hb
  have ec := idNew h1l pn hc
  have ed := idNew h2 rn hd
  have z0 := hT
  have attE : ∀ e, me.att T e = s.att T e := fun e => by
    rw [spE.other T e hTe, fc1.2.1]
  have ln' : l < s'.n := by rw [hn']; exact ln
  have rn' : s.β 2 l < s'.n := by rw [hn']; exact rn
  have pn' : s.β 1 l < s'.n := by rw [hn']; exact pn
  have qn' : s.β 1 (s.β 2 l) < s'.n := by rw [hn']; exact qn
  obtain ⟨_, _, cL⟩ := vc_vid hw l0 ln
  obtain ⟨_, _, cR⟩ := vc_vid hw h2 rn
  obtain ⟨_, _, ca⟩ := vc_vid hw' l0 ln'
  obtain ⟨_, _, cb⟩ := vc_vid hw' h1r qn'
  obtain ⟨_, _, cc⟩ := vc_vid hw' h1l pn'
  obtain ⟨_, _, cd⟩ := vc_vid hw' h2 rn'
  -- the six identifiers: `a, b, lvold` in the old vertex of `l`; `c, d, rvold` in that of `r`
  have inL : ∀ t, (t = a ∨ t = b ∨ t = lvold) → VC s l t := by
    intro t ht
    rcases ht with rfl | rfl | rfl
    · rw [ea]; exact mono _ _ ca
    · rw [eb]; exact lq.trans (mono _ _ cb)
    · rw [eL]; exact cL
  have inR : ∀ t, (t = c ∨ t = d ∨ t = rvold) → VC s (s.β 2 l) t := by
    intro t ht
    rcases ht with rfl | rfl | rfl
    · rw [ec]; exact rp.trans (mono _ _ cc)
    · rw [ed]; exact mono _ _ cd
    · rw [eR]; exact cR
  have neLR : ∀ t t', (t = a ∨ t = b ∨ t = lvold) → (t' = c ∨ t' = d ∨ t' = rvold) → t ≠ t' := by
    intro t t' ht ht' hh
    exact nlr t (inL t ht) (by rw [hh]; exact inR t' ht')
  -- the values at the four new identifiers
  have val1 : mv.att T a = s.att T lvold ∧ mv.att T b = s.att T lvold := by
    by_cases hab : a = b
    · have := sp1.moved hab T z0
      rw [attE] at this
      exact ⟨this, by rw [← hab]; exact this⟩
    · obtain ⟨x, y, hs, hy, hx⟩ := sp1.split hab T z0
      rw [attE] at hs
      obtain ⟨k1, k2⟩ := hL _ _ _ hs
      exact ⟨by rw [hx, k1], by rw [hy, k1, k2]⟩
  have rvold1 : mv.att T rvold = s.att T rvold := by
    rw [sp1.frame T _ z0 (Ne.symm (neLR a rvold (Or.inl rfl) (Or.inr (Or.inr rfl))))
      (Ne.symm (neLR b rvold (Or.inr (Or.inl rfl)) (Or.inr (Or.inr rfl))))
      (Ne.symm (neLR lvold rvold (Or.inr (Or.inr rfl)) (Or.inr (Or.inr rfl)))), attE]
  have val2 : s'.att T c = s.att T rvold ∧ s'.att T d = s.att T rvold := by
    by_cases hcd : c = d
    · have := sp2.moved hcd T z0
      rw [rvold1] at this
      exact ⟨this, by rw [← hcd]; exact this⟩
    · obtain ⟨x, y, hs, hy, hx⟩ := sp2.split hcd T z0
      rw [rvold1] at hs
      obtain ⟨k1, k2⟩ := hL _ _ _ hs
      exact ⟨by rw [hx, k1], by rw [hy, k1, k2]⟩
  have val1' : s'.att T a = s.att T lvold ∧ s'.att T b = s.att T lvold := by
    constructor
    · rw [sp2.frame T _ z0 (neLR a c (Or.inl rfl) (Or.inl rfl)) (neLR a d (Or.inl rfl) (Or.inr (Or.inl rfl)))
        (neLR a rvold (Or.inl rfl) (Or.inr (Or.inr rfl)))]
      exact val1.1
    · rw [sp2.frame T _ z0 (neLR b c (Or.inr (Or.inl rfl)) (Or.inl rfl))
        (neLR b d (Or.inr (Or.inl rfl)) (Or.inr (Or.inl rfl))) (neLR b rvold (Or.inr (Or.inl rfl)) (Or.inr (Or.inr rfl)))]
      exact val1.2
  intro x x0 xn
  have xn' : x < s'.n := by rw [hn']; exact xn
  by_cases xL : VC s x l
  · have old : cellId s .vertex x = lvold := by rw [eL]; exact (vid_of_vc hw x0 xn l0 ln).2 xL
    unfold vvalT
    rcases clsL x xL with h | h
    · rw [(vid_of_vc hw' x0 xn' l0 ln').2 h, ← ea, val1'.1, old]
    · rw [(vid_of_vc hw' x0 xn' h1r qn').2 h, ← eb, val1'.2, old]
  · by_cases xR : VC s x (s.β 2 l)
    · have old : cellId s .vertex x = rvold := by rw [eR]; exact (vid_of_vc hw x0 xn h2 rn).2 xR
      unfold vvalT
      rcases clsR x xR with h | h
      · rw [(vid_of_vc hw' x0 xn' h2 rn').2 h, ← ed, val2.2, old]
      · rw [(vid_of_vc hw' x0 xn' h1l pn').2 h, ← ec, val2.1, old]
    · have same : ∀ y, y ≠ 0 → (VC s' x y ↔ VC s x y) := fun y _ => ⟨mono x y, clsO x xL xR y⟩
      have ceq := vid_congr hw hw' hn' x0 xn same
      obtain ⟨_, _, cx⟩ := vc_vid hw x0 xn
      have notL : ∀ t, (t = a ∨ t = b ∨ t = lvold) → cellId s .vertex x ≠ t := by
        intro t ht hh; exact xL (cx.trans (by rw [hh]; exact (inL t ht).symm))
      have notR : ∀ t, (t = c ∨ t = d ∨ t = rvold) → cellId s .vertex x ≠ t := by
        intro t ht hh; exact xR (cx.trans (by rw [hh]; exact (inR t ht).symm))
      unfold vvalT
      rw [ceq, sp2.frame T _ z0 (notR c (Or.inl rfl)) (notR d (Or.inr (Or.inl rfl))) (notR rvold (Or.inr (Or.inr rfl))),
        sp1.frame T _ z0 (notL a (Or.inl rfl)) (notL b (Or.inr (Or.inl rfl))) (notL lvold (Or.inr (Or.inr rfl))), attE]

/-! ## 2-sew of two darts that both have a successor -/

section
open HC.C04 HC.CellCalc

/-- the vertex cells of the cell-level theorems of C04 -/
abbrev SCell (s : Map Val) (x y : Nat) : Prop := SameCell (g2 s .vertex) s.n x y

/-- the connections are these cells -/
theorem vc_iff_sameCell {s : Map Val} (hw : WF 3 s) {x y : Nat} (x0 : x ≠ 0) (xn : x < s.n) (y0 : y ≠ 0) :
    VC s x y ↔ SCell s x y := by
  have hs := sameCell_iff_reach (g2_null hw .vertex trivial) (g2_range hw .vertex trivial)
    (C03_images_inverse_closed hw (pol := .vertex) trivial) x0 xn y
  exact (vc_iff_reach hw y0).trans ⟨fun r => hs.2 ⟨y0, r⟩, fun c => (hs.1 c).2⟩

/-- a dart of the cell of an existing dart is non-null and connected to it -/
theorem vc_of_sameCell {s : Map Val} (hw : WF 3 s) {x y : Nat} (x0 : x ≠ 0) (xn : x < s.n) (h : SCell s x y) :
    y ≠ 0 ∧ VC s x y := by
  have hs := (sameCell_iff_reach (g2_null hw .vertex trivial) (g2_range hw .vertex trivial)
    (C03_images_inverse_closed hw (pol := .vertex) trivial) x0 xn y).1 h
  exact ⟨hs.1, (vc_iff_reach hw hs.1).2 hs.2⟩

/-- **2-sew of two darts that both have a successor**, when the two end points of the new edge are different vertices
    (`l` and the end of `r` on one side, the end of `l` and `r` on the other): the darts of each united pair of vertices
    all see one value afterwards — the merge of the two values when the two vertices were different, the common value
    otherwise — and every other dart sees what it saw; no other darts get connected -/
theorem vvalT_twoSew2_both (cfg : Cfg Val) {T : Nat} (hT : T ∈ vStores cfg) (hTe : T ∉ eStores cfg) {n l r : Nat}
    {s s' : Map Val} (hw : WF 3 s) (hn : s.n = n) (hfc : s.fc = 0) (hl : C01.InUse s l) (hr : C01.InUse s r)
    (hlr : l ≠ r) (h1l : s.β 1 l ≠ 0) (h1r : s.β 1 r ≠ 0)
    (d1 : ¬ VC s l r) (d2 : ¬ VC s l (s.β 1 l)) (d3 : ¬ VC s (s.β 1 r) r) (d4 : ¬ VC s (s.β 1 r) (s.β 1 l))
    (hrun : run (twoSew2 cfg n l r) s = (.ok (), s')) :
    s'.β = lnk2 s.β l r ∧ WF 3 s' ∧ s'.n = s.n ∧ s'.fc = 0 ∧
    (∀ x y, x ≠ 0 → x < n → y ≠ 0 → VC s' x y → VC s x y ∨
      ((VC s x l ∨ VC s x (s.β 1 r)) ∧ (VC s l y ∨ VC s (s.β 1 r) y)) ∨
      ((VC s x (s.β 1 l) ∨ VC s x r) ∧ (VC s (s.β 1 l) y ∨ VC s r y))) ∧
    (∀ x, x ≠ 0 → x < n → ¬ VC s x l → ¬ VC s x (s.β 1 r) → ¬ VC s x (s.β 1 l) → ¬ VC s x r →
      vvalT T s' x = vvalT T s x) ∧
    (∃ W : Option Val,
      (∀ x, x ≠ 0 → x < n → (VC s x l ∨ VC s x (s.β 1 r)) → vvalT T s' x = W) ∧
      (cellId s .vertex l ≠ cellId s .vertex (s.β 1 r) →
        ∃ v, mergeVal (cfg.law T) (vvalT T s l) (vvalT T s (s.β 1 r)) = .ok v ∧ W = some v) ∧
      (cellId s .vertex l = cellId s .vertex (s.β 1 r) → W = vvalT T s l)) ∧
    (∃ W : Option Val,
      (∀ x, x ≠ 0 → x < n → (VC s x (s.β 1 l) ∨ VC s x r) → vvalT T s' x = W) ∧
      (cellId s .vertex (s.β 1 l) ≠ cellId s .vertex r →
        ∃ v, mergeVal (cfg.law T) (vvalT T s (s.β 1 l)) (vvalT T s r) = .ok v ∧ W = some v) ∧
      (cellId s .vertex (s.β 1 l) = cellId s .vertex r → W = vvalT T s (s.β 1 l))) := by
  -- `C04_twoSew2_cells` says what the sew does to the CELLS and to the slots at identifiers: the 2-linked map followed by
  -- five merge stages.  Cells are turned into connections (`vc_iff_sameCell`), slots at identifiers into values seen from
  -- darts (an identifier lies in its dart's cell): first outside the four cells (F1), then on each of the two sides.
  subst hn
  obtain ⟨hwf1, st, ⟨R, hR', hcells⟩, hids, ⟨ma, mb, mc, md, MA, MB, MC, MD, ME⟩⟩ :=
    C04_twoSew2_cells cfg s s' l r () hw hl hr hlr hfc h1l h1r hrun
  have hw' : WF 3 s' := hwf1.sameTopo st
  have hn' : s'.n = s.n := by rw [st.n]; exact link2_n s l r
  have pn : s.β 1 r < s.n := hw.range 1 (by decide) r hr.2.1
  have qn : s.β 1 l < s.n := hw.range 1 (by decide) l hl.2.1
  -- the storage `T` is merged by two of the five stages, between `xa`, `xb`, `xc`
  obtain ⟨ss, xa, xb, xc, hTs, M1, M2, pre, post⟩ : ∃ (ss : List Nat) (xa xb xc : Map Val), T ∈ ss ∧
      MergedIn cfg ss (cellId (link2 s l r) .vertex l) (cellId s .vertex l) (cellId s .vertex (s.β 1 r)) xa xb ∧
      MergedIn cfg ss (cellId (link2 s l r) .vertex r) (cellId s .vertex (s.β 1 l)) (cellId s .vertex r) xb xc ∧
      (∀ e, xa.att T e = s.att T e) ∧ (∀ e, s'.att T e = xc.att T e) := by
    rcases List.mem_cons.1 hT with rfl | hT'
    · refine ⟨[0], _, _, _, by simp, MA, MB, fun _ => rfl, fun e => ?_⟩
      rw [ME.other 0 e hTe, MD.other 0 e (zero_notin_storagesOf cfg 0), MC.other 0 e (zero_notin_storagesOf cfg 0)]
    · have hT0 : T ∉ [0] := by
        intro hh
        rw [List.mem_singleton] at hh
        exact zero_notin_storagesOf cfg 0 (hh ▸ hT')
      refine ⟨storagesOf cfg 0, _, _, _, hT', MC, MD, fun e => ?_, fun e => ME.other T e hTe⟩
      rw [MB.other T e hT0, MA.other T e hT0]
      rfl
  -- the hypotheses and the cases of the conclusion, on the cells
  have sv : ∀ {x y : Nat}, x ≠ 0 → x < s.n → y ≠ 0 → (VC s x y ↔ SCell s x y) :=
    fun x0 xn y0 => vc_iff_sameCell hw x0 xn y0
  have s1 : ¬ SCell s l r := fun c => d1 ((sv hl.1 hl.2.1 hr.1).2 c)
  have s2 : ¬ SCell s l (s.β 1 l) := fun c => d2 ((sv hl.1 hl.2.1 h1l).2 c)
  have s3 : ¬ SCell s (s.β 1 r) r := fun c => d3 ((sv h1r pn hr.1).2 c)
  have s4 : ¬ SCell s (s.β 1 r) (s.β 1 l) := fun c => d4 ((sv h1r pn h1l).2 c)
  -- the two sides are apart
  have apart : ∀ d e, (SCell s d l ∨ SCell s d (s.β 1 r)) →
      (SCell s e (s.β 1 l) ∨ SCell s e r) →
      ¬ SCell s d e := by
    intro d e hd he c
    rcases hd with hd | hd <;> rcases he with he | he
    · exact s2 (SameCell.trans (SameCell.symm hd) (SameCell.trans c he))
    · exact s1 (SameCell.trans (SameCell.symm hd) (SameCell.trans c he))
    · exact s4 (SameCell.trans (SameCell.symm hd) (SameCell.trans c he))
    · exact s3 (SameCell.trans (SameCell.symm hd) (SameCell.trans c he))
  have RAB : ∀ d e, R d e → (SCell s e (s.β 1 l) ∨ SCell s e r) →
      (SCell s d (s.β 1 l) ∨ SCell s d r) := by
    intro d e hde he
    rcases (hR' d e).1 hde with c | ⟨_, c2⟩ | ⟨_, c2⟩
    · rcases he with he | he
      · exact Or.inl (SameCell.trans c he)
      · exact Or.inr (SameCell.trans c he)
    · exact absurd c2 (apart _ _ (Or.inr (.refl _)) he)
    · exact absurd c2 (apart _ _ (Or.inl (.refl _)) he)
  -- (F1) outside the four cells nothing changes
  have F1 : ∀ d, ¬ SCell s d l → ¬ SCell s d (s.β 1 r) →
      ¬ SCell s d (s.β 1 l) → ¬ SCell s d r →
      ∀ x, SameCell (g2 (link2 s l r) .vertex) s.n d x ↔ SCell s d x := by
    intro d n1 n2 n3 n4 x
    have Rd : ∀ y, R d y → SCell s d y := by
      intro y hy
      rcases (hR' d y).1 hy with c | ⟨c, _⟩ | ⟨c, _⟩
      · exact c
      · exact absurd c n1
      · exact absurd c n2
    constructor
    · intro c
      rcases (hcells d x).1 c with c1 | ⟨c1, _⟩ | ⟨c1, _⟩
      · exact Rd x c1
      · exact absurd (Rd _ c1) n4
      · exact absurd (Rd _ c1) n3
    · intro c
      exact (hcells d x).2 (Or.inl ((hR' d x).2 (Or.inl c)))
  have F2 : ∀ d, (SCell s d l ∨ SCell s d (s.β 1 r)) →
      SameCell (g2 (link2 s l r) .vertex) s.n d l := by
    intro d hd
    refine (hcells d l).2 (Or.inl ((hR' d l).2 ?_))
    rcases hd with c | c
    · exact Or.inl c
    · exact Or.inr (Or.inr ⟨c, .refl _⟩)
  have F3 : ∀ d, (SCell s d (s.β 1 l) ∨ SCell s d r) →
      SameCell (g2 (link2 s l r) .vertex) s.n d r := by
    intro d hd
    have Rrefl : ∀ z, R z z := fun z => (hR' z z).2 (Or.inl (.refl z))
    rcases hd with c | c
    · exact (hcells d r).2 (Or.inr (Or.inr ⟨(hR' _ _).2 (Or.inl c), Rrefl r⟩))
    · exact (hcells d r).2 (Or.inl ((hR' _ _).2 (Or.inl c)))
  have F4 : ¬ SameCell (g2 (link2 s l r) .vertex) s.n l r := by
    intro c
    have nlr : ¬ R l r := fun hh => by
      rcases RAB l r hh (Or.inr (.refl _)) with c | c
      · exact s2 c
      · exact s1 c
    have nlq : ¬ R l (s.β 1 l) := fun hh => by
      rcases RAB l _ hh (Or.inl (.refl _)) with c | c
      · exact s2 c
      · exact s1 c
    rcases (hcells l r).1 c with c1 | ⟨c1, _⟩ | ⟨c1, _⟩
    · exact nlr c1
    · exact nlr c1
    · exact nlq c1
  obtain ⟨id1, id2⟩ := hids F4
  -- a dart's identifier lies in the dart's cell
  have cid : ∀ {x : Nat}, x ≠ 0 → x < s.n → SCell s (cellId s .vertex x) x := by
    intro x x0 xn
    obtain ⟨c0, _, c⟩ := vc_vid hw x0 xn
    exact SameCell.symm ((sv x0 xn c0).1 c)
  have A1 : SCell s (cellId s .vertex l) l ∨
      SCell s (cellId s .vertex l) (s.β 1 r) := Or.inl (cid hl.1 hl.2.1)
  have B1 : SCell s (cellId s .vertex (s.β 1 r)) l ∨
      SCell s (cellId s .vertex (s.β 1 r)) (s.β 1 r) := Or.inr (cid h1r pn)
  have A2 : SCell s (cellId s .vertex (s.β 1 l)) (s.β 1 l) ∨
      SCell s (cellId s .vertex (s.β 1 l)) r := Or.inl (cid h1l qn)
  have B2 : SCell s (cellId s .vertex r) (s.β 1 l) ∨
      SCell s (cellId s .vertex r) r := Or.inr (cid hr.1 hr.2.1)
  have C1 : SCell s (cellId (link2 s l r) .vertex l) l ∨
      SCell s (cellId (link2 s l r) .vertex l) (s.β 1 r) := by
    rw [id1]
    rcases Nat.le_total (cellId s .vertex l) (cellId s .vertex (s.β 1 r)) with c | c
    · rw [Nat.min_eq_left c]; exact A1
    · rw [Nat.min_eq_right c]; exact B1
  have C2 : SCell s (cellId (link2 s l r) .vertex r) (s.β 1 l) ∨
      SCell s (cellId (link2 s l r) .vertex r) r := by
    rw [id2]
    rcases Nat.le_total (cellId s .vertex (s.β 1 l)) (cellId s .vertex r) with c | c
    · rw [Nat.min_eq_left c]; exact A2
    · rw [Nat.min_eq_right c]; exact B2
  have ne_of : ∀ {x y : Nat}, (SCell s x l ∨ SCell s x (s.β 1 r)) →
      (SCell s y (s.β 1 l) ∨ SCell s y r) → x ≠ y := by
    intro x y hx hy hxy
    subst hxy
    exact apart _ _ hx hy (.refl _)
  have stt : ∀ d, cellId s' .vertex d = cellId (link2 s l r) .vertex d := fun d => cellId_sameTopo st .vertex d
  have sameId : ∀ {x y : Nat}, x ≠ 0 → x < s.n → y ≠ 0 → y < s.n → SameCell (g2 (link2 s l r) .vertex) s.n x y →
      cellId (link2 s l r) .vertex x = cellId (link2 s l r) .vertex y := fun x0 xn y0 yn c =>
    (C03_same_id_iff_same_cell hwf1 (pol := .vertex) trivial x0 xn y0 yn).2.2 c
  have hβ : s'.β = lnk2 s.β l r := (step_twoSew2 hrun).2.2.β
  have hfc' : s'.fc = 0 := by
    rw [ME.fc, MD.fc, MC.fc, MB.fc, MA.fc]
    exact hfc
  refine ⟨hβ, hw', hn', hfc', ?_, ?_, ⟨s'.att T (cellId (link2 s l r) .vertex l), ?_, ?_, ?_⟩,
    ⟨s'.att T (cellId (link2 s l r) .vertex r), ?_, ?_, ?_⟩⟩
  · intro x y x0 xn y0 h
    -- the new cell of `x`: its old cell, or the two cells of one side
    have RS : ∀ a b, R a b → SCell s a b ∨
        ((SCell s a l ∨ SCell s a (s.β 1 r)) ∧ (SCell s l b ∨ SCell s (s.β 1 r) b)) := by
      intro a b hab
      rcases (hR' a b).1 hab with c | ⟨c1, c2⟩ | ⟨c1, c2⟩
      · exact Or.inl c
      · exact Or.inr ⟨Or.inl c1, Or.inr c2⟩
      · exact Or.inr ⟨Or.inr c1, Or.inl c2⟩
    have RB1 : ∀ a b, R a b → (SCell s a (s.β 1 l) ∨ SCell s a r) → SCell s a b := by
      intro a b hab ha
      rcases RS a b hab with c | ⟨c, _⟩
      · exact c
      · exact absurd (.refl _) (apart _ _ c ha)
    have RB2 : ∀ a b, R a b → (SCell s b (s.β 1 l) ∨ SCell s b r) → SCell s a b := by
      intro a b hab hb
      rcases RS a b hab with c | ⟨_, c | c⟩
      · exact c
      · exact absurd c (apart _ _ (Or.inl (.refl _)) hb)
      · exact absurd c (apart _ _ (Or.inr (.refl _)) hb)
    have hc : SameCell (g2 (link2 s l r) .vertex) s.n x y := by
      have := (vc_iff_sameCell hw' x0 (by rw [hn']; exact xn) y0).1 h
      unfold SCell at this
      rw [hn'] at this
      exact (sameCell_of_beta_eq st.β s.n x y).1 this
    have back : ∀ {a b : Nat}, a ≠ 0 → a < s.n → b ≠ 0 → SCell s a b → VC s a b :=
      fun a0 an b0 c => (sv a0 an b0).2 c
    rcases (hcells x y).1 hc with c | ⟨c1, c2⟩ | ⟨c1, c2⟩
    · rcases RS x y c with c | ⟨cx, cy⟩
      · exact Or.inl (back x0 xn y0 c)
      · exact Or.inr (Or.inl ⟨cx.imp (back x0 xn hl.1) (back x0 xn h1r),
          cy.imp (back hl.1 hl.2.1 y0) (back h1r pn y0)⟩)
    · have cx := RB2 x r c1 (Or.inr (.refl _))
      have cy := RB1 (s.β 1 l) y c2 (Or.inl (.refl _))
      exact Or.inr (Or.inr ⟨Or.inr (back x0 xn hr.1 cx), Or.inl (back h1l qn y0 cy)⟩)
    · have cx := RB2 x (s.β 1 l) c1 (Or.inl (.refl _))
      have cy := RB1 r y c2 (Or.inr (.refl _))
      exact Or.inr (Or.inr ⟨Or.inl (back x0 xn h1l cx), Or.inr (back hr.1 hr.2.1 y0 cy)⟩)
  · intro x x0 xn n1 n2 n3 n4
    have m1 := fun c => n1 ((sv x0 xn hl.1).2 c)
    have m2 := fun c => n2 ((sv x0 xn h1r).2 c)
    have m3 := fun c => n3 ((sv x0 xn h1l).2 c)
    have m4 := fun c => n4 ((sv x0 xn hr.1).2 c)
    have hid : cellId (link2 s l r) .vertex x = cellId s .vertex x :=
      min_unique (cellId_spec hwf1 (pol := .vertex) trivial x0 xn) (cellId_spec hw (pol := .vertex) trivial x0 xn)
        (fun y => by rw [mem_cell_iff hwf1 x0 xn, mem_cell_iff hw x0 xn]; exact F1 x m1 m2 m3 m4 y)
    have hcv := SameCell.symm (cid x0 xn)
    have nAB : ∀ z, (SCell s z l ∨ SCell s z (s.β 1 r)) →
        cellId s .vertex x ≠ z := by
      intro z hz heq
      subst heq
      rcases hz with c | c
      · exact m1 (SameCell.trans hcv c)
      · exact m2 (SameCell.trans hcv c)
    have nCD : ∀ z, (SCell s z (s.β 1 l) ∨ SCell s z r) →
        cellId s .vertex x ≠ z := by
      intro z hz heq
      subst heq
      rcases hz with c | c
      · exact m3 (SameCell.trans hcv c)
      · exact m4 (SameCell.trans hcv c)
    unfold vvalT
    rw [stt, hid, post, M2.frame T _ hTs (nCD _ C2) (nCD _ A2) (nCD _ B2),
      M1.frame T _ hTs (nAB _ C1) (nAB _ A1) (nAB _ B1), pre]
  · intro x x0 xn hin
    have hin' : SCell s x l ∨ SCell s x (s.β 1 r) :=
      hin.imp (sv x0 xn hl.1).1 (sv x0 xn h1r).1
    unfold vvalT
    rw [stt, sameId x0 xn hl.1 hl.2.1 (F2 x hin')]
  · intro hne
    obtain ⟨v, hv, hout⟩ := M1.merged hne T hTs
    refine ⟨v, ?_, ?_⟩
    · unfold vvalT
      rw [pre, pre] at hv
      exact hv
    · rw [post, M2.frame T _ hTs (ne_of C1 C2) (ne_of C1 A2) (ne_of C1 B2)]
      exact hout
  · intro heq
    unfold vvalT
    rw [post, M2.frame T _ hTs (ne_of C1 C2) (ne_of C1 A2) (ne_of C1 B2), M1.moved heq T hTs, pre]
  · intro x x0 xn hin
    have hin' : SCell s x (s.β 1 l) ∨ SCell s x r :=
      hin.imp (sv x0 xn h1l).1 (sv x0 xn hr.1).1
    unfold vvalT
    rw [stt, sameId x0 xn hr.1 hr.2.1 (F3 x hin')]
  · intro hne
    obtain ⟨v, hv, hout⟩ := M2.merged hne T hTs
    refine ⟨v, ?_, by rw [post]; exact hout⟩
    unfold vvalT
    rw [M1.frame T _ hTs (ne_of C1 A2).symm (ne_of A1 A2).symm (ne_of B1 A2).symm,
      M1.frame T _ hTs (ne_of C1 B2).symm (ne_of A1 B2).symm (ne_of B1 B2).symm, pre, pre] at hv
    exact hv
  · intro heq
    unfold vvalT
    rw [post, M2.moved heq T hTs,
      M1.frame T _ hTs (ne_of C1 A2).symm (ne_of A1 A2).symm (ne_of B1 A2).symm, pre]

end

end HC

/-
  The merge of anchors, seen as (dimension, identifier) pairs: the laws of such a merge once (`DimMerge`), and the three
  generated tables of `Gen/Anchors.lean` as instances.
-/
import Honeycomb.Gen.Anchors

namespace HC.C15

/-- merging anchors seen as (dimension, identifier) pairs: the lower dimension wins, equal dimensions need equal
    identifiers.  `VertexAnchor`, `EdgeAnchor` and `FaceAnchor` are the three instances. -/
structure DimMerge {α : Type} (dim id : α → Nat) (merge : α → α → Option α) : Prop where
  ext : ∀ a b, dim a = dim b → id a = id b → a = b
  eq : ∀ a b, merge a b =
    if dim a < dim b then some a else if dim b < dim a then some b else if id a = id b then some a else none

section
variable {α : Type} {dim id : α → Nat} {merge : α → α → Option α} (h : DimMerge dim id merge)
include h

theorem DimMerge.cases {a b c : α} (hc : merge a b = some c) :
    (dim a < dim b ∧ c = a) ∨ (dim b < dim a ∧ c = b) ∨ (dim a = dim b ∧ id a = id b ∧ c = a) := by
  rw [h.eq] at hc
  split at hc
  · exact Or.inl ⟨‹_›, (Option.some.inj hc).symm⟩
  · split at hc
    · exact Or.inr (Or.inl ⟨‹_›, (Option.some.inj hc).symm⟩)
    · split at hc
      · exact Or.inr (Or.inr ⟨by omega, ‹_›, (Option.some.inj hc).symm⟩)
      · exact absurd hc (by simp)

theorem DimMerge.comm (a b : α) : merge a b = merge b a := by
  rw [h.eq, h.eq]
  rcases Nat.lt_trichotomy (dim a) (dim b) with lt | eq | gt
  · simp [lt, Nat.lt_asymm lt]
  · by_cases hi : id a = id b
    · simp [h.ext a b eq hi]
    · simp [eq, hi, Ne.symm hi]
  · simp [gt, Nat.lt_asymm gt]

theorem DimMerge.idem (a : α) : merge a a = some a := by
  rw [h.eq]
  simp

theorem DimMerge.lower_dim {a b c : α} (hc : merge a b = some c) : dim c = min (dim a) (dim b) ∧ (c = a ∨ c = b) := by
  rcases h.cases hc with ⟨lt, rfl⟩ | ⟨lt, rfl⟩ | ⟨eq, _, rfl⟩
  · exact ⟨by omega, Or.inl rfl⟩
  · exact ⟨by omega, Or.inr rfl⟩
  · exact ⟨by omega, Or.inl rfl⟩

theorem DimMerge.fails_iff (a b : α) : merge a b = none ↔ dim a = dim b ∧ id a ≠ id b := by
  rw [h.eq]
  rcases Nat.lt_trichotomy (dim a) (dim b) with lt | eq | gt
  · simp [lt, Nat.ne_of_lt lt]
  · by_cases hi : id a = id b
    · simp [eq, hi]
    · simp [eq, hi]
  · simp [gt, Nat.lt_asymm gt, Nat.ne_of_gt gt]

theorem DimMerge.assoc {a b c x y : α} (h1 : merge a b = some x) (h2 : merge b c = some y) : merge x c = merge a y := by
  rcases h.cases h1 with ⟨l1, hx⟩ | ⟨l1, hx⟩ | ⟨e1, i1, hx⟩ <;>
    rcases h.cases h2 with ⟨l2, hy⟩ | ⟨l2, hy⟩ | ⟨e2, i2, hy⟩
  · rw [hx, hy, h1, hx, h.eq, if_pos (by omega)]
  · rw [hx, hy]
  · rw [hx, hy, h1, hx, h.eq, if_pos (by omega)]
  · rw [hx, hy, h2, h1, hx, hy]
  · rw [hx, hy, h2, hy, h.eq a c, if_neg (by omega), if_pos (by omega)]
  · rw [hx, hy, h2, h1, hx, hy]
  · rw [hx, hy, h1, hx, h.eq, if_pos (by omega)]
  · rw [hx, hy]
  · rw [hx, hy, h1, hx, h.eq, if_neg (by omega), if_neg (by omega), if_pos (by omega)]

end

section
open Gen.Anchors

theorem vanchor_dimMerge : DimMerge VertexAnchor.dim VertexAnchor.id VertexAnchor.merge := by
  constructor
  · intro a b
    cases a <;> cases b <;> simp [VertexAnchor.dim, VertexAnchor.id]
  · intro a b
    cases a <;> cases b <;> simp [VertexAnchor.merge, VertexAnchor.dim, VertexAnchor.id] <;> rfl
theorem eanchor_dimMerge : DimMerge EdgeAnchor.dim EdgeAnchor.id EdgeAnchor.merge := by
  constructor
  · intro a b
    cases a <;> cases b <;> simp [EdgeAnchor.dim, EdgeAnchor.id]
  · intro a b
    cases a <;> cases b <;> simp [EdgeAnchor.merge, EdgeAnchor.dim, EdgeAnchor.id] <;> rfl
theorem fanchor_dimMerge : DimMerge FaceAnchor.dim FaceAnchor.id FaceAnchor.merge := by
  constructor
  · intro a b
    cases a <;> cases b <;> simp [FaceAnchor.dim, FaceAnchor.id]
  · intro a b
    cases a <;> cases b <;> simp [FaceAnchor.merge, FaceAnchor.dim, FaceAnchor.id] <;> rfl

end

end HC.C15

/-
  3-D links (`dim3/links/{one,three}.rs`): what the lock-step walks of `three_link` /
  `three_unlink` and the β3 side effect of the 3-D `one_link` / `one_unlink` do to a well-formed
  map.  Shared by Props/C02 (integrity, mirror, refusal) and Props/C05 (sews).

  * read-only / attribute-only classification of the 3-D identifier computations;
  * `Linked3 m m' ps`: `m'` is `m` with the pairs of `ps` 3-linked; `walkPairs`: the pairs of a
    lock-step walk.  `linkWalk_linked` / `threeLink3_walks` and `unlinkWalk_unlinked` /
    `threeUnlink3_walks`: ONE induction on the fuel of each walk, generic in the direction
    `(i, j) ∈ {(1, 0), (0, 1)}`, and ONE reading of each procedure: the pairs linked / unlinked are
    those of the forward and backward walks, with what the procedure has checked about the ends;
  * what follows from such a description: `Linked3.wf` (linking different in-use darts keeps
    well-formedness), `walk_no_fixed` (no pair of a walk is a dart with itself), `Zipped` (the shape
    check in relational form) and `Linked3.mirror` (linking zipped pairs keeps the mirror condition);
  * `threeLink3_ok` / `threeUnlink3_ok`: the two procedures as a whole — well-formedness, frame
    (`Grow3` / `Shrink3`), the mirror condition and, for the link, `SameShape`;
  * `Only01`: only β0 / β1 were written; `oneLink3_ok` / `oneUnlink3_ok`: the 3-D 1-link and 1-unlink
    keep well-formedness and the mirror condition;
  * `Add1 m m' l r`: `m'` is `m` with one more 1-link; `oneLink3_effect` / `oneUnlink3_effect`: the 3-D
    `one_link` adds one such link, or two (the β3 images), and `one_unlink` is the same read backwards.
-/
import Honeycomb.Model.Ops3
import Honeycomb.Lemmas.WFLink

namespace HC
variable {X : Type}

/-! ## peeling helpers -/

/-! ## 3-D identifiers and face walks are read-only -/

theorem readOnly_popLoop (gen : Nat → P X (List Nat)) (hg : ∀ d, ReadOnly (gen d)) :
    ∀ fuel pending marked mn, ReadOnly (popLoop gen fuel pending marked mn) := by
  intro fuel
  induction fuel with
  | zero => intro p mk mn; unfold popLoop; exact ReadOnly.panic
  | succ f ih =>
      intro p mk mn
      cases p with
      | nil => unfold popLoop; exact ReadOnly.pure _
      | cons d rest =>
          unfold popLoop
          split
          · exact ih _ _ _
          · exact ReadOnly.bind (hg d) (fun ims => ih _ _ _)

theorem readOnly_genVid3 (d : Nat) : ReadOnly (genVid3 (X := X) d) := by
  unfold genVid3
  exact ReadOnly.bind (ReadOnly.rB _ _) fun _ => ReadOnly.bind (ReadOnly.rB _ _) fun _ =>
    ReadOnly.bind (ReadOnly.rB _ _) fun _ => ReadOnly.bind (ReadOnly.rB _ _) fun _ =>
    ReadOnly.bind (ReadOnly.rB _ _) fun _ => ReadOnly.bind (ReadOnly.rB _ _) fun _ =>
    ReadOnly.bind (ReadOnly.rB _ _) fun _ => ReadOnly.bind (ReadOnly.rB _ _) fun _ =>
    ReadOnly.bind (ReadOnly.rB _ _) fun _ => ReadOnly.pure _

theorem readOnly_vertexId3 (n d : Nat) : ReadOnly (vertexId3 (X := X) n d) :=
  readOnly_popLoop _ readOnly_genVid3 _ _ _ _

theorem readOnly_edgeId3 (n d : Nat) : ReadOnly (edgeId3 (X := X) n d) :=
  readOnly_popLoop _ (fun _ => ReadOnly.bind (ReadOnly.rB _ _) fun _ =>
    ReadOnly.bind (ReadOnly.rB _ _) fun _ => ReadOnly.pure _) _ _ _ _

theorem readOnly_volumeId3 (n d : Nat) : ReadOnly (volumeId3 (X := X) n d) :=
  readOnly_popLoop _ (fun _ => ReadOnly.bind (ReadOnly.rB _ _) fun _ =>
    ReadOnly.bind (ReadOnly.rB _ _) fun _ => ReadOnly.bind (ReadOnly.rB _ _) fun _ => ReadOnly.pure _) _ _ _ _

theorem readOnly_gen3_custom_go (d : Nat) : ∀ bs acc, ReadOnly (gen3.go (X := X) d bs acc) := by
  intro bs
  induction bs with
  | nil => intro acc; exact ReadOnly.pure _
  | cons i is ih =>
      intro acc
      unfold gen3.go
      split
      · exact ReadOnly.bind (ReadOnly.rB _ _) (fun im => ih _)
      · exact ReadOnly.panic

theorem readOnly_gen3_custom (bs : List Nat) (d : Nat) : ReadOnly (gen3 (X := X) (.custom bs) d) := by
  unfold gen3
  exact readOnly_gen3_custom_go d _ _

theorem readOnly_faceOrbits3 (n ld rd : Nat) : ReadOnly (faceOrbits3 (X := X) n ld rd) := by
  unfold faceOrbits3
  exact ReadOnly.bind (readOnly_bfs _ (readOnly_gen3_custom _) _ _ _ _) fun _ =>
    ReadOnly.bind (readOnly_bfs _ (readOnly_gen3_custom _) _ _ _ _) fun _ => ReadOnly.pure _

theorem readOnly_threeSewCollect (n : Nat) :
    ∀ ps es vs, ReadOnly (threeSewCollect (X := X) n ps es vs) := by
  intro ps
  induction ps with
  | nil => intro es vs; exact ReadOnly.pure _
  | cons p rest ih =>
      intro es vs
      obtain ⟨l, r⟩ := p
      unfold threeSewCollect
      refine ReadOnly.bind (readOnly_edgeId3 _ _) fun _ => ?_
      refine ReadOnly.bind (readOnly_edgeId3 _ _) fun _ => ?_
      refine ReadOnly.bind (ReadOnly.rB _ _) fun _ => ?_
      refine ReadOnly.bind (ReadOnly.rB _ _) fun _ => ?_
      refine ReadOnly.bind (readOnly_vertexId3 _ _) fun _ => ?_
      refine ReadOnly.bind (readOnly_vertexId3 _ _) fun _ => ?_
      refine ReadOnly.bind (ReadOnly.rB _ _) fun _ => ?_
      refine ReadOnly.ite ?_ (ih _ _)
      refine ReadOnly.bind (ReadOnly.rB _ _) fun _ => ?_
      refine ReadOnly.bind (ReadOnly.rB _ _) fun _ => ?_
      refine ReadOnly.bind (readOnly_vertexId3 _ _) fun _ => ?_
      exact ReadOnly.bind (readOnly_vertexId3 _ _) fun _ => ih _ _

theorem ao_vid3 (n d : Nat) : AttrOnly (vertexId3 (X := X) n d) := AttrOnly.of_readOnly (readOnly_vertexId3 n d)
theorem ao_eid3 (n d : Nat) : AttrOnly (edgeId3 (X := X) n d) := AttrOnly.of_readOnly (readOnly_edgeId3 n d)


/-- a non-null image is an in-use dart -/
theorem WF.image_inUse {m : Map X} (h : WF 4 m) {i e : Nat} (hi : i < 4) (he : e < m.n) (hne : m.β i e ≠ 0) :
    m.β i e < m.n ∧ m.unused (m.β i e) = false := by
  refine ⟨h.range i hi e he, ?_⟩
  cases hu : m.unused (m.β i e) with
  | false => rfl
  | true => exact absurd (h.noImageOfUnused (by omega) i hi e he hu) hne

theorem WF.lt_of_okβ {m : Map X} (h : WF 4 m) {i d : Nat} (hok : m.okβ i d = true) : d < m.n :=
  ((h.toSized.okβ i d).1 hok).2

/-! ## directions of a face walk -/

/-- `(i, j)` = β followed on the left / right side: `(1, 0)` forward, `(0, 1)` backward -/
def Dir (i j : Nat) : Prop := (i = 1 ∧ j = 0) ∨ (i = 0 ∧ j = 1)

theorem Dir.symm {i j : Nat} (d : Dir i j) : Dir j i := by
  rcases d with ⟨rfl, rfl⟩ | ⟨rfl, rfl⟩
  · exact Or.inr ⟨rfl, rfl⟩
  · exact Or.inl ⟨rfl, rfl⟩

theorem Dir.ilt {i j : Nat} (d : Dir i j) : i < 2 := by rcases d with ⟨rfl, rfl⟩ | ⟨rfl, rfl⟩ <;> omega
theorem Dir.jlt {i j : Nat} (d : Dir i j) : j < 2 := by rcases d with ⟨rfl, rfl⟩ | ⟨rfl, rfl⟩ <;> omega

theorem WF.inv_ij {m : Map X} (h : WF 4 m) {i j : Nat} (dir : Dir i j) {d : Nat} (hd : d < m.n)
    (hne : m.β i d ≠ 0) : m.β j (m.β i d) = d := by
  rcases dir with ⟨rfl, rfl⟩ | ⟨rfl, rfl⟩
  · exact h.inv01 d hd hne
  · exact h.inv10 d hd hne

/-- iterates of `β i` on the pure map -/
def it (m : Map X) (i : Nat) : Nat → Nat → Nat
  | 0, d => d
  | k + 1, d => it m i k (m.β i d)

@[simp] theorem it_zero (m : Map X) (i d : Nat) : it m i 0 d = d := rfl
theorem it_succ (m : Map X) (i k d : Nat) : it m i (k + 1) d = it m i k (m.β i d) := rfl

theorem it_succ' (m : Map X) (i : Nat) : ∀ k d, it m i (k + 1) d = m.β i (it m i k d) := by
  intro k
  induction k with
  | zero => intro d; rfl
  | succ k ih => intro d; rw [it_succ, ih]; rfl

theorem it_add (m : Map X) (i : Nat) : ∀ a b d, it m i (a + b) d = it m i b (it m i a d) := by
  intro a
  induction a with
  | zero => intro b d; simp
  | succ a ih => intro b d; rw [show a + 1 + b = (a + b) + 1 by omega, it_succ, ih]; rfl

theorem it_null {m : Map X} {i : Nat} (h : m.β i 0 = 0) : ∀ k, it m i k 0 = 0 := by
  intro k
  induction k with
  | zero => rfl
  | succ k ih => rw [it_succ, h, ih]

theorem periodic_nz {m : Map X} {i d L : Nat} (hnull : m.β i 0 = 0) (hL : 0 < L)
    (hp : it m i L d = d) (hd : d ≠ 0) : ∀ T, it m i T d ≠ 0 := by
  have hc : ∀ c, it m i (c * L) d = d := by
    intro c
    induction c with
    | zero => simp
    | succ c ih => rw [Nat.succ_mul, it_add, ih, hp]
  intro T hT
  have hle : T ≤ T * L := Nat.le_mul_of_pos_right T hL
  have : it m i (T + (T * L - T)) d = 0 := by rw [it_add, hT, it_null hnull]
  rw [show T + (T * L - T) = T * L by omega, hc] at this
  exact hd this

theorem it_congr {m m' : Map X} {i : Nat} (h : ∀ d, m'.β i d = m.β i d) : ∀ k d, it m' i k d = it m i k d := by
  intro k
  induction k with
  | zero => intro d; rfl
  | succ k ih => intro d; rw [it_succ, it_succ, h, ih]

theorem it_lt {m : Map X} (h : WF 4 m) {i : Nat} (hi : i < 4) : ∀ k d, d < m.n → it m i k d < m.n := by
  intro k
  induction k with
  | zero => intro d hd; exact hd
  | succ k ih => intro d hd; rw [it_succ]; exact ih _ (h.range i hi d hd)

/-! ## frames of the 3-(un)link walks -/

/-- only null β3 entries have been written (3-links) -/
structure Grow3 (m m' : Map X) : Prop where
  n : m'.n = m.n
  u : m'.u = m.u
  a : m'.a = m.a
  fc : m'.fc = m.fc
  β : ∀ e d, e ≠ 3 → m'.β e d = m.β e d
  keep : ∀ d, m.β 3 d ≠ 0 → m'.β 3 d = m.β 3 d

theorem Grow3.unused {m m' : Map X} (h : Grow3 m m') (d : Nat) : m'.unused d = m.unused d := by
  unfold Map.unused; rw [h.u]

/-- β3 entries have only been cleared (3-unlinks) -/
structure Shrink3 (m m' : Map X) : Prop where
  n : m'.n = m.n
  u : m'.u = m.u
  a : m'.a = m.a
  fc : m'.fc = m.fc
  β : ∀ e d, e ≠ 3 → m'.β e d = m.β e d
  sub : ∀ d, m'.β 3 d = m.β 3 d ∨ m'.β 3 d = 0

theorem Shrink3.mirror {m m' : Map X} (h : Shrink3 m m') (hM : Mirror m) : Mirror m' := by
  intro d hd g1 g2 g3
  have e1 : ∀ x, m'.β 1 x = m.β 1 x := fun x => h.β 1 x (by omega)
  rw [e1] at g1 g3
  rw [e1 d]
  have a2 : m'.β 3 d = m.β 3 d := by
    rcases h.sub d with hh | hh
    · exact hh
    · exact absurd hh g2
  have a3 : m'.β 3 (m.β 1 d) = m.β 3 (m.β 1 d) := by
    rcases h.sub (m.β 1 d) with hh | hh
    · exact hh
    · exact absurd hh g3
  rw [a2] at g2 ⊢
  rw [a3] at g3 ⊢
  rw [e1]
  exact hM d (by rw [← h.n]; exact hd) g1 g2 g3

/-! ## the mirror condition at one dart -/

/-- the mirror condition at one dart, in direction `i` (`Mirror m ↔ ∀ d < n, MAtG m 1 d`) -/
def MAtG (m : Map X) (i d : Nat) : Prop :=
  m.β i d ≠ 0 → m.β 3 d ≠ 0 → m.β 3 (m.β i d) ≠ 0 → m.β i (m.β 3 (m.β i d)) = m.β 3 d

theorem mirror_iff (m : Map X) : Mirror m ↔ ∀ d, d < m.n → MAtG m 1 d := Iff.rfl

/-! ## one round of the walk of `three_unlink` -/

theorem unlinkWalk_step {ld rd stop i j : Nat} {again : Bool} {f ls rs : Nat} {m m' : Map X} {o : Nat × Nat}
    (h : run (threeUnlinkWalk (X := X) ld rd stop i j again (f + 1) ls rs) m = (.ok o, m')) :
    (¬ (ls ≠ stop ∧ ls ≠ 0) ∧ o = (ls, rs) ∧ m' = m) ∨
    ((ls ≠ stop ∧ ls ≠ 0) ∧ ls = m.β 3 rs ∧ m.β 3 ls ≠ 0 ∧
      run (threeUnlinkWalk (X := X) ld rd stop i j again f ((m.unlinkI 3 ls).β i ls) ((m.unlinkI 3 ls).β j rs))
        (m.unlinkI 3 ls) = (.ok o, m')) := by
  unfold threeUnlinkWalk at h
  by_cases hc : ls ≠ stop ∧ ls ≠ 0
  · rw [if_pos hc] at h
    replace h := run_rB_bind_ok h
    obtain ⟨hlx, h⟩ := run_ite_abort_ok h
    have hy : ∃ y, run ((fun y => if ls ≠ y then (Prog.panic : P X (Nat × Nat)) else do
        iUnlinkCore 3 ls
        let ls' ← rB i ls
        let rs' ← rB j rs
        threeUnlinkWalk ld rd stop i j again f ls' rs') y) m = (.ok o, m') := by
      cases again with
      | false =>
          simp only [Bool.false_eq_true, if_false] at h
          obtain ⟨y, _, h⟩ := run_ro_bind_ok (ReadOnly.pure _) h
          exact ⟨y, h⟩
      | true =>
          simp only [if_true] at h
          obtain ⟨y, _, h⟩ := run_ro_bind_ok (ReadOnly.rB _ _) h
          exact ⟨y, h⟩
    obtain ⟨y, h⟩ := hy
    simp only [] at h
    by_cases hly : ls ≠ y
    · rw [if_pos hly] at h; simp at h
    · rw [if_neg hly] at h
      obtain ⟨_, m1, hl, h⟩ := run_bind_ok h
      obtain ⟨_, _, hne, rfl⟩ := iUnlinkCore_ok hl
      exact Or.inr ⟨hc, Classical.not_not.1 hlx, hne, run_rB_bind_ok (run_rB_bind_ok h)⟩
  · rw [if_neg hc] at h
    obtain ⟨rfl, rfl⟩ := run_pure_ok h
    exact Or.inl ⟨hc, rfl, rfl⟩

namespace Cell3

-- goals about a pair `pq` of a list compare `m.β i pq.1` with `m.β i p`: the unifier must not unfold `β`
attribute [local irreducible] Map.β

/-! ## the exact β3 written by `three_link` -/

/-- the pairs visited by a lock-step walk of `k` rounds: `(βi^t ls, βj^t rs)`, `t < k` -/
def walkPairs (m : Map X) (i j : Nat) : Nat → Nat → Nat → List (Nat × Nat)
  | 0, _, _ => []
  | k + 1, ls, rs => (ls, rs) :: walkPairs m i j k (m.β i ls) (m.β j rs)

theorem mem_walkPairs {m : Map X} {i j : Nat} : ∀ (k ls rs : Nat) (pq : Nat × Nat),
    pq ∈ walkPairs m i j k ls rs ↔ ∃ t, t < k ∧ pq = (it m i t ls, it m j t rs) := by
  intro k
  induction k with
  | zero => intro ls rs pq; simp [walkPairs]
  | succ k ih =>
      intro ls rs pq
      simp only [walkPairs, List.mem_cons, ih]
      constructor
      · rintro (h | ⟨t, ht, h⟩)
        · exact ⟨0, by omega, h⟩
        · exact ⟨t + 1, by omega, h⟩
      · rintro ⟨t, ht, h⟩
        cases t with
        | zero => exact Or.inl h
        | succ t => exact Or.inr ⟨t, by omega, h⟩

theorem walkPairs_congr {m m' : Map X} {i j : Nat} (hi : ∀ d, m'.β i d = m.β i d) (hj : ∀ d, m'.β j d = m.β j d) :
    ∀ k ls rs, walkPairs m' i j k ls rs = walkPairs m i j k ls rs := by
  intro k
  induction k with
  | zero => intro ls rs; rfl
  | succ k ih => intro ls rs; simp only [walkPairs, hi, hj, ih]

/-- `m'` is `m` with the darts of each pair 3-linked to each other (they were 3-free) -/
structure Linked3 (m m' : Map X) (ps : List (Nat × Nat)) : Prop where
  n : m'.n = m.n
  other : ∀ e d, e ≠ 3 → m'.β e d = m.β e d
  pairs : ∀ pq, pq ∈ ps → m'.β 3 pq.1 = pq.2 ∧ m'.β 3 pq.2 = pq.1 ∧ m.β 3 pq.1 = 0 ∧ m.β 3 pq.2 = 0 ∧
    pq.1 ≠ 0 ∧ pq.2 ≠ 0 ∧ pq.1 < m.n ∧ pq.2 < m.n
  rest : ∀ x, (∀ pq, pq ∈ ps → x ≠ pq.1 ∧ x ≠ pq.2) → m'.β 3 x = m.β 3 x
  /-- different pairs share no dart (each link needs both darts 3-free) -/
  cross : ∀ x, x ∈ ps → ∀ y, y ∈ ps → x ≠ y → x.1 ≠ y.1 ∧ x.1 ≠ y.2 ∧ x.2 ≠ y.1 ∧ x.2 ≠ y.2

/-- the four readings of `Linked3.pairs` at a pair of the list: the new links, … -/
theorem Linked3.new {m m' : Map X} {ps : List (Nat × Nat)} (L : Linked3 m m' ps) {pq : Nat × Nat} (h : pq ∈ ps) :
    m'.β 3 pq.1 = pq.2 ∧ m'.β 3 pq.2 = pq.1 :=
  ⟨(L.pairs pq h).1, (L.pairs pq h).2.1⟩

/-- … both darts were 3-free, … -/
theorem Linked3.free {m m' : Map X} {ps : List (Nat × Nat)} (L : Linked3 m m' ps) {pq : Nat × Nat} (h : pq ∈ ps) :
    m.β 3 pq.1 = 0 ∧ m.β 3 pq.2 = 0 :=
  ⟨(L.pairs pq h).2.2.1, (L.pairs pq h).2.2.2.1⟩

/-- … neither is the null dart, … -/
theorem Linked3.nz {m m' : Map X} {ps : List (Nat × Nat)} (L : Linked3 m m' ps) {pq : Nat × Nat} (h : pq ∈ ps) :
    pq.1 ≠ 0 ∧ pq.2 ≠ 0 :=
  ⟨(L.pairs pq h).2.2.2.2.1, (L.pairs pq h).2.2.2.2.2.1⟩

/-- … and both exist -/
theorem Linked3.lt {m m' : Map X} {ps : List (Nat × Nat)} (L : Linked3 m m' ps) {pq : Nat × Nat} (h : pq ∈ ps) :
    pq.1 < m.n ∧ pq.2 < m.n :=
  ⟨(L.pairs pq h).2.2.2.2.2.2.1, (L.pairs pq h).2.2.2.2.2.2.2⟩

theorem Linked3.refl (m : Map X) : Linked3 m m [] :=
  ⟨rfl, fun _ _ _ => rfl, fun pq h => absurd h (by simp), fun _ _ => rfl, fun x h => absurd h (by simp)⟩

/-- only the set of pairs matters -/
theorem Linked3.of_mem {m m' : Map X} {ps qs : List (Nat × Nat)} (h : Linked3 m m' ps)
    (hmem : ∀ x, x ∈ qs ↔ x ∈ ps) : Linked3 m m' qs :=
  ⟨h.n, h.other, fun pq hq => h.pairs pq ((hmem pq).1 hq),
    fun x hx => h.rest x fun pq hp => hx pq ((hmem pq).2 hp),
    fun x hx y hy => h.cross x ((hmem x).1 hx) y ((hmem y).1 hy)⟩

theorem Linked3.of_frame {m m' : Map X} {l r : Nat} (hn : m'.n = m.n)
    (hβ : ∀ j e, m'.β j e = if 3 = j ∧ r = e then l else if 3 = j ∧ l = e then r else m.β j e)
    (f1 : m.β 3 l = 0) (f2 : m.β 3 r = 0) (hl0 : l ≠ 0) (hr0 : r ≠ 0) (hl : l < m.n) (hr : r < m.n) :
    Linked3 m m' [(l, r)] := by
  refine ⟨hn, ?_, ?_, ?_, fun x hx y hy hxy => absurd ((by simpa using hx : x = (l, r)).trans
    (by simpa using hy : y = (l, r)).symm) hxy⟩
  · intro e d he
    rw [hβ]
    have : ¬ (3 = e) := fun hh => he hh.symm
    simp [this]
  · intro pq hm
    have : pq = (l, r) := by simpa using hm
    subst this
    dsimp only
    refine ⟨?_, ?_, f1, f2, hl0, hr0, hl, hr⟩
    · rw [hβ]
      by_cases c : r = l
      · simp [c]
      · simp [c]
    · rw [hβ]; simp
  · intro x hx
    have := hx (l, r) (by simp)
    rw [hβ]
    have a1 : ¬ (r = x) := fun hh => this.2 hh.symm
    have a2 : ¬ (l = x) := fun hh => this.1 hh.symm
    simp [a1, a2]

theorem Linked3.single {m : Map X} (h : Sized 4 m) {l r : Nat} (hl0 : l ≠ 0) (hr0 : r ≠ 0)
    (hl : l < m.n) (hr : r < m.n) (f1 : m.β 3 l = 0) (f2 : m.β 3 r = 0) :
    Linked3 m (m.linkI 3 l r) [(l, r)] :=
  Linked3.of_frame rfl (h.β_linkI (i := 3) (by omega) hl hr) f1 f2 hl0 hr0 hl hr

theorem Linked3.append {m m1 m2 : Map X} {ps qs : List (Nat × Nat)} (h1 : Linked3 m m1 ps)
    (h2 : Linked3 m1 m2 qs) : Linked3 m m2 (ps ++ qs) := by
  -- an endpoint of `qs` is 3-free in `m1`, an endpoint of `ps` is not
  have disj : ∀ pq, pq ∈ ps → ∀ rs, rs ∈ qs → pq.1 ≠ rs.1 ∧ pq.1 ≠ rs.2 ∧ pq.2 ≠ rs.1 ∧ pq.2 ≠ rs.2 := by
    intro pq hp rs hq
    obtain ⟨a1, a2, _, _, a5, a6, _, _⟩ := h1.pairs pq hp
    obtain ⟨_, _, b3, b4, _, _, _, _⟩ := h2.pairs rs hq
    refine ⟨fun hh => a6 ?_, fun hh => a6 ?_, fun hh => a5 ?_, fun hh => a5 ?_⟩
    · rw [← a1, hh, b3]
    · rw [← a1, hh, b4]
    · rw [← a2, hh, b3]
    · rw [← a2, hh, b4]
  refine ⟨h2.n.trans h1.n, fun e d he => by rw [h2.other e d he, h1.other e d he], ?_, ?_, ?_⟩
  rotate_left 2
  · intro x hx y hy hxy
    rcases List.mem_append.1 hx with hx | hx <;> rcases List.mem_append.1 hy with hy | hy
    · exact h1.cross x hx y hy hxy
    · exact disj x hx y hy
    · obtain ⟨d1, d2, d3, d4⟩ := disj y hy x hx
      exact ⟨fun hh => d1 hh.symm, fun hh => d3 hh.symm, fun hh => d2 hh.symm, fun hh => d4 hh.symm⟩
    · exact h2.cross x hx y hy hxy
  · intro pq hm
    rcases List.mem_append.1 hm with hp | hq
    · obtain ⟨a1, a2, a3, a4, a5, a6, a7, a8⟩ := h1.pairs pq hp
      have r1 : m2.β 3 pq.1 = m1.β 3 pq.1 := h2.rest _ fun rs hq => ⟨(disj pq hp rs hq).1, (disj pq hp rs hq).2.1⟩
      have r2 : m2.β 3 pq.2 = m1.β 3 pq.2 :=
        h2.rest _ fun rs hq => ⟨(disj pq hp rs hq).2.2.1, (disj pq hp rs hq).2.2.2⟩
      exact ⟨by rw [r1, a1], by rw [r2, a2], a3, a4, a5, a6, a7, a8⟩
    · obtain ⟨b1, b2, b3, b4, b5, b6, b7, b8⟩ := h2.pairs pq hq
      have r1 : m1.β 3 pq.1 = m.β 3 pq.1 :=
        h1.rest _ fun rs hp => ⟨fun hh => (disj rs hp pq hq).1 hh.symm, fun hh => (disj rs hp pq hq).2.2.1 hh.symm⟩
      have r2 : m1.β 3 pq.2 = m.β 3 pq.2 :=
        h1.rest _ fun rs hp => ⟨fun hh => (disj rs hp pq hq).2.1 hh.symm, fun hh => (disj rs hp pq hq).2.2.2 hh.symm⟩
      exact ⟨b1, b2, by rw [← r1, b3], by rw [← r2, b4], b5, b6, by rw [← h1.n]; exact b7, by rw [← h1.n]; exact b8⟩
  · intro x hx
    rw [h2.rest x fun rs hq => hx rs (List.mem_append_right _ hq),
      h1.rest x fun rs hp => hx rs (List.mem_append_left _ hp)]

/-- nothing but β is written -/
structure SameUAF (m m' : Map X) : Prop where
  u : m'.u = m.u
  a : m'.a = m.a
  fc : m'.fc = m.fc

/-- one direction of the walk of `three_link`: exactly the visited pairs get 3-linked -/
theorem linkWalk_linked {ld rd stop i j : Nat} (hi : i < 3) (hj : j < 3) :
    ∀ (f ls rs : Nat) (m m' : Map X) (a b : Nat), Sized 4 m →
      run (threeLinkWalk (X := X) ld rd stop i j f ls rs) m = (.ok (a, b), m') →
      ∃ k, Linked3 m m' (walkPairs m i j k ls rs) ∧ a = it m i k ls ∧ b = it m j k rs ∧
        (a = stop ∨ a = 0) ∧ (∀ t, t < k → it m i t ls ≠ stop) ∧ Sized 4 m' ∧ SameUAF m m' := by
  intro f
  induction f with
  | zero =>
      intro ls rs m m' a b _ h
      unfold threeLinkWalk at h; simp at h
  | succ f ih =>
      intro ls rs m m' a b hs h
      unfold threeLinkWalk at h
      by_cases hc : ls ≠ stop ∧ ls ≠ 0
      · rw [if_pos hc] at h
        by_cases hrs : rs = 0
        · rw [if_pos hrs] at h; simp at h
        · rw [if_neg hrs] at h
          obtain ⟨_, m1, hl, h⟩ := run_bind_ok h
          obtain ⟨ok1, ok2, f1, f2, rfl⟩ := iLinkCore_ok hl
          replace h := run_rB_bind_ok h
          replace h := run_rB_bind_ok h
          have hlsn : ls < m.n := ((hs.okβ 3 ls).1 ok1).2
          have hrsn : rs < m.n := ((hs.okβ 3 rs).1 ok2).2
          have L1 := Linked3.single hs hc.2 hrs hlsn hrsn f1 f2
          have hs1 : Sized 4 (m.linkI 3 ls rs) := (hs.setβ _ _ _).setβ _ _ _
          obtain ⟨_, fu, fa, ffc⟩ := setβ2_frame m 3 ls rs 3 rs ls
          obtain ⟨k, L2, ha, hb2, hst, hne, hsz, gu, ga, gfc⟩ := ih _ _ (m.linkI 3 ls rs) m' a b hs1 h
          have hβi : ∀ x, (m.linkI 3 ls rs).β i x = m.β i x := fun x => L1.other i x (by omega)
          have hβj : ∀ x, (m.linkI 3 ls rs).β j x = m.β j x := fun x => L1.other j x (by omega)
          rw [walkPairs_congr hβi hβj, hβi, hβj] at L2
          rw [it_congr hβi, hβi] at ha
          simp only [it_congr hβi, hβi] at hne
          rw [it_congr hβj, hβj] at hb2
          refine ⟨k + 1, L1.append L2, ha, hb2, hst, ?_, hsz, gu.trans fu, ga.trans fa, gfc.trans ffc⟩
          intro t ht
          cases t with
          | zero => exact hc.1
          | succ t => exact hne t (by omega)
      · rw [if_neg hc] at h
        obtain ⟨hab, rfl⟩ := run_pure_ok h
        simp only [Prod.mk.injEq] at hab
        obtain ⟨rfl, rfl⟩ := hab
        exact ⟨0, Linked3.refl _, rfl, rfl, by omega, fun t ht => by omega, hs, rfl, rfl, rfl⟩

/-- **what `three_link` does**: the `k + 1` pairs of the forward walk get 3-linked;
    then either both faces close at that step, or both end there, the `k'` pairs of the backward walk are
    linked as well, and both faces end there too.  Nothing but β3 is written. -/
theorem threeLink3_walks {n ld rd : Nat} {m m' : Map X} {u : Unit} (hs : Sized 4 m)
    (hl0 : ld ≠ 0) (hr0 : rd ≠ 0)
    (h : run (threeLink3 (X := X) n ld rd) m = (.ok u, m')) :
    ld < m.n ∧ rd < m.n ∧ Sized 4 m' ∧ SameUAF m m' ∧
    ∃ k, (∀ t, 0 < t → t < k + 1 → it m 1 t ld ≠ ld) ∧
      ((it m 1 (k + 1) ld = ld ∧ it m 0 (k + 1) rd = rd ∧ Linked3 m m' (walkPairs m 1 0 (k + 1) ld rd)) ∨
       (it m 1 (k + 1) ld = 0 ∧ it m 0 (k + 1) rd = 0 ∧ ∃ k',
          Linked3 m m' (walkPairs m 1 0 (k + 1) ld rd ++ walkPairs m 0 1 k' (m.β 0 ld) (m.β 1 rd)) ∧
          it m 0 k' (m.β 0 ld) = 0 ∧ it m 1 k' (m.β 1 rd) = 0)) := by
  unfold threeLink3 at h
  obtain ⟨_, m0, hl, h⟩ := run_bind_ok h
  obtain ⟨ok1, ok2, f1, f2, rfl⟩ := iLinkCore_ok hl
  replace h := run_rB_bind_ok (run_rB_bind_ok h)
  obtain ⟨⟨a, b⟩, m1, hwalk, h⟩ := run_bind_ok h
  simp only [] at h
  have hln : ld < m.n := ((hs.okβ 3 ld).1 ok1).2
  have hrn : rd < m.n := ((hs.okβ 3 rd).1 ok2).2
  have L0 := Linked3.single hs hl0 hr0 hln hrn f1 f2
  have hs0 : Sized 4 (m.linkI 3 ld rd) := (hs.setβ _ _ _).setβ _ _ _
  obtain ⟨_, fu, fa, ffc⟩ := setβ2_frame m 3 ld rd 3 rd ld
  obtain ⟨k, L1, ha, hb2, hst, hne, hs1, gu, ga, gfc⟩ :=
    linkWalk_linked (by omega) (by omega) _ _ _ _ m1 a b hs0 hwalk
  have hβ1 : ∀ x, (m.linkI 3 ld rd).β 1 x = m.β 1 x := fun x => L0.other 1 x (by omega)
  have hβ0 : ∀ x, (m.linkI 3 ld rd).β 0 x = m.β 0 x := fun x => L0.other 0 x (by omega)
  rw [walkPairs_congr hβ1 hβ0, hβ1, hβ0] at L1
  rw [it_congr hβ1, hβ1] at ha
  rw [it_congr hβ0, hβ0] at hb2
  simp only [it_congr hβ1, hβ1] at hne
  have ha' : a = it m 1 (k + 1) ld := ha
  have hb' : b = it m 0 (k + 1) rd := hb2
  have LF : Linked3 m m1 (walkPairs m 1 0 (k + 1) ld rd) := L0.append L1
  have U1 : SameUAF m m1 := ⟨gu.trans fu, ga.trans fa, gfc.trans ffc⟩
  have hmin : ∀ t, 0 < t → t < k + 1 → it m 1 t ld ≠ ld := by
    intro t ht0 ht
    cases t with
    | zero => omega
    | succ t => exact hne t (by omega)
  by_cases ha0 : a = 0
  · -- open faces: the backward walk
    rw [if_pos ha0] at h
    obtain ⟨hb0, h⟩ := run_ite_abort_ok h
    replace h := run_rB_bind_ok (run_rB_bind_ok h)
    obtain ⟨⟨a2, b2⟩, m2, hwalk2, h⟩ := run_bind_ok h
    simp only [] at h
    obtain ⟨hb2', h⟩ := run_ite_abort_ok h
    obtain ⟨_, rfl⟩ := run_pure_ok h
    obtain ⟨k', L2, ha2, hb22, hst2, _, hs2, g2u, g2a, g2fc⟩ :=
      linkWalk_linked (by omega) (by omega) _ _ _ _ m' a2 b2 hs1 hwalk2
    have gβ1 : ∀ x, m1.β 1 x = m.β 1 x := fun x => LF.other 1 x (by omega)
    have gβ0 : ∀ x, m1.β 0 x = m.β 0 x := fun x => LF.other 0 x (by omega)
    rw [walkPairs_congr gβ0 gβ1, gβ0, gβ1] at L2
    rw [it_congr gβ0, gβ0] at ha2
    rw [it_congr gβ1, gβ1] at hb22
    have ha20 : a2 = 0 := by rcases hst2 with hh | hh <;> exact hh
    exact ⟨hln, hrn, hs2, ⟨g2u.trans U1.u, g2a.trans U1.a, g2fc.trans U1.fc⟩, k, hmin,
      Or.inr ⟨by rw [← ha']; exact ha0, by rw [← hb']; omega, k', LF.append L2,
        by rw [← ha2]; exact ha20, by rw [← hb22]; omega⟩⟩
  · rw [if_neg ha0] at h
    obtain ⟨hbrd, h⟩ := run_ite_abort_ok h
    obtain ⟨_, rfl⟩ := run_pure_ok h
    have hald : a = ld := by rcases hst with hh | hh; exact hh; exact absurd hh ha0
    exact ⟨hln, hrn, hs1, U1, k, hmin, Or.inl ⟨by rw [← ha']; exact hald, by rw [← hb']; omega, LF⟩⟩

/-! ## what follows from such a description -/

/-- a dart of one of the pairs -/
def Endp (ps : List (Nat × Nat)) (x : Nat) : Prop := ∃ pq, pq ∈ ps ∧ (x = pq.1 ∨ x = pq.2)

theorem Linked3.rest' {m m' : Map X} {ps : List (Nat × Nat)} (L : Linked3 m m' ps) {x : Nat}
    (hx : ¬ Endp ps x) : m'.β 3 x = m.β 3 x :=
  L.rest x fun pq hp => ⟨fun h => hx ⟨pq, hp, .inl h⟩, fun h => hx ⟨pq, hp, .inr h⟩⟩

/-- a dart of a pair is 3-free before, non-null and existing, and 3-linked to an existing non-null dart after -/
theorem Linked3.endp {m m' : Map X} {ps : List (Nat × Nat)} (L : Linked3 m m' ps) {x : Nat}
    (hx : Endp ps x) : m.β 3 x = 0 ∧ x ≠ 0 ∧ x < m.n ∧ m'.β 3 x ≠ 0 ∧ m'.β 3 x < m.n ∧
      m'.β 3 (m'.β 3 x) = x ∧ Endp ps (m'.β 3 x) := by
  obtain ⟨pq, hp, h | h⟩ := hx <;> obtain ⟨a1, a2, a3, a4, a5, a6, a7, a8⟩ := L.pairs pq hp <;> subst h
  · exact ⟨a3, a5, a7, by rw [a1]; exact a6, by rw [a1]; exact a8, by rw [a1, a2], pq, hp, .inr a1⟩
  · exact ⟨a4, a6, a8, by rw [a2]; exact a5, by rw [a2]; exact a7, by rw [a2, a1], pq, hp, .inl a2⟩

/-- **3-linking pairs of in-use darts, none with itself, keeps the map well formed** -/
theorem Linked3.wf {m m' : Map X} {ps : List (Nat × Nat)} (hw : WF 4 m) (L : Linked3 m m' ps)
    (hs : Sized 4 m') (hu : m'.u = m.u)
    (hps : ∀ pq, pq ∈ ps → pq.1 ≠ pq.2 ∧ m.unused pq.1 = false ∧ m.unused pq.2 = false) : WF 4 m' := by
  have hun : ∀ d, m'.unused d = m.unused d := fun d => by unfold Map.unused; rw [hu]
  have o : ∀ e d, e ≠ 3 → m'.β e d = m.β e d := L.other
  refine ⟨hs, ?_, ?_, ?_, ?_, ?_, ?_⟩
  · intro i hi
    by_cases h3 : i = 3
    · subst h3
      rw [L.rest' fun hx => (L.endp hx).2.1 rfl]
      exact hw.null 3 (by omega)
    · rw [o i 0 h3]; exact hw.null i hi
  · intro i hi d hd
    rw [L.n] at hd ⊢
    by_cases h3 : i = 3
    · subst h3
      by_cases hx : Endp ps d
      · exact (L.endp hx).2.2.2.2.1
      · rw [L.rest' hx]; exact hw.range 3 (by omega) d hd
    · rw [o i d h3]; exact hw.range i hi d hd
  · intro d hd h1
    rw [L.n] at hd
    rw [o 1 d (by omega)] at h1 ⊢
    rw [o 0 _ (by omega)]
    exact hw.inv01 d hd h1
  · intro d hd h1
    rw [L.n] at hd
    rw [o 0 d (by omega)] at h1 ⊢
    rw [o 1 _ (by omega)]
    exact hw.inv10 d hd h1
  · intro i hi h2 d hd hne
    rw [L.n] at hd
    by_cases h3 : i = 3
    · subst h3
      by_cases hx : Endp ps d
      · refine ⟨(L.endp hx).2.2.2.2.2.1, ?_⟩
        obtain ⟨pq, hp, h | h⟩ := hx <;> obtain ⟨a1, a2⟩ := L.new hp <;> subst h
        · rw [a1]; exact fun e => (hps pq hp).1 e.symm
        · rw [a2]; exact (hps pq hp).1
      · rw [L.rest' hx] at hne ⊢
        obtain ⟨b1, b2⟩ := hw.invol 3 (by omega) (by omega) d hd hne
        -- the partner of `d` is not 3-free in `m`, hence no dart of a pair either
        have hy : ¬ Endp ps (m.β 3 d) := fun hy => by
          have := (L.endp hy).1
          rw [b1] at this
          exact (fun h0 : d = 0 => hne (by rw [h0]; exact hw.null 3 (by omega))) this
        rw [L.rest' hy]
        exact ⟨b1, b2⟩
    · rw [o i d h3] at hne ⊢
      rw [o i _ h3]
      exact hw.invol i hi h2 d hd hne
  · intro d hd hud i hi
    rw [L.n] at hd
    rw [hun] at hud
    by_cases h3 : i = 3
    · subst h3
      have hx : ¬ Endp ps d := fun ⟨pq, hp, h⟩ => by
        rcases h with h | h <;> subst h
        · rw [(hps pq hp).2.1] at hud; cases hud
        · rw [(hps pq hp).2.2] at hud; cases hud
      rw [L.rest' hx]
      exact hw.unusedFree d hd hud 3 (by omega)
    · rw [o i d h3]; exact hw.unusedFree d hd hud i hi

/-- in a lock-step walk from a pair of different darts whose pairs share no dart, no pair is a dart with
    itself: the pair after such a pair would be the pair before it, reversed -/
theorem walk_no_fixed {m : Map X} (hw : WF 4 m) {i j : Nat} (dir : Dir i j) {pl pr stop k : Nat}
    (hpl : pl < m.n) (hpr : pr < m.n) (hne : pl ≠ pr)
    (nz : ∀ t, t ≤ k → it m i t pl ≠ 0 ∧ it m j t pr ≠ 0)
    (cross : ∀ s t, s ≤ k → t ≤ k → (it m i s pl, it m j s pr) ≠ (it m i t pl, it m j t pr) →
      it m i s pl ≠ it m j t pr)
    (hend : it m i (k + 1) pl = stop ∨ it m i (k + 1) pl = 0)
    (hstop : ∀ t, t ≤ k → it m j t pr ≠ stop) :
    ∀ t, t ≤ k → it m i t pl ≠ it m j t pr := by
  have hi4 : i < 4 := by have := dir.ilt; omega
  have hj4 : j < 4 := by have := dir.jlt; omega
  intro t
  induction t with
  | zero => intro _; exact hne
  | succ t ih =>
      intro ht hx
      have hpq := ih (by omega)
      obtain ⟨x0, _⟩ := nz (t + 1) ht
      -- x = p_{t+1} = q_{t+1}:  βj x = p_t,  βi x = q_t
      have bj : m.β j (it m i (t + 1) pl) = it m i t pl := by
        rw [it_succ'] at x0 ⊢
        exact hw.inv_ij dir (it_lt hw hi4 t pl hpl) x0
      have bi : m.β i (it m i (t + 1) pl) = it m j t pr := by
        rw [hx]
        have y0 := (nz (t + 1) ht).2
        rw [it_succ'] at y0 ⊢
        exact hw.inv_ij dir.symm (it_lt hw hj4 t pr hpr) y0
      have e1 : it m i (t + 2) pl = it m j t pr := by rw [it_succ', bi]
      by_cases hk : t + 2 ≤ k
      · have e2 : it m j (t + 2) pr = it m i t pl := by rw [it_succ', ← hx, bj]
        refine cross (t + 2) t hk (by omega) ?_ e1
        rw [e1, e2]
        intro hh
        exact hpq (congrArg Prod.snd hh)
      · have : t + 1 = k := by omega
        subst this
        rw [e1] at hend
        rcases hend with hh | hh
        · exact hstop t (by omega) hh
        · exact (nz t (by omega)).2 hh

/-- the non-null iterates of an in-use dart are in use -/
theorem it_inUse {m : Map X} (hw : WF 4 m) {i : Nat} (hi : i < 4) {d : Nat} (hd : d < m.n)
    (hu : m.unused d = false) : ∀ t, it m i t d ≠ 0 → m.unused (it m i t d) = false := by
  intro t
  cases t with
  | zero => intro _; exact hu
  | succ t =>
      intro h0
      rw [it_succ'] at h0 ⊢
      exact (hw.image_inUse hi (it_lt hw hi t d hd) h0).2

theorem Linked3.grow {m m' : Map X} {ps : List (Nat × Nat)} (L : Linked3 m m' ps) (U : SameUAF m m') :
    Grow3 m m' :=
  ⟨L.n, U.u, U.a, U.fc, L.other, fun _ hd => L.rest' fun hx => hd (L.endp hx).1⟩

/-- the unlink side: `m'` is `m` with the pairs of `ps` unlinked -/
theorem Linked3.shrink {m m' : Map X} {ps : List (Nat × Nat)} (L : Linked3 m' m ps) (U : SameUAF m m') :
    Shrink3 m m' :=
  ⟨L.n.symm, U.u, U.a, U.fc, fun e d he => (L.other e d he).symm, fun d => by
    by_cases hx : Endp ps d
    · exact .inr (L.endp hx).1
    · exact .inl (L.rest' hx).symm⟩

/-- the pairs of the walks of `three_link` are pairs of different in-use darts -/
theorem walk_pairs_ok {m m' : Map X} (hw : WF 4 m) {ps : List (Nat × Nat)} (L : Linked3 m m' ps)
    {i j : Nat} (dir : Dir i j) {pl pr stop k : Nat} (hpl : pl < m.n) (hpr : pr < m.n) (hne : pl ≠ pr)
    (hul : m.unused pl = false) (hur : m.unused pr = false)
    (mem : ∀ t, t ≤ k → (it m i t pl, it m j t pr) ∈ ps)
    (hend : it m i (k + 1) pl = stop ∨ it m i (k + 1) pl = 0)
    (hstop : ∀ t, t ≤ k → it m j t pr ≠ stop) (t : Nat) (ht : t ≤ k) :
    it m i t pl ≠ it m j t pr ∧ m.unused (it m i t pl) = false ∧ m.unused (it m j t pr) = false := by
  have hi4 : i < 4 := by have := dir.ilt; omega
  have hj4 : j < 4 := by have := dir.jlt; omega
  have nz : ∀ t, t ≤ k → it m i t pl ≠ 0 ∧ it m j t pr ≠ 0 := fun t ht => by
    obtain ⟨a5, a6⟩ := L.nz (mem t ht)
    exact ⟨a5, a6⟩
  refine ⟨walk_no_fixed hw dir hpl hpr hne nz (fun s t hs ht hd => ?_) hend hstop t ht,
    it_inUse hw hi4 hpl hul t (nz t ht).1, it_inUse hw hj4 hpr hur t (nz t ht).2⟩
  exact (L.cross _ (mem s hs) _ (mem t ht) hd).2.1

/-- the pairs are closed under the simultaneous non-null steps `(β1, β0)` and `(β0, β1)`: the shape check
    of `three_link` in relational form -/
def Zipped (m : Map X) (ps : List (Nat × Nat)) : Prop :=
  ∀ pq, pq ∈ ps →
    ((m.β 1 pq.1 ≠ 0 ∨ m.β 0 pq.2 ≠ 0) → (m.β 1 pq.1, m.β 0 pq.2) ∈ ps) ∧
    ((m.β 0 pq.1 ≠ 0 ∨ m.β 1 pq.2 ≠ 0) → (m.β 0 pq.1, m.β 1 pq.2) ∈ ps)

/-- a zipped list, pair by pair: each paired step stays in the list, or both sides end -/
theorem Zipped.step {m : Map X} {ps : List (Nat × Nat)} (Z : Zipped m ps) {x y : Nat}
    (h : (x, y) ∈ ps) :
    ((m.β 1 x, m.β 0 y) ∈ ps ∨ (m.β 1 x = 0 ∧ m.β 0 y = 0)) ∧
    ((m.β 0 x, m.β 1 y) ∈ ps ∨ (m.β 0 x = 0 ∧ m.β 1 y = 0)) := by
  refine ⟨?_, ?_⟩
  · by_cases c : m.β 1 x ≠ 0 ∨ m.β 0 y ≠ 0
    · exact .inl ((Z _ h).1 c)
    · exact .inr ⟨Classical.not_not.1 fun k => c (.inl k), Classical.not_not.1 fun k => c (.inr k)⟩
  · by_cases c : m.β 0 x ≠ 0 ∨ m.β 1 y ≠ 0
    · exact .inl ((Z _ h).2 c)
    · exact .inr ⟨Classical.not_not.1 fun k => c (.inl k), Classical.not_not.1 fun k => c (.inr k)⟩

/-- **3-linking zipped pairs keeps the mirror condition** -/
theorem Linked3.mirror {m m' : Map X} {ps : List (Nat × Nat)} (hw : WF 4 m) (L : Linked3 m m' ps)
    (Z : Zipped m ps) (hM : Mirror m) : Mirror m' := by
  have o1 : ∀ x, m'.β 1 x = m.β 1 x := fun x => L.other 1 x (by omega)
  intro d hd g1 g2 g3
  rw [L.n] at hd
  rw [o1 d] at g1 g3 ⊢
  rw [o1]
  have hd0 : d ≠ 0 := fun h0 => g1 (by rw [h0]; exact hw.null 1 (by omega))
  have back : m.β 0 (m.β 1 d) = d := hw.inv01 d hd g1
  by_cases hx : Endp ps d
  · obtain ⟨pq, hp, h | h⟩ := hx <;> obtain ⟨a1, a2, _, _, _, _, a7, a8⟩ := L.pairs pq hp <;> subst h
    · obtain ⟨_, b2⟩ := L.new ((Z pq hp).1 (.inl g1))
      simp only at b2
      obtain ⟨b1, _⟩ := L.pairs _ ((Z pq hp).1 (.inl g1))
      simp only at b1
      rw [b1] at g3 ⊢
      rw [a1]
      exact hw.inv10 pq.2 a8 g3
    · obtain ⟨_, b2⟩ := L.new ((Z pq hp).2 (.inr g1))
      simp only at b2
      rw [b2] at g3 ⊢
      rw [a2]
      exact hw.inv10 pq.1 a7 g3
  · by_cases hy : Endp ps (m.β 1 d)
    · exfalso
      obtain ⟨pq, hp, h | h⟩ := hy
      · rw [h] at back
        exact hx ⟨_, (Z pq hp).2 (.inl (by rw [back]; exact hd0)), .inl back.symm⟩
      · rw [h] at back
        exact hx ⟨_, (Z pq hp).1 (.inr (by rw [back]; exact hd0)), .inr back.symm⟩
    · rw [L.rest' hx] at g2 ⊢
      rw [L.rest' hy] at g3 ⊢
      exact hM d hd g1 g2 g3

/-- the two darts behind a dart of a walk -/
theorem walk_back {m : Map X} (h : WF 4 m) {i j a : Nat} (dir : Dir i j) (ha : a < m.n) {t : Nat}
    (hne : it m i (t + 1) a ≠ 0) : m.β j (it m i (t + 1) a) = it m i t a := by
  have hi4 : i < 4 := by have := dir.ilt; omega
  rw [it_succ'] at hne ⊢
  exact h.inv_ij dir (it_lt h hi4 t a ha) hne

/-- a two-sided lock-step line `P t = (β1^t pl, β0^t pr)`, `t ≤ k`, and `Q s = (β0^s pl, β1^s pr)`, `s ≤ k'`
    (`Q 0 = P 0`), non-null, that closes on itself or ends on both sides at both ends, is zipped -/
theorem zipped_line {m : Map X} (hw : WF 4 m) {pl pr k k' : Nat} (hpl : pl < m.n) (hpr : pr < m.n)
    {ps : List (Nat × Nat)}
    (hps : ∀ pq, pq ∈ ps ↔ (∃ t, t ≤ k ∧ pq = (it m 1 t pl, it m 0 t pr)) ∨
      (∃ s, s ≤ k' ∧ pq = (it m 0 s pl, it m 1 s pr)))
    (nzP : ∀ t, t ≤ k → it m 1 t pl ≠ 0 ∧ it m 0 t pr ≠ 0)
    (nzQ : ∀ s, s ≤ k' → it m 0 s pl ≠ 0 ∧ it m 1 s pr ≠ 0)
    (hends : (k' = 0 ∧ it m 1 (k + 1) pl = pl ∧ it m 0 (k + 1) pr = pr) ∨
      (it m 1 (k + 1) pl = 0 ∧ it m 0 (k + 1) pr = 0 ∧ it m 0 (k' + 1) pl = 0 ∧ it m 1 (k' + 1) pr = 0)) :
    Zipped m ps := by
  have d10 : Dir 1 0 := Or.inl ⟨rfl, rfl⟩
  have d01 : Dir 0 1 := Or.inr ⟨rfl, rfl⟩
  have P : ∀ t, t ≤ k → (it m 1 t pl, it m 0 t pr) ∈ ps := fun t ht => (hps _).2 (.inl ⟨t, ht, rfl⟩)
  have Q : ∀ s, s ≤ k' → (it m 0 s pl, it m 1 s pr) ∈ ps := fun s hs => (hps _).2 (.inr ⟨s, hs, rfl⟩)
  -- one step back along a walk
  have bk : ∀ {i j a : Nat}, Dir i j → a < m.n → ∀ t, it m i (t + 1) a ≠ 0 →
      m.β j (it m i (t + 1) a) = it m i t a := fun dir ha t h => walk_back hw dir ha h
  intro pq hp
  rcases (hps pq).1 hp with ⟨t, ht, rfl⟩ | ⟨s, hs, rfl⟩
  · constructor
    · intro hne
      show (m.β 1 (it m 1 t pl), m.β 0 (it m 0 t pr)) ∈ ps
      rw [← it_succ', ← it_succ'] at hne ⊢
      by_cases hk : t + 1 ≤ k
      · exact P _ hk
      · have : t = k := by omega
        subst this
        rcases hends with ⟨_, e1, e2⟩ | ⟨e1, e2, _, _⟩
        · rw [e1, e2]; exact P 0 (by omega)
        · rw [e1, e2] at hne; rcases hne with h | h <;> exact absurd rfl h
    · intro hne
      show (m.β 0 (it m 1 t pl), m.β 1 (it m 0 t pr)) ∈ ps
      cases t with
      | zero =>
          rcases hends with ⟨hk', e1, e2⟩ | ⟨_, _, e3, e4⟩
          · -- closed: the pair before `P 0` is `P k`
            have b1 : m.β 0 pl = it m 1 k pl := by
              have := bk d10 hpl k (by rw [e1]; exact (nzP 0 (by omega)).1)
              rwa [e1] at this
            have b2 : m.β 1 pr = it m 0 k pr := by
              have := bk d01 hpr k (by rw [e2]; exact (nzP 0 (by omega)).2)
              rwa [e2] at this
            show (m.β 0 pl, m.β 1 pr) ∈ ps
            rw [b1, b2]; exact P k (by omega)
          · by_cases hk' : 1 ≤ k'
            · exact Q 1 hk'
            · have : k' = 0 := by omega
              subst this
              exfalso
              rcases hne with h | h
              · exact h e3
              · exact h e4
      | succ t =>
          rw [bk d10 hpl t (nzP _ ht).1, bk d01 hpr t (nzP _ ht).2]
          exact P t (by omega)
  · constructor
    · intro hne
      show (m.β 1 (it m 0 s pl), m.β 0 (it m 1 s pr)) ∈ ps
      cases s with
      | zero =>
          replace hne : it m 1 1 pl ≠ 0 ∨ it m 0 1 pr ≠ 0 := hne
          show (it m 1 1 pl, it m 0 1 pr) ∈ ps
          by_cases hk : 1 ≤ k
          · exact P 1 hk
          · have : k = 0 := by omega
            subst this
            rcases hends with ⟨_, e1, e2⟩ | ⟨e1, e2, _, _⟩
            · rw [e1, e2]; exact P 0 (by omega)
            · rw [e1, e2] at hne; rcases hne with h | h <;> exact absurd rfl h
      | succ s =>
          rw [bk d01 hpl s (nzQ _ hs).1, bk d10 hpr s (nzQ _ hs).2]
          exact Q s (by omega)
    · intro hne
      show (m.β 0 (it m 0 s pl), m.β 1 (it m 1 s pr)) ∈ ps
      rw [← it_succ', ← it_succ'] at hne ⊢
      by_cases hk : s + 1 ≤ k'
      · exact Q _ hk
      · have : s = k' := by omega
        subst this
        rcases hends with ⟨hk', e1, e2⟩ | ⟨_, _, e3, e4⟩
        · -- closed (`k' = 0`): as for `P 0`
          subst hk'
          have b1 : m.β 0 pl = it m 1 k pl := by
            have := bk d10 hpl k (by rw [e1]; exact (nzP 0 (by omega)).1)
            rwa [e1] at this
          have b2 : m.β 1 pr = it m 0 k pr := by
            have := bk d01 hpr k (by rw [e2]; exact (nzP 0 (by omega)).2)
            rwa [e2] at this
          show (m.β 0 pl, m.β 1 pr) ∈ ps
          rw [b1, b2]; exact P k (by omega)
        · rw [e3, e4] at hne; rcases hne with h | h <;> exact absurd rfl h

/-- two closed faces with the same number of darts, side by side -/
theorem zipped_closed {m : Map X} (hw : WF 4 m) {ld rd k : Nat} (hln : ld < m.n) (hrn : rd < m.n)
    (nz : ∀ t, t ≤ k → it m 1 t ld ≠ 0 ∧ it m 0 t rd ≠ 0)
    (hpl : it m 1 (k + 1) ld = ld) (hpr : it m 0 (k + 1) rd = rd) :
    Zipped m (walkPairs m 1 0 (k + 1) ld rd) := by
  refine zipped_line hw hln hrn (k := k) (k' := 0) (fun pq => ?_) nz (fun s hs => ?_) (.inl ⟨rfl, hpl, hpr⟩)
  · rw [mem_walkPairs]
    constructor
    · rintro ⟨t, ht, rfl⟩
      exact .inl ⟨t, by omega, rfl⟩
    · rintro (⟨t, ht, rfl⟩ | ⟨s, hs, rfl⟩)
      · exact ⟨t, by omega, rfl⟩
      · have : s = 0 := by omega
        subst this
        exact ⟨0, by omega, rfl⟩
  · have : s = 0 := by omega
    subst this
    exact nz 0 (by omega)

/-- two open faces that end together ahead of and behind the two darts, side by side -/
theorem zipped_open {m : Map X} (hw : WF 4 m) {ld rd k k' : Nat} (hln : ld < m.n) (hrn : rd < m.n)
    (eF : it m 1 (k + 1) ld = 0) (eG : it m 0 (k + 1) rd = 0)
    (eA : it m 0 k' (m.β 0 ld) = 0) (eB : it m 1 k' (m.β 1 rd) = 0)
    (nzF : ∀ t, t < k + 1 → it m 1 t ld ≠ 0 ∧ it m 0 t rd ≠ 0)
    (nzB : ∀ s, s < k' → it m 0 s (m.β 0 ld) ≠ 0 ∧ it m 1 s (m.β 1 rd) ≠ 0)
    {ps : List (Nat × Nat)}
    (hps : ∀ x, x ∈ ps ↔ x ∈ walkPairs m 1 0 (k + 1) ld rd ∨ x ∈ walkPairs m 0 1 k' (m.β 0 ld) (m.β 1 rd)) :
    Zipped m ps := by
  refine zipped_line hw hln hrn (k := k) (k' := k') (fun pq => ?_) (fun t ht => nzF t (by omega))
    (fun s hs => ?_) (.inr ⟨eF, eG, eA, eB⟩)
  · rw [hps, mem_walkPairs, mem_walkPairs]
    constructor
    · rintro (⟨t, ht, rfl⟩ | ⟨s, hs, rfl⟩)
      · exact .inl ⟨t, by omega, rfl⟩
      · exact .inr ⟨s + 1, by omega, rfl⟩
    · rintro (⟨t, ht, rfl⟩ | ⟨s, hs, rfl⟩)
      · exact .inl ⟨t, by omega, rfl⟩
      · cases s with
        | zero => exact .inl ⟨0, by omega, rfl⟩
        | succ s => exact .inr ⟨s, by omega, rfl⟩
  · cases s with
    | zero => exact nzF 0 (by omega)
    | succ s => exact nzB s (by omega)

/-! ## mirrored faces that are 3-linked as a whole -/

/-- a face is 3-linked as a whole (the body of `C20.Sided`, `Lemmas/SceneFace3.lean`) -/
def Sided3 (m : Map X) : Prop := ∀ d, d < m.n → m.β 1 d ≠ 0 → (m.β 3 d = 0 ↔ m.β 3 (m.β 1 d) = 0)

instance (m : Map X) : Decidable (Sided3 m) := by unfold Sided3; exact inferInstance

/-- across two 3-links of a mirrored face, `β0` on the other side follows `β1` on this side -/
theorem mirror_back {m : Map X} (h : WF 4 m) (hM : Mirror m) {x : Nat} (hx : x < m.n) (h1 : m.β 1 x ≠ 0)
    (h3 : m.β 3 x ≠ 0) (h31 : m.β 3 (m.β 1 x) ≠ 0) : m.β 0 (m.β 3 x) = m.β 3 (m.β 1 x) := by
  have hM' := hM x hx h1 h3 h31
  have := h.inv01 (m.β 3 (m.β 1 x)) (h.range 3 (by omega) _ (h.range 1 (by omega) x hx)) (by rw [hM']; exact h3)
  rw [hM'] at this
  exact this

/-- across a 3-link of a mirrored face that is 3-linked as a whole, `β0` on the other side follows `β1` on
    this side — also at the open end of a face: both sides end together -/
theorem mirror_step {m : Map X} (h : WF 4 m) (hM : Mirror m) (hS : Sided3 m) {x : Nat} (hx : x < m.n)
    (h3 : m.β 3 x ≠ 0) :
    m.β 0 (m.β 3 x) = m.β 3 (m.β 1 x) ∧ (m.β 1 x ≠ 0 → m.β 3 (m.β 1 x) ≠ 0) := by
  have z3 : m.β 3 0 = 0 := h.null 3 (by omega)
  have hx0 : x ≠ 0 := fun e => h3 (by rw [e]; exact z3)
  have hen : m.β 3 x < m.n := h.range 3 (by omega) x hx
  have hinv : m.β 3 (m.β 3 x) = x := (h.invol 3 (by omega) (by omega) x hx h3).1
  by_cases h1 : m.β 1 x = 0
  · refine ⟨?_, fun k => absurd h1 k⟩
    rw [h1, z3]
    refine Classical.byContradiction fun ht => ?_
    have htn : m.β 0 (m.β 3 x) < m.n := h.range 0 (by omega) _ hen
    have e1 : m.β 1 (m.β 0 (m.β 3 x)) = m.β 3 x := h.inv10 _ hen ht
    have h3t : m.β 3 (m.β 0 (m.β 3 x)) ≠ 0 := by
      intro k
      have := (hS _ htn (by rw [e1]; exact h3)).1 k
      rw [e1, hinv] at this; exact hx0 this
    have hM' := hM _ htn (by rw [e1]; exact h3) h3t (by rw [e1, hinv]; exact hx0)
    rw [e1, hinv, h1] at hM'
    exact h3t hM'.symm
  · have h31 : m.β 3 (m.β 1 x) ≠ 0 := fun e => h3 ((hS x hx h1).2 e)
    exact ⟨mirror_back h hM hx h1 h3 h31, fun _ => h31⟩

/-- on a mirrored map whose faces are 3-linked as a whole, two 3-linked darts end their faces
    together: where `β0` ends on one side, `β1` ends on the other -/
theorem mirror_end {m : Map X} (h : WF 4 m) (hM : Mirror m) (hS : Sided3 m) {x : Nat} (hx : x < m.n)
    (h3 : m.β 3 x ≠ 0) (h0 : m.β 0 x = 0) : m.β 1 (m.β 3 x) = 0 := by
  refine Classical.byContradiction fun h1 => ?_
  have hx0 : x ≠ 0 := fun e => h3 (by rw [e]; exact h.null 3 (by omega))
  have back : m.β 3 (m.β 3 x) = x := (h.invol 3 (by omega) (by omega) x hx h3).1
  obtain ⟨e, e2⟩ := mirror_step h hM hS (h.range 3 (by omega) x hx) (by rw [back]; exact hx0)
  rw [back, h0] at e
  exact e2 h1 e.symm

/-! ## the walks of `three_unlink` -/

theorem Linked3.unlink_single {m : Map X} (h : WF 4 m) {l : Nat} (hl : l < m.n) (hne : m.β 3 l ≠ 0) :
    Linked3 (m.unlinkI 3 l) m [(l, m.β 3 l)] := by
  have hr : m.β 3 l < m.n := h.range 3 (by omega) l hl
  have eβ := h.toSized.β_unlinkI (i := 3) (by omega) hl hr
  have back : m.β 3 (m.β 3 l) = l := (h.invol 3 (by omega) (by omega) l hl hne).1
  have hl0 : l ≠ 0 := fun hh => hne (by rw [hh]; exact h.null 3 (by omega))
  refine Linked3.of_frame rfl (fun j e => ?_) (by rw [eβ]; simp) (by rw [eβ]; simp) hl0 hne hl hr
  rw [eβ]
  by_cases c0 : 3 = j ∧ m.β 3 l = e
  · rw [if_pos c0]; obtain ⟨rfl, rfl⟩ := c0; exact back
  · rw [if_neg c0]
    by_cases c1 : 3 = j ∧ l = e
    · rw [if_pos c1]; obtain ⟨rfl, rfl⟩ := c1; rfl
    · rw [if_neg c1, if_neg c0, if_neg c1]

/-- one direction of the walk of `three_unlink`: exactly the visited pairs get unlinked -/
theorem unlinkWalk_unlinked {ld rd stop i j : Nat} {again : Bool} (hi : i < 3) (hj : j < 3) :
    ∀ (f ls rs : Nat) (m m' : Map X) (o : Nat × Nat), WF 4 m → ls < m.n → rs < m.n →
      run (threeUnlinkWalk (X := X) ld rd stop i j again f ls rs) m = (.ok o, m') →
      ∃ k, Linked3 m' m (walkPairs m i j k ls rs) ∧ o.1 = it m i k ls ∧ o.2 = it m j k rs ∧
        (o.1 = stop ∨ o.1 = 0) ∧ WF 4 m' ∧ (∀ t, t < k → it m i t ls ≠ stop) ∧ SameUAF m m' := by
  intro f
  induction f with
  | zero =>
      intro ls rs m m' o _ _ _ h
      unfold threeUnlinkWalk at h; simp at h
  | succ f ih =>
      intro ls rs m m' o hw hlsn hrsn h
      rcases unlinkWalk_step h with ⟨_, rfl, rfl⟩ | ⟨hc, hlx', hne, h⟩
      · exact ⟨0, Linked3.refl _, rfl, rfl, by omega, hw, fun t ht => by omega, rfl, rfl, rfl⟩
      · have hw1 : WF 4 (m.unlinkI 3 ls) := hw.unlinkI (by omega) (by omega) hlsn hne
        -- the right dart is the β3 image of the left one
        have hrs : m.β 3 ls = rs := by
          rw [hlx']; exact (hw.invol 3 (by omega) (by omega) rs hrsn (by rw [← hlx']; exact hc.2)).1
        have L1 := Linked3.unlink_single hw hlsn hne
        rw [hrs] at L1
        obtain ⟨_, fu, fa, ffc⟩ := setβ2_frame m 3 ls 0 3 (m.β 3 ls) 0
        obtain ⟨k, L2, ha, hb2, hst, hw', hmin, gu, ga, gfc⟩ := ih _ _ (m.unlinkI 3 ls) m' o hw1
          (hw1.range i (by omega) ls hlsn) (hw1.range j (by omega) rs hrsn) h
        have hβi : ∀ x, (m.unlinkI 3 ls).β i x = m.β i x := fun x => (L1.other i x (by omega)).symm
        have hβj : ∀ x, (m.unlinkI 3 ls).β j x = m.β j x := fun x => (L1.other j x (by omega)).symm
        rw [walkPairs_congr hβi hβj, hβi, hβj] at L2
        rw [it_congr hβi, hβi] at ha
        rw [it_congr hβj, hβj] at hb2
        simp only [it_congr hβi, hβi] at hmin
        refine ⟨k + 1, (L2.append L1).of_mem (fun x => ?_), ha, hb2, hst, hw', ?_,
          gu.trans fu, ga.trans fa, gfc.trans ffc⟩
        · simp only [walkPairs, List.mem_cons, List.mem_append, List.not_mem_nil, or_false]
          exact Or.comm
        · intro t ht
          cases t with
          | zero => exact hc.1
          | succ t => exact hmin t (by omega)

/-- **what `three_unlink` unlinks**: `m` is the map after the forward walk with its `k + 1` pairs
    3-linked; then either the left face closes at that step, or both faces end there and `m` is the
    result with the `k'` pairs of the backward walk 3-linked as well, the left face ending there -/
theorem threeUnlink3_walks {n ld : Nat} {m m' : Map X} {u : Unit} (hw : WF 4 m) (hln : ld < m.n)
    (h : run (threeUnlink3 (X := X) n ld) m = (.ok u, m')) :
    m.β 3 ld ≠ 0 ∧
    ∃ k m1, Linked3 m1 m (walkPairs m 1 0 (k + 1) ld (m.β 3 ld)) ∧ WF 4 m1 ∧ SameUAF m m1 ∧
      (∀ t, 0 < t → t < k + 1 → it m 1 t ld ≠ ld) ∧
      ((it m 1 (k + 1) ld = ld ∧ m' = m1) ∨
       (it m 1 (k + 1) ld = 0 ∧ it m 0 (k + 1) (m.β 3 ld) = 0 ∧ ∃ k',
          Linked3 m' m (walkPairs m 0 1 k' (m.β 0 ld) (m.β 1 (m.β 3 ld)) ++
            walkPairs m 1 0 (k + 1) ld (m.β 3 ld)) ∧ WF 4 m' ∧ it m 0 k' (m.β 0 ld) = 0 ∧
          SameUAF m m')) := by
  unfold threeUnlink3 at h
  replace h := run_rB_bind_ok h
  obtain ⟨_, m0, hl, h⟩ := run_bind_ok h
  obtain ⟨_, _, hne, rfl⟩ := iUnlinkCore_ok hl
  replace h := run_rB_bind_ok (run_rB_bind_ok h)
  obtain ⟨⟨a, b⟩, m1, hwalk, h⟩ := run_bind_ok h
  simp only [] at h
  have hrn : m.β 3 ld < m.n := hw.range 3 (by omega) ld hln
  have hw0 : WF 4 (m.unlinkI 3 ld) := hw.unlinkI (by omega) (by omega) hln hne
  have L0 := Linked3.unlink_single hw hln hne
  obtain ⟨_, fu, fa, ffc⟩ := setβ2_frame m 3 ld 0 3 (m.β 3 ld) 0
  obtain ⟨k, L1, ha, hb2, hst, hw1, hminw, gu, ga, gfc⟩ :=
    unlinkWalk_unlinked (by omega) (by omega) _ _ _ _ m1 (a, b) hw0
    (hw0.range 1 (by omega) ld hln) (hw0.range 0 (by omega) _ hrn) hwalk
  have hβ1 : ∀ x, (m.unlinkI 3 ld).β 1 x = m.β 1 x := fun x => (L0.other 1 x (by omega)).symm
  have hβ0 : ∀ x, (m.unlinkI 3 ld).β 0 x = m.β 0 x := fun x => (L0.other 0 x (by omega)).symm
  rw [walkPairs_congr hβ1 hβ0, hβ1, hβ0] at L1
  simp only at ha hb2
  rw [it_congr hβ1, hβ1] at ha
  rw [it_congr hβ0, hβ0] at hb2
  simp only [it_congr hβ1, hβ1] at hminw
  have ha' : a = it m 1 (k + 1) ld := ha
  have hb' : b = it m 0 (k + 1) (m.β 3 ld) := hb2
  have LF : Linked3 m1 m (walkPairs m 1 0 (k + 1) ld (m.β 3 ld)) := by
    refine (L1.append L0).of_mem (fun x => ?_)
    simp only [walkPairs, List.mem_cons, List.mem_append, List.not_mem_nil, or_false]
    exact Or.comm
  have hmin : ∀ t, 0 < t → t < k + 1 → it m 1 t ld ≠ ld := by
    intro t h0 ht
    cases t with
    | zero => omega
    | succ t => exact hminw t (by omega)
  have U1 : SameUAF m m1 := ⟨gu.trans fu, ga.trans fa, gfc.trans ffc⟩
  refine ⟨hne, k, m1, LF, hw1, U1, hmin, ?_⟩
  by_cases ha0 : a = 0
  · rw [if_pos ha0] at h
    obtain ⟨hb0', h⟩ := run_ite_abort_ok h
    replace h := run_rB_bind_ok (run_rB_bind_ok h)
    obtain ⟨⟨a2, b2⟩, m2, hwalk2, h⟩ := run_bind_ok h
    obtain ⟨_, rfl⟩ := run_pure_ok h
    have gβ1 : ∀ x, m1.β 1 x = m.β 1 x := fun x => (LF.other 1 x (by omega)).symm
    have gβ0 : ∀ x, m1.β 0 x = m.β 0 x := fun x => (LF.other 0 x (by omega)).symm
    have hn1 : m1.n = m.n := LF.n.symm
    obtain ⟨k', L2, ha2, _, hst2, hw2, _, g2u, g2a, g2fc⟩ :=
      unlinkWalk_unlinked (by omega) (by omega) _ _ _ _ m' (a2, b2) hw1
      (hw1.range 0 (by omega) ld (by rw [hn1]; exact hln)) (hw1.range 1 (by omega) _ (by rw [hn1]; exact hrn)) hwalk2
    rw [walkPairs_congr gβ0 gβ1, gβ0, gβ1] at L2
    simp only at ha2
    rw [it_congr gβ0, gβ0] at ha2
    have ha20 : a2 = 0 := by rcases hst2 with hh | hh <;> exact hh
    exact Or.inr ⟨by rw [← ha']; exact ha0, by rw [← hb']; omega, k', L2.append LF, hw2,
      by rw [← ha2]; exact ha20, g2u.trans U1.u, g2a.trans U1.a, g2fc.trans U1.fc⟩
  · rw [if_neg ha0] at h
    obtain ⟨_, rfl⟩ := run_pure_ok h
    have hald : a = ld := by rcases hst with hh | hh; exact hh; exact absurd hh ha0
    exact Or.inl ⟨by rw [← ha']; exact hald, rfl⟩

end Cell3

/-! ## `three_link` -/

/-- what a successful `three_link` has verified about the two faces: both closed with the same
    number of darts, or both open with the same number of darts ahead of and behind the two
    argument darts (iterates of the map BEFORE the call) -/
def SameShape (m : Map X) (ld rd : Nat) : Prop :=
  (∃ L, 0 < L ∧ it m 1 L ld = ld ∧ it m 0 L rd = rd ∧
      ∀ t, 0 < t → t < L → it m 1 t ld ≠ ld ∧ it m 1 t ld ≠ 0 ∧ it m 0 t rd ≠ rd ∧ it m 0 t rd ≠ 0) ∨
  (∃ F B, it m 1 F ld = 0 ∧ it m 0 F rd = 0 ∧ it m 0 B ld = 0 ∧ it m 1 B rd = 0 ∧
      (∀ t, t < F → it m 1 t ld ≠ 0 ∧ it m 0 t rd ≠ 0) ∧ (∀ t, t < B → it m 0 t ld ≠ 0 ∧ it m 1 t rd ≠ 0))

open Cell3 in
theorem threeLink3_ok {n ld rd : Nat} {m m' : Map X} {u : Unit} (hw : WF 4 m)
    (hl0 : ld ≠ 0) (hr0 : rd ≠ 0) (hln : ld < m.n) (hrn : rd < m.n)
    (hul : m.unused ld = false) (hur : m.unused rd = false) (hne : ld ≠ rd)
    (h : run (threeLink3 (X := X) n ld rd) m = (.ok u, m')) :
    WF 4 m' ∧ Grow3 m m' ∧ (Mirror m → Mirror m') ∧ SameShape m ld rd := by
  have d10 : Dir 1 0 := Or.inl ⟨rfl, rfl⟩
  have d01 : Dir 0 1 := Or.inr ⟨rfl, rfl⟩
  obtain ⟨_, _, hs', U, k, hmin, hcase⟩ := threeLink3_walks hw.toSized hl0 hr0 h
  -- the forward walk, whatever the list: different in-use darts, and the right side stays away from `rd`
  have fwd : ∀ {ps}, Linked3 m m' ps → (∀ t, t ≤ k → (it m 1 t ld, it m 0 t rd) ∈ ps) →
      (it m 1 (k + 1) ld = ld ∨ it m 1 (k + 1) ld = 0) → ∀ t, t ≤ k →
      (it m 1 t ld ≠ it m 0 t rd ∧ m.unused (it m 1 t ld) = false ∧ m.unused (it m 0 t rd) = false) ∧
      it m 1 t ld ≠ 0 ∧ it m 0 t rd ≠ 0 ∧ (0 < t → it m 0 t rd ≠ rd) := by
    intro ps L mem hend t ht
    have far : ∀ t, 0 < t → t ≤ k → it m 0 t rd ≠ ld ∧ it m 0 t rd ≠ rd := fun t h0 ht => by
      obtain ⟨_, _, c3, c4⟩ := L.cross _ (mem t ht) _ (mem 0 (by omega))
        (fun hh => hmin t h0 (by omega) (congrArg Prod.fst hh))
      exact ⟨c3, c4⟩
    obtain ⟨a5, a6⟩ := L.nz (mem t ht)
    refine ⟨walk_pairs_ok hw L d10 hln hrn hne hul hur mem hend (fun t ht => ?_) t ht, a5, a6,
      fun h0 => (far t h0 ht).2⟩
    cases t with
    | zero => exact fun hh => hne hh.symm
    | succ t => exact (far (t + 1) (by omega) ht).1
  rcases hcase with ⟨hpl, hpr, L⟩ | ⟨eF, eG, k', L, eA, eB⟩
  · have mem : ∀ t, t ≤ k → (it m 1 t ld, it m 0 t rd) ∈ walkPairs m 1 0 (k + 1) ld rd :=
      fun t ht => (mem_walkPairs _ ld rd _).2 ⟨t, by omega, rfl⟩
    have F := fwd L mem (.inl hpl)
    have Z := zipped_closed hw hln hrn (fun t ht => ⟨(F t ht).2.1, (F t ht).2.2.1⟩) hpl hpr
    refine ⟨L.wf hw hs' U.u fun pq hp => ?_, L.grow U, L.mirror hw Z,
      .inl ⟨k + 1, by omega, hpl, hpr, fun t h0 ht => ?_⟩⟩
    · obtain ⟨t, ht, rfl⟩ := (mem_walkPairs _ ld rd pq).1 hp
      exact (F t (by omega)).1
    · obtain ⟨_, a, b, c⟩ := F t (by omega)
      exact ⟨hmin t h0 ht, a, c h0, b⟩
  · have mem : ∀ t, t ≤ k → (it m 1 t ld, it m 0 t rd) ∈
        walkPairs m 1 0 (k + 1) ld rd ++ walkPairs m 0 1 k' (m.β 0 ld) (m.β 1 rd) :=
      fun t ht => List.mem_append_left _ ((mem_walkPairs _ ld rd _).2 ⟨t, by omega, rfl⟩)
    have memB : ∀ t, t ≤ k' → (it m 0 t ld, it m 1 t rd) ∈
        walkPairs m 1 0 (k + 1) ld rd ++ walkPairs m 0 1 k' (m.β 0 ld) (m.β 1 rd) := fun t ht => by
      cases t with
      | zero => exact mem 0 (by omega)
      | succ t => exact List.mem_append_right _ ((mem_walkPairs _ _ _ _).2 ⟨t, by omega, rfl⟩)
    have F := fwd L mem (.inr eF)
    have nzB : ∀ t, t ≤ k' → it m 0 t ld ≠ 0 ∧ it m 1 t rd ≠ 0 := fun t ht => by
      obtain ⟨a5, a6⟩ := L.nz (memB t ht)
      exact ⟨a5, a6⟩
    have B := walk_pairs_ok hw L d01 hln hrn hne hul hur memB (stop := 0) (.inr eA)
      (fun t ht => (nzB t ht).2)
    have Z := zipped_open hw hln hrn eF eG eA eB (fun t ht => ⟨(F t (by omega)).2.1, (F t (by omega)).2.2.1⟩)
      (fun s hs => nzB (s + 1) (by omega)) (fun x => List.mem_append)
    refine ⟨L.wf hw hs' U.u fun pq hp => ?_, L.grow U, L.mirror hw Z,
      .inr ⟨k + 1, k' + 1, eF, eG, eA, eB, fun t ht => ?_, fun t ht => nzB t (by omega)⟩⟩
    · rcases List.mem_append.1 hp with hp | hp
      · obtain ⟨t, ht, rfl⟩ := (mem_walkPairs _ ld rd pq).1 hp
        exact (F t (by omega)).1
      · obtain ⟨t, ht, rfl⟩ := (mem_walkPairs _ _ _ pq).1 hp
        exact B (t + 1) (by omega)
    · obtain ⟨_, a, b, _⟩ := F t (by omega)
      exact ⟨a, b⟩

/-! ## `three_unlink` -/

open Cell3 in
theorem threeUnlink3_ok {n ld : Nat} {m m' : Map X} {u : Unit} (hw : WF 4 m) (hln : ld < m.n)
    (h : run (threeUnlink3 (X := X) n ld) m = (.ok u, m')) :
    WF 4 m' ∧ Shrink3 m m' := by
  obtain ⟨_, k, m1, LF, hw1, U1, _, hcase⟩ := threeUnlink3_walks hw hln h
  rcases hcase with ⟨_, rfl⟩ | ⟨_, _, k', LA, hw2, _, U⟩
  · exact ⟨hw1, LF.shrink U1⟩
  · exact ⟨hw2, LA.shrink U⟩

/-! ## the 3-D `one_link` / `one_unlink` -/

/-- only β0 / β1 have been written -/
structure Only01 (m m' : Map X) : Prop where
  n : m'.n = m.n
  u : m'.u = m.u
  a : m'.a = m.a
  fc : m'.fc = m.fc
  β : ∀ e d, 2 ≤ e → m'.β e d = m.β e d

theorem Only01.refl (m : Map X) : Only01 m m := ⟨rfl, rfl, rfl, rfl, fun _ _ _ => rfl⟩

theorem Only01.trans {m m' m'' : Map X} (h1 : Only01 m m') (h2 : Only01 m' m'') : Only01 m m'' :=
  ⟨h2.n.trans h1.n, h2.u.trans h1.u, h2.a.trans h1.a, h2.fc.trans h1.fc,
    fun e d he => by rw [h2.β e d he, h1.β e d he]⟩

theorem Only01.unused {m m' : Map X} (h : Only01 m m') (d : Nat) : m'.unused d = m.unused d := by
  unfold Map.unused; rw [h.u]

theorem Only01.link1 {m : Map X} (h : WF 4 m) {l r : Nat} (hl : l < m.n) (hr : r < m.n) :
    Only01 m (m.link1 l r) := by
  obtain ⟨f1, f2, f3, f4⟩ := setβ2_frame m 1 l r 0 r l
  refine ⟨f1, f2, f3, f4, ?_⟩
  intro e d he
  rw [h.toSized.β_link1 (by omega) hl hr]
  have a0 : ¬ (0 = e) := by omega
  have a1 : ¬ (1 = e) := by omega
  simp [a0, a1]

theorem Only01.unlink1 {m : Map X} (h : WF 4 m) {l : Nat} (hl : l < m.n) : Only01 m (m.unlink1 l) := by
  obtain ⟨f1, f2, f3, f4⟩ := setβ2_frame m 1 l 0 0 (m.β 1 l) 0
  refine ⟨f1, f2, f3, f4, ?_⟩
  intro e d he
  rw [h.toSized.β_unlink1 (by omega) hl (h.range 1 (by omega) l hl)]
  have a0 : ¬ (0 = e) := by omega
  have a1 : ¬ (1 = e) := by omega
  simp [a0, a1]

theorem Only01.symm {m m' : Map X} (h : Only01 m m') : Only01 m' m :=
  ⟨h.n.symm, h.u.symm, h.a.symm, h.fc.symm, fun e d he => (h.β e d he).symm⟩

/-- `m'` is `m` with the 1-link `l → r` added at a 1-free `l`, as far as β1, β2, β3 see it
    (`m' = m.link1 l r`, or `m = m'.unlink1 l`) -/
structure Add1 (m m' : Map X) (l r : Nat) : Prop where
  only : Only01 m m'
  free : m.β 1 l = 0
  β1 : ∀ x, m'.β 1 x = if l = x then r else m.β 1 x

theorem Add1.n {m m' : Map X} {l r : Nat} (A : Add1 m m' l r) : m'.n = m.n := A.only.n

theorem Add1.β {m m' : Map X} {l r : Nat} (A : Add1 m m' l r) : ∀ j x, 2 ≤ j → m'.β j x = m.β j x := A.only.β

theorem Add1.link1 {m : Map X} (h : WF 4 m) {l r : Nat} (hl : l < m.n) (hr : r < m.n) (h1 : m.β 1 l = 0) :
    Add1 m (m.link1 l r) l r := by
  refine ⟨Only01.link1 h hl hr, h1, fun x => ?_⟩
  rw [h.toSized.β_link1 (by omega) hl hr]
  simp only [show ¬ (0 = 1) by omega, false_and, if_false, true_and]

theorem Add1.unlink1 {m : Map X} (h : WF 4 m) {l : Nat} (hl : l < m.n) :
    Add1 (m.unlink1 l) m l (m.β 1 l) := by
  have e1 : ∀ x, (m.unlink1 l).β 1 x = if l = x then 0 else m.β 1 x := by
    intro x
    rw [h.toSized.β_unlink1 (by omega) hl (h.range 1 (by omega) l hl)]
    simp only [show ¬ (0 = 1) by omega, false_and, if_false, true_and]
  refine ⟨(Only01.unlink1 h hl).symm, by rw [e1, if_pos rfl], fun x => ?_⟩
  rw [e1]
  by_cases c : l = x
  · rw [if_pos c, c]
  · rw [if_neg c, if_neg c]

theorem Add1.β1_ne {m m' : Map X} {l r : Nat} (A : Add1 m m' l r) {x : Nat} (hx : x ≠ l) :
    m'.β 1 x = m.β 1 x := by
  rw [A.β1, if_neg (fun hh => hx hh.symm)]

theorem Add1.β1_self {m m' : Map X} {l r : Nat} (A : Add1 m m' l r) : m'.β 1 l = r := by
  rw [A.β1, if_pos rfl]

theorem Add1.β1_sub {m m' : Map X} {l r : Nat} (A : Add1 m m' l r) (x : Nat) :
    m.β 1 x = m'.β 1 x ∨ m.β 1 x = 0 := by
  by_cases c : x = l
  · rw [c]; exact Or.inr A.free
  · exact Or.inl (A.β1_ne c).symm

/-- adding a 1-link at `l` does not disturb the mirror condition away from `l` -/
theorem Add1.mAt {m m' : Map X} {l r d : Nat} (A : Add1 m m' l r) (hd : d ≠ l) (hM : MAtG m 1 d) :
    MAtG m' 1 d := by
  unfold MAtG
  rw [A.β1_ne hd, A.β 3 _ (by omega), A.β 3 _ (by omega)]
  intro g1 g2 g3
  have key := hM g1 g2 g3
  -- `β3 (β1 d)` is not `l`: its β1 image in `m` is `β3 d`, not null
  rw [A.β1_ne (fun hh => g2 (by rw [← key, hh, A.free])), key]

theorem Add1.mAt_back {m m' : Map X} {l r d : Nat} (A : Add1 m m' l r) (hx : m.β 3 (m.β 1 d) ≠ l)
    (hM : MAtG m' 1 d) : MAtG m 1 d := by
  intro g1 g2 g3
  have hd : d ≠ l := fun hh => g1 (by rw [hh, A.free])
  have key := hM (by rw [A.β1_ne hd]; exact g1) (by rw [A.β 3 _ (by omega)]; exact g2)
    (by rw [A.β1_ne hd, A.β 3 _ (by omega)]; exact g3)
  rw [A.β1_ne hd, A.β 3 _ (by omega), A.β 3 _ (by omega), A.β1_ne hx] at key
  exact key

/-- **effect of the 3-D `one_link`**: the 1-link `l → r` is added, and the 1-link `β3 r → β3 l` as
    well when both darts are 3-linked -/
theorem oneLink3_effect {l r : Nat} {m m1 : Map X} {u : Unit} (hw : WF 4 m)
    (hl0 : l ≠ 0) (hr0 : r ≠ 0) (hln : l < m.n) (hrn : r < m.n)
    (hul : m.unused l = false) (hur : m.unused r = false)
    (h : run (oneLink3 (X := X) l r) m = (.ok u, m1)) :
    WF 4 m1 ∧
    ((¬ (m.β 3 l ≠ 0 ∧ m.β 3 r ≠ 0) ∧ Add1 m m1 l r) ∨
     (m.β 3 l ≠ 0 ∧ m.β 3 r ≠ 0 ∧ ∃ m0, WF 4 m0 ∧ Add1 m m0 l r ∧ Add1 m0 m1 (m.β 3 r) (m.β 3 l))) := by
  unfold oneLink3 at h
  obtain ⟨_, m0, hl, h⟩ := run_bind_ok h
  obtain ⟨_, _, f1, f0, rfl⟩ := oneLinkCore_ok hl
  replace h := run_rB_bind_ok (run_rB_bind_ok h)
  have ho1 := Only01.link1 hw hln hrn
  rw [ho1.β 3 _ (by omega), ho1.β 3 _ (by omega)] at h
  have hw0 : WF 4 (m.link1 l r) := hw.link1 (by omega) hl0 hr0 hln hrn hul hur f1 f0
  have A := Add1.link1 hw hln hrn f1
  by_cases hc : m.β 3 l ≠ 0 ∧ m.β 3 r ≠ 0
  · rw [if_pos hc] at h
    obtain ⟨_, _, g1, g0, rfl⟩ := oneLinkCore_ok h
    have il := hw.image_inUse (i := 3) (by omega) hln hc.1
    have ir := hw.image_inUse (i := 3) (by omega) hrn hc.2
    exact ⟨hw0.link1 (by omega) hc.2 hc.1 ir.1 il.1 (by rw [ho1.unused]; exact ir.2)
      (by rw [ho1.unused]; exact il.2) g1 g0, Or.inr ⟨hc.1, hc.2, _, hw0, A, Add1.link1 hw0 ir.1 il.1 g1⟩⟩
  · rw [if_neg hc] at h
    obtain ⟨_, rfl⟩ := run_pure_ok h
    exact ⟨hw0, Or.inl ⟨hc, A⟩⟩

theorem oneLink3_ok {l r : Nat} {m m' : Map X} {u : Unit} (hw : WF 4 m)
    (hl0 : l ≠ 0) (hr0 : r ≠ 0) (hln : l < m.n) (hrn : r < m.n)
    (hul : m.unused l = false) (hur : m.unused r = false)
    (h : run (oneLink3 (X := X) l r) m = (.ok u, m')) :
    WF 4 m' ∧ Only01 m m' ∧ (Mirror m → Mirror m') := by
  obtain ⟨hw', hform⟩ := oneLink3_effect hw hl0 hr0 hln hrn hul hur h
  rcases hform with ⟨hc, A⟩ | ⟨h3l, h3r, m0, _, A, B⟩
  · refine ⟨hw', A.only, fun hM d hd => ?_⟩
    by_cases hdl : d = l
    · -- `l` and `r` are not both 3-linked
      intro _ g2 g3
      rw [hdl, A.β 3 _ (by omega)] at g2
      rw [hdl, A.β1_self, A.β 3 _ (by omega)] at g3
      exact absurd ⟨g2, g3⟩ hc
    · exact A.mAt hdl (hM d (by rw [← A.n]; exact hd))
  · have ho := A.only.trans B.only
    refine ⟨hw', ho, fun hM d hd => ?_⟩
    have hlb : l ≠ m.β 3 r := fun hh => hr0 (by rw [← B.free, ← hh, A.β1_self])
    have h33r : m.β 3 (m.β 3 r) = r := (hw.invol 3 (by omega) (by omega) r hrn h3r).1
    have h33l : m.β 3 (m.β 3 l) = l := (hw.invol 3 (by omega) (by omega) l hln h3l).1
    by_cases hdl : d = l
    · -- `β1 l = r`, `β1 (β3 r) = β3 l`
      intro _ _ _
      rw [hdl, B.β1_ne hlb, A.β1_self, ho.β 3 r (by omega), B.β1_self, ho.β 3 l (by omega)]
    · by_cases hdb : d = m.β 3 r
      · intro _ _ _
        rw [hdb, B.β1_self, ho.β 3 _ (by omega), h33l, B.β1_ne hlb, A.β1_self, ho.β 3 _ (by omega), h33r]
      · exact B.mAt hdb (A.mAt hdl (hM d (by rw [← ho.n]; exact hd)))

/-- **effect of the 3-D `one_unlink`**: `m` is the result with the 1-link `l → β1 l` added, and
    with `β3 (β1 l) → β3 l` as well when both darts are 3-linked -/
theorem oneUnlink3_effect {l : Nat} {m m1 : Map X} {u : Unit} (hw : WF 4 m) (hln : l < m.n)
    (h : run (oneUnlink3 (X := X) l) m = (.ok u, m1)) :
    m.β 1 l ≠ 0 ∧ WF 4 m1 ∧
    ((¬ (m.β 3 l ≠ 0 ∧ m.β 3 (m.β 1 l) ≠ 0) ∧ Add1 m1 m l (m.β 1 l)) ∨
     (m.β 3 l ≠ 0 ∧ m.β 3 (m.β 1 l) ≠ 0 ∧
        ∃ m0, WF 4 m0 ∧ Add1 m1 m0 (m.β 3 (m.β 1 l)) (m.β 3 l) ∧ Add1 m0 m l (m.β 1 l))) := by
  unfold oneUnlink3 at h
  replace h := run_rB_bind_ok h
  obtain ⟨_, m0, hl, h⟩ := run_bind_ok h
  obtain ⟨_, _, hne, rfl⟩ := oneUnlinkCore_ok hl
  replace h := run_rB_bind_ok (run_rB_bind_ok h)
  have ho1 := Only01.unlink1 hw hln
  rw [ho1.β 3 _ (by omega), ho1.β 3 _ (by omega)] at h
  have hw1 : WF 4 (m.unlink1 l) := hw.unlink1 (by omega) hln hne
  have A := Add1.unlink1 hw hln
  refine ⟨hne, ?_⟩
  by_cases hc : m.β 3 l ≠ 0 ∧ m.β 3 (m.β 1 l) ≠ 0
  · rw [if_pos hc] at h
    replace h := run_rB_bind_ok h
    obtain ⟨hxx, h⟩ := run_ite_abort_ok h
    obtain ⟨_, _, hne2, rfl⟩ := oneUnlinkCore_ok h
    have hbn : m.β 3 (m.β 1 l) < (m.unlink1 l).n := by
      rw [ho1.n]; exact hw.range 3 (by omega) _ (hw.range 1 (by omega) l hln)
    have B := Add1.unlink1 hw1 hbn
    rw [Classical.not_not.1 hxx] at B
    exact ⟨hw1.unlink1 (by omega) hbn hne2, Or.inr ⟨hc.1, hc.2, _, hw1, B, A⟩⟩
  · rw [if_neg hc] at h
    obtain ⟨_, rfl⟩ := run_pure_ok h
    exact ⟨hw1, Or.inl ⟨hc, A⟩⟩

theorem oneUnlink3_ok {l : Nat} {m m' : Map X} {u : Unit} (hw : WF 4 m) (hln : l < m.n)
    (h : run (oneUnlink3 (X := X) l) m = (.ok u, m')) :
    WF 4 m' ∧ Only01 m m' ∧ (Mirror m → Mirror m') := by
  obtain ⟨hne, hw', hform⟩ := oneUnlink3_effect hw hln h
  have hrn : m.β 1 l < m.n := hw.range 1 (by omega) l hln
  -- if `β3 (β1 d) = l` on a mirrored `m`, then `d = β3 (β1 l)` and both `l`, `β1 l` are 3-linked
  have hback : ∀ d, d < m.n → MAtG m 1 d → m.β 1 d ≠ 0 → m.β 3 d ≠ 0 → m.β 3 (m.β 1 d) = l →
      m.β 3 l ≠ 0 ∧ m.β 3 (m.β 1 l) = d := by
    intro d hd hM g1 g2 hh
    have hl0 : l ≠ 0 := fun h0 => hne (by rw [h0]; exact hw.null 1 (by omega))
    have a1 := (hw.invol 3 (by omega) (by omega) _ (hw.range 1 (by omega) d hd) (by rw [hh]; exact hl0)).1
    rw [hh] at a1
    have key := hM g1 g2 (by rw [hh]; exact hl0)
    rw [hh] at key
    exact ⟨by rw [a1]; exact g1, by rw [key]; exact (hw.invol 3 (by omega) (by omega) d hd g2).1⟩
  rcases hform with ⟨hc, A⟩ | ⟨h3l, h3r, m0, hw0, B, A⟩
  · refine ⟨hw', A.only.symm, fun hM d hd => ?_⟩
    have hd' : d < m.n := by rw [A.n]; exact hd
    intro g1 g2 g3
    have hdl : d ≠ l := fun hh => g1 (by rw [hh]; exact A.free)
    refine A.mAt_back (fun hh => hc ?_) (hM d hd') g1 g2 g3
    rw [← A.β1_ne hdl, ← A.β 3 _ (by omega)] at hh
    have hd0 : d ≠ 0 := fun h0 => g1 (by rw [h0]; exact hw'.null 1 (by omega))
    rw [← A.β1_ne hdl] at g1
    rw [← A.β 3 _ (by omega)] at g2
    obtain ⟨k1, k2⟩ := hback d hd' (hM d hd') g1 g2 hh
    exact ⟨k1, by rw [k2]; exact hd0⟩
  · have ho := B.only.trans A.only
    refine ⟨hw', ho.symm, fun hM d hd => ?_⟩
    have hd' : d < m.n := by rw [ho.n]; exact hd
    intro g1 g2 g3
    have hdb : d ≠ m.β 3 (m.β 1 l) := fun hh => g1 (by rw [hh]; exact B.free)
    have g1' := g1
    rw [← B.β1_ne hdb] at g1'
    have hdl : d ≠ l := fun hh => g1' (by rw [hh]; exact A.free)
    rw [← A.β1_ne hdl] at g1'
    have g2' : m.β 3 d ≠ 0 := by rw [ho.β 3 d (by omega)]; exact g2
    refine B.mAt_back (fun hh => ?_) (A.mAt_back (fun hh => ?_) (hM d hd')) g1 g2 g3
    · -- `β1 d = β3 (β3 (β1 l)) = β1 l`, so `d = l`
      rw [← ho.β 3 _ (by omega), ← B.β1_ne hdb, ← A.β1_ne hdl] at hh
      have a1 := (hw.invol 3 (by omega) (by omega) _ (hw.range 1 (by omega) d hd') (by rw [hh]; exact h3r)).1
      rw [hh, (hw.invol 3 (by omega) (by omega) _ hrn h3r).1] at a1
      have b1 := hw.inv01 d hd' g1'
      rw [← a1, hw.inv01 l hln hne] at b1
      exact hdl b1.symm
    · rw [← A.β 3 _ (by omega), ← A.β1_ne hdl] at hh
      exact hdb (hback d hd' (hM d hd') g1' g2' hh).2.symm

/-- operations that leave β1 and β3 alone keep the mirror condition -/
theorem mirror_of_β13 {m m' : Map X} (hn : m'.n = m.n) (h1 : ∀ d, m'.β 1 d = m.β 1 d)
    (h3 : ∀ d, m'.β 3 d = m.β 3 d) (hM : Mirror m) : Mirror m' := by
  intro d hd
  simp only [h1, h3]
  exact hM d (by rw [← hn]; exact hd)

theorem SameTopo.mirror {m m' : Map X} (st : SameTopo m m') (hM : Mirror m) : Mirror m' :=
  mirror_of_β13 st.n (st.β 1) (st.β 3) hM

end HC

/-
  L0 theorems (generic in the store):
  * `run_bind_gen`       sequencing of the direct semantics
  * `T1_execLog_sound`   the log semantics of `Transaction::read/write` computes exactly what the
                         direct in-place semantics computes on the store with the log applied
                         (read-your-writes), and `atomicallyLog = atomically`
  * `atomically_not_ok`  (T2) a closure that does not return `Ok` publishes nothing (`atomically_err`)
  * composition (C08)    running a list of closures in one atomic block, when each succeeds,
                         equals running them one after the other, each in its own block
-/
import Honeycomb.Model.Stm

namespace HC
open Store

section
variable {S Var Val ε α β : Type} [Store S Var Val]

theorem run_bind_gen (p : Prog Var Val ε α) (f : α → Prog Var Val ε β) (s : S) :
    run (p.bind f) s =
      match run p s with
      | (.ok a, s') => run (f a) s'
      | (.err e, s') => (.err e, s')
      | (.retry, s') => (.retry, s')
      | (.panic, s') => (.panic, s') := by
  induction p generalizing s with
  | ret a => simp [run]
  | read v k ih =>
      simp only [Prog.read_bind, run]
      split
      · exact ih _ s
      · rfl
  | write v x k ih =>
      simp only [Prog.write_bind, run]
      split
      · exact ih _
      · rfl
  | abort e => simp [run]
  | retry => simp [run]
  | panic => simp [run]

/-- **T2**: whatever does not end in `Ok` leaves the store exactly as it was -/
theorem atomically_not_ok (p : Prog Var Val ε α) (s : S)
    (h : ∀ a, (atomically p s).1 ≠ .ok a) : (atomically p s).2 = s := by
  unfold atomically at h ⊢
  match hr : run p s with
  | (.ok a, s') => simp only [hr] at h; exact absurd rfl (h a)
  | (.err e, s') => rfl
  | (.retry, s') => rfl
  | (.panic, s') => rfl

theorem atomically_err (p : Prog Var Val ε α) (s s' : S) (e : ε)
    (h : atomically p s = (.err e, s')) : s' = s := by
  have := atomically_not_ok p s (by intro a; rw [h]; simp)
  rw [h] at this; exact this

theorem atomically_ok {p : Prog Var Val ε α} {s s' : S} {a : α}
    (h : run p s = (.ok a, s')) : atomically p s = (.ok a, s') := by
  unfold atomically; rw [h]

theorem atomically_ok_inv {p : Prog Var Val ε α} {s s' : S} {a : α}
    (h : atomically p s = (.ok a, s')) : run p s = (.ok a, s') := by
  unfold atomically at h
  match hr : run p s with
  | (.ok a', s'') => rw [hr] at h; simpa using h
  | (.err e, s'') => rw [hr] at h; simp at h
  | (.retry, s'') => rw [hr] at h; simp at h
  | (.panic, s'') => rw [hr] at h; simp at h

/-! ## composition -/

/-- run the closures one after the other inside ONE transaction, collecting the results -/
def seqAll : List (Prog Var Val ε α) → Prog Var Val ε (List α)
  | [] => .ret []
  | p :: ps => p.bind fun a => (seqAll ps).bind fun as => .ret (a :: as)

/-- run each closure in its OWN transaction; `none` as soon as one of them does not succeed -/
def runEach : List (Prog Var Val ε α) → S → Option (List α × S)
  | [], s => some ([], s)
  | p :: ps, s =>
      match atomically p s with
      | (.ok a, s') =>
          match runEach ps s' with
          | some (as, s'') => some (a :: as, s'')
          | none => none
      | _ => none

/-- **C08 (model level)**: if every operation succeeds when the operations are run in sequence,
    each in its own transaction, then the single atomic block returns the same results and
    produces exactly the same store -/
theorem compose_eq_sequence (ps : List (Prog Var Val ε α)) :
    ∀ (s s' : S) (rs : List α), runEach ps s = some (rs, s') →
      atomically (seqAll ps) s = (.ok rs, s') := by
  induction ps with
  | nil =>
      intro s s' rs h
      simp [runEach] at h
      simp [seqAll, atomically, run, h.1, h.2]
  | cons p ps ih =>
      intro s s' rs h
      simp only [runEach] at h
      match hp : atomically p s with
      | (.ok a, s1) =>
          simp only [hp] at h
          match hps : runEach ps s1 with
          | some (as, s2) =>
              simp only [hps] at h
              simp at h
              have h1 := atomically_ok_inv hp
              have h2 := atomically_ok_inv (ih s1 s2 as hps)
              apply atomically_ok
              simp only [seqAll]
              rw [run_bind_gen, h1]
              simp only
              rw [run_bind_gen, h2]
              simp [run, h.1, h.2]
          | none => simp only [hps] at h; simp at h
      | (.err e, s1) => simp only [hp] at h; simp at h
      | (.retry, s1) => simp only [hp] at h; simp at h
      | (.panic, s1) => simp only [hp] at h; simp at h

/-- converse direction: a successful atomic block means every operation succeeded in sequence -/
theorem sequence_of_compose (ps : List (Prog Var Val ε α)) :
    ∀ (s s' : S) (rs : List α), atomically (seqAll ps) s = (.ok rs, s') →
      runEach ps s = some (rs, s') := by
  induction ps with
  | nil =>
      intro s s' rs h
      have := atomically_ok_inv h
      simp [seqAll, run] at this
      simp [runEach, this.1, this.2]
  | cons p ps ih =>
      intro s s' rs h
      have h0 := atomically_ok_inv h
      simp only [seqAll] at h0
      rw [run_bind_gen] at h0
      match hp : run p s with
      | (.ok a, s1) =>
          rw [hp] at h0
          simp only at h0
          rw [run_bind_gen] at h0
          match hps : run (seqAll ps) s1 with
          | (.ok as, s2) =>
              rw [hps] at h0
              simp [run] at h0
              simp only [runEach, atomically_ok hp, ih s1 s2 as (atomically_ok hps)]
              simp [h0.1, h0.2]
          | (.err e, s2) => rw [hps] at h0; simp at h0
          | (.retry, s2) => rw [hps] at h0; simp at h0
          | (.panic, s2) => rw [hps] at h0; simp at h0
      | (.err e, s1) => rw [hp] at h0; simp at h0
      | (.retry, s1) => rw [hp] at h0; simp at h0
      | (.panic, s1) => rw [hp] at h0; simp at h0

end

/-! ## T1: the log semantics -/

section
variable {S Var Val ε α : Type} [DecidableEq Var] [Store S Var Val] [LawfulStore S Var Val]

/-- every logged write was valid and well-typed when it was made -/
def Log.WritesOK (ℓ : Log Var Val) (s : S) : Prop :=
  ∀ p ∈ ℓ.writes, svalid s p.1 = true ∧ styped s p.1 p.2 = true

/-- every logged read recorded the value of the (unchanged) store -/
def Log.ReadsOK (ℓ : Log Var Val) (s : S) : Prop :=
  ∀ p ∈ ℓ.reads, p.2 = sget s p.1

theorem svalid_foldr (ws : List (Var × Val)) (s : S) (v : Var) :
    svalid (ws.foldr (fun p s => sset s p.1 p.2) s) v = svalid s v := by
  induction ws with
  | nil => rfl
  | cons p ps ih => simp only [List.foldr]; rw [LawfulStore.svalid_sset, ih]

theorem styped_foldr (ws : List (Var × Val)) (s : S) (v : Var) (x : Val) :
    styped (ws.foldr (fun p s => sset s p.1 p.2) s) v x = styped s v x := by
  induction ws with
  | nil => rfl
  | cons p ps ih => simp only [List.foldr]; rw [LawfulStore.styped_sset, ih]

theorem svalid_apply (ℓ : Log Var Val) (s : S) (v : Var) : svalid (ℓ.apply s) v = svalid s v :=
  svalid_foldr _ _ _

theorem styped_apply (ℓ : Log Var Val) (s : S) (v : Var) (x : Val) :
    styped (ℓ.apply s) v x = styped s v x := styped_foldr _ _ _ _

/-- reading the store with the log applied = reading through the log -/
theorem sget_apply (ℓ : Log Var Val) (s : S) (hw : ℓ.WritesOK s) (v : Var) :
    sget (ℓ.apply s) v = (ℓ.lastWrite v).getD (sget s v) := by
  obtain ⟨rs, ws⟩ := ℓ
  unfold Log.apply Log.lastWrite
  simp only
  unfold Log.WritesOK at hw
  simp only at hw
  induction ws with
  | nil => rfl
  | cons p ps ih =>
      have hp := hw p (by simp)
      have ih' := ih (fun q hq => hw q (by simp [hq]))
      simp only [List.foldr]
      rw [LawfulStore.sget_sset _ _ _ _ (by rw [svalid_foldr]; exact hp.1)
        (by rw [styped_foldr]; exact hp.2)]
      by_cases h : p.1 = v
      · simp [h, List.find?]
      · simp [h, List.find?, ih']

theorem T1_execLog_sound (p : Prog Var Val ε α) :
    ∀ (s : S) (ℓ : Log Var Val), ℓ.WritesOK s → ℓ.ReadsOK s →
      run p (ℓ.apply s) = ((execLog p s ℓ).1, (execLog p s ℓ).2.apply s) ∧
      (execLog p s ℓ).2.WritesOK s ∧ (execLog p s ℓ).2.ReadsOK s := by
  induction p with
  | ret a => intro s ℓ hw hr; exact ⟨rfl, hw, hr⟩
  | abort e => intro s ℓ hw hr; exact ⟨rfl, hw, hr⟩
  | retry => intro s ℓ hw hr; exact ⟨rfl, hw, hr⟩
  | panic => intro s ℓ hw hr; exact ⟨rfl, hw, hr⟩
  | read v k ih =>
      intro s ℓ hw hr
      simp only [run, execLog, svalid_apply]
      by_cases hv : svalid s v = true
      · simp only [hv, if_true]
        have hg := sget_apply ℓ s hw v
        unfold Log.read
        match hlw : ℓ.lastWrite v with
        | some x =>
            simp only [hlw, Option.getD_some] at hg ⊢
            rw [hg]; exact ih x s ℓ hw hr
        | none =>
            simp only [hlw, Option.getD_none] at hg ⊢
            match hfr : ℓ.firstRead v with
            | some x =>
                simp only
                have : x = sget s v := by
                  unfold Log.firstRead at hfr
                  match hf : ℓ.reads.find? (fun p => p.1 = v) with
                  | some q =>
                      rw [hf] at hfr; simp at hfr
                      have hm := List.mem_of_find?_eq_some hf
                      have hq := List.find?_some hf
                      simp at hq
                      rw [← hfr, hr q hm, hq]
                  | none => rw [hf] at hfr; simp at hfr
                rw [hg, ← this]; exact ih x s ℓ hw hr
            | none =>
                simp only
                rw [hg]
                have hw' : ({ ℓ with reads := (v, sget s v) :: ℓ.reads } : Log Var Val).WritesOK s := hw
                have hr' : ({ ℓ with reads := (v, sget s v) :: ℓ.reads } : Log Var Val).ReadsOK s := by
                  intro q hq
                  simp at hq
                  rcases hq with rfl | hq
                  · rfl
                  · exact hr q hq
                exact ih (sget s v) s _ hw' hr'
      · simp only [hv]
        exact ⟨rfl, hw, hr⟩
  | write v x k ih =>
      intro s ℓ hw hr
      simp only [run, execLog, svalid_apply, styped_apply]
      by_cases hv : (svalid s v && styped s v x) = true
      · simp only [hv, if_true]
        have hv' : svalid s v = true ∧ styped s v x = true := by simpa using hv
        have hw' : (ℓ.write v x).WritesOK s := by
          intro q hq
          simp [Log.write] at hq
          rcases hq with rfl | hq
          · exact hv'
          · exact hw q hq
        have := ih s (ℓ.write v x) hw' hr
        exact this
      · simp only [hv]
        exact ⟨rfl, hw, hr⟩

/-- **T1**: `atomically_with_err` through the transaction log is the sequential semantics -/
theorem T1_atomicallyLog_eq (p : Prog Var Val ε α) (s : S) : atomicallyLog p s = atomically p s := by
  have h := (T1_execLog_sound p s {} (by intro q hq; simp at hq) (by intro q hq; simp at hq)).1
  have e : ({} : Log Var Val).apply s = s := rfl
  rw [e] at h
  unfold atomicallyLog atomically
  rw [h]
  match execLog p s {} with
  | (.ok a, ℓ) => rfl
  | (.err e, ℓ) => rfl
  | (.retry, ℓ) => rfl
  | (.panic, ℓ) => rfl

end

end HC

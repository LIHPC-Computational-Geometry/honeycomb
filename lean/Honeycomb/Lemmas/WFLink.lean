/-
  Well-formedness is preserved by the link / unlink cores (`components/betas.rs`), for any number
  of β rows (`nb = 3` for CMap2, `nb = 4` for CMap3).  What a core does is one equation per shape (`linkShape`, `unlinkShape`) on every
  store (`run_linkShape`, `run_unlinkShape`), from which the success, refusal and forward lemmas are read; the maps they
  leave are `Map.link1`, `linkI`, `unlink1`, `unlinkI`.  Well-formedness goes through the two write patterns over
  the inverse index (`invIdx`, `WFβ.link`, `WFβ.unlink`), of which `WF.link1` … `WF.unlinkI` are the instances.
  Then allocation (`add_free_dart(s)`, `insert_free_dart`, `remove_free_dart(_transac)`) keeps well-formedness.
-/
import Honeycomb.Model.WF
import Honeycomb.Lemmas.Run


namespace HC
variable {X : Type}

/-! ## sizes -/

theorem Sized.okβ {nb : Nat} {m : Map X} (h : Sized nb m) (i d : Nat) :
    m.okβ i d = true ↔ i < nb ∧ d < m.n := by
  unfold Map.okβ
  simp only [Bool.and_eq_true, decide_eq_true_eq, h.rows]
  constructor
  · intro ⟨h1, h2⟩; rw [h.row i h1] at h2; exact ⟨h1, h2⟩
  · intro ⟨h1, h2⟩; rw [h.row i h1]; exact ⟨h1, h2⟩

theorem Sized.okβ_of_lt {nb : Nat} {m : Map X} (h : Sized nb m) {i d : Nat} (hi : i < nb) (hd : d < m.n) :
    m.okβ i d = true :=
  (h.okβ i d).2 ⟨hi, hd⟩

theorem WF.run_rB {nb : Nat} {m : Map X} (h : WF nb m) {α : Type} {i x : Nat} (hi : i < nb) (hx : x < m.n)
    (k : Nat → P X α) : run ((rB i x).bind k) m = run (k (m.β i x)) m := by
  rw [HC.run_rB, (h.toSized.okβ i x).2 ⟨hi, hx⟩, if_pos rfl]

theorem Sized.okU {nb : Nat} {m : Map X} (h : Sized nb m) (d : Nat) :
    m.okU d = true ↔ d < m.n := by
  unfold Map.okU; simp [h.usz]

/-- an attribute slot of an existing storage at an existing dart is in range (storages may be longer than `n`) -/
theorem Sized.okA_of_lt {nb : Nat} {m : Map X} (h : Sized nb m) {s d : Nat} (hs : s < m.a.size) (hd : d < m.n) :
    m.okA s d = true := by
  unfold Map.okA
  have := h.asz s hs
  simp only [Bool.and_eq_true, decide_eq_true_eq]
  exact ⟨hs, by omega⟩

theorem Sized.setβ {nb : Nat} {m : Map X} (h : Sized nb m) (i d v : Nat) : Sized nb (m.setβ i d v) := by
  refine ⟨h.npos, ?_, ?_, h.usz, h.asz⟩
  · simp [Map.setβ, size_wr, h.rows]
  · intro j hj
    simp only [Map.setβ, rd_wr]
    split
    · rename_i hh; rw [size_wr, hh.1]; exact h.row j hj
    · exact h.row j hj

theorem Sized.setU {nb : Nat} {m : Map X} (h : Sized nb m) (d : Nat) (v : Bool) : Sized nb (m.setU d v) := by
  refine ⟨h.npos, h.rows, h.row, ?_, h.asz⟩
  simp [Map.setU, size_wr, h.usz]

theorem Sized.sameTopo {nb : Nat} {m m' : Map X} (h : Sized nb m) (st : SameTopo m m') : Sized nb m' := by
  refine ⟨by rw [st.n]; exact h.npos, by rw [st.b]; exact h.rows, ?_, by rw [st.u, st.n]; exact h.usz, ?_⟩
  · intro i hi; rw [st.b, st.n]; exact h.row i hi
  · intro s hs; rw [st.n, st.rsz]; rw [st.asz] at hs; exact h.asz s hs

theorem WFβ.of_β_eq {nb : Nat} {m m' : Map X} (h : WFβ nb m) (hn : m'.n = m.n)
    (hb : ∀ i d, m'.β i d = m.β i d) (hu : ∀ d, m'.unused d = m.unused d) : WFβ nb m' := by
  constructor
  · intro i hi; rw [hb]; exact h.null i hi
  · intro i hi d hd; rw [hb, hn]; rw [hn] at hd; exact h.range i hi d hd
  · intro d hd; simp only [hb]; rw [hn] at hd; exact h.inv01 d hd
  · intro d hd; simp only [hb]; rw [hn] at hd; exact h.inv10 d hd
  · intro i hi h2 d hd; simp only [hb]; rw [hn] at hd; exact h.invol i hi h2 d hd
  · intro d hd; simp only [hb, hu]; rw [hn] at hd; exact h.unusedFree d hd

theorem WFβ.sameTopo {nb : Nat} {m m' : Map X} (h : WFβ nb m) (st : SameTopo m m') : WFβ nb m' :=
  h.of_β_eq st.n st.β st.unused

theorem WF.sameTopo {nb : Nat} {m m' : Map X} (h : WF nb m) (st : SameTopo m m') : WF nb m' :=
  ⟨h.toSized.sameTopo st, h.toWFβ.sameTopo st⟩

theorem Sized.β_setβ {nb : Nat} {m : Map X} (h : Sized nb m) {i d : Nat} (hi : i < nb) (hd : d < m.n)
    (v j e : Nat) : (m.setβ i d v).β j e = if i = j ∧ d = e then v else m.β j e := by
  rw [Map.β_setβ]
  have : m.okβ i d = true := (h.okβ i d).2 ⟨hi, hd⟩
  simp [this]

/-! ## the four write patterns as state functions -/

def Map.link1 (m : Map X) (l r : Nat) : Map X := (m.setβ 1 l r).setβ 0 r l
def Map.linkI (m : Map X) (i l r : Nat) : Map X := (m.setβ i l r).setβ i r l
def Map.unlink1 (m : Map X) (l : Nat) : Map X := (m.setβ 1 l 0).setβ 0 (m.β 1 l) 0
def Map.unlinkI (m : Map X) (i l : Nat) : Map X := (m.setβ i l 0).setβ i (m.β i l) 0

/-- two β writes leave everything but `b` alone (stated for the unfolded records: `rfl` at
    `(m.link1 l r).n = m.n` would first compare the two maps) -/
theorem setβ2_frame (m : Map X) (i d v j e w : Nat) :
    ((m.setβ i d v).setβ j e w).n = m.n ∧ ((m.setβ i d v).setβ j e w).u = m.u ∧
    ((m.setβ i d v).setβ j e w).a = m.a ∧ ((m.setβ i d v).setβ j e w).fc = m.fc := by
  unfold Map.setβ; exact ⟨rfl, rfl, rfl, rfl⟩

theorem Sized.β_link1 {nb : Nat} {m : Map X} (h : Sized nb m) (hnb : 2 ≤ nb) {l r : Nat}
    (hl : l < m.n) (hr : r < m.n) (j e : Nat) :
    (m.link1 l r).β j e = if 0 = j ∧ r = e then l else if 1 = j ∧ l = e then r else m.β j e := by
  unfold Map.link1
  rw [(h.setβ 1 l r).β_setβ (by omega) (by simpa [Map.n_setβ] using hr), h.β_setβ (by omega) hl]

theorem Sized.β_linkI {nb : Nat} {m : Map X} (h : Sized nb m) {i l r : Nat} (hi : i < nb)
    (hl : l < m.n) (hr : r < m.n) (j e : Nat) :
    (m.linkI i l r).β j e = if i = j ∧ r = e then l else if i = j ∧ l = e then r else m.β j e := by
  unfold Map.linkI
  rw [(h.setβ i l r).β_setβ hi (by simpa [Map.n_setβ] using hr), h.β_setβ hi hl]

theorem Sized.β_unlink1 {nb : Nat} {m : Map X} (h : Sized nb m) (hnb : 2 ≤ nb) {l : Nat}
    (hl : l < m.n) (hr : m.β 1 l < m.n) (j e : Nat) :
    (m.unlink1 l).β j e = if 0 = j ∧ m.β 1 l = e then 0 else if 1 = j ∧ l = e then 0 else m.β j e := by
  unfold Map.unlink1
  rw [(h.setβ 1 l 0).β_setβ (by omega) (by simpa [Map.n_setβ] using hr), h.β_setβ (by omega) hl]

theorem Sized.β_unlinkI {nb : Nat} {m : Map X} (h : Sized nb m) {i l : Nat} (hi : i < nb)
    (hl : l < m.n) (hr : m.β i l < m.n) (j e : Nat) :
    (m.unlinkI i l).β j e = if i = j ∧ m.β i l = e then 0 else if i = j ∧ l = e then 0 else m.β j e := by
  unfold Map.unlinkI
  rw [(h.setβ i l 0).β_setβ hi (by simpa [Map.n_setβ] using hr), h.β_setβ hi hl]

/-- re-linking what an `i`-unlink removed gives back the β of `m`, where `βi` is an involution at `l` -/
theorem Sized.β_relinkI {nb : Nat} {m : Map X} (h : Sized nb m) {i l : Nat} (hi : i < nb) (hl : l < m.n)
    (hr : m.β i l < m.n) (back : m.β i (m.β i l) = l) (j e : Nat) :
    ((m.unlinkI i l).linkI i l (m.β i l)).β j e = m.β j e := by
  have h1 : Sized nb (m.unlinkI i l) := (h.setβ _ _ _).setβ _ _ _
  rw [h1.β_linkI hi hl hr, h.β_unlinkI hi hl hr]
  by_cases c0 : i = j ∧ m.β i l = e
  · rw [if_pos c0]
    obtain ⟨rfl, rfl⟩ := c0
    exact back.symm
  · rw [if_neg c0]
    by_cases c1 : i = j ∧ l = e
    · rw [if_pos c1]
      obtain ⟨rfl, rfl⟩ := c1
      rfl
    · rw [if_neg c1, if_neg c0, if_neg c1]

/-! ## what a successful core call did -/

/-- the shape shared by `one_link_core` (`i, j = 1, 0`) and `two_link_core` / `three_link_core` (`i = j`) -/
def linkShape (i j l r : Nat) (ea eb : Err) : P X Unit := do
  let a ← rB i l
  if a ≠ 0 then abort ea else
  let b ← rB j r
  if b ≠ 0 then abort eb else
  wB i l r
  wB j r l

/-- the shape shared by `one_unlink_core` (`i, j = 1, 0`) and `two_unlink_core` / `three_unlink_core` -/
def unlinkShape (i j l : Nat) (ea : Err) : P X Unit := do
  let r ← rB i l
  wB i l 0
  if r = 0 then abort ea else
  wB j r 0

theorem oneLinkCore_eq (l r : Nat) :
    oneLinkCore (X := X) l r = linkShape 1 0 l r (errNonFreeBase 1 l r) (errNonFreeImage 0 l r) := rfl
theorem iLinkCore_eq (i l r : Nat) :
    iLinkCore (X := X) i l r = linkShape i i l r (errNonFreeBase i l r) (errNonFreeImage i l r) := rfl
theorem oneUnlinkCore_eq (l : Nat) : oneUnlinkCore (X := X) l = unlinkShape 1 0 l (errAlreadyFree 1 l) := rfl
theorem iUnlinkCore_eq (i l : Nat) : iUnlinkCore (X := X) i l = unlinkShape i i l (errAlreadyFree i l) := rfl

theorem topoOnly_linkShape (i j l r : Nat) (ea eb : Err) : TopoOnly (linkShape (X := X) i j l r ea eb) := by
  have F := pre_sameAttrs (X := X)
  unfold linkShape
  refine F.ro_bind (ReadOnly.rB _ _) fun _ => Rel.ite (F.abort _) ?_
  refine F.ro_bind (ReadOnly.rB _ _) fun _ => Rel.ite (F.abort _) ?_
  exact F.bind (topoOnly_wB _ _ _) fun _ => topoOnly_wB _ _ _

theorem topoOnly_unlinkShape (i j l : Nat) (ea : Err) : TopoOnly (unlinkShape (X := X) i j l ea) := by
  have F := pre_sameAttrs (X := X)
  unfold unlinkShape
  refine F.ro_bind (ReadOnly.rB _ _) fun _ => F.bind (topoOnly_wB _ _ _) fun _ => ?_
  exact Rel.ite (F.abort _) (topoOnly_wB _ _ _)

theorem topoOnly_oneLinkCore (l r : Nat) : TopoOnly (oneLinkCore (X := X) l r) := topoOnly_linkShape 1 0 l r _ _
theorem topoOnly_iLinkCore (i l r : Nat) : TopoOnly (iLinkCore (X := X) i l r) := topoOnly_linkShape i i l r _ _
theorem topoOnly_oneUnlinkCore (l : Nat) : TopoOnly (oneUnlinkCore (X := X) l) := topoOnly_unlinkShape 1 0 l _
theorem topoOnly_iUnlinkCore (i l : Nat) : TopoOnly (iUnlinkCore (X := X) i l) := topoOnly_unlinkShape i i l _

/-- a link core on any store: it validates the two images before it writes -/
theorem run_linkShape (i j l r : Nat) (ea eb : Err) (m : Map X) :
    run (linkShape i j l r ea eb) m =
      if m.okβ i l = false then (.panic, m) else if m.β i l ≠ 0 then (.err ea, m) else
      if m.okβ j r = false then (.panic, m) else if m.β j r ≠ 0 then (.err eb, m) else
      (.ok (), (m.setβ i l r).setβ j r l) := by
  simp only [linkShape, bind, run_rB]
  by_cases h1 : m.okβ i l = true
  · by_cases h2 : m.β i l = 0
    · by_cases h3 : m.okβ j r = true
      · by_cases h4 : m.β j r = 0
        · simp [h1, h2, h3, h4, run_wB, run_wB', Map.okβ_setβ]
        · simp [h1, h2, h3, h4]
      · simp [h1, h2, h3]
    · simp [h1, h2]
  · simp [h1]

/-- an unlink core on any store: it `replace`s the image first, so a refusal has already nulled it -/
theorem run_unlinkShape (i j l : Nat) (ea : Err) (m : Map X) :
    run (unlinkShape i j l ea) m =
      if m.okβ i l = false then (.panic, m) else if m.β i l = 0 then (.err ea, m.setβ i l 0) else
      if m.okβ j (m.β i l) = false then (.panic, m.setβ i l 0) else
      (.ok (), (m.setβ i l 0).setβ j (m.β i l) 0) := by
  simp only [unlinkShape, bind, run_rB]
  by_cases h1 : m.okβ i l = true
  · by_cases h2 : m.β i l = 0
    · simp [h1, h2, run_wB]
    · by_cases h3 : m.okβ j (m.β i l) = true
      · simp [h1, h2, h3, run_wB, run_wB', Map.okβ_setβ]
      · simp [h1, h2, h3, run_wB, run_wB', Map.okβ_setβ]
  · simp [h1]

theorem linkShape_ok {i j l r : Nat} {ea eb : Err} {m m' : Map X} {u : Unit}
    (h : run (linkShape i j l r ea eb) m = (.ok u, m')) :
    m.okβ i l = true ∧ m.okβ j r = true ∧ m.β i l = 0 ∧ m.β j r = 0 ∧
      m' = (m.setβ i l r).setβ j r l := by
  rw [run_linkShape] at h
  by_cases h1 : m.okβ i l = false
  · rw [if_pos h1] at h
    cases h
  by_cases h2 : m.β i l ≠ 0
  · rw [if_neg h1, if_pos h2] at h
    cases h
  by_cases h3 : m.okβ j r = false
  · rw [if_neg h1, if_neg h2, if_pos h3] at h
    cases h
  by_cases h4 : m.β j r ≠ 0
  · rw [if_neg h1, if_neg h2, if_neg h3, if_pos h4] at h
    cases h
  rw [if_neg h1, if_neg h2, if_neg h3, if_neg h4] at h
  exact ⟨by simpa using h1, by simpa using h3, by simpa using h2, by simpa using h4, (Prod.mk.inj h).2.symm⟩

theorem linkShape_any {i j l r : Nat} {ea eb : Err} {m m' : Map X} {o : Out Err Unit}
    (h : run (linkShape i j l r ea eb) m = (o, m')) : (∃ u, o = .ok u) ∨ m' = m := by
  rw [run_linkShape] at h
  by_cases h1 : m.okβ i l = false
  · rw [if_pos h1] at h
    exact Or.inr (Prod.mk.inj h).2.symm
  by_cases h2 : m.β i l ≠ 0
  · rw [if_neg h1, if_pos h2] at h
    exact Or.inr (Prod.mk.inj h).2.symm
  by_cases h3 : m.okβ j r = false
  · rw [if_neg h1, if_neg h2, if_pos h3] at h
    exact Or.inr (Prod.mk.inj h).2.symm
  by_cases h4 : m.β j r ≠ 0
  · rw [if_neg h1, if_neg h2, if_neg h3, if_pos h4] at h
    exact Or.inr (Prod.mk.inj h).2.symm
  rw [if_neg h1, if_neg h2, if_neg h3, if_neg h4] at h
  exact Or.inl ⟨(), (Prod.mk.inj h).1.symm⟩

theorem linkShape_run {i j l r : Nat} (ea eb : Err) {m : Map X} (o1 : m.okβ i l = true) (o2 : m.okβ j r = true)
    (h1 : m.β i l = 0) (h2 : m.β j r = 0) :
    run (linkShape i j l r ea eb) m = (.ok (), (m.setβ i l r).setβ j r l) := by
  rw [run_linkShape]
  simp [o1, o2, h1, h2]

theorem unlinkShape_ok {i j l : Nat} {ea : Err} {m m' : Map X} {u : Unit}
    (h : run (unlinkShape i j l ea) m = (.ok u, m')) :
    m.okβ i l = true ∧ m.okβ j (m.β i l) = true ∧ m.β i l ≠ 0 ∧
      m' = (m.setβ i l 0).setβ j (m.β i l) 0 := by
  rw [run_unlinkShape] at h
  by_cases h1 : m.okβ i l = false
  · rw [if_pos h1] at h
    cases h
  by_cases h2 : m.β i l = 0
  · rw [if_neg h1, if_pos h2] at h
    cases h
  by_cases h3 : m.okβ j (m.β i l) = false
  · rw [if_neg h1, if_neg h2, if_pos h3] at h
    cases h
  rw [if_neg h1, if_neg h2, if_neg h3] at h
  exact ⟨by simpa using h1, by simpa using h3, h2, (Prod.mk.inj h).2.symm⟩

/-- the unlink cores `replace` first: on a refusal the image rewritten was already null, or the image named a
    dart out of range -/
theorem unlinkShape_any {i j l : Nat} {ea : Err} {m m' : Map X} {o : Out Err Unit}
    (h : run (unlinkShape i j l ea) m = (o, m')) :
    (∃ u, o = .ok u) ∨ m' = m ∨ (m.okβ i l = true ∧ m.β i l = 0 ∧ m' = m.setβ i l 0) ∨
      (m.okβ i l = true ∧ m.β i l ≠ 0 ∧ m.okβ j (m.β i l) = false ∧ m' = m.setβ i l 0) := by
  rw [run_unlinkShape] at h
  by_cases h1 : m.okβ i l = false
  · rw [if_pos h1] at h
    exact Or.inr (Or.inl (Prod.mk.inj h).2.symm)
  have o1 : m.okβ i l = true := by simpa using h1
  by_cases h2 : m.β i l = 0
  · rw [if_neg h1, if_pos h2] at h
    exact Or.inr (Or.inr (Or.inl ⟨o1, h2, (Prod.mk.inj h).2.symm⟩))
  by_cases h3 : m.okβ j (m.β i l) = false
  · rw [if_neg h1, if_neg h2, if_pos h3] at h
    exact Or.inr (Or.inr (Or.inr ⟨o1, h2, h3, (Prod.mk.inj h).2.symm⟩))
  rw [if_neg h1, if_neg h2, if_neg h3] at h
  exact Or.inl ⟨(), (Prod.mk.inj h).1.symm⟩

theorem unlinkShape_run {i j l : Nat} (ea : Err) {m : Map X} (o1 : m.okβ i l = true) (hne : m.β i l ≠ 0)
    (o2 : m.okβ j (m.β i l) = true) :
    run (unlinkShape i j l ea) m = (.ok (), (m.setβ i l 0).setβ j (m.β i l) 0) := by
  rw [run_unlinkShape]
  simp [o1, o2, hne]

theorem oneLinkCore_ok {l r : Nat} {m m' : Map X} {u : Unit}
    (h : run (oneLinkCore (X := X) l r) m = (.ok u, m')) :
    m.okβ 1 l = true ∧ m.okβ 0 r = true ∧ m.β 1 l = 0 ∧ m.β 0 r = 0 ∧
      m' = m.link1 l r :=
  linkShape_ok h

theorem iLinkCore_ok {i l r : Nat} {m m' : Map X} {u : Unit}
    (h : run (iLinkCore (X := X) i l r) m = (.ok u, m')) :
    m.okβ i l = true ∧ m.okβ i r = true ∧ m.β i l = 0 ∧ m.β i r = 0 ∧
      m' = m.linkI i l r :=
  linkShape_ok h

theorem oneUnlinkCore_ok {l : Nat} {m m' : Map X} {u : Unit}
    (h : run (oneUnlinkCore (X := X) l) m = (.ok u, m')) :
    m.okβ 1 l = true ∧ m.okβ 0 (m.β 1 l) = true ∧ m.β 1 l ≠ 0 ∧
      m' = m.unlink1 l :=
  unlinkShape_ok h

theorem iUnlinkCore_ok {i l : Nat} {m m' : Map X} {u : Unit}
    (h : run (iUnlinkCore (X := X) i l) m = (.ok u, m')) :
    m.okβ i l = true ∧ m.okβ i (m.β i l) = true ∧ m.β i l ≠ 0 ∧
      m' = m.unlinkI i l :=
  unlinkShape_ok h

theorem oneLinkCore_run {l r : Nat} {m : Map X} (o1 : m.okβ 1 l = true) (o2 : m.okβ 0 r = true)
    (h1 : m.β 1 l = 0) (h2 : m.β 0 r = 0) :
    run (oneLinkCore (X := X) l r) m = (.ok (), m.link1 l r) :=
  linkShape_run _ _ o1 o2 h1 h2

theorem iLinkCore_run {i l r : Nat} {m : Map X} (o1 : m.okβ i l = true) (o2 : m.okβ i r = true)
    (h1 : m.β i l = 0) (h2 : m.β i r = 0) :
    run (iLinkCore (X := X) i l r) m = (.ok (), m.linkI i l r) :=
  linkShape_run _ _ o1 o2 h1 h2

theorem oneUnlinkCore_run {l : Nat} {m : Map X} (o1 : m.okβ 1 l = true) (hne : m.β 1 l ≠ 0)
    (o2 : m.okβ 0 (m.β 1 l) = true) :
    run (oneUnlinkCore (X := X) l) m = (.ok (), m.unlink1 l) :=
  unlinkShape_run _ o1 hne o2

theorem iUnlinkCore_run {i l : Nat} {m : Map X} (o1 : m.okβ i l = true) (hne : m.β i l ≠ 0)
    (o2 : m.okβ i (m.β i l) = true) :
    run (iUnlinkCore (X := X) i l) m = (.ok (), m.unlinkI i l) :=
  unlinkShape_run _ o1 hne o2

/-! ## the inverse relations of a well-formed map, by index -/

/-- the index of the inverse relation: `β0` and `β1` invert each other, `βi` (`i ≥ 2`) inverts itself -/
def invIdx : Nat → Nat
  | 0 => 1
  | 1 => 0
  | i => i

theorem invIdx_of_two_le {i : Nat} (h : 2 ≤ i) : invIdx i = i := by
  match i, h with
  | i + 2, _ => rfl

theorem invIdx_invIdx (i : Nat) : invIdx (invIdx i) = i := by
  match i with
  | 0 => rfl
  | 1 => rfl
  | i + 2 => rfl

theorem invIdx_lt {nb i : Nat} (hnb : 2 ≤ nb) (hi : i < nb) : invIdx i < nb := by
  match i with
  | 0 => exact hnb
  | 1 => exact Nat.lt_of_lt_of_le (by decide) hnb
  | i + 2 => exact hi

theorem invIdx_inj {i j : Nat} (h : invIdx i = invIdx j) : i = j := by
  rw [← invIdx_invIdx i, h, invIdx_invIdx]

/-- `inv01`, `inv10` and the first half of `invol` in one statement -/
theorem WFβ.inv {nb : Nat} {m : Map X} (h : WFβ nb m) {i : Nat} (hi : i < nb) {d : Nat} (hd : d < m.n)
    (hne : m.β i d ≠ 0) : m.β (invIdx i) (m.β i d) = d := by
  rcases i with _ | _ | i
  · exact h.inv10 d hd hne
  · exact h.inv01 d hd hne
  · exact (h.invol _ hi (Nat.le_add_left 2 i) d hd hne).1

theorem WFβ.back1 {nb : Nat} {m : Map X} (h : WFβ nb m) {i a b : Nat} (hi : i < nb) (ha : a < m.n)
    (hb0 : b ≠ 0) (hb : b = m.β i a) : a = m.β (invIdx i) b := by
  rw [hb]
  exact (h.inv hi ha (by rw [← hb]; exact hb0)).symm

theorem WFβ.back2 {nb : Nat} {m : Map X} (h : WFβ nb m) {i j a b : Nat} (hi : i < nb) (hj : j < nb)
    (ha : a < m.n) (hb0 : b ≠ 0) (hb : b = m.β i (m.β j a)) : a = m.β (invIdx j) (m.β (invIdx i) b) := by
  have hc0 : m.β j a ≠ 0 := fun hh => hb0 (by rw [hb, hh]; exact h.null i hi)
  rw [← h.back1 hi (h.range j hj a ha) hb0 hb]
  exact h.back1 hj ha hc0 rfl

theorem WFβ.of_inv {nb : Nat} {m : Map X} (hnb : 2 ≤ nb)
    (null : ∀ i, i < nb → m.β i 0 = 0) (range : ∀ i, i < nb → ∀ d, d < m.n → m.β i d < m.n)
    (inv : ∀ i, i < nb → ∀ d, d < m.n → m.β i d ≠ 0 → m.β (invIdx i) (m.β i d) = d)
    (nofix : ∀ i, i < nb → 2 ≤ i → ∀ d, d < m.n → m.β i d ≠ 0 → m.β i d ≠ d)
    (unusedFree : ∀ d, d < m.n → m.unused d = true → ∀ i, i < nb → m.β i d = 0) : WFβ nb m where
  null := null
  range := range
  inv01 := fun d hd hne => inv 1 (by omega) d hd hne
  inv10 := fun d hd hne => inv 0 (by omega) d hd hne
  invol := fun i hi h2 d hd hne =>
    ⟨by have := inv i hi d hd hne; rwa [invIdx_of_two_le h2] at this, nofix i hi h2 d hd hne⟩
  unusedFree := unusedFree

/-- removed darts are nobody's image: the image would be removed, hence free, and its inverse image,
    the dart itself, the null dart -/
theorem WF.noImageOfUnused {nb : Nat} {m : Map X} (h : WF nb m) (hnb : 2 ≤ nb) : NoImageOfUnused nb m := by
  intro i hi e he hu
  by_cases h0 : m.β i e = 0
  · exact h0
  · exfalso
    have := h.toWFβ.inv hi he h0
    rw [h.unusedFree _ (h.range i hi e he) hu _ (invIdx_lt hnb hi)] at this
    rw [← this] at h0
    exact h0 (h.null i hi)

/-! ## the write patterns preserve WF -/

/-- the inverse law at one entry survives `βi l := r ; βj r := l` (`j` the inverse index of `i`) on an i-free `l` and
    a j-free `r` -/
theorem link_inv {f f' : Nat → Nat → Nat} {i l r : Nat}
    (e : ∀ k x, f' k x = if invIdx i = k ∧ r = x then l else if i = k ∧ l = x then r else f k x)
    (h1 : f i l = 0) (h0 : f (invIdx i) r = 0) {k y : Nat} (hz : f k 0 = 0)
    (hinv : f k y ≠ 0 → f (invIdx k) (f k y) = y) : f' k y ≠ 0 → f' (invIdx k) (f' k y) = y := by
  simp only [e]
  by_cases c1 : invIdx i = k ∧ r = y
  · obtain ⟨rfl, rfl⟩ := c1
    rw [if_pos ⟨rfl, rfl⟩, invIdx_invIdx]
    intro _
    by_cases c : invIdx i = i ∧ r = l
    · rw [if_pos c]; exact c.2.symm
    · rw [if_neg c, if_pos ⟨rfl, rfl⟩]
  · rw [if_neg c1]
    by_cases c2 : i = k ∧ l = y
    · obtain ⟨rfl, rfl⟩ := c2
      rw [if_pos ⟨rfl, rfl⟩, if_pos ⟨rfl, rfl⟩]
      exact fun _ => rfl
    · rw [if_neg c2]
      intro hne
      -- an old image that is the new `l` or `r` cannot be: `l` and `r` were free on that side
      have old := hinv hne
      have y0 : y ≠ 0 := fun hh => hne (by rw [hh]; exact hz)
      rw [if_neg fun hh => y0 (by rw [← old, ← hh.2, ← hh.1]; exact h0),
        if_neg fun hh => y0 (by rw [← old, ← hh.2, ← hh.1]; exact h1)]
      exact old

/-- `m'` is `m` with βi l := r ; βj r := l, `j` the inverse index of `i`, on an i-free `l` and a j-free `r`
    (distinct if `i ≥ 2`) -/
theorem WFβ.link {nb : Nat} {m m' : Map X} (h : WFβ nb m) (hnb : 2 ≤ nb) {i : Nat} {l r : Nat}
    (hn : m'.n = m.n) (hu : ∀ d, m'.unused d = m.unused d)
    (e : ∀ k x, m'.β k x = if invIdx i = k ∧ r = x then l else if i = k ∧ l = x then r else m.β k x)
    (hl : l ≠ 0) (hr : r ≠ 0) (hlr : 2 ≤ i → l ≠ r) (hln : l < m.n) (hrn : r < m.n)
    (hul : m.unused l = false) (hur : m.unused r = false)
    (h1 : m.β i l = 0) (h0 : m.β (invIdx i) r = 0) : WFβ nb m' := by
  refine WFβ.of_inv hnb ?_ ?_ ?_ ?_ ?_
  · intro k hk
    rw [e, if_neg fun hh => hr hh.2, if_neg fun hh => hl hh.2]
    exact h.null k hk
  · intro k hk d hd
    rw [hn] at hd ⊢
    rw [e]
    split
    · exact hln
    · split
      · exact hrn
      · exact h.range k hk d hd
  · intro k hk d hd
    rw [hn] at hd
    exact link_inv e h1 h0 (h.null k hk) (h.inv hk hd)
  · intro k hk h2 d hd
    rw [hn] at hd
    rw [e]
    by_cases c1 : invIdx i = k ∧ r = d
    · obtain ⟨rfl, rfl⟩ := c1
      rw [if_pos ⟨rfl, rfl⟩]
      exact fun _ => hlr (by rw [← invIdx_invIdx i, invIdx_of_two_le h2]; exact h2)
    · rw [if_neg c1]
      by_cases c2 : i = k ∧ l = d
      · obtain ⟨rfl, rfl⟩ := c2
        rw [if_pos ⟨rfl, rfl⟩]
        exact fun _ hh => hlr h2 hh.symm
      · rw [if_neg c2]
        exact fun hne => (h.invol k hk h2 d hd hne).2
  · intro d hd hud k hk
    rw [hn] at hd
    rw [hu] at hud
    have hdr : r ≠ d := fun hh => by rw [← hh, hur] at hud; cases hud
    have hdl : l ≠ d := fun hh => by rw [← hh, hul] at hud; cases hud
    rw [e, if_neg fun hh => hdr hh.2, if_neg fun hh => hdl hh.2]
    exact h.unusedFree d hd hud k hk

theorem WF.linkG {nb : Nat} {m : Map X} (h : WF nb m) (hnb : 2 ≤ nb) {i : Nat} (hi : i < nb) {l r : Nat}
    (hl : l ≠ 0) (hr : r ≠ 0) (hlr : 2 ≤ i → l ≠ r) (hln : l < m.n) (hrn : r < m.n)
    (hul : m.unused l = false) (hur : m.unused r = false)
    (h1 : m.β i l = 0) (h0 : m.β (invIdx i) r = 0) : WF nb ((m.setβ i l r).setβ (invIdx i) r l) := by
  have s1 : Sized nb (m.setβ i l r) := h.toSized.setβ _ _ _
  refine ⟨s1.setβ _ _ _, h.toWFβ.link hnb rfl (fun _ => rfl) ?_ hl hr hlr hln hrn hul hur h1 h0⟩
  intro k x
  rw [s1.β_setβ (invIdx_lt hnb hi) hrn, h.toSized.β_setβ hi hln]

theorem WF.link1 {nb : Nat} {m : Map X} (h : WF nb m) (hnb : 2 ≤ nb) {l r : Nat}
    (hl : l ≠ 0) (hr : r ≠ 0) (hln : l < m.n) (hrn : r < m.n)
    (hul : m.unused l = false) (hur : m.unused r = false)
    (h1 : m.β 1 l = 0) (h0 : m.β 0 r = 0) : WF nb (m.link1 l r) :=
  h.linkG hnb (i := 1) (by omega) hl hr (fun h2 => absurd h2 (by decide)) hln hrn hul hur h1 h0

theorem WF.linkI {nb : Nat} {m : Map X} (h : WF nb m) {i : Nat} (hi2 : 2 ≤ i) (hinb : i < nb) {l r : Nat}
    (hl : l ≠ 0) (hr : r ≠ 0) (hlr : l ≠ r) (hln : l < m.n) (hrn : r < m.n)
    (hul : m.unused l = false) (hur : m.unused r = false)
    (h1 : m.β i l = 0) (h0 : m.β i r = 0) : WF nb (m.linkI i l r) := by
  unfold Map.linkI
  have := h.linkG (by omega) hinb hl hr (fun _ => hlr) hln hrn hul hur h1
    (by rw [invIdx_of_two_le hi2]; exact h0)
  rwa [invIdx_of_two_le hi2] at this

/-- `m'` is `m` with βi l := 0 ; βj (βi l) := 0, `j` the inverse index of `i` -/
theorem WFβ.unlink {nb : Nat} {m m' : Map X} (h : WFβ nb m) (hnb : 2 ≤ nb) (hpos : 0 < m.n) {i : Nat}
    (hi : i < nb) {l : Nat} (hn : m'.n = m.n) (hu : ∀ d, m'.unused d = m.unused d)
    (e : ∀ k x, m'.β k x = if invIdx i = k ∧ m.β i l = x then 0 else if i = k ∧ l = x then 0 else m.β k x)
    (hln : l < m.n) (hne : m.β i l ≠ 0) : WFβ nb m' := by
  have hback : m.β (invIdx i) (m.β i l) = l := h.inv hi hln hne
  -- an image that survives is an old image
  have old : ∀ k x, m'.β k x ≠ 0 →
      ¬ (invIdx i = k ∧ m.β i l = x) ∧ ¬ (i = k ∧ l = x) ∧ m'.β k x = m.β k x := by
    intro k x hx
    rw [e] at hx ⊢
    by_cases c1 : invIdx i = k ∧ m.β i l = x
    · rw [if_pos c1] at hx; exact absurd rfl hx
    · by_cases c2 : i = k ∧ l = x
      · rw [if_neg c1, if_pos c2] at hx; exact absurd rfl hx
      · rw [if_neg c1, if_neg c2]; exact ⟨c1, c2, rfl⟩
  refine WFβ.of_inv hnb ?_ ?_ ?_ ?_ ?_
  · intro k hk
    rw [e]
    split
    · rfl
    · split
      · rfl
      · exact h.null k hk
  · intro k hk d hd
    rw [hn] at hd ⊢
    rw [e]
    split
    · exact hpos
    · split
      · exact hpos
      · exact h.range k hk d hd
  · intro k hk d hd hne'
    rw [hn] at hd
    obtain ⟨c1, c2, ek⟩ := old k d hne'
    rw [ek] at hne' ⊢
    have hinv := h.inv hk hd hne'
    rw [e, if_neg, if_neg]
    · exact hinv
    · -- `l = βk d` with `k` the inverse index of `i`: then `d = βi l`
      rintro ⟨hk', hh⟩
      rw [← hh, ← hk'] at hinv
      exact c1 ⟨by rw [hk', invIdx_invIdx], hinv⟩
    · -- `βi l = βi d`: then `l = d`
      rintro ⟨hk', hh⟩
      obtain rfl := invIdx_inj hk'
      rw [← hh, hback] at hinv
      exact c2 ⟨rfl, hinv⟩
  · intro k hk h2 d hd hne'
    rw [hn] at hd
    obtain ⟨_, _, ek⟩ := old k d hne'
    rw [ek] at hne' ⊢
    exact (h.invol k hk h2 d hd hne').2
  · intro d hd hud k hk
    rw [hn] at hd
    rw [hu] at hud
    rw [e]
    split
    · rfl
    · split
      · rfl
      · exact h.unusedFree d hd hud k hk

theorem WF.unlinkG {nb : Nat} {m : Map X} (h : WF nb m) (hnb : 2 ≤ nb) {i : Nat} (hi : i < nb) {l : Nat}
    (hln : l < m.n) (hne : m.β i l ≠ 0) : WF nb ((m.setβ i l 0).setβ (invIdx i) (m.β i l) 0) := by
  have s1 : Sized nb (m.setβ i l 0) := h.toSized.setβ _ _ _
  refine ⟨s1.setβ _ _ _, h.toWFβ.unlink hnb h.npos hi rfl (fun _ => rfl) ?_ hln hne⟩
  intro k x
  rw [s1.β_setβ (invIdx_lt hnb hi) (h.range i hi l hln), h.toSized.β_setβ hi hln]

theorem WF.unlink1 {nb : Nat} {m : Map X} (h : WF nb m) (hnb : 2 ≤ nb) {l : Nat}
    (hln : l < m.n) (hne : m.β 1 l ≠ 0) : WF nb (m.unlink1 l) :=
  h.unlinkG hnb (i := 1) (by omega) hln hne

theorem WF.unlinkI {nb : Nat} {m : Map X} (h : WF nb m) {i : Nat} (hi2 : 2 ≤ i) (hinb : i < nb) {l : Nat}
    (hln : l < m.n) (hne : m.β i l ≠ 0) : WF nb (m.unlinkI i l) := by
  unfold Map.unlinkI
  have := h.unlinkG (by omega) hinb hln hne
  rwa [invIdx_of_two_le hi2] at this

/-! ## allocation -/

theorem rd_map {α β : Type} [Inhabited α] [Inhabited β] (a : Array α) (f : α → β) (i : Nat)
    (h : i < a.size) : rd (a.map f) i = f (rd a i) := by
  unfold rd
  simp [Array.getD_eq_getD_getElem?, h]

theorem addFreeDarts_n (m : Map X) (k : Nat) : (m.addFreeDarts k).2.n = m.n + k := rfl
theorem addFreeDarts_fst (m : Map X) (k : Nat) : (m.addFreeDarts k).1 = m.n := rfl

theorem addFreeDarts_β {nb : Nat} {m : Map X} (h : Sized nb m) (k i d : Nat) (hi : i < nb) :
    (m.addFreeDarts k).2.β i d = if d < m.n then m.β i d else 0 := by
  unfold Map.addFreeDarts Map.β
  simp only
  rw [rd_map _ _ _ (by rw [h.rows]; exact hi)]
  have hs := h.row i hi
  split
  · rename_i hd; exact rd_ext_lt _ _ _ _ (by omega)
  · rename_i hd
    by_cases h2 : d < m.n + k
    · exact rd_ext_ge _ _ _ _ (by omega) (by omega)
    · rw [rd_oob]; rfl; rw [size_ext]; omega

theorem addFreeDarts_unused {nb : Nat} {m : Map X} (h : Sized nb m) (k d : Nat) :
    (m.addFreeDarts k).2.unused d = if d < m.n then m.unused d else false := by
  unfold Map.addFreeDarts Map.unused
  simp only
  have hs := h.usz
  split
  · rename_i hd; exact rd_ext_lt _ _ _ _ (by omega)
  · rename_i hd
    by_cases h2 : d < m.n + k
    · exact rd_ext_ge _ _ _ _ (by omega) (by omega)
    · rw [rd_oob]; rfl; rw [size_ext]; omega

theorem Sized.addFreeDarts {nb : Nat} {m : Map X} (h : Sized nb m) (k : Nat) :
    Sized nb (m.addFreeDarts k).2 := by
  refine ⟨?_, ?_, ?_, ?_, ?_⟩
  · show 0 < m.n + k; have := h.npos; omega
  · simp [Map.addFreeDarts, h.rows]
  · intro i hi
    show (rd (m.b.map (fun row => ext row k 0)) i).size = m.n + k
    rw [rd_map _ _ _ (by rw [h.rows]; exact hi), size_ext, h.row i hi]
  · show (ext m.u k false).size = m.n + k
    rw [size_ext, h.usz]
  · intro s hs
    have hs' : s < m.a.size := by simpa [Map.addFreeDarts] using hs
    show m.n + k ≤ (rd (m.a.map (fun st => ext st k (none : Option X))) s).size
    rw [rd_map _ _ _ hs', size_ext]
    have := h.asz s hs'; omega

theorem WF.addFreeDarts {nb : Nat} {m : Map X} (h : WF nb m) (hnb : 2 ≤ nb) (k : Nat) :
    WF nb (m.addFreeDarts k).2 := by
  have hs := h.toSized
  refine ⟨hs.addFreeDarts k, ?_⟩
  have eβ := fun i d (hi : i < nb) => addFreeDarts_β hs k i d hi
  have eu := addFreeDarts_unused hs k
  have hn : (m.addFreeDarts k).2.n = m.n + k := rfl
  have hpos := hs.npos
  refine WFβ.of_inv hnb ?_ ?_ ?_ ?_ ?_
  · intro i hi; rw [eβ i 0 hi]; simp [hpos]; exact h.null i hi
  · intro i hi d hd
    rw [eβ i d hi, hn]
    split
    · rename_i hd'; have := h.range i hi d hd'; omega
    · omega
  · intro i hi d _
    rw [eβ i d hi]
    by_cases hd : d < m.n
    · simp only [hd, if_true]
      intro hne
      rw [eβ _ _ (invIdx_lt hnb hi)]
      simp only [h.range i hi d hd, if_true]
      exact h.toWFβ.inv hi hd hne
    · simp [hd]
  · intro i hi h2 d _
    rw [eβ i d hi]
    by_cases hd : d < m.n
    · simp only [hd, if_true]
      exact fun hne => (h.invol i hi h2 d hd hne).2
    · simp [hd]
  · intro d _ hud i hi
    rw [eβ i d hi]
    rw [eu] at hud
    by_cases hd : d < m.n
    · simp only [hd, if_true] at hud ⊢
      exact h.unusedFree d hd hud i hi
    · simp [hd]

/-! ### insert_free_dart -/

theorem firstUnused_some {u : Array Bool} {d : Nat} (h : firstUnused u = some d) :
    d < u.size ∧ rd u d = true := by
  unfold firstUnused at h
  have := List.find?_some h
  have hm := List.mem_of_find?_eq_some h
  simp at hm
  exact ⟨hm, by simpa using this⟩

theorem Sized.unused_setU {nb : Nat} {m : Map X} (h : Sized nb m) {d : Nat} (hd : d < m.n) (v : Bool) (e : Nat) :
    (m.setU d v).unused e = if d = e then v else m.unused e := by
  rw [Map.unused_setU]
  have : m.okU d = true := (h.okU d).2 hd
  simp [this]

/-- clearing or setting a flag of a *free* dart keeps the map well-formed -/
theorem WF.setU_free {nb : Nat} {m : Map X} (h : WF nb m) {d : Nat} (hd : d < m.n) (v : Bool)
    (hfree : ∀ i, i < nb → m.β i d = 0) : WF nb (m.setU d v) := by
  refine ⟨h.toSized.setU d v, ?_⟩
  have eu := h.toSized.unused_setU hd v
  constructor
  · exact h.null
  · exact h.range
  · exact h.inv01
  · exact h.inv10
  · exact h.invol
  · intro e he hue i hi
    show m.β i e = 0
    rw [eu] at hue
    by_cases hde : d = e
    · subst hde; exact hfree i hi
    · simp only [hde, if_false] at hue
      exact h.unusedFree e he hue i hi

theorem WF.insertFreeDart {nb : Nat} {m : Map X} (h : WF nb m) (hnb : 2 ≤ nb) : WF nb m.insertFreeDart.2 := by
  unfold Map.insertFreeDart
  split
  · rename_i d hd
    obtain ⟨hlt, hu⟩ := firstUnused_some hd
    rw [h.usz] at hlt
    exact h.setU_free hlt false (fun i hi => h.unusedFree d hlt hu i hi)
  · exact h.addFreeDarts hnb 1

/-! ### remove_free_dart -/

theorem isFree_iff (m : Map X) (nb d : Nat) : m.isFree nb d = true ↔ ∀ i, i < nb → m.β i d = 0 := by
  unfold Map.isFree
  simp [List.all_eq_true]

theorem run_removeFreeDartTx (m : Map X) (d : Nat) :
    run (removeFreeDartTx (X := X) d) m =
      if m.okU d then (.ok (m.unused d), m.setU d true) else (.panic, m) := by
  unfold removeFreeDartTx
  simp only [bind, run_rU, run_wU, Prog.pure_eq, run_ret]
  split <;> rfl

theorem WF.removeFreeDart {nb : Nat} {m : Map X} (h : WF nb m) (d : Nat) :
    WF nb (m.removeFreeDart nb d).2 := by
  unfold Map.removeFreeDart
  split
  · rename_i hd
    split
    · rename_i hfree
      have hfree' := (isFree_iff m nb d).1 hfree
      have hw := h.setU_free hd true hfree'
      unfold atomically
      rw [run_removeFreeDartTx]
      have : m.okU d = true := (h.toSized.okU d).2 hd
      simp only [this, if_true]
      cases m.unused d <;> exact hw
    · exact h
  · exact h

end HC

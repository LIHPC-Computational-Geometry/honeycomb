/-
  Facts about lists that mention nothing of the development, for modules that would otherwise import a property
  file for their sake.  Core Lean only.
-/

namespace HC.ListFacts

theorem getLastD_mem : ∀ (l : List Nat) (e : Nat), l.getLastD e ∈ e :: l := by
  intro l
  induction l with
  | nil => intro e; simp
  | cons x rest ih =>
      intro e
      rw [List.getLastD_cons]
      exact List.mem_cons_of_mem _ (ih x)

theorem getLastD_not_mem_dropLast : ∀ (l : List Nat) (e : Nat), (e :: l).Nodup → l.getLastD e ∉ (e :: l).dropLast := by
  intro l
  induction l with
  | nil => intro e _; simp [List.dropLast]
  | cons x rest ih =>
      intro e hnd
      rw [List.getLastD_cons, List.dropLast_cons_of_ne_nil (by simp)]
      simp only [List.nodup_cons] at hnd
      simp only [List.mem_cons, not_or]
      exact ⟨fun hh => hnd.1 (hh ▸ getLastD_mem rest x), ih x (by simp only [List.nodup_cons]; exact hnd.2)⟩

/-- a list with three distinct members has at least three elements -/
theorem three_le_of_mem {l : List Nat} {a b c : Nat} (ha : a ∈ l) (hb : b ∈ l) (hc : c ∈ l)
    (hab : a ≠ b) (hac : a ≠ c) (hbc : b ≠ c) : 3 ≤ l.length := by
  have h1 : [a, b, c].Nodup := by simp [hab, hac, hbc]
  have h2 : [a, b, c] ⊆ l := by
    intro x hx
    simp only [List.mem_cons, List.not_mem_nil, or_false] at hx
    rcases hx with rfl | rfl | rfl <;> assumption
  exact h1.length_le_of_subset h2

end HC.ListFacts

namespace HC

theorem length_lt_of_nodup {l : List Nat} {n : Nat} (hpos : 0 < n) (hn : l.Nodup)
    (h0 : ∀ x, x ∈ l → x ≠ 0) (hlt : ∀ x, x ∈ l → x < n) : l.length < n := by
  have h1 : (0 :: l).Nodup := List.nodup_cons.2 ⟨fun h => h0 0 h rfl, hn⟩
  have h2 : (0 :: l) ⊆ List.range n := by
    intro x hx
    rcases List.mem_cons.1 hx with rfl | hx
    · exact List.mem_range.2 hpos
    · exact List.mem_range.2 (hlt x hx)
  have := h1.length_le_of_subset h2
  simp at this
  omega

theorem surj_of_inj_on_list {l : List Nat} {f : Nat → Nat} (hn : l.Nodup)
    (hmap : ∀ x, x ∈ l → f x ∈ l) (hinj : ∀ a b, a ∈ l → b ∈ l → f a = f b → a = b) :
    ∀ b, b ∈ l → ∃ y, y ∈ l ∧ f y = b := by
  intro b hb
  have hnd : (l.map f).Nodup := by
    unfold List.Nodup
    rw [List.pairwise_map]
    exact List.Pairwise.imp_of_mem (fun ha hb' hab hf => hab (hinj _ _ ha hb' hf)) hn
  by_cases hmem : b ∈ l.map f
  · obtain ⟨y, hy, e⟩ := List.mem_map.1 hmem
    exact ⟨y, hy, e⟩
  · exfalso
    have h1 : (b :: l.map f).Nodup := List.nodup_cons.2 ⟨hmem, hnd⟩
    have h2 : (b :: l.map f) ⊆ l := by
      intro x hx
      rcases List.mem_cons.1 hx with rfl | hx
      · exact hb
      · obtain ⟨y, hy, e⟩ := List.mem_map.1 hx
        subst e; exact hmap y hy
    have := h1.length_le_of_subset h2
    simp at this
    omega

end HC

/-
  Edges of the 3-D hex grid as computed by the code (`edge_id_transac`: traversal over β2, β3, and
  `iter_edges`): the darts round a geometric edge of the lattice (up to 4 cells × 2 darts) form one
  edge cell, `edge_id` is its smallest dart, and `iter_edges` yields
  `nx·(ny+1)·(nz+1) + (nx+1)·ny·(nz+1) + (nx+1)·(ny+1)·nz` identifiers for every size.
-/
import Honeycomb.Lemmas.Grid3Vertex
import Honeycomb.Lemmas.GridCount

namespace HC.Grid3Edge
open HC HC.Gen HC.Grid3Vertex HC.GridCount

/-- lower / upper end of the edge run by local dart `o`, as corners of the cell -/
def elo (o : Nat) : Nat × Nat × Nat :=
  (min (kap o).1 (kap (pp 1 o)).1, min (kap o).2.1 (kap (pp 1 o)).2.1, min (kap o).2.2 (kap (pp 1 o)).2.2)
def ehi (o : Nat) : Nat × Nat × Nat :=
  (max (kap o).1 (kap (pp 1 o)).1, max (kap o).2.1 (kap (pp 1 o)).2.1, max (kap o).2.2 (kap (pp 1 o)).2.2)

theorem hexEdgeFacts : ∀ o, o < 24 →
    elo (pp 2 o) = elo o ∧ ehi (pp 2 o) = ehi o ∧
    CornerRel (dir3 o) (elo (pp 3 o)) (elo o) ∧ CornerRel (dir3 o) (ehi (pp 3 o)) (ehi o) ∧
    (ehi o).1 ≤ 1 ∧ (ehi o).2.1 ≤ 1 ∧ (ehi o).2.2 ≤ 1 ∧
    (elo o).1 ≤ (ehi o).1 ∧ (elo o).2.1 ≤ (ehi o).2.1 ∧ (elo o).2.2 ≤ (ehi o).2.2 ∧
    (ehi o = ((elo o).1 + 1, (elo o).2.1, (elo o).2.2) ∨ ehi o = ((elo o).1, (elo o).2.1 + 1, (elo o).2.2) ∨
      ehi o = ((elo o).1, (elo o).2.1, (elo o).2.2 + 1)) := by decide +kernel

theorem hexEdgeWithin : ∀ o, o < 24 → ∀ o', o' < 24 → (elo o' = elo o ∧ ehi o' = ehi o) →
    o' = o ∨ o' = pp 2 o := by decide +kernel

theorem hexEdgeFace : ∀ o, o < 24 → ∀ dir, dir < 7 → Compat dir (elo o) → Compat dir (ehi o) →
    dir3 o = dir ∨ dir3 (pp 2 o) = dir := by decide +kernel

theorem hexEdgeExists : ∀ ax, ax < 3 → ∀ k1, k1 < 2 → ∀ k2, k2 < 2 →
    (List.range 24).any (fun o => decide (
      (ax = 0 → elo o = (0, k1, k2) ∧ ehi o = (1, k1, k2)) ∧
      (ax = 1 → elo o = (k1, 0, k2) ∧ ehi o = (k1, 1, k2)) ∧
      (ax = 2 → elo o = (k1, k2, 0) ∧ ehi o = (k1, k2, 1)))) = true := by decide +kernel

/-- non-transactional `edge_id` (3-D) -/
def eid3 (m : Map Val) (d : Nat) : Nat := okVal (run (edgeId3 m.n d) m) 0

variable {nx ny nz : Nat} {m : Map Val}

/-- the geometric edge of local dart `o` of cell `(a, b, c)`: its two lattice end points -/
def EK (a b c o : Nat) : (Nat × Nat × Nat) × (Nat × Nat × Nat) :=
  ((a + (elo o).1, b + (elo o).2.1, c + (elo o).2.2), (a + (ehi o).1, b + (ehi o).2.1, c + (ehi o).2.2))

/-- the geometric edge of dart `d` -/
def ek (nx ny d : Nat) : (Nat × Nat × Nat) × (Nat × Nat × Nat) :=
  EK ((d - 1) / 24 % nx) ((d - 1) / 24 / nx % ny) ((d - 1) / 24 / (nx * ny)) ((d - 1) % 24)

theorem ek_D {a b c o : Nat} (ha : a < nx) (hb : b < ny) (ho : o < 24) :
    ek nx ny (D3 nx ny a b c o) = EK a b c o := by
  unfold ek D3
  rw [dartOf_cell ho, dartOf_local ho, cellIdx_x ha, cellIdx_y ha hb, cellIdx_z ha hb]

theorem isD3_ek {a b c o a' b' c' o' : Nat} (ha : a < nx) (hb : b < ny) (ho : o < 24) (ha' : a' < nx) (hb' : b' < ny)
    (hc' : c' < nz) (ho' : o' < 24) (hp : EK a' b' c' o' = EK a b c o) :
    IsD3 nx ny nz (D3 nx ny a' b' c' o') ∧ ek nx ny (D3 nx ny a' b' c' o') = ek nx ny (D3 nx ny a b c o) :=
  ⟨⟨a', b', c', o', ha', hb', hc', ho', rfl⟩, by rw [ek_D ha' hb' ho', ek_D ha hb ho, hp]⟩

theorem edge_closed (st : SameTopo (H3 nx ny nz) m) {x : Nat} (hx : IsD3 nx ny nz x) :
    ∀ y, y ∈ C03.g3 m .edge x → y = 0 ∨ IsD3 nx ny nz y ∧ ek nx ny y = ek nx ny x := by
  obtain ⟨a, b, c, o, ha, hb, hc, ho, rfl⟩ := hx
  obtain ⟨e1, e2, e3, e4, _⟩ := hexEdgeFacts o ho
  obtain ⟨_, _, _, _, _, q2, q3, d1, d6, _⟩ := hexFacts o ho
  intro y hy
  simp only [C03.g3, List.mem_cons, List.not_mem_nil, or_false] at hy
  rcases hy with rfl | rfl
  · right
    rw [βw st ha hb hc ho (by decide)]
    exact isD3_ek ha hb ho ha hb hc q2 (by rw [EK, e1, e2]; rfl)
  · rcases β3_cases st ha hb hc ho with h | ⟨a', b', c', ha', hb', hc', hn, h⟩
    · exact Or.inl h
    · right
      rw [h]
      exact isD3_ek ha hb ho ha' hb' hc' q3 (by rw [EK, pt_shift d6 hn e3, pt_shift d6 hn e4]; rfl)

variable {M : List Nat}

theorem edge_within (st : SameTopo (H3 nx ny nz) m)
    (hM : ∀ x, x ∈ M → x ≠ 0 → ∀ y, y ∈ C03.g3 m .edge x → y ∈ M) {a b c o o' : Nat} (ha : a < nx) (hb : b < ny)
    (hc : c < nz) (ho : o < 24) (ho' : o' < 24) (h1 : elo o' = elo o) (h2 : ehi o' = ehi o)
    (hx : D3 nx ny a b c o ∈ M) : D3 nx ny a b c o' ∈ M := by
  rcases hexEdgeWithin o ho o' ho' ⟨h1, h2⟩ with rfl | rfl
  · exact hx
  · have := hM _ hx D3_ne_zero (m.β 2 (D3 nx ny a b c o)) (by simp [C03.g3])
    rwa [βw st ha hb hc ho (by decide)] at this

/-- crossing a face that contains the edge -/
theorem edge_move (st : SameTopo (H3 nx ny nz) m)
    (hM : ∀ x, x ∈ M → x ≠ 0 → ∀ y, y ∈ C03.g3 m .edge x → y ∈ M) {a b c o a' b' c' dir : Nat}
    (ha : a < nx) (hb : b < ny) (hc : c < nz) (ho : o < 24) (ha' : a' < nx) (hb' : b' < ny) (hc' : c' < nz)
    (hd : dir ≤ 6) (c1 : Compat dir (elo o)) (c2 : Compat dir (ehi o))
    (hn : Nbr dir a b c a' b' c') (hx : D3 nx ny a b c o ∈ M) :
    ∃ o1, o1 < 24 ∧ D3 nx ny a' b' c' o1 ∈ M ∧ EK a' b' c' o1 = EK a b c o := by
  have key : ∀ o2, o2 < 24 → D3 nx ny a b c o2 ∈ M → dir3 o2 = dir → EK a b c o2 = EK a b c o →
      ∃ o1, o1 < 24 ∧ D3 nx ny a' b' c' o1 ∈ M ∧ EK a' b' c' o1 = EK a b c o := by
    intro o2 ho2 hm hdir hk
    obtain ⟨_, _, e3, e4, _⟩ := hexEdgeFacts o2 ho2
    have q3 := hex_pp_lt 3 (by decide) ho2
    have him := hM _ hm D3_ne_zero (m.β 3 (D3 nx ny a b c o2)) (by simp [C03.g3])
    rw [β3_nbr st ha hb hc ho2 (hdir ▸ hn) ha' hb' hc'] at him
    rw [hdir] at e3 e4
    refine ⟨_, q3, him, ?_⟩
    rw [← hk]
    unfold EK
    rw [pt_shift hd hn e3, pt_shift hd hn e4]
  rcases hexEdgeFace o ho dir (by omega) c1 c2 with h | h
  · exact key o ho hx h rfl
  · obtain ⟨e1, e2, _⟩ := hexEdgeFacts o ho
    have q2 := hex_pp_lt 2 (by decide) ho
    have h2 := hM _ hx D3_ne_zero (m.β 2 (D3 nx ny a b c o)) (by simp [C03.g3])
    rw [βw st ha hb hc ho (by decide)] at h2
    refine key _ q2 h2 h ?_
    unfold EK
    rw [e1, e2]

theorem edge_reach (st : SameTopo (H3 nx ny nz) m)
    (hM : ∀ x, x ∈ M → x ≠ 0 → ∀ y, y ∈ C03.g3 m .edge x → y ∈ M) {x y : Nat} (hx : IsD3 nx ny nz x)
    (hy : IsD3 nx ny nz y) (hp : ek nx ny y = ek nx ny x) (hxM : x ∈ M) : y ∈ M := by
  obtain ⟨a, b, c, o, ha, hb, hc, ho, rfl⟩ := hx
  obtain ⟨a', b', c', o', ha', hb', hc', ho', rfl⟩ := hy
  rw [ek_D ha' hb' ho', ek_D ha hb ho] at hp
  refine box_reach (lo := elo) (hi := ehi) ?_ (edge_within st hM) (edge_move st hM) ha hb hc ho ha' hb' hc' ho' hp hxM
  intro o ho
  obtain ⟨_, _, _, _, k1, k2, k3, l1, l2, l3, _⟩ := hexEdgeFacts o ho
  exact ⟨k1, k2, k3, l1, l2, l3⟩

/-! ## `edge_id` -/

theorem eid3_spec (hnx : 0 < nx) (hny : 0 < ny) (st : SameTopo (H3 nx ny nz) m) {d : Nat}
    (hd : IsD3 nx ny nz d) :
    eid3 m d ∈ cls (24 * nx * ny * nz + 1) (ek nx ny) (ek nx ny d) ∧
      ∀ y, y ∈ cls (24 * nx * ny * nz + 1) (ek nx ny) (ek nx ny d) → eid3 m d ≤ y := by
  have wf : WF 4 m := (H3_wf nz hnx hny).sameTopo st
  have hn : m.n = 24 * nx * ny * nz + 1 := st.n
  have e : eid3 m d = cidG (C03.g3 m .edge) (24 * nx * ny * nz + 1) d := by
    unfold eid3
    rw [(C03.C03_edgeId3_min wf hd.ne_zero (hn ▸ hd.lt)).1, ← hn]
    rfl
  rw [e]
  exact cid_least hnx hny (hn ▸ C03.g3_ok wf .edge trivial) (fun x hx => edge_closed st hx)
    (fun M hM x y hx hy hk => edge_reach st hM hx hy hk) hd

theorem eid3_same (hnx : 0 < nx) (hny : 0 < ny) (st : SameTopo (H3 nx ny nz) m) {d e : Nat}
    (hd : IsD3 nx ny nz d) (he : IsD3 nx ny nz e) (hp : ek nx ny d = ek nx ny e) : eid3 m d = eid3 m e := by
  have h := eid3_spec hnx hny st hd
  rw [hp] at h
  exact min_unique h (eid3_spec hnx hny st he) fun _ => Iff.rfl

theorem eid3_key (hnx : 0 < nx) (hny : 0 < ny) (st : SameTopo (H3 nx ny nz) m) {d : Nat}
    (hd : IsD3 nx ny nz d) : ek nx ny (eid3 m d) = ek nx ny d ∧ IsD3 nx ny nz (eid3 m d) :=
  have h := (eid3_spec hnx hny st hd).1
  ⟨(mem_cls.mp h).2.2, isD3_of_mem_cls hnx hny h⟩

/-! ## counting the edge identifiers -/

/-- a geometric edge of the `nx × ny × nz` lattice: lower end and upper end one step along an axis -/
def VK (nx ny nz : Nat) (k : (Nat × Nat × Nat) × (Nat × Nat × Nat)) : Prop :=
  (k.2 = (k.1.1 + 1, k.1.2.1, k.1.2.2) ∧ k.1.1 < nx ∧ k.1.2.1 ≤ ny ∧ k.1.2.2 ≤ nz) ∨
  (k.2 = (k.1.1, k.1.2.1 + 1, k.1.2.2) ∧ k.1.1 ≤ nx ∧ k.1.2.1 < ny ∧ k.1.2.2 ≤ nz) ∨
  (k.2 = (k.1.1, k.1.2.1, k.1.2.2 + 1) ∧ k.1.1 ≤ nx ∧ k.1.2.1 ≤ ny ∧ k.1.2.2 < nz)

/-- coding of the geometric edges by one number: x-edges, then y-edges, then z-edges -/
def kcode (nx ny nz : Nat) (k : (Nat × Nat × Nat) × (Nat × Nat × Nat)) : Nat :=
  if k.2.1 ≠ k.1.1 then cellIdx nx (ny + 1) k.1.1 k.1.2.1 k.1.2.2
  else if k.2.2.1 ≠ k.1.2.1 then nx * (ny + 1) * (nz + 1) + cellIdx (nx + 1) ny k.1.1 k.1.2.1 k.1.2.2
  else nx * (ny + 1) * (nz + 1) + (nx + 1) * ny * (nz + 1) + cellIdx (nx + 1) (ny + 1) k.1.1 k.1.2.1 k.1.2.2

theorem vk_EK {a b c o : Nat} (ha : a < nx) (hb : b < ny) (hc : c < nz) (ho : o < 24) :
    VK nx ny nz (EK a b c o) := by
  obtain ⟨_, _, _, _, k1, k2, k3, l1, l2, l3, ax⟩ := hexEdgeFacts o ho
  have x := add_bit_le ha (Nat.le_trans l1 k1)
  have y := add_bit_le hb (Nat.le_trans l2 k2)
  have z := add_bit_le hc (Nat.le_trans l3 k3)
  unfold VK EK
  rcases ax with h | h | h <;> rw [h] at k1 k2 k3 ⊢
  · exact Or.inl ⟨rfl, add_bit_lt ha k1, y, z⟩
  · exact Or.inr (Or.inl ⟨rfl, x, add_bit_lt hb k2, z⟩)
  · exact Or.inr (Or.inr ⟨rfl, x, y, add_bit_lt hc k3⟩)

theorem kcode_lt {k : (Nat × Nat × Nat) × (Nat × Nat × Nat)} (h : VK nx ny nz k) :
    kcode nx ny nz k < nx * (ny + 1) * (nz + 1) + (nx + 1) * ny * (nz + 1) + (nx + 1) * (ny + 1) * nz := by
  obtain ⟨⟨i, j, l⟩, ⟨i2, j2, l2⟩⟩ := k
  unfold kcode
  rcases h with ⟨e, h1, h2, h3⟩ | ⟨e, h1, h2, h3⟩ | ⟨e, h1, h2, h3⟩ <;> simp only [Prod.mk.injEq] at e h1 h2 h3 <;>
    obtain ⟨e1, e2, e3⟩ := e <;> subst i2 j2 l2 <;> simp only
  · have := cellIdx_lt (nx := nx) (ny := ny + 1) (nz := nz + 1) (ix := i) (iy := j) (iz := l) h1 (by omega) (by omega)
    simp; omega
  · have := cellIdx_lt (nx := nx + 1) (ny := ny) (nz := nz + 1) (ix := i) (iy := j) (iz := l) (by omega) h2 (by omega)
    simp; omega
  · have := cellIdx_lt (nx := nx + 1) (ny := ny + 1) (nz := nz) (ix := i) (iy := j) (iz := l) (by omega) (by omega) h3
    simp; omega

theorem cellIdx_inj3 {n1 n2 i j l i' j' l' : Nat} (hi : i < n1) (hj : j < n2) (hi' : i' < n1) (hj' : j' < n2)
    (h : cellIdx n1 n2 i j l = cellIdx n1 n2 i' j' l') : i = i' ∧ j = j' ∧ l = l' := by
  refine ⟨?_, ?_, ?_⟩
  · rw [← cellIdx_x (ny := n2) (iy := j) (iz := l) hi, h, cellIdx_x hi']
  · rw [← cellIdx_y (iz := l) hi hj, h, cellIdx_y hi' hj']
  · rw [← cellIdx_z (iz := l) hi hj, h, cellIdx_z hi' hj']

theorem kcode_inj {k k' : (Nat × Nat × Nat) × (Nat × Nat × Nat)} (h : VK nx ny nz k) (h' : VK nx ny nz k')
    (e : kcode nx ny nz k = kcode nx ny nz k') : k = k' := by
  obtain ⟨⟨i, j, l⟩, ⟨i2, j2, l2⟩⟩ := k
  obtain ⟨⟨i', j', l'⟩, ⟨i2', j2', l2'⟩⟩ := k'
  unfold kcode at e
  rcases h with ⟨q, h1, h2, h3⟩ | ⟨q, h1, h2, h3⟩ | ⟨q, h1, h2, h3⟩ <;>
    rcases h' with ⟨q', h1', h2', h3'⟩ | ⟨q', h1', h2', h3'⟩ | ⟨q', h1', h2', h3'⟩ <;>
    simp only [Prod.mk.injEq] at q q' h1 h2 h3 h1' h2' h3' <;>
    obtain ⟨e1, e2, e3⟩ := q <;> obtain ⟨e1', e2', e3'⟩ := q' <;> subst i2 j2 l2 i2' j2' l2' <;>
    simp only at e
  · simp at e
    obtain ⟨a, b, c⟩ := cellIdx_inj3 (n1 := nx) (n2 := ny + 1) h1 (by omega) h1' (by omega) e
    subst a b c; rfl
  · have := cellIdx_lt (nx := nx) (ny := ny + 1) (nz := nz + 1) (ix := i) (iy := j) (iz := l) h1 (by omega) (by omega)
    simp at e; omega
  · have := cellIdx_lt (nx := nx) (ny := ny + 1) (nz := nz + 1) (ix := i) (iy := j) (iz := l) h1 (by omega) (by omega)
    simp at e; omega
  · have := cellIdx_lt (nx := nx) (ny := ny + 1) (nz := nz + 1) (ix := i') (iy := j') (iz := l') h1' (by omega) (by omega)
    simp at e; omega
  · simp at e
    obtain ⟨a, b, c⟩ := cellIdx_inj3 (n1 := nx + 1) (n2 := ny) (by omega) h2 (by omega) h2' e
    subst a b c; rfl
  · have := cellIdx_lt (nx := nx + 1) (ny := ny) (nz := nz + 1) (ix := i) (iy := j) (iz := l) (by omega) h2 (by omega)
    simp at e; omega
  · have := cellIdx_lt (nx := nx) (ny := ny + 1) (nz := nz + 1) (ix := i') (iy := j') (iz := l') h1' (by omega) (by omega)
    simp at e; omega
  · have := cellIdx_lt (nx := nx + 1) (ny := ny) (nz := nz + 1) (ix := i') (iy := j') (iz := l') (by omega) h2' (by omega)
    simp at e; omega
  · simp at e
    obtain ⟨a, b, c⟩ := cellIdx_inj3 (n1 := nx + 1) (n2 := ny + 1) (by omega) (by omega) (by omega) (by omega) e
    subst a b c; rfl

theorem kcode_surj (hnx : 0 < nx) (hny : 0 < ny) {t : Nat}
    (ht : t < nx * (ny + 1) * (nz + 1) + (nx + 1) * ny * (nz + 1) + (nx + 1) * (ny + 1) * nz) :
    ∃ k, VK nx ny nz k ∧ kcode nx ny nz k = t := by
  by_cases c1 : t < nx * (ny + 1) * (nz + 1)
  · obtain ⟨i, j, l, hi, hj, hl, e⟩ := cellIdx_surj (n1 := nx) (n2 := ny + 1) (n3 := nz + 1) hnx (by omega) c1
    refine ⟨((i, j, l), (i + 1, j, l)), Or.inl ⟨rfl, hi, by simp only; omega, by simp only; omega⟩, ?_⟩
    unfold kcode; simp [e]
  · by_cases c2 : t < nx * (ny + 1) * (nz + 1) + (nx + 1) * ny * (nz + 1)
    · obtain ⟨i, j, l, hi, hj, hl, e⟩ := cellIdx_surj (n1 := nx + 1) (n2 := ny) (n3 := nz + 1)
        (s := t - nx * (ny + 1) * (nz + 1)) (by omega) hny (by omega)
      refine ⟨((i, j, l), (i, j + 1, l)), Or.inr (Or.inl ⟨rfl, by simp only; omega, hj, by simp only; omega⟩), ?_⟩
      unfold kcode; simp [e]; omega
    · obtain ⟨i, j, l, hi, hj, hl, e⟩ := cellIdx_surj (n1 := nx + 1) (n2 := ny + 1) (n3 := nz)
        (s := t - (nx * (ny + 1) * (nz + 1) + (nx + 1) * ny * (nz + 1))) (by omega) (by omega) (by omega)
      refine ⟨((i, j, l), (i, j, l + 1)), Or.inr (Or.inr ⟨rfl, by simp only; omega, by simp only; omega, hl⟩), ?_⟩
      unfold kcode; simp [e]; omega

theorem dart_of_key (hnx : 0 < nx) (hny : 0 < ny) (hnz : 0 < nz) {k : (Nat × Nat × Nat) × (Nat × Nat × Nat)}
    (h : VK nx ny nz k) : ∃ d, IsD3 nx ny nz d ∧ ek nx ny d = k := by
  obtain ⟨⟨i, j, l⟩, hi⟩ := k
  have pick : ∀ ax, ax < 3 → ∀ k1, k1 < 2 → ∀ k2, k2 < 2 → ∃ o, o < 24 ∧
      (ax = 0 → elo o = (0, k1, k2) ∧ ehi o = (1, k1, k2)) ∧
      (ax = 1 → elo o = (k1, 0, k2) ∧ ehi o = (k1, 1, k2)) ∧
      (ax = 2 → elo o = (k1, k2, 0) ∧ ehi o = (k1, k2, 1)) := by
    intro ax hax k1 hk1 k2 hk2
    have := hexEdgeExists ax hax k1 hk1 k2 hk2
    rw [List.any_eq_true] at this
    obtain ⟨o, ho, h⟩ := this
    refine ⟨o, List.mem_range.mp ho, ?_⟩
    simp only [decide_eq_true_eq] at h
    exact h
  rcases h with ⟨e, h1, h2, h3⟩ | ⟨e, h1, h2, h3⟩ | ⟨e, h1, h2, h3⟩ <;> simp only at e h1 h2 h3 <;> subst e
  · obtain ⟨b, κ1, hb, hκ1, e1⟩ := cell_bit hny h2
    obtain ⟨c, κ2, hc, hκ2, e2⟩ := cell_bit hnz h3
    obtain ⟨o, ho, p0, _, _⟩ := pick 0 (by decide) κ1 hκ1 κ2 hκ2
    obtain ⟨q1, q2⟩ := p0 rfl
    refine ⟨D3 nx ny i b c o, ⟨i, b, c, o, h1, hb, hc, ho, rfl⟩, ?_⟩
    rw [ek_D h1 hb ho]; unfold EK; rw [q1, q2]; simp only [Nat.add_zero]; rw [e1, e2]
  · obtain ⟨a, κ1, ha, hκ1, e1⟩ := cell_bit hnx h1
    obtain ⟨c, κ2, hc, hκ2, e2⟩ := cell_bit hnz h3
    obtain ⟨o, ho, _, p1, _⟩ := pick 1 (by decide) κ1 hκ1 κ2 hκ2
    obtain ⟨q1, q2⟩ := p1 rfl
    refine ⟨D3 nx ny a j c o, ⟨a, j, c, o, ha, h2, hc, ho, rfl⟩, ?_⟩
    rw [ek_D ha h2 ho]; unfold EK; rw [q1, q2]; simp only [Nat.add_zero]; rw [e1, e2]
  · obtain ⟨a, κ1, ha, hκ1, e1⟩ := cell_bit hnx h1
    obtain ⟨b, κ2, hb, hκ2, e2⟩ := cell_bit hny h2
    obtain ⟨o, ho, _, _, p2⟩ := pick 2 (by decide) κ1 hκ1 κ2 hκ2
    obtain ⟨q1, q2⟩ := p2 rfl
    refine ⟨D3 nx ny a b l o, ⟨a, b, l, o, ha, hb, h3, ho, rfl⟩, ?_⟩
    rw [ek_D ha hb ho]; unfold EK; rw [q1, q2]; simp only [Nat.add_zero]; rw [e1, e2]

theorem iterEdges_length (hnx : 0 < nx) (hny : 0 < ny) (hnz : 0 < nz) (st : SameTopo (H3 nx ny nz) m) :
    (iterEdges3 m).length =
      nx * (ny + 1) * (nz + 1) + (nx + 1) * ny * (nz + 1) + (nx + 1) * (ny + 1) * nz := by
  unfold iterEdges3
  rw [iterCells_grid st]
  refine count_least hnx hny (idf := eid3 m) (key := ek nx ny) (code := kcode nx ny nz) (V := VK nx ny nz)
    (fun d hd => eid3_spec hnx hny st hd) ?_ (fun k k' h h' => kcode_inj h h') (fun k h => kcode_lt h) ?_
  · rintro x ⟨a, b, c, o, ha, hb, hc, ho, rfl⟩
    rw [ek_D ha hb ho]
    exact vk_EK ha hb hc ho
  · intro t ht
    obtain ⟨k, hk, rfl⟩ := kcode_surj (nz := nz) hnx hny ht
    obtain ⟨d, hd, hp⟩ := dart_of_key hnx hny hnz hk
    exact ⟨d, hd, by rw [hp]⟩

end HC.Grid3Edge

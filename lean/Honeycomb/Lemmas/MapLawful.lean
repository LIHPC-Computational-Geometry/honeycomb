/-
  The map state is a lawful store: T1/T2/composition of `StmThy.lean` apply to every
  transactional closure over a `Map`.
-/
import Honeycomb.Model.Map

namespace HC
open Store
variable {X : Type}

instance : LawfulStore (Map X) MVar (MVal X) where
  sget_sset := by
    intro m v w x hv ht
    cases v with
    | b i d =>
        cases x with
        | n y =>
            cases w with
            | b j e =>
                simp only [sget, sset, Map.β_setβ]
                have : m.okβ i d = true := hv
                by_cases h : i = j ∧ d = e
                · obtain ⟨h1, h2⟩ := h; subst h1; subst h2; simp [this]
                · have h2 : ¬ (MVar.b i d = MVar.b j e) := by
                    intro hh; injection hh with h1 h2; exact h ⟨h1, h2⟩
                  have h3 : ¬ (i = j ∧ d = e ∧ m.okβ i d = true) := fun hh => h ⟨hh.1, hh.2.1⟩
                  simp [h2, h3]
            | u e => simp [sget, sset, Map.unused_setβ]
            | a s e => simp [sget, sset, Map.att_setβ]
            | fc => simp [sget, sset, Map.setβ]
        | f y => simp [styped] at ht
        | o y => simp [styped] at ht
    | u d =>
        cases x with
        | f y =>
            cases w with
            | b j e => simp [sget, sset, Map.β_setU]
            | u e =>
                simp only [sget, sset, Map.unused_setU]
                have : m.okU d = true := hv
                by_cases h : d = e
                · subst h; simp [this]
                · have h2 : ¬ (MVar.u d = MVar.u e) := by
                    intro hh; injection hh with h1; exact h h1
                  simp [h2, h]
            | a s e => simp [sget, sset, Map.att_setU]
            | fc => simp [sget, sset, Map.setU]
        | n y => simp [styped] at ht
        | o y => simp [styped] at ht
    | a s d =>
        cases x with
        | o y =>
            cases w with
            | b j e => simp [sget, sset, Map.β_setA]
            | u e => simp [sget, sset, Map.unused_setA]
            | a t e =>
                simp only [sget, sset, Map.att_setA]
                have : m.okA s d = true := hv
                by_cases h : s = t ∧ d = e
                · obtain ⟨h1, h2⟩ := h; subst h1; subst h2; simp [this]
                · have h2 : ¬ (MVar.a s d = MVar.a t e) := by
                    intro hh; injection hh with h1 h2; exact h ⟨h1, h2⟩
                  have h3 : ¬ (s = t ∧ d = e ∧ m.okA s d = true) := fun hh => h ⟨hh.1, hh.2.1⟩
                  simp [h2, h3]
            | fc => simp [sget, sset, Map.setA]
        | n y => simp [styped] at ht
        | f y => simp [styped] at ht
    | fc =>
        cases x with
        | n y =>
            cases w with
            | b j e => simp [sget, sset, Map.β]
            | u e => simp [sget, sset, Map.unused]
            | a t e => simp [sget, sset, Map.att]
            | fc => simp [sget, sset]
        | f y => simp [styped] at ht
        | o y => simp [styped] at ht
  svalid_sset := by
    intro m v w x
    cases v <;> cases x <;> cases w <;>
      simp [svalid, sset, Map.okβ_setβ, Map.okU_setβ, Map.okA_setβ, Map.okβ_setU, Map.okU_setU,
        Map.okA_setU, Map.okβ_setA, Map.okU_setA, Map.okA_setA] <;> rfl
  styped_sset := by
    intro m v w x y
    rfl
  styped_sget := by
    intro m v _
    cases v <;> rfl

end HC

/-
  The walk along β1: what the BFS over the single image β1 lists (`orbit(Custom(&[1]), d)`, the face walk of
  the VTK export and of the scene extraction).

  * `Walk f l`      consecutive elements of `l` are related by `f`; `bfsPure_walk`: a BFS whose generator yields
                    ONE image per dart walks along that image;
  * `b1walk_spec`   on a well-formed map the walk from `d` starts at `d`, lists distinct non-null existing darts,
                    exactly those reachable through β1, each the β1-image of the one before; if no listed dart
                    is 1-free, the β1-image of the last one is `d`: the walk is the whole closed β1-cycle.

  Core Lean only.
-/
import Honeycomb.Lemmas.Bfs
import Honeycomb.Model.WF

namespace HC

/-- consecutive elements of the list are related by `f` -/
def Walk (f : Nat → Nat) : List Nat → Prop
  | [] => True
  | [_] => True
  | x :: y :: r => y = f x ∧ Walk f (y :: r)

theorem walk_snoc {f : Nat → Nat} : ∀ (l : List Nat) (x : Nat), Walk f (l ++ [x]) →
    Walk f (l ++ [x] ++ [f x]) := by
  intro l
  induction l with
  | nil => intro x _; exact ⟨rfl, trivial⟩
  | cons a l ih =>
      intro x h
      cases l with
      | nil => exact ⟨h.1, rfl, trivial⟩
      | cons b l =>
          exact ⟨h.1, ih x h.2⟩

theorem bfsPure_walk (f : Nat → Nat) : ∀ (fuel : Nat) (p mk out : List Nat), p.length ≤ 1 →
    Walk f (out ++ p) → Walk f (bfsPure (fun x => [f x]) fuel p mk out) := by
  intro fuel
  induction fuel with
  | zero =>
      intro p mk out hp h
      unfold bfsPure
      cases p with
      | nil => simpa using h
      | cons d rest =>
          have : rest = [] := by cases rest with | nil => rfl | cons _ _ => simp at hp
          subst this
          -- out is a prefix of a walk
          clear hp
          induction out with
          | nil => trivial
          | cons a out ih =>
              cases out with
              | nil => trivial
              | cons b out => exact ⟨h.1, ih h.2⟩
  | succ fuel ih =>
      intro p mk out hp h
      cases p with
      | nil => unfold bfsPure; simpa using h
      | cons d rest =>
          have : rest = [] := by cases rest with | nil => rfl | cons _ _ => simp at hp
          subst this
          unfold bfsPure
          simp only [List.foldl_cons, List.foldl_nil, bfsCheck]
          split
          · exact ih _ _ _ (by simp) (by simpa using h)
          · exact ih _ _ _ (by simp) (by simpa using walk_snoc out d h)

theorem walk_pred {f : Nat → Nat} : ∀ (l : List Nat), Walk f l → ∀ y, y ∈ l.tail →
    ∃ x, x ∈ l.dropLast ∧ y = f x := by
  intro l
  induction l with
  | nil => intro _ y hy; simp at hy
  | cons a l ih =>
      intro h y hy
      cases l with
      | nil => simp at hy
      | cons b l =>
          simp only [List.tail_cons, List.mem_cons] at hy
          rcases hy with rfl | hy
          · exact ⟨a, by simp [List.dropLast], h.1⟩
          · obtain ⟨x, hx, e⟩ := ih h.2 y (by simpa using hy)
            exact ⟨x, by rw [List.dropLast_cons_cons]; exact List.mem_cons_of_mem _ hx, e⟩

theorem getLast_not_mem_dropLast : ∀ (l : List Nat) (hne : l ≠ []), l.Nodup → l.getLast hne ∉ l.dropLast := by
  intro l hne hnd hmem
  have e := List.dropLast_concat_getLast hne
  rw [← e] at hnd
  have := (List.nodup_append.1 hnd).2.2 _ hmem (l.getLast hne) (by simp)
  exact this rfl

variable {X : Type}

theorem step1_null {nb : Nat} {m : Map X} (hwf : WF nb m) (h2 : 2 ≤ nb) :
    ∀ y, y ∈ (fun x => [m.β 1 x]) 0 → y = 0 := by
  intro y hy
  rw [List.mem_singleton.1 hy]
  exact hwf.null 1 (by omega)

theorem step1_range {nb : Nat} {m : Map X} (hwf : WF nb m) (h2 : 2 ≤ nb) :
    ∀ a, a < m.n → ∀ y, y ∈ (fun x => [m.β 1 x]) a → y < m.n := by
  intro a ha y hy
  rw [List.mem_singleton.1 hy]
  exact hwf.range 1 (by omega) a ha

/-- **the walk along β1** (any number of β rows) -/
theorem b1walk_spec {nb : Nat} {m : Map X} (hwf : WF nb m) (h2 : 2 ≤ nb) {d : Nat} (hd0 : d ≠ 0) (hdn : d < m.n)
    {w : List Nat} (hw : w = bfsPure (fun x => [m.β 1 x]) (m.n + 1) [d] [0, d] []) :
    w.head? = some d ∧ w.Nodup ∧ Walk (m.β 1) w ∧
    (∀ x, x ∈ w ↔ x ≠ 0 ∧ Reach (fun y => [m.β 1 y]) d x) ∧ (∀ x, x ∈ w → x < m.n) ∧
    ((∀ x, x ∈ w → m.β 1 x ≠ 0) → ∃ hne : w ≠ [], m.β 1 (w.getLast hne) = d) := by
  obtain ⟨hhead, hnd, _, hmem, hlt⟩ := bfsPure_spec (step1_null hwf h2) (step1_range hwf h2) hd0 hdn
  rw [← hw] at hhead hnd hmem hlt
  have hwalk : Walk (m.β 1) w := by
    rw [hw]
    exact bfsPure_walk (m.β 1) _ _ _ _ (by simp) trivial
  refine ⟨hhead, hnd, hwalk, hmem, hlt, fun hcl => ?_⟩
  have hne : w ≠ [] := by intro e; rw [e] at hhead; simp at hhead
  refine ⟨hne, ?_⟩
  have hz := List.getLast_mem hne
  have hz1 := hcl _ hz
  -- the successor of the last dart is in the walk
  have hin : m.β 1 (w.getLast hne) ∈ w :=
    (hmem _).2 ⟨hz1, .tail ((hmem _).1 hz).2 (by simp)⟩
  -- it is the head, or the image of a dart that is not the last one
  cases w with
  | nil => exact absurd rfl hne
  | cons a rest =>
      simp only [List.head?_cons, Option.some.injEq] at hhead
      subst hhead
      rcases List.mem_cons.1 hin with e | hin'
      · exact e
      · exfalso
        obtain ⟨x, hx, e⟩ := walk_pred _ hwalk _ (by simpa using hin')
        have hxo : x ∈ a :: rest := List.dropLast_subset _ hx
        have i1 := hwf.inv01 _ (hlt _ hz) hz1
        have i2 := hwf.inv01 x (hlt x hxo) (by rw [← e]; exact hz1)
        have : (a :: rest).getLast hne = x := by rw [← i1, e, i2]
        rw [← this] at hx
        exact getLast_not_mem_dropLast _ hne hnd hx

end HC

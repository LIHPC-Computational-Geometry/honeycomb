/-
  3-D vertex cells (`dim3/orbits.rs`, `dim3/basic_ops.rs` at /repo e8bc83e: with the sixth image `β2∘β3` the vertex
  images are closed under inverse on EVERY well-formed 3-map):

  * `g3v` — the six images pushed by `vertex_id_transac`, as a pure function of the map;
  * `popLoop_spec` / `vertexId3_spec` — whatever `vertex_id_transac` returns is the smallest dart of
    the vertex cell (`IsVid3`), for the "mark on pop, push everything" traversal of `popLoop`
    (conditional correctness: a run that returns `Ok`; running out of fuel is `panic`);
  * `vcell3_eq` — on a `WF 4` map the vertex cells are the components of the ties of Lemmas/Ties (`β1 z, β2 z,
    β3 z` leave the end of `z`; hence `tied`, `InvClosed`);
  * `cells_add1` — what one more 1-link `l → r` (`Add1`) does to the cells: column `l` of β gains `r`;
  * `vertex_cells_oneLink3` — the vertex cells after the 3-D `one_link` (which also links the β3
    images): the cells of the head of `l` (`β3 l`, else `β2 l`) and of `r` are united, nothing else
    changes; `vertex_cells_oneUnlink3` — the same statement read from the unlinked map to the linked
    one.
-/
import Honeycomb.Lemmas.Link3
import Honeycomb.Lemmas.CellCalc

namespace HC.Cell3
open HC HC.CellCalc
variable {X : Type}

/-- the six images of `vertex_id_transac`, in push order -/
def g3v (m : Map X) (x : Nat) : List Nat :=
  [m.β 1 (m.β 3 x), m.β 3 (m.β 2 x), m.β 1 (m.β 2 x), m.β 3 (m.β 0 x), m.β 2 (m.β 0 x), m.β 2 (m.β 3 x)]

theorem run_genVid3 {x : Nat} {ims : List Nat} {m m' : Map X}
    (h : run (genVid3 (X := X) x) m = (.ok ims, m')) : m' = m ∧ ims = g3v m x := by
  unfold genVid3 at h
  replace h := run_rB_bind_ok h
  replace h := run_rB_bind_ok h
  replace h := run_rB_bind_ok h
  replace h := run_rB_bind_ok h
  replace h := run_rB_bind_ok h
  replace h := run_rB_bind_ok h
  replace h := run_rB_bind_ok h
  replace h := run_rB_bind_ok h
  replace h := run_rB_bind_ok h
  obtain ⟨e, hm⟩ := run_pure_ok h
  exact ⟨hm, e⟩

/-! ## the traversal of `vertex_id_transac` -/

/-- invariant of `popLoop` at the loop head -/
structure PInv (g : Nat → List Nat) (d : Nat) (pending marked : List Nat) (mn : Nat) : Prop where
  m0 : 0 ∈ marked
  mreach : ∀ x, x ∈ marked → x ≠ 0 → Reach g d x
  preach : ∀ x, x ∈ pending → x ≠ 0 → Reach g d x
  closed : ∀ x, x ∈ marked → x ≠ 0 → ∀ y, y ∈ g x → y ∈ marked ∨ y ∈ pending
  dmem : d ∈ marked ∨ d ∈ pending
  mnle : mn ≤ d ∧ ∀ x, x ∈ marked → x ≠ 0 → mn ≤ x
  mnmem : mn = d ∨ (mn ∈ marked ∧ mn ≠ 0)

theorem popLoop_spec {g : Nat → List Nat} {gen : Nat → P X (List Nat)} {d : Nat} {m : Map X}
    (hgen : ∀ x ims m', run (gen x) m = (.ok ims, m') → m' = m ∧ ims = g x)
    (h0 : ∀ y, y ∈ g 0 → y = 0) :
    ∀ (f : Nat) (pending marked : List Nat) (mn v : Nat) (m' : Map X),
      PInv g d pending marked mn →
      run (popLoop gen f pending marked mn) m = (.ok v, m') →
      m' = m ∧ v ≤ d ∧ (∀ e, Reach g d e → e ≠ 0 → v ≤ e) ∧ (v = d ∨ (Reach g d v ∧ v ≠ 0)) := by
  intro f
  induction f with
  | zero =>
      intro p mk mn v m' _ h
      unfold popLoop at h; simp at h
  | succ f ih =>
      intro p mk mn v m' I h
      cases p with
      | nil =>
          unfold popLoop at h
          obtain ⟨rfl, rfl⟩ := run_pure_ok h
          have hd : d ∈ mk := by
            rcases I.dmem with hh | hh
            · exact hh
            · exact absurd hh (by simp)
          have all : ∀ e, Reach g d e → e ≠ 0 → e ∈ mk := by
            intro e he
            induction he with
            | refl => intro _; exact hd
            | tail hab hc ih2 =>
                rename_i b c
                intro hc0
                have hb0 : b ≠ 0 := Reach.pred_ne_zero h0 hc hc0
                rcases I.closed b (ih2 hb0) hb0 c hc with hh | hh
                · exact hh
                · exact absurd hh (by simp)
          refine ⟨rfl, I.mnle.1, fun e he he0 => I.mnle.2 e (all e he he0) he0, ?_⟩
          rcases I.mnmem with hh | ⟨hh, hh0⟩
          · exact Or.inl hh
          · exact Or.inr ⟨I.mreach _ hh hh0, hh0⟩
      | cons x rest =>
          unfold popLoop at h
          by_cases hc : mk.contains x = true
          · rw [if_pos hc] at h
            have hx : x ∈ mk := by simpa using hc
            refine ih rest mk mn v m' ⟨I.m0, I.mreach, fun y hy => I.preach y (by simp [hy]), ?_, ?_,
              I.mnle, I.mnmem⟩ h
            · intro a ha ha0 y hy
              rcases I.closed a ha ha0 y hy with hh | hh
              · exact Or.inl hh
              · rcases List.mem_cons.1 hh with rfl | hh'
                · exact Or.inl hx
                · exact Or.inr hh'
            · rcases I.dmem with hh | hh
              · exact Or.inl hh
              · rcases List.mem_cons.1 hh with rfl | hh'
                · exact Or.inl hx
                · exact Or.inr hh'
          · rw [if_neg hc] at h
            have hx : x ∉ mk := by simpa using hc
            have hx0 : x ≠ 0 := fun hh => hx (hh ▸ I.m0)
            obtain ⟨ims, m1, hg, h⟩ := run_bind_ok h
            obtain ⟨rfl, rfl⟩ := hgen x ims m1 hg
            have hrx : Reach g d x := I.preach x (by simp) hx0
            refine ih (rest ++ g x) (mk ++ [x]) (min mn x) v m' ⟨by simp [I.m0], ?_, ?_, ?_, ?_, ?_, ?_⟩ h
            · intro y hy hy0
              rcases List.mem_append.1 hy with hh | hh
              · exact I.mreach y hh hy0
              · simp at hh; subst hh; exact hrx
            · intro y hy hy0
              rcases List.mem_append.1 hy with hh | hh
              · exact I.preach y (by simp [hh]) hy0
              · exact .tail hrx hh
            · intro a ha ha0 y hy
              rcases List.mem_append.1 ha with hh | hh
              · rcases I.closed a hh ha0 y hy with k | k
                · exact Or.inl (by simp [k])
                · rcases List.mem_cons.1 k with rfl | k'
                  · exact Or.inl (by simp)
                  · exact Or.inr (by simp [k'])
              · simp at hh; subst hh
                exact Or.inr (by simp [hy])
            · rcases I.dmem with hh | hh
              · exact Or.inl (by simp [hh])
              · rcases List.mem_cons.1 hh with rfl | hh'
                · exact Or.inl (by simp)
                · exact Or.inr (by simp [hh'])
            · refine ⟨by have := I.mnle.1; omega, ?_⟩
              intro y hy hy0
              rcases List.mem_append.1 hy with hh | hh
              · have := I.mnle.2 y hh hy0; omega
              · simp at hh; subst hh; omega
            · by_cases hle : mn ≤ x
              · rw [Nat.min_eq_left hle]
                rcases I.mnmem with hh | ⟨hh, hh0⟩
                · exact Or.inl hh
                · exact Or.inr ⟨by simp [hh], hh0⟩
              · rw [Nat.min_eq_right (by omega)]
                exact Or.inr ⟨by simp, hx0⟩


/-! ## the vertex cells of a well-formed 3-map -/

theorem invol_back {m : Map X} (h : WF 4 m) {i x : Nat} (hi2 : 2 ≤ i) (hi : i < 4) (hx : x < m.n)
    (hne : m.β i x ≠ 0) : m.β i (m.β i x) = x := (h.invol i hi hi2 x hx hne).1

theorem g3v_range {m : Map X} (h : WF 4 m) : ∀ a, a < m.n → ∀ y, y ∈ g3v m a → y < m.n := by
  intro a ha y hy
  have r := fun i (hi : i < 4) x (hx : x < m.n) => h.range i hi x hx
  simp only [g3v, List.mem_cons, List.not_mem_nil, or_false] at hy
  rcases hy with rfl | rfl | rfl | rfl | rfl | rfl
  · exact r 1 (by omega) _ (r 3 (by omega) a ha)
  · exact r 3 (by omega) _ (r 2 (by omega) a ha)
  · exact r 1 (by omega) _ (r 2 (by omega) a ha)
  · exact r 3 (by omega) _ (r 0 (by omega) a ha)
  · exact r 2 (by omega) _ (r 0 (by omega) a ha)
  · exact r 2 (by omega) _ (r 3 (by omega) a ha)

theorem g3v_null {m : Map X} (h : WF 4 m) : ∀ y, y ∈ g3v m 0 → y = 0 := by
  intro y hy
  simp only [g3v, List.mem_cons, List.not_mem_nil, or_false, h.null 0 (by omega), h.null 1 (by omega),
    h.null 2 (by omega), h.null 3 (by omega), or_self] at hy
  exact hy

/-- **the vertex cells of a well-formed 3-map are the components of its ties** -/
theorem vcell3_eq {m : Map X} (h : WF 4 m) : Conn (Tie vties m.β) = SameCell (g3v m) m.n :=
  vcell_eq (bok_of_wf h)

/-- the β1, β2 and β3 image of a dart start at the same vertex (the head of the dart) -/
theorem tied {m : Map X} (h : WF 4 m) {z u v : Nat} (hu : u ∈ vties m.β z) (hv : v ∈ vties m.β z)
    (u0 : u ≠ 0) (v0 : v ≠ 0) : SameCell (g3v m) m.n u v :=
  same_of_tie (bok_of_wf h) ⟨z, hu, hv, u0, v0⟩

theorem g3v_invClosed {m : Map X} (h : WF 4 m) : InvClosed (g3v m) m.n := by
  intro x hx y hy hy0
  have hf := bok_of_wf h
  by_cases hx0 : x = 0
  · subst hx0
    exact absurd (g3v_null h y hy) hy0
  · obtain ⟨z, a, b, c, d⟩ := tie_of_gstep hf (a := x) (b := y) ⟨hx0, hx, hy0, hy⟩
    rcases gstep_of_tie hf ⟨z, b, a, d, c⟩ with k | k
    · subst k
      exact hy
    · exact k.2.2.2

theorem popLoop_min {g : Nat → List Nat} {gen : Nat → P X (List Nat)} {m m' : Map X} {f d v : Nat}
    (hgen : ∀ x ims m', run (gen x) m = (.ok ims, m') → m' = m ∧ ims = g x)
    (h0 : ∀ y, y ∈ g 0 → y = 0) (hrange : ∀ a, a < m.n → ∀ y, y ∈ g a → y < m.n)
    (hinv : InvClosed g m.n) (hd0 : d ≠ 0) (hd : d < m.n)
    (hr : run (popLoop gen f [d] [0] d) m = (.ok v, m')) :
    m' = m ∧ SameCell g m.n d v ∧ ∀ e, SameCell g m.n d e → e ≠ 0 → v ≤ e := by
  have I : PInv g d [d] [0] d :=
    ⟨by simp, fun x hx hx0 => absurd (by simpa using hx) hx0, fun x hx _ => by
      have : x = d := by simpa using hx
      subst this; exact .refl _,
     fun x hx hx0 => absurd (by simpa using hx) hx0, Or.inr (by simp), ⟨Nat.le_refl _, fun x hx hx0 =>
      absurd (by simpa using hx) hx0⟩, Or.inl rfl⟩
  obtain ⟨hm, hle, hmin, hmem⟩ := popLoop_spec (g := g) hgen h0 _ _ _ _ v m' I hr
  have iff := sameCell_iff_reach h0 hrange hinv hd0 hd
  refine ⟨hm, ?_, ?_⟩
  · rcases hmem with rfl | ⟨hv, hv0⟩
    · exact .refl _
    · exact (iff v).2 ⟨hv0, hv⟩
  · intro e he he0
    exact hmin e ((iff e).1 he).2 he0

/-- `v` is the smallest dart of the vertex cell of `d` -/
def IsVid3 (m : Map X) (d v : Nat) : Prop :=
  SameCell (g3v m) m.n d v ∧ ∀ e, SameCell (g3v m) m.n d e → e ≠ 0 → v ≤ e

/-- **what `vertex_id_transac` returns** (any fuel, any successful run): the smallest dart of the
    vertex cell, the cell being the closure of the dart under the images AND their inverses — on
    every well-formed 3-map, open faces included -/
theorem vertexId3_spec {m m' : Map X} (h : WF 4 m) {n' d v : Nat} (hd0 : d ≠ 0) (hd : d < m.n)
    (hr : run (vertexId3 (X := X) n' d) m = (.ok v, m')) : m' = m ∧ IsVid3 m d v :=
  popLoop_min (fun _ _ _ hg => run_genVid3 hg) (g3v_null h) (g3v_range h) (g3v_invClosed h) hd0 hd hr

theorem isVid3_iff (m : Map X) (d v : Nat) : IsVid3 m d v ↔ IsMinOf (SameCell (g3v m) m.n) d v := Iff.rfl

theorem IsVid3.unique {m : Map X} {d v w : Nat} (hv : IsVid3 m d v) (hw : IsVid3 m d w)
    (hv0 : v ≠ 0) (hw0 : w ≠ 0) : v = w :=
  IsMinOf.unique hv hw hv0 hw0


/-! ## the vertex cells after the 3-D `one_link` -/

/-- the head of `l` as `one_sew` reads it: through β3, else through β2 (`0`: `l` is 2- and 3-free) -/
def headOf (m : Map X) (l : Nat) : Nat := if m.β 3 l ≠ 0 then m.β 3 l else m.β 2 l

theorem headOf_eq (m : Map X) (l : Nat) : headOf m l = head1 m.β l := rfl

theorem headOf_pos {m : Map X} {l : Nat} (h : m.β 3 l ≠ 0) : headOf m l = m.β 3 l := if_pos h

theorem headOf_neg {m : Map X} {l : Nat} (h : m.β 3 l = 0) : headOf m l = m.β 2 l := if_neg (fun k => k h)

theorem vties_add1 {m m' : Map X} {l r : Nat} (A : Add1 m m' l r) (z : Nat) :
    vties m'.β z = if l = z then [r, m.β 2 l, m.β 3 l] else vties m.β z := by
  unfold vties
  rw [A.β1, A.β 2 z (by omega), A.β 3 z (by omega)]
  split
  · rename_i hz
    subst hz
    rfl
  · rfl

/-- **cell calculus of one added 1-link `l → r` on a 3-map**: the vertex cells are the old ones with
    the cell of the head of `l` and the cell of `r` united (unchanged when `l` is 2- and 3-free) -/
theorem cells_add1 {m m' : Map X} (hw : WF 4 m) (hw' : WF 4 m') {l r : Nat} (A : Add1 m m' l r)
    (hr0 : r ≠ 0) (d e : Nat) :
    SameCell (g3v m') m.n d e ↔
      if headOf m l = 0 then SameCell (g3v m) m.n d e else United (g3v m) m.n (headOf m l) r d e := by
  have key := tie_add1 hr0 A.free (vties_add1 A) d e
  rw [vcell3_eq hw', A.n, vcell3_eq hw, ← headOf_eq] at key
  exact key

/-- … and of the pair of 1-links of the 3-D `one_link` when both darts are 3-linked:
    `l → r` and `β3 r → β3 l` unite the same two cells -/
theorem cells_add2 {m m0 m' : Map X} (hw : WF 4 m) (hw0 : WF 4 m0) (hw' : WF 4 m') {l r : Nat}
    (A : Add1 m m0 l r) (B : Add1 m0 m' (m.β 3 r) (m.β 3 l))
    (hr0 : r ≠ 0) (hrn : r < m.n) (h3l : m.β 3 l ≠ 0) (h3r : m.β 3 r ≠ 0) (d e : Nat) :
    SameCell (g3v m') m.n d e ↔ United (g3v m) m.n (m.β 3 l) r d e := by
  have s0 : ∀ d e, SameCell (g3v m0) m.n d e ↔ United (g3v m) m.n (m.β 3 l) r d e := fun d e => by
    have k := cells_add1 hw hw0 A hr0 d e
    rwa [headOf_pos h3l, if_neg h3l] at k
  have hh : headOf m0 (m.β 3 r) = r := by
    unfold headOf
    rw [A.β 3 _ (by omega), invol_back hw (by omega) (by omega) hrn h3r, if_pos hr0]
  have s1 := cells_add1 hw0 hw' B h3l d e
  rw [A.n, hh, if_neg hr0] at s1
  -- `r` and `β3 l` are already in one cell of `m0`
  exact s1.trans ((unitedR_same (sameCell_equiv _ _)
    ((s0 _ _).2 (Or.inr (Or.inr ⟨.refl _, .refl _⟩))) d e).trans (s0 d e))

/-- **cell calculus of the 3-D 1-link**: after a successful `one_link(l, r)` — which also 1-links
    the β3 images — the vertex cells are the old ones with the cell of the head of `l` and the cell
    of `r` united; nothing changes when `l` is 2- and 3-free -/
theorem vertex_cells_oneLink3 {l r : Nat} {m m1 : Map X} {u : Unit} (hw : WF 4 m)
    (hl0 : l ≠ 0) (hr0 : r ≠ 0) (hln : l < m.n) (hrn : r < m.n)
    (hul : m.unused l = false) (hur : m.unused r = false)
    (h : run (oneLink3 (X := X) l r) m = (.ok u, m1)) (d e : Nat) :
    SameCell (g3v m1) m.n d e ↔
      if headOf m l = 0 then SameCell (g3v m) m.n d e else United (g3v m) m.n (headOf m l) r d e := by
  obtain ⟨hw1, hform⟩ := oneLink3_effect hw hl0 hr0 hln hrn hul hur h
  rcases hform with ⟨_, A⟩ | ⟨h3l, h3r, m0, hw0, A, B⟩
  · exact cells_add1 hw hw1 A hr0 d e
  · have hh : headOf m l = m.β 3 l := headOf_pos h3l
    rw [hh, if_neg h3l]
    exact cells_add2 hw hw0 hw1 A B hr0 hrn h3l h3r d e

/-- the smallest dart of a united cell is the smaller of the two old smallest darts -/
theorem isVid3_united {m m1 : Map X} {p q vp vq : Nat} (hn : m1.n = m.n)
    (hcells : ∀ d e, SameCell (g3v m1) m.n d e ↔ United (g3v m) m.n p q d e)
    (hp : IsVid3 m p vp) (hq : IsVid3 m q vq) : IsVid3 m1 q (min vq vp) := by
  unfold IsVid3
  rw [hn]
  exact isMinOf_union (fun e => ((hcells q e).trans (United.at_right e)).trans Or.comm) hq hp


/-! ## transport along equal β functions, representatives -/

theorem g3v_congr {m m' : Map X} (hβ : ∀ j e, m'.β j e = m.β j e) (x : Nat) : g3v m' x = g3v m x := by
  unfold g3v; simp only [hβ]

theorem sameCell_of_β_eq {m m' : Map X} (hβ : ∀ j e, m'.β j e = m.β j e) (n d e : Nat) :
    SameCell (g3v m') n d e ↔ SameCell (g3v m) n d e := by
  have : g3v m' = g3v m := funext (g3v_congr hβ)
  rw [this]

theorem sameCell_ne_zero {m : Map X} (h : WF 4 m) {d v : Nat} (hd0 : d ≠ 0) (hd : d < m.n)
    (hs : SameCell (g3v m) m.n d v) : v ≠ 0 ∧ v < m.n := by
  have := (sameCell_iff_reach (g3v_null h) (g3v_range h) (g3v_invClosed h) hd0 hd v).1 hs
  exact ⟨this.1, this.2.lt (g3v_range h) hd⟩

theorem IsVid3.ne_zero {m : Map X} (h : WF 4 m) {d v : Nat} (hd0 : d ≠ 0) (hd : d < m.n)
    (hv : IsVid3 m d v) : v ≠ 0 := (sameCell_ne_zero h hd0 hd hv.1).1

/-- the smallest dart of a cell does not depend on the dart it is computed from -/
theorem IsVid3.congr {m : Map X} {d d' v : Nat} (hv : IsVid3 m d v) (hs : SameCell (g3v m) m.n d d') :
    IsVid3 m d' v :=
  IsMinOf.congr (sameCell_equiv _ _) hv hs

/-! ## the vertex cells after the 3-D `one_unlink`: the old partition is the new one plus the
    removed pairs -/

theorem vertex_cells_oneUnlink3 {l : Nat} {m m1 : Map X} {u : Unit} (hw : WF 4 m)
    (hl0 : l ≠ 0) (hln : l < m.n)
    (h : run (oneUnlink3 (X := X) l) m = (.ok u, m1)) :
    m.β 1 l ≠ 0 ∧ m1.n = m.n ∧ (∀ j e, 2 ≤ j → m1.β j e = m.β j e) ∧
    ∀ d e, SameCell (g3v m) m.n d e ↔
      if headOf m l = 0 then SameCell (g3v m1) m.n d e
      else United (g3v m1) m.n (headOf m l) (m.β 1 l) d e := by
  obtain ⟨hne, hw1, hform⟩ := oneUnlink3_effect hw hln h
  have hrn : m.β 1 l < m.n := hw.range 1 (by omega) l hln
  -- `m` is `m1` with the removed links added again
  rcases hform with ⟨_, A⟩ | ⟨h3l, h3r, m0, hw0, B, A⟩
  · refine ⟨hne, A.n.symm, fun j e hj => (A.β j e hj).symm, fun d e => ?_⟩
    have key := cells_add1 hw1 hw A hne d e
    have hh : headOf m1 l = headOf m l := by
      unfold headOf; rw [A.β 3 l (by omega), A.β 2 l (by omega)]
    rw [hh, ← A.n] at key
    exact key
  · -- both darts 3-linked: `β3 r → β3 l` was unlinked as well
    have ho := B.only.trans A.only
    have e3 : ∀ x, m1.β 3 x = m.β 3 x := fun x => (ho.β 3 x (by omega)).symm
    have l33 : m.β 3 (m.β 3 l) = l := invol_back hw (by omega) (by omega) hln h3l
    have r33 : m.β 3 (m.β 3 (m.β 1 l)) = m.β 1 l := invol_back hw (by omega) (by omega) hrn h3r
    refine ⟨hne, ho.n.symm, fun j e hj => (ho.β j e hj).symm, fun d e => ?_⟩
    have hh : headOf m l = m.β 3 l := headOf_pos h3l
    rw [hh, if_neg h3l]
    have key := cells_add2 hw1 hw0 hw (l := m.β 3 (m.β 1 l)) (r := m.β 3 l) B
      (by rw [e3, e3, l33, r33]; exact A) h3l (by rw [← ho.n]; exact hw.range 3 (by omega) l hln)
      (by rw [e3, r33]; exact hne) (by rw [e3, l33]; exact hl0) d e
    rw [e3, r33, ← ho.n] at key
    exact key.trans (United.swap _ _)

end HC.Cell3

/-
  3-D sews (`dim3/sews/{one,two,three}.rs`): each is followed once as read-only prefix, link / unlink, tail of
  merges / splits (`sewOf_*`, for any relation the tail stays inside, see `Lemmas/SewOf`); hence every successful
  sew / unsew performed exactly the corresponding link / unlink on the topology (β, flags, sizes) and everything
  else it did only touched attribute values.  Shared by Props/C02 (integrity of sews) and Props/C05.
-/
import Honeycomb.Lemmas.Link3
import Honeycomb.Lemmas.SewOf


namespace HC
variable {X : Type}

/-! ## each 3-D sew followed once, for every relation its merges and splits stay inside -/

section
open C04
variable {R : Map X → Map X → Prop} (F : Pre R) (cfg : Cfg X) (n : Nat)
include F

theorem sewOf_oneSew3 (l r : Nat) (hm : MovesIn R cfg (vStores cfg)) :
    SewOf R (oneLink3 l r) (oneSew3 cfg n l r) := by
  have tail : ∀ vl, SewOf R (oneLink3 l r) (do
      let vr ← vertexId3 n r
      oneLink3 l r
      if vl ≠ 0 then do
        let nv := min vr vl
        mergeS cfg 0 nv vl vr
        mergeAttrs cfg 0 nv vl vr
      else pure ()) := fun vl =>
    SewOf.ro_bind (readOnly_vertexId3 _ _) fun vr => SewOf.core_tail F fun _ =>
      Rel.ite (F.bind (hm.merge 0 (List.mem_cons_self ..) _ _ _) fun _ =>
        hm.mergeAttrs F (fun _ => mem_vStores) _ _ _) (F.pure _)
  unfold oneSew3
  refine SewOf.ro_bind (ReadOnly.rB _ _) fun b3l => SewOf.ro_bind (ReadOnly.rB _ _) fun b2l => ?_
  by_cases c1 : b3l ≠ 0
  · simp only [if_pos c1]
    exact SewOf.ro_bind (readOnly_vertexId3 _ _) tail
  · simp only [if_neg c1]
    by_cases c2 : b2l ≠ 0
    · simp only [if_pos c2]
      exact SewOf.ro_bind (readOnly_vertexId3 _ _) tail
    · simp only [if_neg c2]
      exact SewOf.ro_bind (ReadOnly.pure _) tail

theorem sewOf_oneUnsew3 (l : Nat) (hm : MovesIn R cfg (vStores cfg)) :
    SewOf R (oneUnlink3 l) (oneUnsew3 cfg n l) := by
  unfold oneUnsew3
  refine SewOf.ro_bind (ReadOnly.rB _ _) fun r => SewOf.ro_bind (readOnly_vertexId3 _ _) fun vold => ?_
  refine SewOf.core_tail F fun _ => F.ro_bind (ReadOnly.rB _ _) fun b2l => F.ro_bind (ReadOnly.rB _ _) fun b3l => ?_
  refine Rel.ite (F.pure _) ?_
  refine F.ro_bind (readOnly_vertexId3 _ _) fun vl => F.ro_bind (readOnly_vertexId3 _ _) fun vr => ?_
  exact Rel.ite (F.bind (hm.split 0 (List.mem_cons_self ..) _ _ _) fun _ =>
    hm.splitAttrs F (fun _ => mem_vStores) _ _ _) (F.pure _)

omit F in
theorem twoSew3_eq (cfg : Cfg X) (n l r : Nat) :
    twoSew3 cfg n l r = twoSewG cfg (vertexId3 n) (edgeId3 n) (edgeId3 n) l r := rfl

theorem sewOf_twoSew3 (l r : Nat) (hm : MovesIn R cfg (vStores cfg ++ eStores cfg)) :
    SewOf R (iLinkCore 2 l r) (twoSew3 cfg n l r) := by
  rw [twoSew3_eq]
  exact sewOf_twoSewG F cfg (readOnly_vertexId3 n) (readOnly_edgeId3 n) (readOnly_edgeId3 n) l r hm

theorem sewOf_twoUnsew3 (l : Nat) (hm : MovesIn R cfg (vStores cfg ++ eStores cfg)) :
    SewOf R (iUnlinkCore 2 l) (twoUnsew3 cfg n l) := by
  have sv := hm.split 0 (List.mem_append_left _ (List.mem_cons_self ..))
  have av := hm.splitAttrs F (k := 0) fun _ hs => List.mem_append_left _ (mem_vStores hs)
  have ae := hm.splitAttrs F (k := 1) fun _ hs => List.mem_append_right _ hs
  have vid := fun d => F.ro (readOnly_vertexId3 (X := X) n d)
  have eid := fun d => F.ro (readOnly_edgeId3 (X := X) n d)
  unfold twoUnsew3
  refine SewOf.ro_bind (ReadOnly.rB _ _) fun r => SewOf.ro_bind (ReadOnly.rB _ _) fun b1l => ?_
  refine SewOf.ro_bind (ReadOnly.rB _ _) fun b1r => ?_
  refine SewOf.ite ?_ (SewOf.ite ?_ (SewOf.ite ?_ ?_))
  · refine SewOf.ro_bind (readOnly_edgeId3 _ _) fun eold => SewOf.core_tail F fun _ => ?_
    exact F.bind (eid _) fun _ => F.bind (eid _) fun _ => ae _ _ _
  iterate 2
    · refine SewOf.ro_bind (readOnly_edgeId3 _ _) fun eold => SewOf.ro_bind (readOnly_vertexId3 _ _) fun _ => ?_
      refine SewOf.core_tail F fun _ => F.bind (eid _) fun _ => F.bind (eid _) fun _ => F.bind (ae _ _ _) fun _ => ?_
      exact F.bind (vid _) fun _ => F.bind (vid _) fun _ => F.bind (sv _ _ _) fun _ => av _ _ _
  · refine SewOf.ro_bind (readOnly_edgeId3 _ _) fun eold => SewOf.ro_bind (readOnly_vertexId3 _ _) fun _ => ?_
    refine SewOf.ro_bind (readOnly_vertexId3 _ _) fun _ => ?_
    refine SewOf.core_tail F fun _ => F.bind (eid _) fun _ => F.bind (eid _) fun _ => F.bind (ae _ _ _) fun _ => ?_
    refine F.bind (vid _) fun _ => F.bind (vid _) fun _ => F.bind (vid _) fun _ => F.bind (vid _) fun _ => ?_
    exact F.bind (sv _ _ _) fun _ => F.bind (sv _ _ _) fun _ => F.bind (av _ _ _) fun _ => av _ _ _

theorem sewOf_threeSew3 (ld rd : Nat) (hm : MovesIn R cfg (vStores cfg ++ eStores cfg ++ storagesOf cfg 2)) :
    SewOf R (threeLink3 n ld rd) (threeSew3 cfg n ld rd) := by
  have mv := hm.merge 0 (List.mem_append_left _ (List.mem_append_left _ (List.mem_cons_self ..)))
  have av := hm.mergeAttrs F (k := 0) fun _ hs => List.mem_append_left _ (List.mem_append_left _ (mem_vStores hs))
  have ae := hm.mergeAttrs F (k := 1) fun _ hs => List.mem_append_left _ (List.mem_append_right _ hs)
  have af := hm.mergeAttrs F (k := 2) fun _ hs => List.mem_append_right _ hs
  unfold threeSew3
  refine SewOf.ro_bind (readOnly_faceOrbits3 _ _ _) fun x => ?_
  obtain ⟨lo, ro⟩ := x
  refine SewOf.ro_bind (readOnly_threeSewCollect _ _ _ _) fun y => ?_
  obtain ⟨edges, verts⟩ := y
  refine SewOf.ro_bind (ReadOnly.rB _ _) fun b1l => SewOf.ro_bind (ReadOnly.rB _ _) fun b2l => ?_
  refine SewOf.ro_bind (ReadOnly.rB _ _) fun b1r => SewOf.ro_bind (ReadOnly.rB _ _) fun b2r => ?_
  refine SewOf.ro_bind (readOnly_vertexId3 _ _) fun vl => SewOf.ro_bind (readOnly_vertexId3 _ _) fun vr => ?_
  refine SewOf.ro_bind (readOnly_vertexId3 _ _) fun _ => SewOf.ro_bind (readOnly_vertexId3 _ _) fun _ => ?_
  refine SewOf.ro_bind (ReadOnly.rA _ _) fun _ => SewOf.ro_bind (ReadOnly.rA _ _) fun _ => ?_
  refine SewOf.ro_bind (ReadOnly.rA _ _) fun _ => SewOf.ro_bind (ReadOnly.rA _ _) fun _ => ?_
  refine SewOf.ite (SewOf.abort _) ?_
  refine SewOf.core_tail F fun _ => F.bind (af _ _ _) fun _ => ?_
  refine F.bind (F.forM_ _ _ fun p _ => ae _ _ _) fun _ => ?_
  exact F.forM_ _ _ fun p _ => F.bind (mv _ _ _) fun _ => av _ _ _

theorem rel_threeUnsewLoop (hm : MovesIn R cfg (vStores cfg ++ eStores cfg ++ storagesOf cfg 2)) :
    ∀ ps, Rel R (threeUnsewLoop cfg n ps) := by
  have sv := hm.split 0 (List.mem_append_left _ (List.mem_append_left _ (List.mem_cons_self ..)))
  have av := hm.splitAttrs F (k := 0) fun _ hs => List.mem_append_left _ (List.mem_append_left _ (mem_vStores hs))
  have ae := hm.splitAttrs F (k := 1) fun _ hs => List.mem_append_left _ (List.mem_append_right _ hs)
  have vid := fun d => readOnly_vertexId3 (X := X) n d
  intro ps
  induction ps with
  | nil => exact F.pure _
  | cons p rest ih =>
      obtain ⟨l, r⟩ := p
      unfold threeUnsewLoop
      refine F.ro_bind (readOnly_edgeId3 _ _) fun _ => F.ro_bind (readOnly_edgeId3 _ _) fun _ => ?_
      refine F.bind (ae _ _ _) fun _ => F.ro_bind (ReadOnly.rB _ _) fun _ => F.ro_bind (ReadOnly.rB _ _) fun _ => ?_
      refine F.ro_bind (vid _) fun _ => F.ro_bind (vid _) fun _ => ?_
      refine F.bind (sv _ _ _) fun _ => F.bind (av _ _ _) fun _ => F.ro_bind (ReadOnly.rB _ _) fun _ => ?_
      refine Rel.ite ?_ ih
      refine F.ro_bind (ReadOnly.rB _ _) fun _ => F.ro_bind (ReadOnly.rB _ _) fun _ => ?_
      refine F.ro_bind (vid _) fun _ => F.ro_bind (vid _) fun _ => ?_
      exact F.bind (sv _ _ _) fun _ => F.bind (av _ _ _) fun _ => ih

theorem sewOf_threeUnsew3 (ld : Nat) (hm : MovesIn R cfg (vStores cfg ++ eStores cfg ++ storagesOf cfg 2)) :
    SewOf R (threeUnlink3 n ld) (threeUnsew3 cfg n ld) := by
  unfold threeUnsew3
  refine SewOf.ro_bind (ReadOnly.rB _ _) fun rd => SewOf.core_tail F fun _ => ?_
  refine F.ro_bind (readOnly_faceOrbits3 _ _ _) fun x => ?_
  obtain ⟨lo, ro⟩ := x
  exact F.bind (hm.splitAttrs F (k := 2) (fun _ hs => List.mem_append_right _ hs) _ _ _) fun _ =>
    rel_threeUnsewLoop F cfg n hm _

end

/-! ## on the topology a successful sew did what its link does -/

theorem oneSew3_topology (cfg : Cfg X) (n l r : Nat) (m m' : Map X) (u : Unit)
    (h : run (oneSew3 cfg n l r) m = (.ok u, m')) :
    ∃ m1, run (oneLink3 (X := X) l r) m = (.ok (), m1) ∧ SameTopo m1 m' :=
  (sewOf_oneSew3 pre_sameTopo cfg n l r (movesIn_sameTopo _ _)).ok h

theorem oneUnsew3_topology (cfg : Cfg X) (n l : Nat) (m m' : Map X) (u : Unit)
    (h : run (oneUnsew3 cfg n l) m = (.ok u, m')) :
    ∃ m1, run (oneUnlink3 (X := X) l) m = (.ok (), m1) ∧ SameTopo m1 m' :=
  (sewOf_oneUnsew3 pre_sameTopo cfg n l (movesIn_sameTopo _ _)).ok h

theorem twoSew3_topology (cfg : Cfg X) (n l r : Nat) (m m' : Map X) (u : Unit)
    (h : run (twoSew3 cfg n l r) m = (.ok u, m')) :
    ∃ m1, run (iLinkCore (X := X) 2 l r) m = (.ok (), m1) ∧ SameTopo m1 m' :=
  (sewOf_twoSew3 pre_sameTopo cfg n l r (movesIn_sameTopo _ _)).ok h

theorem twoUnsew3_topology (cfg : Cfg X) (n l : Nat) (m m' : Map X) (u : Unit)
    (h : run (twoUnsew3 cfg n l) m = (.ok u, m')) :
    ∃ m1, run (iUnlinkCore (X := X) 2 l) m = (.ok (), m1) ∧ SameTopo m1 m' :=
  (sewOf_twoUnsew3 pre_sameTopo cfg n l (movesIn_sameTopo _ _)).ok h

theorem threeSew3_topology (cfg : Cfg X) (n ld rd : Nat) (m m' : Map X) (u : Unit)
    (h : run (threeSew3 cfg n ld rd) m = (.ok u, m')) :
    ∃ m1, run (threeLink3 (X := X) n ld rd) m = (.ok (), m1) ∧ SameTopo m1 m' :=
  (sewOf_threeSew3 pre_sameTopo cfg n ld rd (movesIn_sameTopo _ _)).ok h

theorem threeUnsew3_topology (cfg : Cfg X) (n ld : Nat) (m m' : Map X) (u : Unit)
    (h : run (threeUnsew3 cfg n ld) m = (.ok u, m')) :
    ∃ m1, run (threeUnlink3 (X := X) n ld) m = (.ok (), m1) ∧ SameTopo m1 m' :=
  (sewOf_threeUnsew3 pre_sameTopo cfg n ld (movesIn_sameTopo _ _)).ok h


/-! ## links never touch attribute values or the fault countdown -/

theorem topoOnly_oneLink3 (l r : Nat) : TopoOnly (oneLink3 (X := X) l r) := by
  have F := pre_sameAttrs (X := X)
  unfold oneLink3
  refine F.bind (topoOnly_oneLinkCore _ _) fun _ => ?_
  refine F.ro_bind (ReadOnly.rB _ _) fun _ => F.ro_bind (ReadOnly.rB _ _) fun _ => ?_
  exact Rel.ite (topoOnly_oneLinkCore _ _) (F.pure _)

theorem topoOnly_oneUnlink3 (l : Nat) : TopoOnly (oneUnlink3 (X := X) l) := by
  have F := pre_sameAttrs (X := X)
  unfold oneUnlink3
  refine F.ro_bind (ReadOnly.rB _ _) fun _ => ?_
  refine F.bind (topoOnly_oneUnlinkCore _) fun _ => ?_
  refine F.ro_bind (ReadOnly.rB _ _) fun _ => F.ro_bind (ReadOnly.rB _ _) fun _ => ?_
  refine Rel.ite ?_ (F.pure _)
  refine F.ro_bind (ReadOnly.rB _ _) fun _ => ?_
  exact Rel.ite (F.abort _) (topoOnly_oneUnlinkCore _)

theorem topoOnly_threeLinkWalk (ld rd stop i j : Nat) :
    ∀ f ls rs, TopoOnly (threeLinkWalk (X := X) ld rd stop i j f ls rs) := by
  have F := pre_sameAttrs (X := X)
  intro f
  induction f with
  | zero => intro ls rs; unfold threeLinkWalk; exact F.panic
  | succ f ih =>
      intro ls rs
      unfold threeLinkWalk
      refine Rel.ite ?_ (F.pure _)
      refine Rel.ite (F.abort _) ?_
      refine F.bind (topoOnly_iLinkCore _ _ _) fun _ => ?_
      exact F.ro_bind (ReadOnly.rB _ _) fun _ => F.ro_bind (ReadOnly.rB _ _) fun _ => ih _ _

theorem topoOnly_threeLink3 (n ld rd : Nat) : TopoOnly (threeLink3 (X := X) n ld rd) := by
  have F := pre_sameAttrs (X := X)
  unfold threeLink3
  refine F.bind (topoOnly_iLinkCore _ _ _) fun _ => ?_
  refine F.ro_bind (ReadOnly.rB _ _) fun _ => F.ro_bind (ReadOnly.rB _ _) fun _ => ?_
  refine F.bind (topoOnly_threeLinkWalk _ _ _ _ _ _ _ _) fun x => ?_
  obtain ⟨ls, rs⟩ := x
  refine Rel.ite ?_ (Rel.ite (F.abort _) (F.pure _))
  refine Rel.ite (F.abort _) ?_
  refine F.ro_bind (ReadOnly.rB _ _) fun _ => F.ro_bind (ReadOnly.rB _ _) fun _ => ?_
  refine F.bind (topoOnly_threeLinkWalk _ _ _ _ _ _ _ _) fun y => ?_
  obtain ⟨_, rs2⟩ := y
  exact Rel.ite (F.abort _) (F.pure _)

theorem topoOnly_threeUnlinkWalk (ld rd stop i j : Nat) (again : Bool) :
    ∀ f ls rs, TopoOnly (threeUnlinkWalk (X := X) ld rd stop i j again f ls rs) := by
  have F := pre_sameAttrs (X := X)
  intro f
  induction f with
  | zero => intro ls rs; unfold threeUnlinkWalk; exact F.panic
  | succ f ih =>
      intro ls rs
      unfold threeUnlinkWalk
      refine Rel.ite ?_ (F.pure _)
      refine F.ro_bind (ReadOnly.rB _ _) fun _ => ?_
      refine Rel.ite (F.abort _) ?_
      have tail : ∀ y, TopoOnly (if ls ≠ y then (Prog.panic : P X (Nat × Nat)) else do
          iUnlinkCore 3 ls
          let ls' ← rB i ls
          let rs' ← rB j rs
          threeUnlinkWalk ld rd stop i j again f ls' rs') := by
        intro y
        refine Rel.ite F.panic ?_
        refine F.bind (topoOnly_iUnlinkCore _ _) fun _ => ?_
        exact F.ro_bind (ReadOnly.rB _ _) fun _ => F.ro_bind (ReadOnly.rB _ _) fun _ => ih _ _
      cases again with
      | false => exact F.bind (F.pure _) tail
      | true => exact F.ro_bind (ReadOnly.rB _ _) tail

theorem topoOnly_threeUnlink3 (n ld : Nat) : TopoOnly (threeUnlink3 (X := X) n ld) := by
  have F := pre_sameAttrs (X := X)
  unfold threeUnlink3
  refine F.ro_bind (ReadOnly.rB _ _) fun _ => ?_
  refine F.bind (topoOnly_iUnlinkCore _ _) fun _ => ?_
  refine F.ro_bind (ReadOnly.rB _ _) fun _ => F.ro_bind (ReadOnly.rB _ _) fun _ => ?_
  refine F.bind (topoOnly_threeUnlinkWalk _ _ _ _ _ _ _ _ _) fun x => ?_
  obtain ⟨ls, rs⟩ := x
  refine Rel.ite ?_ (F.pure _)
  refine Rel.ite (F.abort _) ?_
  refine F.ro_bind (ReadOnly.rB _ _) fun _ => F.ro_bind (ReadOnly.rB _ _) fun _ => ?_
  exact F.bind (topoOnly_threeUnlinkWalk _ _ _ _ _ _ _ _ _) fun _ => F.pure _

end HC

/-
  The plain 2-D grid (`build_2d_grid`) as the code computes its cells, for every size.

  `HC.GridVertex` — vertices.  `pt nx d` is the lattice point at the origin of dart `d` (local darts 0,1,2,3 of cell
  (a,b) start at (a,b), (a+1,b), (a+1,b+1), (a,b+1)).  Read off the β table:
  * `keep1`, `keep2`   the images examined by `vertex_id` keep the lattice point;
  * `down`             a dart that is not the canonical dart of its point has a smaller image;
  * `corner_inj`       the four local darts start at different corners of the cell
                       (`canon_unique`: canonical darts are determined by their lattice point).
  These make the grid an instance (`spec`) of the theory of `GridLattice.lean`, which gives
  * `Spec.vid_spec`  `vertex_id d` is the canonical dart of `pt d` (through `spec`);
  * `grid2_att`    after the four placement blocks, the slot `vertex_id d` of **every** dart `d` holds
                   `origin + (i·lx, j·ly)` for `(i, j) = pt d`;
  * `iterVertices_length`   `iter_vertices` yields `(nx+1)·(ny+1)` identifiers.

  `HC.GridEdge` — edges (`edge_id`, `iter_edges`): a dart is an edge identifier iff it is the right or top side of
  its cell, or the left side of a cell of the first column, or the bottom side of a cell of the first row;
  `iter_edges` yields `2·nx·ny + nx + ny = nx·(ny+1) + ny·(nx+1)` identifiers
  (through `GridEdge.eid_iff_of_shape` of `GridLattice.lean`).

  `HC.GridFace` — faces (`face_id`, `iter_faces`): `face_id` of local dart `k` of a cell is local dart 0 of that
  cell, and `iter_faces` yields exactly one identifier per cell — the
  `debug_assert_eq!(map.iter_faces().count(), nx * ny)` of `build_2d_grid` holds
  (through `GridFace.fid_of_cycle` of `GridLattice.lean`).
-/
import Honeycomb.Lemmas.GridLink
import Honeycomb.Lemmas.GridLattice
import Honeycomb.Lemmas.WFLink
import Honeycomb.Lemmas.GridCount

namespace HC.GridVertex
open HC HC.Gen

/-- the β part of `build_2d_grid` -/
abbrev G2 (nx ny : Nat) : Map Val := gridMap 3 (squareK * nx * ny) (squareβ nx ny)

theorem G2_wf {nx ny : Nat} (hnx : 0 < nx) (hny : 0 < ny) : WF 3 (G2 nx ny) := by
  have h := absWF squareShape squareShape_ok (nz := 1) hnx hny
  rw [← squareMap_eq hnx hny] at h
  exact h

theorem G2_n (nx ny : Nat) : (G2 nx ny).n = 4 * nx * ny + 1 := rfl

section
variable {nx ny : Nat} {m : Map Val}

/-- local dart `k` of cell `(a, b)` -/
abbrev D (nx ny a b k : Nat) : Nat := dartOf 4 nx ny a b 0 k

theorem D_lt {a b k : Nat} (ha : a < nx) (hb : b < ny) (hk : k < 4) : D nx ny a b k < 4 * nx * ny + 1 :=
  GridLattice.dart_lt ha hb hk

theorem β1_D (st : SameTopo (G2 nx ny) m) {a b k : Nat} (ha : a < nx) (hb : b < ny) (hk : k < 4) :
    m.β 1 (D nx ny a b k) = D nx ny a b ((k + 1) % 4) := by
  rw [squareMap_β st ha hb hk (by decide : 1 < 3)]
  have k4 : k = 0 ∨ k = 1 ∨ k = 2 ∨ k = 3 := by omega
  rcases k4 with rfl | rfl | rfl | rfl <;> rfl

theorem β0_D (st : SameTopo (G2 nx ny) m) {a b k : Nat} (ha : a < nx) (hb : b < ny) (hk : k < 4) :
    m.β 0 (D nx ny a b k) = D nx ny a b ((k + 3) % 4) := by
  rw [squareMap_β st ha hb hk (by decide : 0 < 3)]
  have k4 : k = 0 ∨ k = 1 ∨ k = 2 ∨ k = 3 := by omega
  rcases k4 with rfl | rfl | rfl | rfl <;> rfl

/-! ## lattice points -/

def cdx : Nat → Nat
  | 1 => 1
  | 2 => 1
  | _ => 0

def cdy : Nat → Nat
  | 2 => 1
  | 3 => 1
  | _ => 0

/-- lattice point at the origin of dart `d`: `GridLattice.pt 4 cdx cdy nx d` written out -/
def pt (nx d : Nat) : Nat × Nat :=
  ((d - 1) / 4 % nx + cdx ((d - 1) % 4), (d - 1) / 4 / nx + cdy ((d - 1) % 4))

theorem pt_D {a b k : Nat} (ha : a < nx) (hk : k < 4) : pt nx (D nx ny a b k) = (a + cdx k, b + cdy k) :=
  GridLattice.pt_dartOf ha hk

def IsDart (nx ny d : Nat) : Prop := ∃ a b k, a < nx ∧ b < ny ∧ k < 4 ∧ d = D nx ny a b k

theorem isDart_of_range (hnx : 0 < nx) (hny : 0 < ny) {d : Nat} (h1 : 1 ≤ d) (h2 : d ≤ 4 * nx * ny) :
    IsDart nx ny d :=
  GridLattice.isDart_of_range (by decide) hnx hny h1 h2

/-- canonical dart of a lattice point: the one `vertex_id` returns -/
def Canon (a b k : Nat) : Prop := GridLattice.Canon cdx cdy (fun _ => true) a b k

theorem keep1 : ∀ k, k < squareShape.K → GridLattice.SameCorner (squareShape.at k 2).1
    (cdx (squareShape.at (squareShape.at k 2).2 1).2, cdy (squareShape.at (squareShape.at k 2).2 1).2)
    (cdx k, cdy k) := by decide

theorem keep2 : ∀ k, k < squareShape.K → GridLattice.SameCorner (squareShape.at (squareShape.at k 0).2 2).1
    (cdx (squareShape.at (squareShape.at k 0).2 2).2, cdy (squareShape.at (squareShape.at k 0).2 2).2)
    (cdx k, cdy k) := by decide

/-- one of `β1 ∘ β2`, `β2 ∘ β0` leads to a smaller dart: inside the cell from a dart that is not the first of
    its corner, else to the left neighbour from the left side, to the cell below from the bottom -/
theorem down : ∀ k, k < squareShape.K →
    ((fun _ => true) k = false → (squareShape.at k 2).1 = 0 ∧ (squareShape.at (squareShape.at k 2).2 1).2 < k ∨
      (squareShape.at (squareShape.at k 0).2 2).1 = 0 ∧ (squareShape.at (squareShape.at k 0).2 2).2 < k) ∧
    ((fun _ => true) k = true → (cdx k = 0 → (squareShape.at k 2).1 = 1 ∨ (squareShape.at (squareShape.at k 0).2 2).1 = 1) ∧
      (cdy k = 0 → (squareShape.at k 2).1 = 3 ∨ (squareShape.at (squareShape.at k 0).2 2).1 = 3)) := by decide

theorem corner_le (k : Nat) : cdx k ≤ 1 ∧ cdy k ≤ 1 := by
  unfold cdx cdy
  constructor <;> split <;> omega

theorem corner_inj : ∀ k, k < 4 → ∀ k', k' < 4 → cdx k = cdx k' → cdy k = cdy k' → k = k' := by decide

theorem canon_unique {a b k a' b' k' : Nat} (hk : k < 4) (hk' : k' < 4) (hc : Canon a b k)
    (hc' : Canon a' b' k') (hp : (a + cdx k, b + cdy k) = (a' + cdx k', b' + cdy k')) :
    a = a' ∧ b = b' ∧ k = k' :=
  GridLattice.canon_unique corner_le (fun k hk k' hk' _ _ => corner_inj k hk k' hk') hk hk' hc hc' hp

/-! ## `vertex_id` and placement: the generic theory of `GridLattice.lean` applies -/

theorem spec (hnx : 0 < nx) (hny : 0 < ny) : GridLattice.Spec 4 nx ny (squareβ nx ny) cdx cdy Canon where
  Kpos := by decide
  nxpos := hnx
  nypos := hny
  wf := G2_wf hnx hny
  corner := corner_le
  closed := fun st _ _ _ ha hb hk => GridLattice.closed_of_shape squareShape squareShape_ok
    ((G2_wf hnx hny).sameTopo st) (squareMap_β st) keep1 keep2 ha hb hk
  descent := fun st _ _ _ ha hb hk hc => GridLattice.descent_of_shape squareShape squareShape_ok
    (squareMap_β st) down ha hb hk hc
  canon_unique := canon_unique

end

/-- a block of `Gen.squarePlace` whose coordinate offsets are those of its local dart -/
def GoodBlk (blk : Nat × Nat × Nat × Nat × Nat) : Prop := GridLattice.GoodBlk 4 cdx cdy blk

instance (blk : Nat × Nat × Nat × Nat × Nat) : Decidable (GoodBlk blk) := by
  unfold GoodBlk; exact inferInstance

theorem squarePlace_good : ∀ blk, blk ∈ squarePlace → GoodBlk blk := by decide

section Place
variable (ox oy lx ly : Rat) {nx ny : Nat}

theorem squarePlace_blocks : ∀ dx, dx ≤ 1 → ∀ dy, dy ≤ 1 → ∃ blk, blk ∈ squarePlace ∧ blk.1 = 2 * dx + dy ∧
    blk.2.2.2.1 = dx ∧ blk.2.2.2.2 = dy := by decide

/-- every lattice point is the origin of a dart placed by one of the four blocks -/
theorem placement (hnx : 0 < nx) (hny : 0 < ny) : GridLattice.Placement 4 cdx cdy nx ny squarePlace :=
  .of_blocks hnx hny squarePlace_good squarePlace_blocks

theorem grid2_att (hnx : 0 < nx) (hny : 0 < ny) {d : Nat} (hd : IsDart nx ny d) :
    (buildGrid2 ox oy nx ny lx ly).att 0 (vid2 (buildGrid2 ox oy nx ny lx ly) d) =
      some (GridLattice.coord ox oy lx ly (pt nx d)) :=
  (spec hnx hny).att ox oy lx ly (placement hnx hny) hd

theorem iterVertices_length {m : Map Val} (hnx : 0 < nx) (hny : 0 < ny) (st : SameTopo (G2 nx ny) m) :
    (iterVertices2 m).length = (nx + 1) * (ny + 1) :=
  (spec hnx hny).iterVertices_length (placement hnx hny) st

end Place

end HC.GridVertex

namespace HC.GridEdge
open HC HC.Gen HC.GridVertex HC.GridCount

variable {nx ny : Nat} {m : Map Val}

theorem eid_iff (hnx : 0 < nx) (hny : 0 < ny) (st : SameTopo (G2 nx ny) m) {a b k : Nat}
    (ha : a < nx) (hb : b < ny) (hk : k < 4) :
    eid2 m (D nx ny a b k) = D nx ny a b k ↔ (k = 1 ∨ k = 2 ∨ (k = 3 ∧ a = 0) ∨ (k = 0 ∧ b = 0)) := by
  have h : ∀ {k : Nat}, k < 4 → (squareShape.at k 2).1 ≤ 4 → _ := fun hk h4 =>
    eid_iff_of_shape squareShape squareShape_ok ((G2_wf hnx hny).sameTopo st) st.n
      (squareMap_β st) ha hb hk h4
  have k4 : k = 0 ∨ k = 1 ∨ k = 2 ∨ k = 3 := by omega
  rcases k4 with rfl | rfl | rfl | rfl
  · exact (h hk (by decide)).trans (by show b = 0 ↔ _; omega)
  · exact (h hk (by decide)).trans (iff_of_true trivial (Or.inl rfl))
  · exact (h hk (by decide)).trans (iff_of_true trivial (Or.inr (Or.inl rfl)))
  · exact (h hk (by decide)).trans (by show a = 0 ↔ _; omega)

/-- `iter_edges` yields `2·nx·ny + ny + nx` identifiers: the right and the top side of every cell, the
    left sides of the first column, the bottom sides of the first row -/
theorem iterEdges_length (hnx : 0 < nx) (hny : 0 < ny) (st : SameTopo (G2 nx ny) m) :
    (iterEdges2 m).length = 2 * (nx * ny) + ny + nx := by
  have hn : m.n = 4 * (nx * ny) + 1 := by rw [st.n, G2_n, Nat.mul_assoc]
  unfold iterEdges2
  rw [iterCells_length_locals _ hn (gridMap_unused_of st)
    [(1, fun _ => true), (2, fun _ => true), (3, fun c => decide (c % nx = 0)), (0, fun c => decide (c / nx = 0))]
    (by simp) (by simp)]
  · simp only [List.map_cons, List.map_nil, List.sum_cons, List.sum_nil, GridCount.filter_true, List.length_range,
      count_col0 hnx, count_row0 hnx hny]
    omega
  · intro d h1 h2
    obtain ⟨a, b, k, ha, hb, hk, rfl⟩ := isDart_of_range (d := d) hnx hny h1
      (by rw [hn] at h2; rw [Nat.mul_assoc]; omega)
    simp only [List.any_cons, List.any_nil, Bool.or_false, D, isLocal_dartOf hk, cellIdx_x ha, cellIdx_div ha,
      Nat.mul_zero, Nat.add_zero, Bool.and_true, ← Bool.decide_and, ← Bool.decide_or, decide_eq_true_eq]
    exact eid_iff hnx hny st ha hb hk

end HC.GridEdge

namespace HC.GridFace
open HC HC.Gen HC.GridVertex HC.GridCount

variable {nx ny : Nat} {m : Map Val}

theorem squareCycle : ∀ k, k < 4 → (k + 1) % 4 < 4 ∧ (k + 3) % 4 < 4 ∧ (fun _ => 0) ((k + 1) % 4) = 0 ∧
    (fun _ => 0) ((k + 3) % 4) = 0 ∧ (0 = k ∨ (k + 3) % 4 < k) := by decide

theorem fid_spec (hnx : 0 < nx) (hny : 0 < ny) (st : SameTopo (G2 nx ny) m) {a b k : Nat}
    (ha : a < nx) (hb : b < ny) (hk : k < 4) :
    okVal (run (faceId2 m.n (D nx ny a b k)) m) 0 = D nx ny a b 0 :=
  fid_of_cycle ((G2_wf hnx hny).sameTopo st) st.n (r := fun _ => 0) squareCycle ha hb
    (fun _ hk => β1_D st ha hb hk) (fun _ hk => β0_D st ha hb hk) hk

theorem iterFaces_length (hnx : 0 < nx) (hny : 0 < ny) (st : SameTopo (G2 nx ny) m) :
    (iterFaces2 m).length = nx * ny := by
  have hn : m.n = 4 * (nx * ny) + 1 := by rw [st.n, G2_n, Nat.mul_assoc]
  unfold iterFaces2
  rw [iterCells_length_locals _ hn (gridMap_unused_of st) [(0, fun _ => true)] (by simp) (by simp)]
  · simp only [List.map_cons, List.map_nil, List.sum_cons, List.sum_nil, GridCount.filter_true, List.length_range]
    omega
  · intro d h1 h2
    obtain ⟨a, b, k, ha, hb, hk, rfl⟩ := isDart_of_range (d := d) hnx hny h1
      (by rw [hn] at h2; rw [Nat.mul_assoc]; omega)
    rw [fid_spec hnx hny st ha hb hk]
    simp only [List.any_cons, List.any_nil, Bool.or_false, D, isLocal_dartOf hk, Bool.and_true, decide_eq_true_eq]
    exact dartOf_local_inj.trans eq_comm

end HC.GridFace

/-
  A sew (or unsew) is a read-only prefix, its link (unlink) core, and a tail that only merges (splits) attribute
  values.  `SewOf R core p` says so for every outcome and for any reflexive and transitive `R` the tail stays
  inside; each program is followed ONCE (`sewOf_*`), and what a client wants is read off: with `R = SameTopo` the
  topology of a successful sew is that of its core and safety goes from the core to the sew, with an `R` that
  ignores some storages those storages are kept.  The 3-D sews are followed in `Lemmas/Sew3`.  `twoSewG` is the
  2-sew of `CMap2` and of `CMap3` as one program, followed once for both.
-/
import Honeycomb.Lemmas.Run

namespace HC
variable {X α : Type}

/-- Whatever its outcome, `p` either gave up before `core` (nothing written) or leaves the store `core` left, up to
    `R`; and when `p` succeeded, `core` had succeeded. -/
def SewOf (R : Map X → Map X → Prop) (core p : P X Unit) : Prop :=
  ∀ m : Map X, ((run p m).2 = m ∧ ∀ u, (run p m).1 ≠ .ok u) ∨
    (R (run core m).2 (run p m).2 ∧ ((run p m).1 = .ok () → (run core m).1 = .ok ()))

namespace SewOf
variable {R : Map X → Map X → Prop} {core : P X Unit}

theorem self (F : Pre R) : SewOf R core core := fun _ => Or.inr ⟨F.refl _, fun h => h⟩

theorem abort (e : Err) : SewOf R core (abort e) := fun _ => Or.inl ⟨rfl, fun _ h => by simp at h⟩

theorem ite {c : Prop} [Decidable c] {p q : P X Unit} (hp : SewOf R core p) (hq : SewOf R core q) :
    SewOf R core (if c then p else q) := by
  split <;> assumption

theorem ro_bind {q : P X α} {f : α → P X Unit} (hq : ReadOnly q) (hf : ∀ a, SewOf R core (f a)) :
    SewOf R core (q.bind f) := by
  intro m
  rw [run_bind]
  have hm := hq m
  match h : run q m with
  | (.ok a, m1) =>
      rw [h] at hm
      simp only at hm ⊢
      subst hm
      exact hf a _
  | (.err e, m1) => rw [h] at hm; exact Or.inl ⟨hm, fun u hh => by simp at hh⟩
  | (.retry, m1) => rw [h] at hm; exact Or.inl ⟨hm, fun u hh => by simp at hh⟩
  | (.panic, m1) => rw [h] at hm; exact Or.inl ⟨hm, fun u hh => by simp at hh⟩

theorem core_tail (F : Pre R) {f : Unit → P X Unit} (hf : ∀ a, Rel R (f a)) : SewOf R core (core.bind f) := by
  intro m
  rw [run_bind]
  match h : run core m with
  | (.ok a, m1) => exact Or.inr ⟨hf a m1, fun _ => rfl⟩
  | (.err e, m1) => exact Or.inr ⟨F.refl _, fun hh => by simp at hh⟩
  | (.retry, m1) => exact Or.inr ⟨F.refl _, fun hh => by simp at hh⟩
  | (.panic, m1) => exact Or.inr ⟨F.refl _, fun hh => by simp at hh⟩

theorem ok {p : P X Unit} (h : SewOf R core p) {m m' : Map X} {u : Unit} (hr : run p m = (.ok u, m')) :
    ∃ m1, run core m = (.ok (), m1) ∧ R m1 m' := by
  rcases h m with ⟨_, hno⟩ | ⟨hR, hok⟩
  · rw [hr] at hno
    exact absurd rfl (hno u)
  · rw [hr] at hR hok
    exact ⟨(run core m).2, by rw [← hok rfl], hR⟩

theorem rel (F : Pre R) {p : P X Unit} (h : SewOf R core p) (hc : Rel R core) : Rel R p := by
  intro m
  rcases h m with ⟨he, _⟩ | ⟨hR, _⟩
  · rw [he]
    exact F.refl m
  · exact F.trans (hc m) hR

theorem keeps {I : Map X → Prop} {p : P X Unit} (h : SewOf R core p) (hI : ∀ m m', R m m' → I m → I m')
    {m : Map X} (hm : I m) (hc : I (run core m).2) : I (run p m).2 := by
  rcases h m with ⟨he, _⟩ | ⟨hR, _⟩
  · rw [he]
    exact hm
  · exact hI _ _ hR hc

theorem inv {I : Map X → Prop} {p : P X Unit} (h : SewOf R core p) (hI : ∀ m m', R m m' → I m → I m')
    (hc : ∀ m m1, I m → run core m = (.ok (), m1) → I m1) {m m' : Map X} {u : Unit} (hi : I m)
    (hr : run p m = (.ok u, m')) : I m' := by
  obtain ⟨m1, h1, st⟩ := h.ok hr
  exact hI _ _ st (hc m m1 hi h1)

end SewOf

/-- `R` allows what `mergeS` and `splitS` do on the storages `ss` -/
structure MovesIn (R : Map X → Map X → Prop) (cfg : Cfg X) (ss : List Nat) : Prop where
  merge : ∀ s, s ∈ ss → ∀ out l r, Rel R (mergeS cfg s out l r)
  split : ∀ s, s ∈ ss → ∀ lo ro inp, Rel R (splitS cfg s lo ro inp)

theorem movesIn_sameTopo (cfg : Cfg X) (ss : List Nat) : MovesIn SameTopo cfg ss :=
  ⟨fun s _ => attrOnly_mergeS cfg s, fun s _ => attrOnly_splitS cfg s⟩

namespace MovesIn
variable {R : Map X → Map X → Prop} {cfg : Cfg X} {ss : List Nat}

theorem mergeAttrs (F : Pre R) (h : MovesIn R cfg ss) {k : Kind} (hk : ∀ s, s ∈ storagesOf cfg k → s ∈ ss)
    (out l r : Nat) : Rel R (mergeAttrs cfg k out l r) :=
  F.forM_ _ _ fun s hs => h.merge s (hk s hs) out l r

theorem splitAttrs (F : Pre R) (h : MovesIn R cfg ss) {k : Kind} (hk : ∀ s, s ∈ storagesOf cfg k → s ∈ ss)
    (lo ro inp : Nat) : Rel R (splitAttrs cfg k lo ro inp) :=
  F.forM_ _ _ fun s hs => h.split s (hk s hs) lo ro inp

end MovesIn

namespace C04

/-- storages bound to vertices: the built-in one (0) first, then the user ones -/
def vStores (cfg : Cfg X) : List Nat := 0 :: storagesOf cfg 0
/-- storages bound to edges -/
def eStores (cfg : Cfg X) : List Nat := storagesOf cfg 1

end C04

open C04 in
theorem mem_vStores {cfg : Cfg X} {s : Nat} (h : s ∈ storagesOf cfg 0) : s ∈ vStores cfg := List.mem_cons_of_mem _ h

/-- the arm of `two_sew` that merges one vertex: the vertices of `x` and `y` into the vertex of `z` after the link,
    then the edges -/
def twoSewOne (cfg : Cfg X) (vid eidPre eidPost : Nat → P X Nat) (l r x y z : Nat) : P X Unit := do
  let el ← eidPre l
  let er ← eidPre r
  let xv ← vid x
  let yv ← vid y
  iLinkCore 2 l r
  let zn ← vid z
  let en ← eidPost l
  mergeS cfg 0 zn xv yv
  mergeAttrs cfg 0 zn xv yv
  mergeAttrs cfg 1 en el er

/-- `two_sew` of `CMap2` and of `CMap3` as one program (`twoSew2_eq`, `twoSew3_eq`): `vid` computes a vertex
    identifier, `eidPre` / `eidPost` an edge identifier before / after the link.  On a 2-map a 2-free dart is its own
    edge: `eidPre = pure`. -/
def twoSewG (cfg : Cfg X) (vid eidPre eidPost : Nat → P X Nat) (l r : Nat) : P X Unit := do
  let b1l ← rB 1 l
  let b1r ← rB 1 r
  if b1l = 0 ∧ b1r = 0 then do
    let el ← eidPre l
    let er ← eidPre r
    iLinkCore 2 l r
    let en ← eidPost l
    mergeAttrs cfg 1 en el er
  else if b1l = 0 then twoSewOne cfg vid eidPre eidPost l r l b1r l
  else if b1r = 0 then twoSewOne cfg vid eidPre eidPost l r b1l r r
  else do
    let el ← eidPre l
    let er ← eidPre r
    let lv ← vid l
    let b1rv ← vid b1r
    let b1lv ← vid b1l
    let rv ← vid r
    let pl ← rA 0 lv
    let pb1r ← rA 0 b1rv
    let pb1l ← rA 0 b1lv
    let pr ← rA 0 rv
    if badPair cfg pl pb1r pb1l pr then abort (errBadGeometry 2 l r) else
    iLinkCore 2 l r
    let lvn ← vid l
    let rvn ← vid r
    let en ← eidPost l
    mergeS cfg 0 lvn lv b1rv
    mergeS cfg 0 rvn b1lv rv
    mergeAttrs cfg 0 lvn lv b1rv
    mergeAttrs cfg 0 rvn b1lv rv
    mergeAttrs cfg 1 en el er

theorem twoSew2_eq (cfg : Cfg X) (n l r : Nat) :
    twoSew2 cfg n l r = twoSewG cfg (vertexId2 n) pure edgeId2 l r := rfl

section
open C04
variable {R : Map X → Map X → Prop} (F : Pre R) (cfg : Cfg X) (n : Nat)
include F

theorem sewOf_oneSew2 (l r : Nat) (hm : MovesIn R cfg (vStores cfg)) :
    SewOf R (oneLinkCore l r) (oneSew2 cfg n l r) := by
  unfold oneSew2
  refine SewOf.ro_bind (ReadOnly.rB _ _) fun b2l => SewOf.ite (SewOf.self F) ?_
  refine SewOf.ro_bind (readOnly_vertexId2 _ _) fun v1 => SewOf.ro_bind (readOnly_vertexId2 _ _) fun v2 => ?_
  refine SewOf.core_tail F fun _ => F.ro_bind (readOnly_vertexId2 _ _) fun nv => ?_
  exact F.bind (hm.merge 0 (List.mem_cons_self ..) _ _ _) fun _ => hm.mergeAttrs F (fun _ => mem_vStores) _ _ _

theorem sewOf_oneUnsew2 (l : Nat) (hm : MovesIn R cfg (vStores cfg)) :
    SewOf R (oneUnlinkCore l) (oneUnsew2 cfg n l) := by
  unfold oneUnsew2
  refine SewOf.ro_bind (ReadOnly.rB _ _) fun b2l => SewOf.ite (SewOf.self F) ?_
  refine SewOf.ro_bind (ReadOnly.rB _ _) fun r => SewOf.ro_bind (readOnly_vertexId2 _ _) fun vold => ?_
  refine SewOf.core_tail F fun _ => ?_
  refine F.ro_bind (readOnly_vertexId2 _ _) fun nl => F.ro_bind (readOnly_vertexId2 _ _) fun nr => ?_
  exact F.bind (hm.split 0 (List.mem_cons_self ..) _ _ _) fun _ => hm.splitAttrs F (fun _ => mem_vStores) _ _ _

theorem sewOf_twoSewG {vid eidPre eidPost : Nat → P X Nat} (hv : ∀ d, ReadOnly (vid d))
    (he : ∀ d, ReadOnly (eidPre d)) (he' : ∀ d, ReadOnly (eidPost d)) (l r : Nat)
    (hm : MovesIn R cfg (vStores cfg ++ eStores cfg)) :
    SewOf R (iLinkCore 2 l r) (twoSewG cfg vid eidPre eidPost l r) := by
  have mv := hm.merge 0 (List.mem_append_left _ (List.mem_cons_self ..))
  have av := hm.mergeAttrs F (k := 0) fun _ hs => List.mem_append_left _ (mem_vStores hs)
  have ae := hm.mergeAttrs F (k := 1) fun _ hs => List.mem_append_right _ hs
  have vid' := fun d => F.ro (hv d)
  have eid' := fun d => F.ro (he' d)
  -- every arm starts with the two old edge identifiers
  have pre : ∀ k : Nat → Nat → P X Unit, (∀ a b, SewOf R (iLinkCore 2 l r) (k a b)) →
      SewOf R (iLinkCore 2 l r) ((eidPre l).bind fun el => (eidPre r).bind fun er => k el er) := fun k hk =>
    SewOf.ro_bind (he _) fun _ => SewOf.ro_bind (he _) fun _ => hk _ _
  unfold twoSewG
  refine SewOf.ro_bind (ReadOnly.rB _ _) fun b1l => SewOf.ro_bind (ReadOnly.rB _ _) fun b1r => ?_
  refine SewOf.ite ?_ (SewOf.ite ?_ (SewOf.ite ?_ ?_))
  · exact pre _ fun el er => SewOf.core_tail F fun _ => F.bind (eid' _) fun _ => ae _ _ _
  iterate 2
    · unfold twoSewOne
      refine pre _ fun el er => SewOf.ro_bind (hv _) fun _ => SewOf.ro_bind (hv _) fun _ => ?_
      refine SewOf.core_tail F fun _ => F.bind (vid' _) fun _ => F.bind (eid' _) fun _ => ?_
      exact F.bind (mv _ _ _) fun _ => F.bind (av _ _ _) fun _ => ae _ _ _
  · refine pre _ fun el er => SewOf.ro_bind (hv _) fun _ => SewOf.ro_bind (hv _) fun _ => ?_
    refine SewOf.ro_bind (hv _) fun _ => SewOf.ro_bind (hv _) fun _ => ?_
    refine SewOf.ro_bind (ReadOnly.rA _ _) fun _ => SewOf.ro_bind (ReadOnly.rA _ _) fun _ => ?_
    refine SewOf.ro_bind (ReadOnly.rA _ _) fun _ => SewOf.ro_bind (ReadOnly.rA _ _) fun _ => ?_
    refine SewOf.ite (SewOf.abort _) ?_
    refine SewOf.core_tail F fun _ => F.bind (vid' _) fun _ => F.bind (vid' _) fun _ => F.bind (eid' _) fun _ => ?_
    refine F.bind (mv _ _ _) fun _ => F.bind (mv _ _ _) fun _ => ?_
    exact F.bind (av _ _ _) fun _ => F.bind (av _ _ _) fun _ => ae _ _ _

theorem sewOf_twoSew2 (l r : Nat) (hm : MovesIn R cfg (vStores cfg ++ eStores cfg)) :
    SewOf R (iLinkCore 2 l r) (twoSew2 cfg n l r) := by
  rw [twoSew2_eq]
  exact sewOf_twoSewG F cfg (readOnly_vertexId2 n) ReadOnly.pure readOnly_edgeId2 l r hm

theorem sewOf_twoUnsew2 (l : Nat) (hm : MovesIn R cfg (vStores cfg ++ eStores cfg)) :
    SewOf R (iUnlinkCore 2 l) (twoUnsew2 cfg n l) := by
  have sv := hm.split 0 (List.mem_append_left _ (List.mem_cons_self ..))
  have av := hm.splitAttrs F (k := 0) fun _ hs => List.mem_append_left _ (mem_vStores hs)
  have ae := hm.splitAttrs F (k := 1) fun _ hs => List.mem_append_right _ hs
  have vid := fun d => F.ro (readOnly_vertexId2 (X := X) n d)
  unfold twoUnsew2
  refine SewOf.ro_bind (ReadOnly.rB _ _) fun r => SewOf.ro_bind (ReadOnly.rB _ _) fun b1l => ?_
  refine SewOf.ro_bind (ReadOnly.rB _ _) fun b1r => ?_
  refine SewOf.ite ?_ (SewOf.ite ?_ (SewOf.ite ?_ ?_))
  · exact SewOf.ro_bind (readOnly_edgeId2 _) fun _ => SewOf.core_tail F fun _ => ae _ _ _
  iterate 2
    · refine SewOf.ro_bind (readOnly_edgeId2 _) fun _ => SewOf.ro_bind (readOnly_vertexId2 _ _) fun _ => ?_
      refine SewOf.core_tail F fun _ => F.bind (ae _ _ _) fun _ => F.bind (vid _) fun _ => F.bind (vid _) fun _ => ?_
      exact F.bind (sv _ _ _) fun _ => av _ _ _
  · refine SewOf.ro_bind (readOnly_edgeId2 _) fun _ => SewOf.ro_bind (readOnly_vertexId2 _ _) fun _ => ?_
    refine SewOf.ro_bind (readOnly_vertexId2 _ _) fun _ => ?_
    refine SewOf.core_tail F fun _ => F.bind (ae _ _ _) fun _ => ?_
    refine F.bind (vid _) fun _ => F.bind (vid _) fun _ => F.bind (vid _) fun _ => F.bind (vid _) fun _ => ?_
    refine F.bind (sv _ _ _) fun _ => F.bind (av _ _ _) fun _ => ?_
    exact F.bind (sv _ _ _) fun _ => av _ _ _

end

/-! on the topology a 2-D sew is its link core -/

theorem topo_oneSew2 (cfg : Cfg X) (n l r : Nat) : SewOf SameTopo (oneLinkCore l r) (oneSew2 cfg n l r) :=
  sewOf_oneSew2 pre_sameTopo cfg n l r (movesIn_sameTopo _ _)

theorem topo_oneUnsew2 (cfg : Cfg X) (n l : Nat) : SewOf SameTopo (oneUnlinkCore l) (oneUnsew2 cfg n l) :=
  sewOf_oneUnsew2 pre_sameTopo cfg n l (movesIn_sameTopo _ _)

theorem topo_twoSew2 (cfg : Cfg X) (n l r : Nat) : SewOf SameTopo (iLinkCore 2 l r) (twoSew2 cfg n l r) :=
  sewOf_twoSew2 pre_sameTopo cfg n l r (movesIn_sameTopo _ _)

theorem topo_twoUnsew2 (cfg : Cfg X) (n l : Nat) : SewOf SameTopo (iUnlinkCore 2 l) (twoUnsew2 cfg n l) :=
  sewOf_twoUnsew2 pre_sameTopo cfg n l (movesIn_sameTopo _ _)

end HC

/-
  Faces of the 3-D hex grid as computed by the code (`face_id_transac`, the two-sided lock-step
  walk, and `iter_faces`).  On any well-formed map, `face_id` of a dart of a quadrilateral (free, or
  glued to another quadrilateral) is the least dart of the face (`faceId3_free`, `faceId3_glued`).
  On the grid: a dart is a face identifier iff it is the first dart of its quadrilateral and the
  face is either on the `x+ / y+ / z+` side of its cell or on the outer boundary;
  `iter_faces` yields `3·nx·ny·nz + nx·nz + nx·ny + ny·nz` identifiers for every size.
-/
import Mathlib.Data.List.Nodup
import Honeycomb.Lemmas.Grid3Vertex
import Honeycomb.Lemmas.GridCount

namespace HC.Grid3Face
open HC HC.Gen HC.Grid3Vertex HC.GridCount HC.Face3

variable {X : Type}

/-! ## the walk on a quadrilateral, through its pure form `Face3.fw` -/

theorem not_mem_of_nodup_concat {l : List Nat} {x : Nat} (h : (l ++ [x]).Nodup) : x ∉ l :=
  fun hx => (List.nodup_append.mp h).2.2 x hx x (List.mem_singleton_self x) rfl

/-- the minimum after one turn round two 4-cycles walked in lock step -/
def mnTurn (mn a0 a1 a2 a3 b0 b1 b2 b3 : Nat) : Nat :=
  upd (upd (upd (upd mn a1 b1) a2 b2) a3 b3) a0 b0

section
variable {f1 f0 : Nat → Nat} {a0 a1 a2 a3 b0 b1 b2 b3 : Nat}

/-- four rounds that mark the left cycle -/
theorem fw_L4 (mn f : Nat) (s0 : f1 a0 = a1) (s1 : f1 a1 = a2) (s2 : f1 a2 = a3) (s3 : f1 a3 = a0)
    (t0 : f0 b0 = b1) (t1 : f0 b1 = b2) (t2 : f0 b2 = b3) (t3 : f0 b3 = b0) (nd : [0, a0, a1, a2, a3].Nodup) :
    fw f1 f0 (f + 4) a0 b0 [0] mn = fw f1 f0 f a0 b0 [0, a0, a1, a2, a3] (mnTurn mn a0 a1 a2 a3 b0 b1 b2 b3) := by
  -- in the shape `mk ++ [x]` in which the walk extends its list of marked darts
  have n3 : ([0] ++ [a0] ++ [a1] ++ [a2] ++ [a3]).Nodup := nd
  have n2 := n3.of_append_left
  have n1 := n2.of_append_left
  have n0 := n1.of_append_left
  rw [fw_left (not_mem_of_nodup_concat n0), s0, t0, fw_left (not_mem_of_nodup_concat n1), s1, t1,
    fw_left (not_mem_of_nodup_concat n2), s2, t2, fw_left (not_mem_of_nodup_concat n3), s3, t3]
  rfl

/-- two disjoint closed 4-cycles walked in lock step: 9 rounds -/
theorem fw8 (mn f : Nat) (s0 : f1 a0 = a1) (s1 : f1 a1 = a2) (s2 : f1 a2 = a3) (s3 : f1 a3 = a0)
    (t0 : f0 b0 = b1) (t1 : f0 b1 = b2) (t2 : f0 b2 = b3) (t3 : f0 b3 = b0)
    (nd : [0, a0, a1, a2, a3, b0, b1, b2, b3].Nodup) :
    fw f1 f0 (f + 9) a0 b0 [0] mn =
      some (a0, b0, [0, a0, a1, a2, a3, b0, b1, b2, b3],
        mnTurn (mnTurn mn a0 a1 a2 a3 b0 b1 b2 b3) a0 a1 a2 a3 b0 b1 b2 b3) := by
  have n7 : ([0, a0, a1, a2, a3] ++ [b0] ++ [b1] ++ [b2] ++ [b3]).Nodup := nd
  have n6 := n7.of_append_left
  have n5 := n6.of_append_left
  have n4 := n5.of_append_left
  rw [fw_L4 mn (f + 5) s0 s1 s2 s3 t0 t1 t2 t3 n4.of_append_left,
    fw_right (by simp) (not_mem_of_nodup_concat n4), s0, t0, fw_right (by simp) (not_mem_of_nodup_concat n5), s1, t1,
    fw_right (by simp) (not_mem_of_nodup_concat n6), s2, t2, fw_right (by simp) (not_mem_of_nodup_concat n7), s3, t3,
    fw_stop (by simp) (by simp)]
  rfl

/-- a closed 4-cycle whose other side is the null dart: 5 rounds -/
theorem fw4 (mn f : Nat) (s0 : f1 a0 = a1) (s1 : f1 a1 = a2) (s2 : f1 a2 = a3) (s3 : f1 a3 = a0)
    (t : f0 0 = 0) (nd : [0, a0, a1, a2, a3].Nodup) :
    fw f1 f0 (f + 5) a0 0 [0] mn = some (a0, 0, [0, a0, a1, a2, a3], mnTurn mn a0 a1 a2 a3 0 0 0 0) := by
  rw [fw_L4 mn (f + 1) s0 s1 s2 s3 t t t t nd, fw_stop (by simp) (by simp)]

end

theorem le_mnTurn {d mn a0 a1 a2 a3 b0 b1 b2 b3 : Nat} :
    d ≤ mnTurn mn a0 a1 a2 a3 b0 b1 b2 b3 ↔ d ≤ mn ∧
      (a1 ≠ 0 → d ≤ a1) ∧ (b1 ≠ 0 → d ≤ b1) ∧ (a2 ≠ 0 → d ≤ a2) ∧ (b2 ≠ 0 → d ≤ b2) ∧
      (a3 ≠ 0 → d ≤ a3) ∧ (b3 ≠ 0 → d ≤ b3) ∧ (a0 ≠ 0 → d ≤ a0) ∧ (b0 ≠ 0 → d ≤ b0) := by
  simp only [mnTurn, le_upd, and_assoc]

/-- a number with the lower bounds `d ≤ a ∧ Q d` is `a` iff `a` has the other bounds -/
theorem glb_eq_iff {r a : Nat} {Q : Nat → Prop} (h : ∀ d, d ≤ r ↔ d ≤ a ∧ Q d) : r = a ↔ Q a := by
  have hle : r ≤ a := ((h r).mp (Nat.le_refl r)).1
  constructor
  · intro e
    exact ((h a).mp (e ▸ Nat.le_refl r)).2
  · intro hq
    exact Nat.le_antisymm hle ((h a).mpr ⟨Nat.le_refl a, hq⟩)

section
variable {m : Map X} {n a0 a1 a2 a3 b0 b1 b2 b3 : Nat}

theorem faceId3_free (wf : WF 4 m) (hn : 4 ≤ n) (h0 : a0 < m.n) (s0 : m.β 1 a0 = a1) (s1 : m.β 1 a1 = a2)
    (s2 : m.β 1 a2 = a3) (s3 : m.β 1 a3 = a0) (h3 : m.β 3 a0 = 0) (nd : [0, a0, a1, a2, a3].Nodup) :
    ∃ r, run (faceId3 (X := X) n a0) m = (.ok r, m) ∧ ∀ d, d ≤ r ↔ d ≤ a0 ∧ d ≤ a1 ∧ d ≤ a2 ∧ d ≤ a3 := by
  have z : 0 < m.n := wf.npos
  have nz : ∀ x, x ∈ [a0, a1, a2, a3] → x ≠ 0 := fun x hx e => (List.nodup_cons.mp nd).1 (e ▸ hx)
  have h3n : a3 < m.n := s2 ▸ wf.range 1 (by decide) _ (s1 ▸ wf.range 1 (by decide) _ (s0 ▸ wf.range 1 (by decide) _ h0))
  have hb0 : m.β 0 a0 = a3 := by
    have := wf.inv01 a3 h3n
    rw [s3] at this
    exact this (nz a0 (by simp))
  have e5 : n + 1 = (n - 4) + 5 := by omega
  unfold faceId3
  simp only [Prog.bind_eq, run_rB, wf.okβ_of_lt (by decide : 3 < 4) h0, h3, if_true]
  rw [run_bind, e5, run_faceWalk3 wf (by decide) (by decide) _ _ _ _ _ h0 z,
    fw4 _ _ s0 s1 s2 s3 (wf.null 0 (by decide)) nd]
  simp only [or_true, if_true, run_rB, wf.okβ_of_lt (by decide : 0 < 4) h0, wf.okβ_of_lt (by decide : 1 < 4) z, hb0,
    wf.null 1 (by decide)]
  rw [run_bind, run_faceWalk3 wf (by decide) (by decide) _ _ _ _ _ h3n z, fw_stop (by simp) (by simp)]
  refine ⟨upd (mnTurn a0 a0 a1 a2 a3 0 0 0 0) a3 0, rfl, fun d => ?_⟩
  have za := nz a0 (by simp)
  have z1 := nz a1 (by simp)
  have z2 := nz a2 (by simp)
  have z3 := nz a3 (by simp)
  simp only [le_upd, le_mnTurn, ne_eq, za, z1, z2, z3, not_false_eq_true, not_true_eq_false, forall_const,
    false_implies, and_true, true_and]
  constructor
  · rintro ⟨⟨h0, h1, h2, h3, _⟩, _⟩
    exact ⟨h0, h1, h2, h3⟩
  · rintro ⟨h0, h1, h2, h3⟩
    exact ⟨⟨h0, h1, h2, h3, h0⟩, h3⟩

theorem faceId3_glued (wf : WF 4 m) (hn : 8 ≤ n) (h0 : a0 < m.n) (s0 : m.β 1 a0 = a1) (s1 : m.β 1 a1 = a2)
    (s2 : m.β 1 a2 = a3) (s3 : m.β 1 a3 = a0) (h3 : m.β 3 a0 = b0) (t0 : m.β 0 b0 = b1) (t1 : m.β 0 b1 = b2)
    (t2 : m.β 0 b2 = b3) (t3 : m.β 0 b3 = b0) (nd : [0, a0, a1, a2, a3, b0, b1, b2, b3].Nodup) :
    ∃ r, run (faceId3 (X := X) n a0) m = (.ok r, m) ∧
      ∀ d, d ≤ r ↔ d ≤ a0 ∧ d ≤ a1 ∧ d ≤ a2 ∧ d ≤ a3 ∧ d ≤ b0 ∧ d ≤ b1 ∧ d ≤ b2 ∧ d ≤ b3 := by
  have nz : ∀ x, x ∈ [a0, a1, a2, a3, b0, b1, b2, b3] → x ≠ 0 := fun x hx e => (List.nodup_cons.mp nd).1 (e ▸ hx)
  have za := nz a0 (by simp)
  have zb := nz b0 (by simp)
  have e9 : n + 1 = (n - 8) + 9 := by omega
  unfold faceId3
  simp only [Prog.bind_eq, run_rB, wf.okβ_of_lt (by decide : 3 < 4) h0, h3, zb, if_true, if_false]
  rw [run_bind, e9, run_faceWalk3 wf (by decide) (by decide) _ _ _ _ _ h0 (h3 ▸ wf.range 3 (by decide) a0 h0),
    fw8 _ _ s0 s1 s2 s3 t0 t1 t2 t3 nd]
  simp only [za, zb, or_self, if_false, Prog.pure_eq, run_ret]
  refine ⟨_, rfl, fun d => ?_⟩
  have z1 := nz a1 (by simp)
  have z2 := nz a2 (by simp)
  have z3 := nz a3 (by simp)
  have y1 := nz b1 (by simp)
  have y2 := nz b2 (by simp)
  have y3 := nz b3 (by simp)
  simp only [le_mnTurn, ne_eq, za, z1, z2, z3, zb, y1, y2, y3, not_false_eq_true, forall_const, Nat.le_min]
  constructor
  · rintro ⟨⟨⟨h0, k0⟩, h1, k1, h2, k2, h3, k3, _⟩, _⟩
    exact ⟨h0, h1, h2, h3, k0, k1, k2, k3⟩
  · rintro ⟨h0, h1, h2, h3, k0, k1, k2, k3⟩
    exact ⟨⟨⟨h0, k0⟩, h1, k1, h2, k2, h3, k3, h0, k0⟩, h1, k1, h2, k2, h3, k3, h0, k0⟩

end

/-! ## faces of the generated hex table -/

theorem hexFaceFacts : ∀ o, o < 24 →
    pp 1 (pp 1 (pp 1 (pp 1 o))) = o ∧ pp 0 (pp 3 o) = pp 3 (pp 1 o) ∧
    [o, pp 1 o, pp 1 (pp 1 o), pp 1 (pp 1 (pp 1 o))].Nodup ∧
    [pp 3 o, pp 3 (pp 1 o), pp 3 (pp 1 (pp 1 o)), pp 3 (pp 1 (pp 1 (pp 1 o)))].Nodup ∧
    (∀ x, x ∈ [o, pp 1 o, pp 1 (pp 1 o), pp 1 (pp 1 (pp 1 o))] → x < 24) ∧
    (∀ x, x ∈ [pp 3 o, pp 3 (pp 1 o), pp 3 (pp 1 (pp 1 o)), pp 3 (pp 1 (pp 1 (pp 1 o)))] → x < 24) ∧
    ((o ≤ pp 1 o ∧ o ≤ pp 1 (pp 1 o) ∧ o ≤ pp 1 (pp 1 (pp 1 o))) ↔ o % 4 = 0) := by decide +kernel

variable {nx ny nz : Nat} {m : Map Val}

theorem D3_le_iff {a b c o o' : Nat} : D3 nx ny a b c o ≤ D3 nx ny a b c o' ↔ o ≤ o' :=
  Nat.add_le_add_iff_left

theorem nodup_cell (a b c : Nat) {os : List Nat} (h : os.Nodup) : (0 :: os.map (D3 nx ny a b c)).Nodup := by
  refine List.nodup_cons.mpr ⟨?_, h.map (fun _ _ e => Nat.add_left_cancel e)⟩
  intro h0
  obtain ⟨o, _, e⟩ := List.mem_map.mp h0
  exact absurd e D3_ne_zero

theorem nodup_cells {a b c a' b' c' : Nat} {os ps : List Nat} (ho : os.Nodup) (hp : ps.Nodup)
    (lo : ∀ o, o ∈ os → o < 24) (lp : ∀ p, p ∈ ps → p < 24)
    (hne : cellIdx nx ny a b c ≠ cellIdx nx ny a' b' c') :
    (0 :: (os.map (D3 nx ny a b c) ++ ps.map (D3 nx ny a' b' c'))).Nodup := by
  obtain ⟨z1, n1⟩ := List.nodup_cons.mp (nodup_cell (nx := nx) (ny := ny) a b c ho)
  obtain ⟨z2, n2⟩ := List.nodup_cons.mp (nodup_cell (nx := nx) (ny := ny) a' b' c' hp)
  refine List.nodup_cons.mpr ⟨fun h => (List.mem_append.mp h).elim z1 z2, List.nodup_append.mpr ⟨n1, n2, ?_⟩⟩
  intro x hx y hy e
  obtain ⟨o, mo, rfl⟩ := List.mem_map.mp hx
  obtain ⟨p, mp, rfl⟩ := List.mem_map.mp hy
  exact hne ((dartOf_cell (lo o mo)).symm.trans ((congrArg (fun d => (d - 1) / 24) e).trans (dartOf_cell (lp p mp))))

theorem nbr_order (hnx : 0 < nx) (hny : 0 < ny) {dir a b c a' b' c' : Nat} (h1 : 1 ≤ dir) (h6 : dir ≤ 6)
    (hn : Nbr dir a b c a' b' c') :
    ((dir = 2 ∨ dir = 4 ∨ dir = 6) ∧ cellIdx nx ny a b c < cellIdx nx ny a' b' c') ∨
    ((dir = 1 ∨ dir = 3 ∨ dir = 5) ∧ cellIdx nx ny a' b' c' < cellIdx nx ny a b c) := by
  have hxy : 0 < nx * ny := Nat.mul_pos hnx hny
  rcases dir_cases h6 with e | e | e | e | e | e | e <;> subst e <;> simp only [Nbr] at hn <;>
    obtain ⟨e1, e2, e3⟩ := hn
  · omega
  · right; refine ⟨Or.inl rfl, ?_⟩
    have := cellIdx_xp nx ny a' b' c'; subst e2 e3; rw [← e1, this]; omega
  · left; refine ⟨Or.inl rfl, ?_⟩
    have := cellIdx_xp nx ny a b c; subst e2 e3; rw [e1, this]; omega
  · right; refine ⟨Or.inr (Or.inl rfl), ?_⟩
    have := cellIdx_yp nx ny a' b' c'; subst e1 e3; rw [← e2, this]; omega
  · left; refine ⟨Or.inr (Or.inl rfl), ?_⟩
    have := cellIdx_yp nx ny a b c; subst e1 e3; rw [e2, this]; omega
  · right; refine ⟨Or.inr (Or.inr rfl), ?_⟩
    have := cellIdx_zp nx ny a' b' c'; subst e1 e2; rw [← e3, this]; omega
  · left; refine ⟨Or.inr (Or.inr rfl), ?_⟩
    have := cellIdx_zp nx ny a b c; subst e1 e2; rw [e3, this]; omega

/-- non-transactional `face_id` (3-D) -/
def fid3 (m : Map Val) (d : Nat) : Nat := okVal (run (faceId3 m.n d) m) 0

theorem fid3_iff (hnx : 0 < nx) (hny : 0 < ny) (st : SameTopo (H3 nx ny nz) m) {a b c o : Nat}
    (ha : a < nx) (hb : b < ny) (hc : c < nz) (ho : o < 24) :
    fid3 m (D3 nx ny a b c o) = D3 nx ny a b c o ↔
      (o % 4 = 0 ∧ (dir3 o = 2 ∨ dir3 o = 4 ∨ dir3 o = 6 ∨ m.β 3 (D3 nx ny a b c o) = 0)) := by
  have wf : WF 4 m := (H3_wf nz hnx hny).sameTopo st
  have hn : m.n = 24 * nx * ny * nz + 1 := st.n
  have hN : 1 ≤ nx * ny * nz := Nat.mul_pos (Nat.mul_pos hnx hny) (by omega)
  have h8 : 8 ≤ m.n := by rw [hn, Nat.mul_assoc 24, Nat.mul_assoc 24]; omega
  have hdn : D3 nx ny a b c o < m.n := by rw [hn]; exact D3_lt ha hb hc ho
  obtain ⟨_, _, _, _, q1, _, _, d1, d6, _⟩ := hexFacts o ho
  have q2 := hex_pp_lt 1 (by decide) q1
  have q3 := hex_pp_lt 1 (by decide) q2
  obtain ⟨g1, g3, ndo, ndp, lo, lp, g6⟩ := hexFaceFacts o ho
  have s0 := βw st ha hb hc ho (by decide : 1 < 3)
  have s1 := βw st ha hb hc q1 (by decide : 1 < 3)
  have s2 := βw st ha hb hc q2 (by decide : 1 < 3)
  have s3 := βw st ha hb hc q3 (by decide : 1 < 3)
  rw [g1] at s3
  unfold fid3
  rcases β3_cases st ha hb hc ho with h3 | ⟨a', b', c', ha', hb', hc', hnb, h3⟩
  · obtain ⟨r, hr, hmin⟩ := faceId3_free wf (Nat.le_trans (by decide) h8) hdn s0 s1 s2 s3 h3 (nodup_cell a b c ndo)
    rw [hr, h3]
    show r = _ ↔ _
    rw [glb_eq_iff hmin, D3_le_iff, D3_le_iff, D3_le_iff, g6]
    simp only [or_true, and_true]
  · have p3 := fun o' (ho' : o' < 24) => hex_pp_lt 3 (by decide) ho'
    have t0 := βw st ha' hb' hc' (p3 o ho) (by decide : 0 < 3)
    have t1 := βw st ha' hb' hc' (p3 _ q1) (by decide : 0 < 3)
    have t2 := βw st ha' hb' hc' (p3 _ q2) (by decide : 0 < 3)
    have t3 := βw st ha' hb' hc' (p3 _ q3) (by decide : 0 < 3)
    rw [g3] at t0
    rw [(hexFaceFacts _ q1).2.1] at t1
    rw [(hexFaceFacts _ q2).2.1] at t2
    rw [(hexFaceFacts _ q3).2.1, g1] at t3
    have ord := nbr_order hnx hny d1 d6 hnb
    have hne : cellIdx nx ny a b c ≠ cellIdx nx ny a' b' c' := by
      rcases ord with ⟨_, h⟩ | ⟨_, h⟩ <;> omega
    obtain ⟨r, hr, hmin⟩ := faceId3_glued wf h8 hdn s0 s1 s2 s3 h3 t0 t1 t2 t3 (nodup_cells ndo ndp lo lp hne)
    rw [hr]
    show r = _ ↔ _
    rw [glb_eq_iff hmin, D3_le_iff, D3_le_iff, D3_le_iff]
    have hb3 : m.β 3 (D3 nx ny a b c o) ≠ 0 := h3 ▸ D3_ne_zero
    rcases ord with ⟨hd, hlt⟩ | ⟨hd, hlt⟩
    · have up : ∀ p, D3 nx ny a b c o ≤ D3 nx ny a' b' c' p := fun p => Nat.le_of_lt (dartOf_lt_of_cell ho hlt)
      simp only [up, and_true, hb3, or_false]
      rw [g6]
      exact and_iff_left hd |>.symm
    · have dn : ¬ D3 nx ny a b c o ≤ D3 nx ny a' b' c' (pp 3 o) := Nat.not_le.mpr (dartOf_lt_of_cell (p3 o ho) hlt)
      simp only [dn, false_and, and_false, false_iff, hb3, or_false]
      omega

theorem hexFaceDirs : ∀ o, o < 24 →
    (dir3 o = 2 ↔ o / 4 = 2) ∧ (dir3 o = 4 ↔ o / 4 = 5) ∧ (dir3 o = 6 ↔ o / 4 = 3) ∧
    (dir3 o = 1 ↔ o / 4 = 4) ∧ (dir3 o = 3 ↔ o / 4 = 0) ∧ (dir3 o = 5 ↔ o / 4 = 1) := by decide +kernel

theorem β3_zero_iff (st : SameTopo (H3 nx ny nz) m) {a b c o : Nat} (ha : a < nx) (hb : b < ny) (hc : c < nz)
    (ho : o < 24) :
    m.β 3 (D3 nx ny a b c o) = 0 ↔
      ((dir3 o = 1 ∧ a = 0) ∨ (dir3 o = 2 ∧ a + 1 = nx) ∨ (dir3 o = 3 ∧ b = 0) ∨ (dir3 o = 4 ∧ b + 1 = ny) ∨
       (dir3 o = 5 ∧ c = 0) ∨ (dir3 o = 6 ∧ c + 1 = nz)) := by
  obtain ⟨d1, d6⟩ := hex_dir3 ho
  rw [hexMap_β st ha hb hc ho (by decide)]
  exact absEntry_eq_zero d1 d6

theorem fid3_iff' (hnx : 0 < nx) (hny : 0 < ny) (st : SameTopo (H3 nx ny nz) m) {a b c o : Nat}
    (ha : a < nx) (hb : b < ny) (hc : c < nz) (ho : o < 24) :
    fid3 m (D3 nx ny a b c o) = D3 nx ny a b c o ↔
      (o % 4 = 0 ∧ (o / 4 = 2 ∨ o / 4 = 3 ∨ o / 4 = 5 ∨ (o / 4 = 0 ∧ b = 0) ∨ (o / 4 = 1 ∧ c = 0) ∨
        (o / 4 = 4 ∧ a = 0))) := by
  obtain ⟨e2, e4, e6, e1, e3, e5⟩ := hexFaceDirs o ho
  rw [fid3_iff hnx hny st ha hb hc ho, β3_zero_iff st ha hb hc ho, e1, e2, e3, e4, e5, e6]
  have hf : o / 4 = 0 ∨ o / 4 = 1 ∨ o / 4 = 2 ∨ o / 4 = 3 ∨ o / 4 = 4 ∨ o / 4 = 5 := by omega
  rcases hf with e | e | e | e | e | e <;>
    simp only [e, Nat.reduceEqDiff, true_and, false_and, false_or, or_false, true_or, or_true]

/-! ## counting the face identifiers -/

/-- the face identifiers by local index: `x+`, `z+`, `y+` of every cell, `y−`, `z−`, `x−` on the boundary -/
theorem fid3_iff_local (hnx : 0 < nx) (hny : 0 < ny) (st : SameTopo (H3 nx ny nz) m) {a b c o : Nat}
    (ha : a < nx) (hb : b < ny) (hc : c < nz) (ho : o < 24) :
    fid3 m (D3 nx ny a b c o) = D3 nx ny a b c o ↔
      (o = 8 ∨ o = 12 ∨ o = 20 ∨ (o = 0 ∧ b = 0) ∨ (o = 4 ∧ c = 0) ∨ (o = 16 ∧ a = 0)) := by
  have h0 : (o % 4 = 0 ∧ o / 4 = 0) ↔ o = 0 := by omega
  have h1 : (o % 4 = 0 ∧ o / 4 = 1) ↔ o = 4 := by omega
  have h2 : (o % 4 = 0 ∧ o / 4 = 2) ↔ o = 8 := by omega
  have h3 : (o % 4 = 0 ∧ o / 4 = 3) ↔ o = 12 := by omega
  have h4 : (o % 4 = 0 ∧ o / 4 = 4) ↔ o = 16 := by omega
  have h5 : (o % 4 = 0 ∧ o / 4 = 5) ↔ o = 20 := by omega
  rw [fid3_iff' hnx hny st ha hb hc ho]
  simp only [and_or_left, ← and_assoc, h0, h1, h2, h3, h4, h5]

theorem iterFaces_length (hnx : 0 < nx) (hny : 0 < ny) (hnz : 0 < nz) (st : SameTopo (H3 nx ny nz) m) :
    (iterFaces3 m).length = 3 * (nx * ny * nz) + nx * nz + nx * ny + ny * nz := by
  have hn : m.n = 24 * (nx * ny * nz) + 1 := by rw [st.n, H3_n, Nat.mul_assoc 24, Nat.mul_assoc 24]
  unfold iterFaces3
  rw [iterCells_length_locals _ hn (gridMap_unused_of st)
    [(8, fun _ => true), (12, fun _ => true), (20, fun _ => true), (0, fun C => decide (C / nx % ny = 0)),
      (4, fun C => decide (C / (nx * ny) = 0)), (16, fun C => decide (C % nx = 0))] (by simp) (by simp)]
  · simp only [List.map_cons, List.map_nil, List.sum_cons, List.sum_nil, GridCount.filter_true, List.length_range]
    rw [count_mid0 hnx hny, count_row0 (Nat.mul_pos hnx hny) hnz, Nat.mul_assoc nx ny nz, count_col0 hnx]
    omega
  · intro d h1 h2
    obtain ⟨a, b, c, o, ha, hb, hc, ho, rfl⟩ := isD3_of_range (d := d) (nz := nz) hnx hny h1
      (by rw [hn] at h2; rw [Nat.mul_assoc 24, Nat.mul_assoc 24]; omega)
    simp only [List.any_cons, List.any_nil, Bool.or_false, D3, isLocal_dartOf ho, cellIdx_x ha, cellIdx_y ha hb,
      cellIdx_z ha hb, Bool.and_true, ← Bool.decide_and, ← Bool.decide_or, decide_eq_true_eq]
    exact fid3_iff_local hnx hny st ha hb hc ho

end HC.Grid3Face

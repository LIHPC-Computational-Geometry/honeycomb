/-
  Generic BFS correctness (DESIGN.md Appendix A2), used by C03 (orbits, cell ids, iterators).

  * `bfsPure g`   : the recursion of `HC.bfs` (Model/Ops.lean) over a pure generator `g : Nat → List Nat`
  * `Reach g a b` : reflexive-transitive closure of `fun x y => y ∈ g x`
  * `bfsPure_spec`: with fuel `n + 1`, from a non-null start `d < n`, images `< n`, inert null dart,
                    the result starts with `d`, has no duplicates, omits 0, contains exactly the
                    reachable non-null darts, all `< n`
  * `run_bfs_inv`, `run_orbitWith` : the monadic `bfs gen` computes `bfsPure g` and leaves the map
                    unchanged whenever `gen x` returns `g x` on every dart `x < n`
  * symmetric generators (`InvClosed`): reachability between non-null darts is an equivalence and
    coincides with the equivalence closure `SameCell` of the generator steps
  * `listMin` is the minimum
  * `orbG g n d`, `cidG g n d`: the BFS list and its minimum for any generator with an inert null dart
    and images below the bound (`GenOK`); `mem_orbG … cidG_idem`: cell theory for generators closed
    under inverse (orbit = class, equal minima ⇔ same cell), shared by the 2-D and 3-D halves of C03
  * `orbG_linear`: one-directional generator sets on closed cells — every one-directional generator
    that is defined somewhere on the cell is defined everywhere on it

  * `cidG_canon`, `cidG_key`, `orbG_of_list`: the identifier of a cell whose darts are known in advance, as
    the darts of a key (the grids of C12) or as a list

  Core Lean only.
-/
import Honeycomb.Lemmas.Run
import Honeycomb.Lemmas.ListFacts

namespace HC

/-! ## the pure BFS and reachability -/

/-- `HC.bfs` with a pure generator: same `bfsCheck` fold, same fuel discipline -/
def bfsPure (g : Nat → List Nat) : Nat → List Nat → List Nat → List Nat → List Nat
  | 0, _, _, out => out
  | _ + 1, [], _, out => out
  | f + 1, d :: rest, marked, out =>
      bfsPure g f ((g d).foldl bfsCheck (rest, marked)).1 ((g d).foldl bfsCheck (rest, marked)).2
        (out ++ [d])

/-- reflexive-transitive closure of "is a generator image of" -/
inductive Reach (g : Nat → List Nat) : Nat → Nat → Prop where
  | refl (a : Nat) : Reach g a a
  | tail {a b c : Nat} : Reach g a b → c ∈ g b → Reach g a c

namespace Reach
variable {g : Nat → List Nat}

theorem single {a b : Nat} (h : b ∈ g a) : Reach g a b := .tail (.refl a) h

theorem trans {a b c : Nat} (h1 : Reach g a b) (h2 : Reach g b c) : Reach g a c := by
  induction h2 with
  | refl => exact h1
  | tail _ hc ih => exact .tail ih hc

theorem head {a b c : Nat} (h : b ∈ g a) (h2 : Reach g b c) : Reach g a c := (single h).trans h2

theorem cases_tail {a c : Nat} (h : Reach g a c) : c = a ∨ ∃ b, Reach g a b ∧ c ∈ g b := by
  cases h with
  | refl => exact Or.inl rfl
  | tail h1 h2 => exact Or.inr ⟨_, h1, h2⟩

theorem lt {n a b : Nat} (hr : ∀ x, x < n → ∀ y, y ∈ g x → y < n) (h : Reach g a b) (ha : a < n) :
    b < n := by
  induction h with
  | refl => exact ha
  | tail _ hc ih => exact hr _ ih _ hc

theorem of_zero {b : Nat} (h0 : ∀ y, y ∈ g 0 → y = 0) (h : Reach g 0 b) : b = 0 := by
  induction h with
  | refl => rfl
  | tail _ hc ih => subst ih; exact h0 _ hc

theorem pred_ne_zero {b c : Nat} (h0 : ∀ y, y ∈ g 0 → y = 0) (hc : c ∈ g b) (hc0 : c ≠ 0) : b ≠ 0 := by
  intro hb; subst hb; exact hc0 (h0 _ hc)

theorem mono {g' : Nat → List Nat} (hsub : ∀ x y, y ∈ g x → y ∈ g' x) {a b : Nat} (h : Reach g a b) :
    Reach g' a b := by
  induction h with
  | refl => exact .refl _
  | tail _ hc ih => exact .tail ih (hsub _ _ hc)

end Reach

/-! ## one expansion step -/

theorem bfsCheck_fold (ims : List Nat) : ∀ (p mk : List Nat),
    ∃ new, ims.foldl bfsCheck (p, mk) = (p ++ new, mk ++ new) ∧ new.Nodup ∧
      (∀ x, x ∈ new → x ∈ ims ∧ x ∉ mk) ∧ (∀ x, x ∈ ims → x ∈ mk ∨ x ∈ new) := by
  induction ims with
  | nil => intro p mk; exact ⟨[], by simp, List.nodup_nil, by simp, by simp⟩
  | cons i is ih =>
      intro p mk
      rw [List.foldl_cons]
      by_cases hc : mk.contains i = true
      · have hm : i ∈ mk := List.contains_iff_mem.1 hc
        obtain ⟨new, h1, h2, h3, h4⟩ := ih p mk
        refine ⟨new, ?_, h2, ?_, ?_⟩
        · have : bfsCheck (p, mk) i = (p, mk) := by simp only [bfsCheck, hc, if_true]
          rw [this]; exact h1
        · intro x hx; exact ⟨List.mem_cons_of_mem _ (h3 x hx).1, (h3 x hx).2⟩
        · intro x hx
          rcases List.mem_cons.1 hx with rfl | hx
          · exact Or.inl hm
          · exact h4 x hx
      · have hm : i ∉ mk := fun h => hc (List.contains_iff_mem.2 h)
        obtain ⟨new, h1, h2, h3, h4⟩ := ih (p ++ [i]) (mk ++ [i])
        refine ⟨i :: new, ?_, ?_, ?_, ?_⟩
        · have : bfsCheck (p, mk) i = (p ++ [i], mk ++ [i]) := by
            simp only [bfsCheck, hc, if_false, Bool.false_eq_true]
          rw [this, h1, List.append_assoc, List.append_assoc]; rfl
        · refine List.nodup_cons.2 ⟨?_, h2⟩
          intro hi
          exact (h3 i hi).2 (List.mem_append_right _ (List.mem_singleton.2 rfl))
        · intro x hx
          rcases List.mem_cons.1 hx with rfl | hx
          · exact ⟨List.mem_cons_self, hm⟩
          · exact ⟨List.mem_cons_of_mem _ (h3 x hx).1,
              fun hmk => (h3 x hx).2 (List.mem_append_left _ hmk)⟩
        · intro x hx
          rcases List.mem_cons.1 hx with rfl | hx
          · exact Or.inr List.mem_cons_self
          · rcases h4 x hx with h | h
            · rcases List.mem_append.1 h with h | h
              · exact Or.inl h
              · exact Or.inr (by rw [List.mem_singleton.1 h]; exact List.mem_cons_self)
            · exact Or.inr (List.mem_cons_of_mem _ h)

/-! ## the invariant -/

/-- the loop invariant of Appendix A2 -/
structure BfsInv (g : Nat → List Nat) (n d : Nat) (pending marked out : List Nat) : Prop where
  mkd : ∀ x, x ∈ marked ↔ x = 0 ∨ x ∈ out ++ pending
  nodup : (out ++ pending).Nodup
  nz : ∀ x, x ∈ out ++ pending → x ≠ 0
  reach : ∀ x, x ∈ out ++ pending → Reach g d x
  lt : ∀ x, x ∈ out ++ pending → x < n
  closed : ∀ x, x ∈ out → ∀ y, y ∈ g x → y ∈ marked
  head : (out ++ pending).head? = some d

theorem BfsInv.init (g : Nat → List Nat) {n d : Nat} (hd0 : d ≠ 0) (hd : d < n) :
    BfsInv g n d [d] [0, d] [] where
  mkd := by intro x; simp
  nodup := by simp
  nz := by intro x hx; simp at hx; omega
  reach := by intro x hx; simp at hx; subst hx; exact .refl _
  lt := by intro x hx; simp at hx; omega
  closed := by intro x hx; simp at hx
  head := by simp

theorem BfsInv.step {g : Nat → List Nat} {n d x : Nat} {rest mk out : List Nat}
    (hr : ∀ a, a < n → ∀ y, y ∈ g a → y < n) (h : BfsInv g n d (x :: rest) mk out) :
    BfsInv g n d ((g x).foldl bfsCheck (rest, mk)).1 ((g x).foldl bfsCheck (rest, mk)).2
      (out ++ [x]) := by
  obtain ⟨new, e, nd, hnew, hall⟩ := bfsCheck_fold (g x) rest mk
  rw [e]
  have eq : (out ++ [x]) ++ (rest ++ new) = (out ++ x :: rest) ++ new := by simp
  have hx : x ∈ out ++ x :: rest := List.mem_append_right _ List.mem_cons_self
  have old_mk : ∀ y, y ∈ out ++ x :: rest → y ∈ mk := fun y hy => (h.mkd y).2 (Or.inr hy)
  have hzero : (0 : Nat) ∈ mk := (h.mkd 0).2 (Or.inl rfl)
  have old_or_new : ∀ y, y ∈ (out ++ [x]) ++ (rest ++ new) → y ∈ out ++ x :: rest ∨ y ∈ new := by
    intro y hy
    rw [eq] at hy
    exact List.mem_append.1 hy
  refine ⟨?_, ?_, ?_, ?_, ?_, ?_, ?_⟩
  · intro y
    show y ∈ mk ++ new ↔ y = 0 ∨ y ∈ (out ++ [x]) ++ (rest ++ new)
    rw [eq, List.mem_append, List.mem_append, h.mkd y]
    constructor
    · rintro (h1 | h1)
      · rcases h1 with h1 | h1
        · exact Or.inl h1
        · exact Or.inr (Or.inl h1)
      · exact Or.inr (Or.inr h1)
    · rintro (h1 | h1 | h1)
      · exact Or.inl (Or.inl h1)
      · exact Or.inl (Or.inr h1)
      · exact Or.inr h1
  · show ((out ++ [x]) ++ (rest ++ new)).Nodup
    rw [eq]
    refine List.nodup_append.2 ⟨h.nodup, nd, ?_⟩
    intro a ha b hb hab
    subst hab
    exact (hnew a hb).2 (old_mk a ha)
  · intro y hy
    rcases old_or_new y hy with hy | hy
    · exact h.nz y hy
    · intro h0; subst h0; exact (hnew 0 hy).2 hzero
  · intro y hy
    rcases old_or_new y hy with hy | hy
    · exact h.reach y hy
    · exact .tail (h.reach x hx) (hnew y hy).1
  · intro y hy
    rcases old_or_new y hy with hy | hy
    · exact h.lt y hy
    · exact hr x (h.lt x hx) y (hnew y hy).1
  · intro a ha y hy
    show y ∈ mk ++ new
    rcases List.mem_append.1 ha with ha | ha
    · exact List.mem_append_left _ (h.closed a ha y hy)
    · rw [List.mem_singleton.1 ha] at hy
      exact List.mem_append.2 (hall y hy)
  · show ((out ++ [x]) ++ (rest ++ new)).head? = some d
    rw [eq, List.head?_append, h.head]; rfl

/-! ## the loop terminates with the fuel it is given, and the invariant holds at exit -/

theorem bfsPure_inv {g : Nat → List Nat} {n d : Nat}
    (hr : ∀ a, a < n → ∀ y, y ∈ g a → y < n) (hpos : 0 < n) :
    ∀ (fuel : Nat) (p mk out : List Nat), BfsInv g n d p mk out → n ≤ fuel + out.length →
      ∃ mk', BfsInv g n d [] mk' (bfsPure g fuel p mk out) := by
  intro fuel
  induction fuel with
  | zero =>
      intro p mk out h hf
      exfalso
      have h1 := length_lt_of_nodup hpos h.nodup h.nz h.lt
      rw [List.length_append] at h1
      omega
  | succ f ih =>
      intro p mk out h hf
      cases p with
      | nil => exact ⟨mk, h⟩
      | cons x rest =>
          unfold bfsPure
          refine ih _ _ _ (h.step hr) ?_
          rw [List.length_append, List.length_singleton]
          omega

theorem BfsInv.final {g : Nat → List Nat} {n d : Nat} {mk out : List Nat}
    (h0 : ∀ y, y ∈ g 0 → y = 0) (h : BfsInv g n d [] mk out) :
    out.head? = some d ∧ out.Nodup ∧ 0 ∉ out ∧ (∀ x, x ∈ out ↔ (x ≠ 0 ∧ Reach g d x)) ∧
      ∀ x, x ∈ out → x < n := by
  have e : out ++ [] = out := List.append_nil _
  have hhead := h.head; rw [e] at hhead
  have hnd := h.nodup; rw [e] at hnd
  have hnz := h.nz; rw [e] at hnz
  have hre := h.reach; rw [e] at hre
  have hlt := h.lt; rw [e] at hlt
  have hmk : ∀ x, x ∈ mk ↔ x = 0 ∨ x ∈ out := by intro x; rw [h.mkd x, e]
  have hd : d ∈ out := List.mem_of_mem_head? hhead
  refine ⟨hhead, hnd, fun h0' => hnz 0 h0' rfl, ?_, hlt⟩
  intro x
  constructor
  · intro hx; exact ⟨hnz x hx, hre x hx⟩
  · rintro ⟨hx0, hx⟩
    induction hx with
    | refl => exact hd
    | tail hab hc ih =>
        rename_i b c
        have hb0 : b ≠ 0 := Reach.pred_ne_zero h0 hc hx0
        have hb := ih hb0
        rcases (hmk c).1 (h.closed b hb c hc) with h1 | h1
        · exact absurd h1 hx0
        · exact h1

/-- **generic BFS lemma** (pure form): with fuel `n + 1` the BFS from a non-null dart `d < n` returns
    `d` first, then exactly the non-null darts reachable from `d`, each once -/
theorem bfsPure_spec {g : Nat → List Nat} {n d : Nat}
    (h0 : ∀ y, y ∈ g 0 → y = 0) (hr : ∀ a, a < n → ∀ y, y ∈ g a → y < n)
    (hd0 : d ≠ 0) (hd : d < n) :
    (bfsPure g (n + 1) [d] [0, d] []).head? = some d ∧
    (bfsPure g (n + 1) [d] [0, d] []).Nodup ∧
    0 ∉ bfsPure g (n + 1) [d] [0, d] [] ∧
    (∀ x, x ∈ bfsPure g (n + 1) [d] [0, d] [] ↔ (x ≠ 0 ∧ Reach g d x)) ∧
    ∀ x, x ∈ bfsPure g (n + 1) [d] [0, d] [] → x < n := by
  obtain ⟨mk', h⟩ := bfsPure_inv hr (by omega) (n + 1) [d] [0, d] [] (BfsInv.init g hd0 hd)
    (by simp)
  exact h.final h0

/-! ## the monadic BFS computes the pure one -/

theorem run_bfs_inv {X : Type} {g : Nat → List Nat} {n d : Nat} {gen : Nat → P X (List Nat)}
    {m : Map X} (hgen : ∀ x, x < n → run (gen x) m = (.ok (g x), m))
    (hr : ∀ a, a < n → ∀ y, y ∈ g a → y < n) :
    ∀ (fuel : Nat) (p mk out : List Nat), BfsInv g n d p mk out →
      run (bfs gen fuel p mk out) m = (.ok (bfsPure g fuel p mk out), m) := by
  intro fuel
  induction fuel with
  | zero => intro p mk out _; rfl
  | succ f ih =>
      intro p mk out h
      cases p with
      | nil => rfl
      | cons x rest =>
          have hx : x < n := h.lt x (List.mem_append_right _ List.mem_cons_self)
          unfold bfs bfsPure
          show run ((gen x).bind _) m = _
          rw [run_bind, hgen x hx]
          exact ih _ _ _ (h.step hr)

/-- **generic BFS lemma** (monadic form): `orbitWith n gen d` succeeds, leaves the map unchanged and
    returns the pure BFS list -/
theorem run_orbitWith {X : Type} {g : Nat → List Nat} {n d : Nat} {gen : Nat → P X (List Nat)}
    {m : Map X} (hgen : ∀ x, x < n → run (gen x) m = (.ok (g x), m))
    (hr : ∀ a, a < n → ∀ y, y ∈ g a → y < n) (hd0 : d ≠ 0) (hd : d < n) :
    run (orbitWith n gen d) m = (.ok (bfsPure g (n + 1) [d] [0, d] []), m) :=
  run_bfs_inv hgen hr _ _ _ _ (BfsInv.init g hd0 hd)

/-! ## generators closed under inverse: reachability is an equivalence on non-null darts -/

/-- every non-null image of a dart below the bound has that dart among its own images -/
def InvClosed (g : Nat → List Nat) (n : Nat) : Prop :=
  ∀ x, x < n → ∀ y, y ∈ g x → y ≠ 0 → x ∈ g y

theorem Reach.symm_of_invClosed {g : Nat → List Nat} {n : Nat}
    (h0 : ∀ y, y ∈ g 0 → y = 0) (hr : ∀ a, a < n → ∀ y, y ∈ g a → y < n) (hi : InvClosed g n)
    {d x : Nat} (hd : d < n) (hx0 : x ≠ 0) (h : Reach g d x) : Reach g x d := by
  induction h with
  | refl => exact .refl _
  | tail hab hc ih =>
      rename_i b c
      have hb0 : b ≠ 0 := Reach.pred_ne_zero h0 hc hx0
      have hb : b < n := hab.lt hr hd
      exact Reach.head (hi b hb c hc hx0) (ih hb0)

/-- one generator step between non-null darts (pairs with a null component are dropped) -/
def GStep (g : Nat → List Nat) (n : Nat) (a b : Nat) : Prop := a ≠ 0 ∧ a < n ∧ b ≠ 0 ∧ b ∈ g a

/-- the cell relation of the property: equivalence closure of the generator steps
    ("reachable through the images and their inverses") -/
inductive SameCell (g : Nat → List Nat) (n : Nat) : Nat → Nat → Prop where
  | refl (a : Nat) : SameCell g n a a
  | step {a b : Nat} : GStep g n a b → SameCell g n a b
  | symm {a b : Nat} : SameCell g n a b → SameCell g n b a
  | trans {a b c : Nat} : SameCell g n a b → SameCell g n b c → SameCell g n a c

theorem SameCell.of_reach {g : Nat → List Nat} {n : Nat}
    (h0 : ∀ y, y ∈ g 0 → y = 0) (hr : ∀ a, a < n → ∀ y, y ∈ g a → y < n)
    {d x : Nat} (hd : d < n) (hx0 : x ≠ 0) (h : Reach g d x) : SameCell g n d x := by
  induction h with
  | refl => exact .refl _
  | tail hab hc ih =>
      rename_i b c
      have hb0 : b ≠ 0 := Reach.pred_ne_zero h0 hc hx0
      have hb : b < n := hab.lt hr hd
      exact .trans (ih hb0) (.step ⟨hb0, hb, hx0, hc⟩)

theorem SameCell.reach_aux {g : Nat → List Nat} {n : Nat}
    (hr : ∀ a, a < n → ∀ y, y ∈ g a → y < n) (hi : InvClosed g n)
    {a b : Nat} (h : SameCell g n a b) :
    a = b ∨ (a ≠ 0 ∧ a < n ∧ b ≠ 0 ∧ b < n ∧ Reach g a b ∧ Reach g b a) := by
  induction h with
  | refl => exact Or.inl rfl
  | step hs =>
      obtain ⟨ha0, ha, hb0, hb⟩ := hs
      exact Or.inr ⟨ha0, ha, hb0, hr _ ha _ hb, Reach.single hb, Reach.single (hi _ ha _ hb hb0)⟩
  | symm _ ih =>
      rcases ih with ih | ⟨h1, h2, h3, h4, h5, h6⟩
      · exact Or.inl ih.symm
      · exact Or.inr ⟨h3, h4, h1, h2, h6, h5⟩
  | trans _ _ ih1 ih2 =>
      rcases ih1 with ih1 | ⟨h1, h2, h3, h4, h5, h6⟩
      · subst ih1; exact ih2
      · rcases ih2 with ih2 | ⟨k1, k2, k3, k4, k5, k6⟩
        · subst ih2; exact Or.inr ⟨h1, h2, h3, h4, h5, h6⟩
        · exact Or.inr ⟨h1, h2, k3, k4, h5.trans k5, k6.trans h6⟩

theorem sameCell_iff_reach {g : Nat → List Nat} {n : Nat}
    (h0 : ∀ y, y ∈ g 0 → y = 0) (hr : ∀ a, a < n → ∀ y, y ∈ g a → y < n) (hi : InvClosed g n)
    {d : Nat} (hd0 : d ≠ 0) (hd : d < n) (x : Nat) :
    SameCell g n d x ↔ (x ≠ 0 ∧ Reach g d x) := by
  constructor
  · intro h
    rcases h.reach_aux hr hi with h1 | ⟨_, _, h3, _, h5, _⟩
    · subst h1; exact ⟨hd0, .refl _⟩
    · exact ⟨h3, h5⟩
  · rintro ⟨hx0, h⟩
    exact SameCell.of_reach h0 hr hd hx0 h

/-! ## `listMin` is the minimum -/

theorem listMin_le (l : List Nat) : ∀ d, listMin l d ≤ d ∧ ∀ x, x ∈ l → listMin l d ≤ x := by
  induction l with
  | nil => intro d; exact ⟨Nat.le_refl _, by simp⟩
  | cons a t ih =>
      intro d
      have h := ih (min d a)
      have e : listMin (a :: t) d = listMin t (min d a) := rfl
      rw [e]
      refine ⟨Nat.le_trans h.1 (Nat.min_le_left _ _), ?_⟩
      intro x hx
      rcases List.mem_cons.1 hx with rfl | hx
      · exact Nat.le_trans h.1 (Nat.min_le_right _ _)
      · exact h.2 x hx

theorem listMin_mem (l : List Nat) : ∀ d, listMin l d = d ∨ listMin l d ∈ l := by
  induction l with
  | nil => intro d; exact Or.inl rfl
  | cons a t ih =>
      intro d
      have e : listMin (a :: t) d = listMin t (min d a) := rfl
      rw [e]
      rcases ih (min d a) with h | h
      · rw [h]
        rcases Nat.le_total d a with hle | hle
        · rw [Nat.min_eq_left hle]; exact Or.inl rfl
        · rw [Nat.min_eq_right hle]; exact Or.inr List.mem_cons_self
      · exact Or.inr (List.mem_cons_of_mem _ h)

theorem listMin_spec {l : List Nat} {d : Nat} (hd : d ∈ l) :
    listMin l d ∈ l ∧ ∀ x, x ∈ l → listMin l d ≤ x := by
  refine ⟨?_, (listMin_le l d).2⟩
  rcases listMin_mem l d with h | h
  · rw [h]; exact hd
  · exact h

theorem min_unique {l l' : List Nat} {k k' : Nat} (hk : k ∈ l ∧ ∀ x, x ∈ l → k ≤ x)
    (hk' : k' ∈ l' ∧ ∀ x, x ∈ l' → k' ≤ x) (hsame : ∀ x, x ∈ l ↔ x ∈ l') : k = k' :=
  Nat.le_antisymm (hk.2 k' ((hsame k').2 hk'.1)) (hk'.2 k ((hsame k).1 hk.1))

/-! ## orbit list and minimum for an arbitrary generator -/

/-- the BFS list from `d` (fuel `n + 1`) -/
def orbG (g : Nat → List Nat) (n d : Nat) : List Nat := bfsPure g (n + 1) [d] [0, d] []

def cidG (g : Nat → List Nat) (n d : Nat) : Nat := listMin (orbG g n d) d

/-- hypotheses shared by all lemmas: inert null dart, images below the bound -/
structure GenOK (g : Nat → List Nat) (n : Nat) : Prop where
  null : ∀ y, y ∈ g 0 → y = 0
  range : ∀ a, a < n → ∀ y, y ∈ g a → y < n

section
variable {g : Nat → List Nat} {n : Nat}

theorem orbG_spec (H : GenOK g n) {d : Nat} (hd0 : d ≠ 0) (hd : d < n) :
    (orbG g n d).head? = some d ∧ (orbG g n d).Nodup ∧ 0 ∉ orbG g n d ∧
    (∀ x, x ∈ orbG g n d ↔ (x ≠ 0 ∧ Reach g d x)) ∧ ∀ x, x ∈ orbG g n d → x < n :=
  bfsPure_spec H.null H.range hd0 hd

theorem mem_orbG (H : GenOK g n) {d : Nat} (hd0 : d ≠ 0) (hd : d < n) (x : Nat) :
    x ∈ orbG g n d ↔ (x ≠ 0 ∧ Reach g d x) := (orbG_spec H hd0 hd).2.2.2.1 x

theorem self_mem_orbG (H : GenOK g n) {d : Nat} (hd0 : d ≠ 0) (hd : d < n) : d ∈ orbG g n d :=
  (mem_orbG H hd0 hd d).2 ⟨hd0, .refl _⟩

theorem orbG_lt (H : GenOK g n) {d : Nat} (hd0 : d ≠ 0) (hd : d < n) {x : Nat} (hx : x ∈ orbG g n d) :
    x < n := (orbG_spec H hd0 hd).2.2.2.2 x hx

theorem cidG_spec (H : GenOK g n) {d : Nat} (hd0 : d ≠ 0) (hd : d < n) :
    cidG g n d ∈ orbG g n d ∧ ∀ x, x ∈ orbG g n d → cidG g n d ≤ x :=
  listMin_spec (self_mem_orbG H hd0 hd)

theorem reach_symmG (H : GenOK g n) (hi : InvClosed g n) {d e : Nat} (hd : d < n) (he0 : e ≠ 0)
    (hr : Reach g d e) : Reach g e d :=
  Reach.symm_of_invClosed H.null H.range hi hd he0 hr

theorem mem_orbG_iff_sameCell (H : GenOK g n) (hi : InvClosed g n) {d : Nat} (hd0 : d ≠ 0) (hd : d < n)
    (x : Nat) : x ∈ orbG g n d ↔ SameCell g n d x := by
  rw [mem_orbG H hd0 hd, sameCell_iff_reach H.null H.range hi hd0 hd]

theorem orbG_congr (H : GenOK g n) (hi : InvClosed g n) {d e : Nat} (hd0 : d ≠ 0) (hd : d < n)
    (he0 : e ≠ 0) (he : e < n) (hr : Reach g d e) (x : Nat) : x ∈ orbG g n d ↔ x ∈ orbG g n e := by
  rw [mem_orbG H hd0 hd, mem_orbG H he0 he]
  constructor
  · rintro ⟨hx0, hx⟩; exact ⟨hx0, (reach_symmG H hi hd he0 hr).trans hx⟩
  · rintro ⟨hx0, hx⟩; exact ⟨hx0, hr.trans hx⟩

theorem cidG_eq_iff (H : GenOK g n) (hi : InvClosed g n) {d e : Nat} (hd0 : d ≠ 0) (hd : d < n)
    (he0 : e ≠ 0) (he : e < n) :
    (cidG g n d = cidG g n e ↔ Reach g d e) ∧ (cidG g n d = cidG g n e ↔ SameCell g n d e) := by
  have spd := cidG_spec H hd0 hd
  have spe := cidG_spec H he0 he
  have main : cidG g n d = cidG g n e ↔ Reach g d e := by
    constructor
    · intro e1
      have h1 := (mem_orbG H hd0 hd _).1 spd.1
      have h2 := (mem_orbG H he0 he _).1 spe.1
      rw [← e1] at h2
      exact h1.2.trans (reach_symmG H hi he h1.1 h2.2)
    · intro hr
      exact min_unique spd spe (orbG_congr H hi hd0 hd he0 he hr)
  refine ⟨main, ?_⟩
  rw [main, sameCell_iff_reach H.null H.range hi hd0 hd]
  exact ⟨fun hr => ⟨he0, hr⟩, fun hr => hr.2⟩

theorem cidG_idem (H : GenOK g n) (hi : InvClosed g n) {d : Nat} (hd0 : d ≠ 0) (hd : d < n) :
    cidG g n d ≠ 0 ∧ cidG g n d < n ∧ cidG g n (cidG g n d) = cidG g n d := by
  have spd := cidG_spec H hd0 hd
  have h1 := (mem_orbG H hd0 hd _).1 spd.1
  have hlt := orbG_lt H hd0 hd spd.1
  exact ⟨h1.1, hlt, (cidG_eq_iff H hi h1.1 hlt hd0 hd).1.2 (reach_symmG H hi hd h1.1 h1.2)⟩

/-! ### cells described by a key

On a map built from a regular pattern the orbit of a dart is known in advance as the set of darts with the
same key (lattice point, geometric edge, cell …).  The lemmas below read the identifier off such a
description; no symmetry of `g` is needed. -/

/-- a set that contains `d` and every non-null image of its members contains every non-null dart reachable
    from `d` -/
theorem reach_closed {S : Nat → Prop} (h0 : ∀ y, y ∈ g 0 → y = 0)
    (hstep : ∀ x y, S x → y ∈ g x → y ≠ 0 → S y) {d x : Nat} (hd : S d)
    (hr : Reach g d x) (hx0 : x ≠ 0) : S x := by
  induction hr with
  | refl => exact hd
  | tail hab hc ih => exact hstep _ _ (ih (Reach.pred_ne_zero h0 hc hx0)) hc hx0

/-- a dart that lies in every `g`-closed list containing `x` is reachable from `x` -/
theorem reach_of_closed (H : GenOK g n) {x y : Nat} (hx0 : x ≠ 0) (hx : x < n) (hy0 : y ≠ 0)
    (h : ∀ M : List Nat, (∀ a, a ∈ M → a ≠ 0 → ∀ b, b ∈ g a → b ∈ M) → x ∈ M → y ∈ M) : Reach g x y := by
  have hM : ∀ a, a ∈ 0 :: orbG g n x → a ≠ 0 → ∀ b, b ∈ g a → b ∈ 0 :: orbG g n x := by
    intro a ha ha0 b hb
    have hra := ((mem_orbG H hx0 hx a).1 ((List.mem_cons.mp ha).resolve_left ha0)).2
    by_cases hb0 : b = 0
    · exact hb0 ▸ List.mem_cons_self
    · exact List.mem_cons_of_mem _ ((mem_orbG H hx0 hx b).2 ⟨hb0, hra.tail hb⟩)
  have hy := h _ hM (List.mem_cons_of_mem _ (self_mem_orbG H hx0 hx))
  exact ((mem_orbG H hx0 hx y).1 ((List.mem_cons.mp hy).resolve_left hy0)).2

/-- if the non-null images of the darts with the key of `d` keep that key, the orbit of `d` stays in
    the class of `d` -/
theorem key_of_mem_orbG {κ : Type} {key : Nat → κ} (H : GenOK g n) {d : Nat}
    (closed : ∀ x, x ≠ 0 → x < n → key x = key d → ∀ y, y ∈ g x → y = 0 ∨ key y = key d)
    (hd0 : d ≠ 0) (hd : d < n) {x : Nat} (hx : x ∈ orbG g n d) : key x = key d := by
  obtain ⟨hx0, hr⟩ := (mem_orbG H hd0 hd x).1 hx
  exact (reach_closed (S := fun z => z < n ∧ key z = key d) H.null (fun a b ha hb hb0 =>
    ⟨H.range a ha.1 b hb, (closed a (fun e => hb0 (H.null b (e ▸ hb))) ha.1 ha.2 b hb).resolve_left hb0⟩)
    ⟨hd, rfl⟩ hr hx0).2

/-- **cells with a canonical dart**: if moreover every dart of the class that is not canonical (`C`) has a
    smaller non-null image, the identifier is a canonical dart with the key of `d` (the least dart of the
    orbit cannot descend) -/
theorem cidG_canon {κ : Type} {key : Nat → κ} (H : GenOK g n) {C : Nat → Prop} {d : Nat}
    (closed : ∀ x, x ≠ 0 → x < n → key x = key d → ∀ y, y ∈ g x → y = 0 ∨ key y = key d)
    (descent : ∀ x, x ≠ 0 → x < n → key x = key d → ¬ C x → ∃ y, y ∈ g x ∧ y ≠ 0 ∧ y < x)
    (hd0 : d ≠ 0) (hd : d < n) :
    cidG g n d ≠ 0 ∧ cidG g n d < n ∧ C (cidG g n d) ∧ key (cidG g n d) = key d := by
  obtain ⟨h1, h2⟩ := cidG_spec H hd0 hd
  obtain ⟨v0, hr⟩ := (mem_orbG H hd0 hd _).1 h1
  have hk := key_of_mem_orbG H closed hd0 hd h1
  refine ⟨v0, orbG_lt H hd0 hd h1, Classical.byContradiction fun hc => ?_, hk⟩
  obtain ⟨y, hy, hy0, hlt⟩ := descent _ v0 (orbG_lt H hd0 hd h1) hk hc
  exact Nat.lt_irrefl _ (Nat.lt_of_lt_of_le hlt (h2 y ((mem_orbG H hd0 hd y).2 ⟨hy0, hr.tail hy⟩)))

/-- **cells given by a key**: if the images keep the key and every dart with the key of `d` is reachable
    from `d`, the orbit of `d` is its class -/
theorem mem_orbG_key {κ : Type} {key : Nat → κ} (H : GenOK g n) {d : Nat}
    (closed : ∀ x, x ≠ 0 → x < n → key x = key d → ∀ y, y ∈ g x → y = 0 ∨ key y = key d)
    (conn : ∀ y, y ≠ 0 → y < n → key y = key d → Reach g d y)
    (hd0 : d ≠ 0) (hd : d < n) (x : Nat) :
    x ∈ orbG g n d ↔ x < n ∧ x ≠ 0 ∧ key x = key d :=
  ⟨fun hx => ⟨orbG_lt H hd0 hd hx, ((mem_orbG H hd0 hd x).1 hx).1, key_of_mem_orbG H closed hd0 hd hx⟩,
    fun ⟨hx, hx0, hk⟩ => (mem_orbG H hd0 hd x).2 ⟨hx0, conn x hx0 hx hk⟩⟩

/-- … and the identifier is the least dart of the class -/
theorem cidG_key {κ : Type} {key : Nat → κ} (H : GenOK g n) {d : Nat}
    (closed : ∀ x, x ≠ 0 → x < n → key x = key d → ∀ y, y ∈ g x → y = 0 ∨ key y = key d)
    (conn : ∀ y, y ≠ 0 → y < n → key y = key d → Reach g d y)
    (hd0 : d ≠ 0) (hd : d < n) :
    (cidG g n d < n ∧ cidG g n d ≠ 0 ∧ key (cidG g n d) = key d) ∧
      ∀ y, y < n → y ≠ 0 → key y = key d → cidG g n d ≤ y := by
  obtain ⟨h1, h2⟩ := cidG_spec H hd0 hd
  exact ⟨(mem_orbG_key H closed conn hd0 hd _).1 h1,
    fun y hy hy0 hk => h2 y ((mem_orbG_key H closed conn hd0 hd y).2 ⟨hy, hy0, hk⟩)⟩

/-- **a cell given as a finite list**: every listed dart is non-null and reachable, the list is closed -/
theorem orbG_of_list (H : GenOK g n) {d : Nat} (hd0 : d ≠ 0) (hd : d < n) (L : List Nat)
    (hne : ∀ y, y ∈ L → y ≠ 0) (hreach : ∀ y, y ∈ L → Reach g d y) (hdL : d ∈ L)
    (hcl : ∀ y, y ∈ L → ∀ x, x ∈ g y → x = 0 ∨ x ∈ L) :
    (∀ x, x ∈ orbG g n d ↔ x ∈ L) ∧ cidG g n d ∈ L ∧ ∀ x, x ∈ L → cidG g n d ≤ x := by
  have mem : ∀ x, x ∈ orbG g n d ↔ x ∈ L := fun x =>
    (mem_orbG H hd0 hd x).trans ⟨fun ⟨hx0, hr⟩ => reach_closed (S := (· ∈ L)) H.null
      (fun a b ha hb hb0 => (hcl a ha b hb).resolve_left hb0) hdL hr hx0, fun hx => ⟨hne x hx, hreach x hx⟩⟩
  have sp := cidG_spec H hd0 hd
  exact ⟨mem, (mem _).1 sp.1, fun x hx => sp.2 x ((mem x).2 hx)⟩

end

/-! ## one-directional generator sets on closed cells -/

/-- **linear policies, several generators.**  `gl` = the one-directional images, `gf ⊇ gl` = the full
    set; every image of `gf` missing from `gl` is `f' x` for a pair `(f, f') ∈ P`, where `f x ∈ gl x`,
    `f' (f x) = x` and `f (f' x) = x` (wherever the inner image is not null), and `f` is defined on every
    dart of the full cell of `d` or on none.  Then the BFS through `gl` alone already gives the full
    cell (finite injective self-maps are surjective: every `f`-path closes up into a cycle). -/
theorem orbG_linear {gl gf : Nat → List Nat} {P : List ((Nat → Nat) × (Nat → Nat))} {n d : Nat}
    (Hf : GenOK gf n) (hsub : ∀ x y, y ∈ gl x → y ∈ gf x)
    (hsplit : ∀ x y, y ∈ gf x → y ∈ gl x ∨ ∃ f f', (f, f') ∈ P ∧ y = f' x)
    (hd0 : d ≠ 0) (hd : d < n)
    (hP : ∀ f f', (f, f') ∈ P → (∀ x, f x ∈ gl x) ∧ (∀ x, x < n → f x ≠ 0 → f' (f x) = x) ∧
      (∀ x, x < n → f' x ≠ 0 → f (f' x) = x) ∧
      ((∀ x, x ∈ orbG gf n d → f x ≠ 0) ∨ (∀ x, x ∈ orbG gf n d → f x = 0)))
    (x : Nat) : x ∈ orbG gl n d ↔ x ∈ orbG gf n d := by
  have Hl : GenOK gl n :=
    ⟨fun y hy => Hf.null y (hsub 0 y hy), fun a ha y hy => Hf.range a ha y (hsub a y hy)⟩
  have hmf := mem_orbG Hf hd0 hd
  rw [hmf, mem_orbG Hl hd0 hd]
  refine ⟨fun ⟨hx0, h⟩ => ⟨hx0, h.mono hsub⟩, ?_⟩
  rintro ⟨hx0, h⟩
  refine ⟨hx0, ?_⟩
  obtain ⟨_, hnd, _, hmem, hlt⟩ := orbG_spec Hl hd0 hd
  generalize orbG gl n d = L at hnd hmem hlt
  induction h with
  | refl => exact .refl _
  | tail hab hc ih =>
      rename_i b c
      have hb0 : b ≠ 0 := Reach.pred_ne_zero Hf.null hc hx0
      have hb := ih hb0
      rcases hsplit b c hc with hc' | ⟨f, f', hp, hc'⟩
      · exact .tail hb hc'
      · -- `c = f' b`, so `f c = b`: `f` is defined somewhere on the cell, hence everywhere
        obtain ⟨hfw, hinv, hinv', hclosed⟩ := hP f f' hp
        have hfc : f c = b := by
          rw [hc']; exact hinv' b (hab.lt Hf.range hd) (by rw [← hc']; exact hx0)
        have htot : ∀ y, y ∈ orbG gf n d → f y ≠ 0 := by
          rcases hclosed with ht | hn
          · exact ht
          · exact absurd (hn c ((hmf c).2 ⟨hx0, .tail hab hc⟩)) (by rw [hfc]; exact hb0)
        have hcl : ∀ y, y ∈ L → f y ≠ 0 := fun y hy =>
          htot y ((hmf y).2 ⟨((hmem y).1 hy).1, ((hmem y).1 hy).2.mono hsub⟩)
        have hmap : ∀ y, y ∈ L → f y ∈ L := fun y hy =>
          (hmem (f y)).2 ⟨hcl y hy, .tail ((hmem y).1 hy).2 (hfw y)⟩
        have hinj : ∀ a b, a ∈ L → b ∈ L → f a = f b → a = b := by
          intro a b ha hb e
          have h1 := hinv a (hlt a ha) (hcl a ha)
          have h2 := hinv b (hlt b hb) (hcl b hb)
          rw [← h1, ← h2, e]
        obtain ⟨y, hy, e⟩ := surj_of_inj_on_list hnd hmap hinj b ((hmem b).2 ⟨hb0, hb⟩)
        have : c = y := by
          rw [hc', ← e]; exact hinv y (hlt y hy) (by rw [e]; exact hb0)
        rw [this]; exact ((hmem y).1 hy).2

theorem orbG_linear_cons {f f' : Nat → Nat} {rest gl gf : Nat → List Nat} {n d : Nat}
    (hgl : ∀ x, gl x = f x :: rest x) (hgf : ∀ x, gf x = f x :: f' x :: rest x) (Hf : GenOK gf n)
    (hinv : ∀ x, x < n → f x ≠ 0 → f' (f x) = x) (hinv' : ∀ x, x < n → f' x ≠ 0 → f (f' x) = x)
    (hd0 : d ≠ 0) (hd : d < n)
    (hclosed : (∀ x, x ∈ orbG gf n d → f x ≠ 0) ∨ (∀ x, x ∈ orbG gf n d → f x = 0)) (x : Nat) :
    x ∈ orbG gl n d ↔ x ∈ orbG gf n d := by
  refine orbG_linear (P := [(f, f')]) Hf ?_ ?_ hd0 hd ?_ x
  · intro a b hb
    rw [hgl] at hb
    rw [hgf]
    rcases List.mem_cons.1 hb with e | hb
    · exact List.mem_cons.2 (Or.inl e)
    · exact List.mem_cons_of_mem _ (List.mem_cons_of_mem _ hb)
  · intro a b hb
    rw [hgf] at hb
    rw [hgl]
    rcases List.mem_cons.1 hb with e | hb
    · exact Or.inl (List.mem_cons.2 (Or.inl e))
    · rcases List.mem_cons.1 hb with e | hb
      · exact Or.inr ⟨f, f', List.mem_singleton.2 rfl, e⟩
      · exact Or.inl (List.mem_cons_of_mem _ hb)
  · intro g g' hp
    obtain ⟨rfl, rfl⟩ := Prod.mk.inj (List.mem_singleton.1 hp)
    refine ⟨fun a => ?_, hinv, hinv', hclosed⟩
    rw [hgl]
    exact List.mem_cons_self

end HC

/-! Invariants of the breadth-first and of the "mark on pop" traversal replayed on lists, relative to a
    list `S` given in advance that contains the start dart and is closed under the non-null images of `g`
    (the theorems of this file need no such `S`: `BfsInv` takes the reachable darts). -/

namespace HC.GridBfs

structure BInv (g : Nat → List Nat) (S : List Nat) (d : Nat) (pend marked out : List Nat) : Prop where
  mkd : ∀ x, x ∈ marked ↔ x = 0 ∨ x ∈ out ∨ x ∈ pend
  closed : ∀ x, x ∈ out → ∀ y, y ∈ g x → y ∈ marked
  sound : ∀ x, x ∈ out ∨ x ∈ pend → x ∈ S
  nodup : (out ++ pend).Nodup
  start : d ∈ out ∨ d ∈ pend

end HC.GridBfs

namespace HC.Grid3Pop

structure PI (g : Nat → List Nat) (S : List Nat) (d : Nat) (pend marked : List Nat) (mn : Nat) : Prop where
  m0 : 0 ∈ marked
  nodup : marked.Nodup
  msub : ∀ x, x ∈ marked → x = 0 ∨ x ∈ S
  psub : ∀ x, x ∈ pend → x = 0 ∨ x ∈ S
  closed : ∀ x, x ∈ marked → x ≠ 0 → ∀ y, y ∈ g x → y ∈ marked ∨ y ∈ pend
  dmem : d ∈ marked ∨ d ∈ pend
  mnle : mn ≤ d ∧ ∀ x, x ∈ marked → x ≠ 0 → mn ≤ x
  mnmem : mn = d ∨ (mn ∈ marked ∧ mn ≠ 0)

end HC.Grid3Pop

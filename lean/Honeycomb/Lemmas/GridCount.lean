/-
  Counting the cells the iterators yield (C12).
  * `length_filter_eq` / `length_filter_bij` / `length_filter_or`: counting a filtered range by a bijection,
    and a disjunction of exclusive predicates by a sum;
  * `isLocal`, `count_local`, `count_col0`, `count_row0`, `count_mid0`: the darts `1 .. K·N` by local index and
    class of their cell; `iterCells_eq_filter`: an iterator of the code as such a filter; `count_locals`,
    `iterCells_length_locals`: identifiers decided by local index and cell, counted index by index;
  * `cls`, `count_ids`: the darts of a key, and one identifier per key;
  * `code2`, `code3`: the arithmetic coding of lattice points.
-/
import Batteries.Data.List.Perm
import Honeycomb.Lemmas.GridGeneric

namespace HC.GridCount
open HC

theorem filter_true {α : Type} (l : List α) : l.filter (fun _ => true) = l :=
  List.filter_eq_self.2 fun _ _ => rfl

theorem length_filter_eq (n N : Nat) (p q : Nat → Bool) (φ : Nat → Nat)
    (inj : ∀ x, x < n → p x = true → ∀ y, y < n → p y = true → φ x = φ y → x = y)
    (into : ∀ x, x < n → p x = true → φ x < N ∧ q (φ x) = true)
    (surj : ∀ t, t < N → q t = true → ∃ x, x < n ∧ p x = true ∧ φ x = t) :
    ((List.range n).filter p).length = ((List.range N).filter q).length := by
  have nd : ((List.range n).filter p).Nodup := List.nodup_range.sublist List.filter_sublist
  have ndF : (((List.range n).filter p).map φ).Nodup := by
    refine List.pairwise_map.2 (List.Pairwise.imp_of_mem ?_ nd)
    intro x y hx hy hne h
    obtain ⟨hx1, hx2⟩ := List.mem_filter.mp hx
    obtain ⟨hy1, hy2⟩ := List.mem_filter.mp hy
    exact hne (inj x (List.mem_range.mp hx1) hx2 y (List.mem_range.mp hy1) hy2 h)
  have s1 : ((List.range n).filter p).map φ ⊆ (List.range N).filter q := by
    intro t ht
    obtain ⟨x, hx, rfl⟩ := List.mem_map.mp ht
    obtain ⟨hx1, hx2⟩ := List.mem_filter.mp hx
    obtain ⟨h1, h2⟩ := into x (List.mem_range.mp hx1) hx2
    exact List.mem_filter.mpr ⟨List.mem_range.mpr h1, h2⟩
  have s2 : (List.range N).filter q ⊆ ((List.range n).filter p).map φ := by
    intro t ht
    obtain ⟨ht1, ht2⟩ := List.mem_filter.mp ht
    obtain ⟨x, hx, hp, rfl⟩ := surj t (List.mem_range.mp ht1) ht2
    exact List.mem_map.mpr ⟨x, List.mem_filter.mpr ⟨List.mem_range.mpr hx, hp⟩, rfl⟩
  have l1 := (List.subperm_of_subset ndF s1).length_le
  have l2 := (List.subperm_of_subset (List.nodup_range.filter q) s2).length_le
  rw [List.length_map] at l1 l2
  omega

theorem length_filter_bij (n N : Nat) (p : Nat → Bool) (φ : Nat → Nat)
    (inj : ∀ x, x < n → p x = true → ∀ y, y < n → p y = true → φ x = φ y → x = y)
    (into : ∀ x, x < n → p x = true → φ x < N)
    (surj : ∀ t, t < N → ∃ x, x < n ∧ p x = true ∧ φ x = t) :
    ((List.range n).filter p).length = N := by
  rw [length_filter_eq n N p (fun _ => true) φ inj (fun x hx hp => ⟨into x hx hp, rfl⟩)
    (fun t ht _ => surj t ht), filter_true, List.length_range]

theorem length_filter_or {α : Type} (p q : α → Bool) (l : List α)
    (h : ∀ x, x ∈ l → p x = true → q x = false) :
    (l.filter (fun x => p x || q x)).length = (l.filter p).length + (l.filter q).length := by
  induction l with
  | nil => rfl
  | cons x xs ih =>
      have ih' := ih (fun y hy => h y (List.mem_cons_of_mem _ hy))
      have hx := h x List.mem_cons_self
      cases hp : p x
      · cases hq : q x <;> simp only [List.filter_cons, hp, hq, Bool.or_false, Bool.or_true, ih',
          List.length_cons, Bool.false_eq_true, if_false, if_true, Nat.add_assoc]
      · simp only [List.filter_cons, hp, hx hp, Bool.or_false, ih', List.length_cons, if_true,
          Bool.false_eq_true, if_false, Nat.add_right_comm]

/-! ## counting darts `1 .. K·N` (dart `d` is local dart `(d-1) % K` of cell `(d-1) / K`) -/

def isLocal (K r : Nat) (q : Nat → Bool) (d : Nat) : Bool := decide (d ≠ 0 ∧ (d - 1) % K = r) && q ((d - 1) / K)

theorem isLocal_zero (K r : Nat) (q : Nat → Bool) : isLocal K r q 0 = false := by
  simp [isLocal]

theorem isLocal_dartOf {K nx ny ix iy iz o : Nat} (ho : o < K) (r : Nat) (q : Nat → Bool) :
    isLocal K r q (dartOf K nx ny ix iy iz o) = (decide (o = r) && q (cellIdx nx ny ix iy iz)) := by
  have h : dartOf K nx ny ix iy iz o ≠ 0 := Nat.ne_of_gt dartOf_pos
  simp only [isLocal, dartOf_cell ho, dartOf_local ho, h, ne_eq, not_false_eq_true, true_and]

theorem isLocal_excl {K r r' : Nat} (h : r ≠ r') (q q' : Nat → Bool) {d : Nat} (hd : isLocal K r q d = true) :
    isLocal K r' q' d = false := by
  simp only [isLocal, Bool.and_eq_true, decide_eq_true_eq] at hd
  have : ¬ (d ≠ 0 ∧ (d - 1) % K = r') := fun e => h (hd.1.2.symm.trans e.2)
  simp only [isLocal, this, decide_false, Bool.false_and]

theorem count_local {K r : Nat} (hr : r < K) (N : Nat) (q : Nat → Bool) :
    ((List.range (K * N + 1)).filter (isLocal K r q)).length = ((List.range N).filter q).length := by
  unfold isLocal
  have hK : 0 < K := by omega
  apply length_filter_eq _ _ _ _ (fun d => (d - 1) / K)
  · intro x _ hx y _ hy h
    simp only [Bool.and_eq_true, decide_eq_true_eq, ne_eq] at hx hy
    have ex := Nat.div_add_mod (x - 1) K
    have ey := Nat.div_add_mod (y - 1) K
    have h' : (x - 1) / K = (y - 1) / K := h
    rw [h'] at ex
    omega
  · intro x hx hp
    simp only [Bool.and_eq_true, decide_eq_true_eq, ne_eq] at hp
    refine ⟨?_, hp.2⟩
    show (x - 1) / K < N
    rw [Nat.div_lt_iff_lt_mul hK]
    have := Nat.mul_comm K N
    omega
  · intro t ht hq
    have e1 : (K * t + r + 1 - 1) / K = t := by
      rw [Nat.add_sub_cancel, Nat.add_comm]; exact add_mul_div t hr
    have e2 : (K * t + r + 1 - 1) % K = r := by
      rw [Nat.add_sub_cancel, Nat.add_comm]; exact add_mul_mod t hr
    refine ⟨K * t + r + 1, ?_, ?_, e1⟩
    · have : K * (t + 1) ≤ K * N := Nat.mul_le_mul_left K ht
      rw [Nat.mul_succ] at this
      omega
    · simp only [Bool.and_eq_true, decide_eq_true_eq, ne_eq]
      rw [e1, e2]
      exact ⟨⟨Nat.succ_ne_zero _, rfl⟩, hq⟩

theorem count_col0 {nx : Nat} (hnx : 0 < nx) (ny : Nat) :
    ((List.range (nx * ny)).filter (fun c => decide (c % nx = 0))).length = ny := by
  apply length_filter_bij _ _ _ (fun c => c / nx)
  · intro x _ hx y _ hy h
    simp only [decide_eq_true_eq] at hx hy
    have ex := Nat.div_add_mod x nx
    have ey := Nat.div_add_mod y nx
    have h' : x / nx = y / nx := h
    rw [h'] at ex
    omega
  · intro x hx _
    show x / nx < ny
    rw [Nat.div_lt_iff_lt_mul hnx, Nat.mul_comm]
    exact hx
  · intro t ht
    refine ⟨nx * t, ?_, ?_, Nat.mul_div_cancel_left t hnx⟩
    · have := add_mul_lt hnx ht
      omega
    · simp only [decide_eq_true_eq]
      exact Nat.mul_mod_right nx t

theorem count_row0 {nx ny : Nat} (hnx : 0 < nx) (hny : 0 < ny) :
    ((List.range (nx * ny)).filter (fun c => decide (c / nx = 0))).length = nx := by
  apply length_filter_bij _ _ _ (fun c => c)
  · intro x _ _ y _ _ h
    exact h
  · intro x _ hp
    simp only [decide_eq_true_eq] at hp
    exact Nat.lt_of_div_eq_zero hnx hp
  · intro t ht
    refine ⟨t, ?_, ?_, rfl⟩
    · have := Nat.le_mul_of_pos_right nx hny
      omega
    · simp only [decide_eq_true_eq]
      exact Nat.div_eq_of_lt ht

theorem count_mid0 {nx ny : Nat} (hnx : 0 < nx) (hny : 0 < ny) (nz : Nat) :
    ((List.range (nx * ny * nz)).filter (fun C => decide (C / nx % ny = 0))).length = nx * nz := by
  apply length_filter_bij _ _ _ (fun C => C % nx + nx * (C / nx / ny))
  · intro x _ hx y _ hy h
    simp only [decide_eq_true_eq] at hx hy
    have h1 := add_mul_mod (x / nx / ny) (Nat.mod_lt x hnx)
    have h2 := add_mul_div (x / nx / ny) (Nat.mod_lt x hnx)
    have h' : x % nx + nx * (x / nx / ny) = y % nx + nx * (y / nx / ny) := h
    rw [h', add_mul_mod _ (Nat.mod_lt y hnx)] at h1
    rw [h', add_mul_div _ (Nat.mod_lt y hnx)] at h2
    have ex := Nat.div_add_mod (x / nx) ny
    have ey := Nat.div_add_mod (y / nx) ny
    have ex' := Nat.div_add_mod x nx
    have ey' := Nat.div_add_mod y nx
    rw [hx, ← h2] at ex
    rw [hy] at ey
    have : x / nx = y / nx := by omega
    rw [this, ← h1] at ex'
    omega
  · intro x hx _
    refine add_mul_lt (Nat.mod_lt x hnx) ?_
    rw [Nat.div_div_eq_div_mul, Nat.div_lt_iff_lt_mul (Nat.mul_pos hnx hny), Nat.mul_comm nz]
    exact hx
  · intro t ht
    have ha := Nat.mod_lt t hnx
    have hc : t / nx < nz := by rw [Nat.div_lt_iff_lt_mul hnx, Nat.mul_comm]; exact ht
    refine ⟨cellIdx nx ny (t % nx) 0 (t / nx), cellIdx_lt ha hny hc, ?_, ?_⟩
    · simp only [decide_eq_true_eq]
      exact cellIdx_y ha hny
    · show cellIdx nx ny (t % nx) 0 (t / nx) % nx + nx * (cellIdx nx ny (t % nx) 0 (t / nx) / nx / ny) = t
      rw [cellIdx_x ha, Nat.div_div_eq_div_mul, cellIdx_z ha hny]
      exact Nat.mod_add_div t nx

theorem iterCells_eq_filter {X : Type} {m : Map X} (idf : Nat → P X Nat) (p : Nat → Bool)
    (hu : ∀ d, m.unused d = false) (hp0 : p 0 = false)
    (hp : ∀ d, 1 ≤ d → d < m.n → decide (okVal (run (idf d) m) 0 = d) = p d) :
    iterCells m idf = (List.range m.n).filter p := by
  unfold iterCells
  apply List.filter_congr
  intro d hd
  by_cases h0 : d = 0
  · subst h0
    simp [hp0]
  · rw [← hp d (by omega) (List.mem_range.mp hd)]
    simp [h0, hu d]

theorem count_locals {K : Nat} (N : Nat) : ∀ (sel : List (Nat × (Nat → Bool))),
    (sel.map Prod.fst).Nodup → (∀ s, s ∈ sel → s.1 < K) →
    ((List.range (K * N + 1)).filter (fun d => sel.any fun s => isLocal K s.1 s.2 d)).length =
      (sel.map fun s => ((List.range N).filter s.2).length).sum
  | [], _, _ => by simp
  | s :: sel, nd, lt => by
      obtain ⟨h1, h2⟩ := List.nodup_cons.mp nd
      simp only [List.any_cons, List.map_cons, List.sum_cons]
      rw [length_filter_or, count_local (lt s List.mem_cons_self),
        count_locals N sel h2 fun t ht => lt t (List.mem_cons_of_mem _ ht)]
      intro d _ hd
      rw [List.any_eq_false]
      intro t ht
      have ne : s.1 ≠ t.1 := fun e => h1 (by rw [e]; exact List.mem_map_of_mem ht)
      rw [isLocal_excl ne _ _ hd]
      exact Bool.false_ne_true

theorem iterCells_length_locals {X : Type} {m : Map X} (idf : Nat → P X Nat) {K N : Nat} (hn : m.n = K * N + 1)
    (hu : ∀ d, m.unused d = false) (sel : List (Nat × (Nat → Bool))) (nd : (sel.map Prod.fst).Nodup)
    (lt : ∀ s, s ∈ sel → s.1 < K)
    (h : ∀ d, 1 ≤ d → d < m.n →
      (okVal (run (idf d) m) 0 = d ↔ (sel.any fun s => isLocal K s.1 s.2 d) = true)) :
    (iterCells m idf).length = (sel.map fun s => ((List.range N).filter s.2).length).sum := by
  rw [iterCells_eq_filter idf (fun d => sel.any fun s => isLocal K s.1 s.2 d) hu
    (by simp only [isLocal_zero, List.any_eq_false, Bool.false_eq_true, not_false_eq_true, implies_true])
    (fun d h1 h2 => by rw [Bool.eq_iff_iff, decide_eq_true_eq]; exact h d h1 h2), hn]
  exact count_locals N sel nd lt

def cls {κ : Type} [DecidableEq κ] (n : Nat) (key : Nat → κ) (k : κ) : List Nat :=
  (List.range n).filter (fun x => decide (x ≠ 0 ∧ key x = k))

theorem mem_cls {κ : Type} [DecidableEq κ] {n : Nat} {key : Nat → κ} {k : κ} {x : Nat} :
    x ∈ cls n key k ↔ x < n ∧ x ≠ 0 ∧ key x = k := by
  simp [cls]

theorem count_ids {κ : Type} {n N : Nat} {IsD : Nat → Prop} (ofRange : ∀ d, 1 ≤ d → d < n → IsD d)
    (inRange : ∀ d, IsD d → d ≠ 0 ∧ d < n) {key : Nat → κ} {idf : Nat → Nat} {V : κ → Prop} {code : κ → Nat}
    (same : ∀ d e, IsD d → IsD e → key d = key e → idf d = idf e)
    (keep : ∀ d, IsD d → IsD (idf d) ∧ key (idf d) = key d)
    (hV : ∀ d, IsD d → V (key d)) (inj : ∀ k k', V k → V k' → code k = code k' → k = k')
    (lt : ∀ k, V k → code k < N) (surj : ∀ t, t < N → ∃ d, IsD d ∧ code (key d) = t) :
    ((List.range n).filter (fun d => decide (d ≠ 0 ∧ idf d = d))).length = N := by
  apply length_filter_bij _ _ _ (fun d => code (key d))
  · intro x hx px y hy py h
    simp only [ne_eq, decide_eq_true_eq] at px py
    have dx := ofRange x (by omega) hx
    have dy := ofRange y (by omega) hy
    have := same x y dx dy (inj _ _ (hV x dx) (hV y dy) h)
    rwa [px.2, py.2] at this
  · intro x hx px
    simp only [ne_eq, decide_eq_true_eq] at px
    exact lt _ (hV x (ofRange x (by omega) hx))
  · intro t ht
    obtain ⟨d, hd, hc⟩ := surj t ht
    obtain ⟨hv, hk⟩ := keep d hd
    refine ⟨idf d, (inRange _ hv).2, ?_, by show code (key (idf d)) = t; rw [hk, hc]⟩
    simp only [ne_eq, decide_eq_true_eq]
    exact ⟨(inRange _ hv).1, same _ _ hv hd hk⟩

/-! ## coding lattice points by one number -/

/-- `(i, j)` with `i ≤ nx` ↦ `i + (nx+1)·j` -/
def code2 (nx : Nat) (p : Nat × Nat) : Nat := p.1 + (nx + 1) * p.2

theorem code2_lt {nx ny : Nat} {p : Nat × Nat} (h1 : p.1 ≤ nx) (h2 : p.2 ≤ ny) :
    code2 nx p < (nx + 1) * (ny + 1) := add_mul_lt (by omega) (by omega)

theorem code2_inj {nx : Nat} {p q : Nat × Nat} (hp : p.1 ≤ nx) (hq : q.1 ≤ nx)
    (h : code2 nx p = code2 nx q) : p = q := by
  unfold code2 at h
  have a1 := add_mul_mod (n := nx + 1) p.2 (a := p.1) (by omega)
  have a2 := add_mul_mod (n := nx + 1) q.2 (a := q.1) (by omega)
  have b1 := add_mul_div (n := nx + 1) p.2 (a := p.1) (by omega)
  have b2 := add_mul_div (n := nx + 1) q.2 (a := q.1) (by omega)
  rw [h] at a1 b1
  exact Prod.ext (a1.symm.trans a2) (b1.symm.trans b2)

theorem code2_surj {nx ny t : Nat} (ht : t < (nx + 1) * (ny + 1)) :
    ∃ i j, i ≤ nx ∧ j ≤ ny ∧ code2 nx (i, j) = t := by
  refine ⟨t % (nx + 1), t / (nx + 1), ?_, ?_, Nat.mod_add_div t (nx + 1)⟩
  · have := Nat.mod_lt t (show 0 < nx + 1 by omega); omega
  · have : t / (nx + 1) < ny + 1 := by
      rw [Nat.div_lt_iff_lt_mul (show 0 < nx + 1 by omega), Nat.mul_comm]; exact ht
    omega

/-- `(i, j, k)` with `i ≤ nx`, `j ≤ ny` ↦ `i + (nx+1)·(j + (ny+1)·k)` -/
def code3 (nx ny : Nat) (p : Nat × Nat × Nat) : Nat := cellIdx (nx + 1) (ny + 1) p.1 p.2.1 p.2.2

theorem code3_lt {nx ny nz : Nat} {p : Nat × Nat × Nat} (h1 : p.1 ≤ nx) (h2 : p.2.1 ≤ ny) (h3 : p.2.2 ≤ nz) :
    code3 nx ny p < (nx + 1) * (ny + 1) * (nz + 1) :=
  cellIdx_lt (by omega) (by omega) (by omega)

theorem code3_inj {nx ny : Nat} {p q : Nat × Nat × Nat} (hp1 : p.1 ≤ nx) (hp2 : p.2.1 ≤ ny)
    (hq1 : q.1 ≤ nx) (hq2 : q.2.1 ≤ ny) (h : code3 nx ny p = code3 nx ny q) : p = q := by
  unfold code3 at h
  have x1 := cellIdx_x (nx := nx + 1) (ny := ny + 1) (ix := p.1) (iy := p.2.1) (iz := p.2.2) (by omega)
  have x2 := cellIdx_x (nx := nx + 1) (ny := ny + 1) (ix := q.1) (iy := q.2.1) (iz := q.2.2) (by omega)
  have y1 := cellIdx_y (nx := nx + 1) (ny := ny + 1) (ix := p.1) (iy := p.2.1) (iz := p.2.2) (by omega) (by omega)
  have y2 := cellIdx_y (nx := nx + 1) (ny := ny + 1) (ix := q.1) (iy := q.2.1) (iz := q.2.2) (by omega) (by omega)
  have z1 := cellIdx_z (nx := nx + 1) (ny := ny + 1) (ix := p.1) (iy := p.2.1) (iz := p.2.2) (by omega) (by omega)
  have z2 := cellIdx_z (nx := nx + 1) (ny := ny + 1) (ix := q.1) (iy := q.2.1) (iz := q.2.2) (by omega) (by omega)
  rw [h] at x1 y1 z1
  obtain ⟨p1, p2, p3⟩ := p
  obtain ⟨q1, q2, q3⟩ := q
  simp only at x1 x2 y1 y2 z1 z2
  simp only [Prod.mk.injEq]
  exact ⟨x1.symm.trans x2, y1.symm.trans y2, z1.symm.trans z2⟩

theorem code3_surj {nx ny nz t : Nat} (ht : t < (nx + 1) * (ny + 1) * (nz + 1)) :
    ∃ i j k, i ≤ nx ∧ j ≤ ny ∧ k ≤ nz ∧ code3 nx ny (i, j, k) = t := by
  obtain ⟨i, j, k, hi, hj, hk, e⟩ := cellIdx_surj (Nat.succ_pos nx) (Nat.succ_pos ny) ht
  exact ⟨i, j, k, Nat.le_of_lt_succ hi, Nat.le_of_lt_succ hj, Nat.le_of_lt_succ hk, e⟩

end HC.GridCount

/-
  What `AttrSparseVec::merge/split` and `AttrStorageManager::merge_attributes/split_attributes`
  do to the storages, as pure functions of the state (no fault injection: `fc = 0`):
  `mergeS_step` / `splitS_step` for one storage; `forM_storages` for a pass over distinct storages,
  whose instances `forM_merge_ok` / `forM_split_ok` give `MergedIn` / `SplitIn`, the state after the
  pass over a list of storages.
-/
import Honeycomb.Lemmas.Run


namespace HC
variable {X : Type}

/-- writes of a successful merge, in program order: `rhs := None; lhs := None; out := Some v` -/
def Map.mergeAt (m : Map X) (s out l r : Nat) (v : X) : Map X :=
  ((m.setA s r none).setA s l none).setA s out (some v)

/-- writes of a successful split: `inp := None; lhs_out := Some a; rhs_out := Some b` -/
def Map.splitAt (m : Map X) (s lo ro inp : Nat) (a b : X) : Map X :=
  ((m.setA s inp none).setA s lo (some a)).setA s ro (some b)

/-- writes of a merge whose two inputs coincide / a split whose two outputs coincide:
    `src := None; dst := old value of src` -/
def Map.moveAt (m : Map X) (s dst src : Nat) : Map X :=
  (m.setA s src none).setA s dst (m.att s src)

theorem lawCall_run_fc0 {Y : Type} (t : Bool) (e : Err) (r : Except Err Y) (m : Map X) (h : m.fc = 0) :
    run (lawCall (X := X) t e r) m = match r with
      | .ok y => (.ok y, m)
      | .error e' => (.err e', m) := by
  unfold lawCall
  cases t
  · cases r <;> rfl
  · simp only [if_true, Prog.bind_eq, run_rF, h]
    simp only [show ¬ ((0 : Nat) = 1) by omega, show ¬ ((0 : Nat) > 1) by omega, if_false]
    cases r <;> rfl

theorem mergeS_run_move (cfg : Cfg X) (s out l : Nat) (m : Map X)
    (hl : m.okA s l = true) (ho : m.okA s out = true) :
    run (mergeS cfg s out l l) m = (.ok (), m.moveAt s out l) := by
  unfold mergeS
  simp only [if_true, bind, run_rA, hl, run_wA, run_wA', Map.okA_setA, ho]
  rfl

theorem mergeS_run (cfg : Cfg X) (s out l r : Nat) (m : Map X) (hfc : m.fc = 0) (hlr : l ≠ r)
    (hl : m.okA s l = true) (hr : m.okA s r = true) (ho : m.okA s out = true) :
    run (mergeS cfg s out l r) m =
      match mergeVal (cfg.law s) (m.att s l) (m.att s r) with
      | .ok v => (.ok (), m.mergeAt s out l r v)
      | .error e => (.err e, m) := by
  unfold mergeS
  simp only [hlr, if_false, bind, run_rA, hl, hr, if_true]
  rw [run_bind, lawCall_run_fc0 _ _ _ _ hfc]
  cases mergeVal (cfg.law s) (m.att s l) (m.att s r) with
  | error e => rfl
  | ok v =>
      simp only [run_wA, run_wA', hr, hl, ho, if_true, Map.okA_setA]
      rfl

theorem splitS_run_move (cfg : Cfg X) (s lo inp : Nat) (m : Map X)
    (hi : m.okA s inp = true) (hl : m.okA s lo = true) :
    run (splitS cfg s lo lo inp) m = (.ok (), m.moveAt s lo inp) := by
  unfold splitS
  simp only [if_true, bind, run_rA, hi, run_wA, run_wA', Map.okA_setA, hl]
  rfl

theorem splitS_run (cfg : Cfg X) (s lo ro inp : Nat) (m : Map X) (hfc : m.fc = 0) (hlr : lo ≠ ro)
    (hi : m.okA s inp = true) (hl : m.okA s lo = true) (hr : m.okA s ro = true) :
    run (splitS cfg s lo ro inp) m =
      match splitVal (cfg.law s) (m.att s inp) with
      | .ok (a, b) => (.ok (), m.splitAt s lo ro inp a b)
      | .error e => (.err e, m) := by
  unfold splitS
  simp only [hlr, if_false, bind, run_rA, hi, if_true]
  rw [run_bind, lawCall_run_fc0 _ _ _ _ hfc]
  cases splitVal (cfg.law s) (m.att s inp) with
  | error e => rfl
  | ok ab =>
      obtain ⟨a, b⟩ := ab
      simp only [run_wA, run_wA', hi, hl, hr, if_true, Map.okA_setA]
      rfl

theorem mergeS_ok_okA (cfg : Cfg X) (s out l r : Nat) (m m' : Map X) (u : Unit) (hfc : m.fc = 0)
    (h : run (mergeS cfg s out l r) m = (.ok u, m')) :
    m.okA s l = true ∧ m.okA s r = true ∧ m.okA s out = true := by
  unfold mergeS at h
  by_cases hlr : l = r
  · subst hlr
    simp only [if_true, bind, run_rA, run_wA, run_wA', Map.okA_setA] at h
    by_cases hl : m.okA s l = true
    · simp only [hl, if_true] at h
      by_cases ho : m.okA s out = true
      · exact ⟨hl, hl, ho⟩
      · simp [ho] at h
    · simp [hl] at h
  simp only [hlr, if_false, bind, run_rA] at h
  by_cases hl : m.okA s l = true
  · simp only [hl, if_true] at h
    by_cases hr : m.okA s r = true
    · simp only [hr, if_true] at h
      refine ⟨hl, hr, ?_⟩
      rw [run_bind, lawCall_run_fc0 _ _ _ _ hfc] at h
      cases hv : mergeVal (cfg.law s) (m.att s l) (m.att s r) with
      | error e => rw [hv] at h; simp at h
      | ok v =>
          rw [hv] at h
          simp only [run_wA, run_wA', hr, hl, if_true, Map.okA_setA] at h
          by_cases ho : m.okA s out = true
          · exact ho
          · simp [ho] at h
    · simp [hr] at h
  · simp [hl] at h

theorem splitS_ok_okA (cfg : Cfg X) (s lo ro inp : Nat) (m m' : Map X) (u : Unit) (hfc : m.fc = 0)
    (h : run (splitS cfg s lo ro inp) m = (.ok u, m')) :
    m.okA s inp = true ∧ m.okA s lo = true ∧ m.okA s ro = true := by
  unfold splitS at h
  by_cases hlr : lo = ro
  · subst hlr
    simp only [if_true, bind, run_rA, run_wA, run_wA', Map.okA_setA] at h
    by_cases hi : m.okA s inp = true
    · simp only [hi, if_true] at h
      by_cases hl : m.okA s lo = true
      · exact ⟨hi, hl, hl⟩
      · simp [hl] at h
    · simp [hi] at h
  simp only [hlr, if_false, bind, run_rA] at h
  by_cases hi : m.okA s inp = true
  · simp only [hi, if_true] at h
    rw [run_bind, lawCall_run_fc0 _ _ _ _ hfc] at h
    cases hv : splitVal (cfg.law s) (m.att s inp) with
    | error e => rw [hv] at h; simp at h
    | ok ab =>
        rw [hv] at h
        simp only [run_wA, run_wA', hi, if_true, Map.okA_setA] at h
        by_cases hl : m.okA s lo = true
        · simp only [hl, if_true] at h
          by_cases hr : m.okA s ro = true
          · exact ⟨hi, hl, hr⟩
          · simp [hr] at h
        · simp [hl] at h
  · simp [hi] at h

/-! ### reading the result of `mergeAt` / `splitAt` -/

theorem att_mergeAt (m : Map X) (s out l r : Nat) (v : X) (t e : Nat)
    (hl : m.okA s l = true) (hr : m.okA s r = true) (ho : m.okA s out = true) :
    (m.mergeAt s out l r v).att t e =
      if t = s ∧ e = out then some v
      else if t = s ∧ (e = l ∨ e = r) then none
      else m.att t e := by
  unfold Map.mergeAt
  simp only [Map.att_setA, Map.okA_setA, hl, hr, ho, and_true]
  by_cases hts : s = t
  · subst hts
    by_cases h1 : out = e
    · subst h1; simp
    · have h1' : ¬ e = out := fun h => h1 h.symm
      simp only [h1, h1', and_false, if_false, true_and]
      by_cases h2 : l = e
      · subst h2; simp
      · have h2' : ¬ e = l := fun h => h2 h.symm
        simp only [h2, h2', if_false, false_or]
        by_cases h3 : r = e
        · subst h3; simp
        · have h3' : ¬ e = r := fun h => h3 h.symm
          simp [h3, h3']
  · have hts' : ¬ t = s := fun h => hts h.symm
    simp [hts, hts']

theorem att_splitAt (m : Map X) (s lo ro inp : Nat) (a b : X) (t e : Nat)
    (hi : m.okA s inp = true) (hl : m.okA s lo = true) (hr : m.okA s ro = true) :
    (m.splitAt s lo ro inp a b).att t e =
      if t = s ∧ e = ro then some b
      else if t = s ∧ e = lo then some a
      else if t = s ∧ e = inp then none
      else m.att t e := by
  unfold Map.splitAt
  simp only [Map.att_setA, Map.okA_setA, hl, hr, hi, and_true]
  by_cases hts : s = t
  · subst hts
    by_cases h1 : ro = e
    · subst h1; simp
    · have h1' : ¬ e = ro := fun h => h1 h.symm
      simp only [h1, h1', and_false, if_false, true_and]
      by_cases h2 : lo = e
      · subst h2; simp
      · have h2' : ¬ e = lo := fun h => h2 h.symm
        simp only [h2, h2', if_false]
        by_cases h3 : inp = e
        · subst h3; simp
        · have h3' : ¬ e = inp := fun h => h3 h.symm
          simp [h3, h3']
  · have hts' : ¬ t = s := fun h => hts h.symm
    simp [hts, hts']

theorem att_moveAt (m : Map X) (s dst src : Nat) (t e : Nat)
    (hs : m.okA s src = true) (hd : m.okA s dst = true) :
    (m.moveAt s dst src).att t e =
      if t = s ∧ e = dst then m.att s src
      else if t = s ∧ e = src then none
      else m.att t e := by
  unfold Map.moveAt
  simp only [Map.att_setA, Map.okA_setA, hs, hd, and_true]
  by_cases hts : s = t
  · subst hts
    by_cases h1 : dst = e
    · subst h1; simp
    · have h1' : ¬ e = dst := fun h => h1 h.symm
      simp only [h1, h1', and_false, if_false, true_and]
      by_cases h2 : src = e
      · subst h2; simp
      · have h2' : ¬ e = src := fun h => h2 h.symm
        simp [h2, h2']
  · have hts' : ¬ t = s := fun h => hts h.symm
    simp [hts, hts']

theorem moveAt_sameTopo (m : Map X) (s dst src : Nat) : SameTopo m (m.moveAt s dst src) :=
  (SameTopo.setA m s src none).trans (SameTopo.setA _ s dst _)

theorem moveAt_fc (m : Map X) (s dst src : Nat) : (m.moveAt s dst src).fc = m.fc := by
  unfold Map.moveAt; rw [Map.fc_setA, Map.fc_setA]

theorem mergeAt_sameTopo (m : Map X) (s out l r : Nat) (v : X) : SameTopo m (m.mergeAt s out l r v) :=
  ((SameTopo.setA m s r none).trans (SameTopo.setA _ s l none)).trans (SameTopo.setA _ s out (some v))

theorem splitAt_sameTopo (m : Map X) (s lo ro inp : Nat) (a b : X) : SameTopo m (m.splitAt s lo ro inp a b) :=
  ((SameTopo.setA m s inp none).trans (SameTopo.setA _ s lo (some a))).trans (SameTopo.setA _ s ro (some b))

theorem mergeAt_fc (m : Map X) (s out l r : Nat) (v : X) : (m.mergeAt s out l r v).fc = m.fc := by
  unfold Map.mergeAt; rw [Map.fc_setA, Map.fc_setA, Map.fc_setA]

theorem splitAt_fc (m : Map X) (s lo ro inp : Nat) (a b : X) : (m.splitAt s lo ro inp a b).fc = m.fc := by
  unfold Map.splitAt; rw [Map.fc_setA, Map.fc_setA, Map.fc_setA]

/-! ### a whole list of storages -/

theorem forM_storages {p : Nat → P X Unit} {S : Nat → (Nat → Option X) → (Nat → Option X) → Prop}
    (hstep : ∀ s (m m1 : Map X) u, m.fc = 0 → run (p s) m = (.ok u, m1) →
      SameTopo m m1 ∧ m1.fc = m.fc ∧ (∀ t e, t ≠ s → m1.att t e = m.att t e) ∧ S s (m.att s) (m1.att s)) :
    ∀ (ss : List Nat) (m m' : Map X) (u : Unit), ss.Nodup → m.fc = 0 → run (forM_ ss p) m = (.ok u, m') →
      SameTopo m m' ∧ m'.fc = m.fc ∧ (∀ t e, t ∉ ss → m'.att t e = m.att t e) ∧
      ∀ t, t ∈ ss → S t (m.att t) (m'.att t) := by
  intro ss
  induction ss with
  | nil =>
      intro m m' u _ _ h
      simp [forM_] at h
      subst h
      exact ⟨SameTopo.refl _, rfl, fun _ _ _ => rfl, fun _ h => absurd h (by simp)⟩
  | cons s ss ih =>
      intro m m' u hnd hfc h
      unfold forM_ at h
      obtain ⟨_, m1, h1, h2⟩ := run_bind_ok h
      obtain ⟨st1, fc1, o1, s1⟩ := hstep s m m1 _ hfc h1
      have hsn : s ∉ ss := (List.nodup_cons.1 hnd).1
      obtain ⟨st2, fc2, o2, s2⟩ := ih m1 m' () (List.nodup_cons.1 hnd).2 (by rw [fc1]; exact hfc) h2
      refine ⟨st1.trans st2, by rw [fc2, fc1], ?_, ?_⟩
      · intro t e ht
        rw [o2 t e (fun h => ht (by simp [h])), o1 t e (fun h => ht (by simp [h]))]
      · intro t ht
        by_cases hts : t = s
        · subst hts
          rw [show m'.att t = m1.att t from funext fun e => o2 t e hsn]
          exact s1
        · rw [← show m1.att t = m.att t from funext fun e => o1 t e hts]
          exact s2 t (by simpa [hts] using ht)


/-- state after successfully merging `(out, l, r)` in each storage of the list: every storage is
    touched independently of the others, so the result does not depend on the order -/
structure MergedIn (cfg : Cfg X) (ss : List Nat) (out l r : Nat) (m m' : Map X) : Prop where
  topo : SameTopo m m'
  fc : m'.fc = m.fc
  other : ∀ t e, t ∉ ss → m'.att t e = m.att t e
  frame : ∀ t e, t ∈ ss → e ≠ out → e ≠ l → e ≠ r → m'.att t e = m.att t e
  cleared : ∀ t e, t ∈ ss → e ≠ out → (e = l ∨ e = r) → m'.att t e = none
  /-- two distinct old ids: the new id carries `merge*` of the two old values -/
  merged : l ≠ r → ∀ t, t ∈ ss → ∃ v, mergeVal (cfg.law t) (m.att t l) (m.att t r) = .ok v ∧ m'.att t out = some v
  /-- coinciding old ids (the same old cell twice): the value only moves to the new id -/
  moved : l = r → ∀ t, t ∈ ss → m'.att t out = m.att t l

theorem mergeS_step (cfg : Cfg X) (s out l r : Nat) (m m1 : Map X) (u : Unit) (hfc : m.fc = 0)
    (h : run (mergeS cfg s out l r) m = (.ok u, m1)) :
    SameTopo m m1 ∧ m1.fc = m.fc ∧ (∀ t e, t ≠ s → m1.att t e = m.att t e) ∧
    (∀ e, e ≠ out → e ≠ l → e ≠ r → m1.att s e = m.att s e) ∧
    (∀ e, e ≠ out → (e = l ∨ e = r) → m1.att s e = none) ∧
    (l ≠ r → ∃ v, mergeVal (cfg.law s) (m.att s l) (m.att s r) = .ok v ∧ m1.att s out = some v) ∧
    (l = r → m1.att s out = m.att s l) := by
  have hs := mergeS_ok_okA cfg s out l r m m1 u hfc h
  by_cases hlr : l = r
  · subst hlr
    rw [mergeS_run_move cfg s out l m hs.1 hs.2.2] at h
    simp only [Prod.mk.injEq, true_and] at h
    subst h
    have hatt := fun t e => att_moveAt m s out l t e hs.1 hs.2.2
    refine ⟨moveAt_sameTopo _ _ _ _, moveAt_fc _ _ _ _, ?_, ?_, ?_, fun hne => absurd rfl hne, ?_⟩
    · intro t e hts; rw [hatt]; simp [hts]
    · intro e h1 h2 _; rw [hatt]; simp [h1, h2]
    · intro e h1 h2; rw [hatt]
      have : e = l := by rcases h2 with h2 | h2 <;> exact h2
      subst this
      simp [h1]
    · intro _; rw [hatt]; simp
  · rw [mergeS_run cfg s out l r m hfc hlr hs.1 hs.2.1 hs.2.2] at h
    match hv : mergeVal (cfg.law s) (m.att s l) (m.att s r) with
    | .error e => rw [hv] at h; simp at h
    | .ok v =>
        rw [hv] at h
        simp only [Prod.mk.injEq, true_and] at h
        subst h
        have hatt := fun t e => att_mergeAt m s out l r v t e hs.1 hs.2.1 hs.2.2
        refine ⟨mergeAt_sameTopo _ _ _ _ _ _, mergeAt_fc _ _ _ _ _ _, ?_, ?_, ?_, ?_, fun he => absurd he hlr⟩
        · intro t e hts; rw [hatt]; simp [hts]
        · intro e h1 h2 h3; rw [hatt]; simp [h1, h2, h3]
        · intro e h1 h2; rw [hatt]; simp [h1, h2]
        · intro _; exact ⟨v, rfl, by rw [hatt]; simp⟩

theorem forM_merge_ok (cfg : Cfg X) (out l r : Nat) (ss : List Nat) (m m' : Map X) (u : Unit)
    (hnd : ss.Nodup) (hfc : m.fc = 0) (h : run (forM_ ss (fun s => mergeS cfg s out l r)) m = (.ok u, m')) :
    MergedIn cfg ss out l r m m' := by
  obtain ⟨st, fc, o, hS⟩ := forM_storages (S := fun s f f' =>
      (∀ e, e ≠ out → e ≠ l → e ≠ r → f' e = f e) ∧ (∀ e, e ≠ out → (e = l ∨ e = r) → f' e = none) ∧
      (l ≠ r → ∃ v, mergeVal (cfg.law s) (f l) (f r) = .ok v ∧ f' out = some v) ∧ (l = r → f' out = f l))
    (fun s m m1 u hfc h => by
      obtain ⟨a1, a2, a3, a4⟩ := mergeS_step cfg s out l r m m1 u hfc h
      exact ⟨a1, a2, a3, a4⟩) ss m m' u hnd hfc h
  exact ⟨st, fc, o, fun t e ht => (hS t ht).1 e, fun t e ht => (hS t ht).2.1 e,
    fun hne t ht => (hS t ht).2.2.1 hne, fun he t ht => (hS t ht).2.2.2 he⟩

/-- state after successfully splitting `inp` into `(lo, ro)` in each storage of the list -/
structure SplitIn (cfg : Cfg X) (ss : List Nat) (lo ro inp : Nat) (m m' : Map X) : Prop where
  topo : SameTopo m m'
  fc : m'.fc = m.fc
  other : ∀ t e, t ∉ ss → m'.att t e = m.att t e
  frame : ∀ t e, t ∈ ss → e ≠ lo → e ≠ ro → e ≠ inp → m'.att t e = m.att t e
  cleared : ∀ t, t ∈ ss → inp ≠ lo → inp ≠ ro → m'.att t inp = none
  /-- two distinct new ids: they carry the two halves of `split*` of the old value -/
  split : lo ≠ ro → ∀ t, t ∈ ss → ∃ a b, splitVal (cfg.law t) (m.att t inp) = .ok (a, b) ∧
    m'.att t ro = some b ∧ m'.att t lo = some a
  /-- coinciding new ids (the same new cell twice): the value only moves -/
  moved : lo = ro → ∀ t, t ∈ ss → m'.att t lo = m.att t inp

theorem splitS_step (cfg : Cfg X) (s lo ro inp : Nat) (m m1 : Map X) (u : Unit) (hfc : m.fc = 0)
    (h : run (splitS cfg s lo ro inp) m = (.ok u, m1)) :
    SameTopo m m1 ∧ m1.fc = m.fc ∧ (∀ t e, t ≠ s → m1.att t e = m.att t e) ∧
    (∀ e, e ≠ lo → e ≠ ro → e ≠ inp → m1.att s e = m.att s e) ∧
    (inp ≠ lo → inp ≠ ro → m1.att s inp = none) ∧
    (lo ≠ ro → ∃ a b, splitVal (cfg.law s) (m.att s inp) = .ok (a, b) ∧ m1.att s ro = some b ∧ m1.att s lo = some a) ∧
    (lo = ro → m1.att s lo = m.att s inp) := by
  have hs := splitS_ok_okA cfg s lo ro inp m m1 u hfc h
  by_cases hlr : lo = ro
  · subst hlr
    rw [splitS_run_move cfg s lo inp m hs.1 hs.2.1] at h
    simp only [Prod.mk.injEq, true_and] at h
    subst h
    have hatt := fun t e => att_moveAt m s lo inp t e hs.1 hs.2.1
    refine ⟨moveAt_sameTopo _ _ _ _, moveAt_fc _ _ _ _, ?_, ?_, ?_, fun hne => absurd rfl hne, ?_⟩
    · intro t e hts; rw [hatt]; simp [hts]
    · intro e h1 _ h3; rw [hatt]; simp [h1, h3]
    · intro h1 _; rw [hatt]; simp [h1]
    · intro _; rw [hatt]; simp
  · rw [splitS_run cfg s lo ro inp m hfc hlr hs.1 hs.2.1 hs.2.2] at h
    match hv : splitVal (cfg.law s) (m.att s inp) with
    | .error e => rw [hv] at h; simp at h
    | .ok (a, b) =>
        rw [hv] at h
        simp only [Prod.mk.injEq, true_and] at h
        subst h
        have hatt := fun t e => att_splitAt m s lo ro inp a b t e hs.1 hs.2.1 hs.2.2
        refine ⟨splitAt_sameTopo _ _ _ _ _ _ _, splitAt_fc _ _ _ _ _ _ _, ?_, ?_, ?_, ?_, fun he => absurd he hlr⟩
        · intro t e hts; rw [hatt]; simp [hts]
        · intro e h1 h2 h3; rw [hatt]; simp [h1, h2, h3]
        · intro h1 h2; rw [hatt]; simp [h1, h2]
        · intro _
          refine ⟨a, b, rfl, by rw [hatt]; simp, ?_⟩
          rw [hatt]; simp [hlr]

theorem forM_split_ok (cfg : Cfg X) (lo ro inp : Nat) (ss : List Nat) (m m' : Map X) (u : Unit)
    (hnd : ss.Nodup) (hfc : m.fc = 0) (h : run (forM_ ss (fun s => splitS cfg s lo ro inp)) m = (.ok u, m')) :
    SplitIn cfg ss lo ro inp m m' := by
  obtain ⟨st, fc, o, hS⟩ := forM_storages (S := fun s f f' =>
      (∀ e, e ≠ lo → e ≠ ro → e ≠ inp → f' e = f e) ∧ (inp ≠ lo → inp ≠ ro → f' inp = none) ∧
      (lo ≠ ro → ∃ a b, splitVal (cfg.law s) (f inp) = .ok (a, b) ∧ f' ro = some b ∧ f' lo = some a) ∧
      (lo = ro → f' lo = f inp))
    (fun s m m1 u hfc h => by
      obtain ⟨a1, a2, a3, a4⟩ := splitS_step cfg s lo ro inp m m1 u hfc h
      exact ⟨a1, a2, a3, a4⟩) ss m m' u hnd hfc h
  exact ⟨st, fc, o, fun t e ht => (hS t ht).1 e, fun t ht => (hS t ht).2.1,
    fun hne t ht => (hS t ht).2.2.1 hne, fun he t ht => (hS t ht).2.2.2 he⟩

end HC

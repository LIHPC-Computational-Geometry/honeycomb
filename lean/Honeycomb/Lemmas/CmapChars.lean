/-
  Lemmas about the character-level cmap model (`Model/CmapChars.lean`): blanks, tokens and
  lines; the characters written by `serializeChars` tokenise to the token lines of `serializeF`;
  the character-level section parser `parseFileC` is `parseFile ∘ tokenise`.
-/
import Honeycomb.Model.CmapChars
import Honeycomb.Lemmas.CmapText

namespace HC
namespace CmapText

/-! ## 1. `split_whitespace` -/

/-- the list starts with a non-blank character -/
def startsTok : List Char → Bool
  | [] => false
  | c :: _ => !isWs c

/-- a token: non-empty, blank-free -/
structure TokChars (t : List Char) : Prop where
  ne : t ≠ []
  noWs : ∀ c ∈ t, isWs c = false

theorem splitGo_cons (c : Char) (cs : List Char) :
    splitGo (c :: cs) =
      if isWs c then ((splitGo cs).1, false)
      else if (splitGo cs).2 then (pushChar c (splitGo cs).1, true)
      else ([c] :: (splitGo cs).1, true) := by
  rw [splitGo]

theorem linesOf_cons (c : Char) (cs : List Char) :
    linesOf (c :: cs) =
      if c = '\n' then [] :: linesOf cs else pushChar c (linesOf cs) := by
  rw [linesOf]

theorem splitGo_snd : ∀ (cs : List Char), (splitGo cs).2 = startsTok cs
  | [] => rfl
  | c :: cs => by
    rw [splitGo_cons]
    unfold startsTok
    by_cases h : isWs c = true
    · simp [h]
    · have h' : isWs c = false := by simpa using h
      simp only [h', Bool.false_eq_true, if_false, Bool.not_false]
      split <;> rfl

theorem splitWs_nil : splitWs [] = [] := rfl

theorem splitWs_ws_cons {c : Char} (h : isWs c = true) (cs : List Char) :
    splitWs (c :: cs) = splitWs cs := by
  unfold splitWs
  rw [splitGo_cons]
  simp [h]

theorem splitWs_ws_append : ∀ (ws cs : List Char), (∀ c ∈ ws, isWs c = true) →
    splitWs (ws ++ cs) = splitWs cs
  | [], _, _ => rfl
  | w :: ws, cs, h => by
    rw [List.cons_append, splitWs_ws_cons (h w (by simp)),
      splitWs_ws_append ws cs (fun c hc => h c (by simp [hc]))]

/-- a token followed by a blank or the end -/
theorem splitGo_tok : ∀ (t rest : List Char), TokChars t → startsTok rest = false →
    splitGo (t ++ rest) = (t :: splitWs rest, true)
  | [], _, h, _ => absurd rfl h.ne
  | [c], rest, h, hr => by
    have hc : isWs c = false := h.noWs c (by simp)
    have h2 : (splitGo rest).2 = false := by rw [splitGo_snd]; exact hr
    show splitGo (c :: rest) = _
    rw [splitGo_cons]
    simp [hc, h2, splitWs]
  | c :: c' :: t, rest, h, hr => by
    have hc : isWs c = false := h.noWs c (by simp)
    have ih := splitGo_tok (c' :: t) rest ⟨by simp, fun x hx => h.noWs x (by simp [hx])⟩ hr
    show splitGo (c :: ((c' :: t) ++ rest)) = _
    rw [splitGo_cons, ih]
    simp [hc, pushChar]

theorem splitWs_tok (t rest : List Char) (h : TokChars t) (hr : startsTok rest = false) :
    splitWs (t ++ rest) = t :: splitWs rest := by
  show (splitGo (t ++ rest)).1 = _
  rw [splitGo_tok t rest h hr]

theorem splitGo_allWs : ∀ (ws : List Char), (∀ c ∈ ws, isWs c = true) → splitGo ws = ([], false)
  | [], _ => rfl
  | w :: ws, h => by
    rw [splitGo_cons]
    simp [h w (by simp), splitGo_allWs ws (fun c hc => h c (by simp [hc]))]

theorem splitGo_append_ws (ws : List Char) (h : ∀ c ∈ ws, isWs c = true) :
    ∀ (cs : List Char), splitGo (cs ++ ws) = splitGo cs
  | [] => by rw [List.nil_append, splitGo_allWs ws h]; rfl
  | c :: cs => by
    show splitGo (c :: (cs ++ ws)) = splitGo (c :: cs)
    rw [splitGo_cons, splitGo_cons, splitGo_append_ws ws h cs]

theorem splitWs_dropWhile : ∀ (cs : List Char), splitWs (cs.dropWhile isWs) = splitWs cs
  | [] => rfl
  | c :: cs => by
    rw [List.dropWhile_cons]
    by_cases h : isWs c = true
    · simp only [h, if_true]; rw [splitWs_dropWhile cs, splitWs_ws_cons h]
    · simp [h]

theorem mem_takeWhile_sat {α : Type} (p : α → Bool) : ∀ (l : List α) {a : α},
    a ∈ l.takeWhile p → p a = true
  | [], _, h => by simp at h
  | b :: l, a, h => by
    rw [List.takeWhile_cons] at h
    by_cases hb : p b = true
    · simp only [hb, if_true, List.mem_cons] at h
      rcases h with rfl | h
      · exact hb
      · exact mem_takeWhile_sat p l h
    · simp [hb] at h

theorem trimR_decomp (x : List Char) :
    ∃ ws, (∀ c ∈ ws, isWs c = true) ∧ x = (x.reverse.dropWhile isWs).reverse ++ ws := by
  refine ⟨(x.reverse.takeWhile isWs).reverse, ?_, ?_⟩
  · intro c hc
    have hm : c ∈ x.reverse.takeWhile isWs := List.mem_reverse.mp hc
    exact mem_takeWhile_sat _ _ hm
  · have := List.takeWhile_append_dropWhile (p := isWs) (l := x.reverse)
    have h2 := congrArg List.reverse this
    rw [List.reverse_append, List.reverse_reverse] at h2
    exact h2.symm

theorem splitWs_trimWs (cs : List Char) : splitWs (trimWs cs) = splitWs cs := by
  obtain ⟨ws, hws, hx⟩ := trimR_decomp (cs.dropWhile isWs)
  have : splitWs (cs.dropWhile isWs) = splitWs (trimWs cs) := by
    unfold splitWs
    rw [hx, splitGo_append_ws ws hws]
    rfl
  rw [← this, splitWs_dropWhile]

/-! ## 2. `lines` -/

theorem linesOf_line : ∀ (l rest : List Char), (∀ c ∈ l, c ≠ '\n') →
    linesOf (l ++ '\n' :: rest) = l :: linesOf rest
  | [], rest, _ => by simp [linesOf]
  | c :: l, rest, h => by
    have hc : c ≠ '\n' := h c (by simp)
    show linesOf (c :: (l ++ '\n' :: rest)) = _
    rw [linesOf_cons, if_neg hc, linesOf_line l rest (fun x hx => h x (by simp [hx]))]
    rfl

theorem tokenise_line (l rest : List Char) (h : ∀ c ∈ l, c ≠ '\n') :
    tokenise (l ++ '\n' :: rest) = lineToks l :: tokenise rest := by
  unfold tokenise
  rw [linesOf_line l rest h]
  rfl

theorem noNl_of_noWs {t : List Char} (h : ∀ c ∈ t, isWs c = false) : ∀ c ∈ t, c ≠ '\n' := by
  intro c hc e
  subst e
  have := h _ hc
  simp [isWs] at this

/-! ## 3. the characters of `serializeChars` tokenise to the token lines of `serializeF` -/

theorem isWs_of_isDigit {c : Char} (h : c.isDigit = true) : isWs c = false := by
  have h1 : 48 ≤ c.toNat ∧ c.toNat ≤ 57 := by
    simp only [Char.isDigit, Bool.and_eq_true, decide_eq_true_eq] at h
    have a := h.1
    have b := h.2
    simp only [ge_iff_le, UInt32.le_iff_toNat_le] at a b
    exact ⟨by simpa using a, by simpa using b⟩
  unfold isWs
  simp only [Bool.or_eq_false_iff, Bool.and_eq_false_iff, decide_eq_false_iff_not]
  omega

theorem tok_digits (n : Nat) : TokChars (digits n) :=
  ⟨Nat.toDigits_ne_nil, fun _ hc => isWs_of_isDigit (digit_of_mem_toDigits hc)⟩

theorem ofList_digits (n : Nat) : String.ofList (digits n) = natTok n := rfl

theorem toList_natTok (n : Nat) : (natTok n).toList = digits n := by
  unfold natTok digits; rw [Nat.toList_repr]

theorem tok_natTok (n : Nat) : TokChars (natTok n).toList := by
  rw [toList_natTok]
  exact tok_digits n

theorem startsTok_space (cs : List Char) : startsTok (' ' :: cs) = false := by
  simp [startsTok, isWs]

theorem isWs_space : isWs ' ' = true := by decide

/-- blank-padded, blank-terminated fields -/
theorem splitWs_fields {α : Type} (pre tok : α → List Char) : ∀ (l : List α),
    (∀ d ∈ l, TokChars (tok d) ∧ ∀ c ∈ pre d, isWs c = true) →
    splitWs ((l.map fun d => pre d ++ tok d ++ [' ']).flatten) = l.map tok
  | [], _ => rfl
  | d :: l, h => by
    obtain ⟨ht, hp⟩ := h d (by simp)
    rw [List.map_cons, List.flatten_cons, List.append_assoc, List.append_assoc,
      splitWs_ws_append _ _ hp, List.singleton_append,
      splitWs_tok _ _ ht (startsTok_space _), splitWs_ws_cons isWs_space,
      splitWs_fields pre tok l (fun e he => h e (by simp [he]))]
    rfl

theorem splitWs_single {t : List Char} (h : TokChars t) : splitWs t = [t] := by
  have := splitWs_tok t [] h rfl
  rw [List.append_nil] at this
  rw [this]; rfl

theorem splitWs_three {a b c : List Char} (ha : TokChars a) (hb : TokChars b) (hc : TokChars c) :
    splitWs (a ++ ' ' :: (b ++ ' ' :: c)) = [a, b, c] := by
  rw [splitWs_tok _ _ ha (startsTok_space _), splitWs_ws_cons isWs_space,
    splitWs_tok _ _ hb (startsTok_space _), splitWs_ws_cons isWs_space, splitWs_single hc]

theorem mem_replicate_ws {k : Nat} {c : Char} (h : c ∈ List.replicate k ' ') : isWs c = true := by
  rw [List.mem_replicate] at h
  rw [h.2]; exact isWs_space

theorem lineToks_betaBuf (m : Map Val) (i : Nat) : lineToks (trimWs (betaBuf m i)) = betaLine m i := by
  unfold lineToks
  rw [splitWs_trimWs]
  unfold betaBuf padLeft
  rw [splitWs_fields (fun d => List.replicate ((digits m.n).length - (digits (m.β i d)).length) ' ')
    (fun d => digits (m.β i d)) (List.range m.n)
    (fun d _ => ⟨tok_digits _, fun c hc => mem_replicate_ws hc⟩)]
  unfold betaLine
  rw [List.map_map]
  rfl

theorem lineToks_unusedBuf (m : Map Val) : lineToks (unusedBuf m) = unusedLine m := by
  unfold lineToks unusedBuf
  have := splitWs_fields (fun _ : Nat => []) (fun d => digits d)
    ((List.range m.u.size).filter fun d => m.unused d)
    (fun d _ => ⟨tok_digits _, fun c hc => by simp at hc⟩)
  simp only [List.nil_append] at this
  rw [this]
  unfold unusedLine
  rw [List.map_map]
  rfl

set_option linter.unusedVariables false in
theorem tok_toList_of {s : String} (h : TokChars s.toList) : String.ofList s.toList = s :=
  String.ofList_toList

/-- the characters of a vertex line from its three tokens -/
def renderV (l : Line) : List Char :=
  (l.getD 0 "").toList ++ [' '] ++ (l.getD 1 "").toList ++ [' '] ++ (l.getD 2 "").toList ++ ['\n']

theorem vertexChars_eq (fmt : Rat → String) (m : Map Val) (v : Nat) :
    vertexChars fmt m v = ((vertexLineF fmt m v).map renderV).getD [] := by
  unfold vertexChars vertexLineF
  cases m.att 0 v with
  | none => rfl
  | some val => cases val <;> simp [renderV, toList_natTok]

theorem vertexLineF_toks {fmt : Rat → String} (hf : ∀ q, TokChars (fmt q).toList) {m : Map Val} {v : Nat}
    {l : Line} (h : vertexLineF fmt m v = some l) :
    ∃ a b c, l = [a, b, c] ∧ TokChars a.toList ∧ TokChars b.toList ∧ TokChars c.toList := by
  have hq : TokChars "?".toList := ⟨by decide, by decide⟩
  have hv := tok_natTok v
  unfold vertexLineF at h
  cases hm : m.att 0 v with
  | none => rw [hm] at h; cases h
  | some val =>
    rw [hm] at h
    cases val with
    | pt x y z => injection h with h; exact ⟨_, _, _, h.symm, hv, hf x, hf y⟩
    | tm t => injection h with h; exact ⟨_, _, _, h.symm, hv, hq, hq⟩

theorem tokenise_renderV {a b c : String} (ha : TokChars a.toList) (hb : TokChars b.toList)
    (hc : TokChars c.toList) (rest : List Char) :
    tokenise (renderV [a, b, c] ++ rest) = [a, b, c] :: tokenise rest := by
  have e : renderV [a, b, c] ++ rest = (a.toList ++ ' ' :: (b.toList ++ ' ' :: c.toList)) ++ '\n' :: rest := by
    simp [renderV]
  have hnl : ∀ x ∈ a.toList ++ ' ' :: (b.toList ++ ' ' :: c.toList), x ≠ '\n' := by
    intro x hx
    simp only [List.mem_append, List.mem_cons] at hx
    rcases hx with h | rfl | h | rfl | h
    · exact noNl_of_noWs ha.noWs x h
    · decide
    · exact noNl_of_noWs hb.noWs x h
    · decide
    · exact noNl_of_noWs hc.noWs x h
  rw [e, tokenise_line _ _ hnl]
  unfold lineToks
  rw [splitWs_three ha hb hc]
  simp only [List.map_cons, List.map_nil, String.ofList_toList]

/-- the characters of the lines after the `[VERTICES]` header -/
theorem tokenise_vertices (fmt : Rat → String) (hf : ∀ q, TokChars (fmt q).toList) (m : Map Val) :
    ∀ (vs : List Nat), tokenise ((vs.map (vertexChars fmt m)).flatten) = vs.filterMap (vertexLineF fmt m)
  | [] => rfl
  | v :: vs => by
    rw [List.map_cons, List.flatten_cons, List.filterMap_cons, vertexChars_eq]
    cases h : vertexLineF fmt m v with
    | none => exact tokenise_vertices fmt hf m vs
    | some l =>
      obtain ⟨a, b, c, rfl, ha, hb, hc⟩ := vertexLineF_toks hf h
      show tokenise (renderV [a, b, c] ++ _) = _
      rw [tokenise_renderV ha hb hc, tokenise_vertices fmt hf m vs]

theorem mem_trimWs {c : Char} {x : List Char} (h : c ∈ trimWs x) : c ∈ x := by
  unfold trimWs at h
  have h1 := List.mem_reverse.mp h
  have h2 := (List.dropWhile_sublist isWs).mem h1
  have h3 := List.mem_reverse.mp h2
  exact (List.dropWhile_sublist isWs).mem h3

theorem digit_ne_nl {c : Char} (h : c.isDigit = true) : c ≠ '\n' := by
  intro e; subst e; simp [Char.isDigit] at h

theorem noNl_fields {α : Type} (pre : α → List Char) (v : α → Nat) (l : List α)
    (hpre : ∀ d, ∀ c ∈ pre d, c ≠ '\n') :
    ∀ c ∈ (l.map fun d => pre d ++ digits (v d) ++ [' ']).flatten, c ≠ '\n' := by
  intro c hc
  simp only [List.mem_flatten, List.mem_map] at hc
  obtain ⟨_, ⟨d, _, rfl⟩, hcl⟩ := hc
  simp only [List.mem_append, List.mem_singleton] at hcl
  rcases hcl with (h | h) | rfl
  · exact hpre d c h
  · exact digit_ne_nl (digit_of_mem_toDigits h)
  · decide

theorem noNl_betaBuf (m : Map Val) (i : Nat) : ∀ c ∈ trimWs (betaBuf m i), c ≠ '\n' :=
  fun c hc => noNl_fields (fun d => List.replicate _ ' ') (m.β i) _
    (fun _ c h => by rw [(List.mem_replicate.1 h).2]; decide) c (mem_trimWs hc)

theorem noNl_unusedBuf (m : Map Val) : ∀ c ∈ unusedBuf m, c ≠ '\n' :=
  noNl_fields (fun _ => []) (fun d => d) _ (fun _ _ h => by cases h)

/-- the text of `serializeChars`, line by line -/
theorem serializeChars_lines (ver : String) (fmt : Rat → String) (m : Map Val) :
    serializeChars ver fmt m =
      "[META]".toList ++ '\n' ::
      (renderV [ver, "2", natTok (m.n - 1)] ++
      ([] ++ '\n' ::
      ("[BETAS]".toList ++ '\n' ::
      (trimWs (betaBuf m 0) ++ '\n' ::
      (trimWs (betaBuf m 1) ++ '\n' ::
      (trimWs (betaBuf m 2) ++ '\n' ::
      ([] ++ '\n' ::
      ("[UNUSED]".toList ++ '\n' ::
      (unusedBuf m ++ '\n' ::
      ([] ++ '\n' ::
      ("[VERTICES]".toList ++ '\n' ::
      ((iterVertices2 m).map (vertexChars fmt m)).flatten))))))))))) := by
  unfold serializeChars
  simp only [renderV, toList_natTok, List.getD_cons_zero, List.getD_cons_succ, List.append_assoc,
    List.nil_append, List.cons_append]
  rfl

/-- **C09b, tokenisation**: for EVERY map (any size, well formed or not), any version token and
    any coordinate formatter producing non-empty blank-free strings, the reader's tokenisation
    (`lines`, `split_whitespace`) of the characters written by `serialize` is exactly the list of
    token lines of the token-level serializer. -/
theorem tokenise_serializeChars (ver : String) (hv : TokChars ver.toList) (fmt : Rat → String)
    (hf : ∀ q, TokChars (fmt q).toList) (m : Map Val) :
    tokenise (serializeChars ver fmt m) = serializeF ver fmt m := by
  rw [serializeChars_lines,
    tokenise_line _ _ (by decide), tokenise_renderV hv ⟨by decide, by decide⟩ (tok_natTok _),
    tokenise_line _ _ (by simp), tokenise_line _ _ (by decide), tokenise_line _ _ (noNl_betaBuf m 0),
    tokenise_line _ _ (noNl_betaBuf m 1), tokenise_line _ _ (noNl_betaBuf m 2),
    tokenise_line _ _ (by simp), tokenise_line _ _ (by decide), tokenise_line _ _ (noNl_unusedBuf m),
    tokenise_line _ _ (by simp), tokenise_line _ _ (by decide),
    tokenise_vertices fmt hf m, lineToks_betaBuf, lineToks_betaBuf,
    lineToks_betaBuf, lineToks_unusedBuf]
  have h1 : lineToks "[META]".toList = ["[META]"] := by decide
  have h2 : lineToks "[BETAS]".toList = ["[BETAS]"] := by decide
  have h3 : lineToks "[UNUSED]".toList = ["[UNUSED]"] := by decide
  have h4 : lineToks "[VERTICES]".toList = ["[VERTICES]"] := by decide
  have h5 : lineToks [] = [] := rfl
  rw [h1, h2, h3, h4, h5]
  rfl

theorem serializeF_ratStr (ver : String) (m : Map Val) : serializeF ver ratStr m = serialize ver m := by
  have : vertexLineF ratStr m = vertexLine m := by
    funext v
    unfold vertexLineF vertexLine
    rfl
  unfold serializeF serialize
  rw [this]

/-! ## 4. the characters are determined by the token lines -/

theorem betaBuf_of_line (m : Map Val) (i : Nat) :
    betaBuf m i =
      ((betaLine m i).map fun t => padLeft (digits m.n).length t.toList ++ [' ']).flatten := by
  unfold betaBuf betaLine
  rw [List.map_map]
  refine congrArg List.flatten (List.map_congr_left fun d _ => ?_)
  show _ = padLeft _ (natTok (m.β i d)).toList ++ [' ']
  rw [toList_natTok]

theorem unusedBuf_of_line (m : Map Val) :
    unusedBuf m = ((unusedLine m).map fun t => t.toList ++ [' ']).flatten := by
  unfold unusedBuf unusedLine
  rw [List.map_map]
  refine congrArg List.flatten (List.map_congr_left fun d _ => ?_)
  show _ = (natTok d).toList ++ [' ']
  rw [toList_natTok]

theorem vertexPart_of_lines (fmt : Rat → String) (m : Map Val) : ∀ (vs : List Nat),
    (vs.map (vertexChars fmt m)).flatten = ((vs.filterMap (vertexLineF fmt m)).map renderV).flatten
  | [] => rfl
  | v :: vs => by
    rw [List.map_cons, List.flatten_cons, List.filterMap_cons, vertexPart_of_lines fmt m vs, vertexChars_eq]
    cases vertexLineF fmt m v <;> rfl

theorem serializeChars_congr (ver : String) (fmt : Rat → String) {m m' : Map Val}
    (h : serializeF ver fmt m' = serializeF ver fmt m) (hn : m'.n = m.n) :
    serializeChars ver fmt m' = serializeChars ver fmt m := by
  unfold serializeF at h
  simp only [List.cons_append, List.nil_append, List.cons.injEq, true_and] at h
  obtain ⟨_, h0, h1, h2, hu, hv⟩ := h
  unfold serializeChars
  rw [betaBuf_of_line m' 0, betaBuf_of_line m' 1, betaBuf_of_line m' 2, betaBuf_of_line m 0,
    betaBuf_of_line m 1, betaBuf_of_line m 2, unusedBuf_of_line m', unusedBuf_of_line m,
    vertexPart_of_lines fmt m', vertexPart_of_lines fmt m, hn, h0, h1, h2, hu, hv]

/-! ## 5. the character-level section parser is the token-level one after tokenisation -/

theorem mem_pushChar {x c : Char} (X : List (List Char)) :
    (∃ t ∈ pushChar c X, x ∈ t) ↔ (x = c ∨ ∃ t ∈ X, x ∈ t) := by
  cases X with
  | nil => simp [pushChar]
  | cons t r =>
    simp only [pushChar, List.mem_cons, exists_eq_or_imp]
    constructor
    · rintro (h | h)
      · rcases h with h | h
        · exact .inl h
        · exact .inr (.inl h)
      · exact .inr (.inr h)
    · rintro (h | h | h)
      · exact .inl (.inl h)
      · exact .inl (.inr h)
      · exact .inr h

theorem mem_splitWs {x : Char} : ∀ (s : List Char),
    (∃ t ∈ splitWs s, x ∈ t) ↔ (x ∈ s ∧ isWs x = false)
  | [] => by simp [splitWs, splitGo]
  | c :: cs => by
    have ih := mem_splitWs (x := x) cs
    by_cases hc : isWs c = true
    · rw [splitWs_ws_cons hc, ih]
      constructor
      · rintro ⟨a, b⟩; exact ⟨by simp [a], b⟩
      · rintro ⟨a, b⟩
        simp only [List.mem_cons] at a
        rcases a with rfl | a
        · rw [hc] at b; cases b
        · exact ⟨a, b⟩
    · have hc' : isWs c = false := by simpa using hc
      have key : (∃ t ∈ splitWs (c :: cs), x ∈ t) ↔ (x = c ∨ ∃ t ∈ splitWs cs, x ∈ t) := by
        show (∃ t ∈ (splitGo (c :: cs)).1, x ∈ t) ↔ _
        rw [splitGo_cons]
        simp only [hc', Bool.false_eq_true, if_false]
        split
        · exact mem_pushChar _
        · simp [splitWs]
      rw [key, ih]
      constructor
      · rintro (rfl | ⟨a, b⟩)
        · exact ⟨by simp, hc'⟩
        · exact ⟨by simp [a], b⟩
      · rintro ⟨a, b⟩
        simp only [List.mem_cons] at a
        rcases a with rfl | a
        · exact .inl rfl
        · exact .inr ⟨a, b⟩

theorem splitWs_eq_nil_iff (s : List Char) : splitWs s = [] ↔ ∀ c ∈ s, isWs c = true := by
  constructor
  · intro h c hc
    by_cases hw : isWs c = true
    · exact hw
    · have := (mem_splitWs (x := c) s).mpr ⟨hc, by simpa using hw⟩
      rw [h] at this
      obtain ⟨t, ht, _⟩ := this
      cases ht
  · intro h
    show (splitGo s).1 = []
    rw [splitGo_allWs s h]

theorem splitWs_ne_nil : ∀ (s : List Char), ∀ t ∈ splitWs s, t ≠ []
  | [], t, h => by simp [splitWs, splitGo] at h
  | c :: cs, t, h => by
    have ih := splitWs_ne_nil cs
    by_cases hc : isWs c = true
    · rw [splitWs_ws_cons hc] at h; exact ih t h
    · have hc' : isWs c = false := by simpa using hc
      have : t ∈ (splitGo (c :: cs)).1 := h
      rw [splitGo_cons] at this
      simp only [hc', Bool.false_eq_true, if_false] at this
      split at this
      · cases hX : (splitGo cs).1 with
        | nil => rw [hX] at this; simp [pushChar] at this; rw [this]; simp
        | cons t' r =>
          rw [hX] at this
          simp only [pushChar, List.mem_cons] at this
          rcases this with rfl | h'
          · simp
          · exact ih t (by show t ∈ (splitGo cs).1; rw [hX]; simp [h'])
      · simp only [List.mem_cons] at this
        rcases this with rfl | h'
        · simp
        · exact ih t h'

theorem splitWs_head {c : Char} (cs : List Char) (hc : isWs c = false) :
    ∃ t r, splitWs (c :: cs) = (c :: t) :: r := by
  show ∃ t r, (splitGo (c :: cs)).1 = (c :: t) :: r
  rw [splitGo_cons]
  simp only [hc, Bool.false_eq_true, if_false]
  split
  · cases (splitGo cs).1 with
    | nil => exact ⟨[], [], rfl⟩
    | cons t r => exact ⟨t, r, rfl⟩
  · exact ⟨[], _, rfl⟩

theorem dropWhile_head_not {α : Type} (p : α → Bool) : ∀ (l : List α) {a : α} {r : List α},
    l.dropWhile p = a :: r → p a = false
  | [], _, _, h => by simp at h
  | b :: l, a, r, h => by
    rw [List.dropWhile_cons] at h
    by_cases hb : p b = true
    · simp only [hb, if_true] at h; exact dropWhile_head_not p l h
    · simp only [hb] at h
      injection h with h1 _
      subst h1; simpa using hb

theorem trimR_no_trailing (x y ws : List Char) (hne : ws ≠ []) (hws : ∀ c ∈ ws, isWs c = true)
    (h : (x.reverse.dropWhile isWs).reverse = y ++ ws) : False := by
  have h2 := congrArg List.reverse h
  rw [List.reverse_reverse, List.reverse_append] at h2
  cases hr : ws.reverse with
  | nil => exact hne (by simpa using hr)
  | cons w r =>
    rw [hr, List.cons_append] at h2
    have := dropWhile_head_not isWs _ h2
    have hw : w ∈ ws := by
      have : w ∈ ws.reverse := by rw [hr]; simp
      exact List.mem_reverse.mp this
    rw [hws w hw] at this
    cases this

/-- shape of a trimmed line against its tokens: both empty, or the line starts with the first
    character of the first token -/
theorem trimWs_shape (line : List Char) :
    (trimWs line = [] ∧ splitWs line = []) ∨
    (∃ c y t r, isWs c = false ∧ trimWs line = c :: y ∧ splitWs line = (c :: t) :: r) := by
  cases hd : line.dropWhile isWs with
  | nil =>
    left
    refine ⟨by unfold trimWs; rw [hd]; rfl, ?_⟩
    rw [← splitWs_dropWhile, hd]; rfl
  | cons c s =>
    right
    have hc : isWs c = false := dropWhile_head_not isWs line hd
    obtain ⟨ws, hws, hx⟩ := trimR_decomp (c :: s)
    obtain ⟨t, r, hsp⟩ := splitWs_head s hc
    have htrim : trimWs line = ((c :: s).reverse.dropWhile isWs).reverse := by
      unfold trimWs; rw [hd]
    cases hz : ((c :: s).reverse.dropWhile isWs).reverse with
    | nil =>
      rw [hz, List.nil_append] at hx
      have := hws c (by rw [← hx]; simp)
      rw [hc] at this; cases this
    | cons c' y =>
      rw [hz, List.cons_append] at hx
      injection hx with h1 _
      subst h1
      exact ⟨c, y, t, r, hc, by rw [htrim, hz], by rw [← splitWs_dropWhile, hd]; exact hsp⟩

theorem mem_trimWs_iff {x : Char} (hx : isWs x = false) (line : List Char) :
    x ∈ trimWs line ↔ x ∈ line := by
  have a := mem_splitWs (x := x) (trimWs line)
  have b := mem_splitWs (x := x) line
  rw [splitWs_trimWs] at a
  constructor
  · intro h; exact (b.mp (a.mpr ⟨h, hx⟩)).1
  · intro h; exact (a.mp (b.mpr ⟨h, hx⟩)).1

theorem splitWs_noWs (s : List Char) (h : ∀ c ∈ s, isWs c = false) :
    splitWs s = if s = [] then [] else [s] := by
  by_cases hs : s = []
  · subst hs; rfl
  · rw [if_neg hs]; exact splitWs_single ⟨hs, h⟩

/-- token / rest decomposition of a text starting with a non-blank -/
theorem tok_decomp (s : List Char) (hs : startsTok s = true) :
    ∃ tok rest, s = tok ++ rest ∧ TokChars tok ∧ startsTok rest = false := by
  refine ⟨s.takeWhile (fun c => !isWs c), s.dropWhile (fun c => !isWs c),
    (List.takeWhile_append_dropWhile).symm, ⟨?_, ?_⟩, ?_⟩
  · cases s with
    | nil => cases hs
    | cons c cs =>
      have : isWs c = false := by simpa [startsTok] using hs
      rw [List.takeWhile_cons]; simp [this]
  · intro c hc
    have := mem_takeWhile_sat _ _ hc
    simpa using this
  · cases hd : s.dropWhile (fun c => !isWs c) with
    | nil => rfl
    | cons a r =>
      have := dropWhile_head_not _ s hd
      simp only [Bool.not_eq_false'] at this
      simp [startsTok, this]

theorem trimWs_single {line t : List Char} (h : splitWs line = [t]) : trimWs line = t := by
  rcases trimWs_shape line with ⟨_, h0⟩ | ⟨c, y, t', r, hc, hT, hW⟩
  · rw [h0] at h; cases h
  · have hst : startsTok (trimWs line) = true := by rw [hT]; simp [startsTok, hc]
    obtain ⟨tok, rest, hdec, htok, hrest⟩ := tok_decomp _ hst
    have hsp : splitWs (trimWs line) = tok :: splitWs rest := by
      rw [hdec]; exact splitWs_tok tok rest htok hrest
    rw [splitWs_trimWs, h] at hsp
    injection hsp with h1 h2
    have hrws := (splitWs_eq_nil_iff rest).mp h2.symm
    by_cases hr : rest = []
    · rw [hdec, hr, List.append_nil, h1]
    · exfalso
      unfold trimWs at hdec
      exact trimR_no_trailing _ tok rest hr hrws hdec

theorem trimWs_two {line a b : List Char} {r : List (List Char)} (h : splitWs line = a :: b :: r) :
    ∃ w ∈ trimWs line, isWs w = true := by
  apply Classical.byContradiction
  intro hn
  have hall : ∀ c ∈ trimWs line, isWs c = false := by
    intro c hc
    cases hw : isWs c with
    | false => rfl
    | true => exact absurd ⟨c, hc, hw⟩ hn
  have := splitWs_noWs _ hall
  rw [splitWs_trimWs, h] at this
  split at this <;> simp at this

theorem mem_dropWhile_of_not {α : Type} (p : α → Bool) {w : α} (hw : p w = false) :
    ∀ (s : List α), w ∈ s → w ∈ s.dropWhile p
  | [], h => by cases h
  | b :: s, h => by
    rw [List.dropWhile_cons]
    by_cases hb : p b = true
    · simp only [hb, if_true]
      simp only [List.mem_cons] at h
      rcases h with rfl | h
      · rw [hw] at hb; cases hb
      · exact mem_dropWhile_of_not p hw s h
    · simp only [hb]; exact h

theorem isBracket_of_isWs {w : Char} (h : isWs w = true) : isBracket w = false := by
  unfold isBracket
  by_cases h1 : w = '['
  · subst h1; revert h; decide
  · by_cases h2 : w = ']'
    · subst h2; revert h; decide
    · simp [h1, h2]

theorem mem_trimBrackets_of_ws {w : Char} {s : List Char} (hw : isWs w = true) (h : w ∈ s) :
    w ∈ trimBrackets s := by
  unfold trimBrackets
  have hb := isBracket_of_isWs hw
  apply List.mem_reverse.mpr
  apply mem_dropWhile_of_not _ hb
  apply List.mem_reverse.mpr
  exact mem_dropWhile_of_not _ hb _ h

theorem toLower_of_isWs {w : Char} (h : isWs w = true) : Char.toLower w = w := by
  unfold Char.toLower
  split
  · rename_i hc
    exfalso
    have h1 : 65 ≤ w.toNat ∧ w.toNat ≤ 90 := by
      obtain ⟨a, b⟩ := hc
      simp only [ge_iff_le, UInt32.le_iff_toNat_le] at a b
      exact ⟨by simpa using a, by simpa using b⟩
    unfold isWs at h
    simp only [Bool.or_eq_true, Bool.and_eq_true, decide_eq_true_eq] at h
    omega
  · rfl

theorem secOfName_of_ws {l : List Char} {w : Char} (hw : isWs w = true) (h : w ∈ l) :
    secOfName (String.ofList l) = none := by
  have key : ∀ s : String, (∀ c ∈ s.toList, isWs c = false) → String.ofList l ≠ s := by
    intro s hs e
    have : l = s.toList := by rw [← e, String.toList_ofList]
    rw [this] at h
    rw [hs w h] at hw; cases hw
  unfold secOfName
  rw [if_neg (key "meta" (by decide)), if_neg (key "betas" (by decide)),
    if_neg (key "unused" (by decide)), if_neg (key "vertices" (by decide))]

/-- the section name computed on the trimmed characters and on the tokens designate the same
    section (the names differ only by the blanks between tokens, and then neither is a section) -/
theorem secOfName_line (line : List Char) :
    secOfName (String.ofList ((trimBrackets (trimWs line)).map Char.toLower)) =
      secOfName (sectionName (lineToks line)) := by
  have hj : (" ".intercalate (lineToks line)).toList = [' '].intercalate (splitWs line) := by
    rw [String.toList_intercalate]
    unfold lineToks
    rw [List.map_map]
    have : (String.toList ∘ String.ofList) = (id : List Char → List Char) := by
      funext t; simp
    rw [this, List.map_id]
    rfl
  unfold sectionName
  rw [hj]
  match hW : splitWs line with
  | [] =>
    rcases trimWs_shape line with ⟨hT, _⟩ | ⟨c, y, t, r, _, _, hW'⟩
    · rw [hT]; rfl
    · rw [hW] at hW'; cases hW'
  | [t] =>
    rw [trimWs_single hW]
    simp [List.intercalate]
  | a :: b :: r =>
    obtain ⟨w, hw, hws⟩ := trimWs_two hW
    have h1 : w ∈ (trimBrackets (trimWs line)).map Char.toLower := by
      rw [List.mem_map]
      exact ⟨w, mem_trimBrackets_of_ws hws hw, toLower_of_isWs hws⟩
    have h2 : ' ' ∈ (trimBrackets ([' '].intercalate (a :: b :: r))).map Char.toLower := by
      rw [List.mem_map]
      refine ⟨' ', mem_trimBrackets_of_ws isWs_space ?_, toLower_of_isWs isWs_space⟩
      simp [List.intercalate]
    rw [secOfName_of_ws hws h1, secOfName_of_ws isWs_space h2]

/-! ### comment stripping -/

def isHash (c : Char) : Bool := decide (c = '#')

/-- `stripComment` on character tokens -/
def stripC : List (List Char) → List (List Char)
  | [] => []
  | t :: ts =>
    if t.contains '#' then
      (if (splitAt1 (· = '#') t).1.isEmpty then [] else [(splitAt1 (· = '#') t).1])
    else t :: stripC ts

theorem splitAt1_append_left {p : Char → Bool} : ∀ (a b : List Char), (∀ c ∈ a, p c = false) →
    (splitAt1 p (a ++ b)).1 = a ++ (splitAt1 p b).1
  | [], _, _ => rfl
  | c :: a, b, h => by
    simp only [List.cons_append, splitAt1, h c (by simp)]
    rw [← splitAt1_append_left a b (fun d hd => h d (by simp [hd]))]
    simp

theorem hash_not_ws {c : Char} (h : isWs c = true) : decide (c = '#') = false := by
  by_cases e : c = '#'
  · subst e; revert h; decide
  · simp [e]

theorem startsTok_false_iff (s : List Char) :
    startsTok s = false ↔ s = [] ∨ ∃ w r, s = w :: r ∧ isWs w = true := by
  cases s with
  | nil => simp [startsTok]
  | cons c r => simp [startsTok]

theorem ws_decomp (s : List Char) : ∃ pre s', s = pre ++ s' ∧ (∀ c ∈ pre, isWs c = true) ∧
    (s' = [] ∨ startsTok s' = true) := by
  refine ⟨s.takeWhile isWs, s.dropWhile isWs, (List.takeWhile_append_dropWhile).symm,
    fun c hc => mem_takeWhile_sat _ _ hc, ?_⟩
  cases hd : s.dropWhile isWs with
  | nil => exact .inl rfl
  | cons c r =>
    right
    have := dropWhile_head_not isWs s hd
    simp [startsTok, this]

/-- first `#` of a token -/
theorem hash_decomp (tok : List Char) (h : '#' ∈ tok) :
    ∃ p q, tok = p ++ '#' :: q ∧ ∀ c ∈ p, decide (c = '#') = false := by
  have hdt : tok = tok.takeWhile (fun c => !decide (c = '#')) ++ tok.dropWhile (fun c => !decide (c = '#')) :=
    (List.takeWhile_append_dropWhile).symm
  have hp : ∀ c ∈ tok.takeWhile (fun c => !decide (c = '#')), decide (c = '#') = false := by
    intro c hc
    have := mem_takeWhile_sat _ _ hc
    simpa using this
  cases hq : tok.dropWhile (fun c => !decide (c = '#')) with
  | nil =>
    exfalso
    rw [hq, List.append_nil] at hdt
    have := hp '#' (by rw [← hdt]; exact h)
    simp at this
  | cons x q =>
    have hx : x = '#' := by
      have := dropWhile_head_not _ tok hq
      simpa using this
    subst hx
    exact ⟨_, q, by rw [← hq]; exact hdt, hp⟩

theorem splitWs_prefix_aux : ∀ (n : Nat) (s : List Char), s.length ≤ n →
    splitWs (splitAt1 (· = '#') s).1 = stripC (splitWs s) := by
  intro n
  induction n with
  | zero =>
    intro s hs
    have : s = [] := List.length_eq_zero_iff.mp (by omega)
    subst this; rfl
  | succ n ih =>
    intro s hs
    obtain ⟨pre, s', rfl, hpre, hs'⟩ := ws_decomp s
    have hpreH : ∀ c ∈ pre, decide (c = '#') = false := fun c hc => hash_not_ws (hpre c hc)
    rcases hs' with rfl | hst
    · -- only blanks
      rw [List.append_nil]
      have h1 : splitWs pre = [] := (splitWs_eq_nil_iff pre).mpr hpre
      have h2 : (splitAt1 (· = '#') pre).1 = pre := by rw [splitAt1_none pre hpreH]
      rw [h1, h2, h1]; rfl
    · obtain ⟨tok, rest, rfl, htok, hrest⟩ := tok_decomp s' hst
      have hW : splitWs (pre ++ (tok ++ rest)) = tok :: splitWs rest := by
        rw [splitWs_ws_append _ _ hpre]; exact splitWs_tok tok rest htok hrest
      have hlen : rest.length ≤ n := by
        have h2 : 0 < tok.length := List.length_pos_iff.mpr htok.ne
        simp only [List.length_append] at hs
        omega
      rw [hW]
      by_cases hh : tok.contains '#' = true
      · -- the comment starts inside this token
        obtain ⟨p, q, rfl, hp⟩ := hash_decomp tok (List.contains_iff_mem.mp hh)
        have hpt : (splitAt1 (· = '#') (p ++ '#' :: q)).1 = p := by
          rw [splitAt1_append (by decide) p q hp]
        have hsp : (splitAt1 (· = '#') (pre ++ ((p ++ '#' :: q) ++ rest))).1 = pre ++ p := by
          have : pre ++ ((p ++ '#' :: q) ++ rest) = (pre ++ p) ++ '#' :: (q ++ rest) := by simp
          rw [this, splitAt1_append (by decide) _ _ (by
            intro c hc
            simp only [List.mem_append] at hc
            rcases hc with h | h
            · exact hpreH c h
            · exact hp c h)]
        have hpnw : ∀ c ∈ p, isWs c = false := by
          intro c hc
          exact htok.noWs c (by simp [hc])
        rw [hsp, splitWs_ws_append _ _ hpre, splitWs_noWs p hpnw]
        show _ = (if (p ++ '#' :: q).contains '#' = true then _ else _)
        rw [if_pos hh, hpt]
        cases p with
        | nil => simp
        | cons a b => simp
      · -- no comment in this token
        have hnh : ∀ c ∈ tok, decide (c = '#') = false := by
          intro c hc
          by_cases e : c = '#'
          · subst e; exact absurd (List.contains_iff_mem.mpr hc) hh
          · simp [e]
        have hsp : (splitAt1 (· = '#') (pre ++ (tok ++ rest))).1 =
            pre ++ (tok ++ (splitAt1 (· = '#') rest).1) := by
          rw [splitAt1_append_left _ _ hpreH, splitAt1_append_left _ _ hnh]
        have hst' : startsTok (splitAt1 (· = '#') rest).1 = false := by
          rcases (startsTok_false_iff rest).mp hrest with h | ⟨w, r, h, hw⟩
          · rw [h]; rfl
          · rw [h]
            have : decide (w = '#') = false := hash_not_ws hw
            simp only [splitAt1, this]
            simp [startsTok, hw]
        rw [hsp, splitWs_ws_append _ _ hpre, splitWs_tok tok _ htok hst', ih rest hlen]
        show _ = (if tok.contains '#' = true then _ else _)
        rw [if_neg hh]

theorem splitWs_prefix (s : List Char) :
    splitWs (splitAt1 (· = '#') s).1 = stripC (splitWs s) :=
  splitWs_prefix_aux s.length s (Nat.le_refl _)

/-- the token-level `stripComment` is `stripC` on the characters of the tokens -/
theorem stripComment_map : ∀ (W : List (List Char)),
    stripComment (W.map String.ofList) = (stripC W).map String.ofList
  | [] => rfl
  | t :: W => by
    rw [List.map_cons]
    unfold stripComment stripC
    simp only [String.toList_ofList]
    by_cases hh : t.contains '#' = true
    · simp only [hh, if_true]
      cases hp : (splitAt1 (fun x => decide (x = '#')) t).1 with
      | nil => simp
      | cons a b => simp
    · simp only [hh, Bool.false_eq_true, if_false]
      rw [List.map_cons, stripComment_map W]

/-! ### one line, all lines, the file -/

/-- the token-level section map of a character-level one -/
def toSecs (sc : SecsC) : Secs :=
  { smeta := (sc .smeta).map (·.map lineToks), sbetas := (sc .sbetas).map (·.map lineToks),
    sunused := (sc .sunused).map (·.map lineToks), sverts := (sc .sverts).map (·.map lineToks) }

theorem toSecs_sel (sc : SecsC) (k : Sec) : (toSecs sc).sel k = (sc k).map (·.map lineToks) := by
  cases k <;> rfl

theorem toSecs_put (sc : SecsC) (k : Sec) (v : List (List Char)) :
    toSecs (sc.put k v) = (toSecs sc).put k (v.map lineToks) := by
  cases k <;> simp [toSecs, SecsC.put, Secs.put]

theorem contains_trimWs_eq_any {x : Char} (hx : isWs x = false) (line : List Char) :
    (trimWs line).contains x = (lineToks line).any (fun t => t.toList.contains x) := by
  rw [Bool.eq_iff_iff]
  simp only [List.contains_iff_mem, List.any_eq_true]
  rw [mem_trimWs_iff hx]
  constructor
  · intro h
    obtain ⟨t, ht, hxt⟩ := (mem_splitWs line).mpr ⟨h, hx⟩
    exact ⟨String.ofList t, List.mem_map.mpr ⟨t, ht, rfl⟩, by simpa using hxt⟩
  · rintro ⟨s, hs, hxs⟩
    obtain ⟨t, ht, rfl⟩ := List.mem_map.mp hs
    exact ((mem_splitWs line).mp ⟨t, ht, by simpa using hxs⟩).1

theorem isEmpty_trimWs_iff (s : List Char) : (trimWs s).isEmpty = (splitWs s).isEmpty := by
  rcases trimWs_shape s with ⟨a, b⟩ | ⟨c, y, t, r, _, a, b⟩
  · rw [a, b]; rfl
  · rw [a, b]; rfl

/-- the content of a regular line -/
theorem lineToks_content (line : List Char) :
    lineToks (trimWs (splitAt1 (· = '#') (trimWs line)).1) = stripComment (lineToks line) := by
  unfold lineToks
  rw [splitWs_trimWs, splitWs_prefix, splitWs_trimWs, stripComment_map]

def liftSt (p : SecsC × Option Sec) : Secs × Option Sec := (toSecs p.1, p.2)

def mapOk {α β : Type} (f : α → β) : Except Err α → Except Err β
  | .ok a => .ok (f a)
  | .error e => .error e

theorem getD_map_lineToks_append (o : Option (List (List Char))) (c : List Char) :
    (o.map (·.map lineToks)).getD [] ++ [lineToks c] = (o.getD [] ++ [c]).map lineToks := by
  cases o <;> simp

/-- one iteration of the reading loop: characters and tokens agree -/
theorem stepLine_lineToks (sc : SecsC) (cur : Option Sec) (line : List Char) :
    stepLine (toSecs sc, cur) (lineToks line) = mapOk liftSt (stepLineC (sc, cur) line) := by
  rcases trimWs_shape line with ⟨hT, hW⟩ | ⟨c, y, t, r, hc, hT, hW⟩
  · have hl : lineToks line = [] := by unfold lineToks; rw [hW]; rfl
    unfold stepLineC
    rw [hl, hT]
    rfl
  · have hl : lineToks line = String.ofList (c :: t) :: r.map String.ofList := by
      unfold lineToks; rw [hW]; rfl
    have hbr : (trimWs line).contains ']' = (lineToks line).any (fun t => t.toList.contains ']') :=
      contains_trimWs_eq_any (by decide) line
    have hname := secOfName_line line
    have hcont := lineToks_content line
    have hemp : (trimWs (splitAt1 (· = '#') (trimWs line)).1).isEmpty =
        (stripComment (lineToks line)).isEmpty := by
      rw [← hcont]
      unfold lineToks
      rw [isEmpty_trimWs_iff, splitWs_trimWs]
      cases splitWs (splitAt1 (fun x => decide (x = '#')) (trimWs line)).1 <;> rfl
    unfold stepLineC stepLine
    simp only
    rw [← hname, ← hemp, ← hcont]
    rw [hl] at hbr ⊢
    simp only [isHeader, ← hbr, String.toList_ofList, List.head?_cons]
    rw [hT]
    simp only [List.isEmpty_cons, Bool.false_or, List.head?_cons, Option.some.injEq, decide_eq_true_eq]
    by_cases h1 : c = '#'
    · simp [h1, mapOk, liftSt]
    · simp only [h1, if_false]
      by_cases h2 : (c = '[' ∧ (c :: y).contains ']' = true)
      · have h2' : (decide (c = '[') && (c :: y).contains ']') = true := by
          rw [Bool.and_eq_true]; exact ⟨decide_eq_true h2.1, h2.2⟩
        simp only [h2', if_true]
        cases secOfName (String.ofList ((trimBrackets (c :: y)).map Char.toLower)) with
        | none => rfl
        | some s =>
          simp only [toSecs_sel, Option.isSome_map]
          by_cases h3 : (sc s).isSome = true
          · simp [h3, mapOk]
          · simp only [h3, Bool.false_eq_true, if_false, mapOk, liftSt, toSecs_put]
            rfl
      · have h2' : (decide (c = '[') && (c :: y).contains ']') = false := by
          rw [Bool.eq_false_iff]
          intro h
          simp only [Bool.and_eq_true, decide_eq_true_eq] at h
          exact h2 h
        simp only [h2', Bool.false_eq_true, if_false]
        cases cur with
        | none => rfl
        | some s =>
          simp only
          by_cases h3 : (trimWs (splitAt1 (fun x => decide (x = '#')) (c :: y)).1).isEmpty = true
          · simp [h3, mapOk, liftSt]
          · simp only [h3, Bool.false_eq_true, if_false, mapOk, liftSt, toSecs_put, toSecs_sel]
            rw [getD_map_lineToks_append]

theorem parseLines_tokenise : ∀ (ls : List (List Char)) (sc : SecsC) (cur : Option Sec),
    parseLines (ls.map lineToks) (toSecs sc, cur) = mapOk toSecs (parseLinesC ls (sc, cur))
  | [], _, _ => rfl
  | l :: ls, sc, cur => by
    rw [List.map_cons, parseLines, parseLinesC, stepLine_lineToks]
    cases stepLineC (sc, cur) l with
    | error e => rfl
    | ok st' =>
      simp only [mapOk, liftSt]
      exact parseLines_tokenise ls st'.1 st'.2

/-- **the character-level section parser is the token-level one after tokenisation** -/
theorem parseFileC_eq (cs : List Char) : parseFileC cs = parseFile (tokenise cs) := by
  unfold parseFileC parseFile tokenise
  have h0 : (({} : Secs), (none : Option Sec)) = (toSecs (fun _ => none), none) := rfl
  rw [h0, parseLines_tokenise]
  cases parseLinesC (linesOf cs) (fun _ => none, none) with
  | error e => rfl
  | ok secs =>
    simp only [mapOk, toSecs]
    cases secs .smeta with
    | none => rfl
    | some mt =>
      simp only [Option.map_some]
      cases secs .sbetas with
      | none => rfl
      | some bs =>
        simp only [Option.map_some]
        cases parseMeta (mt.map lineToks) with
        | error e => rfl
        | ok v => rfl

theorem loadChars_eq (ns : Nat) (cs : List Char) : loadChars ns cs = load ns (tokenise cs) := by
  unfold loadChars load
  rw [parseFileC_eq]
  cases parseFile (tokenise cs) <;> rfl

end CmapText
end HC

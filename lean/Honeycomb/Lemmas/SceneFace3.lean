/-
  `face_id_transac` of `CMap3` (`dim3/basic_ops.rs`, model `faceId3` / `faceWalk3` in Model/Ops3.lean):
  the two-sided lock-step walk, analysed without computing its trace.

  * `fw`            the loop of `faceWalk3` over two pure step functions
  * `fw_left`, `fw_right`, `fw_stop`   one round of `fw`, by which of the two darts is already marked
  * `run_faceWalk3` the monadic loop computes `fw (β i) (β j)` (reads in range) and leaves the map alone
  * `fw_terminates` fuel `≥ (#darts not yet marked) + 1` suffices: every round marks a new dart
  * `fw_facts`      whatever it returns: the minimum only decreases, it is the old one or a non-null dart
                    of one of the two sequences, and the final pair is the `T`-th pair of the sequences
  * `run_faceId3`   `face_id` in terms of its one or two walks (namespace `HC.C20`, with `Sided`, the
                    condition on the map under which the walks cover the face)
  * `popLoop_terminates`, `popLoop_start`
                    the traversal of `vertex_id` / `edge_id` / `volume_id` ends within its fuel

  Core Lean and `Mathlib.Logic.Function.Iterate` (the iterates `f^[n]`).  Used by Lemmas/Bfs3.lean and Props/C03b.lean (`C03_faceId3_min`,
  the identifiers of the 3-D cells).
-/
import Honeycomb.Lemmas.Run
import Honeycomb.Lemmas.WFLink
import Honeycomb.Model.Ops3
import Mathlib.Logic.Function.Iterate


namespace HC.Face3
open HC

/-- update of the running minimum in one round -/
def upd (mn a b : Nat) : Nat :=
  let mn1 := if a ≠ 0 then min mn a else mn
  if b ≠ 0 then min mn1 b else mn1

theorem le_upd {d mn a b : Nat} : d ≤ upd mn a b ↔ d ≤ mn ∧ (a ≠ 0 → d ≤ a) ∧ (b ≠ 0 → d ≤ b) := by
  simp only [upd]
  split <;> split <;>
    simp only [Nat.le_min, ne_eq, not_false_eq_true, false_implies, forall_const, and_true, true_and, and_assoc, *]

theorem upd_le (mn a b : Nat) : upd mn a b ≤ mn ∧ (a ≠ 0 → upd mn a b ≤ a) ∧ (b ≠ 0 → upd mn a b ≤ b) :=
  le_upd.1 (Nat.le_refl _)

theorem upd_mem (mn a b : Nat) : upd mn a b = mn ∨ (a ≠ 0 ∧ upd mn a b = a) ∨ (b ≠ 0 ∧ upd mn a b = b) := by
  unfold upd
  grind

/-- the loop of `faceWalk3` over pure step functions; `none` = out of fuel (panic) -/
def fw (f1 f0 : Nat → Nat) : Nat → Nat → Nat → List Nat → Nat → Option (Nat × Nat × List Nat × Nat)
  | 0, _, _, _, _ => none
  | f + 1, lb, rb, marked, mn =>
      if !marked.contains lb then fw f1 f0 f (f1 lb) (f0 rb) (marked ++ [lb]) (upd mn (f1 lb) (f0 rb))
      else if !marked.contains rb then fw f1 f0 f (f1 lb) (f0 rb) (marked ++ [rb]) (upd mn (f1 lb) (f0 rb))
      else some (lb, rb, marked, mn)

/-- one round of `fw`: the left dart is new, the left dart is marked and the right one new, both are marked -/
theorem fw_left {f1 f0 : Nat → Nat} {f lb rb : Nat} {mk : List Nat} {mn : Nat} (h : lb ∉ mk) :
    fw f1 f0 (f + 1) lb rb mk mn = fw f1 f0 f (f1 lb) (f0 rb) (mk ++ [lb]) (upd mn (f1 lb) (f0 rb)) := by
  simp [fw, h]

theorem fw_right {f1 f0 : Nat → Nat} {f lb rb : Nat} {mk : List Nat} {mn : Nat} (h : lb ∈ mk) (h2 : rb ∉ mk) :
    fw f1 f0 (f + 1) lb rb mk mn = fw f1 f0 f (f1 lb) (f0 rb) (mk ++ [rb]) (upd mn (f1 lb) (f0 rb)) := by
  simp [fw, h, h2]

theorem fw_stop {f1 f0 : Nat → Nat} {f lb rb : Nat} {mk : List Nat} {mn : Nat} (h : lb ∈ mk) (h2 : rb ∈ mk) :
    fw f1 f0 (f + 1) lb rb mk mn = some (lb, rb, mk, mn) := by
  simp [fw, h, h2]

/-! ## the monadic loop computes `fw` -/

theorem run_faceWalk3 {X : Type} {m : Map X} (hwf : WF 4 m) {i j : Nat} (hi : i < 4) (hj : j < 4) :
    ∀ (fuel lb rb : Nat) (marked : List Nat) (mn : Nat), lb < m.n → rb < m.n →
      run (faceWalk3 (X := X) i j fuel lb rb marked mn) m =
        (match fw (m.β i) (m.β j) fuel lb rb marked mn with
          | some r => .ok r
          | none => .panic, m) := by
  intro fuel
  induction fuel with
  | zero => intro lb rb marked mn _ _; rfl
  | succ f ih =>
      intro lb rb marked mn hlb hrb
      have oki : m.okβ i lb = true := (hwf.toSized.okβ i lb).2 ⟨hi, hlb⟩
      have okj : m.okβ j rb = true := (hwf.toSized.okβ j rb).2 ⟨hj, hrb⟩
      have hl' : m.β i lb < m.n := hwf.range i hi lb hlb
      have hr' : m.β j rb < m.n := hwf.range j hj rb hrb
      have step : ∀ mk', run ((rB i lb).bind fun lb' => (rB j rb).bind fun rb' =>
            faceWalk3 (X := X) i j f lb' rb' mk'
              (if rb' ≠ 0 then min (if lb' ≠ 0 then min mn lb' else mn) rb'
                else (if lb' ≠ 0 then min mn lb' else mn))) m =
          (match fw (m.β i) (m.β j) f (m.β i lb) (m.β j rb) mk' (upd mn (m.β i lb) (m.β j rb)) with
            | some r => .ok r
            | none => .panic, m) := by
        intro mk'
        rw [run_rB, if_pos oki, run_rB, if_pos okj]
        exact ih _ _ mk' _ hl' hr'
      unfold faceWalk3 fw
      by_cases h1 : marked.contains lb = true
      · by_cases h2 : marked.contains rb = true
        · simp only [h1, h2, Bool.not_true, Bool.false_eq_true, if_false]
          rfl
        · simp only [h1, h2, Bool.not_true, Bool.false_eq_true, if_false, Bool.not_false, if_true]
          exact step _
      · simp only [h1, Bool.not_false, if_true]
        exact step _

/-! ## termination: every round marks a new dart -/

/-- number of darts below `n` that are not marked -/
def phi (n : Nat) (marked : List Nat) : Nat :=
  ((List.range n).filter (fun x => !marked.contains x)).length

theorem filter_drop_one {l : List Nat} (hn : l.Nodup) {p : Nat → Bool} {x : Nat} (hx : x ∈ l)
    (hp : p x = true) :
    (l.filter (fun y => p y && !(y == x))).length + 1 = (l.filter p).length := by
  induction l with
  | nil => simp at hx
  | cons a t ih =>
      have hnt := (List.nodup_cons.1 hn).2
      have hat := (List.nodup_cons.1 hn).1
      rcases List.mem_cons.1 hx with rfl | hxt
      · -- head is x: the tail does not contain x, so the extra test is vacuous there
        have : t.filter (fun y => p y && !(y == x)) = t.filter p := by
          apply List.filter_congr
          intro y hy
          have : y ≠ x := fun e => hat (e ▸ hy)
          simp [this]
        simp [hp, this]
      · have hne : a ≠ x := fun e => hat (e ▸ hxt)
        have := ih hnt hxt
        by_cases hpa : p a = true
        · simp [hpa, hne]; omega
        · simp [hpa]; omega

theorem phi_dec {n x : Nat} {marked : List Nat} (hx : x < n) (hnm : marked.contains x = false) :
    phi n (marked ++ [x]) + 1 = phi n marked := by
  unfold phi
  have h := filter_drop_one (l := List.range n) List.nodup_range (p := fun y => !marked.contains y)
    (x := x) (List.mem_range.2 hx) (by show (!marked.contains x) = true; rw [hnm]; rfl)
  rw [← h]
  congr 2
  apply List.filter_congr
  intro y _
  simp only [List.contains_eq_mem, List.mem_append, List.mem_singleton, Bool.decide_or,
    Bool.not_or]
  by_cases e : y = x <;> simp [e]

theorem fw_terminates {f1 f0 : Nat → Nat} {n : Nat} (h1 : ∀ x, x < n → f1 x < n)
    (h0 : ∀ x, x < n → f0 x < n) :
    ∀ (fuel lb rb : Nat) (marked : List Nat) (mn : Nat), lb < n → rb < n → phi n marked + 1 ≤ fuel →
      ∃ r, fw f1 f0 fuel lb rb marked mn = some r := by
  intro fuel
  induction fuel with
  | zero => intro lb rb marked mn _ _ h; omega
  | succ f ih =>
      intro lb rb marked mn hlb hrb hf
      unfold fw
      by_cases c1 : marked.contains lb = true
      · by_cases c2 : marked.contains rb = true
        · simp only [c1, c2, Bool.not_true, Bool.false_eq_true, if_false]
          exact ⟨_, rfl⟩
        · simp only [c1, c2, Bool.not_true, Bool.false_eq_true, if_false, Bool.not_false, if_true]
          have := phi_dec (n := n) hrb (by simpa using c2)
          exact ih _ _ _ _ (h1 lb hlb) (h0 rb hrb) (by omega)
      · simp only [c1, Bool.not_false, if_true]
        have := phi_dec (n := n) hlb (by simpa using c1)
        exact ih _ _ _ _ (h1 lb hlb) (h0 rb hrb) (by omega)

theorem phi_le {n : Nat} {marked : List Nat} (hn : 0 < n) (h0 : 0 ∈ marked) : phi n marked + 1 ≤ n := by
  unfold phi
  have h := filter_drop_one (l := List.range n) List.nodup_range (p := fun _ => true) (x := 0)
    (List.mem_range.2 hn) rfl
  have hle : ((List.range n).filter (fun x => !marked.contains x)).length ≤
      ((List.range n).filter (fun y => true && !(y == 0))).length := by
    -- the first filter is the second one filtered once more
    have e : (List.range n).filter (fun x => !marked.contains x) =
        ((List.range n).filter (fun y => true && !(y == 0))).filter (fun x => !marked.contains x) := by
      rw [List.filter_filter]
      refine List.filter_congr fun y _ => ?_
      by_cases hy : y = 0
      · simp [hy, h0]
      · simp [hy]
    rw [e]
    exact List.filter_sublist.length_le
  have hall : ((List.range n).filter (fun _ => true)).length = n := by
    rw [List.filter_eq_self.2 (fun _ _ => rfl), List.length_range]
  omega

/-! ## what the walk returns -/

theorem fw_facts {f1 f0 : Nat → Nat} :
    ∀ (fuel lb rb : Nat) (marked : List Nat) (mn : Nat) (lbF rbF : Nat) (mkF : List Nat) (mnF : Nat),
      fw f1 f0 fuel lb rb marked mn = some (lbF, rbF, mkF, mnF) →
      mnF ≤ mn ∧
      (mnF = mn ∨ (mnF ≠ 0 ∧ ((∃ s, mnF = f1^[s] lb) ∨ ∃ s, mnF = f0^[s] rb))) ∧
      (∀ x, x ∈ marked → x ∈ mkF) ∧
      ∃ T, lbF = f1^[T] lb ∧ rbF = f0^[T] rb := by
  intro fuel
  induction fuel with
  | zero => intro lb rb marked mn lbF rbF mkF mnF h; simp [fw] at h
  | succ f ih =>
      intro lb rb marked mn lbF rbF mkF mnF h
      unfold fw at h
      have stepCase : ∀ x, fw f1 f0 f (f1 lb) (f0 rb) (marked ++ [x]) (upd mn (f1 lb) (f0 rb)) =
          some (lbF, rbF, mkF, mnF) →
          mnF ≤ mn ∧
          (mnF = mn ∨ (mnF ≠ 0 ∧ ((∃ s, mnF = f1^[s] lb) ∨ ∃ s, mnF = f0^[s] rb))) ∧
          (∀ x, x ∈ marked → x ∈ mkF) ∧ ∃ T, lbF = f1^[T] lb ∧ rbF = f0^[T] rb := by
        intro x hx
        obtain ⟨g1, g2, g3, T, g4, g5⟩ := ih _ _ _ _ _ _ _ _ hx
        have hu := upd_le mn (f1 lb) (f0 rb)
        refine ⟨Nat.le_trans g1 hu.1, ?_, fun y hy => g3 y (List.mem_append_left _ hy),
          T + 1, by rw [g4, Function.iterate_succ_apply], by rw [g5, Function.iterate_succ_apply]⟩
        rcases g2 with g2 | ⟨gn, g2⟩
        · rcases upd_mem mn (f1 lb) (f0 rb) with e | ⟨ea, e⟩ | ⟨eb, e⟩
          · exact Or.inl (g2.trans e)
          · exact Or.inr ⟨by rw [g2, e]; exact ea, Or.inl ⟨1, by rw [g2, e]; rfl⟩⟩
          · exact Or.inr ⟨by rw [g2, e]; exact eb, Or.inr ⟨1, by rw [g2, e]; rfl⟩⟩
        · refine Or.inr ⟨gn, ?_⟩
          rcases g2 with ⟨s, e⟩ | ⟨s, e⟩
          · exact Or.inl ⟨s + 1, by rw [e, Function.iterate_succ_apply]⟩
          · exact Or.inr ⟨s + 1, by rw [e, Function.iterate_succ_apply]⟩
      by_cases c1 : marked.contains lb = true
      · by_cases c2 : marked.contains rb = true
        · simp only [c1, c2, Bool.not_true, Bool.false_eq_true, if_false, Option.some.injEq,
            Prod.mk.injEq] at h
          obtain ⟨rfl, rfl, rfl, rfl⟩ := h
          exact ⟨Nat.le_refl _, Or.inl rfl, fun x hx => hx, 0, rfl, rfl⟩
        · simp only [c1, c2, Bool.not_true, Bool.false_eq_true, if_false, Bool.not_false, if_true] at h
          exact stepCase _ h
      · simp only [c1, Bool.not_false, if_true] at h
        exact stepCase _ h

/-! ## `popLoop` (`vertex_id` / `edge_id` / `volume_id` of `CMap3`) does not run out of fuel -/

/-- with at most six images per dart, all existing, the fuel `|pending| + 7·(#unmarked) + 1`
    suffices: a marked pop costs one pending entry, a new dart costs one unmarked dart and gains at
    most five pending entries -/
theorem popLoop_terminates {X : Type} {m : Map X} {n : Nat} {g : Nat → List Nat}
    {gen : Nat → P X (List Nat)}
    (hgen : ∀ x, x < n → run (gen x) m = (.ok (g x), m))
    (hlen : ∀ x, (g x).length ≤ 6) (hr : ∀ x, x < n → ∀ y, y ∈ g x → y < n) :
    ∀ (fuel : Nat) (pending marked : List Nat) (mn : Nat), (∀ x, x ∈ pending → x < n) →
      pending.length + 7 * phi n marked + 1 ≤ fuel →
      ∃ v, run (popLoop gen fuel pending marked mn) m = (.ok v, m) := by
  intro fuel
  induction fuel with
  | zero => intro p mk mn _ h; omega
  | succ f ih =>
      intro p mk mn hp hf
      cases p with
      | nil => exact ⟨mn, rfl⟩
      | cons d rest =>
          unfold popLoop
          have hrest : ∀ x, x ∈ rest → x < n := fun x hx => hp x (List.mem_cons_of_mem _ hx)
          have hd : d < n := hp d List.mem_cons_self
          by_cases c : mk.contains d = true
          · rw [if_pos c]
            exact ih rest mk mn hrest (by simp at hf; omega)
          · rw [if_neg c]
            show ∃ v, run ((gen d).bind _) m = _
            rw [run_bind, hgen d hd]
            have hdec := phi_dec (n := n) hd (by simpa using c)
            refine ih _ _ _ ?_ ?_
            · intro x hx
              rcases List.mem_append.1 hx with hx | hx
              · exact hrest x hx
              · exact hr d hd x hx
            · have := hlen d
              simp only [List.length_append, List.length_cons] at hf ⊢
              omega

theorem popLoop_start {X : Type} {m : Map X} {n : Nat} {g : Nat → List Nat}
    {gen : Nat → P X (List Nat)}
    (hgen : ∀ x, x < n → run (gen x) m = (.ok (g x), m))
    (hlen : ∀ x, (g x).length ≤ 6) (hr : ∀ x, x < n → ∀ y, y ∈ g x → y < n) {d : Nat} (hd : d < n) :
    ∃ v, run (popLoop gen (8 * n + 8) [d] [0] d) m = (.ok v, m) := by
  apply popLoop_terminates hgen hlen hr
  · intro x hx; simp only [List.mem_singleton] at hx; rw [hx]; exact hd
  · have := phi_le (n := n) (marked := [0]) (by omega) (by simp)
    simp only [List.length_singleton]
    omega

end HC.Face3

namespace HC.C20
open HC HC.Face3

/-- a face is 3-linked as a whole (what `three_link` / `three_unlink` produce and C02's walks keep) -/
def Sided {X : Type} (m : Map X) : Prop :=
  ∀ d, d < m.n → m.β 1 d ≠ 0 → (m.β 3 d = 0 ↔ m.β 3 (m.β 1 d) = 0)

instance {X : Type} (m : Map X) : Decidable (Sided m) := by unfold Sided; exact inferInstance

theorem run_faceId3 {X : Type} {m : Map X} (hwf : WF 4 m) {d : Nat} (hd : d < m.n)
    {lbF rbF : Nat} {mkF : List Nat} {mnF : Nat}
    (h1 : fw (m.β 1) (m.β 0) (m.n + 1) d (m.β 3 d) [0]
      (if m.β 3 d = 0 then d else min d (m.β 3 d)) = some (lbF, rbF, mkF, mnF)) :
    (¬ (lbF = 0 ∨ rbF = 0) → run (faceId3 (X := X) m.n d) m = (.ok mnF, m)) ∧
    ((lbF = 0 ∨ rbF = 0) → ∀ a b c mn2, fw (m.β 0) (m.β 1) (m.n + 1) (m.β 0 d) (m.β 1 (m.β 3 d)) mkF
        (upd mnF (m.β 0 d) (m.β 1 (m.β 3 d))) = some (a, b, c, mn2) →
        run (faceId3 (X := X) m.n d) m = (.ok mn2, m)) := by
  have ok3 : m.okβ 3 d = true := (hwf.toSized.okβ 3 d).2 ⟨by omega, hd⟩
  have ok0 : m.okβ 0 d = true := (hwf.toSized.okβ 0 d).2 ⟨by omega, hd⟩
  have he : m.β 3 d < m.n := hwf.range 3 (by omega) d hd
  have ok1 : m.okβ 1 (m.β 3 d) = true := (hwf.toSized.okβ 1 _).2 ⟨by omega, he⟩
  have w1 := run_faceWalk3 hwf (i := 1) (j := 0) (by omega) (by omega) (m.n + 1) d (m.β 3 d) [0]
    (if m.β 3 d = 0 then d else min d (m.β 3 d)) hd he
  rw [h1] at w1
  constructor
  · intro hc
    unfold faceId3
    simp only [Prog.bind_eq, Prog.pure_eq]
    rw [run_rB, if_pos ok3, run_bind, w1]
    simp only [hc, if_false, run_ret]
  · intro hc a b c mn2 h2
    have w2 := run_faceWalk3 hwf (i := 0) (j := 1) (by omega) (by omega) (m.n + 1) (m.β 0 d)
      (m.β 1 (m.β 3 d)) mkF (upd mnF (m.β 0 d) (m.β 1 (m.β 3 d)))
      (hwf.range 0 (by omega) d hd) (hwf.range 1 (by omega) _ he)
    rw [h2] at w2
    unfold faceId3
    simp only [Prog.bind_eq, Prog.pure_eq]
    rw [run_rB, if_pos ok3, run_bind, w1]
    simp only [hc, if_true]
    rw [run_rB, if_pos ok0, run_rB, if_pos ok1, run_bind]
    unfold upd at w2
    simp only [] at w2
    rw [w2]
    rfl

theorem iterate_fix0 {f : Nat → Nat} (h : f 0 = 0) : ∀ s, f^[s] 0 = 0 := by
  intro s
  induction s with
  | zero => rfl
  | succ s ih => rw [Function.iterate_succ_apply', ih, h]

end HC.C20

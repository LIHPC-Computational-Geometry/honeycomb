/-
  The split 2-D grid (`build_2d_splitgrid`) as the code computes its cells, for every size.

  `HC.GridVertexSplit` — vertices.  `pt nx d` is the lattice point at the origin of dart `d` (local darts 0..5 of
  cell (a,b) start at (a,b), (a+1,b), (a,b+1) | (a,b+1), (a+1,b), (a+1,b+1)).  Read off the β table:
  * `keep1`, `keep2`   the images examined by `vertex_id` keep the lattice point;
  * `down`             a dart that is not the canonical dart of its point has a smaller image;
  * `corner_inj`       the local darts singled out by `first` start at different corners of the cell
                       (`canon_unique`: canonical darts are determined by their lattice point).
  These make the grid an instance (`spec`) of the theory of `GridLattice.lean`, which gives `Spec.vid_spec`,
  `split2_att` and `iterVertices_length` as for the plain grid (`GridSquare.lean`).

  `HC.GridEdgeSplit` — edges (`edge_id`, `iter_edges`): a dart is an edge identifier iff it is the diagonal dart of
  the lower triangle, the right or top side of its cell, the left side of a cell of the first column, or the
  bottom side of a cell of the first row; `iter_edges` yields `3·nx·ny + nx + ny` identifiers.

  `HC.GridFaceSplit` — faces: `face_id` of a dart is the first dart of its triangle, `iter_faces` yields `2·nx·ny`
  identifiers (the `debug_assert_eq!` of `build_2d_splitgrid` holds).
-/
import Honeycomb.Lemmas.GridLattice
import Honeycomb.Lemmas.GridLink

namespace HC.GridVertexSplit
open HC HC.Gen

/-- the β part of `build_2d_splitgrid` -/
abbrev G2 (nx ny : Nat) : Map Val := gridMap 3 (trisK * nx * ny) (trisβ nx ny)

theorem G2_wf {nx ny : Nat} (hnx : 0 < nx) (hny : 0 < ny) : WF 3 (G2 nx ny) := by
  have h := absWF trisShape trisShape_ok (nz := 1) hnx hny
  rw [← trisMap_eq hnx hny] at h
  exact h

theorem G2_n (nx ny : Nat) : (G2 nx ny).n = 6 * nx * ny + 1 := rfl

section
variable {nx ny : Nat} {m : Map Val}

/-- local dart `k` of cell `(a, b)` -/
abbrev D (nx ny a b k : Nat) : Nat := dartOf 6 nx ny a b 0 k

theorem β1_D (st : SameTopo (G2 nx ny) m) {a b k : Nat} (ha : a < nx) (hb : b < ny) (hk : k < 6) :
    m.β 1 (D nx ny a b k) = D nx ny a b (3 * (k / 3) + (k + 1) % 3) := by
  rw [trisMap_β st ha hb hk (by decide : 1 < 3)]
  have k6 : k = 0 ∨ k = 1 ∨ k = 2 ∨ k = 3 ∨ k = 4 ∨ k = 5 := by omega
  rcases k6 with rfl | rfl | rfl | rfl | rfl | rfl <;> rfl

theorem β0_D (st : SameTopo (G2 nx ny) m) {a b k : Nat} (ha : a < nx) (hb : b < ny) (hk : k < 6) :
    m.β 0 (D nx ny a b k) = D nx ny a b (3 * (k / 3) + (k + 2) % 3) := by
  rw [trisMap_β st ha hb hk (by decide : 0 < 3)]
  have k6 : k = 0 ∨ k = 1 ∨ k = 2 ∨ k = 3 ∨ k = 4 ∨ k = 5 := by omega
  rcases k6 with rfl | rfl | rfl | rfl | rfl | rfl <;> rfl

/-! ## lattice points -/

def cdx : Nat → Nat
  | 1 => 1
  | 4 => 1
  | 5 => 1
  | _ => 0

def cdy : Nat → Nat
  | 2 => 1
  | 3 => 1
  | 5 => 1
  | _ => 0

/-- lattice point at the origin of dart `d`: `GridLattice.pt 6 cdx cdy nx d` written out -/
def pt (nx d : Nat) : Nat × Nat :=
  ((d - 1) / 6 % nx + cdx ((d - 1) % 6), (d - 1) / 6 / nx + cdy ((d - 1) % 6))

theorem pt_D {a b k : Nat} (ha : a < nx) (hk : k < 6) : pt nx (D nx ny a b k) = (a + cdx k, b + cdy k) :=
  GridLattice.pt_dartOf ha hk

def IsDart (nx ny d : Nat) : Prop := ∃ a b k, a < nx ∧ b < ny ∧ k < 6 ∧ d = D nx ny a b k

theorem isDart_of_range (hnx : 0 < nx) (hny : 0 < ny) {d : Nat} (h1 : 1 ≤ d) (h2 : d ≤ 6 * nx * ny) :
    IsDart nx ny d :=
  GridLattice.isDart_of_range (by decide) hnx hny h1 h2

/-- local darts 3 and 4 start where 2 and 1 do -/
def first (k : Nat) : Bool := k != 3 && k != 4

/-- canonical dart of a lattice point: the one `vertex_id` returns -/
def Canon (a b k : Nat) : Prop := GridLattice.Canon cdx cdy first a b k

theorem keep1 : ∀ k, k < trisShape.K → GridLattice.SameCorner (trisShape.at k 2).1
    (cdx (trisShape.at (trisShape.at k 2).2 1).2, cdy (trisShape.at (trisShape.at k 2).2 1).2)
    (cdx k, cdy k) := by decide

theorem keep2 : ∀ k, k < trisShape.K → GridLattice.SameCorner (trisShape.at (trisShape.at k 0).2 2).1
    (cdx (trisShape.at (trisShape.at k 0).2 2).2, cdy (trisShape.at (trisShape.at k 0).2 2).2)
    (cdx k, cdy k) := by decide

/-- one of `β1 ∘ β2`, `β2 ∘ β0` leads to a smaller dart: inside the cell from a dart that is not the first of
    its corner, else to the left neighbour from the left side, to the cell below from the bottom -/
theorem down : ∀ k, k < trisShape.K →
    (first k = false → (trisShape.at k 2).1 = 0 ∧ (trisShape.at (trisShape.at k 2).2 1).2 < k ∨
      (trisShape.at (trisShape.at k 0).2 2).1 = 0 ∧ (trisShape.at (trisShape.at k 0).2 2).2 < k) ∧
    (first k = true → (cdx k = 0 → (trisShape.at k 2).1 = 1 ∨ (trisShape.at (trisShape.at k 0).2 2).1 = 1) ∧
      (cdy k = 0 → (trisShape.at k 2).1 = 3 ∨ (trisShape.at (trisShape.at k 0).2 2).1 = 3)) := by decide

theorem corner_le (k : Nat) : cdx k ≤ 1 ∧ cdy k ≤ 1 := by
  unfold cdx cdy
  constructor <;> split <;> omega

theorem corner_inj : ∀ k, k < 6 → ∀ k', k' < 6 →
    first k = true ∧ first k' = true ∧ cdx k = cdx k' ∧ cdy k = cdy k' → k = k' := by decide

theorem canon_unique {a b k a' b' k' : Nat} (hk : k < 6) (hk' : k' < 6) (hc : Canon a b k)
    (hc' : Canon a' b' k') (hp : (a + cdx k, b + cdy k) = (a' + cdx k', b' + cdy k')) :
    a = a' ∧ b = b' ∧ k = k' :=
  GridLattice.canon_unique corner_le (fun k hk k' hk' f f' ex ey => corner_inj k hk k' hk' ⟨f, f', ex, ey⟩) hk hk' hc hc' hp

/-! ## `vertex_id` and placement: the generic theory of `GridLattice.lean` applies -/

theorem spec (hnx : 0 < nx) (hny : 0 < ny) : GridLattice.Spec 6 nx ny (trisβ nx ny) cdx cdy Canon where
  Kpos := by decide
  nxpos := hnx
  nypos := hny
  wf := G2_wf hnx hny
  corner := corner_le
  closed := fun st _ _ _ ha hb hk => GridLattice.closed_of_shape trisShape trisShape_ok
    ((G2_wf hnx hny).sameTopo st) (trisMap_β st) keep1 keep2 ha hb hk
  descent := fun st _ _ _ ha hb hk hc => GridLattice.descent_of_shape trisShape trisShape_ok
    (trisMap_β st) down ha hb hk hc
  canon_unique := canon_unique

end

/-- a block of `Gen.trisPlace` whose coordinate offsets are those of its local dart -/
def GoodBlk (blk : Nat × Nat × Nat × Nat × Nat) : Prop := GridLattice.GoodBlk 6 cdx cdy blk

instance (blk : Nat × Nat × Nat × Nat × Nat) : Decidable (GoodBlk blk) := by
  unfold GoodBlk; exact inferInstance

theorem trisPlace_good : ∀ blk, blk ∈ trisPlace → GoodBlk blk := by decide

section Place
variable (ox oy lx ly : Rat) {nx ny : Nat}

theorem trisPlace_blocks : ∀ dx, dx ≤ 1 → ∀ dy, dy ≤ 1 → ∃ blk, blk ∈ trisPlace ∧ blk.1 = 2 * dx + dy ∧
    blk.2.2.2.1 = dx ∧ blk.2.2.2.2 = dy := by decide

/-- every lattice point is the origin of a dart placed by one of the four blocks -/
theorem placement (hnx : 0 < nx) (hny : 0 < ny) : GridLattice.Placement 6 cdx cdy nx ny trisPlace :=
  .of_blocks hnx hny trisPlace_good trisPlace_blocks

theorem split2_att (hnx : 0 < nx) (hny : 0 < ny) {d : Nat} (hd : IsDart nx ny d) :
    (buildSplit2 ox oy nx ny lx ly).att 0 (vid2 (buildSplit2 ox oy nx ny lx ly) d) =
      some (GridLattice.coord ox oy lx ly (pt nx d)) :=
  (spec hnx hny).att ox oy lx ly (placement hnx hny) hd

theorem iterVertices_length {m : Map Val} (hnx : 0 < nx) (hny : 0 < ny) (st : SameTopo (G2 nx ny) m) :
    (iterVertices2 m).length = (nx + 1) * (ny + 1) :=
  (spec hnx hny).iterVertices_length (placement hnx hny) st

end Place

end HC.GridVertexSplit

namespace HC.GridEdgeSplit
open HC HC.Gen HC.GridVertexSplit HC.GridCount
open HC.GridEdge (eid2 eid2_eq)

variable {nx ny : Nat} {m : Map Val}

theorem eid_iff (hnx : 0 < nx) (hny : 0 < ny) (st : SameTopo (G2 nx ny) m) {a b k : Nat}
    (ha : a < nx) (hb : b < ny) (hk : k < 6) :
    eid2 m (D nx ny a b k) = D nx ny a b k ↔
      (k = 1 ∨ k = 4 ∨ k = 5 ∨ (k = 2 ∧ a = 0) ∨ (k = 0 ∧ b = 0)) := by
  have h : ∀ {k : Nat}, k < 6 → (trisShape.at k 2).1 ≤ 4 → _ := fun hk h4 =>
    GridEdge.eid_iff_of_shape trisShape trisShape_ok ((G2_wf hnx hny).sameTopo st) st.n
      (trisMap_β st) ha hb hk h4
  have k6 : k = 0 ∨ k = 1 ∨ k = 2 ∨ k = 3 ∨ k = 4 ∨ k = 5 := by omega
  rcases k6 with rfl | rfl | rfl | rfl | rfl | rfl
  · exact (h hk (by decide)).trans (by show b = 0 ↔ _; omega)
  · exact (h hk (by decide)).trans (by show 1 < 3 ↔ _; omega)
  · exact (h hk (by decide)).trans (by show a = 0 ↔ _; omega)
  · exact (h hk (by decide)).trans (by show 3 < 1 ↔ _; omega)
  · exact (h hk (by decide)).trans (iff_of_true trivial (Or.inr (Or.inl rfl)))
  · exact (h hk (by decide)).trans (iff_of_true trivial (Or.inr (Or.inr (Or.inl rfl))))

/-- `iter_edges` yields `3·nx·ny + ny + nx` identifiers: the diagonal, the right and the top side of every
    cell, the left sides of the first column, the bottom sides of the first row -/
theorem iterEdges_length (hnx : 0 < nx) (hny : 0 < ny) (st : SameTopo (G2 nx ny) m) :
    (iterEdges2 m).length = 3 * (nx * ny) + ny + nx := by
  have hn : m.n = 6 * (nx * ny) + 1 := by rw [st.n, G2_n, Nat.mul_assoc]
  unfold iterEdges2
  rw [iterCells_length_locals _ hn (gridMap_unused_of st)
    [(1, fun _ => true), (4, fun _ => true), (5, fun _ => true), (2, fun c => decide (c % nx = 0)),
      (0, fun c => decide (c / nx = 0))] (by simp) (by simp)]
  · simp only [List.map_cons, List.map_nil, List.sum_cons, List.sum_nil, GridCount.filter_true, List.length_range,
      count_col0 hnx, count_row0 hnx hny]
    omega
  · intro d h1 h2
    obtain ⟨a, b, k, ha, hb, hk, rfl⟩ := isDart_of_range (d := d) hnx hny h1
      (by rw [hn] at h2; rw [Nat.mul_assoc]; omega)
    simp only [List.any_cons, List.any_nil, Bool.or_false, D, isLocal_dartOf hk, cellIdx_x ha, cellIdx_div ha,
      Nat.mul_zero, Nat.add_zero, Bool.and_true, ← Bool.decide_and, ← Bool.decide_or, decide_eq_true_eq]
    exact eid_iff hnx hny st ha hb hk

end HC.GridEdgeSplit

namespace HC.GridFaceSplit
open HC HC.Gen HC.GridVertexSplit HC.GridFace HC.GridCount

variable {nx ny : Nat} {m : Map Val}

theorem trisCycle : ∀ k, k < 6 → 3 * (k / 3) + (k + 1) % 3 < 6 ∧ 3 * (k / 3) + (k + 2) % 3 < 6 ∧
    3 * ((3 * (k / 3) + (k + 1) % 3) / 3) = 3 * (k / 3) ∧ 3 * ((3 * (k / 3) + (k + 2) % 3) / 3) = 3 * (k / 3) ∧
    (3 * (k / 3) = k ∨ 3 * (k / 3) + (k + 2) % 3 < k) := by decide

theorem fid_spec (hnx : 0 < nx) (hny : 0 < ny) (st : SameTopo (G2 nx ny) m) {a b k : Nat}
    (ha : a < nx) (hb : b < ny) (hk : k < 6) :
    okVal (run (faceId2 m.n (D nx ny a b k)) m) 0 = D nx ny a b (3 * (k / 3)) :=
  fid_of_cycle ((G2_wf hnx hny).sameTopo st) st.n (r := fun k => 3 * (k / 3)) trisCycle ha hb
    (fun _ hk => β1_D st ha hb hk) (fun _ hk => β0_D st ha hb hk) hk

theorem iterFaces_length (hnx : 0 < nx) (hny : 0 < ny) (st : SameTopo (G2 nx ny) m) :
    (iterFaces2 m).length = 2 * nx * ny := by
  have hn : m.n = 6 * (nx * ny) + 1 := by rw [st.n, G2_n, Nat.mul_assoc]
  unfold iterFaces2
  rw [iterCells_length_locals _ hn (gridMap_unused_of st) [(0, fun _ => true), (3, fun _ => true)] (by simp)
    (by simp)]
  · simp only [List.map_cons, List.map_nil, List.sum_cons, List.sum_nil, GridCount.filter_true, List.length_range]
    rw [Nat.mul_assoc]
    omega
  · intro d h1 h2
    obtain ⟨a, b, k, ha, hb, hk, rfl⟩ := isDart_of_range (d := d) hnx hny h1
      (by rw [hn] at h2; rw [Nat.mul_assoc]; omega)
    rw [fid_spec hnx hny st ha hb hk]
    simp only [List.any_cons, List.any_nil, Bool.or_false, D, isLocal_dartOf hk, Bool.and_true, ← Bool.decide_or,
      decide_eq_true_eq]
    exact dartOf_local_inj.trans (by omega)

end HC.GridFaceSplit

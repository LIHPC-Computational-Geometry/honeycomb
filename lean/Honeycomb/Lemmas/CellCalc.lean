/-
  Cell calculus (DESIGN Appendix A3/A4): what a link does to the vertex cells of a 2-map.

  * `United g n p q`: the old cell relation with the cells of `p` and `q` united (`UnitedR` of Lemmas/Ties for the
    relation `SameCell g n`);
  * `vertex_cells_link1` (A4): on a WF map, after `β1 l := r ; β0 r := l` the cells of `β2 l` and `r` are united
    (nothing happens when `β2 l` is null);
  * `vertex_cells_link2`: the same for a 2-link — the pairs `l — β1 r` and `r — β1 l`, two unions one after the
    other.
  Both are read off the vertex ties of Lemmas/Ties: a 2-map is a β function without a fourth row.
-/
import Honeycomb.Props.C03
import Honeycomb.Lemmas.WFLink
import Honeycomb.Lemmas.Ties

namespace HC.CellCalc
open HC HC.C03

/-! ## A3 -/

section A3
variable {g g' : Nat → List Nat} {n p q : Nat}

theorem SameCell.symm' {g : Nat → List Nat} {n a b : Nat} (h : SameCell g n a b) : SameCell g n b a := .symm h

/-- the relation obtained by uniting the cells of `p` and `q` -/
def United (g : Nat → List Nat) (n p q d e : Nat) : Prop :=
  SameCell g n d e ∨ (SameCell g n d p ∧ SameCell g n q e) ∨ (SameCell g n d q ∧ SameCell g n p e)

theorem United.refl (d : Nat) : United g n p q d d := Or.inl (.refl d)

theorem United.symm {d e : Nat} (h : United g n p q d e) : United g n p q e d :=
  (unitedR_equiv (sameCell_equiv g n) p q).symm h

theorem United.swap (d e : Nat) : United g n p q d e ↔ United g n q p d e :=
  or_congr_right Or.comm

theorem United.at_left (x : Nat) : United g n p q p x ↔ (SameCell g n p x ∨ SameCell g n q x) := by
  constructor
  · rintro (a | ⟨_, a2⟩ | ⟨_, a2⟩)
    · exact Or.inl a
    · exact Or.inr a2
    · exact Or.inl a2
  · rintro (a | a)
    · exact Or.inl a
    · exact Or.inr (Or.inl ⟨.refl _, a⟩)

theorem United.at_right (x : Nat) : United g n p q q x ↔ (SameCell g n p x ∨ SameCell g n q x) := by
  constructor
  · rintro (a | ⟨_, a2⟩ | ⟨_, a2⟩)
    · exact Or.inr a
    · exact Or.inr a2
    · exact Or.inl a2
  · rintro (a | a)
    · exact Or.inr (Or.inr ⟨.refl _, a⟩)
    · exact Or.inl a

theorem United.trans {d b e : Nat} (h1 : United g n p q d b) (h2 : United g n p q b e) :
    United g n p q d e :=
  (unitedR_equiv (sameCell_equiv g n) p q).trans h1 h2

/-- same generator steps, same cells -/
theorem sameCell_congr (hstep : ∀ a b, GStep g' n a b ↔ GStep g n a b) (d e : Nat) :
    SameCell g' n d e ↔ SameCell g n d e := by
  rw [sameCell_iff_conn, sameCell_iff_conn]
  exact ⟨Conn.mono fun _ _ s => .step ((hstep _ _).1 s), Conn.mono fun _ _ s => .step ((hstep _ _).2 s)⟩

end A3

/-! ## A4: the vertex cells after a 1-link -/

variable {X : Type}

/-- the map after `one_link_core l r` -/
def link1 (m : Map X) (l r : Nat) : Map X := (m.setβ 1 l r).setβ 0 r l

theorem link1_β {m : Map X} (h : WF 3 m) {l r : Nat} (hl : l < m.n) (hr : r < m.n) (j e : Nat) :
    (link1 m l r).β j e = if 0 = j ∧ r = e then l else if 1 = j ∧ l = e then r else m.β j e :=
  h.toSized.β_link1 (by omega) hl hr j e

theorem link1_n (m : Map X) (l r : Nat) : (link1 m l r).n = m.n := rfl

/-- a 2-map has no fourth β row -/
theorem β3_zero {m : Map X} (h : WF 3 m) (x : Nat) : m.β 3 x = 0 :=
  h.β_oob (fun k => absurd k.1 (by omega))

/-- **cell calculus of a 1-link**: on a WF map, after linking a 1-free `l` to a 0-free `r`, the
    vertex cells are the old ones with the cells of `β2 l` and `r` united (unchanged if `β2 l` is
    null) -/
theorem vertex_cells_link1 {m : Map X} (h : WF 3 m) {l r : Nat}
    (hl0 : l ≠ 0) (hr0 : r ≠ 0) (hl : l < m.n) (hr : r < m.n)
    (h1 : m.β 1 l = 0) (h0 : m.β 0 r = 0) (d e : Nat) :
    SameCell (g2 (link1 m l r) .vertex) m.n d e ↔
      if m.β 2 l = 0 then SameCell (g2 m .vertex) m.n d e
      else United (g2 m .vertex) m.n (m.β 2 l) r d e := by
  have eβ := link1_β h hl hr
  have hf := bok_of_wf h
  have hf' : BOK m.n (link1 m l r).β := hf.link (i := 1) eβ hl0 hr0 hl hr h1 h0
  have z3 := β3_zero h
  have z3' : ∀ x, (link1 m l r).β 3 x = 0 := fun x => by
    rw [eβ, if_neg (by omega), if_neg (by omega)]
    exact z3 x
  have hvt : ∀ z, vties (link1 m l r).β z = if l = z then [r, m.β 2 l, m.β 3 l] else vties m.β z := fun z => by
    unfold vties
    rw [eβ 1 z, eβ 2 z, eβ 3 z]
    simp only [show ¬ (0 = 1) by omega, show ¬ (0 = 2) by omega, show ¬ (0 = 3) by omega,
      show ¬ (1 = 2) by omega, show ¬ (1 = 3) by omega, false_and, if_false, true_and]
    split
    · rename_i c
      rw [c]
    · rfl
  have key := tie_add1 hr0 h1 hvt d e
  rw [vcell2_eq hf' z3', vcell2_eq hf z3,
    show head1 m.β l = m.β 2 l by unfold head1; rw [z3, if_neg (fun k => k rfl)]] at key
  exact key

/-! ## A4: the vertex cells after a 2-link -/

/-- the map after `two_link_core l r` -/
def link2 (m : Map X) (l r : Nat) : Map X := (m.setβ 2 l r).setβ 2 r l

theorem link2_n (m : Map X) (l r : Nat) : (link2 m l r).n = m.n := rfl

theorem link2_β {m : Map X} (h : WF 3 m) {l r : Nat} (hl : l < m.n) (hr : r < m.n) (j e : Nat) :
    (link2 m l r).β j e = if 2 = j ∧ r = e then l else if 2 = j ∧ l = e then r else m.β j e :=
  h.toSized.β_linkI (by omega) hl hr j e

theorem united_congr {g1 : Nat → List Nat} {n : Nat} {R : Nat → Nat → Prop}
    (hR : ∀ d e, SameCell g1 n d e ↔ R d e) (p q d e : Nat) :
    United g1 n p q d e ↔ UnitedR R p q d e := by
  unfold United UnitedR
  simp only [hR]

/-- **cell calculus of a 2-link**: on a WF map, after 2-linking two distinct 2-free darts `l`, `r`,
    the vertex cells are the old ones with (1) the cells of `l` and `β1 r` united, then (2) the
    cells of `r` and `β1 l` united; a union is skipped when the β1 image is null; every other cell
    is unchanged -/
theorem vertex_cells_link2 {m : Map X} (h : WF 3 m) {l r : Nat}
    (hl0 : l ≠ 0) (hr0 : r ≠ 0) (hlr : l ≠ r) (hl : l < m.n) (hr : r < m.n)
    (h2l : m.β 2 l = 0) (h2r : m.β 2 r = 0) :
    ∃ R : Nat → Nat → Prop,
      (∀ d e, R d e ↔ if m.β 1 r = 0 then SameCell (g2 m .vertex) m.n d e
                       else United (g2 m .vertex) m.n l (m.β 1 r) d e) ∧
      (∀ d e, SameCell (g2 (link2 m l r) .vertex) m.n d e ↔
        if m.β 1 l = 0 then R d e else UnitedR R r (m.β 1 l) d e) := by
  have eβ := link2_β h hl hr
  have hf := bok_of_wf h
  have hf' : BOK m.n (link2 m l r).β := hf.link (i := 2) eβ hl0 hr0 hl hr h2l h2r
  have z3 := β3_zero h
  have z3' : ∀ x, (link2 m l r).β 3 x = 0 := fun x => by
    rw [eβ, if_neg (by omega), if_neg (by omega)]
    exact z3 x
  have hvt : ∀ z, vties (link2 m l r).β z =
      [m.β 1 z, if r = z then l else if l = z then r else m.β 2 z, m.β 3 z] := fun z => by
    unfold vties
    rw [eβ 1 z, eβ 2 z, eβ 3 z]
    simp only [show ¬ (2 = 1) by omega, show ¬ (2 = 3) by omega, false_and, if_false, true_and]
  have hA : ∀ x, head2 m.β x = m.β 1 x := fun x => by
    unfold head2
    split
    · rfl
    · rename_i c
      rw [z3, Classical.not_not.1 c]
  have eqS := sameCell_equiv (g2 m .vertex) m.n
  -- the cells of the linked map are the old ones glued along `[(l, β1 r)] ++ [(r, β1 l)]`, null heads dropped
  have key : ∀ d e, SameCell (g2 (link2 m l r) .vertex) m.n d e ↔
      Cell3.Glue (Cell3.Glue (SameCell (g2 m .vertex) m.n) (if m.β 1 r ≠ 0 then [(l, m.β 1 r)] else []))
        (if m.β 1 l ≠ 0 then [(r, m.β 1 l)] else []) d e := fun d e => by
    have k := tie_link2 hl0 hr0 hlr h2l h2r hvt d e
    rw [vcell2_eq hf' z3', vcell2_eq hf z3] at k
    unfold pairs2 at k
    rw [hA, hA] at k
    exact k.trans (glue_append eqS _ _ d e)
  refine ⟨Cell3.Glue (SameCell (g2 m .vertex) m.n) (if m.β 1 r ≠ 0 then [(l, m.β 1 r)] else []),
    fun d e => ?_, fun d e => ?_⟩
  · by_cases c : m.β 1 r = 0
    · rw [if_neg (show ¬ m.β 1 r ≠ 0 from fun k => k c), if_pos c]
      exact Cell3.glue_nil eqS d e
    · rw [if_pos c, if_neg c]
      exact glue_one eqS _ _ d e
  · rw [key]
    by_cases c : m.β 1 l = 0
    · rw [if_neg (show ¬ m.β 1 l ≠ 0 from fun k => k c), if_pos c]
      exact Cell3.glue_nil (glue_equiv _ eqS _) d e
    · rw [if_pos c, if_neg c]
      exact glue_one (glue_equiv _ eqS _) _ _ d e

end HC.CellCalc

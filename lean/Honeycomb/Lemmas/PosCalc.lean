/-
  Coordinates through the 2-D sews, for the kernels that work on fresh darts (used by C13d, C13e).

  `pos m d := m.att 0 (cellId m .vertex d)` is what `read_vertex(vertex_id(d))` returns: the coordinates of the
  origin of dart `d`; it is `vval m d` of Lemmas/RemeshValues.lean, whose rules (`vvalT_oneUnsew2`, `vvalT_oneSew2`,
  `vvalT_twoSew2_free`, `vvalT_twoSew2_both` at storage 0) say what each sew does to it.  For a configuration whose storage 0 carries
  `Vertex2`'s law (`avgLaw`: `avg v v = v`, `merge_incomplete v = v`) the kernel proofs use them in one form:

  * `Lab p F m` : `p` gives the coordinates every dart is to carry, every dart carries them except that a dart of `F`
                  may still be alone in its vertex (`Alone`) and valueless; `Lab.unsew1`, `Lab.sew2Free`, `Lab.sew1`,
                  `Lab.sew2Both` say that a sew uniting vertices with the same `p` keeps it;
  * `nb_pos`, `nb_ne_free`, `pos_free` : the neighbour across a dart reads the coordinates of the next dart; free darts.
-/
import Honeycomb.Lemmas.KernelWF2
import Honeycomb.Lemmas.RemeshValues
import Mathlib.Tactic.Ring


namespace HC.PosCalc
open HC HC.C03 HC.C04 HC.CellCalc

/-- the coordinates of the origin of dart `d`, as `read_vertex(vertex_id(d))` returns them -/
def pos (m : Map Val) (d : Nat) : Option Val := m.att 0 (cellId m .vertex d)

/-- a non-null existing dart (the predicate `C11.Valid`, which this file cannot import) -/
def Valid (m : Map Val) (d : Nat) : Prop := d ≠ 0 ∧ d < m.n

/-- `Vertex2::merge(v, v) = v` -/
theorem avg_self (v v' : Val) (h : avgLaw.merge v v = .ok v') : v' = v := by
  cases v with
  | pt x y z =>
      simp only [avgLaw] at h
      have e : ∀ q : Rat, (q + q) / 2 = q := fun q => by ring
      simp only [e, Except.ok.injEq] at h
      exact h.symm
  | tm t => simp [avgLaw] at h

theorem mergeVal_avg {a b : Option Val} {v : Val} (h : mergeVal avgLaw a b = .ok v)
    (hcompat : ∀ x y, a = some x → b = some y → x = y) : a.or b = some v := by
  cases a with
  | none =>
      cases b with
      | none => simp [mergeVal, avgLaw] at h
      | some y => simp only [mergeVal, avgLaw, Except.ok.injEq] at h; simp [h]
  | some x =>
      cases b with
      | none => simp only [mergeVal, avgLaw, Except.ok.injEq] at h; simp [h]
      | some y =>
          have := hcompat x y rfl rfl
          subst this
          simp only [mergeVal] at h
          simp [avg_self x v h]

theorem or_self' (a : Option Val) : a.or a = a := by cases a <;> rfl

/-! ## coordinates through a kernel iteration: the labelling invariant -/

section
variable {n : Nat} {u : Array Bool}

theorem valid_of_live {m : Map Val} (hi : Inv n u m) {d : Nat} (h : Live n u d) : Valid m d :=
  ⟨h.1, by rw [hi.n_eq]; exact h.2.1⟩

theorem valid_trans {m m' : Map Val} (hi : Inv n u m) (hi' : Inv n u m') {d : Nat} (h : Valid m d) : Valid m' d :=
  ⟨h.1, by rw [hi'.n_eq, ← hi.n_eq]; exact h.2⟩

theorem Valid.lt {m : Map Val} (hi : Inv n u m) {d : Nat} (h : Valid m d) : d < n := by
  rw [← hi.n_eq]
  exact h.2

theorem pos_eq_of_VC {m : Map Val} (h : WF 3 m) {d e : Nat} (hd : Valid m d) (he : Valid m e) (hc : VC m d e) :
    pos m d = pos m e := by
  unfold pos
  rw [(vid_of_vc h hd.1 hd.2 he.1 he.2).2 hc]

/-- `e` is alone in its vertex -/
def Alone (m : Map Val) (e : Nat) : Prop := ∀ y, y ≠ 0 → VC m e y → y = e

theorem Alone.of_free {m : Map Val} (hwf : WF 3 m) {e : Nat} (hfree : ∀ i, i < 3 → m.β i e = 0) : Alone m e := by
  intro y y0 h
  -- `{e, 0}` is closed under the two vertex images
  have hcl : ∀ z, Reach (g2 m .vertex) e z → z = e ∨ z = 0 := by
    intro z hz
    induction hz with
    | refl => exact Or.inl rfl
    | tail _ hc ih =>
        simp only [g2, List.mem_cons, List.not_mem_nil, or_false] at hc
        rcases ih with rfl | rfl
        · rcases hc with rfl | rfl
          · exact Or.inr (by rw [hfree 2 (by omega)]; exact hwf.null 1 (by omega))
          · exact Or.inr (by rw [hfree 0 (by omega)]; exact hwf.null 2 (by omega))
        · rcases hc with rfl | rfl
          · exact Or.inr (by rw [hwf.null 2 (by omega)]; exact hwf.null 1 (by omega))
          · exact Or.inr (by rw [hwf.null 0 (by omega)]; exact hwf.null 2 (by omega))
  exact (hcl y ((vc_iff_reach hwf y0).1 h)).resolve_right y0

theorem cellId_free {m : Map Val} (hwf : WF 3 m) {e : Nat} (he : Valid m e) (hfree : ∀ i, i < 3 → m.β i e = 0) :
    cellId m .vertex e = e := by
  obtain ⟨c0, _, c⟩ := vc_vid hwf he.1 he.2
  exact Alone.of_free hwf hfree _ c0 c

theorem pos_free {m : Map Val} (hwf : WF 3 m) {e : Nat} (he : Valid m e) (hfree : ∀ i, i < 3 → m.β i e = 0) :
    pos m e = m.att 0 e := by
  unfold pos
  rw [cellId_free hwf he hfree]

theorem nb_ne_free {m : Map Val} (hwf : WF 3 m) {d e : Nat} (hd : Valid m d) (he0 : e ≠ 0) (hfe : m.β 2 e = 0) :
    m.β 2 d ≠ e := by
  intro hh
  by_cases hz : m.β 2 d = 0
  · exact he0 (by rw [← hh]; exact hz)
  · have := (hwf.invol 2 (by omega) (by omega) d hd.2 hz).1
    rw [hh, hfe] at this
    exact hd.1 this.symm

/-- the neighbour across a dart starts where the next dart starts, so it reads the same coordinates -/
theorem nb_pos {m : Map Val} (hwf : WF 3 m) {a b : Nat} (ha : Valid m a) (hb : Valid m b) (hab : m.β 1 a = b)
    (hnb : m.β 2 a ≠ 0) : Valid m (m.β 2 a) ∧ pos m (m.β 2 a) = pos m b := by
  have hnbv : Valid m (m.β 2 a) := ⟨hnb, hwf.range 2 (by omega) a ha.2⟩
  have hinv := hwf.invol 2 (by omega) (by omega) a ha.2 hnb
  refine ⟨hnbv, pos_eq_of_VC hwf hnbv hb ((vc_iff_reach hwf hb.1).2 (Reach.single ?_))⟩
  simp only [g2, List.mem_cons]
  left
  rw [hinv.1, hab]

/-- `p` says which coordinates every dart is to carry in the end.  In `m` every dart carries them already, except that
    a dart of `F` (the fresh darts) may still be alone in its vertex and without a value.  Every sew of a kernel
    iteration unites two vertices to which `p` gives the same coordinates, so it keeps `Lab p F`. -/
def Lab (p : Nat → Option Val) (F : List Nat) (m : Map Val) : Prop :=
  ∀ d, Valid m d → pos m d = p d ∨ (d ∈ F ∧ pos m d = none ∧ Alone m d)

namespace Lab
variable {p : Nat → Option Val} {F : List Nat} {m m' : Map Val} {a : Unit}

theorem of_not_mem (hL : Lab p F m) {d : Nat} (hd : Valid m d) (hF : d ∉ F) : pos m d = p d := by
  rcases hL d hd with c | ⟨c, _, _⟩
  · exact c
  · exact absurd c hF

theorem nil (hL : Lab p [] m) {d : Nat} (hd : Valid m d) : pos m d = p d :=
  hL.of_not_mem hd (List.not_mem_nil)

theorem const (hL : Lab p F m) (hwf : WF 3 m) {d e : Nat} (hd : Valid m d) (he : Valid m e) (hc : VC m d e) :
    p d = p e := by
  by_cases hde : d = e
  · rw [hde]
  · rcases hL d hd with a | ⟨_, _, a⟩
    · rcases hL e he with b | ⟨_, _, b⟩
      · rw [← a, ← b]
        exact pos_eq_of_VC hwf hd he hc
      · exact absurd (b d hd.1 hc.symm) hde
    · exact absurd (a e he.1 hc).symm hde

theorem settle {F' : List Nat} (hL : Lab p F m) (h : ∀ e ∈ F, e ∉ F' → pos m e = p e) : Lab p F' m := by
  intro d hd
  rcases hL d hd with a | ⟨a, b, c⟩
  · exact Or.inl a
  · by_cases hF : d ∈ F'
    · exact Or.inr ⟨hF, b, c⟩
    · exact Or.inl (h d a hF)

theorem init (hwf : WF 3 m) (hold : ∀ d, Valid m d → d ∉ F → pos m d = p d)
    (hfresh : ∀ e ∈ F, Valid m e → (∀ i, i < 3 → m.β i e = 0) ∧ pos m e = none) : Lab p F m := by
  intro d hd
  by_cases hF : d ∈ F
  · exact Or.inr ⟨hF, (hfresh d hF hd).2, Alone.of_free hwf (hfresh d hF hd).1⟩
  · exact Or.inl (hold d hd hF)

/-- the values of two vertices meant to carry the same coordinates, one of which carries them already, merge to these
    coordinates -/
theorem or_eq (hL : Lab p F m) {x r : Nat} (vx : Valid m x) (vr : Valid m r) (hp : p x = p r) (hF : x ∉ F ∨ r ∉ F) :
    (∀ v w, pos m x = some v → pos m r = some w → v = w) ∧ (pos m x).or (pos m r) = p r := by
  rcases hL x vx with ax | ⟨ax, an, _⟩
  · rcases hL r vr with br | ⟨_, bn, _⟩
    · refine ⟨fun v w hv hw => ?_, by rw [ax, hp, br, or_self']⟩
      rw [ax, hp, ← br, hw] at hv
      exact (Option.some.inj hv).symm
    · refine ⟨fun v w _ hw => absurd hw (by rw [bn]; simp), ?_⟩
      rw [ax, hp, bn]
      cases p r <;> rfl
  · rcases hL r vr with br | ⟨bF, _, _⟩
    · refine ⟨fun v w hv _ => absurd hv (by rw [an]; simp), ?_⟩
      rw [an, br]
      rfl
    · exact absurd bF (hF.resolve_left (fun c => c ax))

/-- the value `W` that a sew gives two united vertices meant to carry the same coordinates: their merge if they were
    different vertices, the value of one of them if they were one already -/
theorem merged_eq (hL : Lab p F m) {x r : Nat} (vx : Valid m x) (vr : Valid m r) (hp : p x = p r) (hF : x ∉ F ∨ r ∉ F)
    {L : Law Val} (hlaw : L = avgLaw) {W : Option Val}
    (hdiff : cellId m .vertex x ≠ cellId m .vertex r →
      ∃ v, mergeVal L (pos m x) (pos m r) = .ok v ∧ W = some v)
    (hsame : cellId m .vertex x = cellId m .vertex r → W = pos m x ∨ W = pos m r) : W = p r := by
  obtain ⟨hcompat, hor⟩ := hL.or_eq vx vr hp hF
  by_cases hid : cellId m .vertex x = cellId m .vertex r
  · have e : pos m x = pos m r := by
      unfold pos
      rw [hid]
    rw [e, or_self'] at hor
    rcases hsame hid with c | c
    · rw [c, e, hor]
    · rw [c, hor]
  · obtain ⟨v, hv, hWv⟩ := hdiff hid
    rw [hlaw] at hv
    rw [hWv, ← mergeVal_avg hv hcompat]
    exact hor

theorem of_same (hi : Inv n u m) (hi' : Inv n u m') (hL : Lab p F m) (k : ∀ d, Valid m d → pos m' d = pos m d)
    (hc : ∀ d y, VC m' d y → VC m d y) : Lab p F m' := by
  intro d hd'
  have hd := valid_trans hi' hi hd'
  rw [k d hd]
  rcases hL d hd with c | ⟨c1, c2, c3⟩
  · exact Or.inl c
  · exact Or.inr ⟨c1, c2, fun y y0 hy => c3 y y0 (hc d y hy)⟩

theorem unsew1 (cfg : Cfg Val) (hlaw : cfg.law 0 = avgLaw) {l : Nat} (hi : Inv n u m) (hfc : m.fc = 0)
    (hL : Lab p F m) (h : run (oneUnsew2 cfg n l) m = (.ok a, m')) : m'.fc = 0 ∧ Lab p F m' := by
  obtain ⟨i', ll, _, _⟩ := oneUnsew2_eff cfg n hi h
  obtain ⟨hβ, _, _, fc', k⟩ := vvalT_oneUnsew2 cfg (t := 0) (by simp [vStores])
    (fun _ _ _ hs => splitVal_copy (by rw [hlaw]; exact copySplit_avgLaw) hs) hi.wf i'.wf hi.n_eq hfc
    ll.2.1 h
  exact ⟨fc', hL.of_same hi i' (fun d hd => k d hd.1 (hd.lt hi)) (fun _ _ => vc_unl1 hβ)⟩

theorem sew2Free (cfg : Cfg Val) {l r : Nat} (hi : Inv n u m) (hfc : m.fc = 0) (hl : Live n u l) (hr : Live n u r)
    (hlr : l ≠ r) (hbl : m.β 1 l = 0) (hbr : m.β 1 r = 0) (hL : Lab p F m)
    (h : run (twoSew2 cfg n l r) m = (.ok a, m')) : m'.fc = 0 ∧ Lab p F m' := by
  obtain ⟨i', _, _, _⟩ := twoSew2_eff cfg n hi hl hr hlr h
  obtain ⟨_, _, fc', cells, k⟩ := vvalT_twoSew2_free cfg (T := 0) (zero_notin_storagesOf cfg 1) hi.wf i'.wf hi.n_eq hfc hbl hbr
    hlr h
  exact ⟨fc', hL.of_same hi i' (fun d hd => k d hd.1 (hd.lt hi)) (fun d y => (cells d y).1)⟩

/-- **a 1-sew that unites two vertices meant to carry the same coordinates** (one of the two carries them already, the
    other may be a fresh dart): `Lab` is kept, and both darts carry the coordinates afterwards -/
theorem sew1 (cfg : Cfg Val) (hlaw : cfg.law 0 = avgLaw) {l r : Nat} (hi : Inv n u m) (hfc : m.fc = 0)
    (hl : Live n u l) (hr : Live n u r) (hL : Lab p F m)
    (hx : m.β 2 l ≠ 0 → p (m.β 2 l) = p r ∧ (m.β 2 l ∉ F ∨ r ∉ F))
    (h : run (oneSew2 cfg n l r) m = (.ok a, m')) :
    m'.fc = 0 ∧ Lab p F m' ∧ (m.β 2 l ≠ 0 → pos m' (m.β 2 l) = p r ∧ pos m' r = p r) := by
  obtain ⟨i', _, _, _⟩ := oneSew2_eff cfg n hi hl hr h
  have hwf := hi.wf
  obtain ⟨hβ, h1l, _, fc', _, k0, k1⟩ := vvalT_oneSew2 cfg (t := 0) (by simp [vStores]) hwf i'.wf hi.n_eq hfc hr.1
    hr.2.1 h
  refine ⟨fc', ?_⟩
  by_cases hb : m.β 2 l = 0
  · exact ⟨hL.of_same hi i' (fun d hd => k0 hb d hd.1 (hd.lt hi)) (fun _ _ => vc_lnk1_null hβ h1l hb),
      fun c => absurd hb c⟩
  · obtain ⟨_, W, hin, hout, hdiff, hsame⟩ := k1 hb
    obtain ⟨hpx, hF⟩ := hx hb
    have vr := valid_of_live hi hr
    have vx : Valid m (m.β 2 l) := ⟨hb, hwf.range 2 (by omega) l (valid_of_live hi hl).2⟩
    have hW : W = p r := hL.merged_eq vx vr hpx hF hlaw hdiff (fun c => Or.inr (hsame c))
    have hin' : ∀ d, Valid m d → (VC m d (m.β 2 l) ∨ VC m d r) → pos m' d = p d := by
      intro d hd hc
      have hp : p d = p r := by
        rcases hc with c | c
        · rw [hL.const hwf hd vx c, hpx]
        · exact hL.const hwf hd vr c
      rw [hp, ← hW]
      exact hin d hd.1 (hd.lt hi) hc
    refine ⟨fun d hd' => ?_, fun _ => ⟨?_, ?_⟩⟩
    · have hd := valid_trans i' hi hd'
      by_cases hc : VC m d (m.β 2 l) ∨ VC m d r
      · exact Or.inl (hin' d hd hc)
      · have e : pos m' d = pos m d := hout d hd.1 (hd.lt hi) (fun c => hc (Or.inl c)) (fun c => hc (Or.inr c))
        rw [e]
        rcases hL d hd with c | ⟨c1, c2, c3⟩
        · exact Or.inl c
        · refine Or.inr ⟨c1, c2, fun y y0 hy => ?_⟩
          rcases vc_lnk1 hβ h1l hy with c | ⟨c, _⟩ | ⟨c, _⟩
          · exact c3 y y0 c
          · exact absurd (Or.inl c) hc
          · exact absurd (Or.inr c) hc
    · rw [hin' _ vx (Or.inl (.refl _)), hpx]
    · exact hin' _ vr (Or.inr (.refl _))

/-- **a 2-sew of two darts with successors whose new edge joins two vertices with different coordinates**: `l` meets
    the end of `r`, `r` the end of `l`, each pair meant to carry the same coordinates: `Lab` is kept, and `l`, `r` carry
    their coordinates afterwards -/
theorem sew2Both (cfg : Cfg Val) (hlaw : cfg.law 0 = avgLaw) {l r : Nat} (hi : Inv n u m) (hfc : m.fc = 0)
    (hl : Live n u l) (hr : Live n u r) (hlr : l ≠ r) (hbl : m.β 1 l ≠ 0) (hbr : m.β 1 r ≠ 0) (hL : Lab p F m)
    (hA : p l = p (m.β 1 r) ∧ (l ∉ F ∨ m.β 1 r ∉ F)) (hB : p (m.β 1 l) = p r ∧ (m.β 1 l ∉ F ∨ r ∉ F))
    (hne : p l ≠ p r) (h : run (twoSew2 cfg n l r) m = (.ok a, m')) :
    m'.fc = 0 ∧ Lab p F m' ∧ pos m' l = p l ∧ pos m' r = p r := by
  cases a
  have hwf := hi.wf
  have vl := valid_of_live hi hl
  have vr := valid_of_live hi hr
  have vp : Valid m (m.β 1 r) := ⟨hbr, hwf.range 1 (by omega) r vr.2⟩
  have vq : Valid m (m.β 1 l) := ⟨hbl, hwf.range 1 (by omega) l vl.2⟩
  -- different coordinates, different vertices
  obtain ⟨_, _, hn', fc', conn, keep, ⟨WA, inA, dA, sA⟩, ⟨WB, inB, dB, sB⟩⟩ :=
    vvalT_twoSew2_both cfg (T := 0) (by simp [vStores]) (zero_notin_storagesOf cfg 1) hwf hi.n_eq hfc (hi.inUse hl)
      (hi.inUse hr) hlr hbl hbr
      (fun c => hne (hL.const hwf vl vr c))
      (fun c => hne (by rw [hL.const hwf vl vq c, hB.1]))
      (fun c => hne (by rw [hA.1, hL.const hwf vp vr c]))
      (fun c => hne (by rw [hA.1, hL.const hwf vp vq c, hB.1])) h
  have hWA : WA = p (m.β 1 r) := hL.merged_eq vl vp hA.1 hA.2 hlaw dA (fun c => Or.inl (sA c))
  have hWB : WB = p r := hL.merged_eq vq vr hB.1 hB.2 hlaw dB (fun c => Or.inl (sB c))
  have hinA : ∀ d, Valid m d → (VC m d l ∨ VC m d (m.β 1 r)) → pos m' d = p d := by
    intro d hd cA
    have e : pos m' d = WA := inA d hd.1 (hd.lt hi) cA
    rw [e, hWA]
    rcases cA with c | c
    · rw [hL.const hwf hd vl c, hA.1]
    · rw [hL.const hwf hd vp c]
  have hinB : ∀ d, Valid m d → (VC m d (m.β 1 l) ∨ VC m d r) → pos m' d = p d := by
    intro d hd cB
    have e : pos m' d = WB := inB d hd.1 (hd.lt hi) cB
    rw [e, hWB]
    rcases cB with c | c
    · rw [hL.const hwf hd vq c, hB.1]
    · rw [hL.const hwf hd vr c]
  refine ⟨fc', fun d hd' => ?_, hinA l vl (Or.inl (.refl _)), hinB r vr (Or.inr (.refl _))⟩
  have hd : Valid m d := ⟨hd'.1, by rw [← hn']; exact hd'.2⟩
  by_cases cA : VC m d l ∨ VC m d (m.β 1 r)
  · exact Or.inl (hinA d hd cA)
  by_cases cB : VC m d (m.β 1 l) ∨ VC m d r
  · exact Or.inl (hinB d hd cB)
  have e : pos m' d = pos m d := keep d hd.1 (hd.lt hi) (fun c => cA (Or.inl c)) (fun c => cA (Or.inr c))
    (fun c => cB (Or.inl c)) (fun c => cB (Or.inr c))
  rw [e]
  rcases hL d hd with c | ⟨c1, c2, c3⟩
  · exact Or.inl c
  · refine Or.inr ⟨c1, c2, fun y y0 hy => ?_⟩
    rcases conn d y hd.1 (hd.lt hi) y0 hy with c | ⟨c, _⟩ | ⟨c, _⟩
    · exact c3 y y0 c
    · exact absurd c cA
    · exact absurd c cB

end Lab
end

end HC.PosCalc

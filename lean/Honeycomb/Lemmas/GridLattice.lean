/-
  Vertices of a 2-D grid with `K` darts per cell, for both `build_2d_grid` (`K = 4`) and
  `build_2d_splitgrid` (`K = 6`): what `vertex_id` returns and which coordinates the placement
  loops leave under it.

  A grid is described by the corner `(cdx k, cdy k)` of the cell at which local dart `k` starts and by
  a predicate `Canon a b k` singling out one dart per lattice point (`GridLattice.Canon`).  `Spec` lists
  what the theory needs:
  * `closed`        the images examined by `vertex_id` keep the lattice point;
  * `descent`       a dart that is not canonical has a smaller image;
  * `canon_unique`  canonical darts are determined by their lattice point.
  For a grid whose β is given by a `Shape` these follow from finite checks on the shape
  (`closed_of_shape`, `descent_of_shape`, `canon_unique`).  From them:
  * `Spec.vid_spec`   `vertex_id d` is the canonical dart of the lattice point of `d` (`cidG_canon` on the
                      vertex orbit of `Props/C03.lean`);
  * `Spec.att`        after placement blocks that are good and cover the lattice (`Placement`),
                      the slot `vertex_id d` of **every** dart `d` holds `origin + (i·lx, j·ly)` for
                      `(i, j)` the lattice point of `d`;
  * `Spec.vertices`, `Spec.iterVertices_length`   vertices ↔ lattice points; `iter_vertices` yields
                      `(nx+1)·(ny+1)` identifiers.

  Edges and faces of a grid given by a shape: `GridEdge.eid_iff_of_shape` (a dart is an edge identifier iff the dart
  its β2 entry glues to it is null or larger, `EdgeFirst`) and `GridFace.fid_of_cycle` (`face_id` in a cell whose
  β1 / β0 act on the local indices, from a finite check on the cycles).
-/
import Honeycomb.Lemmas.GridLink
import Honeycomb.Props.C03
import Honeycomb.Lemmas.GridCount
import Honeycomb.Lemmas.WFLink

namespace HC.GridLattice
open HC HC.GridCount

/-- the canonical dart of a lattice point: the first local dart (`first`) with its corner, in the cell
    as far down and left as the grid allows -/
def Canon (cdx cdy : Nat → Nat) (first : Nat → Bool) (a b k : Nat) : Prop :=
  first k = true ∧ (cdx k = 0 → a = 0) ∧ (cdy k = 0 → b = 0)

theorem canon_unique {K : Nat} {cdx cdy : Nat → Nat} {first : Nat → Bool} (corner : ∀ k, cdx k ≤ 1 ∧ cdy k ≤ 1)
    (first_inj : ∀ k, k < K → ∀ k', k' < K → first k = true → first k' = true → cdx k = cdx k' → cdy k = cdy k' →
      k = k')
    {a b k a' b' k' : Nat} (hk : k < K) (hk' : k' < K) (hc : Canon cdx cdy first a b k)
    (hc' : Canon cdx cdy first a' b' k') (hp : (a + cdx k, b + cdy k) = (a' + cdx k', b' + cdy k')) :
    a = a' ∧ b = b' ∧ k = k' := by
  obtain ⟨f, hx, hy⟩ := hc
  obtain ⟨f', hx', hy'⟩ := hc'
  obtain ⟨p1, p2⟩ := Prod.mk.inj hp
  have c := corner k
  have c' := corner k'
  have ex : cdx k = cdx k' := by omega
  have ey : cdy k = cdy k' := by omega
  exact ⟨by omega, by omega, first_inj k hk k' hk' f f' ex ey⟩

section
variable {K nx ny : Nat} {β : Nat → Nat → Nat} {cdx cdy : Nat → Nat} {isCanon : Nat → Nat → Nat → Prop}
  {m : Map Val}

theorem dart_lt {a b k : Nat} (ha : a < nx) (hb : b < ny) (hk : k < K) :
    dartOf K nx ny a b 0 k < K * nx * ny + 1 := by
  have h1 := dartOf_le (K := K) (nz := 1) ha hb (Nat.lt_succ_self 0) hk
  rw [Nat.mul_one, ← Nat.mul_assoc] at h1
  omega

theorem dart_ne_zero {a b k : Nat} : dartOf K nx ny a b 0 k ≠ 0 := Nat.ne_of_gt dartOf_pos

/-- lattice point at the origin of dart `d` -/
def pt (K : Nat) (cdx cdy : Nat → Nat) (nx d : Nat) : Nat × Nat :=
  ((d - 1) / K % nx + cdx ((d - 1) % K), (d - 1) / K / nx + cdy ((d - 1) % K))

theorem pt_dartOf {a b k : Nat} (ha : a < nx) (hk : k < K) :
    pt K cdx cdy nx (dartOf K nx ny a b 0 k) = (a + cdx k, b + cdy k) := by
  unfold pt
  rw [dartOf_cell hk, dartOf_local hk, cellIdx_x ha, cellIdx_div ha, Nat.mul_zero, Nat.add_zero]

def IsDart (K nx ny d : Nat) : Prop := ∃ a b k, a < nx ∧ b < ny ∧ k < K ∧ d = dartOf K nx ny a b 0 k

theorem isDart_of_range (hK : 0 < K) (hnx : 0 < nx) (hny : 0 < ny) {d : Nat} (h1 : 1 ≤ d)
    (h2 : d ≤ K * nx * ny) : IsDart K nx ny d := by
  have h2' : d ≤ K * (nx * ny * 1) := by rw [Nat.mul_one, ← Nat.mul_assoc]; exact h2
  obtain ⟨ix, iy, iz, o, hx, hy, hz, ho, e⟩ := decode hK hnx hny h1 h2'
  obtain rfl := Nat.lt_one_iff.mp hz
  exact ⟨ix, iy, o, hx, hy, ho, e⟩

/-! ## the images `vertex_id` examines, read off a shape -/

/-- corner `p` of a dart of the neighbour cell in direction `dir` and corner `q` of a dart of the cell itself
    are the same lattice point -/
def SameCorner (dir : Nat) (p q : Nat × Nat) : Prop :=
  match dir with
  | 0 => p = q
  | 1 => p.1 = q.1 + 1 ∧ p.2 = q.2
  | 2 => p.1 + 1 = q.1 ∧ p.2 = q.2
  | 3 => p.1 = q.1 ∧ p.2 = q.2 + 1
  | 4 => p.1 = q.1 ∧ p.2 + 1 = q.2
  | _ => True

instance (dir : Nat) (p q : Nat × Nat) : Decidable (SameCorner dir p q) := by
  unfold SameCorner
  split <;> exact inferInstance

theorem SameCorner.point {dir a b a' b' c' : Nat} {p q : Nat × Nat} (h : SameCorner dir p q) (hd : dir ≤ 6)
    (hn : Nbr dir a b 0 a' b' c') (hc' : c' < 1) : (a' + p.1, b' + p.2) = (a + q.1, b + q.2) := by
  rcases dir_cases hd with e | e | e | e | e | e | e <;> subst e <;> simp only [Nbr] at hn <;>
    simp only [SameCorner] at h <;> simp only [Prod.mk.injEq] <;> first | omega | (subst h; omega)

/-- the images examined by `vertex_id` are null or darts with the same lattice point, for a grid whose β is
    given by a shape in which the two paths `β1 ∘ β2` and `β2 ∘ β0` keep the corner -/
theorem closed_of_shape (S : Shape) (hS : S.Ok) (wf : WF 3 m)
    (hβ : ∀ {a b o i : Nat}, a < nx → b < ny → o < S.K → i < 3 →
      m.β i (dartOf S.K nx ny a b 0 o) = absEntry S.K nx ny 1 a b 0 (S.at o i).1 (S.at o i).2)
    (keep1 : ∀ k, k < S.K → SameCorner (S.at k 2).1
      (cdx (S.at (S.at k 2).2 1).2, cdy (S.at (S.at k 2).2 1).2) (cdx k, cdy k))
    (keep2 : ∀ k, k < S.K → SameCorner (S.at (S.at k 0).2 2).1
      (cdx (S.at (S.at k 0).2 2).2, cdy (S.at (S.at k 0).2 2).2) (cdx k, cdy k))
    {a b k : Nat} (ha : a < nx) (hb : b < ny) (hk : k < S.K) :
    ∀ y, y ∈ C03.g2 m .vertex (dartOf S.K nx ny a b 0 k) → y = 0 ∨
      ∃ a' b' k', a' < nx ∧ b' < ny ∧ k' < S.K ∧ y = dartOf S.K nx ny a' b' 0 k' ∧
        (a' + cdx k', b' + cdy k') = (a + cdx k, b + cdy k) := by
  obtain ⟨_, hnb, hbound, h01, _⟩ := hS
  intro y hy
  simp only [C03.g2, List.mem_cons, List.not_mem_nil, or_false] at hy
  rcases hy with rfl | rfl
  · have b2 := hbound k hk 2 (by omega)
    rw [hβ ha hb hk (by decide)]
    rcases absEntry_cases (K := S.K) ha hb Nat.one_pos b2.2 (S.at k 2).2 with h | ⟨a', b', c', ha', hb', hc', hn, h⟩
    · rw [h]
      exact Or.inl (wf.null 1 (by decide))
    · obtain rfl := Nat.lt_one_iff.mp hc'
      rw [h, hβ ha' hb' b2.1 (by decide), (h01 _ b2.1).2.1]
      exact Or.inr ⟨a', b', _, ha', hb', (hbound _ b2.1 1 (by omega)).1, rfl, (keep1 k hk).point b2.2 hn Nat.one_pos⟩
  · have b0 := hbound k hk 0 (by omega)
    have b2 := hbound _ b0.1 2 (by omega)
    have e0 : m.β 0 (dartOf S.K nx ny a b 0 k) = dartOf S.K nx ny a b 0 (S.at k 0).2 := by
      rw [hβ ha hb hk (by decide), (h01 k hk).1]
      rfl
    rw [e0, hβ ha hb b0.1 (by decide)]
    rcases absEntry_cases (K := S.K) ha hb Nat.one_pos b2.2 (S.at (S.at k 0).2 2).2 with h | ⟨a', b', c', ha', hb', hc', hn, h⟩
    · exact Or.inl h
    · obtain rfl := Nat.lt_one_iff.mp hc'
      exact Or.inr ⟨a', b', _, ha', hb', b2.1, h, (keep2 k hk).point b2.2 hn Nat.one_pos⟩

theorem absEntry_back_cell {K a b dir : Nat} (h : dir = 0 ∨ dir = 1 ∧ a ≠ 0 ∨ dir = 3 ∧ b ≠ 0) (hx : a < nx)
    (hy : b < ny) : ∃ a' b', a' < nx ∧ b' < ny ∧ (∀ o, absEntry K nx ny 1 a b 0 dir o = dartOf K nx ny a' b' 0 o) ∧
      (dir = 0 ∧ a' = a ∧ b' = b ∨ cellIdx nx ny a' b' 0 < cellIdx nx ny a b 0) := by
  rcases h with rfl | ⟨rfl, h⟩ | ⟨rfl, h⟩
  · exact ⟨a, b, hx, hy, fun _ => rfl, Or.inl ⟨rfl, rfl, rfl⟩⟩
  · refine ⟨a - 1, b, by omega, hy, fun o => by simp only [absEntry, if_neg h], Or.inr ?_⟩
    have := (cellIdx_xm nx ny a b 0).resolve_left h
    omega
  · refine ⟨a, b - 1, hx, by omega, fun o => by simp only [absEntry, if_neg h], Or.inr ?_⟩
    have := (cellIdx_ym nx ny a b 0).resolve_left h
    omega

/-- a dart that is not canonical has a smaller image, for a grid whose β is given by a shape in which one of
    the paths `β1 ∘ β2`, `β2 ∘ β0` leads, from a dart that is not the first of its corner to a smaller dart of
    the cell, from a first dart at the left side to the left neighbour, from one at the bottom to the cell below -/
theorem descent_of_shape (S : Shape) (hS : S.Ok) {first : Nat → Bool}
    (hβ : ∀ {a b o i : Nat}, a < nx → b < ny → o < S.K → i < 3 →
      m.β i (dartOf S.K nx ny a b 0 o) = absEntry S.K nx ny 1 a b 0 (S.at o i).1 (S.at o i).2)
    (down : ∀ k, k < S.K →
      (first k = false → (S.at k 2).1 = 0 ∧ (S.at (S.at k 2).2 1).2 < k ∨
        (S.at (S.at k 0).2 2).1 = 0 ∧ (S.at (S.at k 0).2 2).2 < k) ∧
      (first k = true → (cdx k = 0 → (S.at k 2).1 = 1 ∨ (S.at (S.at k 0).2 2).1 = 1) ∧
        (cdy k = 0 → (S.at k 2).1 = 3 ∨ (S.at (S.at k 0).2 2).1 = 3)))
    {a b k : Nat} (ha : a < nx) (hb : b < ny) (hk : k < S.K) (hc : ¬ Canon cdx cdy first a b k) :
    ∃ y, y ∈ C03.g2 m .vertex (dartOf S.K nx ny a b 0 k) ∧ y ≠ 0 ∧ y < dartOf S.K nx ny a b 0 k := by
  obtain ⟨_, hnb, hbound, h01, _⟩ := hS
  have b2 := hbound k hk 2 (by omega)
  have b0 := hbound k hk 0 (by omega)
  have b02 := hbound _ b0.1 2 (by omega)
  have b21 := hbound _ b2.1 1 (by omega)
  have which : ((S.at k 2).1 = 0 ∧ (S.at (S.at k 2).2 1).2 < k ∨ (S.at k 2).1 = 1 ∧ a ≠ 0 ∨ (S.at k 2).1 = 3 ∧ b ≠ 0) ∨
      ((S.at (S.at k 0).2 2).1 = 0 ∧ (S.at (S.at k 0).2 2).2 < k ∨ (S.at (S.at k 0).2 2).1 = 1 ∧ a ≠ 0 ∨
        (S.at (S.at k 0).2 2).1 = 3 ∧ b ≠ 0) := by
    obtain ⟨d1, d23⟩ := down k hk
    by_cases f : first k = true
    · obtain ⟨d2, d3⟩ := d23 f
      by_cases hx : cdx k = 0 → a = 0
      · have hy : ¬ (cdy k = 0 → b = 0) := fun hy => hc ⟨f, hx, hy⟩
        have ey : cdy k = 0 := Classical.byContradiction fun e => hy fun e' => absurd e' e
        have nb : b ≠ 0 := fun e => hy fun _ => e
        rcases d3 ey with e | e
        · exact Or.inl (Or.inr (Or.inr ⟨e, nb⟩))
        · exact Or.inr (Or.inr (Or.inr ⟨e, nb⟩))
      · have ex : cdx k = 0 := Classical.byContradiction fun e => hx fun e' => absurd e' e
        have na : a ≠ 0 := fun e => hx fun _ => e
        rcases d2 ex with e | e
        · exact Or.inl (Or.inr (Or.inl ⟨e, na⟩))
        · exact Or.inr (Or.inr (Or.inl ⟨e, na⟩))
    · rcases d1 (Bool.eq_false_iff.mpr f) with e | e
      · exact Or.inl (Or.inl e)
      · exact Or.inr (Or.inl e)
  have e0 : m.β 0 (dartOf S.K nx ny a b 0 k) = dartOf S.K nx ny a b 0 (S.at k 0).2 := by
    rw [hβ ha hb hk (by decide), (h01 k hk).1]
    rfl
  rcases which with h | h
  · obtain ⟨a', b', ha', hb', he, hlt⟩ := absEntry_back_cell (K := S.K) (h.imp And.left id) ha hb
    refine ⟨dartOf S.K nx ny a' b' 0 (S.at (S.at k 2).2 1).2, ?_, dart_ne_zero, ?_⟩
    · simp only [C03.g2, List.mem_cons, List.not_mem_nil, or_false]
      left
      rw [hβ ha hb hk (by decide), he, hβ ha' hb' b2.1 (by decide), (h01 _ b2.1).2.1]
      rfl
    · rcases hlt with ⟨e, rfl, rfl⟩ | hlt
      · rcases h with ⟨_, h⟩ | ⟨h, _⟩ | ⟨h, _⟩
        · exact Nat.add_lt_add_left h _
        · rw [e] at h; exact absurd h (by decide)
        · rw [e] at h; exact absurd h (by decide)
      · exact dartOf_lt_of_cell b21.1 hlt
  · obtain ⟨a', b', ha', hb', he, hlt⟩ := absEntry_back_cell (K := S.K) (h.imp And.left id) ha hb
    refine ⟨dartOf S.K nx ny a' b' 0 (S.at (S.at k 0).2 2).2, ?_, dart_ne_zero, ?_⟩
    · simp only [C03.g2, List.mem_cons, List.not_mem_nil, or_false]
      right
      rw [e0, hβ ha hb b0.1 (by decide), he]
    · rcases hlt with ⟨e, rfl, rfl⟩ | hlt
      · rcases h with ⟨_, h⟩ | ⟨h, _⟩ | ⟨h, _⟩
        · exact Nat.add_lt_add_left h _
        · rw [e] at h; exact absurd h (by decide)
        · rw [e] at h; exact absurd h (by decide)
      · exact dartOf_lt_of_cell b02.1 hlt

structure Spec (K nx ny : Nat) (β : Nat → Nat → Nat) (cdx cdy : Nat → Nat)
    (isCanon : Nat → Nat → Nat → Prop) : Prop where
  Kpos : 0 < K
  nxpos : 0 < nx
  nypos : 0 < ny
  wf : WF 3 (gridMap 3 (K * nx * ny) β)
  corner : ∀ k, cdx k ≤ 1 ∧ cdy k ≤ 1
  closed : ∀ {m : Map Val}, SameTopo (gridMap 3 (K * nx * ny) β) m → ∀ {a b k : Nat}, a < nx → b < ny → k < K →
    ∀ y, y ∈ C03.g2 m .vertex (dartOf K nx ny a b 0 k) → y = 0 ∨
      ∃ a' b' k', a' < nx ∧ b' < ny ∧ k' < K ∧ y = dartOf K nx ny a' b' 0 k' ∧
        (a' + cdx k', b' + cdy k') = (a + cdx k, b + cdy k)
  descent : ∀ {m : Map Val}, SameTopo (gridMap 3 (K * nx * ny) β) m → ∀ {a b k : Nat}, a < nx → b < ny → k < K →
    ¬ isCanon a b k → ∃ y, y ∈ C03.g2 m .vertex (dartOf K nx ny a b 0 k) ∧ y ≠ 0 ∧ y < dartOf K nx ny a b 0 k
  canon_unique : ∀ {a b k a' b' k' : Nat}, k < K → k' < K → isCanon a b k → isCanon a' b' k' →
    (a + cdx k, b + cdy k) = (a' + cdx k', b' + cdy k') → a = a' ∧ b = b' ∧ k = k'

/-! ## `vertex_id` -/

/-- `vertex_id` is the identifier of the vertex cell of `Props/C03.lean` -/
theorem vid2_eq (wf : WF 3 m) {d : Nat} (hd0 : d ≠ 0) (hd : d < m.n) :
    vid2 m d = C03.cellId m .vertex d := by
  unfold vid2
  rw [(C03.C03_vertexId2_min wf hd0 hd).1]
  rfl

namespace Spec
variable (Sp : Spec K nx ny β cdx cdy isCanon)
include Sp

theorem wf_of (st : SameTopo (gridMap 3 (K * nx * ny) β) m) : WF 3 m := Sp.wf.sameTopo st

theorem vid_spec (st : SameTopo (gridMap 3 (K * nx * ny) β) m) {d : Nat} (hd : IsDart K nx ny d) :
    ∃ a b k, a < nx ∧ b < ny ∧ k < K ∧ vid2 m d = dartOf K nx ny a b 0 k ∧ isCanon a b k ∧
      (a + cdx k, b + cdy k) = pt K cdx cdy nx d := by
  have wf : WF 3 m := Sp.wf_of st
  have hn : m.n = K * nx * ny + 1 := st.n
  have isD : ∀ x, x ≠ 0 → x < m.n → IsDart K nx ny x := fun x h0 h =>
    isDart_of_range Sp.Kpos Sp.nxpos Sp.nypos (by omega) (by omega)
  obtain ⟨hd0, hdn⟩ : d ≠ 0 ∧ d < m.n := by
    obtain ⟨a0, b0, k0, ha0, hb0, hk0, rfl⟩ := hd
    exact ⟨dart_ne_zero, by rw [hn]; exact dart_lt ha0 hb0 hk0⟩
  obtain ⟨_, _, ⟨a, b, k, ha, hb, hk, hv, hc⟩, hp⟩ := cidG_canon (C03.g2_ok wf .vertex trivial)
    (key := pt K cdx cdy nx)
    (C := fun x => ∃ a b k, a < nx ∧ b < ny ∧ k < K ∧ x = dartOf K nx ny a b 0 k ∧ isCanon a b k)
    (fun x h0 h hx y hy => by
      obtain ⟨a, b, k, ha, hb, hk, rfl⟩ := isD x h0 h
      rcases Sp.closed st ha hb hk y hy with h | ⟨a', b', k', ha', hb', hk', rfl, hp⟩
      · exact Or.inl h
      · exact Or.inr (by rw [pt_dartOf ha' hk', hp, ← pt_dartOf (ny := ny) ha hk, hx]))
    (fun x h0 h _ hc => by
      obtain ⟨a, b, k, ha, hb, hk, rfl⟩ := isD x h0 h
      exact Sp.descent st ha hb hk fun c => hc ⟨a, b, k, ha, hb, hk, rfl, c⟩)
    hd0 hdn
  have e : cidG (C03.g2 m .vertex) m.n d = vid2 m d := (vid2_eq wf hd0 hdn).symm
  rw [e] at hv hp
  exact ⟨a, b, k, ha, hb, hk, hv, hc, by rw [← pt_dartOf (ny := ny) ha hk, ← hv, hp]⟩

theorem vid_same {m m' : Map Val} (st : SameTopo (gridMap 3 (K * nx * ny) β) m)
    (st' : SameTopo (gridMap 3 (K * nx * ny) β) m') {d e : Nat} (hd : IsDart K nx ny d) (he : IsDart K nx ny e)
    (hp : pt K cdx cdy nx d = pt K cdx cdy nx e) : vid2 m d = vid2 m' e := by
  obtain ⟨a, b, k, ha, hb, hk, h1, c1, p1⟩ := Sp.vid_spec st hd
  obtain ⟨a', b', k', ha', hb', hk', h2, c2, p2⟩ := Sp.vid_spec st' he
  obtain ⟨e1, e2, e3⟩ := Sp.canon_unique hk hk' c1 c2 (by rw [p1, p2, hp])
  rw [h1, h2, e1, e2, e3]

theorem vid_pt (st : SameTopo (gridMap 3 (K * nx * ny) β) m) {d : Nat} (hd : IsDart K nx ny d) :
    pt K cdx cdy nx (vid2 m d) = pt K cdx cdy nx d ∧ vid2 m d < K * nx * ny + 1 := by
  obtain ⟨a, b, k, ha, hb, hk, h1, _, p1⟩ := Sp.vid_spec st hd
  rw [h1, pt_dartOf ha hk, p1]
  exact ⟨rfl, dart_lt ha hb hk⟩

theorem vid_isDart (st : SameTopo (gridMap 3 (K * nx * ny) β) m) {d : Nat} (hd : IsDart K nx ny d) :
    IsDart K nx ny (vid2 m d) := by
  obtain ⟨a, b, k, ha, hb, hk, h1, _, _⟩ := Sp.vid_spec st hd
  exact ⟨a, b, k, ha, hb, hk, h1⟩

theorem pt_le {d : Nat} (hd : IsDart K nx ny d) : (pt K cdx cdy nx d).1 ≤ nx ∧ (pt K cdx cdy nx d).2 ≤ ny := by
  obtain ⟨a, b, k, ha, hb, hk, rfl⟩ := hd
  rw [pt_dartOf ha hk]
  have c := Sp.corner k
  exact ⟨by show a + cdx k ≤ nx; omega, by show b + cdy k ≤ ny; omega⟩

end Spec
end

/-! ## placement -/

section Place
variable (ox oy lx ly : Rat) (K : Nat) (cdx cdy : Nat → Nat) (nx ny : Nat) (β : Nat → Nat → Nat)

def coord (p : Nat × Nat) : Val := .pt (ox + (p.1 : Rat) * lx) (oy + (p.2 : Rat) * ly) 0

/-- invariant of the placement loops: grid topology, and a slot is empty or holds the coordinates
    of its own lattice point -/
structure PInv (m : Map Val) : Prop where
  st : SameTopo (gridMap 3 (K * nx * ny) β) m
  val : ∀ s, m.att 0 s = none ∨ m.att 0 s = some (coord ox oy lx ly (pt K cdx cdy nx s))

def Mono (m m' : Map Val) : Prop := ∀ s v, m.att 0 s = some v → m'.att 0 s = some v

/-- a placement block `(loop, local dart + 1, stride, dx, dy)` (the tuples of `Gen.squarePlace` / `Gen.trisPlace`, read by
    `placeOne`) whose stride is `K` and whose coordinate offsets are those of its local dart -/
def GoodBlk (blk : Nat × Nat × Nat × Nat × Nat) : Prop :=
  blk.2.2.1 = K ∧ 1 ≤ blk.2.1 ∧ blk.2.1 ≤ K ∧ blk.2.2.2.1 = cdx (blk.2.1 - 1) ∧ blk.2.2.2.2 = cdy (blk.2.1 - 1)

instance (blk : Nat × Nat × Nat × Nat × Nat) : Decidable (GoodBlk K cdx cdy blk) := by
  unfold GoodBlk; exact inferInstance

theorem place_dart {k0 x y : Nat} (h : 1 ≤ k0) : k0 + x * K + y * K * nx = dartOf K nx ny x y 0 (k0 - 1) := by
  unfold dartOf cellIdx
  rw [Nat.mul_zero, Nat.add_zero, Nat.mul_add, Nat.mul_right_comm y K nx, Nat.mul_comm (y * nx) K,
    Nat.mul_comm y nx, Nat.mul_comm x K]
  omega

/-- the per-cell goal of a block: the slot `vertex_id` of the placed dart holds the coordinates of
    its lattice point (stated with the topology-only `vertex_id` on the β part) -/
def Done (blk : Nat × Nat × Nat × Nat × Nat) (c : Nat × Nat) (m : Map Val) : Prop :=
  m.att 0 (vid2 (gridMap 3 (K * nx * ny) β) (dartOf K nx ny c.1 c.2 0 (blk.2.1 - 1))) =
    some (coord ox oy lx ly (pt K cdx cdy nx (dartOf K nx ny c.1 c.2 0 (blk.2.1 - 1))))

structure Placement (K : Nat) (cdx cdy : Nat → Nat) (nx ny : Nat) (place : List (Nat × Nat × Nat × Nat × Nat)) :
    Prop where
  good : ∀ blk, blk ∈ place → GoodBlk K cdx cdy blk
  covers : ∀ {i j : Nat}, i ≤ nx → j ≤ ny → ∃ blk, blk ∈ place ∧ ∃ c, c ∈ placeCells nx ny blk.1 ∧
    c.1 < nx ∧ c.2 < ny ∧ pt K cdx cdy nx (dartOf K nx ny c.1 c.2 0 (blk.2.1 - 1)) = (i, j)

theorem Placement.dart {K : Nat} {cdx cdy : Nat → Nat} {nx ny : Nat} {place : List (Nat × Nat × Nat × Nat × Nat)}
    (P : Placement K cdx cdy nx ny place) {i j : Nat} (hi : i ≤ nx) (hj : j ≤ ny) :
    ∃ d, IsDart K nx ny d ∧ pt K cdx cdy nx d = (i, j) := by
  obtain ⟨blk, hblk, c, _, hc1, hc2, hp⟩ := P.covers hi hj
  obtain ⟨_, g1, g2, _⟩ := P.good blk hblk
  exact ⟨_, ⟨c.1, c.2, blk.2.1 - 1, hc1, hc2, by omega, rfl⟩, hp⟩

/-- good blocks, one for each of the four loops (every cell / top row / right column / last cell) with the
    offsets of that loop, form a placement -/
theorem Placement.of_blocks {K : Nat} {cdx cdy : Nat → Nat} {nx ny : Nat} (hnx : 0 < nx) (hny : 0 < ny)
    {place : List (Nat × Nat × Nat × Nat × Nat)} (good : ∀ blk, blk ∈ place → GoodBlk K cdx cdy blk)
    (blocks : ∀ dx, dx ≤ 1 → ∀ dy, dy ≤ 1 → ∃ blk, blk ∈ place ∧ blk.1 = 2 * dx + dy ∧ blk.2.2.2.1 = dx ∧
      blk.2.2.2.2 = dy) : Placement K cdx cdy nx ny place := by
  refine ⟨good, fun {i j} hi hj => ?_⟩
  -- the cell whose lower-left corner is the point; on the right / top border of the lattice the cell to its left / below
  have key : ∀ dx, dx ≤ 1 → ∀ dy, dy ≤ 1 → i = (i - dx) + dx → j = (j - dy) + dy → i - dx < nx → j - dy < ny →
      (i - dx, j - dy) ∈ placeCells nx ny (2 * dx + dy) →
      ∃ blk, blk ∈ place ∧ ∃ c, c ∈ placeCells nx ny blk.1 ∧ c.1 < nx ∧ c.2 < ny ∧
        pt K cdx cdy nx (dartOf K nx ny c.1 c.2 0 (blk.2.1 - 1)) = (i, j) := by
    intro dx hdx dy hdy ei ej h1 h2 hmem
    obtain ⟨blk, hblk, hl, bx, by'⟩ := blocks dx hdx dy hdy
    obtain ⟨_, g1, g2, g3, g4⟩ := good blk hblk
    refine ⟨blk, hblk, (i - dx, j - dy), by rw [hl]; exact hmem, h1, h2, ?_⟩
    rw [pt_dartOf h1 (by omega), ← g3, ← g4, bx, by', ← ei, ← ej]
  by_cases h1 : i < nx
  · by_cases h2 : j < ny
    · refine key 0 (by decide) 0 (by decide) rfl rfl h1 h2 ?_
      simp only [placeCells, List.mem_flatMap, List.mem_map, List.mem_range]
      exact ⟨j, h2, i, h1, rfl⟩
    · refine key 0 (by decide) 1 (by decide) rfl (by omega) h1 (by omega) ?_
      simp only [placeCells, List.mem_map, List.mem_range]
      exact ⟨i, h1, by rw [show j = ny by omega]; rfl⟩
  · by_cases h2 : j < ny
    · refine key 1 (by decide) 0 (by decide) (by omega) rfl (by omega) h2 ?_
      simp only [placeCells, List.mem_map, List.mem_range]
      exact ⟨j, h2, by rw [show i = nx by omega]; rfl⟩
    · refine key 1 (by decide) 1 (by decide) (by omega) (by omega) (by omega) (by omega) ?_
      simp only [placeCells, List.mem_singleton]
      rw [show i = nx by omega, show j = ny by omega]

variable {K cdx cdy nx ny β} {isCanon : Nat → Nat → Nat → Prop} (Sp : Spec K nx ny β cdx cdy isCanon)
include Sp

theorem placeOne_step {blk : Nat × Nat × Nat × Nat × Nat} (hb : GoodBlk K cdx cdy blk)
    {m : Map Val} (inv : PInv ox oy lx ly K cdx cdy nx ny β m) {c : Nat × Nat} (hc1 : c.1 < nx) (hc2 : c.2 < ny) :
    PInv ox oy lx ly K cdx cdy nx ny β (placeOne ox oy lx ly nx blk m c) ∧ Mono m (placeOne ox oy lx ly nx blk m c) ∧
    (placeOne ox oy lx ly nx blk m c).att 0 (vid2 m (dartOf K nx ny c.1 c.2 0 (blk.2.1 - 1))) =
      some (coord ox oy lx ly (pt K cdx cdy nx (dartOf K nx ny c.1 c.2 0 (blk.2.1 - 1)))) := by
  obtain ⟨loop, k0, s, dx, dy⟩ := blk
  obtain ⟨hs, hk1, hk4, hdx, hdy⟩ := hb
  simp only at hs hk1 hk4 hdx hdy
  subst hs hdx hdy
  have hd : IsDart s nx ny (dartOf s nx ny c.1 c.2 0 (k0 - 1)) := ⟨c.1, c.2, k0 - 1, hc1, hc2, by omega, rfl⟩
  obtain ⟨hpt, hlt⟩ := Sp.vid_pt inv.st hd
  have hok := gridMap_okA0 inv.st hlt
  have hval : (Val.pt (ox + ((c.1 + cdx (k0 - 1) : Nat) : Rat) * lx) (oy + ((c.2 + cdy (k0 - 1) : Nat) : Rat) * ly) 0) =
      coord ox oy lx ly (pt s cdx cdy nx (vid2 m (dartOf s nx ny c.1 c.2 0 (k0 - 1)))) := by
    rw [hpt, pt_dartOf hc1 (by omega)]
    rfl
  have e : placeOne ox oy lx ly nx (loop, k0, s, cdx (k0 - 1), cdy (k0 - 1)) m c =
      m.setA 0 (vid2 m (dartOf s nx ny c.1 c.2 0 (k0 - 1)))
        (some (coord ox oy lx ly (pt s cdx cdy nx (vid2 m (dartOf s nx ny c.1 c.2 0 (k0 - 1)))))) := by
    unfold placeOne writeVertex
    simp only
    rw [place_dart s nx ny hk1, hval]
  rw [e]
  refine ⟨⟨inv.st.trans (SameTopo.setA _ _ _ _), ?_⟩, ?_, ?_⟩
  · intro t
    rw [Map.att_setA]
    by_cases ht : vid2 m (dartOf s nx ny c.1 c.2 0 (k0 - 1)) = t
    · right; subst ht; simp [hok]
    · simp only [ht, false_and, and_false, if_false]; exact inv.val t
  · intro t v hv
    rw [Map.att_setA]
    by_cases ht : vid2 m (dartOf s nx ny c.1 c.2 0 (k0 - 1)) = t
    · subst ht
      simp only [hok, and_self, if_true]
      rcases inv.val (vid2 m (dartOf s nx ny c.1 c.2 0 (k0 - 1))) with h | h
      · rw [h] at hv; exact absurd hv (by simp)
      · rw [h] at hv; exact hv
    · simp only [ht, false_and, and_false, if_false]; exact hv
  · rw [Map.att_setA]
    simp only [hok, and_self, if_true]
    rw [hpt]

omit Sp in
theorem fold_inv {α : Type} (step : Map Val → α → Map Val) (I : Map Val → Prop)
    (Dn : α → Map Val → Prop) (good : α → Prop)
    (DnR : ∀ a m m', I m → Dn a m → I m' → Mono m m' → Dn a m')
    (hstep : ∀ m a, good a → I m → I (step m a) ∧ Mono m (step m a) ∧ Dn a (step m a)) :
    ∀ (l : List α) (m : Map Val), (∀ a, a ∈ l → good a) → I m →
      I (l.foldl step m) ∧ Mono m (l.foldl step m) ∧ ∀ a, a ∈ l → Dn a (l.foldl step m) := by
  intro l
  induction l with
  | nil => intro m _ hI; exact ⟨hI, fun _ _ h => h, fun a ha => by simp at ha⟩
  | cons x xs ih =>
      intro m hg hI
      obtain ⟨i1, r1, d1⟩ := hstep m x (hg x List.mem_cons_self) hI
      obtain ⟨i2, r2, d2⟩ := ih (step m x) (fun a ha => hg a (List.mem_cons_of_mem _ ha)) i1
      refine ⟨i2, fun s v h => r2 s v (r1 s v h), ?_⟩
      intro a ha
      rcases List.mem_cons.mp ha with rfl | ha
      · exact DnR a _ _ i1 d1 i2 r2
      · exact d2 a ha

omit Sp in
theorem placeCells_valid (hnx : 0 < nx) (hny : 0 < ny) (loop : Nat) :
    ∀ c, c ∈ placeCells nx ny loop → c.1 < nx ∧ c.2 < ny := by
  intro c hc
  unfold placeCells at hc
  split at hc
  · simp only [List.mem_flatMap, List.mem_map, List.mem_range] at hc
    obtain ⟨y, hy, x, hx, rfl⟩ := hc
    exact ⟨hx, hy⟩
  · simp only [List.mem_map, List.mem_range] at hc
    obtain ⟨x, hx, rfl⟩ := hc
    exact ⟨hx, by simp; omega⟩
  · simp only [List.mem_map, List.mem_range] at hc
    obtain ⟨y, hy, rfl⟩ := hc
    exact ⟨by simp; omega, hy⟩
  · simp only [List.mem_singleton] at hc
    subst hc
    exact ⟨by simp; omega, by simp; omega⟩

theorem placeBlock_step {blk : Nat × Nat × Nat × Nat × Nat}
    (hb : GoodBlk K cdx cdy blk) {m : Map Val} (inv : PInv ox oy lx ly K cdx cdy nx ny β m) :
    PInv ox oy lx ly K cdx cdy nx ny β (placeBlock ox oy lx ly nx ny m blk) ∧
    Mono m (placeBlock ox oy lx ly nx ny m blk) ∧
    ∀ c, c ∈ placeCells nx ny blk.1 →
      Done ox oy lx ly K cdx cdy nx ny β blk c (placeBlock ox oy lx ly nx ny m blk) := by
  unfold placeBlock
  apply fold_inv (placeOne ox oy lx ly nx blk) (PInv ox oy lx ly K cdx cdy nx ny β)
    (Done ox oy lx ly K cdx cdy nx ny β blk) (fun c => c.1 < nx ∧ c.2 < ny)
  · intro c m m' _ hd _ hm
    unfold Done at hd ⊢
    exact hm _ _ hd
  · intro m c hc hI
    obtain ⟨h1, h2, h3⟩ := placeOne_step ox oy lx ly Sp hb hI hc.1 hc.2
    refine ⟨h1, h2, ?_⟩
    unfold Done
    have hd : IsDart K nx ny (dartOf K nx ny c.1 c.2 0 (blk.2.1 - 1)) :=
      ⟨c.1, c.2, blk.2.1 - 1, hc.1, hc.2, by have := hb.2.2.1; have := hb.2.1; omega, rfl⟩
    rw [Sp.vid_same (SameTopo.refl _) hI.st hd hd rfl]
    exact h3
  · exact placeCells_valid Sp.nxpos Sp.nypos blk.1
  · exact inv

omit Sp in
theorem gridMap_pinv : PInv ox oy lx ly K cdx cdy nx ny β (gridMap 3 (K * nx * ny) β) :=
  ⟨SameTopo.refl _, fun s => Or.inl (gridMap_att_none _ _ _ s)⟩

theorem Spec.att {place : List (Nat × Nat × Nat × Nat × Nat)} (P : Placement K cdx cdy nx ny place)
    {d : Nat} (hd : IsDart K nx ny d) :
    (place.foldl (placeBlock ox oy lx ly nx ny) (gridMap 3 (K * nx * ny) β)).att 0
        (vid2 (place.foldl (placeBlock ox oy lx ly nx ny) (gridMap 3 (K * nx * ny) β)) d) =
      some (coord ox oy lx ly (pt K cdx cdy nx d)) := by
  obtain ⟨hI, _, hdone⟩ := fold_inv (placeBlock ox oy lx ly nx ny) (PInv ox oy lx ly K cdx cdy nx ny β)
    (fun blk m => ∀ c, c ∈ placeCells nx ny blk.1 → Done ox oy lx ly K cdx cdy nx ny β blk c m) (GoodBlk K cdx cdy)
    (by
      intro blk m m' _ hdn _ hm c hc
      have := hdn c hc
      unfold Done at this ⊢
      exact hm _ _ this)
    (fun m blk hb hI => placeBlock_step ox oy lx ly Sp hb hI)
    place (gridMap 3 (K * nx * ny) β) P.good (gridMap_pinv ox oy lx ly)
  obtain ⟨hi, hj⟩ := Sp.pt_le hd
  obtain ⟨blk, hblk, c, hc, hc1, hc2, hpc⟩ := P.covers hi hj
  have hdn := hdone blk hblk c hc
  unfold Done at hdn
  have hd2 : IsDart K nx ny (dartOf K nx ny c.1 c.2 0 (blk.2.1 - 1)) :=
    ⟨c.1, c.2, blk.2.1 - 1, hc1, hc2, by have := (P.good blk hblk).2.2.1; have := (P.good blk hblk).2.1; omega, rfl⟩
  rw [Sp.vid_same hI.st (SameTopo.refl _) hd hd2 (by rw [hpc]), hdn, hpc]

theorem Spec.vertices {place : List (Nat × Nat × Nat × Nat × Nat)} (P : Placement K cdx cdy nx ny place)
    {m : Map Val} (hm : m = place.foldl (placeBlock ox oy lx ly nx ny) (gridMap 3 (K * nx * ny) β)) :
    (∀ d e, IsDart K nx ny d → IsDart K nx ny e →
      (vid2 m d = vid2 m e ↔ pt K cdx cdy nx d = pt K cdx cdy nx e)) ∧
    (∀ d, IsDart K nx ny d → (pt K cdx cdy nx d).1 ≤ nx ∧ (pt K cdx cdy nx d).2 ≤ ny ∧
      m.att 0 (vid2 m d) =
        some (.pt (ox + ((pt K cdx cdy nx d).1 : Rat) * lx) (oy + ((pt K cdx cdy nx d).2 : Rat) * ly) 0)) ∧
    (∀ i j, i ≤ nx → j ≤ ny → ∃ d, IsDart K nx ny d ∧ pt K cdx cdy nx d = (i, j)) ∧
    (∀ d, 1 ≤ d → d ≤ K * nx * ny → IsDart K nx ny d) := by
  have st : SameTopo (gridMap 3 (K * nx * ny) β) m :=
    hm ▸ sameTopo_foldl _ (sameTopo_placeBlock ox oy lx ly nx ny) _ _
  refine ⟨?_, ?_, ?_, fun d h1 h2 => isDart_of_range Sp.Kpos Sp.nxpos Sp.nypos h1 h2⟩
  · intro d e hd he
    constructor
    · intro h
      rw [← (Sp.vid_pt st hd).1, ← (Sp.vid_pt st he).1, h]
    · exact Sp.vid_same st st hd he
  · intro d hd
    refine ⟨(Sp.pt_le hd).1, (Sp.pt_le hd).2, ?_⟩
    subst hm
    exact Sp.att ox oy lx ly P hd
  · exact fun i j hi hj => P.dart hi hj

theorem Spec.iterVertices_length {place : List (Nat × Nat × Nat × Nat × Nat)} (P : Placement K cdx cdy nx ny place)
    {m : Map Val} (st : SameTopo (gridMap 3 (K * nx * ny) β) m) :
    (iterVertices2 m).length = (nx + 1) * (ny + 1) := by
  have hn : m.n = K * nx * ny + 1 := st.n
  have e : iterVertices2 m = (List.range m.n).filter (fun d => decide (d ≠ 0 ∧ vid2 m d = d)) := by
    apply iterCells_eq_filter
    · exact gridMap_unused_of st
    · simp
    · intro d h1 _
      have : d ≠ 0 := by omega
      simp [this, vid2]
  rw [e, hn]
  refine count_ids (IsD := IsDart K nx ny) (key := pt K cdx cdy nx) (code := code2 nx)
    (V := fun p => p.1 ≤ nx ∧ p.2 ≤ ny)
    (fun d h1 h2 => isDart_of_range Sp.Kpos Sp.nxpos Sp.nypos h1 (by omega)) ?_ (fun d e => Sp.vid_same st st)
    (fun d hd => ⟨Sp.vid_isDart st hd, (Sp.vid_pt st hd).1⟩) (fun d => Sp.pt_le)
    (fun k k' h h' => code2_inj h.1 h'.1) (fun k h => code2_lt h.1 h.2) ?_
  · rintro d ⟨a, b, k, ha, hb, hk, rfl⟩
    exact ⟨dart_ne_zero, dart_lt ha hb hk⟩
  · intro t ht
    obtain ⟨i, j, hi, hj, rfl⟩ := code2_surj ht
    obtain ⟨d, hd, hp⟩ := P.dart hi hj
    exact ⟨d, hd, by rw [hp]⟩

end Place

end HC.GridLattice

/-! ## edges and faces of a grid given by a shape -/

namespace HC.GridEdge
open HC

variable {nx ny : Nat} {m : Map Val}

/-- non-transactional `edge_id` -/
def eid2 (m : Map Val) (d : Nat) : Nat := okVal (run (edgeId2 d) m) 0

theorem eid2_eq (wf : WF 3 m) {d : Nat} (hd : d < m.n) :
    eid2 m d = if m.β 2 d = 0 then d else min (m.β 2 d) d := by
  unfold eid2 edgeId2
  simp only [Prog.bind_eq, run_rB, wf.okβ_of_lt (by decide : 2 < 3) hd, if_true]
  split <;> rfl

/-- entry `(dir, o)` of the β2 column at local dart `k` of cell `(a, b)`: the glued dart does not exist or comes
    later -/
def EdgeFirst (dir o a b k : Nat) : Prop :=
  match dir with
  | 0 => k < o
  | 1 => a = 0
  | 3 => b = 0
  | _ => True

theorem eid_iff_of_shape (S : Shape) (hS : S.Ok) (wf : WF 3 m) (hn : m.n = S.K * nx * ny + 1)
    (hβ : ∀ {a b o i : Nat}, a < nx → b < ny → o < S.K → i < 3 →
      m.β i (dartOf S.K nx ny a b 0 o) = absEntry S.K nx ny 1 a b 0 (S.at o i).1 (S.at o i).2)
    {a b k : Nat} (ha : a < nx) (hb : b < ny) (hk : k < S.K) (h4 : (S.at k 2).1 ≤ 4) :
    eid2 m (dartOf S.K nx ny a b 0 k) = dartOf S.K nx ny a b 0 k ↔
      EdgeFirst (S.at k 2).1 (S.at k 2).2 a b k := by
  obtain ⟨_, hnb, hbound, _, hinv⟩ := hS
  have ho := (hbound k hk 2 (by omega)).1
  have hfix := (hinv k hk 2 (by omega) (Nat.le_refl 2)).2
  have hdn : dartOf S.K nx ny a b 0 k < m.n := by rw [hn]; exact GridLattice.dart_lt ha hb hk
  have pos : ∀ a' b' o', dartOf S.K nx ny a' b' 0 o' ≠ 0 := fun _ _ _ => GridLattice.dart_ne_zero
  have fxp := cellIdx_xp nx ny a b 0
  have fyp := cellIdx_yp nx ny a b 0
  have fxm := cellIdx_xm nx ny a b 0
  have fym := cellIdx_ym nx ny a b 0
  rw [eid2_eq wf hdn, hβ ha hb hk (by decide)]
  generalize (S.at k 2).2 = o at ho hfix ⊢
  generalize (S.at k 2).1 = dir at h4 hfix ⊢
  have d5 : dir = 0 ∨ dir = 1 ∨ dir = 2 ∨ dir = 3 ∨ dir = 4 := by omega
  rcases d5 with rfl | rfl | rfl | rfl | rfl <;> simp only [absEntry, EdgeFirst]
  · have hne := hfix rfl
    rw [if_neg (pos _ _ _)]
    unfold dartOf
    omega
  · by_cases h : a = 0
    · simp only [h, if_true]
    · have hlt : dartOf S.K nx ny (a - 1) b 0 o < dartOf S.K nx ny a b 0 k := dartOf_lt_of_cell ho (by omega)
      rw [if_neg h, if_neg (pos _ _ _)]
      constructor <;> intro e <;> omega
  · by_cases h : a + 1 = nx
    · simp only [h, if_true]
    · have hlt : dartOf S.K nx ny a b 0 k < dartOf S.K nx ny (a + 1) b 0 o := dartOf_lt_of_cell hk (by omega)
      rw [if_neg h, if_neg (pos _ _ _)]
      constructor <;> intro _ <;> first | trivial | omega
  · by_cases h : b = 0
    · simp only [h, if_true]
    · have hlt : dartOf S.K nx ny a (b - 1) 0 o < dartOf S.K nx ny a b 0 k := dartOf_lt_of_cell ho (by omega)
      rw [if_neg h, if_neg (pos _ _ _)]
      constructor <;> intro e <;> omega
  · by_cases h : b + 1 = ny
    · simp only [h, if_true]
    · have hlt : dartOf S.K nx ny a b 0 k < dartOf S.K nx ny a (b + 1) 0 o := dartOf_lt_of_cell hk (by omega)
      rw [if_neg h, if_neg (pos _ _ _)]
      constructor <;> intro _ <;> first | trivial | omega

end HC.GridEdge

namespace HC.GridFace
open HC

variable {nx ny : Nat} {m : Map Val}

theorem dart_decode {K x a b : Nat} (hK : 0 < K) (hx0 : x ≠ 0) (hc : (x - 1) / K = cellIdx nx ny a b 0) :
    ∃ j, j < K ∧ (x - 1) % K = j ∧ x = dartOf K nx ny a b 0 j := by
  refine ⟨_, Nat.mod_lt _ hK, rfl, ?_⟩
  have := Nat.div_add_mod (x - 1) K
  rw [hc] at this
  unfold dartOf
  omega

/-- `face_id` in a cell whose β1 / β0 act on the local indices by `s` / `p`: the smallest local dart `r k` of the
    β1-cycle of `k`.  `facts` is a finite check: the cycles are closed, `r` is constant on them, and
    `p` walks down to it. -/
theorem fid_of_cycle {K : Nat} (wf : WF 3 m) (hn : m.n = K * nx * ny + 1) {s p r : Nat → Nat}
    (facts : ∀ k, k < K → s k < K ∧ p k < K ∧ r (s k) = r k ∧ r (p k) = r k ∧ (r k = k ∨ p k < k))
    {a b : Nat} (ha : a < nx) (hb : b < ny)
    (hβ1 : ∀ k, k < K → m.β 1 (dartOf K nx ny a b 0 k) = dartOf K nx ny a b 0 (s k))
    (hβ0 : ∀ k, k < K → m.β 0 (dartOf K nx ny a b 0 k) = dartOf K nx ny a b 0 (p k))
    {k : Nat} (hk : k < K) :
    okVal (run (faceId2 m.n (dartOf K nx ny a b 0 k)) m) 0 = dartOf K nx ny a b 0 (r k) := by
  have hdn : dartOf K nx ny a b 0 k < m.n := by rw [hn]; exact GridLattice.dart_lt ha hb hk
  have hK : 0 < K := by omega
  rw [(C03.C03_faceId2_min wf GridLattice.dart_ne_zero hdn).1]
  -- key: the cell and the representative of the cycle; canonical: the representative itself
  obtain ⟨v0, _, hc, hkey⟩ := cidG_canon (C03.g2_ok wf .face trivial)
    (key := fun x => ((x - 1) / K, r ((x - 1) % K))) (C := fun x => r ((x - 1) % K) = (x - 1) % K)
    (d := dartOf K nx ny a b 0 k)
    (fun x h0 _ hx y hy => by
      simp only [dartOf_cell hk, dartOf_local hk, Prod.mk.injEq] at hx ⊢
      obtain ⟨j, hj, ej, rfl⟩ := dart_decode hK h0 hx.1
      obtain ⟨f1, f2, f3, f4, _⟩ := facts j hj
      right
      simp only [C03.g2, List.mem_cons, List.not_mem_nil, or_false] at hy
      rcases hy with rfl | rfl
      · rw [hβ1 j hj, dartOf_cell f1, dartOf_local f1, f3, ← ej]
        exact ⟨rfl, hx.2⟩
      · rw [hβ0 j hj, dartOf_cell f2, dartOf_local f2, f4, ← ej]
        exact ⟨rfl, hx.2⟩)
    (fun x h0 _ hx hc => by
      simp only [dartOf_cell hk, Prod.mk.injEq] at hx
      obtain ⟨j, hj, ej, rfl⟩ := dart_decode hK h0 hx.1
      rw [ej] at hc
      have f6 := (facts j hj).2.2.2.2.resolve_left hc
      refine ⟨m.β 0 (dartOf K nx ny a b 0 j), by simp [C03.g2], ?_, ?_⟩
      · rw [hβ0 j hj]
        exact GridLattice.dart_ne_zero
      · rw [hβ0 j hj]
        exact Nat.add_lt_add_left f6 _)
    GridLattice.dart_ne_zero hdn
  change cidG (C03.g2 m .face) m.n _ = _
  simp only [dartOf_cell hk, dartOf_local hk, Prod.mk.injEq] at hkey
  obtain ⟨j, _, ej, e⟩ := dart_decode hK v0 hkey.1
  rw [ej] at hc hkey
  rw [e, ← hkey.2, hc]

end HC.GridFace

/-
  Theory of the idealised binary rounding `HC.Geo.rnd` (Model/Rounding.lean):
  round to nearest, ties to even, `p ≥ 1` significant bits, unbounded exponent range
  (overflow and underflow are EXCLUDED, not modelled).

  Main results (namespace `HC.Rounding`; `p ≥ 1` where stated):
    rnd_zero, rnd_neg (odd), rnd_monotone, rnd_rel_error (|rnd x − x| ≤ 2⁻ᵖ·|x|), rnd_abs_error_le,
    rnd_of_representable (exact on n·2^e with |n| ≤ 2^p), rnd_fixes_small_integers, rnd_idempotent,
    representable_rnd, rnd_two_mul / rnd_mul_pow2 (scaling by powers of two commutes with rounding).
-/
import Honeycomb.Model.Rounding
import Mathlib.Tactic.Ring
import Mathlib.Tactic.Linarith
import Mathlib.Tactic.Positivity
import Mathlib.Tactic.FieldSimp
import Mathlib.Tactic.NormNum
import Mathlib.Algebra.Order.Field.Power
import Mathlib.Algebra.Order.Field.Rat

namespace HC.Rounding
open HC.Geo

/-! ## powers of two -/

theorem pow2_eq (k : Int) : pow2 k = (2 : ℚ) ^ k := by
  cases k with
  | ofNat n =>
    simp only [pow2, Int.ofNat_eq_natCast, zpow_natCast]
    push_cast; rfl
  | negSucc n =>
    simp only [pow2, zpow_negSucc, one_div]
    push_cast; rfl

theorem two_zpow_pos (k : Int) : (0 : ℚ) < 2 ^ k := zpow_pos (by norm_num) k

theorem two_zpow_le {a b : Int} (h : a ≤ b) : (2 : ℚ) ^ a ≤ 2 ^ b :=
  zpow_le_zpow_right₀ (by norm_num) h

theorem two_zpow_lt_iff {a b : Int} : (2 : ℚ) ^ a < 2 ^ b ↔ a < b :=
  zpow_lt_zpow_iff_right₀ (by norm_num)

theorem two_zpow_le_iff {a b : Int} : (2 : ℚ) ^ a ≤ 2 ^ b ↔ a ≤ b :=
  zpow_le_zpow_iff_right₀ (by norm_num)

theorem two_zpow_add (a b : Int) : (2 : ℚ) ^ (a + b) = 2 ^ a * 2 ^ b := zpow_add₀ (by norm_num) a b

theorem two_zpow_sub (a b : Int) : (2 : ℚ) ^ (a - b) = 2 ^ a / 2 ^ b := zpow_sub₀ (by norm_num) a b

theorem two_zpow_succ (a : Int) : (2 : ℚ) ^ (a + 1) = 2 ^ a * 2 := zpow_add_one₀ (by norm_num) a

/-! ## `ilog2` -/

theorem ilog2_spec {a : ℚ} (ha : 0 < a) :
    (2 : ℚ) ^ ilog2 a ≤ a ∧ a < (2 : ℚ) ^ (ilog2 a + 1) := by
  have hnum : 0 < a.num := Rat.num_pos.mpr ha
  have hn0 : a.num.natAbs ≠ 0 := by omega
  have hd0 : a.den ≠ 0 := a.den_nz
  have hnabs : ((a.num.natAbs : ℕ) : ℚ) = (a.num : ℚ) := by
    have : ((a.num.natAbs : ℕ) : ℤ) = a.num := Int.natAbs_of_nonneg hnum.le
    rw [← Int.cast_natCast, this]
  have hdpos : (0 : ℚ) < a.den := by exact_mod_cast Nat.pos_of_ne_zero hd0
  have ha_eq : a = (a.num.natAbs : ℚ) / (a.den : ℚ) := by
    rw [hnabs]; exact (Rat.num_div_den a).symm
  -- bit-length bounds, cast to ℚ
  have n_lo : (2 : ℚ) ^ (a.num.natAbs.log2 : ℤ) ≤ (a.num.natAbs : ℚ) := by
    rw [zpow_natCast]; exact_mod_cast Nat.log2_self_le hn0
  have n_hi : (a.num.natAbs : ℚ) < (2 : ℚ) ^ ((a.num.natAbs.log2 : ℤ) + 1) := by
    have : ((a.num.natAbs.log2 : ℤ) + 1) = ((a.num.natAbs.log2 + 1 : ℕ) : ℤ) := by push_cast; rfl
    rw [this, zpow_natCast]; exact_mod_cast Nat.lt_log2_self (n := a.num.natAbs)
  have d_lo : (2 : ℚ) ^ (a.den.log2 : ℤ) ≤ (a.den : ℚ) := by
    rw [zpow_natCast]; exact_mod_cast Nat.log2_self_le hd0
  have d_hi : (a.den : ℚ) < (2 : ℚ) ^ ((a.den.log2 : ℤ) + 1) := by
    have : ((a.den.log2 : ℤ) + 1) = ((a.den.log2 + 1 : ℕ) : ℤ) := by push_cast; rfl
    rw [this, zpow_natCast]; exact_mod_cast Nat.lt_log2_self (n := a.den)
  set ln : ℤ := (a.num.natAbs.log2 : ℤ) with hln
  set ld : ℤ := (a.den.log2 : ℤ) with hld
  -- 2^(k-1) < a < 2^(k+1) with k = ln - ld
  have up : a < (2 : ℚ) ^ (ln - ld + 1) := by
    have e : (2 : ℚ) ^ (ln - ld + 1) = 2 ^ (ln + 1) / 2 ^ ld := by
      rw [← two_zpow_sub]; congr 1; ring
    rw [e, ha_eq, div_lt_div_iff₀ hdpos (two_zpow_pos _)]
    calc (a.num.natAbs : ℚ) * 2 ^ ld ≤ (a.num.natAbs : ℚ) * a.den :=
          mul_le_mul_of_nonneg_left d_lo (by positivity)
      _ < 2 ^ (ln + 1) * a.den := mul_lt_mul_of_pos_right n_hi hdpos
  have lo : (2 : ℚ) ^ (ln - ld - 1) < a := by
    have e : (2 : ℚ) ^ (ln - ld - 1) = 2 ^ ln / 2 ^ (ld + 1) := by
      rw [← two_zpow_sub]; congr 1; ring
    rw [e, ha_eq, div_lt_div_iff₀ (two_zpow_pos _) hdpos]
    calc (2 : ℚ) ^ ln * a.den < 2 ^ ln * 2 ^ (ld + 1) :=
          mul_lt_mul_of_pos_left d_hi (two_zpow_pos _)
      _ ≤ (a.num.natAbs : ℚ) * 2 ^ (ld + 1) := mul_le_mul_of_nonneg_right n_lo (two_zpow_pos _).le
  unfold ilog2
  simp only [← hln, ← hld, pow2_eq]
  split
  · rename_i h; exact ⟨h, up⟩
  · rename_i h
    refine ⟨lo.le, ?_⟩
    have : ln - ld - 1 + 1 = ln - ld := by ring
    rw [this]; exact not_le.mp h

theorem ilog2_lt_of_lt {a : ℚ} (ha : 0 < a) {j : Int} (h : a < (2 : ℚ) ^ j) : ilog2 a < j :=
  two_zpow_lt_iff.mp (lt_of_le_of_lt (ilog2_spec ha).1 h)

theorem le_ilog2_of_le {a : ℚ} (ha : 0 < a) {j : Int} (h : (2 : ℚ) ^ j ≤ a) : j ≤ ilog2 a := by
  have := two_zpow_lt_iff.mp (lt_of_le_of_lt h (ilog2_spec ha).2)
  omega

theorem ilog2_mono {a b : ℚ} (ha : 0 < a) (hab : a ≤ b) : ilog2 a ≤ ilog2 b :=
  le_ilog2_of_le (lt_of_lt_of_le ha hab) (le_trans (ilog2_spec ha).1 hab)

theorem ilog2_eq {a : ℚ} (ha : 0 < a) {j : Int} (h1 : (2 : ℚ) ^ j ≤ a) (h2 : a < (2 : ℚ) ^ (j + 1)) :
    ilog2 a = j := by
  have := le_ilog2_of_le ha h1
  have := ilog2_lt_of_lt ha h2
  omega

/-! ## nearest integer, ties to even -/

theorem roundEven_cases (m : ℚ) :
    (roundEven m = m.floor ∧ m - (m.floor : ℚ) ≤ 1 / 2) ∨
      (roundEven m = m.floor + 1 ∧ 1 / 2 ≤ m - (m.floor : ℚ)) := by
  unfold roundEven
  simp only
  split
  · rename_i hA
    exact Or.inl ⟨rfl, hA.le⟩
  · rename_i hA
    split
    · rename_i hB
      exact Or.inr ⟨rfl, hB.le⟩
    · rename_i hB
      split
      · exact Or.inl ⟨rfl, not_lt.mp hB⟩
      · exact Or.inr ⟨rfl, not_lt.mp hA⟩

theorem frac_bounds (m : ℚ) : 0 ≤ m - (m.floor : ℚ) ∧ m - (m.floor : ℚ) < 1 := by
  have h2 := Rat.lt_floor_add_one m
  push_cast at h2
  exact ⟨sub_nonneg.mpr (Rat.floor_le m), sub_lt_iff_lt_add'.mpr h2⟩

theorem roundEven_error (m : ℚ) : |((roundEven m : ℤ) : ℚ) - m| ≤ 1 / 2 := by
  obtain ⟨h0, h1⟩ := frac_bounds m
  rcases roundEven_cases m with ⟨e, h⟩ | ⟨e, h⟩
  · rw [e, abs_sub_comm, abs_of_nonneg h0]
    exact h
  · rw [e, abs_le]
    push_cast
    constructor <;> linarith

theorem roundEven_intCast (n : ℤ) : roundEven (n : ℚ) = n := by
  unfold roundEven
  simp only [Rat.floor_intCast, sub_self]
  norm_num

theorem roundEven_of_lt {m : ℚ} (h : m - (m.floor : ℚ) < 1 / 2) : roundEven m = m.floor := by
  unfold roundEven; simp only [h, if_true]

theorem roundEven_of_gt {m : ℚ} (h : 1 / 2 < m - (m.floor : ℚ)) : roundEven m = m.floor + 1 := by
  unfold roundEven; simp only [not_lt.mpr h.le, h, if_true, if_false]

theorem roundEven_of_tie_even {m : ℚ} (h : m - (m.floor : ℚ) = 1 / 2) (he : m.floor % 2 = 0) :
    roundEven m = m.floor := by
  unfold roundEven; simp only [h, lt_irrefl, he, if_true, if_false]

theorem roundEven_of_tie_odd {m : ℚ} (h : m - (m.floor : ℚ) = 1 / 2) (he : ¬ m.floor % 2 = 0) :
    roundEven m = m.floor + 1 := by
  unfold roundEven; simp only [h, lt_irrefl, he, if_false]

theorem roundEven_mono {m m' : ℚ} (h : m ≤ m') : roundEven m ≤ roundEven m' := by
  have hf : m.floor ≤ m'.floor := Rat.floor_monotone h
  have a := (roundEven_cases m).imp And.left And.left
  have b := (roundEven_cases m').imp And.left And.left
  rcases lt_or_eq_of_le hf with hlt | heq
  · omega
  · -- same floor: compare the fractional parts
    have hr : m - (m.floor : ℚ) ≤ m' - (m'.floor : ℚ) := by rw [← heq]; linarith
    rcases lt_trichotomy (m - (m.floor : ℚ)) (1 / 2) with h1 | h1 | h1
    · rw [roundEven_of_lt h1]; omega
    · rcases lt_trichotomy (m' - (m'.floor : ℚ)) (1 / 2) with h2 | h2 | h2
      · linarith
      · by_cases he : m.floor % 2 = 0
        · rw [roundEven_of_tie_even h1 he]; omega
        · rw [roundEven_of_tie_odd h1 he, roundEven_of_tie_odd h2 (heq ▸ he)]; omega
      · rw [roundEven_of_gt h2]; omega
    · rw [roundEven_of_gt h1, roundEven_of_gt (lt_of_lt_of_le h1 hr)]; omega

/-! ## rounding of positive numbers -/

theorem rndPos_def (p : ℕ) (a : ℚ) :
    rndPos p a = ((roundEven (a / 2 ^ (ilog2 a - ((p : ℤ) - 1))) : ℤ) : ℚ) * 2 ^ (ilog2 a - ((p : ℤ) - 1)) := by
  simp only [rndPos, pow2_eq]

/-- `2^(p-1)` as a rational zpow, for `p ≥ 1` -/
theorem zpow_pred_cast {p : ℕ} (hp : 0 < p) : (2 : ℚ) ^ ((p : ℤ) - 1) = (((2 : ℤ) ^ (p - 1) : ℤ) : ℚ) := by
  have : ((p : ℤ) - 1) = ((p - 1 : ℕ) : ℤ) := by omega
  rw [this, zpow_natCast]; push_cast; rfl

theorem zpow_cast (p : ℕ) : (2 : ℚ) ^ (p : ℤ) = (((2 : ℤ) ^ p : ℤ) : ℚ) := by
  rw [zpow_natCast]; push_cast; rfl

theorem signif_bounds (p : ℕ) {a : ℚ} (ha : 0 < a) :
    (2 : ℚ) ^ ((p : ℤ) - 1) ≤ a / 2 ^ (ilog2 a - ((p : ℤ) - 1)) ∧
    a / 2 ^ (ilog2 a - ((p : ℤ) - 1)) < (2 : ℚ) ^ (p : ℤ) := by
  obtain ⟨h1, h2⟩ := ilog2_spec ha
  have hpos := two_zpow_pos (ilog2 a - ((p : ℤ) - 1))
  constructor
  · rw [le_div_iff₀ hpos, ← two_zpow_add]
    have : (p : ℤ) - 1 + (ilog2 a - ((p : ℤ) - 1)) = ilog2 a := by ring
    rw [this]; exact h1
  · rw [div_lt_iff₀ hpos, ← two_zpow_add]
    have : (p : ℤ) + (ilog2 a - ((p : ℤ) - 1)) = ilog2 a + 1 := by ring
    rw [this]; exact h2

theorem roundEven_signif_bounds {p : ℕ} (hp : 0 < p) {a : ℚ} (ha : 0 < a) :
    (2 : ℚ) ^ ((p : ℤ) - 1) ≤ ((roundEven (a / 2 ^ (ilog2 a - ((p : ℤ) - 1))) : ℤ) : ℚ) ∧
    ((roundEven (a / 2 ^ (ilog2 a - ((p : ℤ) - 1))) : ℤ) : ℚ) ≤ (2 : ℚ) ^ (p : ℤ) := by
  obtain ⟨h1, h2⟩ := signif_bounds p ha
  constructor
  · rw [zpow_pred_cast hp] at h1 ⊢
    have := roundEven_mono h1
    rw [roundEven_intCast] at this
    exact_mod_cast this
  · rw [zpow_cast] at h2 ⊢
    have := roundEven_mono h2.le
    rw [roundEven_intCast] at this
    exact_mod_cast this

theorem rndPos_bounds {p : ℕ} (hp : 0 < p) {a : ℚ} (ha : 0 < a) :
    (2 : ℚ) ^ ilog2 a ≤ rndPos p a ∧ rndPos p a ≤ (2 : ℚ) ^ (ilog2 a + 1) := by
  obtain ⟨h1, h2⟩ := roundEven_signif_bounds hp ha
  have hpos := two_zpow_pos (ilog2 a - ((p : ℤ) - 1))
  rw [rndPos_def]
  constructor
  · have e : (2 : ℚ) ^ ilog2 a = 2 ^ ((p : ℤ) - 1) * 2 ^ (ilog2 a - ((p : ℤ) - 1)) := by
      rw [← two_zpow_add]; congr 1; ring
    rw [e]; exact mul_le_mul_of_nonneg_right h1 hpos.le
  · have e : (2 : ℚ) ^ (ilog2 a + 1) = 2 ^ (p : ℤ) * 2 ^ (ilog2 a - ((p : ℤ) - 1)) := by
      rw [← two_zpow_add]; congr 1; ring
    rw [e]; exact mul_le_mul_of_nonneg_right h2 hpos.le

theorem rndPos_pos {p : ℕ} (hp : 0 < p) {a : ℚ} (ha : 0 < a) : 0 < rndPos p a :=
  lt_of_lt_of_le (two_zpow_pos _) (rndPos_bounds hp ha).1

/-- absolute error: half a unit in the last place, `2^(ilog2 a − p)` -/
theorem rndPos_abs_error (p : ℕ) (a : ℚ) :
    |rndPos p a - a| ≤ (2 : ℚ) ^ (ilog2 a - (p : ℤ)) := by
  have hpos := two_zpow_pos (ilog2 a - ((p : ℤ) - 1))
  have herr := roundEven_error (a / 2 ^ (ilog2 a - ((p : ℤ) - 1)))
  rw [rndPos_def]
  have e : ((roundEven (a / 2 ^ (ilog2 a - ((p : ℤ) - 1))) : ℤ) : ℚ) * 2 ^ (ilog2 a - ((p : ℤ) - 1)) - a
      = (((roundEven (a / 2 ^ (ilog2 a - ((p : ℤ) - 1))) : ℤ) : ℚ) - a / 2 ^ (ilog2 a - ((p : ℤ) - 1)))
        * 2 ^ (ilog2 a - ((p : ℤ) - 1)) := by
    field_simp
  rw [e, abs_mul, abs_of_pos hpos]
  have e2 : (2 : ℚ) ^ (ilog2 a - (p : ℤ)) = 1 / 2 * 2 ^ (ilog2 a - ((p : ℤ) - 1)) := by
    have : ilog2 a - ((p : ℤ) - 1) = (ilog2 a - (p : ℤ)) + 1 := by ring
    rw [this, two_zpow_succ]; ring
  rw [e2]
  exact mul_le_mul_of_nonneg_right herr hpos.le

theorem rndPos_rel_error (p : ℕ) {a : ℚ} (ha : 0 < a) :
    |rndPos p a - a| ≤ (2 : ℚ) ^ (-(p : ℤ)) * a := by
  refine (rndPos_abs_error p a).trans ?_
  have e : (2 : ℚ) ^ (ilog2 a - (p : ℤ)) = 2 ^ (-(p : ℤ)) * 2 ^ ilog2 a := by
    rw [← two_zpow_add]; congr 1; ring
  rw [e]
  exact mul_le_mul_of_nonneg_left (ilog2_spec ha).1 (two_zpow_pos _).le

theorem rndPos_mono {p : ℕ} (hp : 0 < p) {a b : ℚ} (ha : 0 < a) (hab : a ≤ b) :
    rndPos p a ≤ rndPos p b := by
  have hb : 0 < b := lt_of_lt_of_le ha hab
  rcases lt_or_eq_of_le (ilog2_mono ha hab) with hlt | heq
  · calc rndPos p a ≤ (2 : ℚ) ^ (ilog2 a + 1) := (rndPos_bounds hp ha).2
      _ ≤ (2 : ℚ) ^ ilog2 b := two_zpow_le (by omega)
      _ ≤ rndPos p b := (rndPos_bounds hp hb).1
  · rw [rndPos_def, rndPos_def, heq]
    have hpos := two_zpow_pos (ilog2 b - ((p : ℤ) - 1))
    apply mul_le_mul_of_nonneg_right _ hpos.le
    have : a / 2 ^ (ilog2 b - ((p : ℤ) - 1)) ≤ b / 2 ^ (ilog2 b - ((p : ℤ) - 1)) :=
      div_le_div_of_nonneg_right hab hpos.le
    exact_mod_cast roundEven_mono this

theorem rndPos_exact {p : ℕ} (hp : 0 < p) {n e : ℤ} (hn : 0 < n) (hle : n ≤ 2 ^ p) :
    rndPos p ((n : ℚ) * 2 ^ e) = (n : ℚ) * 2 ^ e := by
  have hnq : (0 : ℚ) < n := by exact_mod_cast hn
  have ha : (0 : ℚ) < (n : ℚ) * 2 ^ e := mul_pos hnq (two_zpow_pos e)
  set a : ℚ := (n : ℚ) * 2 ^ e with ha_def
  have hle' : (n : ℚ) ≤ (2 : ℚ) ^ (p : ℤ) := by rw [zpow_cast]; exact_mod_cast hle
  -- ilog2 a ≤ p + e
  have hup : a < (2 : ℚ) ^ ((p : ℤ) + e + 1) := by
    have : (2 : ℚ) ^ ((p : ℤ) + e + 1) = 2 ^ (p : ℤ) * 2 ^ e * 2 := by
      rw [two_zpow_succ, two_zpow_add]
    rw [this, ha_def]
    have := mul_le_mul_of_nonneg_right hle' (two_zpow_pos e).le
    have := mul_pos (two_zpow_pos (p : ℤ)) (two_zpow_pos e)
    linarith
  have hL : ilog2 a ≤ (p : ℤ) + e := by have := ilog2_lt_of_lt ha hup; omega
  rw [rndPos_def]
  -- the significand is an integer
  have key : ∃ k : ℤ, a / 2 ^ (ilog2 a - ((p : ℤ) - 1)) = (k : ℚ) := by
    rcases lt_or_eq_of_le hL with hlt | heq
    · -- e ≥ exponent: n·2^(e - e₀)
      have hd : 0 ≤ e - (ilog2 a - ((p : ℤ) - 1)) := by omega
      obtain ⟨d, hd'⟩ := Int.eq_ofNat_of_zero_le hd
      refine ⟨n * 2 ^ d, ?_⟩
      rw [ha_def, mul_div_assoc, ← two_zpow_sub, hd', zpow_natCast]
      push_cast; rfl
    · -- ilog2 a = p + e forces n = 2^p
      have h2 : (2 : ℚ) ^ ((p : ℤ) + e) ≤ a := by rw [← heq]; exact (ilog2_spec ha).1
      rw [two_zpow_add, ha_def] at h2
      have hge : (2 : ℚ) ^ (p : ℤ) ≤ n := le_of_mul_le_mul_right h2 (two_zpow_pos e)
      have hn_eq : (n : ℚ) = (2 : ℚ) ^ (p : ℤ) := le_antisymm hle' hge
      refine ⟨2 ^ (p - 1), ?_⟩
      rw [heq, ha_def, hn_eq, ← two_zpow_add, ← two_zpow_sub]
      have : (p : ℤ) + e - ((p : ℤ) + e - ((p : ℤ) - 1)) = ((p - 1 : ℕ) : ℤ) := by omega
      rw [this, zpow_natCast]; push_cast; rfl
  obtain ⟨k, hk⟩ := key
  rw [hk, roundEven_intCast, ← hk]
  field_simp

/-- scaling by a power of two commutes with rounding (the exponent range is unbounded) -/
theorem rndPos_mul_pow2 (p : ℕ) {a : ℚ} (ha : 0 < a) (j : ℤ) :
    rndPos p (a * 2 ^ j) = rndPos p a * 2 ^ j := by
  have haj : 0 < a * (2 : ℚ) ^ j := mul_pos ha (two_zpow_pos j)
  obtain ⟨h1, h2⟩ := ilog2_spec ha
  have hL : ilog2 (a * 2 ^ j) = ilog2 a + j := by
    apply ilog2_eq haj
    · rw [two_zpow_add]; exact mul_le_mul_of_nonneg_right h1 (two_zpow_pos j).le
    · have : ilog2 a + j + 1 = (ilog2 a + 1) + j := by ring
      rw [this, two_zpow_add]; exact mul_lt_mul_of_pos_right h2 (two_zpow_pos j)
  rw [rndPos_def, rndPos_def, hL]
  have e1 : ilog2 a + j - ((p : ℤ) - 1) = (ilog2 a - ((p : ℤ) - 1)) + j := by ring
  rw [e1, two_zpow_add]
  have hj := (two_zpow_pos j).ne'
  have hq := (two_zpow_pos (ilog2 a - ((p : ℤ) - 1))).ne'
  have e2 : a * 2 ^ j / (2 ^ (ilog2 a - ((p : ℤ) - 1)) * 2 ^ j) = a / 2 ^ (ilog2 a - ((p : ℤ) - 1)) := by
    field_simp
  rw [e2]; ring

/-! ## `rnd`: all signs -/

theorem rnd_zero (p : ℕ) : rnd p 0 = 0 := by simp [rnd]

theorem rnd_of_pos (p : ℕ) {x : ℚ} (hx : 0 < x) : rnd p x = rndPos p x := by
  simp [rnd, hx.ne', hx]

theorem rnd_of_neg (p : ℕ) {x : ℚ} (hx : x < 0) : rnd p x = -rndPos p (-x) := by
  simp [rnd, hx.ne, not_lt.mpr hx.le]

theorem rnd_neg (p : ℕ) (x : ℚ) : rnd p (-x) = -rnd p x := by
  rcases lt_trichotomy x 0 with h | h | h
  · rw [rnd_of_neg p h, rnd_of_pos p (neg_pos.mpr h), neg_neg]
  · subst h; simp [rnd_zero]
  · rw [rnd_of_pos p h, rnd_of_neg p (neg_neg_of_pos h), neg_neg]

theorem rnd_pos {p : ℕ} (hp : 0 < p) {x : ℚ} (hx : 0 < x) : 0 < rnd p x := by
  rw [rnd_of_pos p hx]; exact rndPos_pos hp hx

theorem rnd_neg_of_neg {p : ℕ} (hp : 0 < p) {x : ℚ} (hx : x < 0) : rnd p x < 0 := by
  rw [rnd_of_neg p hx]; exact neg_neg_of_pos (rndPos_pos hp (neg_pos.mpr hx))

/-- **relative error** `|rnd x − x| ≤ 2⁻ᵖ·|x|` (unit roundoff `u = 2⁻ᵖ`) -/
theorem rnd_rel_error (p : ℕ) (x : ℚ) : |rnd p x - x| ≤ (2 : ℚ) ^ (-(p : ℤ)) * |x| := by
  rcases lt_trichotomy x 0 with h | h | h
  · rw [rnd_of_neg p h, abs_of_neg h]
    have := rndPos_rel_error p (neg_pos.mpr h)
    have e : -rndPos p (-x) - x = -(rndPos p (-x) - -x) := by ring
    rw [e, abs_neg]; exact this
  · subst h; simp [rnd_zero]
  · rw [rnd_of_pos p h, abs_of_pos h]; exact rndPos_rel_error p h

/-- **absolute error**: half a unit in the last place of `x` -/
theorem rnd_abs_error_le (p : ℕ) {x : ℚ} (hx : x ≠ 0) :
    |rnd p x - x| ≤ (2 : ℚ) ^ (ilog2 |x| - (p : ℤ)) := by
  rcases lt_or_gt_of_ne hx with h | h
  · rw [rnd_of_neg p h, abs_of_neg h]
    have e : -rndPos p (-x) - x = -(rndPos p (-x) - -x) := by ring
    rw [e, abs_neg]; exact rndPos_abs_error p (-x)
  · rw [rnd_of_pos p h, abs_of_pos h]; exact rndPos_abs_error p x

theorem rnd_monotone {p : ℕ} (hp : 0 < p) : ∀ a b : ℚ, a ≤ b → rnd p a ≤ rnd p b := by
  intro a b hab
  rcases lt_trichotomy a 0 with ha | ha | ha
  · rcases lt_trichotomy b 0 with hb | hb | hb
    · rw [rnd_of_neg p ha, rnd_of_neg p hb]
      exact neg_le_neg (rndPos_mono hp (neg_pos.mpr hb) (neg_le_neg hab))
    · subst hb; rw [rnd_zero]; exact (rnd_neg_of_neg hp ha).le
    · exact ((rnd_neg_of_neg hp ha).trans (rnd_pos hp hb)).le
  · subst ha
    rcases lt_or_eq_of_le hab with hb | hb
    · rw [rnd_zero]; exact (rnd_pos hp hb).le
    · rw [← hb]
  · have hb : 0 < b := lt_of_lt_of_le ha hab
    rw [rnd_of_pos p ha, rnd_of_pos p hb]; exact rndPos_mono hp ha hab

/-- numbers with at most `p` significant bits: `n·2^e` with `|n| ≤ 2^p` (any exponent) -/
def Representable (p : ℕ) (x : ℚ) : Prop := ∃ n e : ℤ, n.natAbs ≤ 2 ^ p ∧ x = (n : ℚ) * 2 ^ e

theorem rnd_of_representable {p : ℕ} (hp : 0 < p) {x : ℚ} (h : Representable p x) : rnd p x = x := by
  obtain ⟨n, e, hn, rfl⟩ := h
  have hcast : ((2 ^ p : ℕ) : ℤ) = (2 : ℤ) ^ p := by push_cast; rfl
  rcases lt_trichotomy n 0 with h0 | h0 | h0
  · have hneg : (n : ℚ) * 2 ^ e < 0 := mul_neg_of_neg_of_pos (by exact_mod_cast h0) (two_zpow_pos e)
    rw [rnd_of_neg p hneg]
    have e1 : -((n : ℚ) * 2 ^ e) = ((-n : ℤ) : ℚ) * 2 ^ e := by push_cast; ring
    rw [e1, rndPos_exact hp (by omega) (by omega)]; push_cast; ring
  · subst h0; simp [rnd_zero]
  · have hpos : 0 < (n : ℚ) * 2 ^ e := mul_pos (by exact_mod_cast h0) (two_zpow_pos e)
    rw [rnd_of_pos p hpos, rndPos_exact hp h0 (by omega)]

/-- every integer of absolute value at most `2^p` is fixed (binary64: up to `2^53`) -/
theorem rnd_fixes_small_integers {p : ℕ} (hp : 0 < p) {n : ℤ} (h : n.natAbs ≤ 2 ^ p) :
    rnd p (n : ℚ) = (n : ℚ) :=
  rnd_of_representable hp ⟨n, 0, h, by simp⟩

/-- the same with the bound stated on `|n|` -/
theorem rnd_fixes_small_integers' {p : ℕ} (hp : 0 < p) {n : ℤ} (h : |n| ≤ 2 ^ p) :
    rnd p (n : ℚ) = (n : ℚ) :=
  rnd_fixes_small_integers hp (by
    have : (n.natAbs : ℤ) = |n| := Int.natCast_natAbs n
    have h2 : (n.natAbs : ℤ) ≤ ((2 ^ p : ℕ) : ℤ) := by rw [this]; exact_mod_cast h
    exact_mod_cast h2)

theorem rnd_fixes_dyadic {p : ℕ} (hp : 0 < p) {n : ℤ} (k : ℕ) (h : n.natAbs ≤ 2 ^ p) :
    rnd p ((n : ℚ) / 2 ^ k) = (n : ℚ) / 2 ^ k :=
  rnd_of_representable hp ⟨n, -(k : ℤ), h, by rw [zpow_neg, zpow_natCast, div_eq_mul_inv]⟩

theorem representable_rnd {p : ℕ} (hp : 0 < p) (x : ℚ) : Representable p (rnd p x) := by
  have key : ∀ {a : ℚ}, 0 < a → ∃ n : ℤ, 0 ≤ n ∧ n.natAbs ≤ 2 ^ p ∧
      rndPos p a = (n : ℚ) * 2 ^ (ilog2 a - ((p : ℤ) - 1)) := by
    intro a ha
    obtain ⟨h1, h2⟩ := roundEven_signif_bounds hp ha
    rw [zpow_cast] at h2
    have h3 : roundEven (a / 2 ^ (ilog2 a - ((p : ℤ) - 1))) ≤ 2 ^ p := by exact_mod_cast h2
    have h4 : (0 : ℤ) ≤ roundEven (a / 2 ^ (ilog2 a - ((p : ℤ) - 1))) := by
      exact_mod_cast (two_zpow_pos _).le.trans h1
    have h5 : ((roundEven (a / 2 ^ (ilog2 a - ((p : ℤ) - 1)))).natAbs : ℤ) ≤ ((2 ^ p : ℕ) : ℤ) := by
      rw [Int.natAbs_of_nonneg h4]; exact_mod_cast h3
    exact ⟨_, h4, by exact_mod_cast h5, rndPos_def p a⟩
  rcases lt_trichotomy x 0 with h | h | h
  · obtain ⟨n, _, hn, e⟩ := key (neg_pos.mpr h)
    refine ⟨-n, ilog2 (-x) - ((p : ℤ) - 1), by simpa using hn, ?_⟩
    rw [rnd_of_neg p h, e]; push_cast; ring
  · subst h; exact ⟨0, 0, by simp, by simp [rnd_zero]⟩
  · obtain ⟨n, _, hn, e⟩ := key h
    exact ⟨n, _, hn, by rw [rnd_of_pos p h, e]⟩

theorem rnd_idempotent {p : ℕ} (hp : 0 < p) (x : ℚ) : rnd p (rnd p x) = rnd p x :=
  rnd_of_representable hp (representable_rnd hp x)

/-- scaling by a power of two commutes with rounding (unbounded exponent range) -/
theorem rnd_mul_pow2 (p : ℕ) (x : ℚ) (j : ℤ) : rnd p (x * 2 ^ j) = rnd p x * 2 ^ j := by
  rcases lt_trichotomy x 0 with h | h | h
  · have : x * (2 : ℚ) ^ j < 0 := mul_neg_of_neg_of_pos h (two_zpow_pos j)
    rw [rnd_of_neg p h, rnd_of_neg p this]
    have e : -(x * (2 : ℚ) ^ j) = -x * 2 ^ j := by ring
    rw [e, rndPos_mul_pow2 p (neg_pos.mpr h)]; ring
  · subst h; simp [rnd_zero]
  · have : 0 < x * (2 : ℚ) ^ j := mul_pos h (two_zpow_pos j)
    rw [rnd_of_pos p h, rnd_of_pos p this, rndPos_mul_pow2 p h]

theorem rnd_two_mul (p : ℕ) (x : ℚ) : rnd p (2 * x) = 2 * rnd p x := by
  have := rnd_mul_pow2 p x 1
  simp only [zpow_one] at this
  rw [mul_comm, this, mul_comm]

theorem rnd_div_two (p : ℕ) (x : ℚ) : rnd p (x / 2) = rnd p x / 2 := by
  have := rnd_mul_pow2 p x (-1)
  simp only [zpow_neg, zpow_one] at this
  rw [div_eq_mul_inv, this, div_eq_mul_inv]

theorem Representable.two_mul {p : ℕ} {x : ℚ} (h : Representable p x) : Representable p (2 * x) := by
  obtain ⟨n, e, hn, rfl⟩ := h
  exact ⟨n, e + 1, hn, by rw [two_zpow_succ]; ring⟩

theorem Representable.neg {p : ℕ} {x : ℚ} (h : Representable p x) : Representable p (-x) := by
  obtain ⟨n, e, hn, rfl⟩ := h
  exact ⟨-n, e, by simpa using hn, by push_cast; ring⟩

/-! ## Examples (non-vacuity; concrete values are evaluated by the kernel) -/
section Examples

/-- ties go to the even significand: with 2 bits, 5 lies midway between 4 = 2·2 and 6 = 3·2 -/
example : rnd 2 5 = 4 := by decide +kernel
/-- … and 7 midway between 6 = 3·2 and 8 = 2·4 -/
example : rnd 2 7 = 8 := by decide +kernel
example : rnd 2 (5 / 2) = 2 := by decide +kernel
/-- the binary64 and binary32 values of 1/10 -/
example : rnd 53 (1 / 10) = 3602879701896397 / 36028797018963968 := by decide +kernel
example : rnd 24 (1 / 10) = 13421773 / 134217728 := by decide +kernel
/-- `0.1 + 0.2` in binary64 is `0.30000000000000004…`, not the binary64 value of `0.3` -/
example : rnd 53 (rnd 53 (1 / 10) + rnd 53 (2 / 10)) ≠ rnd 53 (3 / 10) := by decide +kernel

example : pow2 (-3) = (2 : ℚ) ^ (-3 : ℤ) := pow2_eq _
example : (2 : ℚ) ^ ilog2 (3 / 8) ≤ 3 / 8 ∧ (3 / 8 : ℚ) < 2 ^ (ilog2 (3 / 8) + 1) := ilog2_spec (by norm_num)
example : ilog2 (3 / 8 : ℚ) = -2 := ilog2_eq (by norm_num) (by norm_num) (by norm_num)
example : |((roundEven (5 / 2) : ℤ) : ℚ) - 5 / 2| ≤ 1 / 2 := roundEven_error _
example : roundEven ((7 : ℤ) : ℚ) = 7 := roundEven_intCast 7
example : roundEven (5 / 2) ≤ roundEven (7 / 2) := roundEven_mono (by norm_num)
example : rnd 53 0 = 0 := rnd_zero 53
example : rnd 53 (-(1 / 3)) = -rnd 53 (1 / 3) := rnd_neg 53 _
example : 0 < rnd 53 (1 / 3) := rnd_pos (by norm_num) (by norm_num)
example : rnd 53 (-(1 / 3)) < 0 := rnd_neg_of_neg (by norm_num) (by norm_num)
example : |rnd 53 (1 / 3) - 1 / 3| ≤ (2 : ℚ) ^ (-(53 : ℤ)) * |1 / 3| := rnd_rel_error 53 _
example : |rnd 53 (1 / 3) - 1 / 3| ≤ (2 : ℚ) ^ (ilog2 |(1 / 3 : ℚ)| - (53 : ℤ)) := rnd_abs_error_le 53 (by norm_num)
example : rnd 53 (1 / 3) ≤ rnd 53 (1 / 2) := rnd_monotone (by norm_num) _ _ (by norm_num)
example : Representable 53 (3 / 8) := ⟨3, -3, by norm_num, by norm_num⟩
example : rnd 53 (3 / 8) = 3 / 8 := rnd_of_representable (by norm_num) ⟨3, -3, by norm_num, by norm_num⟩
example : rnd 53 ((9007199254740992 : ℤ) : ℚ) = ((9007199254740992 : ℤ) : ℚ) :=
  rnd_fixes_small_integers (p := 53) (by norm_num) (by norm_num)
example : rnd 53 ((-7 : ℤ) : ℚ) = ((-7 : ℤ) : ℚ) := rnd_fixes_small_integers' (p := 53) (by norm_num) (by norm_num)
/-- `2^53 + 1` is NOT fixed: the bound of `rnd_fixes_small_integers` is sharp -/
example : rnd 53 9007199254740993 ≠ 9007199254740993 := by decide +kernel
example : rnd 53 ((5 : ℤ) / 2 ^ 4) = (5 : ℤ) / 2 ^ 4 := rnd_fixes_dyadic (p := 53) (by norm_num) 4 (by norm_num)
example : Representable 53 (rnd 53 (1 / 3)) := representable_rnd (by norm_num) _
example : rnd 53 (rnd 53 (1 / 3)) = rnd 53 (1 / 3) := rnd_idempotent (by norm_num) _
example : rnd 53 (1 / 3 * 2 ^ (-700 : ℤ)) = rnd 53 (1 / 3) * 2 ^ (-700 : ℤ) := rnd_mul_pow2 53 _ _
example : rnd 53 (2 * (1 / 3)) = 2 * rnd 53 (1 / 3) := rnd_two_mul 53 _
example : rnd 53 (1 / 3 / 2) = rnd 53 (1 / 3) / 2 := rnd_div_two 53 _

end Examples

/-! ## for C12b (`C12_ceil_count_rounding`): the rounded quotient stays between `⌈q⌉ − 1` and `⌈q⌉`

`C12_ceil_count_rounding` assumes a monotone rounding that fixes EVERY integer; an IEEE rounding fixes the
integers up to `2^p` only (`rnd_fixes_small_integers`; sharp: `2^53 + 1` is not a binary64 number).  Its
proof uses the fixed-point property at `⌈q⌉` and `⌈q⌉ − 1` only, so what it needs is exactly this. -/

theorem rnd_ceil_bounds {p : ℕ} (hp : 0 < p) (q : ℚ) (h1 : q.ceil.natAbs ≤ 2 ^ p)
    (h2 : (q.ceil - 1).natAbs ≤ 2 ^ p) :
    ((q.ceil - 1 : ℤ) : ℚ) ≤ rnd p q ∧ rnd p q ≤ ((q.ceil : ℤ) : ℚ) := by
  have hlo : ((q.ceil - 1 : ℤ) : ℚ) < q := (Rat.lt_ceil_iff (x := q) (y := q.ceil - 1)).mp (by omega)
  have hhi : q ≤ ((q.ceil : ℤ) : ℚ) := (Rat.ceil_le_iff (x := q) (y := q.ceil)).mp (le_refl _)
  constructor
  · have := rnd_monotone hp _ _ hlo.le
    rwa [rnd_fixes_small_integers hp h2] at this
  · have := rnd_monotone hp _ _ hhi
    rwa [rnd_fixes_small_integers hp h1] at this

/-- the two hypotheses of `C12_ceil_count_rounding`, in its own form, for the integers that matter -/
example : (∀ a b : Rat, a ≤ b → rnd 53 a ≤ rnd 53 b) ∧
    (∀ n : Int, n.natAbs ≤ 2 ^ 53 → rnd 53 (n : Rat) = (n : Rat)) :=
  ⟨rnd_monotone (by norm_num), fun _ h => rnd_fixes_small_integers (by norm_num) h⟩

example : ((((7 : ℚ) / 2).ceil - 1 : ℤ) : ℚ) ≤ rnd 53 (7 / 2) ∧ rnd 53 (7 / 2) ≤ ((((7 : ℚ) / 2).ceil : ℤ) : ℚ) :=
  rnd_ceil_bounds (by norm_num) _ (by decide +kernel) (by decide +kernel)

end HC.Rounding

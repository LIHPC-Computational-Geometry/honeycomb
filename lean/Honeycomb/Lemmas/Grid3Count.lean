/-
  Counts of the 3-D hex grid as computed by the code: `volume_id` of a dart is the first dart of its
  cell and `iter_volumes` yields `nx·ny·nz` identifiers (the `debug_assert_eq!` of `build_3d_grid`);
  `iter_vertices` yields `(nx+1)·(ny+1)·(nz+1)` identifiers — for every size.
-/
import Honeycomb.Lemmas.Grid3Vertex
import Honeycomb.Lemmas.GridCount

namespace HC.Grid3Count
open HC HC.Gen HC.Grid3Vertex HC.GridCount

variable {nx ny nz : Nat} {m : Map Val}

theorem hexDescent : ∀ o, o < 24 → o ≠ 0 → pp 0 o < o ∨ pp 2 o < o := by decide +kernel

theorem volid_spec (hnx : 0 < nx) (hny : 0 < ny) (st : SameTopo (H3 nx ny nz) m) {a b c o : Nat}
    (ha : a < nx) (hb : b < ny) (hc : c < nz) (ho : o < 24) :
    okVal (run (volumeId3 m.n (D3 nx ny a b c o)) m) 0 = D3 nx ny a b c 0 := by
  have wf : WF 4 m := (H3_wf nz hnx hny).sameTopo st
  have hn : m.n = 24 * nx * ny * nz + 1 := st.n
  have isD : ∀ x, x ≠ 0 → x < m.n → IsD3 nx ny nz x := fun x h0 h => isD3_of_range hnx hny (by omega) (by omega)
  have hdn : D3 nx ny a b c o < m.n := by rw [hn]; exact D3_lt ha hb hc ho
  rw [(C03.C03_volumeId3_min wf D3_ne_zero hdn).1]
  -- key: the cell; canonical: local dart 0, reached by descent inside the cell
  obtain ⟨_, _, hc0, hk⟩ := cidG_canon (C03.g3_ok wf .volume trivial) (key := fun x => (x - 1) / 24)
    (C := fun x => (x - 1) % 24 = 0)
    (fun x h0 h hx y hy => by
      obtain ⟨a, b, c, j, ha, hb, hc, hj, rfl⟩ := isD x h0 h
      obtain ⟨_, _, _, q0, q1, q2, _⟩ := hexFacts j hj
      right
      rw [← hx]
      simp only [C03.g3, List.mem_cons, List.not_mem_nil, or_false] at hy
      rcases hy with rfl | rfl | rfl <;> rw [βw st ha hb hc hj (by decide)] <;>
        simp only [D3, dartOf_cell, q0, q1, q2, hj])
    (fun x h0 h _ hc => by
      obtain ⟨a, b, c, j, ha, hb, hc', hj, rfl⟩ := isD x h0 h
      have hj0 : j ≠ 0 := fun e => hc (by rw [e]; exact dartOf_local (by decide))
      obtain ⟨_, _, _, q0, _, q2, _⟩ := hexFacts j hj
      rcases hexDescent j hj hj0 with h | h
      · refine ⟨m.β 0 (D3 nx ny a b c j), by simp [C03.g3], ?_, ?_⟩ <;> rw [βw st ha hb hc' hj (by decide)]
        · exact D3_ne_zero
        · exact Nat.add_lt_add_left h _
      · refine ⟨m.β 2 (D3 nx ny a b c j), by simp [C03.g3], ?_, ?_⟩ <;> rw [βw st ha hb hc' hj (by decide)]
        · exact D3_ne_zero
        · exact Nat.add_lt_add_left h _)
    D3_ne_zero hdn
  change cidG (C03.g3 m .volume) m.n _ = _
  generalize cidG (C03.g3 m .volume) m.n (D3 nx ny a b c o) = v at *
  simp only [D3, dartOf_cell ho] at hk
  unfold D3 dartOf
  omega

theorem iterVolumes_length (hnx : 0 < nx) (hny : 0 < ny) (st : SameTopo (H3 nx ny nz) m) :
    (iterVolumes3 m).length = nx * ny * nz := by
  have hn : m.n = 24 * (nx * ny * nz) + 1 := by rw [st.n, H3_n, Nat.mul_assoc 24, Nat.mul_assoc 24]
  unfold iterVolumes3
  rw [iterCells_length_locals _ hn (gridMap_unused_of st) [(0, fun _ => true)] (by simp) (by simp)]
  · simp only [List.map_cons, List.map_nil, List.sum_cons, List.sum_nil, GridCount.filter_true, List.length_range]
    omega
  · intro d h1 h2
    obtain ⟨a, b, c, o, ha, hb, hc, ho, rfl⟩ := isD3_of_range (d := d) (nz := nz) hnx hny h1
      (by rw [hn] at h2; rw [Nat.mul_assoc 24, Nat.mul_assoc 24]; omega)
    rw [volid_spec hnx hny st ha hb hc ho]
    simp only [List.any_cons, List.any_nil, Bool.or_false, D3, isLocal_dartOf ho, Bool.and_true, decide_eq_true_eq]
    exact dartOf_local_inj.trans eq_comm

theorem pt3_le {d : Nat} (hd : IsD3 nx ny nz d) :
    (pt3 nx ny d).1 ≤ nx ∧ (pt3 nx ny d).2.1 ≤ ny ∧ (pt3 nx ny d).2.2 ≤ nz := by
  obtain ⟨a, b, c, o, ha, hb, hc, ho, rfl⟩ := hd
  rw [pt3_D ha hb ho]
  obtain ⟨k1, k2, k3⟩ := hex_kap_le ho
  exact ⟨add_bit_le ha k1, add_bit_le hb k2, add_bit_le hc k3⟩

theorem pt3_surj (hnx : 0 < nx) (hny : 0 < ny) (hnz : 0 < nz) {i j k : Nat} (hi : i ≤ nx) (hj : j ≤ ny)
    (hk : k ≤ nz) : ∃ d, IsD3 nx ny nz d ∧ pt3 nx ny d = (i, j, k) := by
  obtain ⟨a, κx, ha, hκx, ex⟩ := cell_bit hnx hi
  obtain ⟨b, κy, hb, hκy, ey⟩ := cell_bit hny hj
  obtain ⟨c, κz, hc, hκz, ez⟩ := cell_bit hnz hk
  have := hexMisc.1 κx hκx κy hκy κz hκz
  rw [List.any_eq_true] at this
  obtain ⟨o, ho, h⟩ := this
  have ho' := List.mem_range.mp ho
  have hk' : kap o = (κx, κy, κz) := by simpa using h
  refine ⟨D3 nx ny a b c o, ⟨a, b, c, o, ha, hb, hc, ho', rfl⟩, ?_⟩
  rw [pt3_D ha hb ho']
  unfold P3
  rw [hk', ← ex, ← ey, ← ez]

theorem iterVertices_length (hnx : 0 < nx) (hny : 0 < ny) (hnz : 0 < nz) (st : SameTopo (H3 nx ny nz) m) :
    (iterVertices3 m).length = (nx + 1) * (ny + 1) * (nz + 1) := by
  unfold iterVertices3
  rw [iterCells_grid st]
  refine count_least hnx hny (idf := vid3 m) (key := pt3 nx ny) (code := code3 nx ny)
    (V := fun p => p.1 ≤ nx ∧ p.2.1 ≤ ny ∧ p.2.2 ≤ nz) (fun d hd => vid3_spec hnx hny st hd)
    (fun d hd => pt3_le hd) (fun k k' h h' => code3_inj h.1 h.2.1 h'.1 h'.2.1)
    (fun k h => code3_lt h.1 h.2.1 h.2.2) ?_
  intro t ht
  obtain ⟨i, j, k, hi, hj, hk, rfl⟩ := code3_surj ht
  obtain ⟨d, hd, hp⟩ := pt3_surj hnx hny hnz hi hj hk
  exact ⟨d, hd, by rw [hp]⟩

end HC.Grid3Count

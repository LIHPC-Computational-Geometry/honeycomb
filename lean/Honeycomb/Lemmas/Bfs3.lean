/-
  Helpers for the 3-D half of C03 (Props/C03b.lean), generic in the image generator `g`
  (`orbG`, `cidG`, `GenOK` of Lemmas/Bfs.lean):

  * `run_popLoop_min`              the "mark on pop" traversal of `vertex_id_transac` / `edge_id_transac` /
                                   `volume_id_transac` (`popLoop`, fuel `8 n + 8`) terminates and returns
                                   the minimum of the BFS list  (glues `Cell3.popLoop_spec` — partial
                                   correctness — to `Face3.popLoop_start` — termination)
  * `Face3.fw_phase1_inv`, `Face3.fw_oneSided`
                                   the lock-step walk of `face_id_transac`, phase 1 by invariant
-/
import Honeycomb.Lemmas.Bfs
import Honeycomb.Lemmas.Cell3
import Honeycomb.Lemmas.SceneFace3


namespace HC
variable {X : Type}

/-! ## the "mark on pop" traversal returns the minimum of the BFS list -/

theorem run_popLoop_min {m : Map X} {n d : Nat} {g : Nat → List Nat} {gen : Nat → P X (List Nat)}
    (H : GenOK g n)
    (hgen : ∀ x, x < n → run (gen x) m = (.ok (g x), m))
    (hgen' : ∀ x ims m', run (gen x) m = (.ok ims, m') → m' = m ∧ ims = g x)
    (hlen : ∀ x, (g x).length ≤ 6) (hd0 : d ≠ 0) (hd : d < n) :
    run (popLoop gen (8 * n + 8) [d] [0] d) m = (.ok (cidG g n d), m) := by
  obtain ⟨v, hv⟩ := Face3.popLoop_start hgen hlen H.range hd
  have I : Cell3.PInv g d [d] [0] d :=
    ⟨by simp, fun x hx hx0 => absurd (by simpa using hx) hx0, fun x hx _ => by
      have : x = d := by simpa using hx
      subst this; exact .refl _,
     fun x hx hx0 => absurd (by simpa using hx) hx0, Or.inr (by simp), ⟨Nat.le_refl _, fun x hx hx0 =>
      absurd (by simpa using hx) hx0⟩, Or.inl rfl⟩
  obtain ⟨_, _, hmin, hmem⟩ := Cell3.popLoop_spec (g := g) hgen' H.null _ _ _ _ v m I hv
  have hvmem : v ∈ orbG g n d := by
    rcases hmem with rfl | ⟨h1, h2⟩
    · exact self_mem_orbG H hd0 hd
    · exact (mem_orbG H hd0 hd v).2 ⟨h2, h1⟩
  have hvle : ∀ x, x ∈ orbG g n d → v ≤ x := by
    intro x hx
    obtain ⟨hx0, hrx⟩ := (mem_orbG H hd0 hd x).1 hx
    exact hmin x hrx hx0
  rw [hv, min_unique ⟨hvmem, hvle⟩ (cidG_spec H hd0 hd) (fun _ => Iff.rfl)]

/-! ## the lock-step walk of `face_id_transac`: phase 1 (the left dart is new) by invariant -/

namespace Face3

/-- bookkeeping of phase 1 of `fw`: as long as the left dart is not marked the loop steps and an
    invariant `I` preserved by such steps holds; at the first round whose left dart is marked,
    `I` holds, the result's minimum is at most the current one, and if the right dart is marked too
    the walk ends there -/
theorem fw_phase1_inv {f1 f0 : Nat → Nat} (I : Nat → Nat → List Nat → Nat → Prop)
    (hstep : ∀ lb rb marked mn, I lb rb marked mn → marked.contains lb = false →
      I (f1 lb) (f0 rb) (marked ++ [lb]) (upd mn (f1 lb) (f0 rb))) :
    ∀ (fuel lb rb : Nat) (marked : List Nat) (mn lbF rbF : Nat) (mkF : List Nat) (mnF : Nat),
      I lb rb marked mn → fw f1 f0 fuel lb rb marked mn = some (lbF, rbF, mkF, mnF) →
      ∃ lb' rb' mk' mn', I lb' rb' mk' mn' ∧ lb' ∈ mk' ∧ mnF ≤ mn' ∧
        (rb' ∈ mk' → lbF = lb' ∧ rbF = rb' ∧ mkF = mk' ∧ mnF = mn') := by
  intro fuel
  induction fuel with
  | zero => intro lb rb marked mn lbF rbF mkF mnF _ h; simp [fw] at h
  | succ f ih =>
      intro lb rb marked mn lbF rbF mkF mnF hI h
      unfold fw at h
      by_cases c1 : marked.contains lb = true
      · refine ⟨lb, rb, marked, mn, hI, by simpa using c1, ?_, ?_⟩
        · by_cases c2 : marked.contains rb = true
          · simp only [c1, c2, Bool.not_true, Bool.false_eq_true, if_false, Option.some.injEq,
              Prod.mk.injEq] at h
            obtain ⟨_, _, _, rfl⟩ := h
            exact Nat.le_refl _
          · simp only [c1, c2, Bool.not_true, Bool.false_eq_true, if_false, Bool.not_false, if_true] at h
            exact Nat.le_trans (fw_facts _ _ _ _ _ _ _ _ _ h).1 (upd_le _ _ _).1
        · intro hrb
          have c2 : marked.contains rb = true := by simpa using hrb
          simp only [c1, c2, Bool.not_true, Bool.false_eq_true, if_false, Option.some.injEq,
            Prod.mk.injEq] at h
          obtain ⟨rfl, rfl, rfl, rfl⟩ := h
          exact ⟨rfl, rfl, rfl, rfl⟩
      · simp only [c1, Bool.not_false, if_true] at h
        exact ih _ _ _ _ _ _ _ _ (hstep _ _ _ _ hI (by simpa using c1)) h

/-- invariant of a one-sided walk along `f` (with partial inverse `finv`): every marked dart has
    its `f`-image marked or at the frontier `lb`, its `finv`-image marked (except the dart `z`), is
    `≥ mn`, satisfies `Q` and exists; `w` is marked or at the frontier -/
structure OneInv (f finv : Nat → Nat) (Q : Nat → Prop) (n z w : Nat) (lb : Nat) (marked : List Nat)
    (mn : Nat) : Prop where
  m0 : 0 ∈ marked
  fwd : ∀ x, x ∈ marked → x ≠ 0 → f x ∈ marked ∨ f x = lb
  bwd : ∀ x, x ∈ marked → x ≠ 0 → x = z ∨ finv x ∈ marked
  lbb : lb = z ∨ lb = 0 ∨ finv lb ∈ marked
  mkd : ∀ x, x ∈ marked → x ≠ 0 → mn ≤ x ∧ Q x ∧ x < n
  lbq : lb < n ∧ (lb ≠ 0 → mn ≤ lb ∧ Q lb)
  wm : w ∈ marked ∨ lb = w

theorem OneInv.step {f finv : Nat → Nat} {Q : Nat → Prop} {n z w lb : Nat} {marked : List Nat} {mn : Nat}
    (hr : ∀ x, x < n → f x < n) (hinv : ∀ x, x < n → f x ≠ 0 → finv (f x) = x)
    (hQ : ∀ x, x < n → Q x → f x ≠ 0 → Q (f x))
    (h : OneInv f finv Q n z w lb marked mn) (hnew : marked.contains lb = false) :
    OneInv f finv Q n z w (f lb) (marked ++ [lb]) (upd mn (f lb) 0) := by
  have hlb : lb ∉ marked := by simpa using hnew
  have hlb0 : lb ≠ 0 := fun e => hlb (e ▸ h.m0)
  have hu := upd_le mn (f lb) 0
  refine ⟨List.mem_append_left _ h.m0, ?_, ?_, ?_, ?_, ⟨hr lb h.lbq.1, ?_⟩, ?_⟩
  · intro x hx hx0
    rcases List.mem_append.1 hx with hx | hx
    · rcases h.fwd x hx hx0 with k | k
      · exact Or.inl (List.mem_append_left _ k)
      · exact Or.inl (List.mem_append_right _ (List.mem_singleton.2 k))
    · rw [List.mem_singleton.1 hx]; exact Or.inr rfl
  · intro x hx hx0
    rcases List.mem_append.1 hx with hx | hx
    · rcases h.bwd x hx hx0 with k | k
      · exact Or.inl k
      · exact Or.inr (List.mem_append_left _ k)
    · rw [List.mem_singleton.1 hx]
      rcases h.lbb with k | k | k
      · exact Or.inl k
      · exact absurd k hlb0
      · exact Or.inr (List.mem_append_left _ k)
  · by_cases e : f lb = 0
    · exact Or.inr (Or.inl e)
    · right; right
      rw [hinv lb h.lbq.1 e]
      exact List.mem_append_right _ (List.mem_singleton.2 rfl)
  · intro x hx hx0
    rcases List.mem_append.1 hx with hx | hx
    · obtain ⟨a, b, c⟩ := h.mkd x hx hx0
      exact ⟨Nat.le_trans hu.1 a, b, c⟩
    · rw [List.mem_singleton.1 hx]
      obtain ⟨a, b⟩ := h.lbq.2 hlb0
      exact ⟨Nat.le_trans hu.1 a, b, h.lbq.1⟩
  · intro e
    exact ⟨hu.2.1 e, hQ lb h.lbq.1 (h.lbq.2 hlb0).2 e⟩
  · rcases h.wm with k | k
    · exact Or.inl (List.mem_append_left _ k)
    · exact Or.inl (List.mem_append_right _ (List.mem_singleton.2 k.symm))

/-- a one-sided walk (`rb = 0`, `f0 0 = 0`): at its end the invariant holds and the frontier is marked -/
theorem fw_oneSided {f f0 finv : Nat → Nat} {Q : Nat → Prop} {n z w : Nat}
    (hf0 : f0 0 = 0) (hr : ∀ x, x < n → f x < n) (hinv : ∀ x, x < n → f x ≠ 0 → finv (f x) = x)
    (hQ : ∀ x, x < n → Q x → f x ≠ 0 → Q (f x))
    {fuel lb : Nat} {marked : List Nat} {mn lbF rbF : Nat} {mkF : List Nat} {mnF : Nat}
    (hI : OneInv f finv Q n z w lb marked mn)
    (h : fw f f0 fuel lb 0 marked mn = some (lbF, rbF, mkF, mnF)) :
    OneInv f finv Q n z w lbF mkF mnF ∧ lbF ∈ mkF ∧ rbF = 0 := by
  obtain ⟨lb', rb', mk', mn', ⟨hrb, hI'⟩, hmem, _, hfin⟩ :=
    fw_phase1_inv (f1 := f) (f0 := f0)
      (fun lb rb marked mn => rb = 0 ∧ OneInv f finv Q n z w lb marked mn)
      (by
        rintro lb rb marked mn ⟨rfl, hh⟩ hnew
        refine ⟨hf0, ?_⟩
        rw [hf0]
        exact hh.step hr hinv hQ hnew)
      fuel lb 0 marked mn lbF rbF mkF mnF ⟨rfl, hI⟩ h
  obtain ⟨rfl, rfl, rfl, rfl⟩ := hfin (by rw [hrb]; exact hI'.m0)
  exact ⟨hI', hmem, hrb⟩

end Face3

theorem reach_iter {g : Nat → List Nat} {f : Nat → Nat} (hf : ∀ y, f y ∈ g y) (x : Nat) :
    ∀ s, Reach g x (f^[s] x) := by
  intro s
  induction s with
  | zero => exact .refl _
  | succ s ih => rw [Function.iterate_succ_apply']; exact .tail ih (hf _)

end HC

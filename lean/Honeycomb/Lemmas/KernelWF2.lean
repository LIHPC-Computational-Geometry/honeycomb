/-
  Exact β effects of the 2-D sews on well-formed maps, for kernels whose correctness depends on the
  state reached (triangulation loops, vertex insertion chains).

  * `*_eff`         : from an `Inv n u` state, the sew succeeded ⇒ the result is `Inv n u` again and its β tables
                      are the pointwise update of the old ones (the β function of `Lemmas/RemeshBeta`, `step_*`, read
                      at a dart; `Inv` from the link core through `Keeps.of_topo`)
  * `*_tab`         : the same tables for the link / unlink cores, with no hypothesis on the map
  * `B1Chain`       : β1-paths given as lists, with their frame lemma
-/
import Honeycomb.Lemmas.KernelWF
import Honeycomb.Lemmas.RemeshBeta


namespace HC
variable {α β : Type}

theorem Sized.lt_of_β_ne {X : Type} {m : Map X} (h : Sized 3 m) {i d : Nat} (hi : i < 3) (hne : m.β i d ≠ 0) :
    d < m.n := by
  by_cases hd : d < m.n
  · exact hd
  · exfalso
    apply hne
    unfold Map.β
    apply rd_oob
    rw [h.row i hi]; omega

/-! ## effects on `Inv` states -/

section Eff
variable {X : Type} {n : Nat} {u : Array Bool}

theorem Keeps.of_topo {core p : P X Unit} (ht : SewOf SameTopo core p) (hc : Keeps n u core) : Keeps n u p :=
  fun _ _ _ hi h => ht.inv (fun _ _ st i => i.sameTopo st) (fun m m1 i h1 => hc m m1 () i h1) hi h

theorem oneSew2_eff (cfg : Cfg X) (k : Nat) {l r : Nat} {m m' : Map X} {a : Unit} (hi : Inv n u m)
    (hl : Live n u l) (hr : Live n u r) (h : run (oneSew2 cfg k l r) m = (.ok a, m')) :
    Inv n u m' ∧ m.β 1 l = 0 ∧ m.β 0 r = 0 ∧
      ∀ i d, m'.β i d = if 0 = i ∧ r = d then l else if 1 = i ∧ l = d then r else m.β i d := by
  obtain ⟨f1, f0, s⟩ := step_oneSew2 h
  exact ⟨Keeps.of_topo (topo_oneSew2 cfg k l r) (Keeps.oneLinkCore hl hr) m m' a hi h, f1, f0,
    fun i d => by rw [s.β]; rfl⟩

theorem oneUnsew2_eff (cfg : Cfg X) (k : Nat) {l : Nat} {m m' : Map X} {a : Unit} (hi : Inv n u m)
    (h : run (oneUnsew2 cfg k l) m = (.ok a, m')) :
    Inv n u m' ∧ Live n u l ∧ Live n u (m.β 1 l) ∧
      ∀ i d, m'.β i d = if 0 = i ∧ m.β 1 l = d then 0 else if 1 = i ∧ l = d then 0 else m.β i d := by
  obtain ⟨hne, s⟩ := step_oneUnsew2 h
  have hl : l < n := by rw [← hi.n_eq]; exact hi.wf.toSized.lt_of_β_ne (i := 1) (by omega) hne
  have hlive : Live n u l := hi.live_source (by omega) hl hne
  exact ⟨Keeps.of_topo (topo_oneUnsew2 cfg k l) (Keeps.oneUnlinkCore hlive) m m' a hi h, hlive,
    hi.live_image (by omega) hl hne, fun i d => by rw [s.β]; rfl⟩

theorem twoSew2_eff (cfg : Cfg X) (k : Nat) {l r : Nat} {m m' : Map X} {a : Unit} (hi : Inv n u m)
    (hl : Live n u l) (hr : Live n u r) (hlr : l ≠ r) (h : run (twoSew2 cfg k l r) m = (.ok a, m')) :
    Inv n u m' ∧ m.β 2 l = 0 ∧ m.β 2 r = 0 ∧
      ∀ i d, m'.β i d = if 2 = i ∧ r = d then l else if 2 = i ∧ l = d then r else m.β i d := by
  obtain ⟨f1, f0, s⟩ := step_twoSew2 h
  exact ⟨Keeps.of_topo (topo_twoSew2 cfg k l r) (Keeps.twoLinkCore hl hr hlr) m m' a hi h, f1, f0,
    fun i d => by rw [s.β]; rfl⟩

/-! ## β tables of the link cores (no hypothesis on the map: the cores test their own slots) -/

theorem oneLinkCore_tab {l r : Nat} {m m' : Map X} {a : Unit} (h : run (oneLinkCore (X := X) l r) m = (.ok a, m')) :
    m.β 1 l = 0 ∧ m.β 0 r = 0 ∧
      ∀ i d, m'.β i d = if 0 = i ∧ r = d then l else if 1 = i ∧ l = d then r else m.β i d := by
  obtain ⟨f1, f0, s⟩ := step_oneLinkCore h
  exact ⟨f1, f0, fun i d => by rw [s.β]; rfl⟩

theorem twoLinkCore_tab {l r : Nat} {m m' : Map X} {a : Unit} (h : run (iLinkCore (X := X) 2 l r) m = (.ok a, m')) :
    m.β 2 l = 0 ∧ m.β 2 r = 0 ∧
      ∀ i d, m'.β i d = if 2 = i ∧ r = d then l else if 2 = i ∧ l = d then r else m.β i d := by
  obtain ⟨f1, f0, s⟩ := step_twoLinkCore h
  exact ⟨f1, f0, fun i d => by rw [s.β]; rfl⟩

theorem oneUnlinkCore_tab {l : Nat} {m m' : Map X} {a : Unit} (h : run (oneUnlinkCore (X := X) l) m = (.ok a, m')) :
    m.β 1 l ≠ 0 ∧
      ∀ i d, m'.β i d = if 0 = i ∧ m.β 1 l = d then 0 else if 1 = i ∧ l = d then 0 else m.β i d := by
  obtain ⟨hne, s⟩ := step_oneUnlinkCore h
  exact ⟨hne, fun i d => by rw [s.β]; rfl⟩

theorem twoUnlinkCore_tab {l : Nat} {m m' : Map X} {a : Unit} (h : run (iUnlinkCore (X := X) 2 l) m = (.ok a, m')) :
    m.β 2 l ≠ 0 ∧
      ∀ i d, m'.β i d = if 2 = i ∧ m.β 2 l = d then 0 else if 2 = i ∧ l = d then 0 else m.β i d := by
  obtain ⟨hne, s⟩ := step_twoUnlinkCore h
  exact ⟨hne, fun i d => by rw [s.β]; rfl⟩

theorem eff1_β2 {m m' : Map X} {a b c d : Nat}
    (eff : ∀ i z, m'.β i z = if 0 = i ∧ a = z then b else if 1 = i ∧ c = z then d else m.β i z) (z : Nat) :
    m'.β 2 z = m.β 2 z := by
  rw [eff, if_neg (fun hh => absurd hh.1 (by decide)), if_neg (fun hh => absurd hh.1 (by decide))]

theorem rB_ok {i d : Nat} {f : Nat → P X β} {m m' : Map X} {b : β} (hi : Inv n u m)
    (h : run ((rB i d).bind f) m = (.ok b, m')) : i < 3 ∧ d < n ∧ run (f (m.β i d)) m = (.ok b, m') := by
  rw [run_rB] at h
  by_cases hok : m.okβ i d = true
  · simp only [hok, if_true] at h
    exact ⟨(hi.lt hok).1, (hi.lt hok).2, h⟩
  · simp [hok] at h

end Eff

/-! ## β1-paths -/

/-- `d → l[0] → l[1] → …` through β1 -/
def B1Chain {X : Type} (m : Map X) : Nat → List Nat → Prop
  | _, [] => True
  | d, x :: l => m.β 1 d = x ∧ B1Chain m x l

instance instDecB1Chain {X : Type} (m : Map X) : (d : Nat) → (l : List Nat) → Decidable (B1Chain m d l)
  | _, [] => isTrue trivial
  | d, x :: l => @instDecidableAnd _ _ (inferInstanceAs (Decidable (m.β 1 d = x))) (instDecB1Chain m x l)

theorem B1Chain.frame {X : Type} {m m' : Map X} : ∀ (l : List Nat) (d : Nat), B1Chain m d l →
    (∀ y ∈ (d :: l).dropLast, m'.β 1 y = m.β 1 y) → B1Chain m' d l := by
  intro l
  induction l with
  | nil => intro d _ _; trivial
  | cons x rest ih =>
      intro d h hf
      obtain ⟨h1, h2⟩ := h
      refine ⟨by rw [hf d (by simp [List.dropLast])]; exact h1, ih x h2 fun y hy => hf y ?_⟩
      rw [List.dropLast_cons_of_ne_nil (by simp)]
      exact List.mem_cons_of_mem _ hy

theorem B1Chain.succ_mem {X : Type} {m : Map X} : ∀ (l : List Nat) (d y : Nat), B1Chain m d l → y ∈ (d :: l).dropLast →
    m.β 1 y ∈ l := by
  intro l
  induction l with
  | nil => intro d y _ hy; simp [List.dropLast] at hy
  | cons x rest ih =>
      intro d y h hy
      obtain ⟨h1, h2⟩ := h
      rw [List.dropLast_cons_of_ne_nil (by simp)] at hy
      simp only [List.mem_cons] at hy
      rcases hy with rfl | hy
      · rw [h1]; simp
      · exact List.mem_cons_of_mem _ (ih x y h2 hy)

end HC

/-
  Test maps of the remeshing property (`honeycomb-kernels/src/remeshing`) and what is evaluated on them once: the unit
  square of `unit_triangles(1)`, plain, anchored and with spare darts (`sq3`, `sq6`, `sqA3`, `sqA6`), the two-cell map of finding D15a, the cut grid and
  the flat grid of the collapse findings; their well-formedness and the outcomes of the calls the examples speak of.
-/
import Honeycomb.Model.WF
import Honeycomb.Props.C01
import Honeycomb.Model.Kernels.Swap
import Honeycomb.Model.Kernels.Cut
import Honeycomb.Model.Kernels.Collapse

namespace HC.C15
open HC Gen.Anchors

/-- `unit_triangles(1)`: triangles 1-2-3 and 4-5-6 over the unit square, glued along 2/4 -/
def unitSquare : Map Val :=
  { (Map.empty 3 stdStorages 7 : Map Val) with
    b := #[#[0, 3, 1, 2, 6, 4, 5], #[0, 2, 3, 1, 5, 6, 4], #[0, 0, 4, 0, 2, 0, 0]]
    a := (Map.empty 3 stdStorages 7 : Map Val).a.setIfInBounds 0
      #[none, some (.pt 0 0 0), some (.pt 1 0 0), some (.pt 0 1 0), none, none, some (.pt 1 1 0)] }

def tml (c : Nat) : Option Val := some (.tm (.leaf c))

/-- the unit square with anchors: corners 1, 2, 3 are nodes, corner 6 lies on curve 1; boundary edges on curves, the
    diagonal and both faces on surface 0 (`UNIT_ANCH` of tools/props/c15.py) -/
def unitSquareAnchored : Map Val :=
  { unitSquare with
    a := ((unitSquare.a.setIfInBounds 6 #[none, tml 4, tml 8, tml 12, none, none, tml 5, none]).setIfInBounds 7
      #[none, tml 1, tml 2, tml 13, none, tml 5, tml 9, none]).setIfInBounds 8
      #[none, tml 2, none, none, tml 2, none, none, none] }

/-- the first vertex storage after a call -/
def coords (r : Out Err Unit × Map Val) : Array (Option Val) := rd r.2.a 0

theorem unitSquare_wf : WF 3 unitSquare := by decide

/-- all six numberings of the three spare darts -/
def perms3 : List (Nat × Nat × Nat) := [(7, 8, 9), (7, 9, 8), (8, 7, 9), (8, 9, 7), (9, 7, 8), (9, 8, 7)]

/-- the 1 x 2 split grid, fully anchored, the four faces on four different surfaces (`TWO_ANCH` of tools/props/c15.py) -/
def twoCells : Map Val :=
  { (Map.empty 3 stdStorages 13 : Map Val) with
    b := #[#[0, 3, 1, 2, 6, 4, 5, 9, 7, 8, 12, 10, 11], #[0, 2, 3, 1, 5, 6, 4, 8, 9, 7, 11, 12, 10],
           #[0, 0, 4, 0, 2, 0, 7, 6, 10, 0, 8, 0, 0]]
    a := ((((Map.empty 3 stdStorages 13 : Map Val).a.setIfInBounds 0
      #[none, some (.pt 0 0 0), some (.pt 1 0 0), some (.pt 0 1 0), none, none, some (.pt 1 1 0), none, none,
        some (.pt 0 2 0), none, none, some (.pt 1 2 0)]).setIfInBounds 6
      #[none, tml 4, tml 8, tml 13, none, none, tml 5, none, none, tml 36, none, none, tml 48, none]).setIfInBounds 7
      #[none, tml 1, tml 2, tml 13, none, tml 5, tml 2, none, tml 2, tml 13, none, tml 5, tml 9, none]).setIfInBounds 8
      #[none, tml 6, none, none, tml 10, none, none, tml 14, none, none, tml 18, none, none, none] }

/-- the 2 x 2 split grid after `cut_inner_edge(5, [25 … 30])` -/
def cutGrid : Map Val :=
  { (Map.empty 3 stdStorages 31 : Map Val) with
    b := #[#[0, 3, 1, 2, 25, 4, 27, 30, 28, 8, 12, 10, 11, 15, 13, 14, 18, 16, 17, 21, 19, 20, 24, 22, 23, 5, 6, 26, 9, 7, 29],
           #[0, 2, 3, 1, 5, 25, 26, 29, 9, 28, 11, 12, 10, 14, 15, 13, 17, 18, 16, 20, 21, 19, 23, 24, 22, 4, 27, 6, 8, 30, 7],
           #[0, 0, 4, 0, 2, 30, 13, 0, 10, 27, 8, 0, 19, 6, 16, 0, 14, 21, 0, 12, 22, 17, 20, 0, 0, 26, 25, 9, 29, 28, 5]]
    a := (Map.empty 3 stdStorages 31 : Map Val).a.setIfInBounds 0
      #[none, some (.pt 0 0 0), some (.pt 1 0 0), some (.pt 0 1 0), none, none, some (.pt 1 1 0), none, some (.pt 2 0 0),
        none, none, none, some (.pt 2 1 0), none, none, some (.pt 0 2 0), none, none, some (.pt 1 2 0), none, none, none,
        none, none, some (.pt 2 2 0), some (.pt 1 (1/2) 0), none, none, none, none, none] }

theorem cutGrid_wf : WF 3 cutGrid := by decide +kernel

theorem cutGrid_collapse : (run (collapseEdge (stdCfg 3 0) 31 26) cutGrid).1 = .ok 3 ∧
    (run (collapseEdge (stdCfg 3 0) 31 26) cutGrid).2.att 0 3 = some (.pt (1/4) (7/8) 0) := by
  decide +kernel

/-- the 2 x 2 split grid (three vertices moved, all triangles positively oriented), fully anchored with a straight bottom
    boundary, after `cut_outer_edge(7, [25, 26, 27])` (half edge 27 anchored on curve 7 by the driver) -/
def flatGrid : Map Val :=
  { (Map.empty 3 stdStorages 28 : Map Val) with
    b := #[#[0, 3, 1, 2, 6, 4, 5, 9, 27, 25, 12, 10, 11, 15, 13, 14, 18, 16, 17, 21, 19, 20, 24, 22, 23, 7, 8, 26],
           #[0, 2, 3, 1, 5, 6, 4, 25, 26, 7, 11, 12, 10, 14, 15, 13, 17, 18, 16, 20, 21, 19, 23, 24, 22, 9, 27, 8],
           #[0, 0, 4, 0, 2, 9, 13, 0, 10, 5, 8, 0, 19, 6, 16, 0, 14, 21, 0, 12, 22, 17, 20, 0, 0, 26, 25, 0]]
    a := ((((Map.empty 3 stdStorages 28 : Map Val).a.setIfInBounds 0
      #[none, some (.pt 0 0 0), some (.pt (7/8) 0 0), some (.pt 0 (13/16) 0), none, none, some (.pt (15/16) (15/16) 0),
        none, some (.pt 2 0 0), none, none, none, some (.pt 2 1 0), none, none, some (.pt 0 2 0), none, none,
        some (.pt (19/16) 2 0), none, none, none, none, none, some (.pt 2 2 0), some (.pt (23/16) 0 0), none,
        none]).setIfInBounds 6
      #[none, tml 4, tml 1, tml 13, none, none, tml 2, none, tml 32, none, none, none, tml 5, none, none, tml 60, none,
        none, tml 9, none, none, none, none, none, tml 96, tml 1, none, none, none]).setIfInBounds 7
      #[none, tml 1, tml 2, tml 13, none, tml 2, tml 2, tml 1, tml 2, none, none, tml 5, tml 2, none, tml 2, tml 13, none,
        tml 2, tml 9, none, tml 2, none, none, tml 5, tml 9, tml 2, none, tml 29, none]).setIfInBounds 8
      #[none, tml 2, none, none, tml 2, none, none, tml 2, tml 2, none, tml 2, none, none, tml 2, none, none, tml 2, none,
        none, tml 2, none, none, tml 2, none, none, none, none, none, none] }

theorem flatGrid_wf : WF 3 flatGrid := by decide +kernel

theorem flatGrid_collapse12 : (run (collapseEdge (stdCfg 3 224) flatGrid.n 12) flatGrid).1 = .ok 6 := by
  decide +kernel

theorem flatGrid_collapse6 : (run (collapseEdge (stdCfg 3 224) flatGrid.n 6) flatGrid).1 = .ok 3 := by
  decide +kernel

def sq3 : Map Val := (unitSquare.addFreeDarts 3).2
def sq6 : Map Val := (unitSquare.addFreeDarts 6).2
def sqA3 : Map Val := (unitSquareAnchored.addFreeDarts 3).2
def sqA6 : Map Val := (unitSquareAnchored.addFreeDarts 6).2

/-- `cutGrid` with a surface anchor on every face slot -/
def cutGridF : Map Val := (List.range cutGrid.n).foldl (fun mm i => mm.setA stFA i (tml (2 + 4 * (i % 3)))) cutGrid

theorem unitSquare_swap_ok : (run (swapEdge (stdCfg 3 0) 7 2) unitSquare).1 = .ok () := by decide +kernel

theorem sq3_cut_ok : (run (cutOuterEdge (stdCfg 3 0) sq3.n 1 9 8 7) sq3).1 = .ok () := by decide +kernel

theorem sq3_cut_midpoint : (run (cutOuterEdge (stdCfg 3 0) sq3.n 1 9 8 7) sq3).2.att 0 7 = some (.pt (1/2) 0 0) := by
  decide +kernel

theorem sq6_cutInner : (run (cutInnerEdge (stdCfg 3 0) sq6.n 2 12 11 10 9 8 7) sq6).1 = .ok () := by decide +kernel

theorem cutGrid_collapse_run : run (collapseEdge (stdCfg 3 0) cutGrid.n 26) cutGrid =
    (.ok 3, (run (collapseEdge (stdCfg 3 0) cutGrid.n 26) cutGrid).2) := HC.run_eq_of_fst cutGrid_collapse.1

theorem cutGrid_collapse_hyps : C01.InUse cutGrid 26 ∧ regd (stdCfg 3 0) stVA = false ∧
    cutGrid.β 2 26 ≠ 0 ∧ cutGrid.β 0 26 ≠ 0 ∧ cutGrid.β 0 (cutGrid.β 2 26) ≠ 0 ∧
    (cutGrid.β 2 (cutGrid.β 1 26) ≠ 0 ∧ cutGrid.β 2 (cutGrid.β 0 26) ≠ 0 ∧ cutGrid.β 2 (cutGrid.β 1 (cutGrid.β 2 26)) ≠ 0 ∧
      cutGrid.β 2 (cutGrid.β 0 (cutGrid.β 2 26)) ≠ 0) ∧
    [26, cutGrid.β 2 26, cutGrid.β 1 26, cutGrid.β 0 26, cutGrid.β 1 (cutGrid.β 2 26), cutGrid.β 0 (cutGrid.β 2 26),
      cutGrid.β 2 (cutGrid.β 1 26), cutGrid.β 2 (cutGrid.β 0 26), cutGrid.β 2 (cutGrid.β 1 (cutGrid.β 2 26)),
      cutGrid.β 2 (cutGrid.β 0 (cutGrid.β 2 26))].Nodup := by
  decide +kernel

theorem flatGrid_collapse12_run : run (collapseEdge (stdCfg 3 224) flatGrid.n 12) flatGrid =
    (.ok 6, (run (collapseEdge (stdCfg 3 224) flatGrid.n 12) flatGrid).2) := HC.run_eq_of_fst flatGrid_collapse12

theorem flatGrid_collapse6_run : run (collapseEdge (stdCfg 3 224) flatGrid.n 6) flatGrid =
    (.ok 3, (run (collapseEdge (stdCfg 3 224) flatGrid.n 6) flatGrid).2) := HC.run_eq_of_fst flatGrid_collapse6

end HC.C15

/-
  C15 — remeshing primitives (`swap_edge`, `cut_outer_edge`, `cut_inner_edge`, `collapse_edge`) keep a
  triangle mesh a triangle mesh.  Model: `Model/Kernels/{Swap,Cut,Collapse}.lean`, anchor laws generated
  from `utils/anchors.rs` (`Gen/Anchors.lean`).

  PROVED (for every map, every attribute configuration and law unless stated otherwise)
  (a) well-formedness:
      `C15_swap_preserves_WF`, `C15_cutOuter_preserves_WF`, `C15_cutInner_preserves_WF` — every call
      (successful, refused, retried, panicking) on a well-formed 2-map whose faces at the edge are closed
      (`β0`, `β1` of the edge darts non-null; what "triangle mesh" gives) and, for the cuts, whose spare
      darts are free in-use darts, leaves the map well formed;
      `C15_collapse_preserves_WF` — the same for `collapse_edge`, for the kernel whose sew sites are
      guarded by a non-null assertion (`collapseEdgeA`) and up to the freeness of the darts it flags:
      the result is well formed provided every newly flagged dart is free in the result;
      `C15_collapseA_refines` — whenever the asserted kernel succeeds, `collapse_edge` itself returns the
      same value and the same map;
      `C15_error_leaves_map_unchanged` (C06 instance: error / retry / panic publish nothing).
  (b) anchor algebra on the GENERATED tables, for all identifiers: `C15_{v,e,f}anchor_merge_comm`, `_idem`,
      `_assoc`, `_lower_dim`, `_fails_iff`, conversions keep dimension and identifier, `ofCode (code a) = a`.
  (c) guards: `C15_swap_guards` (next to the swap in (a)), `C15_collapse_guards` — the kernels are, as equations, the
      chain NullEdge / IncompleteEdge / BadTopology followed by the editing part; `C15_collapse_choice_*` — the
      anchor rule of `is_collapsible` (which error, which target) as a function of the three anchors.
  (d) cut geometry over ℚ: `C15_cut_midpoint` (the written vertex is the midpoint), `C15_cut_area_conserved`,
      `C15_cut_area_conserved_inner` (the signed areas of the new triangles add up to the old ones), and for finding D9
      `C15_swap_area_partial` (the specified retriangulation conserves the area when no coordinate moves).
  (e) the cut kernels as of /repo 27a7433 / aac3ec9 (D15b, D15c), which the model mirrors:
      `C15_cutOuter_second_half_anchored` (every map, configuration and spare numbering: after a successful
      cut_outer_edge the edge of nd3 carries the cut edge's EdgeAnchor), `C15_cut_midpoint_under_vertex_id` (both cut
      kernels write the midpoint under `vertex_id(nd1)` as computed at the write).
  (f) the strict orientation post-check (D15g, /repo 94962f9): `C15_orientation_check_strict`,
      `C15_collapse_passed_check`, `C15_collapse_no_flat_triangle`.

  The witnesses of the findings and the regressions that are kernel evaluations (`C15_D9_witness`, `C15_D15a/d/e_witness`,
  `C15_D15g_regression`, `C15_cutOuter_unit_square_all_orders`, `C15_cutInner_unit_square_orders`) and the examples
  showing the hypotheses of this file satisfiable stand at the end of Props/C15c.lean, on the test maps of
  Lemmas/RemeshFixtures.lean.

  PROVED in the later parts, on arbitrary well-formed 2-maps
  * Props/C15b.lean: local topology after swap and the two cuts (`C15_swap_topology`, `C15_cutOuter_topology`,
    `C15_cutInner_topology`), cells and the midpoint in the final map after the outer cut, and — for `collapse_edge`
    itself, midpoint variant, interior configuration — the two side conditions of `C15_collapse_preserves_WF` (only
    non-null darts are sewn, only free darts are flagged): `C15_collapse_midpoint_interior`;
  * Props/C15c.lean: the same two side conditions for the end-point variants, interior configuration
    (`C15_collapse_endpoint_interior`, `_right`), the V/E/F counts, cells and midpoint of the inner cut, the corners
    moved by the swap;
  * Props/C15d.lean: the anchors after the cuts and the collapse.

  NOT PROVED (validated on every case by the oracle of tools/props/c15.py, which checks `wf` after every call)
  * the two side conditions of `C15_collapse_preserves_WF` on the boundary configurations of `collapse_edge`;
  * "all faces are triangles" after a collapse (false on the boundary: `C15_D15e_witness`), orientation of the whole
    fan after a collapse beyond the strict post-check (`C15_collapse_no_flat_triangle`).
-/
import Honeycomb.Lemmas.KernelWF2
import Honeycomb.Lemmas.RemeshBeta
import Honeycomb.Lemmas.AnchorMerge
import Honeycomb.Props.C04
import Honeycomb.Model.Kernels.Swap
import Honeycomb.Model.Kernels.Cut
import Honeycomb.Model.Kernels.Collapse
import Mathlib.Tactic.Ring


namespace HC.C15
open HC

variable {X : Type} {n : Nat} {u : Array Bool}

/-! ## the four sews in the `Keeps` calculus -/

theorem keeps_oneSew2 (cfg : Cfg X) (k : Nat) {l r : Nat} (hl : Live n u l) (hr : Live n u r) :
    Keeps n u (oneSew2 cfg k l r) :=
  Keeps.of_topo (topo_oneSew2 cfg k l r) (Keeps.oneLinkCore hl hr)

theorem keeps_oneUnsew2 (cfg : Cfg X) (k : Nat) {l : Nat} (hl : Live n u l) :
    Keeps n u (oneUnsew2 cfg k l) :=
  Keeps.of_topo (topo_oneUnsew2 cfg k l) (Keeps.oneUnlinkCore hl)

theorem keeps_twoSew2 (cfg : Cfg X) (k : Nat) {l r : Nat} (hl : Live n u l) (hr : Live n u r) (hlr : l ≠ r) :
    Keeps n u (twoSew2 cfg k l r) :=
  Keeps.of_topo (topo_twoSew2 cfg k l r) (Keeps.twoLinkCore hl hr hlr)

theorem keeps_twoUnsew2 (cfg : Cfg X) (k : Nat) {l : Nat} (hl : Live n u l) :
    Keeps n u (twoUnsew2 cfg k l) :=
  Keeps.of_topo (topo_twoUnsew2 cfg k l) (Keeps.twoUnlinkCore hl)

/-! ## small run lemmas -/

theorem live_image {m : Map X} (hwf : WF 3 m) {i d : Nat} (hi : i < 3) (hd : d < m.n) (hne : m.β i d ≠ 0) :
    Live m.n m.u (m.β i d) :=
  C01.inUse_image hwf (by omega) hi hd hne

/-- every outcome other than `Ok` publishes nothing; `Ok` publishes the final state of the closure -/
theorem wf_atomically_of {α : Type} {p : P X α} {m : Map X} (hwf : WF 3 m)
    (h : ∀ a m', run p m = (.ok a, m') → WF 3 m') : WF 3 (atomically p m).2 := by
  unfold atomically
  match hr : run p m with
  | (.ok a, m') => simp only; exact h a m' hr
  | (.err e, m') => simp only; exact hwf
  | (.retry, m') => simp only; exact hwf
  | (.panic, m') => simp only; exact hwf

theorem atomically_fst {α : Type} (p : P X α) (m : Map X) : (atomically p m).1 = (run p m).1 := by
  unfold atomically
  split <;> (rename_i h; rw [h])

/-! ## swap_edge -/

/-- the editing part of `swap_edge` -/
def swapBody (cfg : Cfg X) (n l r b0l b1l b0r b1r : Nat) : P X Unit := do
  oneUnsew2 cfg n l
  oneUnsew2 cfg n r
  oneUnsew2 cfg n b0l
  oneUnsew2 cfg n b0r
  oneUnsew2 cfg n b1l
  oneUnsew2 cfg n b1r
  oneSew2 cfg n l b0r
  oneSew2 cfg n b0r b1l
  oneSew2 cfg n b1l l
  oneSew2 cfg n r b0l
  oneSew2 cfg n b0l b1r
  oneSew2 cfg n b1r r

theorem keeps_swapBody (cfg : Cfg X) (k : Nat) {l r b0l b1l b0r b1r : Nat}
    (hl : Live n u l) (hr : Live n u r) (h0l : Live n u b0l) (h1l : Live n u b1l)
    (h0r : Live n u b0r) (h1r : Live n u b1r) : Keeps n u (swapBody cfg k l r b0l b1l b0r b1r) := by
  unfold swapBody
  refine Keeps.bind (keeps_oneUnsew2 cfg k hl) fun _ => ?_
  refine Keeps.bind (keeps_oneUnsew2 cfg k hr) fun _ => ?_
  refine Keeps.bind (keeps_oneUnsew2 cfg k h0l) fun _ => ?_
  refine Keeps.bind (keeps_oneUnsew2 cfg k h0r) fun _ => ?_
  refine Keeps.bind (keeps_oneUnsew2 cfg k h1l) fun _ => ?_
  refine Keeps.bind (keeps_oneUnsew2 cfg k h1r) fun _ => ?_
  refine Keeps.bind (keeps_oneSew2 cfg k hl h0r) fun _ => ?_
  refine Keeps.bind (keeps_oneSew2 cfg k h0r h1l) fun _ => ?_
  refine Keeps.bind (keeps_oneSew2 cfg k h1l hl) fun _ => ?_
  refine Keeps.bind (keeps_oneSew2 cfg k hr h0l) fun _ => ?_
  refine Keeps.bind (keeps_oneSew2 cfg k h0l h1r) fun _ => ?_
  exact keeps_oneSew2 cfg k h1r hr

/-- **C15 (b), swap**: `swap_edge` is the guard chain NullEdge / IncompleteEdge / BadTopology (the second β1 is
    only read when the first comparison passes) followed by the editing part — on every map on which the six
    reads are in range.  The three kernel-specific errors are produced by exactly these three tests. -/
theorem C15_swap_guards (cfg : Cfg X) (k e : Nat) (m : Map X)
    (hok : ∀ i d, i < 3 → d < m.n → m.okβ i d = true) (hrange : ∀ i d, i < 3 → d < m.n → m.β i d < m.n)
    (he : e < m.n) :
    run (swapEdge cfg k e) m =
      if e = 0 then (.err errNullEdge, m)
      else if m.β 2 e = 0 then (.err errIncompleteEdge, m)
      else if m.β 1 (m.β 1 e) ≠ m.β 0 e ∨ m.β 1 (m.β 1 (m.β 2 e)) ≠ m.β 0 (m.β 2 e) then (.err errBadTopology, m)
      else run (swapBody cfg k e (m.β 2 e) (m.β 0 e) (m.β 1 e) (m.β 0 (m.β 2 e)) (m.β 1 (m.β 2 e))) m := by
  have hr := hrange 2 e (by omega) he
  have h1l := hrange 1 e (by omega) he
  have h1r := hrange 1 _ (by omega) hr
  unfold swapEdge swapBody
  by_cases h0 : e = 0
  · simp [h0]
  · simp only [h0, if_false, bind, run_rB, hok 2 e (by omega) he, if_true]
    by_cases h2 : m.β 2 e = 0
    · simp [h2]
    · simp only [h2, if_false, run_rB, hok 1 e (by omega) he, hok 1 _ (by omega) hr, hok 0 e (by omega) he,
        hok 0 _ (by omega) hr, hok 1 _ (by omega) h1l, if_true]
      by_cases h3 : m.β 1 (m.β 1 e) ≠ m.β 0 e
      · simp [h3]
      · simp only [h3, if_false, false_or, Prog.bind_assoc, run_rB,
          hok 1 _ (by omega) h1r, if_true]
        by_cases h4 : m.β 1 (m.β 1 (m.β 2 e)) ≠ m.β 0 (m.β 2 e)
        · simp [h4]
        · simp [h4]

theorem swapEdge_ok {cfg : Cfg X} {m m' : Map X} {e : Nat} {a : Unit} (hwf : WF 3 m) (he : e < m.n)
    (h : run (swapEdge cfg m.n e) m = (.ok a, m')) :
    e ≠ 0 ∧ m.β 2 e ≠ 0 ∧ m.β 1 (m.β 1 e) = m.β 0 e ∧ m.β 1 (m.β 1 (m.β 2 e)) = m.β 0 (m.β 2 e) ∧
    run (swapBody cfg m.n e (m.β 2 e) (m.β 0 e) (m.β 1 e) (m.β 0 (m.β 2 e)) (m.β 1 (m.β 2 e))) m = (.ok a, m') := by
  rw [C15_swap_guards cfg m.n e m (fun i d hi hd => (hwf.toSized.okβ i d).2 ⟨hi, hd⟩)
    (fun i d hi hd => hwf.range i hi d hd) he] at h
  by_cases e0 : e = 0
  · simp [e0] at h
  by_cases r0 : m.β 2 e = 0
  · simp [e0, r0] at h
  by_cases gl : m.β 1 (m.β 1 e) = m.β 0 e
  swap
  · simp [e0, r0, gl] at h
  by_cases gr : m.β 1 (m.β 1 (m.β 2 e)) = m.β 0 (m.β 2 e)
  swap
  · simp [e0, r0, gl, gr] at h
  simp only [e0, r0, gl, gr, ne_eq, not_true_eq_false, or_self, if_false] at h
  exact ⟨e0, r0, gl, gr, h⟩

/-- **C15 (a), swap**: every call of `swap_edge` — successful, refused (NullEdge / IncompleteEdge / BadTopology /
    a failing core operation or attribute law), panicking — on an in-use dart of a well-formed 2-map whose two
    faces at the edge are closed at the edge darts leaves the map well formed. -/
theorem C15_swap_preserves_WF (cfg : Cfg X) (m : Map X) (e : Nat) (hwf : WF 3 m) (he : C01.InUse m e)
    (hl : m.β 1 e ≠ 0 ∧ m.β 0 e ≠ 0)
    (hr : m.β 2 e ≠ 0 → m.β 1 (m.β 2 e) ≠ 0 ∧ m.β 0 (m.β 2 e) ≠ 0) :
    WF 3 (atomically (swapEdge cfg m.n e) m).2 := by
  refine wf_atomically_of hwf fun a m' h => ?_
  obtain ⟨_, h2, _, _, h⟩ := swapEdge_ok hwf he.2.1 h
  have Lr := live_image hwf (by omega : 2 < 3) he.2.1 h2
  obtain ⟨r1, r0⟩ := hr h2
  exact (keeps_swapBody cfg m.n (Live.of_inUse he) Lr (live_image hwf (by omega) he.2.1 hl.2)
    (live_image hwf (by omega) he.2.1 hl.1) (live_image hwf (by omega) Lr.2.1 r0)
    (live_image hwf (by omega) Lr.2.1 r1) m m' a (Inv.of_wf hwf) h).wf

/-- **C15 (a), C06 instance**: a remeshing call that reports an error (or retries, or panics) leaves every β
    image, every flag and every slot of every storage — coordinates and anchors included — as it was -/
theorem C15_error_leaves_map_unchanged {α : Type} (p : P X α) (m : Map X)
    (h : ∀ a, (atomically p m).1 ≠ .ok a) : (atomically p m).2 = m :=
  C01.C01_failed_call_changes_nothing p m h

theorem inv_attrOnly {α : Type} {p : P X α} (hp : AttrOnly p) {m m' : Map X} {a : α}
    (hi : Inv n u m) (h : run p m = (.ok a, m')) : Inv n u m' :=
  Keeps.of_attrOnly hp m m' a hi h

/-! ## attribute-only pieces of the cut kernels -/

theorem ro_retry {α : Type} : ReadOnly (Prog.retry : P X α) := fun _ => rfl

theorem ao_fid (k d : Nat) : AttrOnly (faceId2 (X := X) k d) := AttrOnly.of_readOnly (readOnly_faceId2 k d)

theorem ao_readAttr (cfg : Cfg X) (s id : Nat) : AttrOnly (readAttr cfg s id) := by
  unfold readAttr
  exact AttrOnly.ite (AttrOnly.of_readOnly (ReadOnly.rA _ _)) (AttrOnly.pure _)

theorem ao_writeAttr (cfg : Cfg X) (s id : Nat) (v : X) : AttrOnly (writeAttr cfg s id v) := by
  unfold writeAttr
  refine AttrOnly.ite ?_ (AttrOnly.pure _)
  refine AttrOnly.bind (AttrOnly.of_readOnly (ReadOnly.rA _ _)) fun _ => ?_
  exact AttrOnly.bind (AttrOnly.wA _ _ _) fun _ => AttrOnly.pure _

theorem ao_removeAttr (cfg : Cfg X) (s id : Nat) : AttrOnly (removeAttr cfg s id) := by
  unfold removeAttr
  refine AttrOnly.ite ?_ (AttrOnly.pure _)
  refine AttrOnly.bind (AttrOnly.of_readOnly (ReadOnly.rA _ _)) fun _ => ?_
  exact AttrOnly.bind (AttrOnly.wA _ _ _) fun _ => AttrOnly.pure _

theorem ao_takeFaceAnchor (cfg : Cfg Val) (k d : Nat) : AttrOnly (takeFaceAnchor cfg k d) := by
  unfold takeFaceAnchor
  refine AttrOnly.ite ?_ (AttrOnly.pure _)
  exact AttrOnly.bind (ao_fid _ _) fun _ => ao_removeAttr _ _ _

theorem ro_peekEdgeAnchor (cfg : Cfg Val) (e : Nat) : ReadOnly (peekEdgeAnchor cfg e) := by
  unfold peekEdgeAnchor readAttr
  exact ReadOnly.ite (ReadOnly.ite (ReadOnly.rA _ _) (ReadOnly.pure _)) (ReadOnly.pure _)

theorem ao_peekEdgeAnchor (cfg : Cfg Val) (e : Nat) : AttrOnly (peekEdgeAnchor cfg e) :=
  AttrOnly.of_readOnly (ro_peekEdgeAnchor cfg e)

theorem ro_midpointOrRetry (v1 v2 : Nat) : ReadOnly (midpointOrRetry v1 v2) := by
  unfold midpointOrRetry
  refine ReadOnly.bind (ReadOnly.rA _ _) fun a => ?_
  refine ReadOnly.bind (ReadOnly.rA _ _) fun b => ?_
  cases a <;> cases b
  · exact ro_retry
  · exact ro_retry
  · exact ro_retry
  · exact ReadOnly.pure _

theorem ao_midpointOrRetry (v1 v2 : Nat) : AttrOnly (midpointOrRetry v1 v2) :=
  AttrOnly.of_readOnly (ro_midpointOrRetry v1 v2)

theorem ao_spreadFaceAnchor (cfg : Cfg Val) (k : Nat) (fa : Option Val) (a b : Nat) :
    AttrOnly (spreadFaceAnchor cfg k fa a b) := by
  unfold spreadFaceAnchor
  cases fa
  · exact AttrOnly.pure _
  · refine AttrOnly.bind (ao_fid _ _) fun _ => ?_
    refine AttrOnly.bind (ao_fid _ _) fun _ => ?_
    refine AttrOnly.bind (ao_writeAttr _ _ _ _) fun _ => ?_
    refine AttrOnly.bind (ao_writeAttr _ _ _ _) fun _ => ?_
    refine AttrOnly.ite ?_ (AttrOnly.pure _)
    refine AttrOnly.bind (ao_eid _) fun _ => ?_
    exact AttrOnly.bind (ao_writeAttr _ _ _ _) fun _ => AttrOnly.pure _

theorem ao_spreadEdgeAnchor (cfg : Cfg Val) (k : Nat) (ea : Option Val) (a : Nat) :
    AttrOnly (spreadEdgeAnchor cfg k ea a) := by
  unfold spreadEdgeAnchor
  cases ea
  · exact AttrOnly.pure _
  · refine AttrOnly.bind (ao_vid _ _) fun _ => ?_
    exact AttrOnly.bind (ao_writeAttr _ _ _ _) fun _ => AttrOnly.pure _

theorem ao_spreadEdgeAnchorOuter (cfg : Cfg Val) (k : Nat) (ea : Option Val) (a b : Nat) :
    AttrOnly (spreadEdgeAnchorOuter cfg k ea a b) := by
  unfold spreadEdgeAnchorOuter
  cases ea
  · exact AttrOnly.pure _
  · refine AttrOnly.bind (ao_vid _ _) fun _ => ?_
    refine AttrOnly.bind (ao_writeAttr _ _ _ _) fun _ => ?_
    refine AttrOnly.bind (ao_eid _) fun _ => ?_
    exact AttrOnly.bind (ao_writeAttr _ _ _ _) fun _ => AttrOnly.pure _

/-! ## cut_outer_edge -/

/-- `cut_outer_edge` after the reads of `β0(e)`, `β1(e)` -/
def cutOuterTail (cfg : Cfg Val) (n ld nd1 nd2 nd3 : Nat) (fAnchor eAnchor : Option Val) (b0ld b1ld : Nat) :
    P Val Unit := do
  let vid1 ← vertexId2 n ld
  let vid2 ← vertexId2 n b1ld
  let newV ← midpointOrRetry vid1 vid2
  let newVid ← vertexId2 n nd1
  let _ ← writeVtx newVid newV
  oneUnsew2 cfg n ld
  oneUnsew2 cfg n b1ld
  oneSew2 cfg n ld nd1
  oneSew2 cfg n nd1 b0ld
  oneSew2 cfg n nd3 b1ld
  oneSew2 cfg n b1ld nd2
  spreadFaceAnchor cfg n fAnchor nd1 nd2
  spreadEdgeAnchorOuter cfg n eAnchor nd1 nd3

theorem keeps_cutOuterTail (cfg : Cfg Val) (k : Nat) {ld nd1 nd2 nd3 b0ld b1ld : Nat} (fa ea : Option Val)
    (hl : Live n u ld) (h1 : Live n u nd1) (h2 : Live n u nd2) (h3 : Live n u nd3)
    (hb0 : Live n u b0ld) (hb1 : Live n u b1ld) :
    Keeps n u (cutOuterTail cfg k ld nd1 nd2 nd3 fa ea b0ld b1ld) := by
  unfold cutOuterTail
  refine Keeps.ro_bind (readOnly_vertexId2 _ _) fun _ => ?_
  refine Keeps.ro_bind (readOnly_vertexId2 _ _) fun _ => ?_
  refine Keeps.bind (Keeps.of_attrOnly (ao_midpointOrRetry _ _)) fun _ => ?_
  refine Keeps.ro_bind (readOnly_vertexId2 _ _) fun _ => ?_
  refine Keeps.bind (Keeps.of_attrOnly (attrOnly_writeVtx _ _)) fun _ => ?_
  refine Keeps.bind (keeps_oneUnsew2 cfg k hl) fun _ => ?_
  refine Keeps.bind (keeps_oneUnsew2 cfg k hb1) fun _ => ?_
  refine Keeps.bind (keeps_oneSew2 cfg k hl h1) fun _ => ?_
  refine Keeps.bind (keeps_oneSew2 cfg k h1 hb0) fun _ => ?_
  refine Keeps.bind (keeps_oneSew2 cfg k h3 hb1) fun _ => ?_
  refine Keeps.bind (keeps_oneSew2 cfg k hb1 h2) fun _ => ?_
  refine Keeps.bind (Keeps.of_attrOnly (ao_spreadFaceAnchor _ _ _ _ _)) fun _ => ?_
  exact Keeps.of_attrOnly (ao_spreadEdgeAnchorOuter _ _ _ _ _)

/-- a free in-use dart -/
def Spare (m : Map Val) (d : Nat) : Prop := C01.InUse m d ∧ m.isFree 3 d = true

theorem Spare.β {m : Map Val} {d : Nat} (h : Spare m d) (i : Nat) (hi : i < 3) : m.β i d = 0 :=
  (isFree_iff m 3 d).1 h.2 i hi

/-- the β function after the links of the three spare darts of `cut_outer_edge` -/
def links3 (f : Nat → Nat → Nat) (n1 n2 n3 : Nat) : Nat → Nat → Nat := lnk1 (lnk2 f n1 n2) n2 n3

theorem links3_old (f : Nat → Nat → Nat) {n1 n2 n3 x : Nat} (i : Nat) (hx : x ∉ [n1, n2, n3]) :
    links3 f n1 n2 n3 i x = f i x := by
  simp only [List.mem_cons, List.mem_nil_iff, not_or, or_false] at hx
  obtain ⟨x1, x2, x3⟩ := hx
  simp [links3, lnk1, lnk2, upd_apply, Ne.symm x1, Ne.symm x2, Ne.symm x3]

/-- the head of a successful `cut_outer_edge`: the spare darts are linked (`s2`), the two anchors read (`s3`), and the
    rest of the kernel runs on the images `β0 e`, `β1 e` of the INITIAL map -/
theorem cutOuter_prefix (cfg : Cfg Val) (m m' : Map Val) (e nd1 nd2 nd3 : Nat) {a : Unit} (hwf : WF 3 m)
    (L1 : Live m.n m.u nd1) (L2 : Live m.n m.u nd2) (L3 : Live m.n m.u nd3) (h12 : nd1 ≠ nd2) (hne : e ∉ [nd1, nd2, nd3])
    (h : run (cutOuterEdge cfg m.n e nd1 nd2 nd3) m = (.ok a, m')) :
    ∃ s2 s3 fa ea, Inv m.n m.u s2 ∧ s2.β = links3 m.β nd1 nd2 nd3 ∧ s2.fc = m.fc ∧ (∀ t x, s2.att t x = m.att t x) ∧
      run (takeFaceAnchor cfg m.n e) s2 = (.ok fa, s3) ∧ run (peekEdgeAnchor cfg e) s3 = (.ok ea, s3) ∧
      run (cutOuterTail cfg m.n e nd1 nd2 nd3 fa ea (m.β 0 e) (m.β 1 e)) s3 = (.ok a, m') := by
  unfold cutOuterEdge at h
  obtain ⟨_, m1, r1, h⟩ := run_bind_ok h
  have I1 := Keeps.twoLinkCore (X := Val) L1 L2 h12 m m1 _ (Inv.of_wf hwf) r1
  obtain ⟨_, _, st1⟩ := step_twoLinkCore r1
  obtain ⟨_, m2, r2, h⟩ := run_bind_ok h
  have I2 := Keeps.oneLinkCore (X := Val) L2 L3 m1 m2 _ I1 r2
  obtain ⟨_, _, st2⟩ := step_oneLinkCore r2
  have b2 : m2.β = links3 m.β nd1 nd2 nd3 := by
    rw [st2.β, st1.β]
    rfl
  obtain ⟨fa, m3, r3, h⟩ := run_bind_ok h
  obtain ⟨ea, r4, h⟩ := run_ro_bind_ok (ro_peekEdgeAnchor cfg e) h
  obtain ⟨_, h⟩ := rB_bind_ok h
  obtain ⟨_, h⟩ := rB_bind_ok h
  rw [β_of_sameTopo (AttrOnly.run_ok (ao_takeFaceAnchor cfg m.n e) r3), b2, links3_old _ 0 hne, links3_old _ 1 hne] at h
  exact ⟨m2, m3, fa, ea, I2, b2, by rw [(C04.link1_fc r2).1, (C04.linkI_fc r1).1],
    fun t x => by rw [(C04.link1_fc r2).2.1, (C04.linkI_fc r1).2.1], r3, r4, h⟩

/-- **C15 (a), cut_outer_edge**: every call (successful, refused, retried because an end point has no coordinates,
    panicking) with an in-use edge dart whose face is closed at it (`β0(e)`, `β1(e)` non-null) and three free
    in-use spare darts (`nd1 ≠ nd2`) leaves a well-formed 2-map well formed. -/
theorem C15_cutOuter_preserves_WF (cfg : Cfg Val) (m : Map Val) (e nd1 nd2 nd3 : Nat) (hwf : WF 3 m)
    (he : C01.InUse m e) (hl : m.β 1 e ≠ 0 ∧ m.β 0 e ≠ 0)
    (s1 : Spare m nd1) (s2 : Spare m nd2) (s3 : Spare m nd3) (h12 : nd1 ≠ nd2) :
    WF 3 (atomically (cutOuterEdge cfg m.n e nd1 nd2 nd3) m).2 := by
  refine wf_atomically_of hwf fun a m' h => ?_
  have L1 : Live m.n m.u nd1 := Live.of_inUse s1.1
  have L2 : Live m.n m.u nd2 := Live.of_inUse s2.1
  have L3 : Live m.n m.u nd3 := Live.of_inUse s3.1
  have hne : e ∉ [nd1, nd2, nd3] := by
    intro hh
    simp only [List.mem_cons, List.mem_nil_iff, or_false] at hh
    rcases hh with rfl | rfl | rfl
    · exact hl.1 (s1.β 1 (by omega))
    · exact hl.1 (s2.β 1 (by omega))
    · exact hl.1 (s3.β 1 (by omega))
  obtain ⟨m2, m3, fa, ea, I2, _, _, _, r3, _, ht⟩ := cutOuter_prefix cfg m m' e nd1 nd2 nd3 hwf L1 L2 L3 h12 hne h
  exact (keeps_cutOuterTail cfg m.n fa ea (Live.of_inUse he) L1 L2 L3
    (live_image hwf (by omega) he.2.1 hl.2) (live_image hwf (by omega) he.2.1 hl.1) m3 m' a
    (inv_attrOnly (ao_takeFaceAnchor cfg m.n e) I2 r3) ht).wf

/-! ## cut_inner_edge -/

/-- `cut_inner_edge` after the reads of `β0`, `β1` of both edge darts -/
def cutInnerTail (cfg : Cfg Val) (n ld rd nd1 nd2 nd3 nd4 nd5 nd6 : Nat) (lf rf eAnchor : Option Val)
    (b0ld b1ld b0rd b1rd : Nat) : P Val Unit := do
  let vid1 ← vertexId2 n ld
  let vid2 ← vertexId2 n b1ld
  let newV ← midpointOrRetry vid1 vid2
  let newVid ← vertexId2 n nd1
  let _ ← writeVtx newVid newV
  twoUnsew2 cfg n ld
  oneUnsew2 cfg n ld
  oneUnsew2 cfg n b1ld
  oneUnsew2 cfg n rd
  oneUnsew2 cfg n b1rd
  twoSew2 cfg n ld nd6
  twoSew2 cfg n rd nd3
  oneSew2 cfg n ld nd1
  oneSew2 cfg n nd1 b0ld
  oneSew2 cfg n nd3 b1ld
  oneSew2 cfg n b1ld nd2
  oneSew2 cfg n rd nd4
  oneSew2 cfg n nd4 b0rd
  oneSew2 cfg n nd6 b1rd
  oneSew2 cfg n b1rd nd5
  spreadFaceAnchor cfg n lf nd1 nd2
  spreadFaceAnchor cfg n rf nd4 nd5
  spreadEdgeAnchor cfg n eAnchor nd1

theorem keeps_cutInnerTail (cfg : Cfg Val) (k : Nat) {ld rd nd1 nd2 nd3 nd4 nd5 nd6 b0ld b1ld b0rd b1rd : Nat}
    (lf rf ea : Option Val) (hl : Live n u ld) (hr : Live n u rd)
    (h1 : Live n u nd1) (h2 : Live n u nd2) (h3 : Live n u nd3) (h4 : Live n u nd4) (h5 : Live n u nd5)
    (h6 : Live n u nd6) (hb0l : Live n u b0ld) (hb1l : Live n u b1ld) (hb0r : Live n u b0rd) (hb1r : Live n u b1rd)
    (hl6 : ld ≠ nd6) (hr3 : rd ≠ nd3) :
    Keeps n u (cutInnerTail cfg k ld rd nd1 nd2 nd3 nd4 nd5 nd6 lf rf ea b0ld b1ld b0rd b1rd) := by
  unfold cutInnerTail
  refine Keeps.ro_bind (readOnly_vertexId2 _ _) fun _ => ?_
  refine Keeps.ro_bind (readOnly_vertexId2 _ _) fun _ => ?_
  refine Keeps.bind (Keeps.of_attrOnly (ao_midpointOrRetry _ _)) fun _ => ?_
  refine Keeps.ro_bind (readOnly_vertexId2 _ _) fun _ => ?_
  refine Keeps.bind (Keeps.of_attrOnly (attrOnly_writeVtx _ _)) fun _ => ?_
  refine Keeps.bind (keeps_twoUnsew2 cfg k hl) fun _ => ?_
  refine Keeps.bind (keeps_oneUnsew2 cfg k hl) fun _ => ?_
  refine Keeps.bind (keeps_oneUnsew2 cfg k hb1l) fun _ => ?_
  refine Keeps.bind (keeps_oneUnsew2 cfg k hr) fun _ => ?_
  refine Keeps.bind (keeps_oneUnsew2 cfg k hb1r) fun _ => ?_
  refine Keeps.bind (keeps_twoSew2 cfg k hl h6 hl6) fun _ => ?_
  refine Keeps.bind (keeps_twoSew2 cfg k hr h3 hr3) fun _ => ?_
  refine Keeps.bind (keeps_oneSew2 cfg k hl h1) fun _ => ?_
  refine Keeps.bind (keeps_oneSew2 cfg k h1 hb0l) fun _ => ?_
  refine Keeps.bind (keeps_oneSew2 cfg k h3 hb1l) fun _ => ?_
  refine Keeps.bind (keeps_oneSew2 cfg k hb1l h2) fun _ => ?_
  refine Keeps.bind (keeps_oneSew2 cfg k hr h4) fun _ => ?_
  refine Keeps.bind (keeps_oneSew2 cfg k h4 hb0r) fun _ => ?_
  refine Keeps.bind (keeps_oneSew2 cfg k h6 hb1r) fun _ => ?_
  refine Keeps.bind (keeps_oneSew2 cfg k hb1r h5) fun _ => ?_
  refine Keeps.bind (Keeps.of_attrOnly (ao_spreadFaceAnchor _ _ _ _ _)) fun _ => ?_
  refine Keeps.bind (Keeps.of_attrOnly (ao_spreadFaceAnchor _ _ _ _ _)) fun _ => ?_
  exact Keeps.of_attrOnly (ao_spreadEdgeAnchor _ _ _ _)

theorem not_spare {m : Map Val} {d : Nat} (hd : m.β 1 d ≠ 0) {l : List Nat} (hs : ∀ x, x ∈ l → Spare m x) : d ∉ l :=
  fun hh => hd ((hs d hh).β 1 (by omega))

/-- the β function after the links of the six spare darts of `cut_inner_edge` -/
def linksF (f : Nat → Nat → Nat) (n1 n2 n3 n4 n5 n6 : Nat) : Nat → Nat → Nat :=
  lnk1 (lnk2 (lnk1 (lnk2 f n1 n2) n2 n3) n4 n5) n5 n6

theorem linksF_old (f : Nat → Nat → Nat) {n1 n2 n3 n4 n5 n6 x : Nat} (i : Nat) (hx : x ∉ [n1, n2, n3, n4, n5, n6]) :
    linksF f n1 n2 n3 n4 n5 n6 i x = f i x := by
  simp only [List.mem_cons, List.mem_nil_iff, not_or, or_false] at hx
  obtain ⟨x1, x2, x3, x4, x5, x6⟩ := hx
  simp [linksF, lnk1, lnk2, upd_apply, Ne.symm x1, Ne.symm x2, Ne.symm x3, Ne.symm x4, Ne.symm x5, Ne.symm x6]

/-- the head of a successful `cut_inner_edge`: the spare darts are linked (`s4`), the three anchors read (`s5`, `s6`),
    and the rest of the kernel runs on `β2 e` and the images `β0`, `β1` of both edge darts in the INITIAL map -/
theorem cutInner_prefix (cfg : Cfg Val) (m m' : Map Val) (e nd1 nd2 nd3 nd4 nd5 nd6 : Nat) {a : Unit} (hwf : WF 3 m)
    (L : ∀ x, x ∈ [nd1, nd2, nd3, nd4, nd5, nd6] → Live m.n m.u x) (h12 : nd1 ≠ nd2) (h45 : nd4 ≠ nd5)
    (hne : e ∉ [nd1, nd2, nd3, nd4, nd5, nd6]) (hnr : m.β 2 e ∉ [nd1, nd2, nd3, nd4, nd5, nd6])
    (h : run (cutInnerEdge cfg m.n e nd1 nd2 nd3 nd4 nd5 nd6) m = (.ok a, m')) :
    ∃ s4 s5 s6 lf rf ea, Inv m.n m.u s4 ∧ s4.β = linksF m.β nd1 nd2 nd3 nd4 nd5 nd6 ∧ s4.fc = m.fc ∧
      (∀ t x, s4.att t x = m.att t x) ∧
      run (takeFaceAnchor cfg m.n e) s4 = (.ok lf, s5) ∧ run (takeFaceAnchor cfg m.n (m.β 2 e)) s5 = (.ok rf, s6) ∧
      run (peekEdgeAnchor cfg e) s6 = (.ok ea, s6) ∧
      run (cutInnerTail cfg m.n e (m.β 2 e) nd1 nd2 nd3 nd4 nd5 nd6 lf rf ea (m.β 0 e) (m.β 1 e) (m.β 0 (m.β 2 e))
        (m.β 1 (m.β 2 e))) s6 = (.ok a, m') := by
  have L1 := L nd1 (by simp)
  have L2 := L nd2 (by simp)
  have L3 := L nd3 (by simp)
  have L4 := L nd4 (by simp)
  have L5 := L nd5 (by simp)
  have L6 := L nd6 (by simp)
  unfold cutInnerEdge at h
  obtain ⟨_, m1, r1, h⟩ := run_bind_ok h
  have I1 := Keeps.twoLinkCore (X := Val) L1 L2 h12 m m1 _ (Inv.of_wf hwf) r1
  obtain ⟨_, _, st1⟩ := step_twoLinkCore r1
  obtain ⟨_, m2, r2, h⟩ := run_bind_ok h
  have I2 := Keeps.oneLinkCore (X := Val) L2 L3 m1 m2 _ I1 r2
  obtain ⟨_, _, st2⟩ := step_oneLinkCore r2
  obtain ⟨_, m3, r3, h⟩ := run_bind_ok h
  have I3 := Keeps.twoLinkCore (X := Val) L4 L5 h45 m2 m3 _ I2 r3
  obtain ⟨_, _, st3⟩ := step_twoLinkCore r3
  obtain ⟨_, m4, r4, h⟩ := run_bind_ok h
  have I4 := Keeps.oneLinkCore (X := Val) L5 L6 m3 m4 _ I3 r4
  obtain ⟨_, _, st4⟩ := step_oneLinkCore r4
  have b4 : m4.β = linksF m.β nd1 nd2 nd3 nd4 nd5 nd6 := by
    rw [st4.β, st3.β, st2.β, st1.β]
    rfl
  obtain ⟨_, h⟩ := rB_bind_ok h
  rw [b4, linksF_old _ 2 hne] at h
  obtain ⟨lf, m5, r5, h⟩ := run_bind_ok h
  obtain ⟨rf, m6, r6, h⟩ := run_bind_ok h
  obtain ⟨ea, r7, h⟩ := run_ro_bind_ok (ro_peekEdgeAnchor cfg e) h
  obtain ⟨_, h⟩ := rB_bind_ok h
  obtain ⟨_, h⟩ := rB_bind_ok h
  obtain ⟨_, h⟩ := rB_bind_ok h
  obtain ⟨_, h⟩ := rB_bind_ok h
  rw [β_of_sameTopo (AttrOnly.run_ok (ao_takeFaceAnchor cfg m.n (m.β 2 e)) r6),
    β_of_sameTopo (AttrOnly.run_ok (ao_takeFaceAnchor cfg m.n e) r5), b4, linksF_old _ 0 hne, linksF_old _ 1 hne,
    linksF_old _ 0 hnr, linksF_old _ 1 hnr] at h
  exact ⟨m4, m5, m6, lf, rf, ea, I4, b4,
    by rw [(C04.link1_fc r4).1, (C04.linkI_fc r3).1, (C04.link1_fc r2).1, (C04.linkI_fc r1).1],
    fun t x => by rw [(C04.link1_fc r4).2.1, (C04.linkI_fc r3).2.1, (C04.link1_fc r2).2.1, (C04.linkI_fc r1).2.1],
    r5, r6, r7, h⟩

/-- **C15 (a), cut_inner_edge**: every call with an in-use interior edge dart (`β2(e) ≠ 0`) whose two faces are
    closed at the edge darts and six free in-use spare darts (`nd1 ≠ nd2`, `nd4 ≠ nd5`) leaves a well-formed 2-map
    well formed. -/
theorem C15_cutInner_preserves_WF (cfg : Cfg Val) (m : Map Val) (e nd1 nd2 nd3 nd4 nd5 nd6 : Nat) (hwf : WF 3 m)
    (he : C01.InUse m e) (h2e : m.β 2 e ≠ 0) (hl : m.β 1 e ≠ 0 ∧ m.β 0 e ≠ 0)
    (hr : m.β 1 (m.β 2 e) ≠ 0 ∧ m.β 0 (m.β 2 e) ≠ 0)
    (hs : ∀ x, x ∈ [nd1, nd2, nd3, nd4, nd5, nd6] → Spare m x) (h12 : nd1 ≠ nd2) (h45 : nd4 ≠ nd5) :
    WF 3 (atomically (cutInnerEdge cfg m.n e nd1 nd2 nd3 nd4 nd5 nd6) m).2 := by
  refine wf_atomically_of hwf fun a m' h => ?_
  have L : ∀ x, x ∈ [nd1, nd2, nd3, nd4, nd5, nd6] → Live m.n m.u x := fun x hx => Live.of_inUse (hs x hx).1
  have Lr := live_image hwf (by omega : 2 < 3) he.2.1 h2e
  have hne : e ∉ [nd1, nd2, nd3, nd4, nd5, nd6] := not_spare hl.1 hs
  have hnr : m.β 2 e ∉ [nd1, nd2, nd3, nd4, nd5, nd6] := not_spare hr.1 hs
  obtain ⟨m4, m5, m6, lf, rf, ea, I4, _, _, _, r5, r6, _, ht⟩ :=
    cutInner_prefix cfg m m' e nd1 nd2 nd3 nd4 nd5 nd6 hwf L h12 h45 hne hnr h
  have I6 := inv_attrOnly (ao_takeFaceAnchor cfg m.n (m.β 2 e)) (inv_attrOnly (ao_takeFaceAnchor cfg m.n e) I4 r5) r6
  exact (keeps_cutInnerTail cfg m.n lf rf ea (Live.of_inUse he) Lr (L nd1 (by simp)) (L nd2 (by simp)) (L nd3 (by simp))
    (L nd4 (by simp)) (L nd5 (by simp)) (L nd6 (by simp))
    (live_image hwf (by omega) he.2.1 hl.2) (live_image hwf (by omega) he.2.1 hl.1)
    (live_image hwf (by omega) Lr.2.1 hr.2) (live_image hwf (by omega) Lr.2.1 hr.1)
    (fun hh => hne (by simp [hh])) (fun hh => hnr (by simp [hh])) m6 m' a I6 ht).wf

/-! ## collapse_edge

`collapse_edge` flags darts (`remove_free_dart_transac`), so the removal flags change along the kernel and the
`Keeps` calculus (fixed flags) does not apply.  The invariant used instead is "the map with its ORIGINAL flags is
well formed": sews and unsews never read a flag, flagging never touches a β image.  At the end, the map with its new
flags is well formed iff the newly flagged darts are free. -/

/-- the map with its removal flags replaced -/
def withU (m : Map X) (u0 : Array Bool) : Map X := { m with u := u0 }

structure InvJ (n : Nat) (u0 : Array Bool) (m : Map X) : Prop where
  wf : WF 3 (withU m u0)
  n_eq : m.n = n
  usz : m.u.size = n

theorem InvJ.inUse {m : Map X} (h : InvJ n u m) {d : Nat} (hd : Live n u d) : C01.InUse (withU m u) d :=
  ⟨hd.1, by show d < m.n; rw [h.n_eq]; exact hd.2.1, hd.2.2⟩

theorem InvJ.wf_of_free {m : Map X} (J : InvJ n u m)
    (h : ∀ d, d < m.n → m.unused d = true → rd u d = false → ∀ i, i < 3 → m.β i d = 0) : WF 3 m := by
  have w := J.wf
  refine ⟨⟨w.npos, w.rows, w.row, ?_, w.asz⟩, ⟨w.null, w.range, w.inv01, w.inv10, w.invol, ?_⟩⟩
  · rw [J.usz]
    exact J.n_eq.symm
  · intro d hd hu i hi
    cases h0 : rd u d
    · exact h d hd hu h0 i hi
    · exact w.unusedFree d hd h0 i hi

def KeepsJ (n : Nat) (u0 : Array Bool) {α : Type} (p : P X α) : Prop :=
  ∀ (m m' : Map X) (a : α), InvJ n u0 m → run p m = (.ok a, m') → InvJ n u0 m'

section
variable {α β : Type}

theorem KeepsJ.pure (a : α) : KeepsJ n u (pure a : P X α) := by
  intro m m' b h hr; simp at hr; rw [← hr.2]; exact h

theorem KeepsJ.abort (e : Err) : KeepsJ n u (HC.abort e : P X α) := by
  intro m m' b _ hr; simp at hr

theorem KeepsJ.panic : KeepsJ n u (Prog.panic : P X α) := by
  intro m m' b _ hr; simp at hr

theorem KeepsJ.retry : KeepsJ n u (Prog.retry : P X α) := by
  intro m m' b _ hr; simp at hr

theorem KeepsJ.bind {p : P X α} {f : α → P X β} (hp : KeepsJ n u p) (hf : ∀ a, KeepsJ n u (f a)) :
    KeepsJ n u (p.bind f) := by
  intro m m' b h hr
  obtain ⟨a, m1, h1, h2⟩ := run_bind_ok hr
  exact hf a _ _ b (hp _ _ a h h1) h2

theorem KeepsJ.sameTopo_withU {m m' : Map X} (st : SameTopo m m') (u0 : Array Bool) : SameTopo (withU m u0) (withU m' u0) :=
  ⟨st.n, st.b, rfl, st.asz, st.rsz⟩

theorem KeepsJ.of_attrOnly {p : P X α} (hp : AttrOnly p) : KeepsJ n u p := by
  intro m m' a h hr
  have st := hp m; rw [hr] at st
  exact ⟨h.wf.sameTopo (KeepsJ.sameTopo_withU st u), by rw [st.n]; exact h.n_eq, by rw [st.u]; exact h.usz⟩

theorem KeepsJ.of_readOnly {p : P X α} (hp : ReadOnly p) : KeepsJ n u p := KeepsJ.of_attrOnly (AttrOnly.of_readOnly hp)

theorem KeepsJ.ro_bind {p : P X α} {f : α → P X β} (hp : ReadOnly p) (hf : ∀ a, KeepsJ n u (f a)) :
    KeepsJ n u (p.bind f) := KeepsJ.bind (KeepsJ.of_readOnly hp) hf

theorem KeepsJ.ite {c : Prop} [Decidable c] {p q : P X α} (hp : c → KeepsJ n u p) (hq : ¬ c → KeepsJ n u q) :
    KeepsJ n u (if c then p else q) := by
  split
  · exact hp ‹_›
  · exact hq ‹_›

theorem withU_setβ (m : Map X) (u0 : Array Bool) (i d v : Nat) : withU (m.setβ i d v) u0 = (withU m u0).setβ i d v :=
  rfl

/-- a β read returns an existing dart which, if non-null, was live when the kernel started -/
theorem KeepsJ.rB_bind {i d : Nat} {f : Nat → P X β}
    (hf : ∀ x, (x ≠ 0 → Live n u x) → KeepsJ n u (f x)) : KeepsJ n u ((rB i d).bind f) := by
  intro m m' b h hr
  obtain ⟨hok, hr⟩ := rB_bind_ok hr
  have hid := (h.wf.toSized.okβ i d).1 hok
  refine hf (m.β i d) (fun hne => ?_) m m' b h hr
  have := live_image h.wf hid.1 hid.2 hne
  exact ⟨this.1, by rw [← h.n_eq]; exact this.2.1, this.2.2⟩

theorem KeepsJ.oneLinkCore {l r : Nat} (hl : Live n u l) (hr : Live n u r) :
    KeepsJ n u (HC.oneLinkCore (X := X) l r) := by
  intro m m' a h hrun
  obtain ⟨_, _, h1, h0, rfl⟩ := oneLinkCore_ok hrun
  have hl' := h.inUse hl
  have hr' := h.inUse hr
  refine ⟨?_, h.n_eq, h.usz⟩
  unfold Map.link1
  rw [withU_setβ, withU_setβ]
  exact h.wf.link1 (by omega) hl'.1 hr'.1 hl'.2.1 hr'.2.1 hl'.2.2 hr'.2.2 h1 h0

theorem KeepsJ.twoLinkCore {l r : Nat} (hl : Live n u l) (hr : Live n u r) (hlr : l ≠ r) :
    KeepsJ n u (HC.iLinkCore (X := X) 2 l r) := by
  intro m m' a h hrun
  obtain ⟨_, _, h1, h0, rfl⟩ := iLinkCore_ok hrun
  have hl' := h.inUse hl
  have hr' := h.inUse hr
  refine ⟨?_, h.n_eq, h.usz⟩
  unfold Map.linkI
  rw [withU_setβ, withU_setβ]
  exact h.wf.linkI (by omega) (by omega) hl'.1 hr'.1 hlr hl'.2.1 hr'.2.1 hl'.2.2 hr'.2.2 h1 h0

theorem KeepsJ.oneUnlinkCore {l : Nat} (hl : Live n u l) : KeepsJ n u (HC.oneUnlinkCore (X := X) l) := by
  intro m m' a h hrun
  obtain ⟨_, _, hne, rfl⟩ := oneUnlinkCore_ok hrun
  refine ⟨?_, h.n_eq, h.usz⟩
  unfold Map.unlink1
  rw [withU_setβ, withU_setβ]
  exact h.wf.unlink1 (by omega) (h.inUse hl).2.1 hne

theorem KeepsJ.twoUnlinkCore {l : Nat} (hl : Live n u l) : KeepsJ n u (HC.iUnlinkCore (X := X) 2 l) := by
  intro m m' a h hrun
  obtain ⟨_, _, hne, rfl⟩ := iUnlinkCore_ok hrun
  refine ⟨?_, h.n_eq, h.usz⟩
  unfold Map.unlinkI
  rw [withU_setβ, withU_setβ]
  exact h.wf.unlinkI (by omega) (by omega) (h.inUse hl).2.1 hne

/-- flagging a dart never touches the map-with-original-flags -/
theorem KeepsJ.removeFreeDartTx (d : Nat) : KeepsJ n u (HC.removeFreeDartTx (X := X) d) := by
  intro m m' a h hrun
  rw [run_removeFreeDartTx] at hrun
  by_cases hok : m.okU d = true
  · simp only [hok, if_true, Prod.mk.injEq] at hrun
    rw [← hrun.2]
    exact ⟨h.wf, h.n_eq, by show (wr m.u d true).size = n; rw [size_wr]; exact h.usz⟩
  · simp [hok] at hrun

end

theorem InvJ.sameTopo {m m' : Map X} (h : InvJ n u m) (st : SameTopo m m') : InvJ n u m' :=
  ⟨h.wf.sameTopo (KeepsJ.sameTopo_withU st u), by rw [st.n]; exact h.n_eq, by rw [st.u]; exact h.usz⟩

theorem KeepsJ.of_topo {core p : P X Unit} (ht : SewOf SameTopo core p) (hc : KeepsJ n u core) : KeepsJ n u p :=
  fun _ _ _ hi hr => ht.inv (fun _ _ st i => i.sameTopo st) (fun m m1 i h1 => hc m m1 () i h1) hi hr

theorem keepsJ_oneSew2 (cfg : Cfg X) (k : Nat) {l r : Nat} (hl : Live n u l) (hr : Live n u r) :
    KeepsJ n u (oneSew2 cfg k l r) :=
  KeepsJ.of_topo (topo_oneSew2 cfg k l r) (KeepsJ.oneLinkCore hl hr)

theorem keepsJ_twoSew2 (cfg : Cfg X) (k : Nat) {l r : Nat} (hl : Live n u l) (hr : Live n u r) (hlr : l ≠ r) :
    KeepsJ n u (twoSew2 cfg k l r) :=
  KeepsJ.of_topo (topo_twoSew2 cfg k l r) (KeepsJ.twoLinkCore hl hr hlr)

/-! ### unsews of the null dart always fail -/

theorem KeepsJ.opt {p core : Nat → P X Unit} (ht : ∀ d, SewOf SameTopo (core d) (p d))
    (hfail : ∀ (m m' : Map X) (a : Unit), m.β 1 0 = 0 → m.β 2 0 = 0 → run (core 0) m ≠ (.ok a, m'))
    (hk : ∀ d, Live n u d → KeepsJ n u (core d)) {d : Nat} (hd : d ≠ 0 → Live n u d) : KeepsJ n u (p d) := by
  by_cases h0 : d = 0
  · subst h0
    intro m m' a hi hr
    obtain ⟨m1, h1, _⟩ := (ht 0).ok hr
    exact absurd h1 (hfail m m1 () (hi.wf.null 1 (by omega)) (hi.wf.null 2 (by omega)))
  · exact KeepsJ.of_topo (ht d) (hk d (hd h0))

theorem keepsJ_oneUnsew2_opt (cfg : Cfg X) (k : Nat) {d : Nat} (hd : d ≠ 0 → Live n u d) :
    KeepsJ n u (oneUnsew2 cfg k d) :=
  KeepsJ.opt (topo_oneUnsew2 cfg k) (fun _ _ _ z1 _ h => (oneUnlinkCore_ok h).2.2.1 z1)
    (fun _ hl => KeepsJ.oneUnlinkCore hl) hd

theorem keepsJ_twoUnsew2_opt (cfg : Cfg X) (k : Nat) {d : Nat} (hd : d ≠ 0 → Live n u d) :
    KeepsJ n u (twoUnsew2 cfg k d) :=
  KeepsJ.opt (topo_twoUnsew2 cfg k) (fun _ _ _ _ z2 h => (iUnlinkCore_ok h).2.2.1 z2)
    (fun _ hl => KeepsJ.twoUnlinkCore hl) hd

theorem keepsJ_twoUnlink_opt {d : Nat} (hd : d ≠ 0 → Live n u d) : KeepsJ n u (iUnlinkCore (X := X) 2 d) :=
  KeepsJ.opt (fun _ => SewOf.self pre_sameTopo) (fun _ _ _ _ z2 h => (iUnlinkCore_ok h).2.2.1 z2)
    (fun _ hl => KeepsJ.twoUnlinkCore hl) hd

/-! ### the kernel with an assertion in front of every sew

`chk c` is placed in front of each sew of `collapse_edge`'s helpers, with `c` = "the darts handed to the sew are
non-null (and distinct for a 2-sew)".  With `chk = fun _ => pure ()` this is the kernel itself (`rfl`); with
`chk = assertP` a failed assertion panics. -/

def assertP (c : Bool) : P Val Unit := if c then pure () else Prog.panic

def halfMidG (chk : Bool → P Val Unit) (cfg : Cfg Val) (n b0d d b1d : Nat) : P Val Unit := do
  oneUnsew2 cfg n d
  oneUnsew2 cfg n b1d
  oneUnsew2 cfg n b0d
  let b2b0d ← rB 2 b0d
  let b2b1d ← rB 2 b1d
  twoUnsew2 cfg n b0d
  twoUnsew2 cfg n b1d
  chk (decide (b2b0d ≠ 0 ∧ b2b1d ≠ 0 ∧ b2b0d ≠ b2b1d))
  twoSew2 cfg n b2b0d b2b1d
  let _ ← removeFreeDartTx d
  let _ ← removeFreeDartTx b0d
  let _ ← removeFreeDartTx b1d
  pure ()

def edgeToMidpointG (chk : Bool → P Val Unit) (cfg : Cfg Val) (n b0l l b1l b0r r b1r : Nat) : P Val Nat := do
  if r ≠ 0 then do
    twoUnsew2 cfg n r
    halfMidG chk cfg n b0r r b1r
  else pure ()
  let b2b0l ← rB 2 b0l
  halfMidG chk cfg n b0l l b1l
  collapsedVid n b2b0l r b1r

def halfBaseG (chk : Bool → P Val Unit) (cfg : Cfg Val) (n dPe dE dNe : Nat) : P Val Unit := do
  let b2dNe ← rB 2 dNe
  let b0b2dNe ← rB 0 b2dNe
  let b1b2dNe ← rB 1 b2dNe
  oneUnsew2 cfg n dE
  oneUnsew2 cfg n dPe
  oneUnsew2 cfg n dNe
  if b2dNe ≠ 0 then do
    oneUnsew2 cfg n b2dNe
    oneUnsew2 cfg n b0b2dNe
    iUnlinkCore 2 dNe
    let _ ← removeFreeDartTx dE
    let _ ← removeFreeDartTx dNe
    let _ ← removeFreeDartTx b2dNe
    chk (decide (dPe ≠ 0 ∧ b1b2dNe ≠ 0))
    oneSew2 cfg n dPe b1b2dNe
    chk (decide (b0b2dNe ≠ 0 ∧ dPe ≠ 0))
    oneSew2 cfg n b0b2dNe dPe
  else pure ()

def edgeToBaseG (chk : Bool → P Val Unit) (cfg : Cfg Val) (n b0l l b1l b0r r b1r : Nat) : P Val Nat := do
  let lVid ← vertexId2 n l
  let tmpVertex ← rA 0 lVid
  let tmpAnchor ← readAttr cfg stVA lVid
  if r ≠ 0 then do
    twoUnsew2 cfg n l
    halfBaseG chk cfg n b1r r b0r
  else pure ()
  let b2b0l ← rB 2 b0l
  halfBaseG chk cfg n b0l l b1l
  let newVid ← collapsedVid n b2b0l r b1r
  if newVid ≠ 0 then do
    match tmpVertex with
    | some v => do let _ ← writeVtx newVid v; pure ()
    | none => pure ()
    match tmpAnchor with
    | some a => do let _ ← writeAttr cfg stVA newVid a; pure ()
    | none => pure ()
  else pure ()
  pure newVid

/-- `collapse_edge` after its guards (`is_collapsible`, the chosen variant, the orientation post-check) -/
def collapseBodyG (chk : Bool → P Val Unit) (cfg : Cfg Val) (n e r b0l b1l b0r b1r : Nat) : P Val Nat := do
  let c ← isCollapsible cfg n e
  let newVid ← (match c with
    | .average => edgeToMidpointG chk cfg n b0l e b1l b0r r b1r
    | .left => edgeToBaseG chk cfg n b0l e b1l b0r r b1r
    | .right => edgeToBaseG chk cfg n b0r r b1r b0l e b1l)
  let ok ← isOrbitOrientationConsistent n newVid
  if !ok then abort errInvertedOrientation else
  pure newVid

def collapseEdgeG (chk : Bool → P Val Unit) (cfg : Cfg Val) (n e : Nat) : P Val Nat := do
  if e = 0 then abort errNullEdge else
  let l := e
  let r ← rB 2 e
  let b0l ← rB 0 l
  let b1l ← rB 1 l
  let b0r ← rB 0 r
  let b1r ← rB 1 r
  let b1b1l ← rB 1 b1l
  if b1b1l ≠ b0l then abort errBadTopology else
  let bad ← (if r ≠ 0 then do
    let b1b1r ← rB 1 b1r
    pure (decide (b1b1r ≠ b0r)) else pure false : P Val Bool)
  if bad then abort errBadTopology else
  collapseBodyG chk cfg n e r b0l b1l b0r b1r

/-- the kernel with assertions -/
def collapseEdgeA (cfg : Cfg Val) (n e : Nat) : P Val Nat := collapseEdgeG assertP cfg n e

/-- without assertions, this is the model of `collapse_edge` itself -/
theorem collapseEdgeG_nochk (cfg : Cfg Val) (n e : Nat) :
    collapseEdgeG (fun _ => pure ()) cfg n e = collapseEdge cfg n e := rfl

/-! ### read-only / attribute-only pieces of `collapse_edge` -/

theorem ro_collapsedVid (k a r b : Nat) : ReadOnly (collapsedVid k a r b) := by
  unfold collapsedVid
  exact ReadOnly.ite (readOnly_vertexId2 _ _) (ReadOnly.ite (readOnly_vertexId2 _ _) (ReadOnly.pure _))

theorem ro_fanSign (k : Nat) (newV : Val) (d : Nat) : ReadOnly (fanSign k newV d) := by
  unfold fanSign
  refine ReadOnly.bind (ReadOnly.rB _ _) fun _ => ?_
  refine ReadOnly.bind (ReadOnly.rB _ _) fun _ => ?_
  refine ReadOnly.bind (readOnly_vertexId2 _ _) fun _ => ?_
  refine ReadOnly.bind (readOnly_vertexId2 _ _) fun _ => ?_
  refine ReadOnly.bind (ReadOnly.rA _ _) fun v1 => ?_
  cases v1
  · exact ro_retry
  · refine ReadOnly.bind (ReadOnly.rA _ _) fun v2 => ?_
    cases v2
    · exact ro_retry
    · exact ReadOnly.pure _

theorem ro_fanAllSame (k : Nat) (newV : Val) (ref : Int) : ∀ l, ReadOnly (fanAllSame k newV ref l)
  | [] => ReadOnly.pure _
  | d :: ds => by
      unfold fanAllSame
      refine ReadOnly.bind (ro_fanSign _ _ _) fun s => ?_
      exact ReadOnly.ite (ReadOnly.pure _) (ro_fanAllSame k newV ref ds)

theorem ro_isOrbitOrientationConsistent (k vid : Nat) : ReadOnly (isOrbitOrientationConsistent k vid) := by
  unfold isOrbitOrientationConsistent
  refine ReadOnly.bind (ReadOnly.rA _ _) fun nv => ?_
  cases nv
  · exact ro_retry
  · refine ReadOnly.bind (readOnly_orbit2 _ _ _) fun tmp => ?_
    cases tmp
    · exact ReadOnly.panic
    · exact ReadOnly.bind (ro_fanSign _ _ _) fun _ => ReadOnly.ite (ReadOnly.pure _) (ro_fanAllSame _ _ _ _)

theorem ao_isCollapsible (cfg : Cfg Val) (k e : Nat) : AttrOnly (isCollapsible cfg k e) := by
  unfold isCollapsible
  refine AttrOnly.ite (AttrOnly.pure _) ?_
  refine AttrOnly.bind (AttrOnly.of_readOnly (ReadOnly.rB _ _)) fun _ => ?_
  refine AttrOnly.bind (ao_vid _ _) fun _ => ?_
  refine AttrOnly.bind (ao_vid _ _) fun _ => ?_
  refine AttrOnly.bind (ao_readAttr _ _ _) fun a1 => ?_
  refine AttrOnly.bind (ao_readAttr _ _ _) fun a2 => ?_
  refine AttrOnly.bind (ao_readAttr _ _ _) fun a3 => ?_
  intro m
  split
  · split
    · split <;> exact SameTopo.refl _
    · exact SameTopo.refl _
  · exact SameTopo.refl _

theorem ao_baseWriteBack (cfg : Cfg Val) (newVid : Nat) (tv ta : Option Val) :
    AttrOnly (do
      if newVid ≠ 0 then do
        match tv with
        | some v => do let _ ← writeVtx newVid v; pure ()
        | none => pure ()
        match ta with
        | some a => do let _ ← writeAttr cfg stVA newVid a; pure ()
        | none => pure ()
      else pure ()
      pure newVid : P Val Nat) := by
  refine AttrOnly.ite ?_ (AttrOnly.pure _)
  have j2 : AttrOnly (match ta with
      | some a => do let _ ← writeAttr cfg stVA newVid a; pure newVid
      | none => pure newVid : P Val Nat) := by
    cases ta
    · exact AttrOnly.pure _
    · exact AttrOnly.bind (ao_writeAttr _ _ _ _) fun _ => AttrOnly.pure _
  cases tv
  · exact j2
  · exact AttrOnly.bind (attrOnly_writeVtx _ _) fun _ => j2

/-! ### the asserted kernel keeps the invariant -/

theorem keepsJ_assert {β : Type} {c : Bool} {f : Unit → P Val β} (hf : c = true → KeepsJ n u (f ())) :
    KeepsJ n u ((assertP c).bind f) := by
  unfold assertP
  cases c
  · intro m m' b _ hr; simp at hr
  · simpa using hf rfl

theorem keepsJ_halfMidA (cfg : Cfg Val) (k : Nat) {b0d d b1d : Nat} (h0 : b0d ≠ 0 → Live n u b0d)
    (hd : d ≠ 0 → Live n u d) (h1 : b1d ≠ 0 → Live n u b1d) : KeepsJ n u (halfMidG assertP cfg k b0d d b1d) := by
  unfold halfMidG
  refine KeepsJ.bind (keepsJ_oneUnsew2_opt cfg k hd) fun _ => ?_
  refine KeepsJ.bind (keepsJ_oneUnsew2_opt cfg k h1) fun _ => ?_
  refine KeepsJ.bind (keepsJ_oneUnsew2_opt cfg k h0) fun _ => ?_
  refine KeepsJ.rB_bind fun x hx => ?_
  refine KeepsJ.rB_bind fun y hy => ?_
  refine KeepsJ.bind (keepsJ_twoUnsew2_opt cfg k h0) fun _ => ?_
  refine KeepsJ.bind (keepsJ_twoUnsew2_opt cfg k h1) fun _ => ?_
  refine keepsJ_assert fun hc => ?_
  obtain ⟨hx0, hy0, hxy⟩ := of_decide_eq_true hc
  refine KeepsJ.bind (keepsJ_twoSew2 cfg k (hx hx0) (hy hy0) hxy) fun _ => ?_
  refine KeepsJ.bind (KeepsJ.removeFreeDartTx _) fun _ => ?_
  refine KeepsJ.bind (KeepsJ.removeFreeDartTx _) fun _ => ?_
  refine KeepsJ.bind (KeepsJ.removeFreeDartTx _) fun _ => ?_
  exact KeepsJ.pure _

theorem keepsJ_halfBaseA (cfg : Cfg Val) (k : Nat) {dPe dE dNe : Nat} (hp : dPe ≠ 0 → Live n u dPe)
    (he : dE ≠ 0 → Live n u dE) (hn : dNe ≠ 0 → Live n u dNe) : KeepsJ n u (halfBaseG assertP cfg k dPe dE dNe) := by
  unfold halfBaseG
  refine KeepsJ.rB_bind fun x hx => ?_
  refine KeepsJ.rB_bind fun y hy => ?_
  refine KeepsJ.rB_bind fun z hz => ?_
  refine KeepsJ.bind (keepsJ_oneUnsew2_opt cfg k he) fun _ => ?_
  refine KeepsJ.bind (keepsJ_oneUnsew2_opt cfg k hp) fun _ => ?_
  refine KeepsJ.bind (keepsJ_oneUnsew2_opt cfg k hn) fun _ => ?_
  refine KeepsJ.ite (fun _ => ?_) fun _ => KeepsJ.pure _
  refine KeepsJ.bind (keepsJ_oneUnsew2_opt cfg k hx) fun _ => ?_
  refine KeepsJ.bind (keepsJ_oneUnsew2_opt cfg k hy) fun _ => ?_
  refine KeepsJ.bind (keepsJ_twoUnlink_opt hn) fun _ => ?_
  refine KeepsJ.bind (KeepsJ.removeFreeDartTx _) fun _ => ?_
  refine KeepsJ.bind (KeepsJ.removeFreeDartTx _) fun _ => ?_
  refine KeepsJ.bind (KeepsJ.removeFreeDartTx _) fun _ => ?_
  refine keepsJ_assert fun hc => ?_
  obtain ⟨c1, c2⟩ := of_decide_eq_true hc
  refine KeepsJ.bind (keepsJ_oneSew2 cfg k (hp c1) (hz c2)) fun _ => ?_
  refine keepsJ_assert fun hc' => ?_
  obtain ⟨c3, c4⟩ := of_decide_eq_true hc'
  exact keepsJ_oneSew2 cfg k (hy c3) (hp c4)

theorem keepsJ_edgeToMidpointA (cfg : Cfg Val) (k : Nat) {b0l l b1l b0r r b1r : Nat}
    (h0l : b0l ≠ 0 → Live n u b0l) (hl : l ≠ 0 → Live n u l) (h1l : b1l ≠ 0 → Live n u b1l)
    (h0r : b0r ≠ 0 → Live n u b0r) (hr : r ≠ 0 → Live n u r) (h1r : b1r ≠ 0 → Live n u b1r) :
    KeepsJ n u (edgeToMidpointG assertP cfg k b0l l b1l b0r r b1r) := by
  unfold edgeToMidpointG
  refine KeepsJ.ite (fun _ => ?_) fun _ => ?_
  · refine KeepsJ.bind (keepsJ_twoUnsew2_opt cfg k hr) fun _ => ?_
    refine KeepsJ.bind (keepsJ_halfMidA cfg k h0r hr h1r) fun _ => ?_
    refine KeepsJ.rB_bind fun x _ => ?_
    exact KeepsJ.bind (keepsJ_halfMidA cfg k h0l hl h1l) fun _ => KeepsJ.of_readOnly (ro_collapsedVid _ _ _ _)
  · refine KeepsJ.rB_bind fun x _ => ?_
    exact KeepsJ.bind (keepsJ_halfMidA cfg k h0l hl h1l) fun _ => KeepsJ.of_readOnly (ro_collapsedVid _ _ _ _)

theorem keepsJ_edgeToBaseA (cfg : Cfg Val) (k : Nat) {b0l l b1l b0r r b1r : Nat}
    (h0l : b0l ≠ 0 → Live n u b0l) (hl : l ≠ 0 → Live n u l) (h1l : b1l ≠ 0 → Live n u b1l)
    (h0r : b0r ≠ 0 → Live n u b0r) (hr : r ≠ 0 → Live n u r) (h1r : b1r ≠ 0 → Live n u b1r) :
    KeepsJ n u (edgeToBaseG assertP cfg k b0l l b1l b0r r b1r) := by
  unfold edgeToBaseG
  refine KeepsJ.ro_bind (readOnly_vertexId2 _ _) fun lVid => ?_
  refine KeepsJ.ro_bind (ReadOnly.rA _ _) fun tv => ?_
  refine KeepsJ.bind (KeepsJ.of_attrOnly (ao_readAttr _ _ _)) fun ta => ?_
  refine KeepsJ.ite (fun _ => ?_) fun _ => ?_
  · refine KeepsJ.bind (keepsJ_twoUnsew2_opt cfg k hl) fun _ => ?_
    refine KeepsJ.bind (keepsJ_halfBaseA cfg k h1r hr h0r) fun _ => ?_
    refine KeepsJ.rB_bind fun x _ => ?_
    refine KeepsJ.bind (keepsJ_halfBaseA cfg k h0l hl h1l) fun _ => ?_
    exact KeepsJ.ro_bind (ro_collapsedVid _ _ _ _) fun newVid => KeepsJ.of_attrOnly (ao_baseWriteBack cfg newVid tv ta)
  · refine KeepsJ.rB_bind fun x _ => ?_
    refine KeepsJ.bind (keepsJ_halfBaseA cfg k h0l hl h1l) fun _ => ?_
    exact KeepsJ.ro_bind (ro_collapsedVid _ _ _ _) fun newVid => KeepsJ.of_attrOnly (ao_baseWriteBack cfg newVid tv ta)

theorem keepsJ_collapseBodyA (cfg : Cfg Val) (k : Nat) {e r b0l b1l b0r b1r : Nat}
    (h0l : b0l ≠ 0 → Live n u b0l) (hl : e ≠ 0 → Live n u e) (h1l : b1l ≠ 0 → Live n u b1l)
    (h0r : b0r ≠ 0 → Live n u b0r) (hr : r ≠ 0 → Live n u r) (h1r : b1r ≠ 0 → Live n u b1r) :
    KeepsJ n u (collapseBodyG assertP cfg k e r b0l b1l b0r b1r) := by
  unfold collapseBodyG
  refine KeepsJ.bind (KeepsJ.of_attrOnly (ao_isCollapsible _ _ _)) fun c => ?_
  refine KeepsJ.bind ?_ fun newVid => ?_
  · cases c
    · exact keepsJ_edgeToMidpointA cfg k h0l hl h1l h0r hr h1r
    · exact keepsJ_edgeToBaseA cfg k h0l hl h1l h0r hr h1r
    · exact keepsJ_edgeToBaseA cfg k h0r hr h1r h0l hl h1l
  · refine KeepsJ.ro_bind (ro_isOrbitOrientationConsistent _ _) fun ok => ?_
    exact KeepsJ.ite (fun _ => KeepsJ.abort _) fun _ => KeepsJ.pure _

theorem keepsJ_collapseEdgeA (cfg : Cfg Val) (k : Nat) {e : Nat} (he : Live n u e) :
    KeepsJ n u (collapseEdgeA cfg k e) := by
  unfold collapseEdgeA collapseEdgeG
  refine KeepsJ.ite (fun _ => KeepsJ.abort _) fun _ => ?_
  refine KeepsJ.rB_bind fun r hr => ?_
  refine KeepsJ.rB_bind fun b0l h0l => ?_
  refine KeepsJ.rB_bind fun b1l h1l => ?_
  refine KeepsJ.rB_bind fun b0r h0r => ?_
  refine KeepsJ.rB_bind fun b1r h1r => ?_
  refine KeepsJ.rB_bind fun _ _ => ?_
  refine KeepsJ.ite (fun _ => KeepsJ.abort _) fun _ => ?_
  refine KeepsJ.bind (KeepsJ.of_readOnly ?_) fun bad => ?_
  · exact ReadOnly.ite (ReadOnly.bind (ReadOnly.rB _ _) fun _ => ReadOnly.pure _) (ReadOnly.pure _)
  · refine KeepsJ.ite (fun _ => KeepsJ.abort _) fun _ => ?_
    exact keepsJ_collapseBodyA cfg k h0l (fun _ => he) h1l h0r hr h1r

/-! ### whenever the asserted kernel succeeds, the kernel itself returns the same value and map -/

def Refines {α : Type} (pA p : P Val α) : Prop :=
  ∀ (m m' : Map Val) (a : α), run pA m = (.ok a, m') → run p m = (.ok a, m')

theorem Refines.refl {α : Type} (p : P Val α) : Refines p p := fun _ _ _ h => h

theorem Refines.bind {α β : Type} {pA p : P Val α} {fA f : α → P Val β} (hp : Refines pA p)
    (hf : ∀ a, Refines (fA a) (f a)) : Refines (pA.bind fA) (p.bind f) := by
  intro m m' b h
  obtain ⟨a, m1, h1, h2⟩ := run_bind_ok h
  rw [run_bind, hp m m1 a h1]
  exact hf a m1 m' b h2

theorem Refines.bind_right {α β : Type} (p : P Val α) {fA f : α → P Val β}
    (hf : ∀ a, Refines (fA a) (f a)) : Refines (p.bind fA) (p.bind f) := Refines.bind (Refines.refl p) hf

theorem Refines.ite {α : Type} {c : Prop} [Decidable c] {pA p qA q : P Val α} (hp : Refines pA p) (hq : Refines qA q) :
    Refines (if c then pA else qA) (if c then p else q) := by
  split
  · exact hp
  · exact hq

/-- dropping an assertion -/
theorem Refines.assert {β : Type} (c : Bool) {fA f : Unit → P Val β} (hf : Refines (fA ()) (f ())) :
    Refines ((assertP c).bind fA) ((pure () : P Val Unit).bind f) := by
  unfold assertP
  cases c
  · intro m m' b h; simp at h
  · simpa using hf

theorem refines_halfMid (cfg : Cfg Val) (k b0d d b1d : Nat) :
    Refines (halfMidG assertP cfg k b0d d b1d) (halfMidG (fun _ => pure ()) cfg k b0d d b1d) := by
  unfold halfMidG
  refine Refines.bind_right _ fun _ => ?_
  refine Refines.bind_right _ fun _ => ?_
  refine Refines.bind_right _ fun _ => ?_
  refine Refines.bind_right _ fun _ => ?_
  refine Refines.bind_right _ fun _ => ?_
  refine Refines.bind_right _ fun _ => ?_
  refine Refines.bind_right _ fun _ => ?_
  exact Refines.assert _ (Refines.refl _)

theorem refines_halfBase (cfg : Cfg Val) (k dPe dE dNe : Nat) :
    Refines (halfBaseG assertP cfg k dPe dE dNe) (halfBaseG (fun _ => pure ()) cfg k dPe dE dNe) := by
  unfold halfBaseG
  refine Refines.bind_right _ fun _ => ?_
  refine Refines.bind_right _ fun _ => ?_
  refine Refines.bind_right _ fun _ => ?_
  refine Refines.bind_right _ fun _ => ?_
  refine Refines.bind_right _ fun _ => ?_
  refine Refines.bind_right _ fun _ => ?_
  refine Refines.ite ?_ (Refines.refl _)
  refine Refines.bind_right _ fun _ => ?_
  refine Refines.bind_right _ fun _ => ?_
  refine Refines.bind_right _ fun _ => ?_
  refine Refines.bind_right _ fun _ => ?_
  refine Refines.bind_right _ fun _ => ?_
  refine Refines.bind_right _ fun _ => ?_
  refine Refines.assert _ ?_
  refine Refines.bind_right _ fun _ => ?_
  exact Refines.assert _ (Refines.refl _)

theorem refines_edgeToMidpoint (cfg : Cfg Val) (k b0l l b1l b0r r b1r : Nat) :
    Refines (edgeToMidpointG assertP cfg k b0l l b1l b0r r b1r)
      (edgeToMidpointG (fun _ => pure ()) cfg k b0l l b1l b0r r b1r) := by
  unfold edgeToMidpointG
  refine Refines.ite ?_ ?_
  · refine Refines.bind_right _ fun _ => ?_
    refine Refines.bind (refines_halfMid _ _ _ _ _) fun _ => ?_
    refine Refines.bind_right _ fun _ => ?_
    exact Refines.bind (refines_halfMid _ _ _ _ _) fun _ => Refines.refl _
  · refine Refines.bind_right _ fun _ => ?_
    exact Refines.bind (refines_halfMid _ _ _ _ _) fun _ => Refines.refl _

theorem refines_edgeToBase (cfg : Cfg Val) (k b0l l b1l b0r r b1r : Nat) :
    Refines (edgeToBaseG assertP cfg k b0l l b1l b0r r b1r)
      (edgeToBaseG (fun _ => pure ()) cfg k b0l l b1l b0r r b1r) := by
  unfold edgeToBaseG
  refine Refines.bind_right _ fun lVid => ?_
  refine Refines.bind_right _ fun tv => ?_
  refine Refines.bind_right _ fun ta => ?_
  refine Refines.ite ?_ ?_
  · refine Refines.bind_right _ fun _ => ?_
    refine Refines.bind (refines_halfBase _ _ _ _ _) fun _ => ?_
    refine Refines.bind_right _ fun _ => ?_
    exact Refines.bind (refines_halfBase _ _ _ _ _) fun _ => Refines.refl _
  · refine Refines.bind_right _ fun _ => ?_
    exact Refines.bind (refines_halfBase _ _ _ _ _) fun _ => Refines.refl _

/-- **C15 (a), collapse, link to the kernel**: whenever the kernel with assertions succeeds, `collapse_edge` itself
    succeeds with the same vertex identifier and the same map -/
theorem C15_collapseA_refines (cfg : Cfg Val) (k e : Nat) : Refines (collapseEdgeA cfg k e) (collapseEdge cfg k e) := by
  rw [← collapseEdgeG_nochk]
  unfold collapseEdgeA collapseEdgeG
  refine Refines.ite (Refines.refl _) ?_
  refine Refines.bind_right _ fun r => ?_
  refine Refines.bind_right _ fun b0l => ?_
  refine Refines.bind_right _ fun b1l => ?_
  refine Refines.bind_right _ fun b0r => ?_
  refine Refines.bind_right _ fun b1r => ?_
  refine Refines.bind_right _ fun _ => ?_
  refine Refines.ite (Refines.refl _) ?_
  refine Refines.bind_right _ fun bad => ?_
  refine Refines.ite (Refines.refl _) ?_
  unfold collapseBodyG
  refine Refines.bind_right _ fun c => ?_
  refine Refines.bind ?_ fun _ => Refines.refl _
  cases c
  · exact refines_edgeToMidpoint _ _ _ _ _ _ _ _
  · exact refines_edgeToBase _ _ _ _ _ _ _ _
  · exact refines_edgeToBase _ _ _ _ _ _ _ _

/-- **C15 (a), collapse**: every call of `collapse_edge` (with the sew sites asserted non-null, see
    `C15_collapseA_refines`) on an in-use dart of a well-formed 2-map — whatever the anchors decide, successful,
    refused (NullEdge / BadTopology / NonCollapsibleEdge / InvertedOrientation / a failing core operation), retried,
    panicking — leaves the map well formed, PROVIDED every dart the call has newly flagged is free in the result.
    (All clauses of well-formedness other than "removed darts are free" hold unconditionally: the map with its
    original flags is well formed, `keepsJ_collapseEdgeA`.) -/
theorem C15_collapse_preserves_WF (cfg : Cfg Val) (m : Map Val) (e : Nat) (hwf : WF 3 m) (he : C01.InUse m e)
    (hfree : ∀ d, d < m.n → (atomically (collapseEdgeA cfg m.n e) m).2.unused d = true → m.unused d = false →
      ∀ i, i < 3 → (atomically (collapseEdgeA cfg m.n e) m).2.β i d = 0) :
    WF 3 (atomically (collapseEdgeA cfg m.n e) m).2 := by
  refine wf_atomically_of hwf fun a m' hr => ?_
  have e' : (atomically (collapseEdgeA cfg m.n e) m).2 = m' := by unfold atomically; rw [hr]
  rw [e'] at hfree
  have J0 : InvJ m.n m.u m := ⟨hwf, rfl, hwf.usz⟩
  have J := keepsJ_collapseEdgeA cfg m.n (Live.of_inUse he) m m' a J0 hr
  refine J.wf_of_free fun d hd hu h0 i hi => ?_
  exact hfree d (by rw [← J.n_eq]; exact hd) hu h0 i hi

/-! ## anchor algebra on the generated tables

For each of `VertexAnchor`, `EdgeAnchor`, `FaceAnchor` (generated table, all identifiers): `merge` is commutative,
idempotent, yields the lower-dimensional argument, fails exactly on equal dimensions with different identifiers, is
associative wherever the two inner merges are defined; the driver code `4 * id + dim` determines the anchor.  All are
instances of `DimMerge` (Lemmas/AnchorMerge.lean). -/

section Anchors
open Gen.Anchors

theorem C15_vanchor_merge_comm (a b : VertexAnchor) : a.merge b = b.merge a :=
  vanchor_dimMerge.comm a b

theorem C15_vanchor_merge_idem (a : VertexAnchor) : a.merge a = some a :=
  vanchor_dimMerge.idem a

theorem C15_vanchor_merge_lower_dim (a b c : VertexAnchor) (h : a.merge b = some c) :
    c.dim = min a.dim b.dim ∧ (c = a ∨ c = b) :=
  vanchor_dimMerge.lower_dim h

theorem C15_vanchor_merge_fails_iff (a b : VertexAnchor) : a.merge b = none ↔ a.dim = b.dim ∧ a.id ≠ b.id :=
  vanchor_dimMerge.fails_iff a b

theorem C15_vanchor_merge_assoc (a b c x y : VertexAnchor) (h1 : a.merge b = some x) (h2 : b.merge c = some y) :
    x.merge c = a.merge y :=
  vanchor_dimMerge.assoc h1 h2

theorem C15_vanchor_ofCode_code (a : VertexAnchor) : VertexAnchor.ofCode a.code = some a := by
  cases a <;> simp [VertexAnchor.ofCode, VertexAnchor.code, VertexAnchor.id, VertexAnchor.dim] <;> omega

theorem C15_eanchor_merge_comm (a b : EdgeAnchor) : a.merge b = b.merge a :=
  eanchor_dimMerge.comm a b

theorem C15_eanchor_merge_idem (a : EdgeAnchor) : a.merge a = some a :=
  eanchor_dimMerge.idem a

theorem C15_eanchor_merge_lower_dim (a b c : EdgeAnchor) (h : a.merge b = some c) :
    c.dim = min a.dim b.dim ∧ (c = a ∨ c = b) :=
  eanchor_dimMerge.lower_dim h

theorem C15_eanchor_merge_fails_iff (a b : EdgeAnchor) : a.merge b = none ↔ a.dim = b.dim ∧ a.id ≠ b.id :=
  eanchor_dimMerge.fails_iff a b

theorem C15_eanchor_merge_assoc (a b c x y : EdgeAnchor) (h1 : a.merge b = some x) (h2 : b.merge c = some y) :
    x.merge c = a.merge y :=
  eanchor_dimMerge.assoc h1 h2

theorem C15_eanchor_ofCode_code (a : EdgeAnchor) : EdgeAnchor.ofCode a.code = some a := by
  cases a <;> simp [EdgeAnchor.ofCode, EdgeAnchor.code, EdgeAnchor.id, EdgeAnchor.dim] <;> omega

theorem C15_fanchor_merge_comm (a b : FaceAnchor) : a.merge b = b.merge a :=
  fanchor_dimMerge.comm a b

theorem C15_fanchor_merge_idem (a : FaceAnchor) : a.merge a = some a :=
  fanchor_dimMerge.idem a

theorem C15_fanchor_merge_lower_dim (a b c : FaceAnchor) (h : a.merge b = some c) :
    c.dim = min a.dim b.dim ∧ (c = a ∨ c = b) :=
  fanchor_dimMerge.lower_dim h

theorem C15_fanchor_merge_fails_iff (a b : FaceAnchor) : a.merge b = none ↔ a.dim = b.dim ∧ a.id ≠ b.id :=
  fanchor_dimMerge.fails_iff a b

theorem C15_fanchor_merge_assoc (a b c x y : FaceAnchor) (h1 : a.merge b = some x) (h2 : b.merge c = some y) :
    x.merge c = a.merge y :=
  fanchor_dimMerge.assoc h1 h2

theorem C15_fanchor_ofCode_code (a : FaceAnchor) : FaceAnchor.ofCode a.code = some a := by
  cases a <;> simp [FaceAnchor.ofCode, FaceAnchor.code, FaceAnchor.id, FaceAnchor.dim] <;> omega

/-- the `From` conversions keep dimension and identifier (hence the driver code) -/
theorem C15_anchor_conversions (e : EdgeAnchor) (f : FaceAnchor) :
    (e.toVertexAnchor.dim = e.dim ∧ e.toVertexAnchor.id = e.id) ∧
    (f.toVertexAnchor.dim = f.dim ∧ f.toVertexAnchor.id = f.id) ∧
    (f.toEdgeAnchor.dim = f.dim ∧ f.toEdgeAnchor.id = f.id) := by
  cases e <;> cases f <;> simp [EdgeAnchor.toVertexAnchor, FaceAnchor.toVertexAnchor, FaceAnchor.toEdgeAnchor,
    VertexAnchor.dim, EdgeAnchor.dim, FaceAnchor.dim, VertexAnchor.id, EdgeAnchor.id, FaceAnchor.id]

/-! ## the anchor rule of `is_collapsible` -/

theorem collapseChoice_eq (la ra : VertexAnchor) (ea : EdgeAnchor) :
    collapseChoice la ra ea =
      if la.dim = ra.dim ∧ la.id ≠ ra.id then some (.error (errNonCollapsible "vertex-have-incompatible-anchors"))
      else if ¬ (ea.dim = la.dim ∨ ea.dim = ra.dim) then
        some (.error (errNonCollapsible "collapsing-along-this-edge-is-impossible"))
      else if la.dim < ra.dim then some (.ok .left)
      else if ra.dim < la.dim then some (.ok .right)
      else some (.ok .average) := by
  unfold collapseChoice
  rw [vanchor_dimMerge.eq]
  rcases Nat.lt_trichotomy la.dim ra.dim with lt | eq | gt
  · have ne : la ≠ ra := fun h => by rw [h] at lt; omega
    simp only [lt, if_true, Nat.ne_of_lt lt, false_and, if_false, decide_true, decide_false, ne]
    split <;> simp
  · by_cases hi : la.id = ra.id
    · have e := vanchor_dimMerge.ext la ra eq hi
      subst e
      simp
    · simp [eq, hi]
  · have ne : ra ≠ la := fun h => by rw [h] at gt; omega
    simp only [gt, Nat.lt_asymm gt, if_true, if_false, Nat.ne_of_gt gt, false_and, decide_true, decide_false, ne]
    split <;> simp

/-- the `unreachable!()` of `is_collapsible` is unreachable: a defined merge is one of its arguments -/
theorem C15_collapse_choice_total (la ra : VertexAnchor) (ea : EdgeAnchor) : collapseChoice la ra ea ≠ none := by
  rw [collapseChoice_eq]
  repeat' split
  all_goals simp

/-- which outcome: incompatible vertex anchors (equal dimension, different identifiers) ⇒ the first error; otherwise an
    edge anchor whose dimension is that of neither end point ⇒ the second error; otherwise a target is chosen.  The
    three cases are exhaustive and exclusive. -/
theorem C15_collapse_choice_error (la ra : VertexAnchor) (ea : EdgeAnchor) :
    ((la.dim = ra.dim ∧ la.id ≠ ra.id) →
      collapseChoice la ra ea = some (.error (errNonCollapsible "vertex-have-incompatible-anchors"))) ∧
    (¬ (la.dim = ra.dim ∧ la.id ≠ ra.id) → ea.dim ≠ la.dim → ea.dim ≠ ra.dim →
      collapseChoice la ra ea = some (.error (errNonCollapsible "collapsing-along-this-edge-is-impossible"))) ∧
    (¬ (la.dim = ra.dim ∧ la.id ≠ ra.id) → (ea.dim = la.dim ∨ ea.dim = ra.dim) →
      ∃ c, collapseChoice la ra ea = some (.ok c)) := by
  rw [collapseChoice_eq]
  refine ⟨fun h => ?_, fun h h1 h2 => ?_, fun h hd => ?_⟩
  · rw [if_pos h]
  · rw [if_neg h, if_pos fun hh => hh.elim h1 h2]
  · rw [if_neg h, if_neg (not_not.2 hd)]
    repeat' split
    all_goals exact ⟨_, rfl⟩

/-- which target: the midpoint when both end points carry the same anchor, otherwise the end point whose anchor has
    the lower dimension — provided the edge anchor has the dimension of an end point -/
theorem C15_collapse_choice_target (la ra : VertexAnchor) (ea : EdgeAnchor)
    (hd : ea.dim = la.dim ∨ ea.dim = ra.dim) :
    (la = ra → collapseChoice la ra ea = some (.ok .average)) ∧
    (la.dim < ra.dim → collapseChoice la ra ea = some (.ok .left)) ∧
    (ra.dim < la.dim → collapseChoice la ra ea = some (.ok .right)) := by
  rw [collapseChoice_eq, if_neg (not_not.2 hd)]
  refine ⟨fun h => ?_, fun h => ?_, fun h => ?_⟩
  · subst h
    rw [if_neg fun hh => hh.2 rfl, if_neg (Nat.lt_irrefl _), if_neg (Nat.lt_irrefl _)]
  · rw [if_neg fun hh => Nat.ne_of_lt h hh.1, if_pos h]
  · rw [if_neg fun hh => Nat.ne_of_gt h hh.1, if_neg (Nat.lt_asymm h), if_pos h]

end Anchors

/-! ## the guards of `collapse_edge` -/

/-- **C15 (b), collapse**: `collapse_edge` is the guard chain NullEdge / BadTopology (left face) / BadTopology (right
    face, only tested when the edge has a second dart) followed by `is_collapsible`, the chosen variant and the
    orientation post-check (`collapseBodyG`) — on every map on which the seven reads are in range. -/
theorem C15_collapse_guards (cfg : Cfg Val) (k e : Nat) (m : Map Val)
    (hok : ∀ i d, i < 3 → d < m.n → m.okβ i d = true) (hrange : ∀ i d, i < 3 → d < m.n → m.β i d < m.n)
    (he : e < m.n) :
    run (collapseEdge cfg k e) m =
      if e = 0 then (.err errNullEdge, m)
      else if m.β 1 (m.β 1 e) ≠ m.β 0 e then (.err errBadTopology, m)
      else if m.β 2 e ≠ 0 ∧ m.β 1 (m.β 1 (m.β 2 e)) ≠ m.β 0 (m.β 2 e) then (.err errBadTopology, m)
      else run (collapseBodyG (fun _ => pure ()) cfg k e (m.β 2 e) (m.β 0 e) (m.β 1 e) (m.β 0 (m.β 2 e))
        (m.β 1 (m.β 2 e))) m := by
  have hr := hrange 2 e (by omega) he
  have h1l := hrange 1 e (by omega) he
  have h1r := hrange 1 _ (by omega) hr
  rw [← collapseEdgeG_nochk]
  unfold collapseEdgeG
  by_cases h0 : e = 0
  · simp [h0]
  · simp only [h0, if_false, bind, run_rB, hok 2 e (by omega) he, hok 1 e (by omega) he,
      hok 0 e (by omega) he, hok 0 _ (by omega) hr, hok 1 _ (by omega) hr, hok 1 _ (by omega) h1l, if_true]
    by_cases h3 : m.β 1 (m.β 1 e) ≠ m.β 0 e
    · simp [h3]
    · simp only [h3, if_false]
      by_cases h2 : m.β 2 e = 0
      · simp [h2]
      · simp only [h2, ne_eq, not_false_eq_true, if_true, true_and, Prog.bind_assoc,
          Prog.ret_bind, run_rB, hok 1 _ (by omega) h1r, Prog.pure_eq]
        by_cases h4 : m.β 1 (m.β 1 (m.β 2 e)) = m.β 0 (m.β 2 e)
        · simp [h4]
        · simp [h4]

theorem collapseEdge_ok {cfg : Cfg Val} {m m' : Map Val} {e v : Nat} (hwf : WF 3 m) (he : e < m.n)
    (h : run (collapseEdge cfg m.n e) m = (.ok v, m')) :
    e ≠ 0 ∧ m.β 1 (m.β 1 e) = m.β 0 e ∧ (m.β 2 e ≠ 0 → m.β 1 (m.β 1 (m.β 2 e)) = m.β 0 (m.β 2 e)) ∧
    run (collapseBodyG (fun _ => pure ()) cfg m.n e (m.β 2 e) (m.β 0 e) (m.β 1 e) (m.β 0 (m.β 2 e))
      (m.β 1 (m.β 2 e))) m = (.ok v, m') := by
  rw [C15_collapse_guards cfg m.n e m (fun i d hi hd => (hwf.toSized.okβ i d).2 ⟨hi, hd⟩)
    (fun i d hi hd => hwf.range i hi d hd) he] at h
  by_cases e0 : e = 0
  · simp [e0] at h
  by_cases gl : m.β 1 (m.β 1 e) = m.β 0 e
  swap
  · simp [e0, gl] at h
  by_cases g2 : m.β 2 e ≠ 0 ∧ m.β 1 (m.β 1 (m.β 2 e)) ≠ m.β 0 (m.β 2 e)
  · simp [e0, gl, g2] at h
  simp only [e0, gl, g2, ne_eq, not_true_eq_false, if_false] at h
  exact ⟨e0, gl, fun r0 => Classical.not_not.1 fun hh => g2 ⟨r0, hh⟩, h⟩

theorem ro_readAttr (cfg : Cfg Val) (s id : Nat) : ReadOnly (readAttr cfg s id) := by
  unfold readAttr
  exact ReadOnly.ite (ReadOnly.rA _ _) (ReadOnly.pure _)

/-- `is_collapsible` only reads -/
theorem ro_isCollapsible (cfg : Cfg Val) (k e : Nat) : ReadOnly (isCollapsible cfg k e) := by
  unfold isCollapsible
  refine ReadOnly.ite (ReadOnly.pure _) ?_
  refine ReadOnly.bind (ReadOnly.rB _ _) fun _ => ?_
  refine ReadOnly.bind (readOnly_vertexId2 _ _) fun _ => ?_
  refine ReadOnly.bind (readOnly_vertexId2 _ _) fun _ => ?_
  refine ReadOnly.bind (ro_readAttr _ _ _) fun a1 => ?_
  refine ReadOnly.bind (ro_readAttr _ _ _) fun a2 => ?_
  refine ReadOnly.bind (ro_readAttr _ _ _) fun a3 => ?_
  intro m
  split
  · split
    · split <;> rfl
    · rfl
  · rfl

/-- the body of a successful `collapse_edge`: the variant `is_collapsible` chose on the input map ran from it to the
    resulting map and returned `v`, and the orientation check answers `true` there -/
theorem collapseBody_ok {cfg : Cfg Val} {m m' : Map Val} {n e r b0l b1l b0r b1r v : Nat}
    (h : run (collapseBodyG (fun _ => pure ()) cfg n e r b0l b1l b0r b1r) m = (.ok v, m')) :
    ∃ c, run (isCollapsible cfg n e) m = (.ok c, m) ∧
      run (match c with
        | .average => edgeToMidpointG (fun _ => pure ()) cfg n b0l e b1l b0r r b1r
        | .left => edgeToBaseG (fun _ => pure ()) cfg n b0l e b1l b0r r b1r
        | .right => edgeToBaseG (fun _ => pure ()) cfg n b0r r b1r b0l e b1l) m = (.ok v, m') ∧
      run (isOrbitOrientationConsistent n v) m' = (.ok true, m') := by
  unfold collapseBodyG at h
  obtain ⟨c, hc, h⟩ := run_ro_bind_ok (ro_isCollapsible _ _ _) h
  obtain ⟨vid, m1, r1, h⟩ := run_bind_ok h
  obtain ⟨ok, hro, h⟩ := run_ro_bind_ok (ro_isOrbitOrientationConsistent _ _) h
  cases ok
  · simp at h
  · simp at h
    obtain ⟨rfl, rfl⟩ := h
    exact ⟨c, hc, r1, hro⟩

theorem collapseBody_run (cfg : Cfg Val) {m m' : Map Val} {n e r b0l b1l b0r b1r v : Nat} {c : Collapsible}
    (hc : (run (isCollapsible cfg n e) m).1 = .ok c)
    (h : run (collapseBodyG (fun _ => pure ()) cfg n e r b0l b1l b0r b1r) m = (.ok v, m')) :
    run (match c with
      | .average => edgeToMidpointG (fun _ => pure ()) cfg n b0l e b1l b0r r b1r
      | .left => edgeToBaseG (fun _ => pure ()) cfg n b0l e b1l b0r r b1r
      | .right => edgeToBaseG (fun _ => pure ()) cfg n b0r r b1r b0l e b1l) m = (.ok v, m') := by
  obtain ⟨c', hc', r1, _⟩ := collapseBody_ok h
  rw [hc'] at hc
  simp only [Out.ok.injEq] at hc
  subst hc
  exact r1

/-! ## cut geometry over ℚ -/

theorem run_midpointOrRetry (vid1 vid2 : Nat) (m : Map Val) (h1 : m.okA 0 vid1 = true) (h2 : m.okA 0 vid2 = true) :
    run (midpointOrRetry vid1 vid2) m =
      match m.att 0 vid1, m.att 0 vid2 with
      | some a, some b => (.ok (avgVal a b), m)
      | _, _ => (.retry, m) := by
  unfold midpointOrRetry
  simp only [bind, run_rA, h1, h2, if_true]
  cases m.att 0 vid1 <;> cases m.att 0 vid2 <;> rfl

/-- **C15 (d)**: the vertex written by the cut kernels is the midpoint of the two end points read at their vertex
    identifiers (and the kernel retries when one of them is undefined) -/
theorem C15_cut_midpoint (m : Map Val) (vid1 vid2 : Nat) (h1 : m.okA 0 vid1 = true) (h2 : m.okA 0 vid2 = true) :
    (∀ ax ay az bx by_ bz, m.att 0 vid1 = some (.pt ax ay az) → m.att 0 vid2 = some (.pt bx by_ bz) →
      run (midpointOrRetry vid1 vid2) m = (.ok (.pt ((ax + bx) / 2) ((ay + by_) / 2) 0), m)) ∧
    ((m.att 0 vid1 = none ∨ m.att 0 vid2 = none) → run (midpointOrRetry vid1 vid2) m = (.retry, m)) := by
  rw [run_midpointOrRetry vid1 vid2 m h1 h2]
  constructor
  · intro ax ay az bx by_ bz ha hb
    rw [ha, hb]
    rfl
  · rintro (h | h)
    · rw [h]
    · rw [h]
      cases m.att 0 vid1 <;> rfl

/-- **C15 (d)**: cutting the side `AB` of the triangle `ABC` at its midpoint `M` conserves the signed area:
    `area(A, M, C) + area(M, B, C) = area(A, B, C)` (`cross` = twice the signed area, as in
    `Vertex2::cross_product_from_vertices`) -/
theorem C15_cut_area_conserved (A B C : P2) :
    cross A (P2.avg A B) C + cross (P2.avg A B) B C = cross A B C := by
  simp only [cross, P2.avg]
  ring

/-- … and on both sides of an inner edge: the four new triangles cover the two old ones -/
theorem C15_cut_area_conserved_inner (A B C D : P2) :
    cross A (P2.avg A B) C + cross (P2.avg A B) B C + cross B (P2.avg A B) D + cross (P2.avg A B) A D
      = cross A B C + cross B A D := by
  simp only [cross, P2.avg]
  ring

/-- **C15 (e), what does hold for the swap**: the specified retriangulation of the quadrilateral `A D B C` (triangles
    `ADC`, `DBC` instead of `ABC`, `BAD`) conserves the signed area — IF no coordinate moves.  `swap_edge` moves two
    of them (`C15_D9_witness`). -/
theorem C15_swap_area_partial (A B C D : P2) :
    cross A D C + cross D B C = cross A B C + cross B A D := by
  simp only [cross]
  ring


/-! ### the cut kernels as of /repo 27a7433, aac3ec9 (D15b, D15c) -/

/-- **C15 (d), /repo aac3ec9 (D15c)**: both cut kernels store the midpoint under the identifier of the new
    vertex — the value of `vertex_id(nd1)` at the time of the write (`nd1` and `nd3` are already linked into one
    vertex), whatever the numbering of the spare darts; no other slot of any storage changes at that step -/
theorem C15_cut_midpoint_under_vertex_id (k nd1 : Nat) (v : Val) (m m' : Map Val) (old : Option Val)
    (h : run (do let newVid ← vertexId2 k nd1; writeVtx newVid v : P Val (Option Val)) m = (.ok old, m')) :
    ∃ vid, run (vertexId2 k nd1) m = (.ok vid, m) ∧ m.okA 0 vid = true ∧ m' = m.setA 0 vid (some v) ∧
      m'.att 0 vid = some v ∧ old = m.att 0 vid := by
  obtain ⟨vid, hv, h⟩ := run_ro_bind_ok (readOnly_vertexId2 _ _) h
  unfold writeVtx at h
  obtain ⟨hok, h⟩ := rA_ok h
  obtain ⟨_, h⟩ := wA_ok h
  simp at h
  refine ⟨vid, hv, hok, h.2.symm, ?_, h.1.symm⟩
  rw [← h.2, Map.att_setA]
  simp [hok]

theorem att_takeFaceAnchor {cfg : Cfg Val} {k d : Nat} {m m' : Map Val} {o : Option Val}
    (h : run (takeFaceAnchor cfg k d) m = (.ok o, m')) : ∀ i, m'.att stEA i = m.att stEA i := by
  intro i
  unfold takeFaceAnchor removeAttr at h
  by_cases hr : regd cfg stFA = true
  · simp only [hr, if_true] at h
    obtain ⟨fid, _, h⟩ := run_ro_bind_ok (readOnly_faceId2 _ _) h
    obtain ⟨_, h⟩ := rA_ok h
    obtain ⟨_, h⟩ := wA_ok h
    simp at h
    rw [← h.2, Map.att_setA]
    simp [stFA, stEA]
  · simp [hr] at h
    rw [h.2]

theorem run_edgeId2 (d : Nat) (m : Map Val) : run (edgeId2 (X := Val) d) m =
    if m.okβ 2 d then (.ok (if m.β 2 d = 0 then d else min (m.β 2 d) d), m) else (.panic, m) := by
  unfold edgeId2
  simp only [bind, run_rB]
  split
  · split <;> simp
  · rfl

/-- **C15, /repo 27a7433 (D15b)**: after EVERY successful `cut_outer_edge` on a map with the EdgeAnchor storage,
    the second half of the cut edge — the edge of the new dart `nd3` in the resulting map — carries the anchor the cut
    edge had (read at `e`), for every map, configuration and numbering of the spare darts -/
theorem C15_cutOuter_second_half_anchored (cfg : Cfg Val) (k e nd1 nd2 nd3 : Nat) (m m' : Map Val) (a : Val)
    (hreg : regd cfg stEA = true) (ha : m.att stEA e = some a)
    (h : run (cutOuterEdge cfg k e nd1 nd2 nd3) m = (.ok (), m')) :
    ∃ eid, run (edgeId2 nd3) m' = (.ok eid, m') ∧ m'.att stEA eid = some a := by
  unfold cutOuterEdge at h
  obtain ⟨_, m1, r1, h1⟩ := run_bind_ok h
  clear h
  obtain ⟨_, _, _, _, rfl⟩ := iLinkCore_ok r1
  obtain ⟨_, m2, r2, h2⟩ := run_bind_ok h1
  clear h1
  obtain ⟨_, _, _, _, rfl⟩ := oneLinkCore_ok r2
  obtain ⟨fa, m3, r3, h3⟩ := run_bind_ok h2
  clear h2
  have e3 : m3.att stEA e = some a := by
    rw [att_takeFaceAnchor r3]
    exact ha
  obtain ⟨ea, m4, r4, h⟩ := run_bind_ok h3
  clear h3
  have hea : ea = some a ∧ m4 = m3 := by
    unfold peekEdgeAnchor readAttr at r4
    simp only [hreg, if_true, run_rA'] at r4
    split at r4
    · simp at r4; exact ⟨by rw [← r4.1, e3], r4.2.symm⟩
    · simp at r4
  obtain ⟨rfl, rfl⟩ := hea
  -- the fourteen steps between the read of the edge anchor and the last block
  iterate 14 obtain ⟨_, _, _, h⟩ := run_bind_ok h
  unfold spreadEdgeAnchorOuter at h
  obtain ⟨vid, _, h⟩ := run_ro_bind_ok (readOnly_vertexId2 _ _) h
  obtain ⟨_, m5, r5, h⟩ := run_bind_ok h
  obtain ⟨eid, hE, h⟩ := run_ro_bind_ok (readOnly_edgeId2 _) h
  unfold writeAttr at h
  simp only [hreg, if_true, bind, Prog.bind_assoc, Prog.pure_eq, Prog.ret_bind] at h
  obtain ⟨hok, h⟩ := rA_ok h
  obtain ⟨_, h⟩ := wA_ok h
  simp at h
  refine ⟨eid, ?_, ?_⟩
  · rw [← h]
    rw [run_edgeId2] at hE ⊢
    simp only [Map.okβ_setA, Map.β_setA]
    by_cases hb : m5.okβ 2 nd3 = true
    · simp only [hb, if_true, Prod.mk.injEq, Out.ok.injEq] at hE ⊢
      exact ⟨hE.1, trivial⟩
    · simp [hb] at hE
  · rw [← h, Map.att_setA]
    simp [hok]

/-! ### the orientation post-check is strict (D15g) -/

/-- the triangle of dart `d` seen from the new vertex value `newV`: the two other corners are read at the vertex
    identifiers of `β1 d` and `β1 (β1 d)`, `c` is `cross_product_from_vertices(new_v, v1, v2)` -/
def FanCross (n : Nat) (m : Map Val) (newV : Val) (d : Nat) (c : Rat) : Prop :=
  ∃ vid1 vid2 v1 v2, run (vertexId2 n (m.β 1 d)) m = (.ok vid1, m) ∧
    run (vertexId2 n (m.β 1 (m.β 1 d))) m = (.ok vid2, m) ∧ m.att 0 vid1 = some v1 ∧ m.att 0 vid2 = some v2 ∧
    c = cross newV.p2 v1.p2 v2.p2

theorem fanSign_ok {n : Nat} {newV : Val} {d : Nat} {m m' : Map Val} {z : Bool} {s : Int}
    (h : run (fanSign n newV d) m = (.ok (z, s), m')) :
    ∃ c, FanCross n m newV d c ∧ z = decide (c = 0) ∧ (z = false → (s = 1 ↔ 0 < c) ∧ (s = -1 ↔ c < 0)) := by
  unfold fanSign at h
  obtain ⟨_, h⟩ := rB_bind_ok h
  obtain ⟨_, h⟩ := rB_bind_ok h
  obtain ⟨vid1, hv1, h⟩ := run_ro_bind_ok (readOnly_vertexId2 _ _) h
  obtain ⟨vid2, hv2, h⟩ := run_ro_bind_ok (readOnly_vertexId2 _ _) h
  obtain ⟨_, h⟩ := rA_ok h
  cases ha : m.att 0 vid1 with
  | none => simp [ha] at h
  | some v1 =>
      simp only [ha] at h
      obtain ⟨_, h⟩ := rA_ok h
      cases hb : m.att 0 vid2 with
      | none => simp [hb] at h
      | some v2 =>
          simp only [hb] at h
          simp only [Prog.pure_eq, run_ret, Prod.mk.injEq, Out.ok.injEq] at h
          obtain ⟨⟨hz, hs⟩, _⟩ := h
          refine ⟨cross newV.p2 v1.p2 v2.p2, ⟨vid1, vid2, v1, v2, hv1, hv2, ha, hb, rfl⟩, hz.symm, ?_⟩
          intro hz0
          rw [hz0] at hz
          have cne : cross newV.p2 v1.p2 v2.p2 ≠ 0 := by
            intro hh; simp [hh] at hz
          by_cases hp : cross newV.p2 v1.p2 v2.p2 > 0
          · have s1 : s = 1 := by rw [← hs]; unfold crossSignum signumF; rw [if_pos hp]
            exact ⟨⟨fun _ => hp, fun _ => s1⟩, ⟨fun hh => by omega, fun hh => absurd hp (not_lt.2 (le_of_lt hh))⟩⟩
          · have hn : cross newV.p2 v1.p2 v2.p2 < 0 := lt_of_le_of_ne (not_lt.1 hp) cne
            have s1 : s = -1 := by rw [← hs]; unfold crossSignum signumF; rw [if_neg hp, if_pos hn]
            exact ⟨⟨fun hh => by omega, fun hh => absurd hh hp⟩, ⟨fun _ => hn, fun _ => s1⟩⟩

theorem fanAllSame_true {n : Nat} {newV : Val} {ref : Int} {m : Map Val} :
    ∀ (l : List Nat) {m' : Map Val}, run (fanAllSame n newV ref l) m = (.ok true, m') →
      ∀ d, d ∈ l → run (fanSign n newV d) m = (.ok (false, ref), m)
  | [], _, _, d, hd => by simp at hd
  | x :: xs, m', h, d, hd => by
      unfold fanAllSame at h
      obtain ⟨zs, hzs, h⟩ := run_ro_bind_ok (ro_fanSign _ _ _) h
      by_cases c : zs.1 = true ∨ ref ≠ zs.2
      · simp [c] at h
      · simp only [c, if_false] at h
        have c1 : zs.1 = false := by cases hh : zs.1 <;> simp_all
        have c2 : ref = zs.2 := by
          by_cases hh : ref = zs.2
          · exact hh
          · exact absurd (Or.inr hh) c
        rcases List.mem_cons.1 hd with rfl | hd
        · rw [hzs]; congr 2; exact Prod.ext c1 c2.symm
        · exact fanAllSame_true xs h d hd

/-- **C15, the orientation post-check is strict** (/repo 94962f9, D15g): whenever
    `is_orbit_orientation_consistent(vid)` answers `true`, every triangle of the fan around `vid` (every dart of the
    vertex orbit) has a NON-ZERO cross product seen from the vertex, all of the same sign: no flat triangle -/
theorem C15_orientation_check_strict {n vid : Nat} {m m' : Map Val}
    (h : run (isOrbitOrientationConsistent n vid) m = (.ok true, m')) :
    ∃ newV tmp, m.att 0 vid = some newV ∧ run (orbit2 n .vertex vid) m = (.ok tmp, m) ∧
      ((∀ d, d ∈ tmp → ∃ c, FanCross n m newV d c ∧ 0 < c) ∨ (∀ d, d ∈ tmp → ∃ c, FanCross n m newV d c ∧ c < 0)) := by
  unfold isOrbitOrientationConsistent at h
  obtain ⟨_, h⟩ := rA_ok h
  cases hv : m.att 0 vid with
  | none => simp [hv] at h
  | some newV =>
      simp only [hv] at h
      obtain ⟨tmp, htmp, h⟩ := run_ro_bind_ok (readOnly_orbit2 _ _ _) h
      refine ⟨newV, tmp, rfl, htmp, ?_⟩
      cases tmp with
      | nil => simp at h
      | cons d ds =>
          simp only at h
          obtain ⟨zr, hzr, h⟩ := run_ro_bind_ok (ro_fanSign _ _ _) h
          by_cases c : zr.1 = true
          · simp [c] at h
          · simp only [c] at h
            have c1 : zr.1 = false := by cases hh : zr.1 <;> simp_all
            have all := fanAllSame_true ds h
            have hd0 : run (fanSign n newV d) m = (.ok (false, zr.2), m) := by
              rw [hzr]; congr 2; exact Prod.ext c1 rfl
            have every : ∀ x, x ∈ d :: ds → run (fanSign n newV x) m = (.ok (false, zr.2), m) := by
              intro x hx
              rcases List.mem_cons.1 hx with rfl | hx
              · exact hd0
              · exact all x hx
            -- the reference sign is 1 or -1
            have ref1 : zr.2 = 1 ∨ zr.2 = -1 := by
              obtain ⟨cc, _, hz, sg⟩ := fanSign_ok hd0
              have cne : cc ≠ 0 := by intro hh; simp [hh] at hz
              rcases lt_or_gt_of_ne cne with hlt | hgt
              · exact Or.inr ((sg rfl).2.2 hlt)
              · exact Or.inl ((sg rfl).1.2 hgt)
            rcases ref1 with r1 | r1
            · left
              intro x hx
              obtain ⟨cc, fc, _, sg⟩ := fanSign_ok (every x hx)
              exact ⟨cc, fc, (sg rfl).1.1 r1⟩
            · right
              intro x hx
              obtain ⟨cc, fc, _, sg⟩ := fanSign_ok (every x hx)
              exact ⟨cc, fc, (sg rfl).2.1 r1⟩

/-- **C15, a successful collapse passed the strict check**: when `collapse_edge(e)` succeeds with the vertex `v`, the
    orientation check answers `true` on the RESULTING map at `v` -/
theorem C15_collapse_passed_check (cfg : Cfg Val) (m m' : Map Val) (e v : Nat) (hwf : WF 3 m) (he : e < m.n)
    (h : run (collapseEdge cfg m.n e) m = (.ok v, m')) :
    run (isOrbitOrientationConsistent m.n v) m' = (.ok true, m') := by
  obtain ⟨_, _, _, h⟩ := collapseEdge_ok hwf he h
  obtain ⟨_, _, _, hro⟩ := collapseBody_ok h
  exact hro

/-- **C15, no flat triangle after a collapse** (D15g): after a successful `collapse_edge(e) = v`, every
    triangle around the resulting vertex `v` has a non-zero cross product seen from `v`, all of the same strict sign -/
theorem C15_collapse_no_flat_triangle (cfg : Cfg Val) (m m' : Map Val) (e v : Nat) (hwf : WF 3 m) (he : e < m.n)
    (h : run (collapseEdge cfg m.n e) m = (.ok v, m')) :
    ∃ newV tmp, m'.att 0 v = some newV ∧ run (orbit2 m.n .vertex v) m' = (.ok tmp, m') ∧
      ((∀ d, d ∈ tmp → ∃ c, FanCross m.n m' newV d c ∧ 0 < c) ∨
       (∀ d, d ∈ tmp → ∃ c, FanCross m.n m' newV d c ∧ c < 0)) :=
  C15_orientation_check_strict (C15_collapse_passed_check cfg m m' e v hwf he h)

end HC.C15

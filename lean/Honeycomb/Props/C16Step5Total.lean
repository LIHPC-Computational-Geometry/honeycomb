/-
  C16 — when does step 5 (`insert_edges_in_map`) succeed?  A decidable condition on the map.

  * `C16_buildBaseEdge_ok_iff`     on a well-formed map, with `start`, `end` in use and the two new darts live, free and
                                   distinct, `build_base_edge` succeeds EXACTLY when `start` has a successor, `end` a
                                   predecessor, and they are not consecutive (`β1(start) ≠ end`, i.e. `start ≠ β0(end)`): the
                                   "consecutive-darts panic" is the only way it can fail (full strength: an iff)
  * `Ready m e`                    that condition for an edge of step 4 (decidable instance)
  * `C16_stepFive_total_partial`   the whole step 5 succeeds when every edge is `Ready` IN THE MAP BEFORE THE STEP — the
                                   condition is checked once, not along the loop: an iteration only redirects old darts
                                   towards the block of new darts (`ready_step`), so later edges stay `Ready`, even when they
                                   share a dart with an earlier edge.  PARTIAL: for edges without intermediate point of
                                   interest (`inter = []`).
  * `insertOneEdge_total_of_mid`      one iteration succeeds as soon as its middle phase (`MidRun`) does: `build_base_edge` under
                                   `Ready`, the walk of `mark_boundary` along the new chain of `MidEff` — used here with the empty
                                   middle phase, in Props/C16InsertTotal.lean with the insertion of the points
  * `insertEdgesFrom_total_of`           the loop succeeds when a condition on the edges still to come makes the next iteration succeed
                                   and is handed on by it; the two sufficient conditions are its instances
  The forward run of `build_base_edge` (`buildBaseEdge_fwd`) and of the link cores is in Props/C16EdgeInsert.lean;
  `run_markBoundary_step`, `markBoundary_total` (the walk of `mark_boundary` along a chain ends) are proved here.

  Success of an iteration WITH intermediate points (`insertOneEdge_total`) and of the whole step for pairwise independent
  edges (`C16_stepFive_total_indep_partial`) is in Props/C16InsertTotal.lean: beyond `Ready` it uses the forward totality of
  `insert_vertices_on_edge` (`C16_insertVertices_total_partial`), a value at the two end points of the new edge, and the walks
  of the placeholder replacement / `mark_boundary` along the inserted chain.
-/
import Honeycomb.Props.C16EdgeInsert


namespace HC.C16
open HC

theorem buildBaseEdge_total {m : Map Val} {start stop dNew b2dNew : Nat} (hwf : WF 3 m)
    (hs : C01.InUse m start) (he : C01.InUse m stop) (hd1 : C01.InUse m dNew) (hd2 : C01.InUse m b2dNew)
    (hf1 : ∀ i, i < 3 → m.β i dNew = 0) (hf2 : ∀ i, i < 3 → m.β i b2dNew = 0) (hne : dNew ≠ b2dNew)
    (n1 : m.β 1 start ≠ 0) (n0 : m.β 0 stop ≠ 0) (hcons : m.β 1 start ≠ stop) :
    ∃ m', run (buildBaseEdge start stop dNew b2dNew) m = (.ok (), m') := by
  obtain ⟨m', r, _⟩ := buildBaseEdge_fwd hwf hs he hd1 hd2 hf1 hf2 hne n1 n0 hcons
  exact ⟨m', r⟩

/-- **C16, step 5 — `build_base_edge` fails only on the consecutive-darts panic** (and on a start without successor / an end
    without predecessor): on a well-formed map, `start` and `stop` in use, the two new darts live, free and distinct, the
    kernel succeeds EXACTLY when `β1(start) ≠ 0`, `β0(stop) ≠ 0` and `β1(start) ≠ stop` — a decidable condition on the map. -/
theorem C16_buildBaseEdge_ok_iff {m : Map Val} {start stop dNew b2dNew : Nat} (hwf : WF 3 m)
    (hs : C01.InUse m start) (he : C01.InUse m stop) (hd1 : C01.InUse m dNew) (hd2 : C01.InUse m b2dNew)
    (hf1 : ∀ i, i < 3 → m.β i dNew = 0) (hf2 : ∀ i, i < 3 → m.β i b2dNew = 0) (hne : dNew ≠ b2dNew) :
    (∃ m', run (buildBaseEdge start stop dNew b2dNew) m = (.ok (), m')) ↔
      (m.β 1 start ≠ 0 ∧ m.β 0 stop ≠ 0 ∧ m.β 1 start ≠ stop) := by
  constructor
  · rintro ⟨m', hr⟩
    obtain ⟨w1, _, _, _, _, hb1s, hb0e, e1, _, e3, _, _, _, _⟩ :=
      C16_buildBaseEdge_spec hwf hs he hd1 hd2 hf1 hf2 hne hr
    refine ⟨hb1s, hb0e, fun hc => hne ?_⟩
    have : m.β 0 stop = start := by rw [← hc]; exact hwf.inv01 start hs.2.1 hb1s
    rw [← e1, ← e3, this]
  · rintro ⟨a, b, c⟩
    exact buildBaseEdge_total hwf hs he hd1 hd2 hf1 hf2 hne a b c

/-! ## the whole step 5, for edges without intermediate point -/

/-- the decidable condition of `C16_buildBaseEdge_ok_iff`, for an edge of step 4 -/
def Ready (m : Map Val) (e : MEdge) : Prop :=
  C01.InUse m e.start ∧ C01.InUse m e.stop ∧ m.β 1 e.start ≠ 0 ∧ m.β 0 e.stop ≠ 0 ∧ m.β 1 e.start ≠ e.stop

instance (m : Map Val) (e : MEdge) : Decidable (Ready m e) := by unfold Ready C01.InUse; infer_instance

/-- one step of `mark_boundary`, forwards -/
theorem run_markBoundary_step {m : Map Val} (hwf : WF 3 m) (hA : sBd < m.a.size) {stop d f : Nat} (hd : d ≠ stop)
    (hlt : d < m.n) :
    run (markBoundary stop (f + 1) d) m =
      run (markBoundary stop f (m.β 1 d)) ((m.setA sBd d (some bdLeft)).setA sBd (m.β 2 d) (some bdRight)) := by
  have h2 := hwf.range 2 (by decide) d hlt
  rw [markBoundary, if_neg hd]
  simp only [bind, run_rA, run_wA, run_rB, hwf.okA_of_lt hA hlt, hwf.okA_of_lt hA h2,
    hwf.okβ_of_lt (show 1 < 3 by decide) hlt, hwf.okβ_of_lt (show 2 < 3 by decide) hlt, if_true, Map.okA_setA,
    Map.okβ_setA, Map.β_setA]

/-- `mark_boundary` along a β1 chain `d → l … → stop`: it ends within `|l| + 2` steps -/
theorem markBoundary_total (stop : Nat) : ∀ (l : List Nat) (d : Nat) (m : Map Val) (fuel : Nat), WF 3 m →
    sBd < m.a.size → B1Chain m d l → m.β 1 (l.getLastD d) = stop → stop ∉ d :: l → (∀ x, x ∈ d :: l → x < m.n) →
    l.length + 2 ≤ fuel → ∃ m', run (markBoundary stop fuel d) m = (.ok (), m') ∧ SameTopo m m' := by
  intro l
  induction l with
  | nil =>
      intro d m fuel hwf hA _ hlast hstop hlt hfuel
      obtain ⟨f, rfl⟩ : ∃ f, fuel = f + 2 := ⟨fuel - 2, by simp at hfuel; omega⟩
      simp only [List.getLastD_nil] at hlast
      rw [run_markBoundary_step hwf hA (fun h => hstop (by rw [h]; exact List.mem_cons_self)) (hlt d List.mem_cons_self),
        hlast, markBoundary, if_pos rfl]
      exact ⟨_, rfl, (SameTopo.setA _ _ _ _).trans (SameTopo.setA _ _ _ _)⟩
  | cons x rest ih =>
      intro d m fuel hwf hA hch hlast hstop hlt hfuel
      obtain ⟨f, rfl⟩ : ∃ f, fuel = f + 1 := ⟨fuel - 1, by simp at hfuel; omega⟩
      obtain ⟨h1, h2⟩ := hch
      have st : SameTopo m ((m.setA sBd d (some bdLeft)).setA sBd (m.β 2 d) (some bdRight)) :=
        (SameTopo.setA _ _ _ _).trans (SameTopo.setA _ _ _ _)
      rw [run_markBoundary_step hwf hA (fun h => hstop (by rw [h]; exact List.mem_cons_self)) (hlt d List.mem_cons_self), h1]
      rw [List.getLastD_cons] at hlast
      obtain ⟨m', r', s'⟩ := ih x _ f (hwf.sameTopo st) (by rw [st.asz]; exact hA) (b1chain_congr st.b rest x h2)
        (by rw [st.β]; exact hlast) (fun h => hstop (List.mem_cons_of_mem _ h))
        (fun y hy => by rw [st.n]; exact hlt y (List.mem_cons_of_mem _ hy))
        (by simp only [List.length_cons] at hfuel; omega)
      exact ⟨m', r', st.trans s'⟩

/-- **one iteration of `insert_edges_in_map` succeeds as soon as its middle phase does**: `build_base_edge` under
    `Ready`, then the walk of `mark_boundary` along the new chain `next → … → stop` that `MidEff` describes.  What the
    iteration does is said for every successful run (`insertOneEdge_mid`, `insertOneEdge_frames`). -/
theorem insertOneEdge_total_of_mid {m : Map Val} {next i : Nat} {ha : Bool} {e : MEdge} (I : EInv m next)
    (hA : sBd < m.a.size) (R : Ready m e) (hroom : next + (2 + 2 * e.inter.length) ≤ m.n)
    (hmid : ∀ m1, run (buildBaseEdge e.start e.stop next (next + 1)) m = (.ok (), m1) → BaseEff m m1 next e →
      ∃ m3, MidRun m m1 m3 next i ha e) :
    ∃ m', run (insertOneEdge m.n ha i e (List.range' next (2 + 2 * e.inter.length))) m = (.ok (), m') := by
  obtain ⟨hs, he, n1, n0, hcons⟩ := R
  obtain ⟨_, f0, _⟩ := I.fresh next (Nat.le_refl _) (by omega)
  obtain ⟨_, f1, _⟩ := I.fresh (next + 1) (by omega) (by omega)
  have hpos := I.pos
  obtain ⟨m1, r1⟩ := buildBaseEdge_total I.wf hs he (I.inUse (Nat.le_refl _) (by omega)) (I.inUse (by omega) (by omega))
    f0 f1 (by omega) n1 n0 hcons
  have B := I.baseEdge hs he (by omega) r1
  have hstop := B.stop_lt
  obtain ⟨m3, hm⟩ := hmid m1 r1 B
  have M := MidEff.of_run I B hroom hm
  obtain ⟨m', r', _⟩ := markBoundary_total e.stop _ next m3 m.n M.wf (by rw [hm.asz, asize_of_run r1]; exact hA)
    M.chain M.last
    (by intro h
        rcases List.mem_cons.1 h with h | h
        · omega
        · have := List.mem_range'_1.1 h
          omega)
    (fun x hx => by
      rw [M.n]
      rcases List.mem_cons.1 hx with h | h
      · omega
      · have := List.mem_range'_1.1 h
        omega)
    (by rw [List.length_range']; omega)
  rw [← M.first] at r'
  exact ⟨m', (insertOneEdge_phases I hs he hroom).2 ⟨m1, m3, r1, hm, r'⟩⟩

/-- `Ready` survives an iteration that only redirects darts towards the new block -/
theorem ready_step {m m' : Map Val} {next : Nat} {e' : MEdge} (I : EInv m next) (R : Ready m e')
    (hn : m'.n = m.n) (hu : m'.u = m.u)
    (h1 : ∀ d, d < next → (m'.β 1 d = m.β 1 d ∨ next ≤ m'.β 1 d))
    (h0 : ∀ d, d < next → m.β 0 d ≠ 0 → m'.β 0 d ≠ 0) : Ready m' e' := by
  obtain ⟨hs, he, n1, n0, hcons⟩ := R
  have hstart : e'.start < next := I.lt_of_image hs.2.1 (by decide : 1 < 3) n1
  have hstop : e'.stop < next := I.lt_of_image he.2.1 (by decide : 0 < 3) n0
  have hpos := I.pos
  refine ⟨⟨hs.1, by rw [hn]; exact hs.2.1, by unfold Map.unused; rw [hu]; exact hs.2.2⟩,
    ⟨he.1, by rw [hn]; exact he.2.1, by unfold Map.unused; rw [hu]; exact he.2.2⟩, ?_, h0 _ hstop n0, ?_⟩
  · rcases h1 _ hstart with h | h
    · rw [h]; exact n1
    · omega
  · rcases h1 _ hstart with h | h
    · rw [h]; exact hcons
    · omega

/-- the loop of `insert_edges_in_map` succeeds when a condition `C` on the edges still to come (read in the current
    map) makes the next iteration succeed and is handed on by every successful iteration -/
theorem insertEdgesFrom_total_of (ha : Bool) (C : Map Val → Nat → List MEdge → Prop)
    (hstep : ∀ (m : Map Val) (next i : Nat) (e : MEdge) (rest : List MEdge), EInv m next →
      next + (2 + 2 * e.inter.length) ≤ m.n → C m next (e :: rest) →
      C01.InUse m e.start ∧ C01.InUse m e.stop ∧
      (∃ m1, run (insertOneEdge m.n ha i e (List.range' next (2 + 2 * e.inter.length))) m = (.ok (), m1)) ∧
      ∀ m1, run (insertOneEdge m.n ha i e (List.range' next (2 + 2 * e.inter.length))) m = (.ok (), m1) →
        C m1 (next + (2 + 2 * e.inter.length)) rest) :
    ∀ (edges : List MEdge) (m : Map Val) (next i : Nat), EInv m next → C m next edges →
    next + (edges.map fun e => 2 + 2 * e.inter.length).sum ≤ m.n →
    ∃ m', run (insertEdgesFrom m.n ha i (edges.zip (edgeSlices next edges))) m = (.ok (), m') := by
  intro edges
  induction edges with
  | nil =>
      intro m next i _ _ _
      exact ⟨m, by simp only [edgeSlices, List.zip_nil_right, insertEdgesFrom, Prog.pure_eq, run_ret]⟩
  | cons e es ih =>
      intro m next i I hC hroom
      simp only [List.map_cons, List.sum_cons] at hroom
      obtain ⟨hs, he, ⟨m1, r1⟩, keep⟩ := hstep m next i e es I (by omega) hC
      obtain ⟨I1, nn1, _⟩ := C16_insertOneEdge_inv I hs he (by omega) r1
      obtain ⟨m', r'⟩ := ih m1 (next + (2 + 2 * e.inter.length)) (i + 1) I1 (keep m1 r1) (by rw [nn1]; omega)
      refine ⟨m', ?_⟩
      simp only [edgeSlices, List.zip_cons_cons, insertEdgesFrom, Prog.bind_eq]
      rw [run_bind_of_ok r1, ← nn1]
      exact r'

/-- **C16, step 5 — a decidable sufficient condition for success** (partial: edges WITHOUT intermediate point of interest,
    i.e. every segment chain goes from one crossing to the next inside one cell).  On a well-formed map that has the
    boundary storage and carries no tag, `insert_edges_in_map` succeeds — no consecutive-darts panic, no refused link, the
    walk of `mark_boundary` ends — as soon as every edge satisfies `Ready` IN THE MAP BEFORE THE STEP: its two darts are in
    use, `start` has a successor, `stop` a predecessor, and they are not consecutive. -/
theorem C16_stepFive_total_partial {m : Map Val} {ha : Bool} {edges : List MEdge} (hwf : WF 3 m)
    (hnotag : ∀ d, m.att sBd d = none) (hA : sBd < m.a.size)
    (hready : ∀ e, e ∈ edges → e.inter = [] ∧ Ready m e) :
    ∃ m', stepFive m ha edges = (.ok (), m') := by
  unfold stepFive
  simp only
  have hfst : ∀ k, (m.addFreeDarts k).1 = m.n := fun _ => rfl
  rw [hfst]
  refine insertEdgesFrom_total_of ha (fun m _ es => sBd < m.a.size ∧ ∀ e, e ∈ es → e.inter = [] ∧ Ready m e) ?_ edges _ m.n 0
    (EInv.init hwf hnotag _) ⟨by simp only [Map.addFreeDarts, Array.size_map]; exact hA, fun e he => ?_⟩ (Nat.le_refl _)
  · -- `Ready` is handed on: an iteration only redirects old darts towards its block (`ready_step`)
    intro m next i e rest I hroom ⟨hA, hall⟩
    obtain ⟨hnil, R⟩ := hall e List.mem_cons_self
    refine ⟨R.1, R.2.1, insertOneEdge_total_of_mid I hA R hroom (fun m1 _ _ => ⟨m1, Or.inl ⟨hnil, rfl⟩⟩), fun m1 r1 => ?_⟩
    obtain ⟨_, nn1, uu1⟩ := C16_insertOneEdge_inv I R.1 R.2.1 hroom r1
    obtain ⟨_, b1, _, b0⟩ := insertOneEdge_frames I R.1 R.2.1 hroom r1
    exact ⟨by rw [asize_of_run r1]; exact hA, fun e' he' =>
      ⟨(hall e' (List.mem_cons_of_mem _ he')).1, ready_step I (hall e' (List.mem_cons_of_mem _ he')).2 nn1 uu1 b1 b0⟩⟩
  · obtain ⟨hnil, a, b, c1, c0, cc⟩ := hready e he
    refine ⟨hnil, inUse_addFreeDarts hwf _ a, inUse_addFreeDarts hwf _ b, ?_, ?_, ?_⟩
    · rw [addFreeDarts_β_lt hwf _ (by decide) a.2.1]; exact c1
    · rw [addFreeDarts_β_lt hwf _ (by decide) b.2.1]; exact c0
    · rw [addFreeDarts_β_lt hwf _ (by decide) a.2.1]; exact cc

/-! ## examples: the hypotheses are satisfiable, and the condition is sharp -/

/-- across the cell `exCell`, from dart 1 to dart 3: ready -/
def exEdge0 : MEdge := { start := 1, inter := [], stop := 3 }
/-- from dart 1 to its successor 2: the consecutive-darts case -/
def exEdgeC : MEdge := { start := 1, inter := [], stop := 2 }

example : Ready exCell exEdge0 := by decide +kernel
example : ¬ Ready exCell exEdgeC := by decide +kernel

example : ∃ m', stepFive exCell true [exEdge0] = (.ok (), m') :=
  C16_stepFive_total_partial exCell_wf exCell_notag (by decide +kernel) (by
    intro e he
    simp only [List.mem_cons, List.not_mem_nil, or_false] at he
    subst he
    exact ⟨rfl, by decide +kernel⟩)

/-- the model agrees, by evaluation: success on the ready edge, a panic on consecutive darts -/
example : (stepFive exCell true [exEdge0]).1 = .ok () := by decide +kernel
example : (stepFive exCell true [exEdgeC]).1 ≠ .ok () := by decide +kernel

/-- `C16_buildBaseEdge_ok_iff` on the cell with two spare darts (5, 6): its hypotheses hold -/
example := C16_buildBaseEdge_ok_iff (m := (exCell.addFreeDarts 2).2) (start := 1) (stop := 3) (dNew := 5) (b2dNew := 6)
  (by decide +kernel) (by decide +kernel) (by decide +kernel) (by decide +kernel) (by decide +kernel) (by decide +kernel)
  (by decide +kernel) (by decide +kernel)

end HC.C16

/-
  C05 / C02 — `CMap3::one_sew` / `one_unsew` (dim3/sews/one.rs) and `two_sew` / `two_unsew` (dim3/sews/two.rs),
  TRANSLATED from the source on every run (`Gen/Sews3.lean`, written by tools/gen_lean.py), interpreted in the
  model's transaction monad, are EQUAL as programs to the hand-written `oneSew3` / `oneUnsew3` / `twoSew3` /
  `twoUnsew3` of Model/Ops3.lean, which the C05 theorems are proved about.  The functions they call are tied
  separately: the link cores in Props/C01Gen.lean, `CMap3::one_link` / `one_unlink` in Props/C02Gen.lean,
  `AttrSparseVec::merge` / `split` in Props/C04Gen.lean, the images pushed by `vertex_id_transac` /
  `edge_id_transac` in Props/C03Gen.lean; `merge_attributes` / `split_attributes` (a loop over the registered
  storages) and the traversal itself stay hand-written.
-/
import Honeycomb.Gen.Sews3
import Honeycomb.Model.Ops3
import Honeycomb.Props.C05

namespace HC.GenTie
open HC HC.C05
variable {X : Type}

/-- operand of a generated instruction: parameters, the null dart, bound variables -/
def sew3Arg (l r : Nat) (env : List Nat) : Nat → Nat
  | 0 => l
  | 1 => r
  | 2 => 0
  | n => env.getD (n - 20) 0

/-- the `*_core` function of a call instruction (codes of Gen/Links3.lean) -/
def sew3Core : Nat → Nat → Nat → Option (P X Unit)
  | 0, a, b => some (oneLinkCore a b)
  | 1, a, b => some (iLinkCore 2 a b)
  | 2, a, b => some (iLinkCore 3 a b)
  | 3, a, _ => some (oneUnlinkCore a)
  | 4, a, _ => some (iUnlinkCore 2 a)
  | 5, a, _ => some (iUnlinkCore 3 a)
  | _, _, _ => none

/-- the meaning of a generated instruction list (see the header of Gen/Sews3.lean); the fuel only makes the
    recursion structural -/
def interpSew3 (cfg : Cfg X) (n l r : Nat) : Nat → List Nat → List (Nat × List Nat) → P X Unit
  | 0, _, _ => Prog.panic
  | _ + 1, _, [] => pure ()
  | f + 1, env, (0, [c, a, b]) :: rest =>
      match sew3Core c (sew3Arg l r env a) (sew3Arg l r env b) with
      | some p => do p; interpSew3 cfg n l r f env rest
      | none => Prog.panic
  | f + 1, env, (1, [i, a]) :: rest => do
      let v ← rB i (sew3Arg l r env a)
      interpSew3 cfg n l r f (env ++ [v]) rest
  | f + 1, env, (5, [a]) :: rest => do
      let v ← vertexId3 n (sew3Arg l r env a)
      interpSew3 cfg n l r f (env ++ [v]) rest
  | f + 1, env, (6, [0, o, a, b]) :: rest => do
      mergeS cfg 0 (sew3Arg l r env o) (sew3Arg l r env a) (sew3Arg l r env b)
      interpSew3 cfg n l r f env rest
  | f + 1, env, (6, [1, o, a, b]) :: rest => do
      splitS cfg 0 (sew3Arg l r env o) (sew3Arg l r env a) (sew3Arg l r env b)
      interpSew3 cfg n l r f env rest
  | f + 1, env, (7, [0, p, o, a, b]) :: rest => do
      mergeAttrs cfg p (sew3Arg l r env o) (sew3Arg l r env a) (sew3Arg l r env b)
      interpSew3 cfg n l r f env rest
  | f + 1, env, (7, [1, p, o, a, b]) :: rest => do
      splitAttrs cfg p (sew3Arg l r env o) (sew3Arg l r env a) (sew3Arg l r env b)
      interpSew3 cfg n l r f env rest
  | f + 1, env, (9, [a, b, k1, k2, k3, k4]) :: rest =>
      let tail := rest.drop (k1 + k2 + k3 + k4)
      if sew3Arg l r env a = 0 ∧ sew3Arg l r env b = 0 then interpSew3 cfg n l r f env (rest.take k1 ++ tail)
      else if sew3Arg l r env a = 0 then interpSew3 cfg n l r f env ((rest.drop k1).take k2 ++ tail)
      else if sew3Arg l r env b = 0 then interpSew3 cfg n l r f env ((rest.drop (k1 + k2)).take k3 ++ tail)
      else interpSew3 cfg n l r f env ((rest.drop (k1 + k2 + k3)).take k4 ++ tail)
  | f + 1, env, (10, [a]) :: rest => do
      let v ← edgeId3 n (sew3Arg l r env a)
      interpSew3 cfg n l r f (env ++ [v]) rest
  | f + 1, env, (11, [vl, vb1r, vb1l, vr, i, a, b]) :: rest => do
      let pl ← rA 0 (sew3Arg l r env vl)
      let pb1r ← rA 0 (sew3Arg l r env vb1r)
      let pb1l ← rA 0 (sew3Arg l r env vb1l)
      let pr ← rA 0 (sew3Arg l r env vr)
      if badPair cfg pl pb1r pb1l pr then abort (errBadGeometry i (sew3Arg l r env a) (sew3Arg l r env b)) else
      interpSew3 cfg n l r f env rest
  | f + 1, env, (12, [a, b]) :: rest => do
      let v ← if sew3Arg l r env a ≠ 0 then vertexId3 n (sew3Arg l r env a)
              else if sew3Arg l r env b ≠ 0 then vertexId3 n (sew3Arg l r env b)
              else pure 0
      interpSew3 cfg n l r f (env ++ [v]) rest
  | f + 1, env, (13, [0, a, b]) :: rest => do
      oneLink3 (sew3Arg l r env a) (sew3Arg l r env b)
      interpSew3 cfg n l r f env rest
  | f + 1, env, (13, [1, a, _]) :: rest => do
      oneUnlink3 (sew3Arg l r env a)
      interpSew3 cfg n l r f env rest
  | f + 1, env, (14, [a, k]) :: rest =>
      if sew3Arg l r env a ≠ 0 then interpSew3 cfg n l r f env rest
      else interpSew3 cfg n l r f env (rest.drop k)
  | f + 1, env, (15, [a, b]) :: rest =>
      interpSew3 cfg n l r f (env ++ [min (sew3Arg l r env a) (sew3Arg l r env b)]) rest
  | f + 1, env, (16, [a, b]) :: rest =>
      if sew3Arg l r env a = 0 ∧ sew3Arg l r env b = 0 then pure () else do
      let v ← vertexId3 n (if sew3Arg l r env a ≠ 0 then sew3Arg l r env a else sew3Arg l r env b)
      interpSew3 cfg n l r f (env ++ [v]) rest
  | f + 1, env, (17, [a, b, k]) :: rest =>
      if sew3Arg l r env a ≠ sew3Arg l r env b then interpSew3 cfg n l r f env rest
      else interpSew3 cfg n l r f env (rest.drop k)
  | _, _, _ => Prog.panic

/-- the inline orientation test of the 3-D model is the `badPair` of the 2-D one -/
theorem badPair_eq (cfg : Cfg X) (pl pb1r pb1l pr : Option X) :
    (match pl, pb1r, pb1l, pr with
      | some a, some b, some c, some d => cfg.badOrient a b c d
      | _, _, _, _ => false) = badPair cfg pl pb1r pb1l pr := by
  unfold badPair; rfl

/-- **tie of `CMap3::one_sew`** -/
theorem C05_gen_oneSew3 (cfg : Cfg X) (n l r : Nat) :
    interpSew3 cfg n l r 16 [] Gen.oneSew3 = oneSew3 cfg n l r := by
  simp only [Gen.oneSew3, interpSew3, sew3Arg, oneSew3, List.drop, List.getD, List.nil_append,
    List.cons_append, Prog.bind_eq, Prog.pure_eq, Prog.bind_unit]
  rfl

/-- **tie of `CMap3::one_unsew`** -/
theorem C05_gen_oneUnsew3 (cfg : Cfg X) (n l : Nat) :
    interpSew3 cfg n l 0 16 [] Gen.oneUnsew3 = oneUnsew3 cfg n l := by
  simp only [Gen.oneUnsew3, interpSew3, sew3Arg, oneUnsew3, List.drop, List.getD, List.nil_append,
    List.cons_append, Prog.bind_eq, Prog.pure_eq, Prog.bind_unit]
  rfl

/-- **tie of `CMap3::two_sew`** (all four arms, the orientation test included) -/
theorem C05_gen_twoSew3 (cfg : Cfg X) (n l r : Nat) :
    interpSew3 cfg n l r 64 [] Gen.twoSew3 = twoSew3 cfg n l r := by
  simp only [Gen.twoSew3, interpSew3, sew3Core, sew3Arg, twoSew3, List.drop, List.take, List.getD,
    List.nil_append, List.cons_append, List.append_nil, Prog.bind_eq, Prog.pure_eq, Prog.bind_unit]
  rfl

/-- **tie of `CMap3::two_unsew`** (all four arms) -/
theorem C05_gen_twoUnsew3 (cfg : Cfg X) (n l : Nat) :
    interpSew3 cfg n l 0 64 [] Gen.twoUnsew3 = twoUnsew3 cfg n l := by
  simp only [Gen.twoUnsew3, interpSew3, sew3Core, sew3Arg, twoUnsew3, List.drop, List.take, List.getD, List.nil_append,
    List.cons_append, List.append_nil, Prog.bind_eq, Prog.pure_eq, Prog.bind_unit]
  rfl

/-- **C05 (a) stated on the translated code**: a successful run of the translated `CMap3::one_sew` / `two_sew`
    leaves exactly the topology of the corresponding link -/
theorem C05_gen_sews_topology (cfg : Cfg X) (n l r : Nat) (m m' : Map X) (u : Unit) :
    (run (interpSew3 cfg n l r 16 [] Gen.oneSew3) m = (.ok u, m') →
      ∃ m1, run (oneLink3 (X := X) l r) m = (.ok (), m1) ∧ SameTopo m1 m') ∧
    (run (interpSew3 cfg n l r 64 [] Gen.twoSew3) m = (.ok u, m') →
      ∃ m1, run (iLinkCore (X := X) 2 l r) m = (.ok (), m1) ∧ SameTopo m1 m') := by
  rw [C05_gen_oneSew3, C05_gen_twoSew3]
  exact ⟨C05_oneSew3_topology cfg n l r m m' u, C05_twoSew3_topology cfg n l r m m' u⟩

/-- the same for the translated `CMap3::one_unsew` / `two_unsew` -/
theorem C05_gen_unsews_topology (cfg : Cfg X) (n l : Nat) (m m' : Map X) (u : Unit) :
    (run (interpSew3 cfg n l 0 16 [] Gen.oneUnsew3) m = (.ok u, m') →
      ∃ m1, run (oneUnlink3 (X := X) l) m = (.ok (), m1) ∧ SameTopo m1 m') ∧
    (run (interpSew3 cfg n l 0 64 [] Gen.twoUnsew3) m = (.ok u, m') →
      ∃ m1, run (iUnlinkCore (X := X) 2 l) m = (.ok (), m1) ∧ SameTopo m1 m') := by
  rw [C05_gen_oneUnsew3, C05_gen_twoUnsew3]
  exact ⟨C05_oneUnsew3_topology cfg n l m m' u, C05_twoUnsew3_topology cfg n l m m' u⟩

/-- a list the interpreter does not understand is a panic, not a silent success -/
example (cfg : Cfg X) (n l r : Nat) : interpSew3 cfg n l r 4 [] [(9, [])] = Prog.panic := rfl

end HC.GenTie

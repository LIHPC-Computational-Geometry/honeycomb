/-
  C05 at cell level — the identification of the identifiers computed by the 3-D `one_sew` /
  `one_unsew` with the vertex CELLS (Props/C05.lean speaks of identifiers only).  As of /repo e8bc83e (finding
  D13) the six vertex images are closed under inverse on every well-formed 3-map, open 3-sewn faces included.

  Vertex cell of a dart = its class under `SameCell (g3v m)`: the closure under the six images of
  `vertex_id_transac` AND their inverses (`Lemmas/Cell3.lean`).  `IsVid3 m d v`: `v` is the
  smallest dart of the vertex cell of `d`.

  * `C05_vertexId3_is_cell_min`: whatever `vertex_id_transac` returns on a non-null dart of a
    well-formed 3-map is the smallest dart of its vertex cell.
  * `C05_oneSew3_cells`: after a successful 1-sew the vertex partition is the old one with the cell
    of the head of `l` (read through β3, else β2) and the cell of `r` united and nothing else
    changed; the two identifiers the code merges are the smallest darts of these two cells; the
    identifier it merges INTO, `min` of the two, is the smallest dart of the united cell (so no
    value is left under an identifier that stopped designating a cell: `MergedIn.cleared`); every
    other slot is untouched (`MergedIn.frame/other`).
  * `C05_oneUnsew3_cells`: after a successful 1-unsew the OLD partition is the new one with the
    cells of the head of `l` and of `r = β1 l` united; the identifier split FROM is the smallest dart
    of the old cell and equals `min` of the two new ones; the two identifiers split INTO are the
    smallest darts of the two new cells; when they coincide (the vertex does not split) nothing is
    touched.

  The same identification for 2- and 3-(un)sews (several simultaneous pairs): Props/C05Cells2.lean, C05Cells3.lean.
  The statements are about runs that return `Ok`, which is what the sews use; that `popLoop` ends within its fuel is
  C03 (`C03_vertexId3_min`).
-/
import Honeycomb.Lemmas.Cell3
import Honeycomb.Props.C05

namespace HC.C05
open HC HC.CellCalc HC.Cell3
open HC.C04 (vStores)
variable {X : Type}

/-- **`vertex_id_transac` = smallest dart of the vertex cell** (3-D, every well-formed map) -/
theorem C05_vertexId3_is_cell_min {m m' : Map X} (h : WF 4 m) {n' d v : Nat} (hd0 : d ≠ 0) (hd : d < m.n)
    (hr : run (vertexId3 (X := X) n' d) m = (.ok v, m')) : IsVid3 m d v :=
  (vertexId3_spec h hd0 hd hr).2

theorem headOf_lt {m : Map X} (h : WF 4 m) {l : Nat} (hl : l < m.n) : headOf m l < m.n := by
  unfold headOf; split
  · exact h.range 3 (by omega) l hl
  · exact h.range 2 (by omega) l hl

/-- **C05, 1-sew at cell level** -/
theorem C05_oneSew3_cells (cfg : Cfg X) (n : Nat) (m m' : Map X) (l r : Nat) (u : Unit)
    (hwf : WF 4 m) (hl : C02.InUse m l) (hr : C02.InUse m r) (hfc : m.fc = 0)
    (h : run (oneSew3 cfg n l r) m = (.ok u, m')) :
    ∃ m1, run (oneLink3 (X := X) l r) m = (.ok (), m1) ∧ WF 4 m1 ∧ SameTopo m1 m' ∧ m1.a = m.a ∧
      ((headOf m l = 0 ∧ m' = m1 ∧ ∀ d e, SameCell (g3v m1) m.n d e ↔ SameCell (g3v m) m.n d e) ∨
       (headOf m l ≠ 0 ∧ ∃ vl vr,
          -- the two identifiers the code merges are the smallest darts of the two old cells
          IsVid3 m (headOf m l) vl ∧ IsVid3 m r vr ∧
          -- the new partition: these two cells united, nothing else changed
          (∀ d e, SameCell (g3v m1) m.n d e ↔ United (g3v m) m.n (headOf m l) r d e) ∧
          -- the identifier merged into is the smallest dart of the united cell
          IsVid3 m1 r (min vr vl) ∧
          MergedIn cfg (vStores cfg) (min vr vl) vl vr m1 m')) := by
  obtain ⟨hl0, hln, hul⟩ := hl
  obtain ⟨hr0, hrn, hur⟩ := hr
  obtain ⟨vl, vr, m1, hleft, hvr, hlink, htopo, hcase⟩ := C05_oneSew3_effect cfg n l r m m' u hfc h
  obtain ⟨hw1, ho, _⟩ := oneLink3_ok hwf hl0 hr0 hln hrn hul hur hlink
  have hcells := vertex_cells_oneLink3 hwf hl0 hr0 hln hrn hul hur hlink
  refine ⟨m1, hlink, hw1, htopo, ho.a, ?_⟩
  have sr := (vertexId3_spec hwf hr0 hrn hvr).2
  -- what the code read on the left-hand side
  rcases hleft with ⟨h3, hv⟩ | ⟨h3, h2, hv⟩ | ⟨h3, h2, hv0⟩
  · have hh : headOf m l = m.β 3 l := headOf_pos h3
    have sl := (vertexId3_spec hwf h3 (hwf.range 3 (by omega) l hln) hv).2
    have hvl0 := sl.ne_zero hwf h3 (hwf.range 3 (by omega) l hln)
    rcases hcase with ⟨hc, _⟩ | ⟨_, hm⟩
    · exact absurd hc hvl0
    right
    rw [hh]
    have hc : ∀ d e, SameCell (g3v m1) m.n d e ↔ United (g3v m) m.n (m.β 3 l) r d e := by
      intro d e; have := hcells d e; rw [hh, if_neg h3] at this; exact this
    exact ⟨h3, vl, vr, sl, sr, hc, isVid3_united ho.n hc sl sr, hm⟩
  · have hh : headOf m l = m.β 2 l := headOf_neg (by omega)
    have sl := (vertexId3_spec hwf h2 (hwf.range 2 (by omega) l hln) hv).2
    have hvl0 := sl.ne_zero hwf h2 (hwf.range 2 (by omega) l hln)
    rcases hcase with ⟨hc, _⟩ | ⟨_, hm⟩
    · exact absurd hc hvl0
    right
    rw [hh]
    have hc : ∀ d e, SameCell (g3v m1) m.n d e ↔ United (g3v m) m.n (m.β 2 l) r d e := by
      intro d e; have := hcells d e; rw [hh, if_neg h2] at this; exact this
    exact ⟨h2, vl, vr, sl, sr, hc, isVid3_united ho.n hc sl sr, hm⟩
  · have hh : headOf m l = 0 := (headOf_neg (by omega)).trans h2
    rcases hcase with ⟨_, hm⟩ | ⟨hc, _⟩
    · left
      refine ⟨hh, hm, fun d e => ?_⟩
      have := hcells d e; rw [if_pos hh] at this; exact this
    · exact absurd hv0 hc

/-- **C05, 1-unsew at cell level** -/
theorem C05_oneUnsew3_cells (cfg : Cfg X) (n : Nat) (m m' : Map X) (l : Nat) (u : Unit)
    (hwf : WF 4 m) (hl : C02.InUse m l) (hfc : m.fc = 0)
    (h : run (oneUnsew3 cfg n l) m = (.ok u, m')) :
    ∃ m1 vold, run (oneUnlink3 (X := X) l) m = (.ok (), m1) ∧ WF 4 m1 ∧ SameTopo m1 m' ∧ m1.a = m.a ∧
      m.β 1 l ≠ 0 ∧
      -- the identifier split from is the smallest dart of the old vertex cell of `r = β1 l`
      IsVid3 m (m.β 1 l) vold ∧
      ((headOf m l = 0 ∧ m' = m1 ∧ ∀ d e, SameCell (g3v m) m.n d e ↔ SameCell (g3v m1) m.n d e) ∨
       (headOf m l ≠ 0 ∧ ∃ vl vr,
          -- the two identifiers split into are the smallest darts of the two new cells
          IsVid3 m1 (headOf m l) vl ∧ IsVid3 m1 (m.β 1 l) vr ∧
          -- the old partition is the new one with these two cells united
          (∀ d e, SameCell (g3v m) m.n d e ↔ United (g3v m1) m.n (headOf m l) (m.β 1 l) d e) ∧
          vold = min vr vl ∧
          ((vl = vr ∧ m' = m1) ∨ (vl ≠ vr ∧ SplitIn cfg (vStores cfg) vl vr vold m1 m')))) := by
  obtain ⟨hl0, hln, hul⟩ := hl
  obtain ⟨vold, m1, hvold, hunl, htopo, hcase⟩ := C05_oneUnsew3_effect cfg n l m m' u hfc h
  obtain ⟨hw1, ho, _⟩ := oneUnlink3_ok hwf hln hunl
  obtain ⟨hne, hn1, hβ, hcells⟩ := vertex_cells_oneUnlink3 hwf hl0 hln hunl
  have ir := hwf.image_inUse (i := 1) (by omega) hln hne
  have sold := (vertexId3_spec hwf hne ir.1 hvold).2
  refine ⟨m1, vold, hunl, hw1, htopo, ho.a, hne, sold, ?_⟩
  have e2 : m1.β 2 l = m.β 2 l := hβ 2 l (by omega)
  have e3 : m1.β 3 l = m.β 3 l := hβ 3 l (by omega)
  rw [e2, e3] at hcase
  rcases hcase with ⟨c2, c3, hm⟩ | ⟨hc, vl, vr, hvl, hvr, hsplit⟩
  · have hh : headOf m l = 0 := (headOf_neg c3).trans c2
    left
    refine ⟨hh, hm, fun d e => ?_⟩
    have := hcells d e; rw [if_pos hh] at this; exact this
  · have hh : headOf m l ≠ 0 := by
      unfold headOf
      by_cases h3 : m.β 3 l ≠ 0
      · rw [if_pos h3]; exact h3
      · rw [if_neg h3]; intro h2; exact hc ⟨h2, by omega⟩
    right
    have hhn : headOf m l < m1.n := by rw [hn1]; exact headOf_lt hwf hln
    have hc' : ∀ d e, SameCell (g3v m) m.n d e ↔ United (g3v m1) m.n (headOf m l) (m.β 1 l) d e := by
      intro d e; have := hcells d e; rw [if_neg hh] at this; exact this
    -- the dart the code starts from (β2 first) is in the cell of the head (β3 first)
    have sl0 : IsVid3 m1 (if m.β 2 l ≠ 0 then m.β 2 l else m.β 3 l) vl := by
      have hd0 : (if m.β 2 l ≠ 0 then m.β 2 l else m.β 3 l) ≠ 0 := by
        split
        · assumption
        · intro h3; exact hc ⟨by omega, h3⟩
      have hdn : (if m.β 2 l ≠ 0 then m.β 2 l else m.β 3 l) < m1.n := by
        rw [hn1]; split
        · exact hwf.range 2 (by omega) l hln
        · exact hwf.range 3 (by omega) l hln
      exact (vertexId3_spec hw1 hd0 hdn hvl).2
    have sl : IsVid3 m1 (headOf m l) vl := by
      unfold headOf
      by_cases h3 : m.β 3 l ≠ 0
      · rw [if_pos h3]
        by_cases h2 : m.β 2 l ≠ 0
        · rw [if_pos h2] at sl0
          have hs := tied hw1 (z := l) (mem_vties.2 (Or.inr (Or.inl rfl))) (mem_vties.2 (Or.inr (Or.inr rfl)))
            (by rw [e2]; exact h2) (by rw [e3]; exact h3)
          rw [e2, e3] at hs
          exact sl0.congr hs
        · rw [if_neg h2] at sl0; exact sl0
      · rw [if_neg h3]
        have h2 : m.β 2 l ≠ 0 := fun h2 => hc ⟨h2, by omega⟩
        rw [if_pos h2] at sl0; exact sl0
    have sr := (vertexId3_spec hw1 hne (by rw [hn1]; exact ir.1) hvr).2
    have hvl0 := sl.ne_zero hw1 hh hhn
    have hvr0 := sr.ne_zero hw1 hne (by rw [hn1]; exact ir.1)
    -- the old identifier is the minimum of the two new ones
    have hc'' : ∀ d e, SameCell (g3v m) m1.n d e ↔ United (g3v m1) m1.n (headOf m l) (m.β 1 l) d e := by
      rw [hn1]; exact hc'
    have hu := isVid3_united (m := m1) (m1 := m) hn1.symm hc'' sl sr
    have hold : vold = min vr vl :=
      sold.unique hu (sold.ne_zero hwf hne ir.1) (by omega)
    exact ⟨hh, vl, vr, sl, sr, hc', hold, hsplit⟩


/-! ## non-vacuity: the configuration of finding D13 -/

/-- three triangles 1-2-3, 4-5-6, 7-8-9; vertices of the first one and of dart 4 embedded -/
def exBase : Map Val :=
  { (Map.empty 4 6 10 : Map Val) with
    b := #[#[0, 3, 1, 2, 6, 4, 5, 9, 7, 8], #[0, 2, 3, 1, 5, 6, 4, 8, 9, 7],
           Array.replicate 10 0, Array.replicate 10 0]
    a := #[#[none, some (.pt 1 0 0), some (.pt 0 1 0), some (.pt 0 0 1), some (.pt 2 0 0), none, none, none,
             none, none],
           #[none, some (.tm (.leaf 11)), none, none, none, none, none, none, none, none, none],
           Array.replicate 11 none, Array.replicate 11 none, Array.replicate 11 none, Array.replicate 11 none] }

/-- … the second and third 3-linked along `(4, 7)`, the third 2-linked to the first along `(9, 1)`:
    the vertex of dart 1 is `{1, 5, 7}` and has a boundary -/
def exGlued : Map Val := (run (iLinkCore 2 9 1) (run (threeLink3 10 4 7) exBase).2).2

/-- … and dart 4 1-unsewn: its 3-sewn face is open, the vertex of dart 1 is `{1, 5}` -/
def exOpened : Map Val := (run (oneUnsew3 C02.exCfg 10 4) exGlued).2

theorem exGlued_facts : WF 4 exGlued ∧ Mirror exGlued ∧ exGlued.β 3 4 = 7 ∧ exGlued.β 2 9 = 1 ∧
    C02.InUse exGlued 4 ∧ exGlued.fc = 0 ∧ (run (oneUnsew3 C02.exCfg 10 4) exGlued).1 = .ok () := by decide +kernel

theorem exOpened_facts : WF 4 exOpened ∧ exOpened.fc = 0 ∧ C02.InUse exOpened 4 ∧ C02.InUse exOpened 5 ∧
    (run (vertexId3 10 5) exOpened).1 = .ok 1 ∧ (run (vertexId3 10 7) exOpened).1 = .ok 7 ∧
    (exOpened.att 0 1 = some (.pt 1 0 0) ∧ exOpened.att 0 7 = some (.pt 1 0 0) ∧ exOpened.att 0 5 = none ∧
      exOpened.att 1 1 = some (.tm (.spr (.leaf 11))) ∧ exOpened.att 1 7 = some (.tm (.spl (.leaf 11)))) ∧
    (run (oneSew3 C02.exCfg 10 4 5) exOpened).1 = .ok () ∧
    (run (oneSew3 C02.exCfg 10 4 5) exOpened).2.att 0 1 = some (.pt 1 0 0) ∧
    (run (oneSew3 C02.exCfg 10 4 5) exOpened).2.att 0 7 = none ∧ headOf exOpened 4 = 7 := by decide +kernel

example : WF 4 exGlued ∧ Mirror exGlued ∧ exGlued.β 3 4 = 7 ∧ exGlued.β 2 9 = 1 :=
  have ⟨wf, mir, b3, b2, _⟩ := exGlued_facts
  ⟨wf, mir, b3, b2⟩
example : (run (oneUnsew3 C02.exCfg 10 4) exGlued).1 = .ok () := exGlued_facts.2.2.2.2.2.2
/-- the vertex ids on the opened face are the smallest darts of the cells (the point of finding D13) -/
example : (run (vertexId3 10 5) exOpened).1 = .ok 1 ∧ (run (vertexId3 10 7) exOpened).1 = .ok 7 :=
  have ⟨_, _, _, _, v5, v7, _⟩ := exOpened_facts
  ⟨v5, v7⟩
example : IsVid3 exOpened 5 1 :=
  have ⟨wf, _, _, u5, v5, _⟩ := exOpened_facts
  C05_vertexId3_is_cell_min (m' := exOpened) (n' := 10) wf (by decide) u5.2.1
    (Prod.ext v5 ((readOnly_vertexId3 10 5).run_ok (Prod.ext rfl rfl)))
/-- the vertex `{1, 5}` keeps its coordinates under its identifier 1, the split-off vertex `{7}` gets
    its half -/
example : exOpened.att 0 1 = some (.pt 1 0 0) ∧ exOpened.att 0 7 = some (.pt 1 0 0) ∧ exOpened.att 0 5 = none ∧
    exOpened.att 1 1 = some (.tm (.spr (.leaf 11))) ∧ exOpened.att 1 7 = some (.tm (.spl (.leaf 11))) :=
  exOpened_facts.2.2.2.2.2.2.1
/-- the hypotheses of the two cell-level theorems are satisfiable -/
example :=
  have ⟨wf, _, _, _, u4, fc, ok⟩ := exGlued_facts
  C05_oneUnsew3_cells C02.exCfg 10 exGlued exOpened 4 () wf u4 fc (Prod.ext ok rfl)
example : (run (oneSew3 C02.exCfg 10 4 5) exOpened).1 = .ok () := exOpened_facts.2.2.2.2.2.2.2.1
example :=
  have ⟨wf, fc, u4, u5, _, _, _, ok, _⟩ := exOpened_facts
  C05_oneSew3_cells C02.exCfg 10 exOpened (run (oneSew3 C02.exCfg 10 4 5) exOpened).2 4 5 () wf u4 u5 fc
    (Prod.ext ok rfl)
/-- … and the 1-sew back merges the two halves into the identifier of the united vertex -/
example : (run (oneSew3 C02.exCfg 10 4 5) exOpened).2.att 0 1 = some (.pt 1 0 0) ∧
    (run (oneSew3 C02.exCfg 10 4 5) exOpened).2.att 0 7 = none ∧ headOf exOpened 4 = 7 :=
  exOpened_facts.2.2.2.2.2.2.2.2

end HC.C05

/-
  C03 (3-D part) — orbits, cell identifiers and cell iterators of `CMap3` agree with the orbit
  definition.  Model: Model/Ops3.lean (`gen3`, `orbit3`, `vertexId3`, `edgeId3`, `faceId3`, `volumeId3`,
  `iter*3`), mirroring /repo/honeycomb-core/src/cmap/dim3/{orbits.rs,basic_ops.rs} with /repo e8bc83e (sixth vertex
  image `β2∘β3`) and /repo 3b31916 (`face_id_transac` takes the minimum with the darts its backward walk starts from).

  For every 3-map `m` with `WF 4 m` and every non-null existing dart `d`:

  * `C03_orbit3_spec`               every policy (Vertex, VertexLinear, Edge, Face, FaceLinear, Volume, VolumeLinear,
                                    every `Custom` slice with indices `< 4`): the orbit starts with the dart, has no
                                    duplicate, never the null dart, is exactly the set reachable through the images
  * `C03_images3_inverse_closed`,
    `C03_orbit3_is_cell`            Vertex, Edge, Face, Volume: images closed under inverse on EVERY well-formed
                                    3-map (no closed/mirrored hypothesis), so the orbit is the equivalence class
  * `C03_vertexId3_min`, `C03_edgeId3_min`, `C03_volumeId3_min`
                                    the "mark on pop" traversals terminate within their fuel and return the
                                    minimum of the cell — every well-formed 3-map
  * `C03_faceId3_min`               the two-sided lock-step walk returns the minimum of the face cell on maps whose
                                    3-glued faces are mirrored and 3-linked as a whole (`FaceScope`) — closed or OPEN.
                                    Not comparable with the property's "glued faces closed and mirrored": openness is
                                    allowed, but `sided` is asked for and does not follow from closed + mirrored;
                                    faces that are not 3-linked are unrestricted
  * `C03_same_id3_iff_same_cell`    equal identifiers ⇔ same cell
  * `C03_iter3_sorted`, `C03_iterVertices3_mem`, `C03_iterEdges3_mem`, `C03_iterVolumes3_mem`,
    `C03_iterFaces3_mem`            iterators: strictly increasing, exactly the identifiers of the in-use darts
  * `C03_linear3_closed`            VertexLinear / FaceLinear / VolumeLinear give the whole cell on closed cells
  * `C03_transactional3_eq_plain`   transactional variants = plain ones (read-only programs; T1 for the log)
-/
import Honeycomb.Lemmas.Bfs3
import Honeycomb.Lemmas.Link3
import Honeycomb.Lemmas.SceneFace3

namespace HC.C03
open HC
variable {X : Type}

/-! ## the images of a dart under a 3-D policy, as a pure function of the map -/

/-- images examined for dart `x`, same order as `gen3` (i.e. as `CMap3::orbit_transac`) -/
def g3 (m : Map X) : Policy → Nat → List Nat
  | .vertex, x => [m.β 3 (m.β 2 x), m.β 1 (m.β 3 x), m.β 1 (m.β 2 x), m.β 3 (m.β 0 x), m.β 2 (m.β 0 x),
      m.β 2 (m.β 3 x)]
  | .vertexLinear, x => [m.β 3 (m.β 2 x), m.β 1 (m.β 3 x), m.β 1 (m.β 2 x)]
  | .edge, x => [m.β 2 x, m.β 3 x]
  | .face, x => [m.β 1 x, m.β 0 x, m.β 3 x]
  | .faceLinear, x => [m.β 1 x, m.β 3 x]
  | .volume, x => [m.β 1 x, m.β 0 x, m.β 2 x]
  | .volumeLinear, x => [m.β 1 x, m.β 2 x]
  | .custom bs, x => bs.map (fun i => m.β i x)

/-- policies a 3-map accepts: all named ones, custom β indices below 4 -/
def Pol3OK : Policy → Prop
  | .custom bs => ∀ b, b ∈ bs → b < 4
  | _ => True

instance : (pol : Policy) → Decidable (Pol3OK pol)
  | .custom bs => inferInstanceAs (Decidable (∀ b, b ∈ bs → b < 4))
  | .vertex => isTrue trivial
  | .vertexLinear => isTrue trivial
  | .edge => isTrue trivial
  | .face => isTrue trivial
  | .faceLinear => isTrue trivial
  | .volume => isTrue trivial
  | .volumeLinear => isTrue trivial

/-- the cell policies: images closed under inverse -/
def Sym3 : Policy → Prop
  | .vertex => True
  | .edge => True
  | .face => True
  | .volume => True
  | _ => False

theorem Sym3.ok {pol : Policy} (h : Sym3 pol) : Pol3OK pol := by
  cases pol <;> trivial

/-- the orbit as a pure function -/
def orb3 (m : Map X) (pol : Policy) (d : Nat) : List Nat := orbG (g3 m pol) m.n d

/-- the cell identifier as a pure function: the minimum of the orbit -/
def cellId3 (m : Map X) (pol : Policy) (d : Nat) : Nat := cidG (g3 m pol) m.n d

/-! ## `gen3` computes `g3` -/

theorem run_gen3 {m : Map X} (h : WF 4 m) {pol : Policy} (hp : Pol3OK pol) {x : Nat} (hx : x < m.n) :
    run (gen3 (X := X) pol x) m = (.ok (g3 m pol x), m) := by
  have r : ∀ i, i < 4 → ∀ y, y < m.n → m.β i y < m.n := fun i hi y hy => h.range i hi y hy
  cases pol with
  | custom bs =>
      have := (run_customGo (go := gen3.go x) (fun _ => rfl) (fun _ _ _ => rfl)
        (fun i hi => h.okβ_of_lt hi hx) bs []).1 hp
      simpa [gen3, g3] using this
  | _ => simp only [gen3, g3, Prog.bind_eq, Prog.pure_eq, h.run_rB, run_ret, hx, r, Nat.reduceLT]

theorem readOnly_gen3 (pol : Policy) (d : Nat) : ReadOnly (gen3 (X := X) pol d) := by
  cases pol <;> unfold gen3
  · exact ReadOnly.bind (ReadOnly.rB _ _) fun _ => ReadOnly.bind (ReadOnly.rB _ _) fun _ =>
      ReadOnly.bind (ReadOnly.rB _ _) fun _ => ReadOnly.bind (ReadOnly.rB _ _) fun _ =>
      ReadOnly.bind (ReadOnly.rB _ _) fun _ => ReadOnly.bind (ReadOnly.rB _ _) fun _ =>
      ReadOnly.bind (ReadOnly.rB _ _) fun _ => ReadOnly.bind (ReadOnly.rB _ _) fun _ =>
      ReadOnly.bind (ReadOnly.rB _ _) fun _ => ReadOnly.pure _
  · exact ReadOnly.bind (ReadOnly.rB _ _) fun _ => ReadOnly.bind (ReadOnly.rB _ _) fun _ =>
      ReadOnly.bind (ReadOnly.rB _ _) fun _ => ReadOnly.bind (ReadOnly.rB _ _) fun _ =>
      ReadOnly.bind (ReadOnly.rB _ _) fun _ => ReadOnly.pure _
  · exact ReadOnly.bind (ReadOnly.rB _ _) fun _ => ReadOnly.bind (ReadOnly.rB _ _) fun _ => ReadOnly.pure _
  · exact ReadOnly.bind (ReadOnly.rB _ _) fun _ => ReadOnly.bind (ReadOnly.rB _ _) fun _ =>
      ReadOnly.bind (ReadOnly.rB _ _) fun _ => ReadOnly.pure _
  · exact ReadOnly.bind (ReadOnly.rB _ _) fun _ => ReadOnly.bind (ReadOnly.rB _ _) fun _ => ReadOnly.pure _
  · exact ReadOnly.bind (ReadOnly.rB _ _) fun _ => ReadOnly.bind (ReadOnly.rB _ _) fun _ =>
      ReadOnly.bind (ReadOnly.rB _ _) fun _ => ReadOnly.pure _
  · exact ReadOnly.bind (ReadOnly.rB _ _) fun _ => ReadOnly.bind (ReadOnly.rB _ _) fun _ => ReadOnly.pure _
  · exact readOnly_gen3_custom _ d

/-! ## facts about `g3` on well-formed maps -/

/-- every image is a β-image of `x` or a β-image of a β-image of `x` -/
theorem g3_form {m : Map X} {pol : Policy} (hp : Pol3OK pol) {x y : Nat} (hy : y ∈ g3 m pol x) :
    (∃ i, i < 4 ∧ y = m.β i x) ∨ ∃ i j, i < 4 ∧ j < 4 ∧ y = m.β i (m.β j x) := by
  cases pol with
  | vertex =>
      simp only [g3, List.mem_cons, List.not_mem_nil, or_false] at hy
      rcases hy with rfl | rfl | rfl | rfl | rfl | rfl <;> exact Or.inr ⟨_, _, by omega, by omega, rfl⟩
  | vertexLinear =>
      simp only [g3, List.mem_cons, List.not_mem_nil, or_false] at hy
      rcases hy with rfl | rfl | rfl <;> exact Or.inr ⟨_, _, by omega, by omega, rfl⟩
  | edge =>
      simp only [g3, List.mem_cons, List.not_mem_nil, or_false] at hy
      rcases hy with rfl | rfl <;> exact Or.inl ⟨_, by omega, rfl⟩
  | face =>
      simp only [g3, List.mem_cons, List.not_mem_nil, or_false] at hy
      rcases hy with rfl | rfl | rfl <;> exact Or.inl ⟨_, by omega, rfl⟩
  | faceLinear =>
      simp only [g3, List.mem_cons, List.not_mem_nil, or_false] at hy
      rcases hy with rfl | rfl <;> exact Or.inl ⟨_, by omega, rfl⟩
  | volume =>
      simp only [g3, List.mem_cons, List.not_mem_nil, or_false] at hy
      rcases hy with rfl | rfl | rfl <;> exact Or.inl ⟨_, by omega, rfl⟩
  | volumeLinear =>
      simp only [g3, List.mem_cons, List.not_mem_nil, or_false] at hy
      rcases hy with rfl | rfl <;> exact Or.inl ⟨_, by omega, rfl⟩
  | custom bs =>
      simp only [g3, List.mem_map] at hy
      obtain ⟨i, hi, e⟩ := hy
      exact Or.inl ⟨i, hp i hi, e.symm⟩

theorem g3_ok {m : Map X} (h : WF 4 m) (pol : Policy) (hp : Pol3OK pol) : GenOK (g3 m pol) m.n where
  null := by
    intro y hy
    rcases g3_form hp hy with ⟨i, hi, rfl⟩ | ⟨i, j, hi, hj, rfl⟩
    · exact h.null i hi
    · rw [h.null j hj]; exact h.null i hi
  range := by
    intro a ha y hy
    rcases g3_form hp hy with ⟨i, hi, rfl⟩ | ⟨i, j, hi, hj, rfl⟩
    · exact h.range i hi a ha
    · exact h.range i hi _ (h.range j hj a ha)

theorem g3_len {m : Map X} {pol : Policy} (hs : Sym3 pol) (x : Nat) : (g3 m pol x).length ≤ 6 := by
  cases pol <;> first | exact hs.elim | simp [g3]

/-- a non-null image of an existing dart is an in-use dart -/
theorem g3_image_inUse {m : Map X} (h : WF 4 m) {pol : Policy} (hp : Pol3OK pol) {b x : Nat} (hb : b < m.n)
    (hx : x ∈ g3 m pol b) (hx0 : x ≠ 0) : m.unused x = false := by
  rcases g3_form hp hx with ⟨i, hi, rfl⟩ | ⟨i, j, hi, hj, rfl⟩
  · exact (h.image_inUse hi hb hx0).2
  · exact (h.image_inUse hi (h.range j hj b hb) hx0).2

/-! ## orbits -/

/-- **C03 (3-D), orbits**: on a well-formed 3-map, for every policy (Vertex, VertexLinear, Edge, Face,
    FaceLinear, Volume, VolumeLinear, every `Custom` slice of indices `< 4`) and every non-null
    existing dart `d`, `orbit_transac` succeeds, leaves the map unchanged and yields `d` first, then
    every non-null dart reachable through the policy's images exactly once; all yielded darts exist -/
theorem C03_orbit3_spec {m : Map X} (h : WF 4 m) {pol : Policy} (hp : Pol3OK pol) {d : Nat}
    (hd0 : d ≠ 0) (hd : d < m.n) :
    run (orbit3 (X := X) m.n pol d) m = (.ok (orb3 m pol d), m) ∧
    (orb3 m pol d).head? = some d ∧ (orb3 m pol d).Nodup ∧ 0 ∉ orb3 m pol d ∧
    (∀ x, x ∈ orb3 m pol d ↔ (x ≠ 0 ∧ Reach (g3 m pol) d x)) ∧
    ∀ x, x ∈ orb3 m pol d → x < m.n :=
  ⟨run_orbitWith (fun _ hx => run_gen3 h hp hx) (g3_ok h pol hp).range hd0 hd,
   orbG_spec (g3_ok h pol hp) hd0 hd⟩

theorem mem_orb3 {m : Map X} (h : WF 4 m) {pol : Policy} (hp : Pol3OK pol) {d : Nat}
    (hd0 : d ≠ 0) (hd : d < m.n) (x : Nat) :
    x ∈ orb3 m pol d ↔ (x ≠ 0 ∧ Reach (g3 m pol) d x) := mem_orbG (g3_ok h pol hp) hd0 hd x

/-- a `Custom` policy naming a β index `≥ 4` is refused (`assert!(i < 4)` of `beta_rt_transac`) -/
theorem C03_orbit3_custom_bad_panics {m : Map X} (h : WF 4 m) {bs : List Nat}
    (hb : ∃ b, b ∈ bs ∧ 4 ≤ b) {d : Nat} (hd : d < m.n) :
    run (orbit3 (X := X) m.n (.custom bs) d) m = (.panic, m) := by
  unfold orbit3 orbitWith bfs
  show run ((gen3 (.custom bs) d).bind _) m = _
  rw [run_bind]
  have : run (gen3 (X := X) (.custom bs) d) m = (.panic, m) := by
    simpa [gen3] using (run_customGo (go := gen3.go d) (fun _ => rfl) (fun _ _ _ => rfl)
      (fun i hi => h.okβ_of_lt hi hd) bs []).2 hb
  rw [this]

/-! ## Vertex / Edge / Face / Volume: images closed under inverse, the orbit is the cell -/

/-- `Cell3.g3v` lists the images of `g3 m .vertex` with the first two swapped -/
theorem g3_vertex_mem (m : Map X) (x y : Nat) : y ∈ g3 m .vertex x ↔ y ∈ Cell3.g3v m x := by
  simp only [g3, Cell3.g3v, List.mem_cons]
  exact or_left_comm

/-- **C03 (3-D), inverse-closedness**: under the Vertex, Edge, Face and Volume policies every non-null
    image `y` of an existing dart `x` has `x` among its own images — on EVERY well-formed 3-map
    (Vertex: thanks to the sixth image `β2∘β3`, `Cell3.g3v_invClosed`; no closed/mirrored hypothesis) -/
theorem C03_images3_inverse_closed {m : Map X} (h : WF 4 m) {pol : Policy} (hs : Sym3 pol) :
    InvClosed (g3 m pol) m.n := by
  intro x hx y hy hy0
  cases pol with
  | vertex =>
      rw [g3_vertex_mem] at hy ⊢
      exact Cell3.g3v_invClosed h x hx y hy hy0
  | edge =>
      simp only [g3, List.mem_cons, List.not_mem_nil, or_false] at hy ⊢
      rcases hy with hy | hy
      · exact Or.inl (h.toWFβ.back1 (i := 2) (by omega) hx hy0 hy)
      · exact Or.inr (h.toWFβ.back1 (i := 3) (by omega) hx hy0 hy)
  | face =>
      simp only [g3, List.mem_cons, List.not_mem_nil, or_false] at hy ⊢
      rcases hy with hy | hy | hy
      · exact Or.inr (Or.inl (h.toWFβ.back1 (i := 1) (by omega) hx hy0 hy))
      · exact Or.inl (h.toWFβ.back1 (i := 0) (by omega) hx hy0 hy)
      · exact Or.inr (Or.inr (h.toWFβ.back1 (i := 3) (by omega) hx hy0 hy))
  | volume =>
      simp only [g3, List.mem_cons, List.not_mem_nil, or_false] at hy ⊢
      rcases hy with hy | hy | hy
      · exact Or.inr (Or.inl (h.toWFβ.back1 (i := 1) (by omega) hx hy0 hy))
      · exact Or.inl (h.toWFβ.back1 (i := 0) (by omega) hx hy0 hy)
      · exact Or.inr (Or.inr (h.toWFβ.back1 (i := 2) (by omega) hx hy0 hy))
  | vertexLinear => exact hs.elim
  | faceLinear => exact hs.elim
  | volumeLinear => exact hs.elim
  | custom bs => exact hs.elim

/-- **C03 (3-D), the orbit is the cell**: under Vertex / Edge / Face / Volume the orbit of `d` is
    exactly the equivalence class of `d` under "images and their inverses" -/
theorem C03_orbit3_is_cell {m : Map X} (h : WF 4 m) {pol : Policy} (hs : Sym3 pol) {d : Nat}
    (hd0 : d ≠ 0) (hd : d < m.n) (x : Nat) :
    x ∈ orb3 m pol d ↔ SameCell (g3 m pol) m.n d x :=
  mem_orbG_iff_sameCell (g3_ok h pol hs.ok) (C03_images3_inverse_closed h hs) hd0 hd x

/-- the orbit of an in-use dart contains no removed dart -/
theorem C03_orbit3_of_in_use_is_in_use {m : Map X} (h : WF 4 m) {pol : Policy} (hp : Pol3OK pol) {d : Nat}
    (hd0 : d ≠ 0) (hd : d < m.n) (hu : m.unused d = false) :
    ∀ x, x ∈ orb3 m pol d → m.unused x = false :=
  orbG_in_use (g3_ok h pol hp) (fun _ hb _ hx hx0 => g3_image_inUse h hp hb hx hx0) hd0 hd hu

/-! ## identifiers: vertex, edge, volume (every well-formed 3-map) -/

/-- `cellId3` is the minimum of the orbit -/
theorem cellId3_spec {m : Map X} (h : WF 4 m) {pol : Policy} (hp : Pol3OK pol) {d : Nat}
    (hd0 : d ≠ 0) (hd : d < m.n) :
    cellId3 m pol d ∈ orb3 m pol d ∧ ∀ x, x ∈ orb3 m pol d → cellId3 m pol d ≤ x :=
  cidG_spec (g3_ok h pol hp) hd0 hd

/-- a generator made of reads only returns what it returns without touching the map, and panics on a
    dart that does not exist (so a successful run was on an existing dart) -/
theorem gen_ok_of_total {m : Map X} {gen : Nat → P X (List Nat)} {g : Nat → List Nat}
    (htot : ∀ x, x < m.n → run (gen x) m = (.ok (g x), m))
    (hoob : ∀ x, m.n ≤ x → (run (gen x) m).1 = .panic) :
    ∀ x ims m', run (gen x) m = (.ok ims, m') → m' = m ∧ ims = g x := by
  intro x ims m' hr
  by_cases hx : x < m.n
  · rw [htot x hx] at hr
    simp only [Prod.mk.injEq, Out.ok.injEq] at hr
    exact ⟨hr.2.symm, hr.1.symm⟩
  · have := hoob x (by omega)
    rw [hr] at this; simp at this

theorem okb4_false {m : Map X} (h : WF 4 m) {i x : Nat} (hx : m.n ≤ x) : m.okβ i x = false := by
  cases hk : m.okβ i x with
  | false => rfl
  | true => have := ((h.toSized.okβ i x).1 hk).2; omega

/-- the vertex cell of Lemmas/Cell3.lean (`g3v`, the push order of `vertex_id_transac`) and the vertex
    orbit (`g3 m .vertex`, the order of `orbit_transac`) have the same minimum -/
theorem cid_g3v_eq {m : Map X} (h : WF 4 m) {d : Nat} (hd0 : d ≠ 0) (hd : d < m.n) :
    cidG (Cell3.g3v m) m.n d = cellId3 m .vertex d := by
  have H1 : GenOK (Cell3.g3v m) m.n := ⟨Cell3.g3v_null h, Cell3.g3v_range h⟩
  have H2 := g3_ok h .vertex trivial
  refine min_unique (cidG_spec H1 hd0 hd) (cidG_spec H2 hd0 hd) ?_
  intro x
  rw [mem_orbG H1 hd0 hd, mem_orbG H2 hd0 hd]
  constructor
  · rintro ⟨a, b⟩; exact ⟨a, b.mono fun x y hy => (g3_vertex_mem m x y).2 hy⟩
  · rintro ⟨a, b⟩; exact ⟨a, b.mono fun x y hy => (g3_vertex_mem m x y).1 hy⟩

/-- **C03 (3-D), vertex id**: on every well-formed 3-map `vertex_id_transac` terminates within its
    fuel, leaves the map alone and returns the smallest dart of the vertex cell (= of the Vertex orbit) -/
theorem C03_vertexId3_min {m : Map X} (h : WF 4 m) {d : Nat} (hd0 : d ≠ 0) (hd : d < m.n) :
    run (vertexId3 (X := X) m.n d) m = (.ok (cellId3 m .vertex d), m) ∧
    cellId3 m .vertex d ∈ orb3 m .vertex d ∧ ∀ x, x ∈ orb3 m .vertex d → cellId3 m .vertex d ≤ x := by
  refine ⟨?_, cellId3_spec h (pol := .vertex) trivial hd0 hd⟩
  have H1 : GenOK (Cell3.g3v m) m.n := ⟨Cell3.g3v_null h, Cell3.g3v_range h⟩
  have r : ∀ i, i < 4 → ∀ y, y < m.n → m.β i y < m.n := fun i hi y hy => h.range i hi y hy
  have htot : ∀ x, x < m.n → run (genVid3 (X := X) x) m = (.ok (Cell3.g3v m x), m) := by
    intro x hx
    simp only [genVid3, Cell3.g3v, Prog.bind_eq, Prog.pure_eq, h.run_rB, run_ret, hx, r, Nat.reduceLT]
  have := run_popLoop_min (gen := genVid3 (X := X)) H1 htot (fun x ims m' hr => Cell3.run_genVid3 hr)
    (fun x => by simp [Cell3.g3v]) hd0 hd
  unfold vertexId3
  rw [this, cid_g3v_eq h hd0 hd]

theorem run_popLoop_gen3 {m : Map X} (h : WF 4 m) {pol : Policy} (hs : Sym3 pol)
    (hoob : ∀ x, m.n ≤ x → (run (gen3 (X := X) pol x) m).1 = .panic) {d : Nat} (hd0 : d ≠ 0) (hd : d < m.n) :
    run (popLoop (gen3 (X := X) pol) (8 * m.n + 8) [d] [0] d) m = (.ok (cellId3 m pol d), m) :=
  run_popLoop_min (g3_ok h pol hs.ok) (fun _ hx => run_gen3 h hs.ok hx)
    (gen_ok_of_total (fun _ hx => run_gen3 h hs.ok hx) hoob) (g3_len hs) hd0 hd

/-- **C03 (3-D), edge id**: `edge_id_transac` (traversal over `β2, β3`) returns the smallest dart of
    the edge cell, on every well-formed 3-map -/
theorem C03_edgeId3_min {m : Map X} (h : WF 4 m) {d : Nat} (hd0 : d ≠ 0) (hd : d < m.n) :
    run (edgeId3 (X := X) m.n d) m = (.ok (cellId3 m .edge d), m) ∧
    cellId3 m .edge d ∈ orb3 m .edge d ∧ ∀ x, x ∈ orb3 m .edge d → cellId3 m .edge d ≤ x := by
  refine ⟨run_popLoop_gen3 h (pol := .edge) trivial ?_ hd0 hd, cellId3_spec h (pol := .edge) trivial hd0 hd⟩
  intro x hx
  simp only [gen3, Prog.bind_eq, run_rB, okb4_false h hx, Bool.false_eq_true, if_false]

/-- **C03 (3-D), volume id**: `volume_id_transac` (traversal over `β1, β0, β2`) returns the smallest
    dart of the volume cell, on every well-formed 3-map (open faces included) -/
theorem C03_volumeId3_min {m : Map X} (h : WF 4 m) {d : Nat} (hd0 : d ≠ 0) (hd : d < m.n) :
    run (volumeId3 (X := X) m.n d) m = (.ok (cellId3 m .volume d), m) ∧
    cellId3 m .volume d ∈ orb3 m .volume d ∧ ∀ x, x ∈ orb3 m .volume d → cellId3 m .volume d ≤ x := by
  refine ⟨run_popLoop_gen3 h (pol := .volume) trivial ?_ hd0 hd, cellId3_spec h (pol := .volume) trivial hd0 hd⟩
  intro x hx
  simp only [gen3, Prog.bind_eq, run_rB, okb4_false h hx, Bool.false_eq_true, if_false]

/-- **C03 (3-D), equal ids ⇔ same cell** (Vertex, Edge, Face, Volume; every well-formed 3-map): two
    non-null existing darts have the same cell minimum exactly when one is reachable from the other,
    i.e. when they lie in the same cell.  (The minimum is what `vertex_id` / `edge_id` / `volume_id`
    return — `C03_*Id3_min` — and what `face_id` returns in the scope of `C03_faceId3_min`.) -/
theorem C03_same_id3_iff_same_cell {m : Map X} (h : WF 4 m) {pol : Policy} (hs : Sym3 pol) {d e : Nat}
    (hd0 : d ≠ 0) (hd : d < m.n) (he0 : e ≠ 0) (he : e < m.n) :
    (cellId3 m pol d = cellId3 m pol e ↔ Reach (g3 m pol) d e) ∧
    (cellId3 m pol d = cellId3 m pol e ↔ SameCell (g3 m pol) m.n d e) :=
  cidG_eq_iff (g3_ok h pol hs.ok) (C03_images3_inverse_closed h hs) hd0 hd he0 he

/-! ## iterators: vertices, edges, volumes (every well-formed 3-map) -/

theorem mem_iterCells3 {m : Map X} (h : WF 4 m) {pol : Policy} (hs : Sym3 pol) {idf : Nat → P X Nat}
    (hid : ∀ d, d ≠ 0 → d < m.n → m.unused d = false → run (idf d) m = (.ok (cellId3 m pol d), m))
    (x : Nat) :
    x ∈ iterCells m idf ↔ ∃ d, d ≠ 0 ∧ d < m.n ∧ m.unused d = false ∧ cellId3 m pol d = x :=
  mem_iterCells_gen (g3_ok h pol hs.ok) (C03_images3_inverse_closed h hs) hid
    (fun _ hd0 hd hu => C03_orbit3_of_in_use_is_in_use h hs.ok hd0 hd hu) x

/-- **C03 (3-D), iterators are strictly increasing** (hence duplicate-free) -/
theorem C03_iter3_sorted (m : Map X) :
    (iterVertices3 m).Pairwise (fun a b => a < b) ∧ (iterEdges3 m).Pairwise (fun a b => a < b) ∧
    (iterFaces3 m).Pairwise (fun a b => a < b) ∧ (iterVolumes3 m).Pairwise (fun a b => a < b) :=
  ⟨iterCells_sorted _ _, iterCells_sorted _ _, iterCells_sorted _ _, iterCells_sorted _ _⟩

/-- **C03 (3-D), `iter_vertices`** yields exactly the vertex identifiers of the in-use darts -/
theorem C03_iterVertices3_mem {m : Map X} (h : WF 4 m) (x : Nat) :
    x ∈ iterVertices3 m ↔ ∃ d, d ≠ 0 ∧ d < m.n ∧ m.unused d = false ∧ cellId3 m .vertex d = x :=
  mem_iterCells3 h (pol := .vertex) trivial (fun _ hd0 hd _ => (C03_vertexId3_min h hd0 hd).1) x

/-- **C03 (3-D), `iter_edges`** yields exactly the edge identifiers of the in-use darts -/
theorem C03_iterEdges3_mem {m : Map X} (h : WF 4 m) (x : Nat) :
    x ∈ iterEdges3 m ↔ ∃ d, d ≠ 0 ∧ d < m.n ∧ m.unused d = false ∧ cellId3 m .edge d = x :=
  mem_iterCells3 h (pol := .edge) trivial (fun _ hd0 hd _ => (C03_edgeId3_min h hd0 hd).1) x

/-- **C03 (3-D), `iter_volumes`** yields exactly the volume identifiers of the in-use darts -/
theorem C03_iterVolumes3_mem {m : Map X} (h : WF 4 m) (x : Nat) :
    x ∈ iterVolumes3 m ↔ ∃ d, d ≠ 0 ∧ d < m.n ∧ m.unused d = false ∧ cellId3 m .volume d = x :=
  mem_iterCells3 h (pol := .volume) trivial (fun _ hd0 hd _ => (C03_volumeId3_min h hd0 hd).1) x

/-! ## one-directional policies on closed cells -/

/-- the full policy of a one-directional one -/
def fullOf : Policy → Policy
  | .vertexLinear => .vertex
  | .faceLinear => .face
  | .volumeLinear => .volume
  | p => p

/-- the one-directional generators of a linear policy (those whose inverse the policy leaves out;
    `β2` and `β3` alone are their own inverses) -/
def oneWay (m : Map X) : Policy → List (Nat → Nat)
  | .vertexLinear => [fun x => m.β 3 (m.β 2 x), fun x => m.β 1 (m.β 3 x), fun x => m.β 1 (m.β 2 x)]
  | .faceLinear => [m.β 1]
  | .volumeLinear => [m.β 1]
  | _ => []

/-- the cell is closed for the linear policy: each one-directional generator is defined on every
    dart of the (full) cell, or on none -/
def LinClosed (m : Map X) (pol : Policy) (d : Nat) : Prop :=
  ∀ f, f ∈ oneWay m pol →
    (∀ x, x ∈ orb3 m (fullOf pol) d → f x ≠ 0) ∨ (∀ x, x ∈ orb3 m (fullOf pol) d → f x = 0)

instance (m : Map X) (pol : Policy) (d : Nat) : Decidable (LinClosed m pol d) := by
  unfold LinClosed; exact inferInstance

def Lin3 : Policy → Prop
  | .vertexLinear => True
  | .faceLinear => True
  | .volumeLinear => True
  | _ => False

/-- **C03 (3-D), linear policies on closed cells**: for VertexLinear, FaceLinear and VolumeLinear, if
    every one-directional generator (`β3∘β2, β1∘β3, β1∘β2` resp. `β1`) is defined on all darts of the
    cell or on none (e.g. `β1` on a closed face; `β1∘β3` on a vertex without any 3-link), the orbit has
    the same darts as the orbit of the full policy — the cell -/
theorem C03_linear3_closed {m : Map X} (h : WF 4 m) {pol : Policy} (hl : Lin3 pol) {d : Nat}
    (hd0 : d ≠ 0) (hd : d < m.n) (hcl : LinClosed m pol d) (x : Nat) :
    x ∈ orb3 m pol d ↔ x ∈ orb3 m (fullOf pol) d := by
  cases pol with
  | vertex => exact hl.elim
  | edge => exact hl.elim
  | face => exact hl.elim
  | volume => exact hl.elim
  | custom bs => exact hl.elim
  | faceLinear =>
      exact orbG_linear_cons (f := m.β 1) (f' := m.β 0) (rest := fun y => [m.β 3 y]) (fun _ => rfl)
        (fun _ => rfl) (g3_ok h .face trivial) h.inv01 h.inv10 hd0 hd (hcl (m.β 1) List.mem_cons_self) x
  | volumeLinear =>
      exact orbG_linear_cons (f := m.β 1) (f' := m.β 0) (rest := fun y => [m.β 2 y]) (fun _ => rfl)
        (fun _ => rfl) (g3_ok h .volume trivial) h.inv01 h.inv10 hd0 hd (hcl (m.β 1) List.mem_cons_self) x
  | vertexLinear =>
      -- the three one-directional images `β3∘β2, β1∘β3, β1∘β2`, each with the image it inverts
      have back : ∀ i j, i < 4 → j < 4 → ∀ a, a < m.n → m.β i (m.β j a) ≠ 0 →
          m.β (invIdx j) (m.β (invIdx i) (m.β i (m.β j a))) = a :=
        fun i j hi hj a ha hne => (h.toWFβ.back2 hi hj ha hne rfl).symm
      refine orbG_linear (gl := g3 m .vertexLinear) (gf := g3 m .vertex)
        (P := [(fun x => m.β 3 (m.β 2 x), fun x => m.β 2 (m.β 3 x)),
               (fun x => m.β 1 (m.β 3 x), fun x => m.β 3 (m.β 0 x)),
               (fun x => m.β 1 (m.β 2 x), fun x => m.β 2 (m.β 0 x))])
        (g3_ok h .vertex trivial) ?_ ?_ hd0 hd ?_ x
      · intro a b hb
        simp only [g3, List.mem_cons, List.not_mem_nil, or_false] at hb ⊢
        rcases hb with hb | hb | hb
        · exact Or.inl hb
        · exact Or.inr (Or.inl hb)
        · exact Or.inr (Or.inr (Or.inl hb))
      · intro a b hb
        simp only [g3, List.mem_cons, List.not_mem_nil, or_false] at hb ⊢
        rcases hb with hb | hb | hb | hb | hb | hb
        · exact Or.inl (Or.inl hb)
        · exact Or.inl (Or.inr (Or.inl hb))
        · exact Or.inl (Or.inr (Or.inr hb))
        · exact Or.inr ⟨_, _, Or.inr (Or.inl rfl), hb⟩
        · exact Or.inr ⟨_, _, Or.inr (Or.inr rfl), hb⟩
        · exact Or.inr ⟨_, _, Or.inl rfl, hb⟩
      · intro f f' hp
        simp only [g3, List.mem_cons, List.not_mem_nil, or_false, Prod.mk.injEq] at hp ⊢
        rcases hp with ⟨rfl, rfl⟩ | ⟨rfl, rfl⟩ | ⟨rfl, rfl⟩
        · exact ⟨fun _ => Or.inl rfl, back 3 2 (by omega) (by omega), back 2 3 (by omega) (by omega),
            hcl _ List.mem_cons_self⟩
        · exact ⟨fun _ => Or.inr (Or.inl rfl), back 1 3 (by omega) (by omega), back 3 0 (by omega) (by omega),
            hcl _ (List.mem_cons_of_mem _ List.mem_cons_self)⟩
        · exact ⟨fun _ => Or.inr (Or.inr rfl), back 1 2 (by omega) (by omega), back 2 0 (by omega) (by omega),
            hcl _ (List.mem_cons_of_mem _ (List.mem_cons_of_mem _ List.mem_cons_self))⟩

/-! ## transactional variants = plain variants

  As in 2-D: `vertex_id(d)` is `atomically(|t| self.vertex_id_transac(t, d))` (same for the other
  identifiers) and `orbit` re-implements `orbit_transac` on committed values; in the model both are
  the same `P X` program.  The programs are read-only, so running them as their own transaction
  (sequentially or through the transaction log, T1) gives what the closure gives inside a transaction
  and publishes nothing.  (That the Rust `orbit` iterator computes what `orbit_transac` computes is a
  fact about the code, checked by the correspondence run.) -/

theorem readOnly_orbit3 (n : Nat) (pol : Policy) (d : Nat) : ReadOnly (orbit3 (X := X) n pol d) :=
  readOnly_bfs _ (readOnly_gen3 pol) _ _ _ _

theorem readOnly_faceWalk3 (i j : Nat) : ∀ fuel lb rb marked mn,
    ReadOnly (faceWalk3 (X := X) i j fuel lb rb marked mn) := by
  intro fuel
  induction fuel with
  | zero => intro lb rb mk mn; unfold faceWalk3; exact ReadOnly.panic
  | succ f ih =>
      intro lb rb mk mn
      unfold faceWalk3
      simp only []
      refine ReadOnly.ite ?_ (ReadOnly.ite ?_ (ReadOnly.pure _))
      · exact ReadOnly.bind (ReadOnly.rB _ _) fun _ => ReadOnly.bind (ReadOnly.rB _ _) fun _ => ih _ _ _ _
      · exact ReadOnly.bind (ReadOnly.rB _ _) fun _ => ReadOnly.bind (ReadOnly.rB _ _) fun _ => ih _ _ _ _

theorem readOnly_faceId3 (n d : Nat) : ReadOnly (faceId3 (X := X) n d) := by
  unfold faceId3
  refine ReadOnly.bind (ReadOnly.rB _ _) fun b3 => ?_
  refine ReadOnly.bind (readOnly_faceWalk3 _ _ _ _ _ _ _) fun r => ?_
  obtain ⟨lb, rb, mk, mn⟩ := r
  refine ReadOnly.ite ?_ (ReadOnly.pure _)
  refine ReadOnly.bind (ReadOnly.rB _ _) fun _ => ReadOnly.bind (ReadOnly.rB _ _) fun _ => ?_
  refine ReadOnly.bind (readOnly_faceWalk3 _ _ _ _ _ _ _) fun r2 => ?_
  obtain ⟨_, _, _, mn'⟩ := r2
  exact ReadOnly.pure _

/-- **C03 (3-D), transactional = plain** (model-level content, see the comment above) -/
theorem C03_transactional3_eq_plain (m : Map X) (pol : Policy) (d : Nat) :
    (atomically (orbit3 (X := X) m.n pol d) m = run (orbit3 (X := X) m.n pol d) m ∧
     atomicallyLog (orbit3 (X := X) m.n pol d) m = run (orbit3 (X := X) m.n pol d) m) ∧
    (atomically (vertexId3 (X := X) m.n d) m = run (vertexId3 (X := X) m.n d) m ∧
     atomicallyLog (vertexId3 (X := X) m.n d) m = run (vertexId3 (X := X) m.n d) m) ∧
    (atomically (edgeId3 (X := X) m.n d) m = run (edgeId3 (X := X) m.n d) m ∧
     atomicallyLog (edgeId3 (X := X) m.n d) m = run (edgeId3 (X := X) m.n d) m) ∧
    (atomically (faceId3 (X := X) m.n d) m = run (faceId3 (X := X) m.n d) m ∧
     atomicallyLog (faceId3 (X := X) m.n d) m = run (faceId3 (X := X) m.n d) m) ∧
    (atomically (volumeId3 (X := X) m.n d) m = run (volumeId3 (X := X) m.n d) m ∧
     atomicallyLog (volumeId3 (X := X) m.n d) m = run (volumeId3 (X := X) m.n d) m) :=
  ⟨plain_eq (readOnly_orbit3 _ _ _) m, plain_eq (readOnly_vertexId3 _ _) m,
   plain_eq (readOnly_edgeId3 _ _) m, plain_eq (readOnly_faceId3 _ _) m,
   plain_eq (readOnly_volumeId3 _ _) m⟩

/-- … in particular on well-formed 3-maps the plain identifiers are the cell minima, too -/
theorem C03_plain_ids3 {m : Map X} (h : WF 4 m) {d : Nat} (hd0 : d ≠ 0) (hd : d < m.n) :
    atomicallyLog (vertexId3 (X := X) m.n d) m = (.ok (cellId3 m .vertex d), m) ∧
    atomicallyLog (edgeId3 (X := X) m.n d) m = (.ok (cellId3 m .edge d), m) ∧
    atomicallyLog (volumeId3 (X := X) m.n d) m = (.ok (cellId3 m .volume d), m) := by
  obtain ⟨_, ⟨_, hv⟩, ⟨_, he⟩, _, ⟨_, hvol⟩⟩ := C03_transactional3_eq_plain m .vertex d
  rw [hv, he, hvol]
  exact ⟨(C03_vertexId3_min h hd0 hd).1, (C03_edgeId3_min h hd0 hd).1, (C03_volumeId3_min h hd0 hd).1⟩

/-! ## face identifier: the two-sided lock-step walk

  Scope, as two decidable conditions on the map (`FaceScope`):
  * `mirror` — `Mirror m` of Model/WF.lean: across a 3-link, `β1` on one side is `β0` on the other;
  * `sided`  — a face is 3-linked as a whole: along `β1`, a dart is 3-free iff its successor is.
  The property claims the face clauses on maps whose glued faces are CLOSED and mirrored; closedness is not
  needed (the backward replay of /repo 3b31916), `sided` is: on an open mirrored face both
  sides of the forward walk end together (`mirror_fwd`), the replay starts from `β0 d` and `β1 (β3 d)`,
  which are β3-images of each other (`mirror_bwd`), and covers the rest.  Faces that are NOT 3-linked are
  unrestricted, open or closed (`faceId3_free`).
  `mirror` and `sided` cannot be dropped; smallest counterexamples on the real code (4 darts):
  * not `sided`:  chains `3→1`, `4→2`, 3-link `3—4` only: `face_id(2) = 2`, the cell is `{1,2,3,4}`;
  * not `mirror`: 1-gons `1→1`, `2→2`, 2-gon `3→4→3`, 3-links `1—3`, `2—4`: `face_id(2) = 2`, cell `{1,2,3,4}`. -/

/-- the scope of the face-identifier clauses -/
structure FaceScope (m : Map X) : Prop where
  mirror : Mirror m
  sided : ∀ d, d < m.n → m.β 1 d ≠ 0 → (m.β 3 d = 0 ↔ m.β 3 (m.β 1 d) = 0)

instance (m : Map X) : Decidable (FaceScope m) :=
  decidable_of_iff (Mirror m ∧ (∀ d, d < m.n → m.β 1 d ≠ 0 → (m.β 3 d = 0 ↔ m.β 3 (m.β 1 d) = 0)))
    ⟨fun ⟨a, b⟩ => ⟨a, b⟩, fun ⟨a, b⟩ => ⟨a, b⟩⟩

/-- the hypotheses of Props/C20b.lean (all faces closed, mirrored, 3-linked as a whole) are a special case -/
theorem FaceScope.of_closedFaces {m : Map X} (hM : Mirror m) (hs : C20.Sided m) : FaceScope m := ⟨hM, hs⟩

theorem face_b1 (m : Map X) (y : Nat) : m.β 1 y ∈ g3 m .face y := by simp [g3]
theorem face_b0 (m : Map X) (y : Nat) : m.β 0 y ∈ g3 m .face y := by simp [g3]
theorem face_b3 (m : Map X) (y : Nat) : m.β 3 y ∈ g3 m .face y := by simp [g3]

/-- a 3-free dart: the forward walk, then the backward replay, cover the whole (3-free) face -/
theorem faceId3_free {m : Map X} (h : WF 4 m) (hS : FaceScope m) {d : Nat} (hd0 : d ≠ 0) (hd : d < m.n)
    (h3 : m.β 3 d = 0) :
    ∃ v, run (faceId3 (X := X) m.n d) m = (.ok v, m) ∧ (v ≠ 0 ∧ Reach (g3 m .face) d v) ∧
      ∀ x, x ≠ 0 → Reach (g3 m .face) d x → v ≤ x := by
  have r1 : ∀ x, x < m.n → m.β 1 x < m.n := h.range 1 (by omega)
  have r0 : ∀ x, x < m.n → m.β 0 x < m.n := h.range 0 (by omega)
  have r3 : ∀ x, x < m.n → m.β 3 x < m.n := h.range 3 (by omega)
  have z1 : m.β 1 0 = 0 := h.null 1 (by omega)
  have z0 : m.β 0 0 = 0 := h.null 0 (by omega)
  have hQ1 : ∀ x, x < m.n → m.β 3 x = 0 → m.β 1 x ≠ 0 → m.β 3 (m.β 1 x) = 0 :=
    fun x hx q hne => (hS.sided x hx hne).1 q
  have hQ0 : ∀ x, x < m.n → m.β 3 x = 0 → m.β 0 x ≠ 0 → m.β 3 (m.β 0 x) = 0 := by
    intro x hx q hne
    have e := h.inv10 x hx hne
    have hx0 : x ≠ 0 := fun k => hne (by rw [k]; exact z0)
    exact (hS.sided (m.β 0 x) (r0 x hx) (by rw [e]; exact hx0)).2 (by rw [e]; exact q)
  obtain ⟨⟨lbF, rbF, mkF, mnF⟩, hr1⟩ := Face3.fw_terminates r1 r0 (m.n + 1) d (m.β 3 d) [0]
    (if m.β 3 d = 0 then d else min d (m.β 3 d)) hd (r3 d hd)
    (by have := Face3.phi_le (n := m.n) (marked := [0]) h.npos (by simp); omega)
  have hr1' := hr1
  rw [if_pos h3, h3] at hr1'
  have I0 : Face3.OneInv (m.β 1) (m.β 0) (fun x => m.β 3 x = 0) m.n d d d [0] d :=
    ⟨by simp, fun x hx hx0 => absurd (by simpa using hx) hx0,
      fun x hx hx0 => absurd (by simpa using hx) hx0, Or.inl rfl,
      fun x hx hx0 => absurd (by simpa using hx) hx0, ⟨hd, fun _ => ⟨Nat.le_refl _, h3⟩⟩, Or.inr rfl⟩
  obtain ⟨IF, hlbF, hrbF⟩ := Face3.fw_oneSided (f0 := m.β 0) z0 r1 (fun x hx hne => h.inv01 x hx hne)
    hQ1 I0 hr1'
  have hdF : d ∈ mkF := by
    rcases IF.wm with k | k
    · exact k
    · rw [← k]; exact hlbF
  have e13 : m.β 1 (m.β 3 d) = 0 := by rw [h3, z1]
  obtain ⟨⟨a, b, c, mn2⟩, hr2⟩ := Face3.fw_terminates (f1 := m.β 0) (f0 := m.β 1) r0 r1 (m.n + 1)
    (m.β 0 d) (m.β 1 (m.β 3 d)) mkF (Face3.upd mnF (m.β 0 d) (m.β 1 (m.β 3 d))) (r0 d hd)
    (r1 _ (r3 d hd))
    (by have := Face3.phi_le (n := m.n) (marked := mkF) h.npos IF.m0; omega)
  have hr2' := hr2
  rw [e13] at hr2'
  have hu := Face3.upd_le mnF (m.β 0 d) 0
  have IB0 : Face3.OneInv (m.β 0) (m.β 1) (fun x => m.β 3 x = 0) m.n 0 0 (m.β 0 d) mkF
      (Face3.upd mnF (m.β 0 d) 0) := by
    refine ⟨IF.m0, ?_, ?_, ?_, ?_, ⟨r0 d hd, ?_⟩, Or.inl IF.m0⟩
    · intro x hx hx0
      rcases IF.bwd x hx hx0 with k | k
      · exact Or.inr (by rw [k])
      · exact Or.inl k
    · intro x hx hx0
      right
      rcases IF.fwd x hx hx0 with k | k
      · exact k
      · rw [k]; exact hlbF
    · by_cases e : m.β 0 d = 0
      · exact Or.inl e
      · right; right; rw [h.inv10 d hd e]; exact hdF
    · intro x hx hx0
      obtain ⟨p, q, r⟩ := IF.mkd x hx hx0
      exact ⟨Nat.le_trans hu.1 p, q, r⟩
    · intro e; exact ⟨hu.2.1 e, hQ0 d hd h3 e⟩
  obtain ⟨IB, haB, hbB⟩ := Face3.fw_oneSided (f0 := m.β 1) z1 r0 (fun x hx hne => h.inv10 x hx hne)
    hQ0 IB0 hr2'
  have hrun := ((C20.run_faceId3 h hd hr1).2 (Or.inr hrbF)) a b c mn2 hr2
  -- the marked set is closed under β1, β0, β3 and contains `d`
  have hdc : d ∈ c := (Face3.fw_facts _ _ _ _ _ _ _ _ _ hr2').2.2.1 d hdF
  have hall : ∀ x, Reach (g3 m .face) d x → x ≠ 0 → x ∈ c := by
    intro x hx
    induction hx with
    | refl => intro _; exact hdc
    | tail hab hc ih =>
        rename_i b' c'
        intro hc0
        have hb0 : b' ≠ 0 := Reach.pred_ne_zero (g3_ok h .face trivial).null hc hc0
        have hbc := ih hb0
        simp only [g3, List.mem_cons, List.not_mem_nil, or_false] at hc
        rcases hc with e | e | e
        · rw [e]
          rcases IB.bwd b' hbc hb0 with k | k
          · exact absurd k hb0
          · exact k
        · rw [e]
          rcases IB.fwd b' hbc hb0 with k | k
          · exact k
          · rw [k]; exact haB
        · exfalso; exact hc0 (by rw [e]; exact (IB.mkd b' hbc hb0).2.1)
  refine ⟨mn2, hrun, ?_, fun x hx0 hx => (IB.mkd x (hall x hx hx0) hx0).1⟩
  -- the result is a dart of the face
  have memF : mnF ≠ 0 ∧ Reach (g3 m .face) d mnF := by
    rcases (Face3.fw_facts _ _ _ _ _ _ _ _ _ hr1').2.1 with e | ⟨e0, ⟨s, e⟩ | ⟨s, e⟩⟩
    · rw [e]; exact ⟨hd0, .refl _⟩
    · exact ⟨e0, by rw [e]; exact reach_iter (face_b1 m) d s⟩
    · rw [C20.iterate_fix0 z0] at e; exact absurd e e0
  have memU : Face3.upd mnF (m.β 0 d) 0 ≠ 0 ∧ Reach (g3 m .face) d (Face3.upd mnF (m.β 0 d) 0) := by
    rcases Face3.upd_mem mnF (m.β 0 d) 0 with e | ⟨e0, e⟩ | ⟨e0, _⟩
    · rw [e]; exact memF
    · rw [e]; exact ⟨e0, Reach.single (face_b0 m d)⟩
    · exact absurd rfl e0
  rcases (Face3.fw_facts _ _ _ _ _ _ _ _ _ hr2').2.1 with e | ⟨e0, ⟨s, e⟩ | ⟨s, e⟩⟩
  · rw [e]; exact memU
  · exact ⟨e0, by rw [e]; exact (Reach.single (face_b0 m d)).trans (reach_iter (face_b0 m) _ s)⟩
  · rw [C20.iterate_fix0 z1] at e; exact absurd e e0

theorem fw_mem {g : Nat → List Nat} {f1 f0 : Nat → Nat} (hg0 : ∀ y, y ∈ g 0 → y = 0)
    (hf1 : ∀ y, f1 y ∈ g y) (hf0 : ∀ y, f0 y ∈ g y) {d fuel lb rb : Nat} {marked : List Nat}
    {mn lbF rbF : Nat} {mkF : List Nat} {mnF : Nat}
    (hlb : lb ≠ 0 → Reach g d lb) (hrb : rb ≠ 0 → Reach g d rb)
    (h : Face3.fw f1 f0 fuel lb rb marked mn = some (lbF, rbF, mkF, mnF))
    (hmn : mn ≠ 0 ∧ Reach g d mn) : mnF ≠ 0 ∧ Reach g d mnF := by
  rcases (Face3.fw_facts _ _ _ _ _ _ _ _ _ h).2.1 with e | ⟨e0, ⟨s, e⟩ | ⟨s, e⟩⟩
  · rw [e]; exact hmn
  · refine ⟨e0, ?_⟩
    have hl0 : lb ≠ 0 := by
      intro k; rw [k, C20.iterate_fix0 (hg0 _ (hf1 0))] at e; exact e0 e
    rw [e]; exact (hlb hl0).trans (reach_iter hf1 lb s)
  · refine ⟨e0, ?_⟩
    have hr0 : rb ≠ 0 := by
      intro k; rw [k, C20.iterate_fix0 (hg0 _ (hf0 0))] at e; exact e0 e
    rw [e]; exact (hrb hr0).trans (reach_iter hf0 rb s)

/-- across a 3-link of a face in scope, `β0` on the other side follows `β1` on this side — also at the
    open end of a face: both sides end together -/
theorem mirror_fwd {m : Map X} (h : WF 4 m) (hS : FaceScope m) {x : Nat} (hx : x < m.n)
    (h3 : m.β 3 x ≠ 0) :
    m.β 0 (m.β 3 x) = m.β 3 (m.β 1 x) ∧ (m.β 1 x ≠ 0 → m.β 3 (m.β 1 x) ≠ 0) :=
  Cell3.mirror_step h hS.mirror hS.sided hx h3

/-- … and `β1` on the other side follows `β0` on this side: `mirror_fwd` read from the other side -/
theorem mirror_bwd {m : Map X} (h : WF 4 m) (hS : FaceScope m) {x : Nat} (hx : x < m.n)
    (h3 : m.β 3 x ≠ 0) :
    m.β 1 (m.β 3 x) = m.β 3 (m.β 0 x) ∧ (m.β 0 x ≠ 0 → m.β 3 (m.β 0 x) ≠ 0) := by
  have z3 : m.β 3 0 = 0 := h.null 3 (by omega)
  have hx0 : x ≠ 0 := fun e => h3 (by rw [e]; exact z3)
  have hen : m.β 3 x < m.n := h.range 3 (by omega) x hx
  have hinv : m.β 3 (m.β 3 x) = x := (h.invol 3 (by omega) (by omega) x hx h3).1
  obtain ⟨e, e2⟩ := mirror_fwd h hS hen (by rw [hinv]; exact hx0)
  rw [hinv] at e
  by_cases k : m.β 1 (m.β 3 x) = 0
  · exact ⟨by rw [e, k, z3, z3], fun k0 => absurd (by rw [e, k, z3]) k0⟩
  · have inv2 := (h.invol 3 (by omega) (by omega) _ (h.range 1 (by omega) _ hen) (e2 k)).1
    exact ⟨by rw [e, inv2], fun _ => by rw [e, inv2]; exact k⟩

/-- invariant of phase 1 of the forward two-sided walk on a 3-linked face -/
structure TInv (m : Map X) (d lb rb : Nat) (marked : List Nat) (mn : Nat) : Prop where
  m0 : 0 ∈ marked
  nd : marked.Nodup
  el : ∀ x, x ∈ marked → x ≠ 0 →
    ((m.β 1 x ∈ marked ∧ m.β 1 x ≠ 0) ∨ m.β 1 x = lb) ∧ (x = d ∨ (m.β 0 x ∈ marked ∧ m.β 0 x ≠ 0)) ∧
    x < m.n ∧ m.β 3 x ≠ 0 ∧ mn ≤ x ∧ mn ≤ m.β 3 x
  lbn : lb < m.n
  rbe : rb = m.β 3 lb
  lbp : lb ≠ 0 → m.β 3 lb ≠ 0 ∧ mn ≤ lb ∧ mn ≤ rb ∧ (lb = d ∨ (m.β 0 lb ∈ marked ∧ m.β 0 lb ≠ 0))
  dm : d ∈ marked ∨ lb = d

theorem TInv.step {m : Map X} (h : WF 4 m) (hS : FaceScope m) {d lb rb : Nat} {marked : List Nat}
    {mn : Nat} (I : TInv m d lb rb marked mn) (hnew : marked.contains lb = false) :
    TInv m d (m.β 1 lb) (m.β 0 rb) (marked ++ [lb]) (Face3.upd mn (m.β 1 lb) (m.β 0 rb)) := by
  have hlb : lb ∉ marked := by simpa using hnew
  have hlb0 : lb ≠ 0 := fun e => hlb (e ▸ I.m0)
  obtain ⟨hlb3, hmlb, hmrb, hpred⟩ := I.lbp hlb0
  obtain ⟨hmir, hmir2⟩ := mirror_fwd h hS I.lbn hlb3
  have hrb' : m.β 0 rb = m.β 3 (m.β 1 lb) := by rw [I.rbe]; exact hmir
  have hu := Face3.upd_le mn (m.β 1 lb) (m.β 0 rb)
  have hself : lb ∈ marked ++ [lb] := List.mem_append_right _ (List.mem_singleton.2 rfl)
  refine ⟨List.mem_append_left _ I.m0, ?_, ?_, h.range 1 (by omega) lb I.lbn, hrb', ?_, ?_⟩
  · exact List.nodup_append.2 ⟨I.nd, List.pairwise_singleton _ _, fun a ha b hb e => hlb (by
      rw [List.mem_singleton.1 hb] at e; rw [← e]; exact ha)⟩
  · intro x hx hx0
    rcases List.mem_append.1 hx with hx | hx
    · obtain ⟨a, b, c, e, f, g⟩ := I.el x hx hx0
      refine ⟨?_, ?_, c, e, Nat.le_trans hu.1 f, Nat.le_trans hu.1 g⟩
      · rcases a with ⟨k, k0⟩ | k
        · exact Or.inl ⟨List.mem_append_left _ k, k0⟩
        · exact Or.inl ⟨by rw [k]; exact hself, by rw [k]; exact hlb0⟩
      · rcases b with k | ⟨k, k0⟩
        · exact Or.inl k
        · exact Or.inr ⟨List.mem_append_left _ k, k0⟩
    · rw [List.mem_singleton.1 hx]
      refine ⟨Or.inr rfl, ?_, I.lbn, hlb3, Nat.le_trans hu.1 hmlb, by rw [← I.rbe]; exact Nat.le_trans hu.1 hmrb⟩
      rcases hpred with k | ⟨k, k0⟩
      · exact Or.inl k
      · exact Or.inr ⟨List.mem_append_left _ k, k0⟩
  · intro h1
    refine ⟨hmir2 h1, hu.2.1 h1, hu.2.2 (by rw [hrb']; exact hmir2 h1), Or.inr ?_⟩
    rw [h.inv01 lb I.lbn h1]
    exact ⟨hself, hlb0⟩
  · rcases I.dm with k | k
    · exact Or.inl (List.mem_append_left _ k)
    · exact Or.inl (by rw [← k]; exact hself)

/-- the closure argument shared by the closed and the open case: a set `marked` of 3-linked darts,
    closed under `β1` and `β0` (null images allowed), containing `d`, covers with its β3-images the
    whole face of `d` -/
theorem face_cover {m : Map X} (h : WF 4 m) (hS : FaceScope m) {d : Nat} {marked : List Nat}
    (hdM : d ∈ marked)
    (hcl : ∀ x, x ∈ marked → x ≠ 0 → m.β 1 x ∈ marked ∧ m.β 0 x ∈ marked ∧ x < m.n ∧ m.β 3 x ≠ 0) :
    ∀ x, Reach (g3 m .face) d x → x ≠ 0 →
      x ∈ marked ∨ ∃ y, y ∈ marked ∧ y ≠ 0 ∧ x = m.β 3 y := by
  have z3 : m.β 3 0 = 0 := h.null 3 (by omega)
  intro x hx
  induction hx with
  | refl => intro _; exact Or.inl hdM
  | tail hab hc ih =>
      rename_i b' c'
      intro hc0
      have hbz : b' ≠ 0 := Reach.pred_ne_zero (g3_ok h .face trivial).null hc hc0
      simp only [g3, List.mem_cons, List.not_mem_nil, or_false] at hc
      rcases ih hbz with hb | ⟨y, hy, hy0, e⟩
      · obtain ⟨a1, a0, _, _⟩ := hcl b' hb hbz
        rcases hc with k | k | k
        · rw [k]; exact Or.inl a1
        · rw [k]; exact Or.inl a0
        · exact Or.inr ⟨b', hb, hbz, k⟩
      · obtain ⟨a1, a0, yn, y3⟩ := hcl y hy hy0
        rcases hc with k | k | k
        · -- β1 (β3 y) = β3 (β0 y)
          have e2 : c' = m.β 3 (m.β 0 y) := by rw [k, e]; exact (mirror_bwd h hS yn y3).1
          have : m.β 0 y ≠ 0 := fun z => hc0 (by rw [e2, z]; exact z3)
          exact Or.inr ⟨m.β 0 y, a0, this, e2⟩
        · -- β0 (β3 y) = β3 (β1 y)
          have e2 : c' = m.β 3 (m.β 1 y) := by rw [k, e]; exact (mirror_fwd h hS yn y3).1
          have : m.β 1 y ≠ 0 := fun z => hc0 (by rw [e2, z]; exact z3)
          exact Or.inr ⟨m.β 1 y, a1, this, e2⟩
        · left
          rw [k, e, (h.invol 3 (by omega) (by omega) y yn y3).1]; exact hy

/-- phase 1 ended on a non-null left dart: the marked darts are a closed β1-cycle and, with their
    β3-images, the whole face -/
theorem TInv.bound {m : Map X} (h : WF 4 m) (hS : FaceScope m) {d lb rb : Nat} {marked : List Nat}
    {mn : Nat} (I : TInv m d lb rb marked mn) (hlb : lb ∈ marked) (hlb0 : lb ≠ 0) :
    (∀ x, x ≠ 0 → Reach (g3 m .face) d x → mn ≤ x) ∧
    ∀ s, (m.β 1)^[s] d ∈ marked ∧ ((m.β 1)^[s] d ≠ 0 ∨ d = 0) := by
  have memM : ∀ x, x ∈ marked.filter (fun x => decide (x ≠ 0)) ↔ x ∈ marked ∧ x ≠ 0 := by
    intro x; rw [List.mem_filter]; simp
  have hnd : (marked.filter (fun x => decide (x ≠ 0))).Nodup := I.nd.filter _
  have hstep : ∀ x, x ∈ marked → x ≠ 0 → m.β 1 x ∈ marked ∧ m.β 1 x ≠ 0 := by
    intro x hx hx0
    rcases (I.el x hx hx0).1 with k | k
    · exact k
    · rw [k]; exact ⟨hlb, hlb0⟩
  have hmap : ∀ x, x ∈ marked.filter (fun x => decide (x ≠ 0)) →
      m.β 1 x ∈ marked.filter (fun x => decide (x ≠ 0)) := by
    intro x hx
    obtain ⟨hx1, hx0⟩ := (memM x).1 hx
    exact (memM _).2 (hstep x hx1 hx0)
  have hinj : ∀ a b, a ∈ marked.filter (fun x => decide (x ≠ 0)) →
      b ∈ marked.filter (fun x => decide (x ≠ 0)) → m.β 1 a = m.β 1 b → a = b := by
    intro a b ha hb e
    obtain ⟨ha1, ha0⟩ := (memM a).1 ha
    obtain ⟨hb1, hb0⟩ := (memM b).1 hb
    have k1 := h.inv01 a (I.el a ha1 ha0).2.2.1 (hstep a ha1 ha0).2
    have k2 := h.inv01 b (I.el b hb1 hb0).2.2.1 (hstep b hb1 hb0).2
    rw [← k1, ← k2, e]
  have hsurj := surj_of_inj_on_list hnd hmap hinj
  have hb0 : ∀ x, x ∈ marked → x ≠ 0 → m.β 0 x ∈ marked := by
    intro x hx hx0
    obtain ⟨y, hy, e⟩ := hsurj x ((memM x).2 ⟨hx, hx0⟩)
    obtain ⟨hy1, hy0⟩ := (memM y).1 hy
    have : m.β 0 x = y := by rw [← e]; exact h.inv01 y (I.el y hy1 hy0).2.2.1 (by rw [e]; exact hx0)
    rw [this]; exact hy1
  have hdM : d ∈ marked := by
    rcases I.dm with k | k
    · exact k
    · rw [← k]; exact hlb
  constructor
  · have hall := face_cover h hS hdM (fun x hx hx0 =>
      ⟨(hstep x hx hx0).1, hb0 x hx hx0, (I.el x hx hx0).2.2.1, (I.el x hx hx0).2.2.2.1⟩)
    intro x hx0 hx
    rcases hall x hx hx0 with hm | ⟨y, hy, hy0, e⟩
    · exact (I.el x hm hx0).2.2.2.2.1
    · rw [e]; exact (I.el y hy hy0).2.2.2.2.2
  · intro s
    by_cases hd0 : d = 0
    · refine ⟨?_, Or.inr hd0⟩
      rw [hd0, C20.iterate_fix0 (h.null 1 (by omega))]; exact I.m0
    · induction s with
      | zero => exact ⟨hdM, Or.inl hd0⟩
      | succ s ih =>
          rw [Function.iterate_succ_apply']
          rcases ih.2 with k | k
          · exact ⟨(hstep _ ih.1 k).1, Or.inl (hstep _ ih.1 k).2⟩
          · exact absurd k hd0

/-- invariant of phase 1 of the backward two-sided walk on an open 3-linked face -/
structure BInv (m : Map X) (d lb rb : Nat) (marked : List Nat) (mn : Nat) : Prop where
  m0 : 0 ∈ marked
  dmem : d ∈ marked
  el : ∀ x, x ∈ marked → x ≠ 0 →
    (m.β 0 x ∈ marked ∨ m.β 0 x = lb) ∧ m.β 1 x ∈ marked ∧ x < m.n ∧ m.β 3 x ≠ 0 ∧ mn ≤ x ∧ mn ≤ m.β 3 x
  lbn : lb < m.n
  rbe : rb = m.β 3 lb
  lbp : lb ≠ 0 → m.β 3 lb ≠ 0 ∧ mn ≤ lb ∧ mn ≤ rb ∧ m.β 1 lb ∈ marked

theorem BInv.step {m : Map X} (h : WF 4 m) (hS : FaceScope m) {d lb rb : Nat} {marked : List Nat}
    {mn : Nat} (I : BInv m d lb rb marked mn) (hnew : marked.contains lb = false) :
    BInv m d (m.β 0 lb) (m.β 1 rb) (marked ++ [lb]) (Face3.upd mn (m.β 0 lb) (m.β 1 rb)) := by
  have hlb : lb ∉ marked := by simpa using hnew
  have hlb0 : lb ≠ 0 := fun e => hlb (e ▸ I.m0)
  obtain ⟨hlb3, hmlb, hmrb, hsucc⟩ := I.lbp hlb0
  obtain ⟨hmir, hmir2⟩ := mirror_bwd h hS I.lbn hlb3
  have hrb' : m.β 1 rb = m.β 3 (m.β 0 lb) := by rw [I.rbe]; exact hmir
  have hu := Face3.upd_le mn (m.β 0 lb) (m.β 1 rb)
  have hself : lb ∈ marked ++ [lb] := List.mem_append_right _ (List.mem_singleton.2 rfl)
  refine ⟨List.mem_append_left _ I.m0, List.mem_append_left _ I.dmem, ?_,
    h.range 0 (by omega) lb I.lbn, hrb', ?_⟩
  · intro x hx hx0
    rcases List.mem_append.1 hx with hx | hx
    · obtain ⟨a, b, c, e, f, g⟩ := I.el x hx hx0
      refine ⟨?_, List.mem_append_left _ b, c, e, Nat.le_trans hu.1 f, Nat.le_trans hu.1 g⟩
      rcases a with k | k
      · exact Or.inl (List.mem_append_left _ k)
      · exact Or.inl (by rw [k]; exact hself)
    · rw [List.mem_singleton.1 hx]
      exact ⟨Or.inr rfl, List.mem_append_left _ hsucc, I.lbn, hlb3, Nat.le_trans hu.1 hmlb,
        by rw [← I.rbe]; exact Nat.le_trans hu.1 hmrb⟩
  · intro h0
    refine ⟨hmir2 h0, hu.2.1 h0, hu.2.2 (by rw [hrb']; exact hmir2 h0), ?_⟩
    rw [h.inv10 lb I.lbn h0]
    exact hself

/-- the backward phase ended: the marked darts are the whole open β1-chain and, with their β3-images,
    the whole face -/
theorem BInv.bound {m : Map X} (h : WF 4 m) (hS : FaceScope m) {d lb rb : Nat} {marked : List Nat}
    {mn : Nat} (I : BInv m d lb rb marked mn) (hlb : lb ∈ marked) :
    ∀ x, x ≠ 0 → Reach (g3 m .face) d x → mn ≤ x := by
  have hall := face_cover h hS I.dmem (fun x hx hx0 => by
    obtain ⟨a, b, c, e, _, _⟩ := I.el x hx hx0
    refine ⟨b, ?_, c, e⟩
    rcases a with k | k
    · exact k
    · rw [k]; exact hlb)
  intro x hx0 hx
  rcases hall x hx hx0 with hm | ⟨y, hy, hy0, e⟩
  · exact (I.el x hm hx0).2.2.2.2.1
  · rw [e]; exact (I.el y hy hy0).2.2.2.2.2

/-- a 3-linked dart of a face in scope: the forward walk covers both sides of a closed face; on an open
    face both sides end together and the backward replay covers the rest -/
theorem faceId3_glued {m : Map X} (h : WF 4 m) (hS : FaceScope m) {d : Nat} (hd0 : d ≠ 0) (hd : d < m.n)
    (h3 : m.β 3 d ≠ 0) :
    ∃ v, run (faceId3 (X := X) m.n d) m = (.ok v, m) ∧ (v ≠ 0 ∧ Reach (g3 m .face) d v) ∧
      ∀ x, x ≠ 0 → Reach (g3 m .face) d x → v ≤ x := by
  have r1 : ∀ x, x < m.n → m.β 1 x < m.n := h.range 1 (by omega)
  have r0 : ∀ x, x < m.n → m.β 0 x < m.n := h.range 0 (by omega)
  have r3 : ∀ x, x < m.n → m.β 3 x < m.n := h.range 3 (by omega)
  have z3 : m.β 3 0 = 0 := h.null 3 (by omega)
  have g0 := (g3_ok h .face trivial).null
  have he : Reach (g3 m .face) d (m.β 3 d) := Reach.single (face_b3 m d)
  obtain ⟨⟨lbF, rbF, mkF, mnF⟩, hr1⟩ := Face3.fw_terminates r1 r0 (m.n + 1) d (m.β 3 d) [0]
    (if m.β 3 d = 0 then d else min d (m.β 3 d)) hd (r3 d hd)
    (by have := Face3.phi_le (n := m.n) (marked := [0]) h.npos (by simp); omega)
  have hr1' := hr1
  rw [if_neg h3] at hr1'
  have I0 : TInv m d d (m.β 3 d) [0] (min d (m.β 3 d)) :=
    ⟨by simp, by simp, fun x hx hx0 => absurd (by simpa using hx) hx0, hd, rfl,
      fun _ => ⟨h3, Nat.min_le_left _ _, Nat.min_le_right _ _, Or.inl rfl⟩, Or.inr rfl⟩
  obtain ⟨lb', rb', mk', mn', I', hmem, hle, hfin⟩ := Face3.fw_phase1_inv (f1 := m.β 1) (f0 := m.β 0)
    (fun lb rb marked mn => TInv m d lb rb marked mn) (fun lb rb marked mn I hnew => I.step h hS hnew)
    _ _ _ _ _ _ _ _ _ I0 hr1'
  have memF : mnF ≠ 0 ∧ Reach (g3 m .face) d mnF := by
    refine fw_mem g0 (face_b1 m) (face_b0 m) (fun _ => .refl _) (fun _ => he) hr1' ?_
    rcases Nat.le_total d (m.β 3 d) with k | k
    · rw [Nat.min_eq_left k]; exact ⟨hd0, .refl _⟩
    · rw [Nat.min_eq_right k]; exact ⟨h3, he⟩
  by_cases hl : lb' = 0
  · -- open face: both sides ended; backward replay
    have hrb' : rb' = 0 := by rw [I'.rbe, hl]; exact z3
    obtain ⟨rfl, rfl, rfl, rfl⟩ := hfin (by rw [hrb']; exact I'.m0)
    have hdM : d ∈ mkF := by
      rcases I'.dm with k | k
      · exact k
      · exact absurd (k.symm.trans hl) hd0
    obtain ⟨mb1, mb2⟩ := mirror_bwd h hS hd h3
    obtain ⟨⟨a, b, c, mn2⟩, hr2⟩ := Face3.fw_terminates (f1 := m.β 0) (f0 := m.β 1) r0 r1 (m.n + 1)
      (m.β 0 d) (m.β 1 (m.β 3 d)) mkF (Face3.upd mnF (m.β 0 d) (m.β 1 (m.β 3 d))) (r0 d hd)
      (r1 _ (r3 d hd))
      (by have := Face3.phi_le (n := m.n) (marked := mkF) h.npos I'.m0; omega)
    have hu := Face3.upd_le mnF (m.β 0 d) (m.β 1 (m.β 3 d))
    have IB0 : BInv m d (m.β 0 d) (m.β 1 (m.β 3 d)) mkF (Face3.upd mnF (m.β 0 d) (m.β 1 (m.β 3 d))) := by
      refine ⟨I'.m0, hdM, ?_, r0 d hd, mb1, ?_⟩
      · intro x hx hx0
        obtain ⟨p, q, r, s, t, u⟩ := I'.el x hx hx0
        refine ⟨?_, ?_, r, s, Nat.le_trans hu.1 t, Nat.le_trans hu.1 u⟩
        · rcases q with k | ⟨k, _⟩
          · exact Or.inr (by rw [k])
          · exact Or.inl k
        · rcases p with ⟨k, _⟩ | k
          · exact k
          · rw [k, hl]; exact I'.m0
      · intro k0
        refine ⟨mb2 k0, hu.2.1 k0, hu.2.2 (by rw [mb1]; exact mb2 k0), ?_⟩
        rw [h.inv10 d hd k0]; exact hdM
    obtain ⟨lb2, rb2, mk2, mn2', I2, hmem2, hle2, _⟩ := Face3.fw_phase1_inv (f1 := m.β 0) (f0 := m.β 1)
      (fun lb rb marked mn => BInv m d lb rb marked mn) (fun lb rb marked mn I hnew => I.step h hS hnew)
      _ _ _ _ _ _ _ _ _ IB0 hr2
    have hrun := ((C20.run_faceId3 h hd hr1).2 (Or.inl hl)) a b c mn2 hr2
    refine ⟨mn2, hrun, ?_, fun x hx0 hx => Nat.le_trans hle2 (I2.bound h hS hmem2 x hx0 hx)⟩
    refine fw_mem g0 (face_b0 m) (face_b1 m) (fun _ => Reach.single (face_b0 m d))
      (fun _ => he.tail (face_b1 m _)) hr2 ?_
    rcases Face3.upd_mem mnF (m.β 0 d) (m.β 1 (m.β 3 d)) with e | ⟨e0, e⟩ | ⟨e0, e⟩
    · rw [e]; exact memF
    · rw [e]; exact ⟨e0, Reach.single (face_b0 m d)⟩
    · rw [e]; exact ⟨e0, he.tail (face_b1 m _)⟩
  · obtain ⟨hbound, hiter⟩ := I'.bound h hS hmem hl
    obtain ⟨_, _, _, T, g4, g5⟩ := Face3.fw_facts _ _ _ _ _ _ _ _ _ hr1'
    -- the right-hand sequence is the β3-image of the left-hand one
    have hright : ∀ s, (m.β 0)^[s] (m.β 3 d) = m.β 3 ((m.β 1)^[s] d) := by
      intro s
      induction s with
      | zero => rfl
      | succ s ih =>
          have hs := hiter s
          have hs0 : (m.β 1)^[s] d ≠ 0 := by
            rcases hs.2 with k | k
            · exact k
            · exact absurd k hd0
          obtain ⟨_, _, xn, x3, _, _⟩ := I'.el _ hs.1 hs0
          rw [Function.iterate_succ_apply', Function.iterate_succ_apply', ih]
          exact (mirror_fwd h hS xn x3).1
    have hT0 : (m.β 1)^[T] d ≠ 0 := by
      rcases (hiter T).2 with k | k
      · exact k
      · exact absurd k hd0
    have hlbF : lbF ≠ 0 := by rw [g4]; exact hT0
    have hrbF : rbF ≠ 0 := by
      rw [g5, hright T]; exact (I'.el _ (hiter T).1 hT0).2.2.2.1
    have hrun := (C20.run_faceId3 h hd hr1).1 (by rintro (k | k); exact hlbF k; exact hrbF k)
    exact ⟨mnF, hrun, memF, fun x hx0 hx => Nat.le_trans hle (hbound x hx0 hx)⟩

/-- **C03 (3-D), face id**: on a well-formed 3-map whose 3-linked faces are 3-linked as a whole and
    mirrored (`FaceScope`; this contains the property's scope "glued faces closed and mirrored", open
    glued faces and faces that are not 3-linked are covered too), `face_id_transac` terminates
    within its fuel, leaves the map alone and returns the smallest dart of the face cell (the closure of
    the dart under `β1, β0, β3`) — for every non-null existing dart -/
theorem C03_faceId3_min {m : Map X} (h : WF 4 m) (hS : FaceScope m) {d : Nat} (hd0 : d ≠ 0) (hd : d < m.n) :
    run (faceId3 (X := X) m.n d) m = (.ok (cellId3 m .face d), m) ∧
    cellId3 m .face d ∈ orb3 m .face d ∧ ∀ x, x ∈ orb3 m .face d → cellId3 m .face d ≤ x := by
  have sp := cellId3_spec h (pol := .face) trivial hd0 hd
  refine ⟨?_, sp⟩
  have key : ∃ v, run (faceId3 (X := X) m.n d) m = (.ok v, m) ∧ (v ≠ 0 ∧ Reach (g3 m .face) d v) ∧
      ∀ x, x ≠ 0 → Reach (g3 m .face) d x → v ≤ x := by
    by_cases h3 : m.β 3 d = 0
    · exact faceId3_free h hS hd0 hd h3
    · exact faceId3_glued h hS hd0 hd h3
  obtain ⟨v, hv, hv1, hv2⟩ := key
  have : v = cellId3 m .face d :=
    min_unique (l := orb3 m .face d) ⟨(mem_orb3 h (pol := .face) trivial hd0 hd v).2 hv1, fun x hx =>
      hv2 x ((mem_orb3 h (pol := .face) trivial hd0 hd x).1 hx).1
        ((mem_orb3 h (pol := .face) trivial hd0 hd x).1 hx).2⟩ sp (fun _ => Iff.rfl)
  rw [hv, this]

/-- **C03 (3-D), `iter_faces`** yields exactly the face identifiers of the in-use darts (maps in the
    scope of `C03_faceId3_min`) -/
theorem C03_iterFaces3_mem {m : Map X} (h : WF 4 m) (hS : FaceScope m) (x : Nat) :
    x ∈ iterFaces3 m ↔ ∃ d, d ≠ 0 ∧ d < m.n ∧ m.unused d = false ∧ cellId3 m .face d = x :=
  mem_iterCells3 h (pol := .face) trivial (fun _ hd0 hd _ => (C03_faceId3_min h hS hd0 hd).1) x

/-! ## non-vacuity: the hypotheses are satisfiable and the conclusions are not trivial -/

/-- triangles 1-2-3 and 4-5-6 3-linked face to face (mirrored), triangle 7-8-9 2-linked to dart 1,
    an open 3-free face 10→11, a free dart 12, dart 13 removed -/
def ex3 : Map Val :=
  { n := 14
    b := #[#[0, 3, 1, 2, 6, 4, 5, 9, 7, 8, 0, 10, 0, 0], #[0, 2, 3, 1, 5, 6, 4, 8, 9, 7, 11, 0, 0, 0],
           #[0, 7, 0, 0, 0, 0, 0, 1, 0, 0, 0, 0, 0, 0], #[0, 4, 6, 5, 1, 3, 2, 0, 0, 0, 0, 0, 0, 0]]
    u := #[false, false, false, false, false, false, false, false, false, false, false, false, false, true]
    a := #[] }

theorem ex3_wf : WF 4 ex3 := by decide +kernel
theorem ex3_scope : FaceScope ex3 := by decide +kernel

-- orbits: every policy; the boundary vertex {1, 5, 8} is found from 8 only through inverse images
example : run (orbit3 ex3.n .vertex 8) ex3 = (.ok (orb3 ex3 .vertex 8), ex3) :=
  (C03_orbit3_spec ex3_wf (pol := .vertex) trivial (by decide) (by decide)).1
example : orb3 ex3 .vertex 8 = [8, 1, 5] := by decide +kernel
example : orb3 ex3 .vertexLinear 8 = [8] := by decide +kernel
example : orb3 ex3 .vertexLinear 1 = [1, 5, 8] := by decide +kernel
example : orb3 ex3 .edge 1 = [1, 7, 4] := by decide +kernel
example : orb3 ex3 .face 4 = [4, 5, 6, 1, 3, 2] := by decide +kernel
example : orb3 ex3 .faceLinear 4 = [4, 5, 1, 6, 3, 2] := by decide +kernel
example : orb3 ex3 .face 11 = [11, 10] := by decide +kernel
example : orb3 ex3 .faceLinear 11 = [11] := by decide +kernel
example : orb3 ex3 .volume 7 = [7, 8, 9, 1, 2, 3] := by decide +kernel
example : orb3 ex3 .volumeLinear 7 = [7, 8, 1, 9, 2, 3] := by decide +kernel
example : orb3 ex3 (.custom [3, 2, 1]) 9 = [9, 7, 1, 8, 4, 2, 5, 6, 3] := by decide +kernel
example : Pol3OK (.custom [3, 2, 1]) := by decide
example : run (orbit3 ex3.n (.custom [3, 2, 1]) 9) ex3 = (.ok (orb3 ex3 (.custom [3, 2, 1]) 9), ex3) :=
  (C03_orbit3_spec ex3_wf (pol := .custom [3, 2, 1]) (by decide) (by decide) (by decide)).1
example : run (orbit3 ex3.n (.custom [4]) 1) ex3 = (.panic, ex3) :=
  C03_orbit3_custom_bad_panics ex3_wf ⟨4, by decide, by decide⟩ (by decide)

-- the orbit is the cell
example : SameCell (g3 ex3 .vertex) ex3.n 8 5 :=
  (C03_orbit3_is_cell ex3_wf (pol := .vertex) trivial (by decide) (by decide) 5).1 (by decide +kernel)
example : InvClosed (g3 ex3 .volume) ex3.n := C03_images3_inverse_closed ex3_wf (pol := .volume) trivial

-- identifiers
example : cellId3 ex3 .vertex 8 = 1 := by decide +kernel
example : cellId3 ex3 .edge 7 = 1 := by decide +kernel
example : cellId3 ex3 .face 6 = 1 := by decide +kernel
example : cellId3 ex3 .face 11 = 10 := by decide +kernel
theorem ex3_cellId_volume9 : cellId3 ex3 .volume 9 = 1 := by decide +kernel
example : cellId3 ex3 .volume 9 = 1 := ex3_cellId_volume9
example : run (vertexId3 ex3.n 8) ex3 = (.ok (cellId3 ex3 .vertex 8), ex3) :=
  (C03_vertexId3_min ex3_wf (by decide) (by decide)).1
example : run (edgeId3 ex3.n 7) ex3 = (.ok (cellId3 ex3 .edge 7), ex3) :=
  (C03_edgeId3_min ex3_wf (by decide) (by decide)).1
example : run (volumeId3 ex3.n 9) ex3 = (.ok (cellId3 ex3 .volume 9), ex3) :=
  (C03_volumeId3_min ex3_wf (by decide) (by decide)).1
-- a 3-linked closed mirrored face, and an open face that is not 3-linked (backward replay: 11 finds 10)
example : run (faceId3 ex3.n 6) ex3 = (.ok (cellId3 ex3 .face 6), ex3) :=
  (C03_faceId3_min ex3_wf ex3_scope (by decide) (by decide)).1
example : run (faceId3 ex3.n 11) ex3 = (.ok (cellId3 ex3 .face 11), ex3) :=
  (C03_faceId3_min ex3_wf ex3_scope (by decide) (by decide)).1
example : Reach (g3 ex3 .vertex) 8 5 :=
  (C03_same_id3_iff_same_cell ex3_wf (pol := .vertex) trivial (by decide) (by decide) (by decide)
    (by decide)).1.1 (by decide +kernel)
example : ¬ Reach (g3 ex3 .volume) 1 4 := fun hr =>
  absurd ((C03_same_id3_iff_same_cell ex3_wf (pol := .volume) trivial (by decide) (by decide) (by decide)
    (by decide)).1.2 hr) (by decide +kernel)

-- iterators (dart 13 is removed, dart 12 is a free in-use dart)
example : iterVertices3 ex3 = [1, 2, 3, 9, 10, 11, 12] := by decide +kernel
example : iterEdges3 ex3 = [1, 2, 3, 8, 9, 10, 11, 12] := by decide +kernel
theorem ex3_iterFaces : iterFaces3 ex3 = [1, 7, 10, 12] := by decide +kernel
example : iterFaces3 ex3 = [1, 7, 10, 12] := ex3_iterFaces
example : iterVolumes3 ex3 = [1, 4, 10, 12] := by decide +kernel
example : ∃ d, d ≠ 0 ∧ d < ex3.n ∧ ex3.unused d = false ∧ cellId3 ex3 .face d = 10 :=
  (C03_iterFaces3_mem ex3_wf ex3_scope 10).1 (by rw [ex3_iterFaces]; decide)
example : 1 ∈ iterVolumes3 ex3 :=
  (C03_iterVolumes3_mem ex3_wf 1).2 ⟨9, by decide, by decide, by decide, ex3_cellId_volume9⟩
example : ∀ x, x ∈ orb3 ex3 .volume 12 → ex3.unused x = false :=
  C03_orbit3_of_in_use_is_in_use ex3_wf (pol := .volume) trivial (by decide) (by decide) (by decide)

-- linear policies on closed cells; the open face {10, 11} and the boundary vertex {1, 5, 8} show that
-- the closedness hypothesis cannot be dropped
example : ∀ x, x ∈ orb3 ex3 .faceLinear 4 ↔ x ∈ orb3 ex3 .face 4 :=
  C03_linear3_closed ex3_wf (pol := .faceLinear) trivial (by decide) (by decide) (by decide +kernel)
example : ∀ x, x ∈ orb3 ex3 .vertexLinear 6 ↔ x ∈ orb3 ex3 .vertex 6 :=
  C03_linear3_closed ex3_wf (pol := .vertexLinear) trivial (by decide) (by decide) (by decide +kernel)
example : ∀ x, x ∈ orb3 ex3 .volumeLinear 7 ↔ x ∈ orb3 ex3 .volume 7 :=
  C03_linear3_closed ex3_wf (pol := .volumeLinear) trivial (by decide) (by decide) (by decide +kernel)
example : orb3 ex3 .vertex 6 = [6, 3] := by decide +kernel
example : ¬ LinClosed ex3 .faceLinear 11 := by decide +kernel
example : 10 ∈ orb3 ex3 .face 11 ∧ 10 ∉ orb3 ex3 .faceLinear 11 := by decide +kernel

-- transactional = plain
example : atomicallyLog (volumeId3 ex3.n 9) ex3 = (.ok (cellId3 ex3 .volume 9), ex3) :=
  (C03_plain_ids3 ex3_wf (by decide) (by decide)).2.2

-- an OPEN mirrored 3-linked face (chains 1→2→3 and 6→5→4, 3-links 1—4, 2—5, 3—6): from the middle dart the
-- forward walk ends on the null dart on both sides and the backward replay finds dart 1
def exOpen : Map Val :=
  { n := 7
    b := #[#[0, 0, 1, 2, 5, 6, 0], #[0, 2, 3, 0, 0, 4, 5], #[0, 0, 0, 0, 0, 0, 0], #[0, 4, 5, 6, 1, 2, 3]]
    u := #[false, false, false, false, false, false, false]
    a := #[] }
theorem exOpen_wf : WF 4 exOpen := by decide +kernel
theorem exOpen_scope : FaceScope exOpen := by decide +kernel
example : run (faceId3 exOpen.n 5) exOpen = (.ok (cellId3 exOpen .face 5), exOpen) :=
  (C03_faceId3_min exOpen_wf exOpen_scope (by decide) (by decide)).1
example : cellId3 exOpen .face 5 = 1 := by decide +kernel
example : orb3 exOpen .face 5 = [5, 4, 6, 2, 1, 3] := by decide +kernel

end HC.C03

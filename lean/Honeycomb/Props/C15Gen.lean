/-
  C15 — the remeshing kernels `swap_edge` (honeycomb-kernels/src/remeshing/swap.rs), `cut_outer_edge` and
  `cut_inner_edge` (remeshing/cut.rs), TRANSLATED from the source on every run (`Gen/Remesh.lean`, written by
  `python3 tools/gen_lean.py remesh`), interpreted in the model's transaction monad, are EQUAL as programs to
  the hand-written `swapEdge` (Model/Kernels/Swap.lean), `cutOuterEdge`, `cutInnerEdge` (Model/Kernels/Cut.lean),
  which the C15 theorems are proved about.

  The public `map.sew::<I>` / `map.unsew::<I>` the kernels call are NOT given a meaning by the interpreter: the
  arms of `match I` in dim2/sews/mod.rs are translated too (`Gen.Remesh.sewDispatch`) and the interpreter looks the
  callee up in that table (`C15_gen_sew_dispatch`: `sew::<1>` IS `one_sew`, …).  The callees themselves
  (`CMap2::one_sew` …) are tied in Props/C01Gen2.lean, the link cores in Props/C01Gen.lean, the anchor `From`
  tables in Gen/Anchors.lean.  What the interpreter still takes as given: `link::<1>` / `link::<2>` of a 2-map are
  `one_link_core` / `two_link_core`, `read_attribute` / `write_attribute` / `remove_attribute` are `readAttr` /
  `writeAttr` / `removeAttr` of Model/Kernels/Swap.lean on the storage of the anchor kind, `read_vertex` /
  `write_vertex` act on storage 0, and the identifier functions are `vertexId2` / `edgeId2` / `faceId2`.
-/
import Honeycomb.Lemmas.RemeshFixtures
import Honeycomb.Gen.Remesh
import Honeycomb.Model.Kernels.Swap
import Honeycomb.Model.Kernels.Cut
import Honeycomb.Props.C15

namespace HC.GenTie
open HC HC.C15
variable {X : Type}

/-- a value bound by a translated `let`: a dart / cell identifier, an `Option<anchor>`, an anchor or vertex value -/
inductive RemVal (X : Type) where
  | n (k : Nat)
  | o (v : Option X)
  | x (v : X)

/-- what the value-level functions of the source are on the stored values (the kernels are generic in the model
    up to these three): `Vertex2::average`, `EdgeAnchor::from(FaceAnchor)`, `VertexAnchor::from(EdgeAnchor)` -/
structure RemOps (X : Type) where
  avg : X → X → X
  f2e : X → X
  e2v : X → X

/-- the operations on `Val` (Model/Kernels/Cut.lean; the `From` tables behind them are generated, Gen/Anchors.lean) -/
def remValOps : RemOps Val := ⟨avgVal, faceToEdgeVal, edgeToVertexVal⟩

/-- numeric operand: `e`, `nd1 … nd6`, the null identifiers, bound variables -/
def remN (ps : List Nat) (env : List (RemVal X)) : Nat → Nat
  | 0 => ps.getD 0 0
  | 1 => ps.getD 1 0
  | 2 => ps.getD 2 0
  | 3 => ps.getD 3 0
  | 4 => ps.getD 4 0
  | 5 => ps.getD 5 0
  | 6 => ps.getD 6 0
  | 10 => 0
  | 11 => 0
  | a => match env.getD (a - 20) (.n 0) with
    | .n k => k
    | _ => 0

/-- operand holding an `Option<anchor>` -/
def remO (env : List (RemVal X)) (a : Nat) : Option (Option X) :=
  match env.getD (a - 20) (.n 0) with
  | .o v => some v
  | _ => none

/-- operand holding a value -/
def remX (env : List (RemVal X)) (a : Nat) : Option X :=
  match env.getD (a - 20) (.n 0) with
  | .x v => some v
  | _ => none

/-- the callee of a dispatch arm applied to the dispatcher's dart arguments (callee codes of Gen/Remesh.lean) -/
def remCallee (cfg : Cfg X) (n : Nat) (args : List Nat) : Nat → List Nat → Option (P X Unit)
  | 0, [p, q] => some (oneSew2 cfg n (args.getD p 0) (args.getD q 0))
  | 1, [p, q] => some (twoSew2 cfg n (args.getD p 0) (args.getD q 0))
  | 2, [p] => some (oneUnsew2 cfg n (args.getD p 0))
  | 3, [p] => some (twoUnsew2 cfg n (args.getD p 0))
  | _, _ => none

/-- `map.sew::<I>(t, args)` (k = 0) / `map.unsew::<I>(t, args)` (k = 1): the arm of the translated `match I` -/
def remDispatch (cfg : Cfg X) (n : Nat) (tbl : List (Nat × Nat × Nat × List Nat)) (k i : Nat) (args : List Nat) :
    Option (P X Unit) :=
  match tbl.find? (fun r => r.1 == k && r.2.1 == i) with
  | some r => remCallee cfg n args r.2.2.1 r.2.2.2
  | none => none

/-- `abort(EdgeSwapError::<variant v>)` -/
def remErr (errs : List String) (v : Nat) : Err := ⟨errs.getD v "", []⟩

/-- `value` or `<K>::from(value)` handed to `write_attribute` (kinds: 0 vertex, 1 edge, 2 face anchor) -/
def remConv (ops : RemOps X) : Nat → Nat → Option (X → X)
  | 2, 2 => some id
  | 1, 1 => some id
  | 0, 0 => some id
  | 1, 2 => some ops.f2e
  | 0, 1 => some ops.e2v
  | _, _ => none

/-- `match (read_vertex(a)?, read_vertex(b)?) { (Some(v1), Some(v2)) => average(&v1, &v2), _ => retry()? }` -/
def remMid (ops : RemOps X) (a b : Nat) : P X X := do
  let v1 ← rA 0 a
  let v2 ← rA 0 b
  match v1, v2 with
  | some v1, some v2 => pure (ops.avg v1 v2)
  | _, _ => Prog.retry

/-- `write_vertex(t, id, v)` (`TVar::replace` on storage 0) -/
def remWriteVtx (d : Nat) (v : X) : P X (Option X) := do
  let old ← rA 0 d
  wA 0 d (some v)
  pure old

/-- `if let Some(a) = o { k a }` -/
def remOnSome (o : Option X) (k : X → P X Unit) : P X Unit :=
  match o with
  | none => pure ()
  | some a => k a

/-- the meaning of a generated instruction list (see the header of Gen/Remesh.lean); `ps` = the parameters
    `e, nd1, …`; the fuel only makes the recursion structural -/
def interpRemesh (cfg : Cfg X) (ops : RemOps X) (n : Nat) (tbl : List (Nat × Nat × Nat × List Nat)) (errs : List String)
    (ps : List Nat) : Nat → List (RemVal X) → List (Nat × List Nat) → P X Unit
  | 0, _, _ => Prog.panic
  | _ + 1, _, [] => pure ()
  | f + 1, env, (0, [a, b, v]) :: rest =>
      if remN ps env a = remN ps env b then abort (remErr errs v) else
      interpRemesh cfg ops n tbl errs ps f env rest
  | f + 1, env, (1, [i, a]) :: rest => do
      let v ← rB i (remN ps env a)
      interpRemesh cfg ops n tbl errs ps f (env ++ [.n v]) rest
  | f + 1, env, (2, [i, a, b, j, c, d, v]) :: rest => do
      let x ← rB i (remN ps env a)
      -- `||` short-circuits: the second β is only read when the first comparison is false
      let bad ← (if x ≠ remN ps env b then pure true else do
        let y ← rB j (remN ps env c)
        pure (decide (y ≠ remN ps env d)) : P X Bool)
      if bad then abort (remErr errs v) else
      interpRemesh cfg ops n tbl errs ps f env rest
  | f + 1, env, (3, k :: i :: as) :: rest =>
      match remDispatch cfg n tbl k i (as.map (remN ps env)) with
      | some p => do p; interpRemesh cfg ops n tbl errs ps f env rest
      | none => Prog.panic
  | f + 1, env, (4, [1, a, b]) :: rest => do
      oneLinkCore (remN ps env a) (remN ps env b)
      interpRemesh cfg ops n tbl errs ps f env rest
  | f + 1, env, (4, [2, a, b]) :: rest => do
      iLinkCore 2 (remN ps env a) (remN ps env b)
      interpRemesh cfg ops n tbl errs ps f env rest
  | f + 1, env, (5, [k, a]) :: rest => do
      let v ← (if regd cfg (stVA + k) then do
          let fid ← faceId2 n (remN ps env a)
          removeAttr cfg (stVA + k) fid
        else pure none : P X (Option X))
      interpRemesh cfg ops n tbl errs ps f (env ++ [.o v]) rest
  | f + 1, env, (6, [k, a]) :: rest => do
      let v ← (if regd cfg (stVA + k) then readAttr cfg (stVA + k) (remN ps env a) else pure none : P X (Option X))
      interpRemesh cfg ops n tbl errs ps f (env ++ [.o v]) rest
  | f + 1, env, (7, [a]) :: rest => do
      let v ← vertexId2 n (remN ps env a)
      interpRemesh cfg ops n tbl errs ps f (env ++ [.n v]) rest
  | f + 1, env, (8, [a]) :: rest => do
      let v ← faceId2 n (remN ps env a)
      interpRemesh cfg ops n tbl errs ps f (env ++ [.n v]) rest
  | f + 1, env, (9, [a]) :: rest => do
      let v ← edgeId2 (remN ps env a)
      interpRemesh cfg ops n tbl errs ps f (env ++ [.n v]) rest
  | f + 1, env, (10, [a, b]) :: rest => do
      let v ← remMid ops (remN ps env a) (remN ps env b)
      interpRemesh cfg ops n tbl errs ps f (env ++ [.x v]) rest
  | f + 1, env, (11, [a, x]) :: rest =>
      match remX env x with
      | some v => do
          let _ ← remWriteVtx (remN ps env a) v
          interpRemesh cfg ops n tbl errs ps f env rest
      | none => Prog.panic
  | f + 1, env, (12, [x, k]) :: rest =>
      match remO env x with
      | some o => do
          remOnSome o (fun a => interpRemesh cfg ops n tbl errs ps f (env ++ [.x a]) (rest.take k))
          interpRemesh cfg ops n tbl errs ps f env (rest.drop k)
      | none => Prog.panic
  | f + 1, env, (13, [k, a, x, k']) :: rest =>
      match remX env x, remConv ops k k' with
      | some v, some c => do
          let _ ← writeAttr cfg (stVA + k) (remN ps env a) (c v)
          interpRemesh cfg ops n tbl errs ps f env rest
      | _, _ => Prog.panic
  | f + 1, env, (14, [k, m]) :: rest => do
      (if regd cfg (stVA + k) then interpRemesh cfg ops n tbl errs ps f env (rest.take m) else pure ())
      interpRemesh cfg ops n tbl errs ps f env (rest.drop m)
  | _, _, _ => Prog.panic

theorem remBindUnit (p : P X Unit) : p.bind (fun _ => Prog.ret ()) = p := Prog.bind_unit p

/-- **the translated dispatch of dim2/sews/mod.rs**: `sew::<1>` is `one_sew`, `sew::<2>` is `two_sew`, `unsew::<1>` is
    `one_unsew`, `unsew::<2>` is `two_unsew`, with the arguments in the order given; no other `I` has an arm; and the
    `force_` variants dispatch to the same callees -/
theorem C15_gen_sew_dispatch (cfg : Cfg X) (n l r : Nat) :
    remDispatch cfg n Gen.Remesh.sewDispatch 0 1 [l, r] = some (oneSew2 cfg n l r) ∧
    remDispatch cfg n Gen.Remesh.sewDispatch 0 2 [l, r] = some (twoSew2 cfg n l r) ∧
    remDispatch cfg n Gen.Remesh.sewDispatch 1 1 [l] = some (oneUnsew2 cfg n l) ∧
    remDispatch cfg n Gen.Remesh.sewDispatch 1 2 [l] = some (twoUnsew2 cfg n l) ∧
    (∀ k i, k < 2 → i ≠ 1 → i ≠ 2 → ∀ args, remDispatch cfg n Gen.Remesh.sewDispatch k i args = none) ∧
    (Gen.Remesh.sewDispatch.filter (fun r => r.1 ≥ 2)).map (fun r => (r.1 - 2, r.2)) =
      Gen.Remesh.sewDispatch.filter (fun r => r.1 < 2) := by
  refine ⟨rfl, rfl, rfl, rfl, ?_, by decide⟩
  intro k i hk h1 h2 args
  have : Gen.Remesh.sewDispatch.find? (fun r => r.1 == k && r.2.1 == i) = none := by
    simp only [Gen.Remesh.sewDispatch, List.find?_cons, List.find?_nil]
    have e1 : ((1 : Nat) == i) = false := by simpa using fun h => h1 h.symm
    have e2 : ((2 : Nat) == i) = false := by simpa using fun h => h2 h.symm
    simp [e1, e2]
  simp only [remDispatch, this]

theorem rem_disp_sew1 (cfg : Cfg X) (n l r : Nat) :
    remDispatch cfg n Gen.Remesh.sewDispatch 0 1 [l, r] = some (oneSew2 cfg n l r) := (C15_gen_sew_dispatch cfg n l r).1
theorem rem_disp_sew2 (cfg : Cfg X) (n l r : Nat) :
    remDispatch cfg n Gen.Remesh.sewDispatch 0 2 [l, r] = some (twoSew2 cfg n l r) := (C15_gen_sew_dispatch cfg n l r).2.1
theorem rem_disp_unsew1 (cfg : Cfg X) (n l : Nat) :
    remDispatch cfg n Gen.Remesh.sewDispatch 1 1 [l] = some (oneUnsew2 cfg n l) := (C15_gen_sew_dispatch cfg n l 0).2.2.1
theorem rem_disp_unsew2 (cfg : Cfg X) (n l : Nat) :
    remDispatch cfg n Gen.Remesh.sewDispatch 1 2 [l] = some (twoUnsew2 cfg n l) := (C15_gen_sew_dispatch cfg n l 0).2.2.2.1

/-- the interpreter of a kernel: the dispatch table and the error names are the translated ones -/
abbrev interpRemeshK (cfg : Cfg X) (ops : RemOps X) (n : Nat) (ps : List Nat) (fuel : Nat) (prog : List (Nat × List Nat)) : P X Unit :=
  interpRemesh cfg ops n Gen.Remesh.sewDispatch Gen.Remesh.swapErrors ps fuel [] prog

/-- **tie of `swap_edge`** (guards with their error variants, the β reads in order, the short-circuit topology test,
    six unsews and six sews with their arguments) -/
theorem C15_gen_swapEdge (cfg : Cfg X) (ops : RemOps X) (n e : Nat) :
    interpRemeshK cfg ops n [e] 32 Gen.Remesh.swapEdge = swapEdge cfg n e := by
  simp only [interpRemeshK, Gen.Remesh.swapEdge, interpRemesh, remN, remErr, Gen.Remesh.swapErrors, swapEdge, List.map, List.getD_cons_zero,
    List.getD_cons_succ, List.nil_append, List.cons_append, rem_disp_sew1, rem_disp_unsew1,
    Prog.bind_eq, Prog.pure_eq, Prog.bind_unit]
  rfl

/-- `remMid` / `remWriteVtx` on `Val` are the model's `midpointOrRetry` / `writeVtx` -/
theorem remMid_val (a b : Nat) : remMid remValOps a b = midpointOrRetry a b := by
  unfold remMid midpointOrRetry remValOps
  simp only [Prog.bind_eq, Prog.pure_eq]
  refine congrArg _ (funext fun v1 => congrArg _ (funext fun v2 => ?_))
  cases v1 <;> cases v2 <;> rfl

theorem remWriteVtx_val (d : Nat) (v : Val) : remWriteVtx d v = writeVtx d v := rfl

/-- the three `if let Some(a) = … { … }` blocks of the model, as `remOnSome` -/
theorem rem_spreadFaceAnchor_onSome (cfg : Cfg Val) (n : Nat) (fa : Option Val) (nda ndb : Nat) :
    spreadFaceAnchor cfg n fa nda ndb = remOnSome fa (fun a => do
      let fid1 ← faceId2 n nda
      let fid2 ← faceId2 n ndb
      let _ ← writeAttr cfg stFA fid1 a
      let _ ← writeAttr cfg stFA fid2 a
      if regd cfg stEA then do
        let eid ← edgeId2 nda
        let _ ← writeAttr cfg stEA eid (faceToEdgeVal a)
        pure ()
      else pure ()) := by
  cases fa <;> rfl

theorem rem_spreadEdgeAnchor_onSome (cfg : Cfg Val) (n : Nat) (ea : Option Val) (nd1 : Nat) :
    spreadEdgeAnchor cfg n ea nd1 = remOnSome ea (fun a => do
      let vid ← vertexId2 n nd1
      let _ ← writeAttr cfg stVA vid (edgeToVertexVal a)
      pure ()) := by
  cases ea <;> rfl

theorem rem_spreadEdgeAnchorOuter_onSome (cfg : Cfg Val) (n : Nat) (ea : Option Val) (nd1 nd3 : Nat) :
    spreadEdgeAnchorOuter cfg n ea nd1 nd3 = remOnSome ea (fun a => do
      let vid ← vertexId2 n nd1
      let _ ← writeAttr cfg stVA vid (edgeToVertexVal a)
      let eid ← edgeId2 nd3
      let _ ← writeAttr cfg stEA eid a
      pure ()) := by
  cases ea <;> rfl

/-- **tie of `cut_outer_edge`** -/
theorem C15_gen_cutOuterEdge (cfg : Cfg Val) (n e nd1 nd2 nd3 : Nat) :
    interpRemeshK cfg remValOps n [e, nd1, nd2, nd3] 64 Gen.Remesh.cutOuterEdge = cutOuterEdge cfg n e nd1 nd2 nd3 := by
  simp only [interpRemeshK, Gen.Remesh.cutOuterEdge, interpRemesh, remN, remO, remX, remConv, cutOuterEdge, List.map, List.getD_cons_zero,
    List.getD_cons_succ, List.nil_append, List.cons_append, List.take, List.drop, rem_disp_sew1, rem_disp_unsew1,
    remMid_val, remWriteVtx_val, rem_spreadFaceAnchor_onSome, rem_spreadEdgeAnchorOuter_onSome, Nat.reduceSub,
    Prog.bind_eq, Prog.pure_eq, Prog.bind_unit]
  rfl

/-- **tie of `cut_inner_edge`** -/
theorem C15_gen_cutInnerEdge (cfg : Cfg Val) (n e nd1 nd2 nd3 nd4 nd5 nd6 : Nat) :
    interpRemeshK cfg remValOps n [e, nd1, nd2, nd3, nd4, nd5, nd6] 64 Gen.Remesh.cutInnerEdge =
      cutInnerEdge cfg n e nd1 nd2 nd3 nd4 nd5 nd6 := by
  simp only [interpRemeshK, Gen.Remesh.cutInnerEdge, interpRemesh, remN, remO, remX, remConv, cutInnerEdge, List.map, List.getD_cons_zero,
    List.getD_cons_succ, List.nil_append, List.cons_append, List.take, List.drop, rem_disp_sew1, rem_disp_unsew1, rem_disp_sew2, rem_disp_unsew2,
    remMid_val, remWriteVtx_val, rem_spreadFaceAnchor_onSome, rem_spreadEdgeAnchor_onSome, Nat.reduceSub,
    Prog.bind_eq, Prog.pure_eq, Prog.bind_unit]
  rfl

/-- **C15 (a) stated on the translated code**: every call of the translated `swap_edge` (the callees of its
    `sew::<1>` / `unsew::<1>` taken from the translated dispatch) on an in-use dart of a well-formed 2-map whose two
    faces at the edge are closed at the edge darts leaves the map well formed -/
theorem C15_gen_swap_preserves_WF (cfg : Cfg X) (ops : RemOps X) (m : Map X) (e : Nat) (hwf : WF 3 m)
    (he : C01.InUse m e) (hl : m.β 1 e ≠ 0 ∧ m.β 0 e ≠ 0)
    (hr : m.β 2 e ≠ 0 → m.β 1 (m.β 2 e) ≠ 0 ∧ m.β 0 (m.β 2 e) ≠ 0) :
    WF 3 (atomically (interpRemeshK cfg ops m.n [e] 32 Gen.Remesh.swapEdge) m).2 := by
  rw [C15_gen_swapEdge]
  exact C15_swap_preserves_WF cfg m e hwf he hl hr

/-- **C15 (b) stated on the translated code**: the translated `swap_edge` is the guard chain NullEdge /
    IncompleteEdge / BadTopology followed by the editing part -/
theorem C15_gen_swap_guards (cfg : Cfg X) (ops : RemOps X) (k e : Nat) (m : Map X)
    (hok : ∀ i d, i < 3 → d < m.n → m.okβ i d = true) (hrange : ∀ i d, i < 3 → d < m.n → m.β i d < m.n)
    (he : e < m.n) :
    run (interpRemeshK cfg ops k [e] 32 Gen.Remesh.swapEdge) m =
      if e = 0 then (.err errNullEdge, m)
      else if m.β 2 e = 0 then (.err errIncompleteEdge, m)
      else if m.β 1 (m.β 1 e) ≠ m.β 0 e ∨ m.β 1 (m.β 1 (m.β 2 e)) ≠ m.β 0 (m.β 2 e) then (.err errBadTopology, m)
      else run (swapBody cfg k e (m.β 2 e) (m.β 0 e) (m.β 1 e) (m.β 0 (m.β 2 e)) (m.β 1 (m.β 2 e))) m := by
  rw [C15_gen_swapEdge]
  exact C15_swap_guards cfg k e m hok hrange he

/-- **C15 (a) stated on the translated cut kernels** -/
theorem C15_gen_cutOuter_preserves_WF (cfg : Cfg Val) (m : Map Val) (e nd1 nd2 nd3 : Nat) (hwf : WF 3 m)
    (he : C01.InUse m e) (hl : m.β 1 e ≠ 0 ∧ m.β 0 e ≠ 0)
    (s1 : Spare m nd1) (s2 : Spare m nd2) (s3 : Spare m nd3) (h12 : nd1 ≠ nd2) :
    WF 3 (atomically (interpRemeshK cfg remValOps m.n [e, nd1, nd2, nd3] 64 Gen.Remesh.cutOuterEdge) m).2 := by
  rw [C15_gen_cutOuterEdge]
  exact C15_cutOuter_preserves_WF cfg m e nd1 nd2 nd3 hwf he hl s1 s2 s3 h12

theorem C15_gen_cutInner_preserves_WF (cfg : Cfg Val) (m : Map Val) (e nd1 nd2 nd3 nd4 nd5 nd6 : Nat) (hwf : WF 3 m)
    (he : C01.InUse m e) (h2e : m.β 2 e ≠ 0) (hl : m.β 1 e ≠ 0 ∧ m.β 0 e ≠ 0)
    (hr : m.β 1 (m.β 2 e) ≠ 0 ∧ m.β 0 (m.β 2 e) ≠ 0)
    (hs : ∀ x, x ∈ [nd1, nd2, nd3, nd4, nd5, nd6] → Spare m x) (h12 : nd1 ≠ nd2) (h45 : nd4 ≠ nd5) :
    WF 3 (atomically (interpRemeshK cfg remValOps m.n [e, nd1, nd2, nd3, nd4, nd5, nd6] 64 Gen.Remesh.cutInnerEdge) m).2 := by
  rw [C15_gen_cutInnerEdge]
  exact C15_cutInner_preserves_WF cfg m e nd1 nd2 nd3 nd4 nd5 nd6 hwf he h2e hl hr hs h12 h45

/-- the hypotheses of `C15_gen_swap_preserves_WF` are satisfiable (the call of `C15.lean`'s example) -/
example : WF 3 (atomically (interpRemeshK (stdCfg 3 0) remValOps unitSquare.n [2] 32 Gen.Remesh.swapEdge) unitSquare).2 :=
  C15_gen_swap_preserves_WF _ _ _ _ (by decide) (by decide) (by decide) (fun _ => by decide)

/-- the translated kernels RUN: on the unit square the interpreted lists give the outcome of the model -/
example : (atomically (interpRemeshK (stdCfg 3 0) remValOps 13 [2, 7, 8, 9, 10, 11, 12] 64 Gen.Remesh.cutInnerEdge)
    (unitSquare.addFreeDarts 6).2).1 = .ok () := by
  decide +kernel

end HC.GenTie

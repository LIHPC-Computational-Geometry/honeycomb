/-
  C18 — dart allocation hands out fresh, blank, addressable darts.

  Stated for any number of β rows (`nb = 3`: CMap2, `nb = 4`: CMap3) and any number of attribute
  storages.  `Alloc nb m` = well-formed + the null dart is not flagged removed.
-/
import Honeycomb.Lemmas.WFLink
import Honeycomb.Props.C01
import Honeycomb.Props.C03


namespace HC.C18
open HC
variable {X : Type}

/-- number of darts flagged removed (`n_unused_darts`) -/
def unusedCount (m : Map X) : Nat := ((List.range m.n).filter (fun d => m.unused d)).length

structure Alloc (nb : Nat) (m : Map X) : Prop where
  wf : WF nb m
  null : m.unused 0 = false

/-! ## append: `add_free_dart(s)` -/

/-- the ids handed out by `add_free_darts k` are `n .. n+k-1`: non-null, previously non-existent,
    below the new dart count, in use, free, and without a value in every storage -/
theorem C18_add_fresh {nb : Nat} {m : Map X} (h : WF nb m) (k d : Nat)
    (hd1 : m.n ≤ d) (hd2 : d < m.n + k) :
    (m.addFreeDarts k).1 = m.n ∧ (m.addFreeDarts k).2.n = m.n + k ∧
    d ≠ 0 ∧ d < (m.addFreeDarts k).2.n ∧ (m.addFreeDarts k).2.unused d = false ∧
    (∀ i, i < nb → (m.addFreeDarts k).2.β i d = 0) ∧
    (∀ s, s < m.a.size → (rd m.a s).size = m.n → (m.addFreeDarts k).2.att s d = none) := by
  have hs := h.toSized
  have hpos := hs.npos
  refine ⟨rfl, rfl, by omega, hd2, ?_, ?_, ?_⟩
  · rw [addFreeDarts_unused hs]; simp; omega
  · intro i hi; rw [addFreeDarts_β hs k i d hi]; simp; omega
  · intro s hs1 hs2
    unfold Map.addFreeDarts Map.att
    simp only
    rw [rd_map _ _ _ hs1]
    exact rd_ext_ge _ _ _ _ (by omega) (by omega)

/-- existing darts are untouched by an append -/
theorem C18_add_frame {nb : Nat} {m : Map X} (h : WF nb m) (k d : Nat) (hd : d < m.n) :
    (m.addFreeDarts k).2.unused d = m.unused d ∧
    (∀ i, i < nb → (m.addFreeDarts k).2.β i d = m.β i d) := by
  have hs := h.toSized
  refine ⟨?_, ?_⟩
  · rw [addFreeDarts_unused hs]; simp [hd]
  · intro i hi; rw [addFreeDarts_β hs k i d hi]; simp [hd]

theorem filter_length_congr {α : Type} (l : List α) (p q : α → Bool) (h : ∀ x ∈ l, p x = q x) :
    (l.filter p).length = (l.filter q).length := by
  induction l with
  | nil => rfl
  | cons a t ih =>
      have ha := h a (by simp)
      have := ih (fun x hx => h x (by simp [hx]))
      simp only [List.filter_cons, ha]
      split <;> simp [this]

/-- the removed-dart count is unchanged by an append -/
theorem C18_add_unusedCount {nb : Nat} {m : Map X} (h : WF nb m) (k : Nat) :
    unusedCount (m.addFreeDarts k).2 = unusedCount m := by
  have hs := h.toSized
  unfold unusedCount
  rw [addFreeDarts_n]
  have e : List.range (m.n + k) = List.range m.n ++ (List.range' m.n k) := by
    rw [List.range_eq_range', List.range_eq_range', ← List.range'_append]; simp
  rw [e, List.filter_append, List.length_append]
  have h1 : (List.filter (fun d => (m.addFreeDarts k).2.unused d) (List.range' m.n k)) = [] := by
    apply List.filter_eq_nil_iff.2
    intro d hd
    have := List.mem_range'_1.1 hd
    rw [addFreeDarts_unused hs]; simp; omega
  rw [h1]
  simp only [List.length_nil, Nat.add_zero]
  apply filter_length_congr
  intro d hd
  have : d < m.n := List.mem_range.1 hd
  rw [addFreeDarts_unused hs]; simp [this]

/-! ## slot reuse: `insert_free_dart` -/

theorem firstUnused_none {u : Array Bool} (h : firstUnused u = none) : ∀ d, d < u.size → rd u d = false := by
  intro d hd
  unfold firstUnused at h
  have := List.find?_eq_none.1 h d (List.mem_range.2 hd)
  simpa using this

theorem firstUnused_min {u : Array Bool} {d : Nat} (h : firstUnused u = some d) :
    ∀ e, e < d → rd u e = false := by
  intro e he
  unfold firstUnused at h
  have := (List.find?_range_eq_some.1 h).2.2 e he
  simpa using this

set_option linter.unusedVariables false in
/-- **C18, insertion**: the dart returned by `insert_free_dart` is non-null, was not in use, is
    below the (new) dart count, is now in use and free; it is the smallest removed slot if there is
    one, else a fresh append -/
theorem C18_insert_fresh {nb : Nat} {m : Map X} (h : Alloc nb m) (hnb : 2 ≤ nb) :
    let d := m.insertFreeDart.1
    let m' := m.insertFreeDart.2
    d ≠ 0 ∧ d < m'.n ∧ (m.n ≤ d ∨ m.unused d = true) ∧ m'.unused d = false ∧
    (∀ i, i < nb → m'.β i d = 0) ∧
    ((m.unused d = true ∧ d < m.n ∧ m'.n = m.n ∧ ∀ e, e < d → m.unused e = false) ∨
     (d = m.n ∧ m'.n = m.n + 1 ∧ ∀ e, e < m.n → m.unused e = false)) := by
  have hs := h.wf.toSized
  simp only
  unfold Map.insertFreeDart
  split
  · rename_i d hd
    obtain ⟨hlt, hu⟩ := firstUnused_some hd
    rw [hs.usz] at hlt
    have hmin := firstUnused_min hd
    have hd0 : d ≠ 0 := by
      intro h0; subst h0
      have := h.null; unfold Map.unused at this; rw [this] at hu; exact absurd hu (by simp)
    refine ⟨hd0, hlt, Or.inr hu, ?_, ?_, Or.inl ⟨hu, hlt, rfl, hmin⟩⟩
    · rw [hs.unused_setU hlt]; simp
    · intro i hi; exact h.wf.unusedFree d hlt hu i hi
  · rename_i hnone
    have hall := firstUnused_none hnone
    rw [hs.usz] at hall
    have := C18_add_fresh h.wf 1 m.n (Nat.le_refl _) (by omega)
    refine ⟨this.2.2.1, this.2.2.2.1, Or.inl (Nat.le_refl _), this.2.2.2.2.1, this.2.2.2.2.2.1,
      Or.inr ⟨rfl, rfl, hall⟩⟩

/-- values of the returned dart: a fresh append is blank (see `C18_add_fresh`); a REUSED slot
    keeps whatever the storages held at that index — neither removal nor reuse clears it -/
theorem C18_insert_reused_value {m : Map X} {d : Nat} (h : firstUnused m.u = some d) (s : Nat) :
    m.insertFreeDart.2.att s d = m.att s d := by
  unfold Map.insertFreeDart; rw [h]; rfl

/-- partial form of "a newly obtained dart has no value": true when the reused slot is blank -/
theorem C18_insert_blank_partial {nb : Nat} {m : Map X} (h : Alloc nb m)
    (hsz : ∀ s, s < m.a.size → (rd m.a s).size = m.n)
    (hblank : ∀ d s, m.unused d = true → m.att s d = none) (s : Nat) (hs : s < m.a.size) :
    m.insertFreeDart.2.att s m.insertFreeDart.1 = none := by
  unfold Map.insertFreeDart
  split
  · rename_i d hd
    obtain ⟨_, hu⟩ := firstUnused_some hd
    show m.att s d = none
    exact hblank d s hu
  · exact (C18_add_fresh h.wf 1 m.n (Nat.le_refl _) (by omega)).2.2.2.2.2.2 s hs (hsz s hs)

/-- the invariant survives insertion -/
theorem C18_insert_alloc {nb : Nat} {m : Map X} (h : Alloc nb m) (hnb : 2 ≤ nb) :
    Alloc nb m.insertFreeDart.2 := by
  refine ⟨h.wf.insertFreeDart hnb, ?_⟩
  have hs := h.wf.toSized
  unfold Map.insertFreeDart
  split
  · rename_i d hd
    obtain ⟨hlt, _⟩ := firstUnused_some hd
    rw [hs.usz] at hlt
    rw [hs.unused_setU hlt]
    split
    · rfl
    · exact h.null
  · rw [addFreeDarts_unused hs]; simp [hs.npos]; exact h.null

/-! ## removal -/

/-- **C18, refusal**: `remove_free_dart d` on an existing dart is refused (panics) exactly when the
    dart is linked or already removed; otherwise it flags the dart and nothing else -/
theorem C18_remove_refuses_iff {nb : Nat} {m : Map X} (h : WF nb m) (d : Nat) (hd : d < m.n) :
    ((m.removeFreeDart nb d).1 = .panic ↔ (m.isFree nb d = false ∨ m.unused d = true)) ∧
    ((m.removeFreeDart nb d).1 = .ok () → (m.removeFreeDart nb d).2 = m.setU d true) := by
  have hok : m.okU d = true := (h.toSized.okU d).2 hd
  unfold Map.removeFreeDart
  simp only [hd, if_true]
  by_cases hf : m.isFree nb d = true
  · simp only [hf, if_true]
    unfold atomically
    rw [run_removeFreeDartTx]
    simp only [hok, if_true]
    cases hu : m.unused d <;> simp
  · simp [hf]

/-- **C18, refusal inside one transaction**: `remove_free_dart_transac` answers whether the dart was ALREADY
    removed as the transaction sees it — a second removal of the same dart composed in the same transaction is
    told `true` (refused) whatever the first one answered, and the flag is set once -/
theorem C18_remove_twice_in_one_transaction (m : Map X) (d : Nat) (hd : m.okU d = true) :
    run (do let a ← removeFreeDartTx (X := X) d; let b ← removeFreeDartTx d; pure (a, b)) m =
      (.ok (m.unused d, true), m.setU d true) := by
  have h2 : (m.setU d true).okU d = true := by rw [Map.okU_setU]; exact hd
  have h3 : (m.setU d true).unused d = true := by rw [Map.unused_setU]; simp [hd]
  have h4 : (m.setU d true).setU d true = m.setU d true := by
    unfold Map.setU; simp [wr]
  simp only [removeFreeDartTx, Prog.bind_eq, Prog.pure_eq, Prog.bind_assoc, Prog.ret_bind, run_rU, run_wU, hd, h2, h3, h4,
    if_true, run_ret]

/-- a removed dart stays out of every cell iterator (they filter on the flag) -/
theorem C18_iter_excludes_removed (m : Map X) (idf : Nat → P X Nat) (x : Nat)
    (hx : x ∈ iterCells m idf) : m.unused x = false ∧ x ≠ 0 ∧ x < m.n := by
  unfold iterCells at hx
  simp only [List.mem_filter, List.mem_range, decide_eq_true_eq, Bool.and_eq_true,
    Bool.not_eq_true', Bool.decide_and] at hx
  exact ⟨hx.2.2.1, hx.2.1, hx.1⟩

/-- every identifier below the dart count is addressable in every storage (and stays so: `WF`
    is preserved by every call, C01) -/
theorem C18_addressable {nb : Nat} {m : Map X} (h : WF nb m) (s d : Nat) (hs : s < m.a.size) (hd : d < m.n) :
    m.okA s d = true := by
  unfold Map.okA
  have := h.asz s hs
  simp [hs]; omega

/-- **C18, orbits**: on a well-formed 2-map, no orbit (any admissible policy, transactional or
    not) of a dart that is in use ever reports a removed dart -/
theorem C18_orbit_excludes_removed {m : Map X} (h : WF 3 m) {pol : Policy} (hp : C03.PolOK pol) {d : Nat}
    (hd0 : d ≠ 0) (hd : d < m.n) (hu : m.unused d = false) :
    ∃ out, run (orbit2 (X := X) m.n pol d) m = (.ok out, m) ∧ ∀ x, x ∈ out → m.unused x = false := by
  have hs := C03.C03_orbit2_spec h hp hd0 hd
  exact ⟨C03.orb m pol d, hs.1, C03.C03_orbit_of_in_use_is_in_use h hp hd0 hd hu⟩

/-! ## D10: the reused slot is NOT blank on the current code (negation witness) -/

/-- dart 2 holds coordinates, is removed, and is handed out again with its old coordinates -/
def d10Map : Map Val :=
  { (Map.empty 3 6 3 : Map Val) with
    u := #[false, false, true]
    a := (Map.empty 3 6 3 : Map Val).a.setIfInBounds 0 #[none, none, some (.pt 7 7 0)] }

theorem C18_D10_reused_slot_keeps_stale_value :
    Alloc 3 d10Map ∧ d10Map.insertFreeDart.1 = 2 ∧
      d10Map.insertFreeDart.2.att 0 2 = some (.pt 7 7 0) := by
  refine ⟨⟨by decide, by decide⟩, by decide, by decide⟩

/-! non-vacuity -/
example : Alloc 3 C01.exMap := ⟨C01.exMap_wf, by decide⟩
example : C01.exMap.okU 1 = true := by decide   -- the hypothesis of C18_remove_twice_in_one_transaction is satisfiable
example : C01.exMap.insertFreeDart.1 = 8 := by decide
example : (C01.exMap.addFreeDarts 2).1 = 9 := by decide

end HC.C18

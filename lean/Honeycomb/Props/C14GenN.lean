/-
  C14 — the multi-vertex insertion kernel `insert_vertices_on_edge` of
  `honeycomb-kernels/src/cell_insertion/vertices.rs`, TRANSLATED from the source on every run
  (`Gen/VertexInsertionN.lean`, written by tools/gen_lean.py, generator `vinsn`), interpreted in the model's transaction
  monad, is EQUAL as a program to the hand-written `insertVerticesOnEdge` of Model/Kernels/VertexInsertion.lean.

  The three `for` loops are translated as BODY lists (`Gen.chainFirstBody`, `Gen.chainSecondBody`,
  `Gen.placeVerticesBody`); each has a one-step theorem (`C14_gen_…_step`: one iteration of the translated body is one
  unfolding of the model's recursion) and a lift over the whole list by induction (`C14_gen_chainFirst`, …).
  `cmap.link::<I>` / `unlink::<I>` are resolved through the translated dispatch of Props/C14Gen.lean
  (`vinsLinkCall`, `vinsUnlinkCall`), `is_free_transac` is the translated `Gen.isFreeTransac`.
-/
import Honeycomb.Gen.VertexInsertionN
import Honeycomb.Props.C14Gen

namespace HC.GenTie
open HC HC.C14

/-! ## loop bodies -/

/-- operand of a generated instruction: `edge_id`, `prev_d`, the loop's dart variables, the null dart, bound variables -/
def vinsnArg (e prev x y : Nat) (env : List Nat) : Nat → Nat
  | 0 => e
  | 1 => prev
  | 2 => x
  | 3 => 0
  | 4 => y
  | k => env.getD (k - 20) 0

/-- `r + (s - u) * t` on vertices -/
def vinsnPlaceG (r s u : Val) (t : Rat) : Val :=
  P2.toVal ⟨r.p2.x + (s.p2.x - u.p2.x) * t, r.p2.y + (s.p2.y - u.p2.y) * t⟩

theorem vinsnPlaceG_eq (v1 v2 : Val) (t : Rat) : vinsnPlaceG v1 v2 v1 t = placeVal v1 v2 (some t) := rfl

/-- one iteration of a translated loop body; the result is the value of `prev_d` after the iteration -/
def vinsnBody (n e : Nat) (vals : List Val) (t : Rat) (x y : Nat) :
    Nat → List Nat → List (Nat × List Nat) → P Val Nat
  | prev, _, [] => pure prev
  | prev, env, (46, [0, i, a, b]) :: rest => do
      vinsLinkCall i (vinsnArg e prev x y env a) (vinsnArg e prev x y env b)
      vinsnBody n e vals t x y prev env rest
  | prev, env, (46, [1, i, a, _]) :: rest => do
      vinsUnlinkCall i (vinsnArg e prev x y env a)
      vinsnBody n e vals t x y prev env rest
  | prev, env, (48, [a]) :: rest => vinsnBody n e vals t x y (vinsnArg e prev x y env a) env rest
  | prev, env, (5, [a]) :: rest => do
      let v ← vertexId2 n (vinsnArg e prev x y env a)
      vinsnBody n e vals t x y prev (env ++ [v]) rest
  | prev, env, (49, [w, r, s, u]) :: rest => do
      let _ ← writeVtx (vinsnArg e prev x y env w) (vinsnPlaceG (vinsVal vals r) (vinsVal vals s) (vinsVal vals u) t)
      vinsnBody n e vals t x y prev env rest
  | _, _, _ => Prog.panic

/-- `for &new_d in L { body }` -/
def vinsnLoop1 (n e : Nat) (vals : List Val) (body : List (Nat × List Nat)) : Nat → List Nat → P Val Nat
  | prev, [] => pure prev
  | prev, x :: rest => do
      let p ← vinsnBody n e vals 0 x 0 prev [] body
      vinsnLoop1 n e vals body p rest

/-- `for (d, new_d) in L.iter().rev().zip(M.iter()) { body }` (over the zipped list) -/
def vinsnLoop2 (n e : Nat) (vals : List Val) (body : List (Nat × List Nat)) : Nat → List (Nat × Nat) → P Val Nat
  | prev, [] => pure prev
  | prev, (x, y) :: rest => do
      let p ← vinsnBody n e vals 0 x y prev [] body
      vinsnLoop2 n e vals body p rest

/-- `for (&t, &new_d) in midpoint_vertices.iter().zip(L.iter()) { body }` (over the zipped list); `prev_d` is in scope
    but a body that assigns it is not expected: the value is dropped -/
def vinsnLoop3 (n e : Nat) (vals : List Val) (body : List (Nat × List Nat)) (prev : Nat) : List (Rat × Nat) → P Val Unit
  | [] => pure ()
  | (t, x) :: rest => do
      let _ ← vinsnBody n e vals t x 0 prev [] body
      vinsnLoop3 n e vals body prev rest

/-- **one iteration of the first-side loop** is one unfolding of `chainFirst` -/
theorem C14_gen_chainFirst_step (n e : Nat) (vals : List Val) (prev nd : Nat) (rest : List Nat) :
    (vinsnBody n e vals 0 nd 0 prev [] Gen.chainFirstBody >>= fun p => chainFirst p rest) = chainFirst prev (nd :: rest) := by
  simp only [Gen.chainFirstBody, vinsnBody, vinsnArg, chainFirst, vinsLinkCall_one, Prog.bind_eq, Prog.pure_eq, Prog.bind_assoc,
    Prog.ret_bind]

/-- **the first-side loop** -/
theorem C14_gen_chainFirst (n e : Nat) (vals : List Val) (prev : Nat) (l : List Nat) :
    vinsnLoop1 n e vals Gen.chainFirstBody prev l = chainFirst prev l := by
  induction l generalizing prev with
  | nil => rfl
  | cons nd rest ih =>
      rw [← C14_gen_chainFirst_step n e vals prev nd rest]
      simp only [vinsnLoop1, ih]

/-- **one iteration of the second-side loop** is one unfolding of `chainSecond` -/
theorem C14_gen_chainSecond_step (n e : Nat) (vals : List Val) (prev d nd : Nat) (rest : List (Nat × Nat)) :
    (vinsnBody n e vals 0 d nd prev [] Gen.chainSecondBody >>= fun p => chainSecond p rest) = chainSecond prev ((d, nd) :: rest) := by
  simp only [Gen.chainSecondBody, vinsnBody, vinsnArg, chainSecond, vinsLinkCall_one, vinsLinkCall_two, Prog.bind_eq, Prog.pure_eq,
    Prog.bind_assoc, Prog.ret_bind]

/-- **the second-side loop** -/
theorem C14_gen_chainSecond (n e : Nat) (vals : List Val) (prev : Nat) (l : List (Nat × Nat)) :
    vinsnLoop2 n e vals Gen.chainSecondBody prev l = chainSecond prev l := by
  induction l generalizing prev with
  | nil => rfl
  | cons hd rest ih =>
      obtain ⟨d, nd⟩ := hd
      rw [← C14_gen_chainSecond_step n e vals prev d nd rest]
      simp only [vinsnLoop2, ih]

/-- **one iteration of the placement loop** is one unfolding of `placeVertices`: the point is written under
    `vertex_id_transac(new_d)`, not under the dart -/
theorem C14_gen_placeVertices_step (n e : Nat) (v1 v2 : Val) (prev : Nat) (t : Rat) (nd : Nat) (rest : List (Rat × Nat)) :
    (vinsnBody n e [v1, v2] t nd 0 prev [] Gen.placeVerticesBody >>= fun _ => placeVertices n v1 v2 rest)
      = placeVertices n v1 v2 ((t, nd) :: rest) := by
  simp only [Gen.placeVerticesBody, vinsnBody, vinsnArg, vinsVal, placeVertices, vinsnPlaceG_eq, List.getD, List.nil_append,
    List.getElem?_cons_zero, List.getElem?_cons_succ, Option.getD_some, Nat.reduceSub, Prog.bind_eq, Prog.pure_eq, Prog.bind_assoc,
    Prog.ret_bind]

/-- **the placement loop** -/
theorem C14_gen_placeVertices (n e : Nat) (v1 v2 : Val) (prev : Nat) (l : List (Rat × Nat)) :
    vinsnLoop3 n e [v1, v2] Gen.placeVerticesBody prev l = placeVertices n v1 v2 l := by
  induction l with
  | nil => rfl
  | cons hd rest ih =>
      obtain ⟨t, nd⟩ := hd
      rw [← C14_gen_placeVertices_step n e v1 v2 prev t nd rest]
      simp only [vinsnLoop3, ih]

/-! ## validation prefix -/

/-- `for d in new_darts { if !is_free_transac(cmap, trans, *d)? { … } }` with the TRANSLATED `is_free_transac`:
    is the abort reached? -/
def vinsnAnyNotFree {X : Type} : List Nat → P X Bool
  | [] => pure false
  | d :: ds => do
      let f ← vinsInterpFree d Gen.isFreeTransac
      if !f then pure true else vinsnAnyNotFree ds

theorem vinsnAnyNotFree_eq {X : Type} (l : List Nat) : vinsnAnyNotFree (X := X) l = anyNotFreeTx l := by
  induction l with
  | nil => rfl
  | cons d ds ih => simp only [vinsnAnyNotFree, anyNotFreeTx, C14_gen_isFreeTx, ih]

/-- `if a != NULL_DART_ID { a } else if b != NULL_DART_ID { b } else { abort(err)? }` -/
def vinsnSecondEndG (err : Err) (a b : Nat) : P Val Nat :=
  if a ≠ 0 then pure a else if b ≠ 0 then pure b else abort err

theorem vinsnSecondEndG_eq (a b : Nat) : vinsnSecondEndG errUndefinedEdge a b = secondEnd a b := rfl

def vinsnList (ls : List (List Nat)) (k : Nat) : List Nat := ls.getD k []

/-! ## the whole function -/

/-- the meaning of `Gen.insertVerticesOnEdge` (see the header of Gen/VertexInsertionN.lean); the fuel only makes the
    recursion structural.  `ls`: the slice variables (0 = `new_darts`), `prev`: the `let mut prev_d` in scope -/
def interpVinsN (n e : Nat) (nds : List Nat) (ts : List Rat) :
    Nat → List Nat → Nat → List Val → List (List Nat) → List (Nat × List Nat) → P Val Unit
  | 0, _, _, _, _, _ => Prog.panic
  | _ + 1, _, _, _, _, [] => pure ()
  | f + 1, env, prev, vals, ls, (60, [c1, c2]) :: rest =>
      if nds.length ≠ c1 * ts.length then abort (errWrongAmountDarts (c2 * ts.length) nds.length) else
      interpVinsN n e nds ts f env prev vals ls rest
  | f + 1, env, prev, vals, ls, (61, [k]) :: rest => do
      let notFree ← vinsnAnyNotFree nds
      if notFree then abort (errInvalidDarts (Gen.vinsnMsgs.getD k "")) else
      interpVinsN n e nds ts f env prev vals ls rest
  | f + 1, env, prev, vals, ls, (62, [0]) :: rest =>
      interpVinsN n e nds ts f env prev vals (ls ++ [nds.take ts.length]) rest
  | f + 1, env, prev, vals, ls, (62, [1]) :: rest =>
      interpVinsN n e nds ts f env prev vals (ls ++ [nds.drop ts.length]) rest
  | f + 1, env, prev, vals, ls, (1, [i, a]) :: rest => do
      let v ← rB i (vinsnArg e prev 0 0 env a)
      interpVinsN n e nds ts f (env ++ [v]) prev vals ls rest
  | f + 1, env, prev, vals, ls, (63, [l, k]) :: rest =>
      if (vinsnList ls l).any (· = 0) then abort (errInvalidDarts (Gen.vinsnMsgs.getD k "")) else
      interpVinsN n e nds ts f env prev vals ls rest
  | f + 1, env, prev, vals, ls, (64, [g, l, k]) :: rest =>
      if vinsnArg e prev 0 0 env g ≠ 0 && (vinsnList ls l).any (· = 0) then abort (errInvalidDarts (Gen.vinsnMsgs.getD k "")) else
      interpVinsN n e nds ts f env prev vals ls rest
  | f + 1, env, prev, vals, ls, (65, [k]) :: rest =>
      if ts.any outOfUnit then abort (vinsErr k) else interpVinsN n e nds ts f env prev vals ls rest
  | f + 1, env, prev, vals, ls, (5, [a]) :: rest => do
      let v ← vertexId2 n (vinsnArg e prev 0 0 env a)
      interpVinsN n e nds ts f (env ++ [v]) prev vals ls rest
  | f + 1, env, prev, vals, ls, (66, [a, b, k]) :: rest => do
      let v ← vinsnSecondEndG (vinsErr k) (vinsnArg e prev 0 0 env a) (vinsnArg e prev 0 0 env b)
      interpVinsN n e nds ts f (env ++ [v]) prev vals ls rest
  | f + 1, env, prev, vals, ls, (44, [a, b, k]) :: rest => do
      let x ← rA 0 (vinsnArg e prev 0 0 env a)
      let y ← rA 0 (vinsnArg e prev 0 0 env b)
      vinsWithEndsG (vinsErr k) x y fun v w => interpVinsN n e nds ts f env prev (vals ++ [v, w]) ls rest
  | f + 1, env, prev, vals, ls, (45, [a, k]) :: rest => do
      whenP (decide (vinsnArg e prev 0 0 env a ≠ 0)) (interpVinsN n e nds ts f env prev vals ls (rest.take k))
      interpVinsN n e nds ts f env prev vals ls (rest.drop k)
  | f + 1, env, prev, vals, ls, (46, [0, i, a, b]) :: rest => do
      vinsLinkCall i (vinsnArg e prev 0 0 env a) (vinsnArg e prev 0 0 env b)
      interpVinsN n e nds ts f env prev vals ls rest
  | f + 1, env, prev, vals, ls, (46, [1, i, a, _]) :: rest => do
      vinsUnlinkCall i (vinsnArg e prev 0 0 env a)
      interpVinsN n e nds ts f env prev vals ls rest
  | f + 1, env, prev, vals, ls, (50, [a]) :: rest =>
      interpVinsN n e nds ts f env (vinsnArg e prev 0 0 env a) vals ls rest
  | f + 1, env, prev, vals, ls, (51, [l]) :: rest => do
      let p ← vinsnLoop1 n e vals Gen.chainFirstBody prev (vinsnList ls l)
      interpVinsN n e nds ts f env p vals ls rest
  | f + 1, env, prev, vals, ls, (52, [l, m]) :: rest => do
      let p ← vinsnLoop2 n e vals Gen.chainSecondBody prev ((vinsnList ls l).reverse.zip (vinsnList ls m))
      interpVinsN n e nds ts f env p vals ls rest
  | f + 1, env, prev, vals, ls, (53, [l]) :: rest => do
      vinsnLoop3 n e vals Gen.placeVerticesBody prev (ts.zip (vinsnList ls l))
      interpVinsN n e nds ts f env prev vals ls rest
  | _, _, _, _, _, _ => Prog.panic

/-- **tie of `insert_vertices_on_edge`** (validation prefix, reads, editing part with its three loops) -/
theorem C14_gen_insertVerticesOnEdge (n e : Nat) (nds : List Nat) (ts : List Rat) :
    interpVinsN n e nds ts 64 [] 0 [] [nds] Gen.insertVerticesOnEdge = insertVerticesOnEdge n e nds ts := by
  simp only [Gen.insertVerticesOnEdge, Gen.vinsnMsgs, interpVinsN, vinsnArg, vinsnList, vinsErr, insertVerticesOnEdge,
    insertVerticesBody, insertVerticesSide2, vinsnAnyNotFree_eq, vinsnSecondEndG_eq, vinsWithEndsG_eq, C14_gen_chainFirst,
    C14_gen_chainSecond, C14_gen_placeVertices, vinsLinkCall_one, vinsLinkCall_two,
    vinsUnlinkCall_one, vinsUnlinkCall_two, List.drop, List.take, List.getD, List.nil_append, List.cons_append,
    List.getElem?_cons_zero, List.getElem?_cons_succ, Option.getD_some, Nat.reduceSub, Prog.bind_eq, Prog.pure_eq,
    Prog.bind_unit]

/-- **C14 (a) stated on the translated code**: a successful run of the translated `insert_vertices_on_edge` keeps a
    well-formed 2-map well formed (hypotheses as in `C14_insertVertices_preserves_WF`) -/
theorem C14_gen_insertVertices_preserves_WF (m m' : Map Val) (e : Nat) (nds : List Nat) (ts : List Rat)
    (hwf : WF 3 m) (he : C01.InUse m e)
    (hlive : ∀ d ∈ nds, m.unused d = false)
    (hnodup : m.β 2 e ≠ 0 → nds.Nodup)
    (h : run (interpVinsN m.n e nds ts 64 [] 0 [] [nds] Gen.insertVerticesOnEdge) m = (.ok (), m')) : WF 3 m' := by
  rw [C14_gen_insertVerticesOnEdge] at h
  exact C14_insertVertices_preserves_WF m m' e nds ts hwf he hlive hnodup h

/-- **the amount check stated on the translated code**: a wrong number of spare darts is refused with
    `WrongAmountDarts(2 * n_t, n_d)` before anything is read or written -/
theorem C14_gen_wrong_count (n : Nat) (m : Map Val) (e : Nat) (nds : List Nat) (ts : List Rat)
    (h : nds.length ≠ 2 * ts.length) :
    run (interpVinsN n e nds ts 64 [] 0 [] [nds] Gen.insertVerticesOnEdge) m
      = (.err (errWrongAmountDarts (2 * ts.length) nds.length), m) := by
  rw [C14_gen_insertVerticesOnEdge]
  exact C14_wrong_count n m e nds ts h

/-- a list the interpreter does not understand is a panic, not a silent success -/
example (n e : Nat) (nds : List Nat) (ts : List Rat) : interpVinsN n e nds ts 4 [] 0 [] [nds] [(60, [])] = Prog.panic := rfl

end HC.GenTie

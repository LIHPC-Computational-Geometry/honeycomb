/-
  C12 — the descriptor logic of `honeycomb-core/src/cmap/builder/grid.rs` (`parse_2d`, `parse_3d`,
  `check_parameters!`) as GENERATED data (`Gen/GridDesc.lean`, generator `griddesc` of
  tools/gen_lean.py), given its meaning here and proved EQUAL to `parse2` / `parse3` of
  Model/Grid.lean for every combination of given fields.

  Meaning of the data (see the header of the generated file):
  * an arm matches when every pattern code agrees with the presence of its field
    (0 = `None`, 1 = `Some([..])`, 2 = bound as a whole, 3 = `_`); arms are tried in source order;
  * the checks of the arm run in source order; `check_parameters!(id, msg)` refuses `id` when
    `id.is_sign_negative() | id.is_zero()` (the two disjuncts are the generated flags `gdCheckNeg`,
    `gdCheckZero`) with `Err(BuilderError::<variant>(msg))`;
  * the `Ok((origin, n, l))` arrays are expression trees; `.ceil()` is its own node (`GdVal.i`),
    `.to_usize().unwrap()` turns it into a count (`Int.toNat`, as `ceilCount` of the model: after the
    checks the quotient is positive).
  Ill-typed data (a cell count divided without `T::from`, a component out of range, no arm) evaluates
  to `.panic`, which `parse2` / `parse3` never return: the equality theorems exclude it.
-/
import Honeycomb.Gen.GridDesc
import Honeycomb.Model.Grid
import Honeycomb.Props.C12

namespace HC.GenTie
open HC HC.Gen

/-- values of the expression trees: a float (`Rat` in the model), the result of `.ceil()`, a count -/
inductive GdVal where
  | r (x : Rat)
  | i (z : Int)
  | n (k : Nat)
  | bad

/-- the descriptor: `origin`, and the optional `n_cells`, `len_per_cell`, `lens` as lists -/
structure GdEnv where
  o : List Rat
  n : Option (List Nat)
  lpc : Option (List Rat)
  lens : Option (List Rat)

/-- component `i` of field `f` (0 = n_cells, 1 = len_per_cell, 2 = lens, 3 = origin) -/
def gdFld (E : GdEnv) (f i : Nat) : GdVal :=
  match f with
  | 0 => match E.n.bind (fun l => l[i]?) with | some k => .n k | none => .bad
  | 1 => match E.lpc.bind (fun l => l[i]?) with | some x => .r x | none => .bad
  | 2 => match E.lens.bind (fun l => l[i]?) with | some x => .r x | none => .bad
  | 3 => match E.o[i]? with | some x => .r x | none => .bad
  | _ => .bad

/-- evaluation of an expression tree -/
def gdEval (E : GdEnv) : GdExpr → GdVal
  | .fld f i => gdFld E f i
  | .cast e => match gdEval E e with | .n k => .r (k : Rat) | _ => .bad
  | .div a b => match gdEval E a, gdEval E b with | .r x, .r y => .r (x / y) | _, _ => .bad
  | .ceil e => match gdEval E e with | .r x => .i x.ceil | _ => .bad
  | .toUsize e => match gdEval E e with | .i z => .n z.toNat | _ => .bad

def gdRats (E : GdEnv) : List GdExpr → Option (List Rat)
  | [] => some []
  | e :: es => match gdEval E e, gdRats E es with | .r x, some l => some (x :: l) | _, _ => none

def gdNats (E : GdEnv) : List GdExpr → Option (List Nat)
  | [] => some []
  | e :: es => match gdEval E e, gdNats E es with | .n k, some l => some (k :: l) | _, _ => none

/-- one pattern code against the presence of its field -/
def gdPatOk (code : Nat) (present : Bool) : Bool :=
  match code with
  | 0 => !present
  | 1 => present
  | 2 => true
  | 3 => true
  | _ => false

def gdArmMatches (E : GdEnv) (a : GdArm) : Bool :=
  match a.pat with
  | [p0, p1, p2] => gdPatOk p0 E.n.isSome && gdPatOk p1 E.lpc.isSome && gdPatOk p2 E.lens.isSome
  | _ => false

/-- the condition of `check_parameters!` -/
def gdBad (x : Rat) : Bool := (gdCheckNeg && decide (x < 0)) || (gdCheckZero && decide (x = 0))

/-- the `&'static str` payloads of `InvalidGridParameters`, as the model's `[kind, axis]` -/
def gdMsgArgs (s : String) : List Nat :=
  if s = "length per x cell is null or negative" then [0, 0]
  else if s = "length per y cell is null or negative" then [0, 1]
  else if s = "length per z cell is null or negative" then [0, 2]
  else if s = "grid length along x is null or negative" then [1, 0]
  else if s = "grid length along y is null or negative" then [1, 1]
  else if s = "grid length along z is null or negative" then [1, 2]
  else [9, 9]

/-- the checks of an arm, in order; the first refusal ends the function -/
def gdChecks (E : GdEnv) (variant : String) : List (Nat × Nat × String) → Out Err Unit
  | [] => .ok ()
  | (f, i, msg) :: cs =>
      match gdFld E f i with
      | .r x => if gdBad x then .err ⟨variant, gdMsgArgs msg⟩ else gdChecks E variant cs
      | _ => .panic

def gdRunArm (E : GdEnv) (a : GdArm) : Out Err (List Rat × List Nat × List Rat) :=
  match gdChecks E a.variant a.checks with
  | .ok () =>
      (match a.res with
       | none => .err ⟨a.variant, []⟩
       | some (o, n, l) =>
           match gdRats E o, gdNats E n, gdRats E l with
           | some o, some n, some l => .ok (o, n, l)
           | _, _, _ => .panic)
  | .err e => .err e
  | .retry => .retry
  | .panic => .panic

/-- the `match`: first arm whose pattern matches -/
def gdRun (E : GdEnv) : List GdArm → Out Err (List Rat × List Nat × List Rat)
  | [] => .panic
  | a :: as => if gdArmMatches E a then gdRunArm E a else gdRun E as

def gdEnv2 (o : Rat × Rat) (n : Option (Nat × Nat)) (lpc lens : Option (Rat × Rat)) : GdEnv :=
  ⟨[o.1, o.2], n.map (fun p => [p.1, p.2]), lpc.map (fun p => [p.1, p.2]), lens.map (fun p => [p.1, p.2])⟩

def gdEnv3 (o : Rat × Rat × Rat) (n : Option (Nat × Nat × Nat)) (lpc lens : Option (Rat × Rat × Rat)) : GdEnv :=
  ⟨[o.1, o.2.1, o.2.2], n.map (fun p => [p.1, p.2.1, p.2.2]), lpc.map (fun p => [p.1, p.2.1, p.2.2]),
   lens.map (fun p => [p.1, p.2.1, p.2.2])⟩

def gdOut2 : Out Err (List Rat × List Nat × List Rat) → Out Err ((Rat × Rat) × (Nat × Nat) × (Rat × Rat))
  | .ok ([ox, oy], [nx, ny], [lx, ly]) => .ok ((ox, oy), (nx, ny), (lx, ly))
  | .ok _ => .panic
  | .err e => .err e
  | .retry => .retry
  | .panic => .panic

def gdOut3 : Out Err (List Rat × List Nat × List Rat) →
    Out Err ((Rat × Rat × Rat) × (Nat × Nat × Nat) × (Rat × Rat × Rat))
  | .ok ([ox, oy, oz], [nx, ny, nz], [lx, ly, lz]) => .ok ((ox, oy, oz), (nx, ny, nz), (lx, ly, lz))
  | .ok _ => .panic
  | .err e => .err e
  | .retry => .retry
  | .panic => .panic

/-- the translated `parse_2d` -/
def gdParse2Fn (o : Rat × Rat) (n : Option (Nat × Nat)) (lpc lens : Option (Rat × Rat)) :=
  gdOut2 (gdRun (gdEnv2 o n lpc lens) gdParse2)

/-- the translated `parse_3d` -/
def gdParse3Fn (o : Rat × Rat × Rat) (n : Option (Nat × Nat × Nat)) (lpc lens : Option (Rat × Rat × Rat)) :=
  gdOut3 (gdRun (gdEnv3 o n lpc lens) gdParse3)

/-- `is_sign_negative() | is_zero()` is the model's `x ≤ 0` -/
theorem gdBad_eq (x : Rat) : gdBad x = badLen x := by
  simp only [gdBad, gdCheckNeg, gdCheckZero, badLen, Bool.true_and]
  by_cases h : x ≤ 0
  · rcases lt_or_eq_of_le h with h' | h' <;> simp [h, h']
  · have h1 : ¬ x < 0 := fun h' => h (le_of_lt h')
    have h2 : ¬ x = 0 := fun h' => h (le_of_eq h')
    simp [h, h1, h2]

/-! ## completeness of the generated lists -/

/-- the arms of both functions: counts + cell lengths (totals bound but ignored), counts + totals,
    cell lengths + totals, and the catch-all; in this order -/
theorem C12_gen_arms :
    gdParse2.map (·.pat) = [[1, 1, 2], [1, 0, 1], [0, 1, 1], [3, 3, 3]] ∧
    gdParse3.map (·.pat) = [[1, 1, 2], [1, 0, 1], [0, 1, 1], [3, 3, 3]] ∧
    gdParse2.map (·.res.isSome) = [true, true, true, false] ∧
    gdParse3.map (·.res.isSome) = [true, true, true, false] := by decide

/-- the checks: which (field, component) each arm examines, in source order; the macro tests both
    the sign and zero -/
theorem C12_gen_checks :
    gdParse2.map (fun a => a.checks.map (fun c => (c.1, c.2.1))) =
      [[(1, 0), (1, 1)], [(2, 0), (2, 1)], [(1, 0), (1, 1), (2, 0), (2, 1)], []] ∧
    gdParse3.map (fun a => a.checks.map (fun c => (c.1, c.2.1))) =
      [[(1, 0), (1, 1), (1, 2)], [(2, 0), (2, 1), (2, 2)],
       [(1, 0), (1, 1), (1, 2), (2, 0), (2, 1), (2, 2)], []] ∧
    gdCheckNeg = true ∧ gdCheckZero = true := by decide

/-! ## the translated functions are the model's -/

def afterChecks {β : Type} (c : Out Err Unit) (k : Out Err β) : Out Err β :=
  match c with
  | .ok () => k
  | .err e => .err e
  | .retry => .retry
  | .panic => .panic

theorem afterChecks_ok {β : Type} (k : Out Err β) : afterChecks (.ok ()) k = k := rfl

theorem afterChecks_ite {β : Type} (b : Bool) (e : Err) (c : Out Err Unit) (k : Out Err β) :
    afterChecks (if b = true then .err e else c) k = if b = true then .err e else afterChecks c k := by
  cases b <;> rfl

theorem gdRunArm_eq (E : GdEnv) (a : GdArm) :
    gdRunArm E a = afterChecks (gdChecks E a.variant a.checks) (gdRunArm E { a with checks := [] }) := by
  unfold gdRunArm afterChecks
  cases gdChecks E a.variant a.checks <;> rfl

theorem gdOut2_afterChecks (c : Out Err Unit) (k : Out Err (List Rat × List Nat × List Rat)) :
    gdOut2 (afterChecks c k) = afterChecks c (gdOut2 k) := by
  cases c <;> rfl

theorem gdOut3_afterChecks (c : Out Err Unit) (k : Out Err (List Rat × List Nat × List Rat)) :
    gdOut3 (afterChecks c k) = afterChecks c (gdOut3 k) := by
  cases c <;> rfl

/- Both proofs: select the arm, write it as checks followed by result (`gdRunArm_eq`), and let every check
   become one `if` of the model (`afterChecks_ite`). -/
theorem C12_gen_parse2 (o : Rat × Rat) (n : Option (Nat × Nat)) (lpc lens : Option (Rat × Rat)) :
    gdParse2Fn o n lpc lens = parse2 o n lpc lens := by
  rcases o with ⟨ox, oy⟩
  rcases n with _ | ⟨nx, ny⟩ <;> rcases lpc with _ | ⟨lpx, lpy⟩ <;> rcases lens with _ | ⟨lx, ly⟩ <;>
    simp only [gdParse2Fn, gdParse2, gdRun, gdArmMatches, gdPatOk, gdEnv2,
      Option.map_some, Option.map_none, Option.isSome_some, Option.isSome_none, Bool.not_true, Bool.not_false,
      Bool.and_true, Bool.and_false, if_true, if_false, Bool.false_eq_true] <;>
    rw [gdRunArm_eq, gdOut2_afterChecks] <;>
    simp only [gdChecks, gdFld, gdBad_eq, afterChecks_ite, afterChecks_ok, gdRunArm, gdMsgArgs, gdRats, gdNats, gdEval,
      gdOut2, parse2, errMissingGrid, errInvalidGrid, ceilCount, Option.bind_some,
      List.getElem?_cons_zero, List.getElem?_cons_succ, String.reduceEq, reduceIte]

theorem C12_gen_parse3 (o : Rat × Rat × Rat) (n : Option (Nat × Nat × Nat)) (lpc lens : Option (Rat × Rat × Rat)) :
    gdParse3Fn o n lpc lens = parse3 o n lpc lens := by
  rcases o with ⟨ox, oy, oz⟩
  rcases n with _ | ⟨nx, ny, nz⟩ <;> rcases lpc with _ | ⟨lpx, lpy, lpz⟩ <;> rcases lens with _ | ⟨lx, ly, lz⟩ <;>
    simp only [gdParse3Fn, gdParse3, gdRun, gdArmMatches, gdPatOk, gdEnv3,
      Option.map_some, Option.map_none, Option.isSome_some, Option.isSome_none, Bool.not_true, Bool.not_false,
      Bool.and_true, Bool.and_false, if_true, if_false, Bool.false_eq_true] <;>
    rw [gdRunArm_eq, gdOut3_afterChecks] <;>
    simp only [gdChecks, gdFld, gdBad_eq, afterChecks_ite, afterChecks_ok, gdRunArm, gdMsgArgs, gdRats, gdNats, gdEval,
      gdOut3, parse3, errMissingGrid, errInvalidGrid, ceilCount, Option.bind_some,
      List.getElem?_cons_zero, List.getElem?_cons_succ, String.reduceEq, reduceIte]

/-! ## corollaries: theorems of Props/C12.lean, restated on the translated code -/

/-- `C12_parse2_forms_agree` on the translated `parse_2d`: the three descriptor forms (and the form
    with all three fields, whose totals are ignored) give the same `(origin, counts, cell lengths)` -/
theorem C12_gen_parse2_forms_agree (o : Rat × Rat) {nx ny : Nat} {lpx lpy : Rat} (hnx : 0 < nx)
    (hny : 0 < ny) (hx : 0 < lpx) (hy : 0 < lpy) (junk : Rat × Rat) :
    let r : Out Err ((Rat × Rat) × (Nat × Nat) × (Rat × Rat)) := .ok (o, (nx, ny), (lpx, lpy))
    let tot : Rat × Rat := ((nx : Rat) * lpx, (ny : Rat) * lpy)
    gdParse2Fn o (some (nx, ny)) (some (lpx, lpy)) none = r ∧
    gdParse2Fn o (some (nx, ny)) none (some tot) = r ∧
    gdParse2Fn o none (some (lpx, lpy)) (some tot) = r ∧
    gdParse2Fn o (some (nx, ny)) (some (lpx, lpy)) (some junk) = r := by
  simp only [C12_gen_parse2]
  exact HC.C12.C12_parse2_forms_agree o hnx hny hx hy junk

/-- `C12_parse3_forms_agree` on the translated `parse_3d` -/
theorem C12_gen_parse3_forms_agree (o : Rat × Rat × Rat) {nx ny nz : Nat} {lpx lpy lpz : Rat}
    (hnx : 0 < nx) (hny : 0 < ny) (hnz : 0 < nz) (hx : 0 < lpx) (hy : 0 < lpy) (hz : 0 < lpz)
    (junk : Rat × Rat × Rat) :
    let r : Out Err ((Rat × Rat × Rat) × (Nat × Nat × Nat) × (Rat × Rat × Rat)) :=
      .ok (o, (nx, ny, nz), (lpx, lpy, lpz))
    let tot : Rat × Rat × Rat := ((nx : Rat) * lpx, (ny : Rat) * lpy, (nz : Rat) * lpz)
    gdParse3Fn o (some (nx, ny, nz)) (some (lpx, lpy, lpz)) none = r ∧
    gdParse3Fn o (some (nx, ny, nz)) none (some tot) = r ∧
    gdParse3Fn o none (some (lpx, lpy, lpz)) (some tot) = r ∧
    gdParse3Fn o (some (nx, ny, nz)) (some (lpx, lpy, lpz)) (some junk) = r := by
  simp only [C12_gen_parse3]
  exact HC.C12.C12_parse3_forms_agree o hnx hny hnz hx hy hz junk

/-- the first three clauses of `C12_parse2_error_iff` on the translated `parse_2d`: never a panic, never a retry; the
    answer is `MissingGridParameters` exactly when fewer than two fields are given -/
theorem C12_gen_parse2_refusals (o : Rat × Rat) (n : Option (Nat × Nat)) (lpc lens : Option (Rat × Rat)) :
    gdParse2Fn o n lpc lens ≠ .panic ∧ gdParse2Fn o n lpc lens ≠ .retry ∧
    (gdParse2Fn o n lpc lens = .err errMissingGrid ↔ HC.C12.nFields n lpc lens < 2) := by
  simp only [C12_gen_parse2]
  exact ⟨(HC.C12.C12_parse2_error_iff o n lpc lens).1, (HC.C12.C12_parse2_error_iff o n lpc lens).2.1,
    (HC.C12.C12_parse2_error_iff o n lpc lens).2.2.1⟩

/-- the hypotheses of the corollaries are satisfiable -/
example := C12_gen_parse2_forms_agree (0, 0) (nx := 3) (ny := 2) (lpx := 1) (lpy := 2)
  (by decide) (by decide) (by decide) (by decide) (5, 5)
example := C12_gen_parse3_forms_agree (0, 0, 0) (nx := 3) (ny := 2) (nz := 1) (lpx := 1) (lpy := 2) (lpz := 3)
  (by decide) (by decide) (by decide) (by decide) (by decide) (by decide) (5, 5, 5)

end HC.GenTie

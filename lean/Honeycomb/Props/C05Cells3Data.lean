/-
  C05, 3-sew on OPEN faces: the data clause under the cell-level proviso alone
  (`C05_threeSew3_vertices_far_open`): when the vertex unions of the code (`codePairs`, in the order
  of the zipped face walks) are pairwise `Far`, the kept collected identifier pairs share no
  identifier (`Disj`), hence `C05_threeSew3_vertices` applies: every kept pair ends with `merge*` of
  the two values held before the call at the smaller identifier, nothing at the other one, and
  identifiers in no kept pair keep their value.
-/
import Honeycomb.Props.C05Cells3

namespace HC.C05
open HC HC.CellCalc HC.Cell3
open HC.C04 (vStores eStores)
variable {X : Type}

/-- two collected pairs share no identifier, provided both are kept by the merge loop -/
def KeptDisj (p q : Nat × Nat) : Prop := keepPair p = true → keepPair q = true → Disj p q

theorem codePairs_cons (m : Map X) (lr : Nat × Nat) (rest : List (Nat × Nat)) :
    codePairs m (lr :: rest) = codePairs m [lr] ++ codePairs m rest := by
  unfold codePairs; simp [List.flatMap_cons]

theorem keepPair_iff (p : Nat × Nat) : keepPair p = true ↔ p.1 ≠ p.2 ∧ p.1 ≠ 0 ∧ p.2 ≠ 0 := by
  unfold keepPair; simp

theorem vidOr0_ne {m : Map X} {d v : Nat} (h : VidOr0 m d v) (hv : v ≠ 0) : d ≠ 0 ∧ IsVid3 m d v := by
  rcases h with k | ⟨_, k⟩
  · exact k
  · exact absurd k hv

/-- a kept collected pair is the identifier pair of one of the vertex unions of the code -/
theorem kept_code {m : Map X} (hwf : WF 4 m) {zs es vs : List (Nat × Nat)} (hC : Collected m.n m zs es vs)
    (hz : ∀ lr, lr ∈ zs → lr.1 ≠ 0 ∧ lr.1 < m.n ∧ lr.2 ≠ 0 ∧ lr.2 < m.n) {p : Nat × Nat} (hp : p ∈ vs)
    (hk : keepPair p = true) : ∃ x, x ∈ codePairs m zs ∧ IsVid3 m x.1 p.1 ∧ IsVid3 m x.2 p.2 := by
  obtain ⟨_, _, c3, _⟩ := collected_ids_gen hwf hC hz
  obtain ⟨lr, hm, k⟩ := c3 p hp
  obtain ⟨_, p10, p20⟩ := (keepPair_iff p).1 hk
  rcases k with ⟨a, b⟩ | ⟨c0, a, b⟩
  · obtain ⟨h0, hv⟩ := vidOr0_ne a p10
    exact ⟨(headG m lr.1, lr.2), (mem_codePairs _).2 ⟨lr, hm, Or.inl ⟨h0, rfl⟩⟩, hv, b⟩
  · obtain ⟨h0, hv⟩ := vidOr0_ne b p20
    exact ⟨(lr.1, headG m lr.2), (mem_codePairs _).2 ⟨lr, hm, Or.inr ⟨c0, h0, rfl⟩⟩, a, hv⟩

/-- **the cell-level proviso implies the identifier-level one**, on any faces -/
theorem collected_keptDisj {m : Map X} (hwf : WF 4 m) :
    ∀ {zs es vs : List (Nat × Nat)}, Collected m.n m zs es vs →
      (∀ lr, lr ∈ zs → lr.1 ≠ 0 ∧ lr.1 < m.n ∧ lr.2 ≠ 0 ∧ lr.2 < m.n) →
      (codePairs m zs).Pairwise (Far (SameCell (g3v m) m.n)) → vs.Pairwise KeptDisj := by
  intro zs es vs hC
  induction hC with
  | nil => intro _ _; exact List.Pairwise.nil
  | @cons l r rest es vs es' vs' hP hC' ih =>
      intro hz hfar
      rw [codePairs_cons] at hfar
      obtain ⟨hA, hB, hX⟩ := List.pairwise_append.1 hfar
      have hz' := fun lr hm => hz lr (List.mem_cons_of_mem _ hm)
      have hz1 : ∀ lr, lr ∈ [(l, r)] → lr.1 ≠ 0 ∧ lr.1 < m.n ∧ lr.2 ≠ 0 ∧ lr.2 < m.n :=
        fun lr hm => hz lr (by rw [List.mem_singleton.1 hm]; simp)
      have single : Collected m.n m [(l, r)] es vs := by
        have := Collected.cons hP (Collected.nil (n := m.n) (m := m))
        simpa using this
      refine List.pairwise_append.2 ⟨?_, ih hz' hB, ?_⟩
      · -- the (at most two) pairs of one step
        obtain ⟨hl0, hln, hr0, hrn⟩ := hz (l, r) (by simp)
        simp only at hl0 hln hr0 hrn
        obtain ⟨el, er, v1, v2, hel, her, hv1, hv2, hes, hvs⟩ := hP
        rcases hvs with ⟨c, rfl⟩ | ⟨c, v3, v4, hv3, hv4, rfl⟩
        · exact List.pairwise_singleton _ _
        · refine List.pairwise_cons.2 ⟨fun b hb ka kb => ?_, List.pairwise_singleton _ _⟩
          have : b = (v3, v4) := by simpa using hb
          subst this
          rw [head_code_eq] at hv1 hv4
          obtain ⟨_, a10, a20⟩ := (keepPair_iff _).1 ka
          obtain ⟨_, b10, b20⟩ := (keepPair_iff _).1 kb
          simp only at a10 a20 b10 b20
          obtain ⟨hh1, s1⟩ := vidOr0_ne (vidOr0_spec hwf (headG_lt hwf hln) hv1) a10
          have s2 := (vertexId3_spec hwf hr0 hrn hv2).2
          have s3 := (vertexId3_spec hwf hl0 hln hv3).2
          obtain ⟨hh2, s4⟩ := vidOr0_ne (vidOr0_spec hwf (headG_lt hwf hrn) hv4) b20
          have cpeq : codePairs m [(l, r)] = [(headG m l, r), (l, headG m r)] := by
            unfold codePairs; simp [hh1, hh2, c]
          rw [cpeq] at hA
          have hF := (List.pairwise_cons.1 hA).1 (l, headG m r) (by simp)
          exact far_to_disj (p := (v1, v2)) (p' := (v3, v4)) hF s1 s2 s3 s4
      · intro a ha b hb ka kb
        obtain ⟨x, hx, x1, x2⟩ := kept_code hwf single hz1 ha ka
        obtain ⟨y, hy, y1, y2⟩ := kept_code hwf hC' hz' hb kb
        exact far_to_disj (p := a) (p' := b) (hX x hx y hy) x1 x2 y1 y2

/-- **C05 (3-sew on open faces, vertices) under the cell-level proviso alone**: the vertex unions of
    the code, in the order of its zipped face walks, are pairwise `Far` — then the kept collected
    pairs share no identifier and every kept pair ends with `merge*` of the two values held before
    the call at the smaller identifier (which is the smallest dart of the united cell:
    `C05_threeSew3_cells_open`), nothing at the other one; identifiers in no kept pair keep their
    value -/
theorem C05_threeSew3_vertices_far_open (cfg : Cfg X) (m m' : Map X) (ld rd : Nat) (u : Unit)
    (hwf : WF 4 m) (hl : C02.InUse m ld) (hr : C02.InUse m rd) (hne : ld ≠ rd) (hfc : m.fc = 0)
    (hopen : ∃ t, it m 1 t ld = 0)
    (h : run (threeSew3 cfg m.n ld rd) m = (.ok u, m')) :
    ∃ F B lo ro es vs,
      OpenPair m ld rd F B ∧ run (faceOrbits3 m.n ld rd) m = (.ok (lo, ro), m) ∧
      (∀ pq, pq ∈ lo.zip ro ↔ pq ∈ openPairs m ld rd F B) ∧ Collected m.n m (lo.zip ro) es vs ∧
      ((codePairs m (lo.zip ro)).Pairwise (Far (SameCell (g3v m) m.n)) →
        (vs.filter keepPair).Pairwise Disj ∧
        (∀ p, p ∈ vs.filter keepPair → ∀ t, t ∈ vStores cfg →
          ∃ v, mergeVal (cfg.law t) (m.att t p.1) (m.att t p.2) = .ok v ∧
            m'.att t (min p.1 p.2) = some v ∧ m'.att t (max p.1 p.2) = none) ∧
        (∀ t e, t ∈ vStores cfg → (∀ p, p ∈ vs.filter keepPair → e ≠ p.1 ∧ e ≠ p.2) →
          m'.att t e = m.att t e)) := by
  obtain ⟨F, B, m1, lo, ro, es, vs, mf, me, O, hlink, hw1, htopo, hL, hfo, hzip, _, _, _, _, _, _, hC, _⟩ :=
    C05_threeSew3_cells_open cfg m m' ld rd u hwf hl hr hne hfc hopen h
  obtain ⟨lo', ro', es', vs', hfo', hC', hdata⟩ := C05_threeSew3_vertices cfg m.n ld rd m m' u hfc h
  have e := run_ok_inj hfo hfo'
  simp only [Prod.mk.injEq] at e
  obtain ⟨rfl, rfl⟩ := e
  obtain ⟨rfl, rfl⟩ := collected_det hC hC'
  refine ⟨F, B, lo, ro, es, vs, O, hfo, hzip, hC, fun hfar => ?_⟩
  have hz : ∀ lr, lr ∈ lo.zip ro → lr.1 ≠ 0 ∧ lr.1 < m.n ∧ lr.2 ≠ 0 ∧ lr.2 < m.n := by
    intro lr hm
    obtain ⟨_, _, _, _, a5, a6, a7, a8⟩ := hL.pairs lr ((hzip lr).1 hm)
    exact ⟨a5, a7, a6, a8⟩
  have hK := (collected_keptDisj hwf hC hz hfar).filter keepPair
  have hD : (vs.filter keepPair).Pairwise Disj :=
    List.Pairwise.imp_of_mem (fun {a b} ha hb hab => hab (List.mem_filter.1 ha).2 (List.mem_filter.1 hb).2) hK
  obtain ⟨d1, d2⟩ := hdata hD
  exact ⟨hD, d1, d2⟩


/-! ## non-vacuity -/

/-- the two open chains of `exChains`, 3-sewn along `(2, 5)`: the code visits `(2, 5), (3, 4), (1, 6)`
    and unites the vertices `3 — 5` and `2 — 6`, four different vertices -/
example :=
  have ⟨wf, l, r, op, ok⟩ := exChains_facts
  C05_threeSew3_vertices_far_open plainCfg exChains (run (threeSew3 plainCfg exChains.n 2 5) exChains).2 2 5 ()
    wf l r (by decide) rfl ⟨2, op⟩ (run_of_fst ok)
example : codePairs exChains ((bfsPure (gIJ exChains 1 0) (exChains.n + 1) [2] [0, 2] []).zip
    (bfsPure (gIJ exChains 0 1) (exChains.n + 1) [5] [0, 5] [])) = [(3, 5), (2, 6)] := by decide +kernel
example : [((3 : Nat), (5 : Nat)), (2, 6)].Pairwise (Far (SameCell (g3v exChains) exChains.n)) :=
  pairwise_far_of_cellId3 exChains_facts.1 rfl (by decide +kernel) (by decide +kernel)

/-- the open glued faces of the cut tetrahedra, sewn again from the middle dart -/
example :=
  have ⟨wf, l, r, fc, op, ok, _⟩ := exTetsCut_facts.2
  C05_threeSew3_vertices_far_open plainCfg exTetsCutOpen
    (run (threeSew3 plainCfg exTetsCutOpen.n 2 13) exTetsCutOpen).2 2 13 () wf l r (by decide) fc ⟨2, op⟩
    (run_of_fst ok)
/-- (there the proviso does NOT hold: the head of the last dart 3 and the first dart 1 are the same
    vertex of the tetrahedron, which takes part in two unions — the data clause is not claimed) -/
example : C03.cellId3 exTetsCutOpen .vertex 4 = C03.cellId3 exTetsCutOpen .vertex 1 :=
  exTetsCut_facts.2.2.2.2.2.2.2

end HC.C05

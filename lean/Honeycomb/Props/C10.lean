/-
  C10 — building from cmap text yields a well-formed map or an error.

  Since the loader fix 7170072 (`build_2d_from_cmap_file` validates the map it builds) the
  property HOLDS of the model of the code:

  * `C10_build_wf_or_error` / `C10_load_wf_or_error`: for EVERY parsed file `cf` (every text whose
    section layout is accepted by `parseFile`, any size), `build ns cf` is `.err _`, or `.ok m`
    with `WF 3 m` and `Agrees cf m` — the number of darts, every β image (null-dart column
    included: the token written for `β_i(d)` is a numeral denoting the stored image), the removal
    flags (exactly the ids named in `[UNUSED]`), and the vertex storage (the lines of
    `[VERTICES]` applied in order, the last line naming an id wins; every line names an existing,
    non-null, not removed dart).  `C10_load_never_panics`: `load` never returns `panic`.
  * the former negation witnesses D5a–D5g are kept as `example`s: each of those files is now
    REJECTED with `InconsistentData`.
-/
import Honeycomb.Lemmas.CmapText

namespace HC.C10
open HC HC.CmapText

/-! ## what "agrees with the text" means -/

/-- the token written for `β_i(d)` in a parsed file -/
def rowTok (cf : CFile) (i d : Nat) : String := (cf.betas.getD i []).getD d ""

/-- tokens / ids of the `[UNUSED]` section -/
def unusedToks (cf : CFile) : List String := (cf.unused.getD []).flatten
def unusedIds (cf : CFile) : List Nat := (unusedToks cf).map fun t => (parseU32 t).getD 0

structure Agrees (cf : CFile) (m : Map Val) : Prop where
  n : m.n = cf.nd + 1
  /-- every image, null-dart column included, is the one written in the text -/
  β : ∀ i, i < 3 → ∀ d, d < cf.nd + 1 → parseU32 (rowTok cf i d) = some (m.β i d)
  /-- the removed darts are exactly the ids named in `[UNUSED]` (all numerals) -/
  unusedNum : ∀ t ∈ unusedToks cf, (parseU32 t).isSome = true
  unused : ∀ d, m.unused d = decide (d ∈ unusedIds cf)
  /-- vertex storage = the `[VERTICES]` lines applied in order (last line wins) -/
  vertex : ∀ e, m.att 0 e = applyLines (cf.vertices.getD []) (fun _ => none) e
  /-- every vertex line is well formed and names an existing, non-null, not removed dart -/
  vertexLines : ∀ l ∈ cf.vertices.getD [], ∃ v, parseVertexLine l = .ok v ∧ v.1 ≠ 0 ∧ v.1 < m.n ∧
    m.unused v.1 = false

/-! ## the property -/

theorem C10_build_wf_or_error (ns : Nat) (hns : 0 < ns) (cf : CFile) :
    (∃ e, build ns cf = .err e) ∨ (∃ m, build ns cf = .ok m ∧ WF 3 m ∧ Agrees cf m) := by
  unfold build
  split
  · exact .inl ⟨_, rfl⟩
  split
  rotate_left
  · exact .inl ⟨_, rfl⟩
  rename_i l0 l1 l2 hb
  split
  · exact .inl ⟨_, rfl⟩
  split
  · exact .inl ⟨_, rfl⟩
  split
  · exact .inl ⟨_, rfl⟩
  rename_i h0' h1' h2'
  have h0 : l0.length = cf.nd + 1 := by omega
  have h1 : l1.length = cf.nd + 1 := by omega
  have h2 : l2.length = cf.nd + 1 := by omega
  split
  · exact .inl ⟨_, rfl⟩
  rename_i rows hr
  unfold buildRows
  by_cases hnull' : ¬ (nullOK (tbl rows) = true)
  · exact .inl ⟨errInconsistent 4, by simp [hnull']⟩
  have hnull : nullOK (tbl rows) = true := Classical.not_not.mp hnull'
  by_cases hrange' : ¬ (rangeOK (tbl rows) (cf.nd + 1) = true)
  · exact .inl ⟨errInconsistent 5, by simp [hnull, hrange']⟩
  have hrange : rangeOK (tbl rows) (cf.nd + 1) = true := Classical.not_not.mp hrange'
  simp only [hnull, hrange, Bool.not_true, Bool.false_eq_true, if_false]
  cases hchk : (List.range' 1 cf.nd).findSome? (dartCheck (tbl rows)) with
  | some e => exact .inl ⟨e, rfl⟩
  | none =>
    simp only
    unfold buildMap
    -- the table and what the checks say about it
    let T := tbl rows
    have hinv := parseRows_inv l0 l1 l2 rows hr (h0.trans h1.symm) (h1.trans h2.symm)
    have hg0 : ∀ e, rowTok cf 0 e = l0.getD e "" := fun e => by unfold rowTok; rw [hb]; rfl
    have hg1 : ∀ e, rowTok cf 1 e = l1.getD e "" := fun e => by unfold rowTok; rw [hb]; rfl
    have hg2 : ∀ e, rowTok cf 2 e = l2.getD e "" := fun e => by unfold rowTok; rw [hb]; rfl
    have htok : ∀ i, i < 3 → ∀ e, e < cf.nd + 1 → parseU32 (rowTok cf i e) = some (T i e) := by
      intro i hi e he
      obtain ⟨a, b, c⟩ := hinv e (by rw [h0]; exact he)
      match i, hi with
      | 0, _ => rw [hg0]; exact a
      | 1, _ => rw [hg1]; exact b
      | 2, _ => rw [hg2]; exact c
    have hT0 : ∀ i, i < 3 → T i 0 = 0 := (nullOK_iff T).1 hnull
    have hTr : ∀ i, i < 3 → ∀ d, d < cf.nd + 1 → T i d < cf.nd + 1 := (rangeOK_iff T _).1 hrange
    have hTc : ∀ d, 1 ≤ d → d < cf.nd + 1 → dartCheck T d = none := by
      intro d hd1 hd2
      exact (List.findSome?_eq_none_iff.mp hchk) d (List.mem_range'_1.mpr ⟨hd1, by omega⟩)
    have hTinv : ∀ d, d < cf.nd + 1 → (T 1 d ≠ 0 → T 0 (T 1 d) = d) ∧ (T 0 d ≠ 0 → T 1 (T 0 d) = d) ∧
        (T 2 d ≠ 0 → T 2 (T 2 d) = d ∧ T 2 d ≠ d) := by
      intro d hd'
      by_cases hz : d = 0
      · subst hz
        rw [hT0 0 (by omega), hT0 1 (by omega), hT0 2 (by omega)]
        exact ⟨fun h => absurd rfl h, fun h => absurd rfl h, fun h => absurd rfl h⟩
      · exact (dartCheck_eq_none T d).1 (hTc d (by omega) hd')
    -- the β loop always succeeds
    obtain ⟨m1, hrun1, hs1, hn1', ha1, hβ1', hun1, hatt1⟩ := setLoop_empty T ns cf.nd hT0
    rw [show setLoop (tbl rows) (List.range' 1 cf.nd) (Map.empty 3 ns (cf.nd + 1)) = .ok m1 from hrun1]
    simp only
    -- the unused loop: error or success, never panic
    rcases unusedLoop_total ((cf.unused.getD []).flatten) m1 hs1 with
      ⟨e, he⟩ | ⟨m2, hrun2, hs2, hn2, hb2, ha2, hfl2, hfr2, hnum2⟩
    · exact .inl ⟨e, by rw [he]⟩
    rw [hrun2]
    simp only
    have ha0 : 0 < m2.a.size := by rw [ha2, ha1]; exact hns
    rcases verticesLoop_total (cf.vertices.getD []) m2 hs2 ha0 with
      ⟨e, he⟩ | ⟨m3, hrun3, hs3, _, hn3, hb3, hu3, hatt3, _, hall3⟩
    · exact .inl ⟨e, he⟩
    refine .inr ⟨m3, hrun3, ?_, ?_⟩
    · have hn3' : m3.n = cf.nd + 1 := hn3.trans (hn2.trans hn1')
      have hβ : ∀ i, i < 3 → ∀ d, d < cf.nd + 1 → m3.β i d = T i d := by
        intro i hi d hd'
        show rd (rd m3.b i) d = _
        rw [hb3, hb2]
        exact hβ1' i hi d hd'
      refine ⟨hs3, ?_⟩
      constructor
      · intro i hi
        rw [hβ i hi 0 (by omega)]; exact hT0 i hi
      · intro i hi d hd'
        rw [hn3'] at hd' ⊢
        rw [hβ i hi d hd']; exact hTr i hi d hd'
      · intro d hd' h
        rw [hn3'] at hd'
        rw [hβ 1 (by omega) d hd'] at h ⊢
        rw [hβ 0 (by omega) _ (hTr 1 (by omega) d hd')]
        exact (hTinv d hd').1 h
      · intro d hd' h
        rw [hn3'] at hd'
        rw [hβ 0 (by omega) d hd'] at h ⊢
        rw [hβ 1 (by omega) _ (hTr 0 (by omega) d hd')]
        exact (hTinv d hd').2.1 h
      · intro i hi h2' d hd' h
        have hi2 : i = 2 := by omega
        subst hi2
        rw [hn3'] at hd'
        rw [hβ 2 (by omega) d hd'] at h ⊢
        rw [hβ 2 (by omega) _ (hTr 2 (by omega) d hd')]
        exact (hTinv d hd').2.2 h
      · intro d hd' hu i hi
        have hu2 : m2.unused d = true := by
          have : m3.unused d = m2.unused d := by show rd m3.u d = rd m2.u d; rw [hu3]
          rw [← this]; exact hu
        rcases hfr2 d hu2 with h | ⟨_, _, hfree⟩
        · rw [hun1 d] at h; cases h
        · have : m3.β i d = m1.β i d := by show rd (rd m3.b i) d = rd (rd m1.b i) d; rw [hb3, hb2]
          rw [this]
          exact (isFree3_iff m1 d).1 hfree i hi
    · have hn3' : m3.n = cf.nd + 1 := hn3.trans (hn2.trans hn1')
      refine ⟨hn3', ?_, hnum2, ?_, ?_, ?_⟩
      · intro i hi d hd'
        rw [htok i hi d hd']
        congr 1
        show T i d = rd (rd m3.b i) d
        rw [hb3, hb2]
        exact (hβ1' i hi d hd').symm
      · intro d
        show rd m3.u d = _
        rw [hu3]
        show m2.unused d = _
        rw [hfl2 d, hun1 d, Bool.false_or]
        rfl
      · intro e
        rw [hatt3 e]
        have : m2.att 0 = fun _ => none := by
          funext x
          show rd (rd m2.a 0) x = none
          rw [ha2]; exact hatt1 0 x
        rw [this]
      · intro l hl
        obtain ⟨v, a, b, c, d⟩ := hall3 l hl
        refine ⟨v, a, b, by rw [hn3, ]; exact c, ?_⟩
        show rd m3.u v.1 = false
        rw [hu3]; exact d

/-- **C10**: every text whose section layout is accepted is rejected with a `BuilderError` or
    built into a well-formed 2-map that agrees with the text -/
theorem C10_load_wf_or_error (ns : Nat) (hns : 0 < ns) (f : List Line) (cf : CFile)
    (hp : parseFile f = .ok cf) :
    (∃ e, load ns f = .err e) ∨ (∃ m, load ns f = .ok m ∧ WF 3 m ∧ Agrees cf m) := by
  unfold load
  rw [hp]
  exact C10_build_wf_or_error ns hns cf

/-- no text at all makes the loader panic (rejected layouts are errors of `load`; through the
    public `from_cmap_file` they are the documented panic of the section parser) -/
theorem C10_load_never_panics (ns : Nat) (hns : 0 < ns) (f : List Line) : load ns f ≠ .panic := by
  cases hp : parseFile f with
  | error e => unfold load; rw [hp]; intro h; cases h
  | ok cf =>
    rcases C10_load_wf_or_error ns hns f cf hp with ⟨e, he⟩ | ⟨m, hm, _⟩
    · rw [he]; intro h; cases h
    · rw [hm]; intro h; cases h

/-! ## the former findings D5a–D5g: every witness file is now rejected -/

def errOf : Out Err (Map Val) → Option Err
  | .err e => some e
  | _ => none

def header (n : String) : List Line := [["[META]"], [pkgVersion, "2", n], ["[BETAS]"]]

/-- D5a: β1(3) = 9 in a 3-dart file -/
def fileRange : List Line :=
  header "3" ++ [["0", "0", "1", "0"], ["0", "2", "0", "9"], ["0", "0", "0", "0"]]
example : errOf (load 1 fileRange) = some (errInconsistent 5) := by decide +kernel

/-- D5b: β1(1) = 2 but β0(2) = 0 -/
def fileInverse : List Line :=
  header "3" ++ [["0", "0", "0", "0"], ["0", "2", "0", "0"], ["0", "0", "0", "0"]]
example : errOf (load 1 fileInverse) = some (errInconsistent 6) := by decide +kernel

/-- D5c: β2(1) = 2 but β2(2) = 0 -/
def fileBeta2 : List Line :=
  header "3" ++ [["0", "0", "0", "0"], ["0", "0", "0", "0"], ["0", "2", "0", "0"]]
example : errOf (load 1 fileBeta2) = some (errInconsistent 7) := by decide +kernel

/-- D5d: the text gives the null dart the image β1(0) = 3 / a non-numeric image -/
def fileNull : List Line :=
  header "3" ++ [["0", "0", "0", "0"], ["3", "0", "0", "0"], ["0", "0", "0", "0"]]
example : errOf (load 1 fileNull) = some (errInconsistent 4) := by decide +kernel
def fileNullX : List Line :=
  header "3" ++ [["0", "0", "0", "0"], ["x", "0", "0", "0"], ["0", "0", "0", "0"]]
example : errOf (load 1 fileNullX) = some (errBadValue 1) := by decide +kernel

/-- D5e: a linked dart / a repeated id in `[UNUSED]` -/
def fileUnusedLinked : List Line :=
  header "3" ++ [["0", "0", "1", "0"], ["0", "2", "0", "0"], ["0", "0", "0", "0"], ["[UNUSED]"], ["1"]]
example : errOf (load 1 fileUnusedLinked) = some (errInconsistent 8) := by decide +kernel
def fileUnusedRepeated : List Line :=
  header "3" ++ [["0", "0", "0", "0"], ["0", "0", "0", "0"], ["0", "0", "0", "0"], ["[UNUSED]"], ["3", "3"]]
example : errOf (load 1 fileUnusedRepeated) = some (errInconsistent 8) := by decide +kernel

/-- D5f: ids `≥ n_darts` -/
def fileUnusedRange : List Line :=
  header "3" ++ [["0", "0", "0", "0"], ["0", "0", "0", "0"], ["0", "0", "0", "0"], ["[UNUSED]"], ["4"]]
example : errOf (load 1 fileUnusedRange) = some (errInconsistent 8) := by decide +kernel
def fileVertexRange : List Line :=
  header "3" ++ [["0", "0", "0", "0"], ["0", "0", "0", "0"], ["0", "0", "0", "0"], ["[VERTICES]"],
    ["4", "0", "0"]]
example : errOf (load 1 fileVertexRange) = some (errInconsistent 9) := by decide +kernel

/-- D5g: a vertex line for a removed dart / for the null dart -/
def fileVertexMissing : List Line :=
  header "3" ++ [["0", "0", "0", "0"], ["0", "0", "0", "0"], ["0", "0", "0", "0"], ["[UNUSED]"], ["3"],
    ["[VERTICES]"], ["3", "1", "1"]]
example : errOf (load 1 fileVertexMissing) = some (errInconsistent 9) := by decide +kernel
def fileVertexNull : List Line :=
  header "3" ++ [["0", "0", "0", "0"], ["0", "0", "0", "0"], ["0", "0", "0", "0"],
    ["[VERTICES]"], ["0", "2", "2"]]
example : errOf (load 1 fileVertexNull) = some (errInconsistent 9) := by decide +kernel

/-! ## non-vacuity: the `ok` branch is inhabited — a file with links, a β2 pair, a removed dart,
    comments, `+` / leading-zero numerals, decimal coordinates and a repeated vertex id loads -/

def fileGood : List Line :=
  [["#", "example"], ["[meta]"], [pkgVersion, "2"], ["5", "#", "darts"], [],
   ["[BETAS]"], ["0", "0", "1", "0", "0", "0"], ["0", "+2", "0", "0", "0", "0"], ["0", "0", "0", "04", "3", "0#x"],
   ["[VERTICES]"], ["1", "0.25", "-2"], ["3", "1e1", "-5/8"], ["1", "7", "7"],
   ["[UNUSED]"], ["5"]]

def okMap : Out Err (Map Val) → Option (Map Val)
  | .ok m => some m
  | _ => none

theorem ok_of_checks {o : Out Err (Map Val)} {P Q : Map Val → Prop} [DecidablePred P] [DecidablePred Q]
    (h : ((okMap o).map fun m => decide (P m) && decide (Q m)) = some true) : ∃ m, o = .ok m ∧ P m ∧ Q m := by
  cases o with
  | ok m =>
    injection h with h
    rw [Bool.and_eq_true] at h
    exact ⟨m, rfl, of_decide_eq_true h.1, of_decide_eq_true h.2⟩
  | _ => cases h

theorem fileGood_load : ∃ m, load 1 fileGood = .ok m ∧
    (m.n, m.β 1 1, m.β 0 2, m.β 2 3, m.β 2 4, m.unused 5) = (6, 2, 1, 4, 3, true) ∧
    (m.att 0 1, m.att 0 2) = (some (.pt 7 7 0), none) :=
  ok_of_checks (by decide +kernel)

example : ((okMap (load 1 fileGood)).map fun m => (m.n, m.β 1 1, m.β 0 2, m.β 2 3, m.β 2 4, m.unused 5)) =
    some (6, 2, 1, 4, 3, true) := by
  obtain ⟨m, hm, h1, _⟩ := fileGood_load
  rw [hm]
  exact congrArg some h1

example : ((okMap (load 1 fileGood)).map fun m => (m.att 0 1, m.att 0 2)) =
    some (some (.pt 7 7 0), none) := by
  obtain ⟨m, hm, _, h2⟩ := fileGood_load
  rw [hm]
  exact congrArg some h2

example : ∃ cf m, parseFile fileGood = .ok cf ∧ load 1 fileGood = .ok m ∧ WF 3 m ∧ Agrees cf m := by
  obtain ⟨m, hm, _⟩ := fileGood_load
  obtain ⟨cf, hp⟩ := parseFile_of_load_ok hm
  rcases C10_load_wf_or_error 1 (by decide) fileGood cf hp with ⟨e, he⟩ | ⟨m', hm', hw, ha⟩
  · rw [he] at hm; cases hm
  · exact ⟨cf, m', hp, hm', hw, ha⟩

end HC.C10

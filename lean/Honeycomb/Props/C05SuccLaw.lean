/-
  C05 — unsews with ARBITRARY attribute laws (user storages whose `split` can fail).

  Running the code forward: `oneUnlink3_run`, `threeUnlink3_run` (on a well-formed mirrored map whose
  faces are 3-linked as a whole and not to themselves the unlinks return `Ok`: every check of the walk
  of `three_unlink` passes, the fuel `n + 1` suffices), `vid_run` / `eid_run` (the identifiers are
  total and are the cell minima).

  Outcomes of an unsew, per storage law:
  * `forM_split_run`: a `split_attributes` over a list of storages returns `Ok` as soon as every law
    call succeeds on the value found at the identifier split from (no law is called when the two
    output identifiers coincide: the value only moves); `forM_split_err`: if one law call fails the
    loop returns that storage's error (the storages before it already written: the enclosing
    transaction aborts and nothing is committed — C06).
  * `C05_oneUnsew3_succeeds_law`, `C05_twoUnsew3_succeeds_law`, `C05_threeUnsew3_succeeds_law`: the
    success case with the split laws as parameters: on a well-formed mirrored map the 1-unsew (2-unsew
    and 3-unsew on closed faces, under the property's proviso) returns `Ok` when every vertex (edge,
    face) storage law splits the value held at the old cell identifier — the cell minimum, in the map
    BEFORE the call, that the `*_cells` theorems identify; the result is then described at cell level
    by `C05_oneUnsew3_cells` / `C05_twoUnsew3_cells` / `C05_threeUnsew3_cells` + `unsewn_cells`
    (`SplitIn`: the two new identifiers hold the two halves of `split` of the old value, in every
    storage).  Under the proviso no law call reads a value written earlier in the same call
    (`unsewLoop_run_law`), which is why a hypothesis on the starting map suffices;
    `threeUnsew3_succeeds_gen` asks for the proviso on the edges only when some storage is bound to edges.
    Conversely an `Ok` run implies that every law call made succeeded (`SplitIn.split`), and the
    examples show the refusal (`InsufficientData`) when a default law meets an undefined value.
-/
import Honeycomb.Props.C05Cells2
import Honeycomb.Props.C03b

namespace HC.C05
open HC HC.CellCalc HC.Cell3
open HC.C04 (vStores eStores)
variable {X : Type}

/-! ## running programs forward -/

/-- the 3-D `one_unlink` succeeds on a 1-linked dart of a mirrored map, unless the dart is 3-linked
    to its own successor -/
theorem oneUnlink3_run {l : Nat} {m : Map X} (hw : WF 4 m) (hM : Mirror m) (hln : l < m.n)
    (hne : m.β 1 l ≠ 0) (hadj : m.β 3 l ≠ m.β 1 l) :
    ∃ m1, run (oneUnlink3 (X := X) l) m = (.ok (), m1) := by
  have hrn : m.β 1 l < m.n := hw.range 1 (by omega) l hln
  have ok : ∀ i x, i < 4 → x < m.n → m.okβ i x = true := fun i x hi hx => hw.okβ_of_lt hi hx
  have hw1 : WF 4 (m.unlink1 l) := hw.unlink1 (by omega) hln hne
  have ok1 : ∀ i x, i < 4 → x < m.n → (m.unlink1 l).okβ i x = true := fun i x hi hx => hw1.okβ_of_lt hi hx
  have ho1 : Only01 m (m.unlink1 l) := Only01.unlink1 hw hln
  have e3 : ∀ x, (m.unlink1 l).β 3 x = m.β 3 x := fun x => ho1.β 3 x (by omega)
  have eβ := hw.toSized.β_unlink1 (by omega) hln hrn
  have e1 : ∀ x, (m.unlink1 l).β 1 x = if l = x then 0 else m.β 1 x := by intro x; rw [eβ]; simp
  unfold oneUnlink3
  simp only [bind, run_rB, ok 1 l (by omega) hln, if_true]
  rw [run_bind_of_ok (oneUnlinkCore_run (ok 1 l (by omega) hln) hne (ok 0 _ (by omega) hrn))]
  simp only [run_rB, ok1 3 l (by omega) hln, ok1 3 _ (by omega) hrn, if_true, e3]
  by_cases hc : m.β 3 l ≠ 0 ∧ m.β 3 (m.β 1 l) ≠ 0
  · rw [if_pos hc]
    have hbn : m.β 3 (m.β 1 l) < m.n := hw.range 3 (by omega) _ hrn
    simp only [run_rB, ok1 1 _ (by omega) hbn, if_true]
    -- the mirror condition: β1 (β3 r) = β3 l
    have hmir : m.β 1 (m.β 3 (m.β 1 l)) = m.β 3 l := hM l hln hne hc.1 hc.2
    have hbl : ¬ l = m.β 3 (m.β 1 l) := by
      intro hh
      -- β3 r = l ⇒ β3 l = r
      have := invol_back hw (i := 3) (by omega) (by omega) hrn hc.2
      rw [← hh] at this
      exact hadj this
    have hx : (m.unlink1 l).β 1 (m.β 3 (m.β 1 l)) = m.β 3 l := by rw [e1, if_neg hbl, hmir]
    rw [hx]
    simp only [ne_eq, not_true_eq_false, if_false]
    exact ⟨_, oneUnlinkCore_run (ok1 1 _ (by omega) hbn) (by rw [hx]; exact hc.1)
      (by rw [hx]; exact ok1 0 _ (by omega) (hw.range 3 (by omega) l hln))⟩
  · rw [if_neg hc]
    exact ⟨_, rfl⟩

/-! ## identifiers: total, and cell minima -/

theorem vid_run {m : Map X} (h : WF 4 m) {n d : Nat} (hn : n = m.n) (hd0 : d ≠ 0) (hd : d < m.n) :
    ∃ v, run (vertexId3 (X := X) n d) m = (.ok v, m) ∧ IsVid3 m d v ∧ v ≠ 0 ∧ v < m.n := by
  subst hn
  have hr := (C03.C03_vertexId3_min h hd0 hd).1
  have hs := (vertexId3_spec h hd0 hd hr).2
  exact ⟨_, hr, hs, (sameCell_ne_zero h hd0 hd hs.1).1, (sameCell_ne_zero h hd0 hd hs.1).2⟩

theorem eid_run {m : Map X} (h : WF 4 m) {n d : Nat} (hn : n = m.n) (hd0 : d ≠ 0) (hd : d < m.n) :
    ∃ v, run (edgeId3 (X := X) n d) m = (.ok v, m) ∧ IsEid3 m d v := by
  subst hn
  have hr := (C03.C03_edgeId3_min h hd0 hd).1
  exact ⟨_, hr, (edgeId3_spec h hd0 hd hr).2⟩

/-- the old vertex partition of a 2-unlinked map: the new one with `l — β1 r`, `r — β1 l` united -/
theorem twoUnlink_cells {m : Map X} (hwf : WF 4 m) {l : Nat} (hl0 : l ≠ 0) (hln : l < m.n)
    (hne : m.β 2 l ≠ 0) (hbl : m.β 1 l ≠ 0) (hbr : m.β 1 (m.β 2 l) ≠ 0) (d e : Nat) :
    SameCell (g3v m) m.n d e ↔
      Glue (SameCell (g3v (m.unlinkI 2 l)) m.n) [(l, m.β 1 (m.β 2 l)), (m.β 2 l, m.β 1 l)] d e := by
  have h1 : ∀ e, (m.unlinkI 2 l).β 1 e = m.β 1 e := fun e => by
    rw [hwf.toSized.β_unlinkI (i := 2) (by omega) hln (hwf.range 2 (by omega) l hln)]
    simp
  have := (cells_unlink2 hwf hl0 hln hne).1 d e
  rw [pairsV2_both (by rw [h1]; exact hbl) (by rw [h1]; exact hbr), h1, h1] at this
  exact this

theorem zip_pairwise_fst : ∀ {l l' : List Nat}, l.Nodup → (l.zip l').Pairwise (fun x y => x.1 ≠ y.1) := by
  intro l
  induction l with
  | nil => intro l' _; simp
  | cons a t ih =>
      intro l' hn
      cases l' with
      | nil => simp
      | cons b t' =>
          have hc := List.nodup_cons.1 hn
          simp only [List.zip_cons_cons, List.pairwise_cons]
          refine ⟨?_, ih hc.2⟩
          intro y hy hh
          exact hc.1 (by rw [show a = y.1 from hh]; exact (List.of_mem_zip hy).1)

/-- the proviso on the vertices united along a face, in the order of the zipped walks of the code: the pairs
    `(β1 l, r)` of the zip are pairwise `Far` when those of a list holding the zip are (the left walk has no
    repetition, and `β1` is injective on sewn darts) -/
theorem zip_pairwise_far {m : Map X} (hwf : WF 4 m) {R : Nat → Nat → Prop} (hR : Equivalence R) {lo ro : List Nat}
    {ps : List (Nat × Nat)} (hlond : lo.Nodup) (hzip : ∀ pq, pq ∈ lo.zip ro → pq ∈ ps)
    (hhead : ∀ lr, lr ∈ ps → lr.1 < m.n ∧ m.β 1 lr.1 ≠ 0) (hfar : (pairsA m ps).Pairwise (Far R)) :
    (pairsA m (lo.zip ro)).Pairwise (Far R) := by
  unfold pairsA
  rw [List.pairwise_map]
  refine List.Pairwise.imp_of_mem (fun {x y} hx hy hxy => ?_) (zip_pairwise_fst hlond)
  have hx' := hzip x hx
  have hy' := hzip y hy
  have mx : (m.β 1 x.1, x.2) ∈ pairsA m ps := List.mem_map.2 ⟨x, hx', rfl⟩
  have my : (m.β 1 y.1, y.2) ∈ pairsA m ps := List.mem_map.2 ⟨y, hy', rfl⟩
  rcases pairwise_mem hfar mx my with k | k | k
  · exfalso
    have e : m.β 1 x.1 = m.β 1 y.1 := (Prod.mk.inj k).1
    have a := hwf.inv01 x.1 (hhead x hx').1 (hhead x hx').2
    have b := hwf.inv01 y.1 (hhead y hy').1 (hhead y hy').2
    rw [e, b] at a
    exact hxy a.symm
  · exact k
  · exact k.symm hR


theorem far_ids {R : Nat → Nat → Prop} (hR : Equivalence R) {p q p' q' : Nat} (hfar : Far R (p, q) (p', q'))
    {a b a' b' : Nat} (h1 : IsMinOf R p a) (h2 : IsMinOf R q b) (h1' : IsMinOf R p' a')
    (h2' : IsMinOf R q' b') : a ≠ a' ∧ a ≠ b' ∧ b ≠ a' ∧ b ≠ b' := by
  have key : ∀ p q v w, IsMinOf R p v → IsMinOf R q w → v = w → R p q :=
    fun p q v w hv hw e => hR.trans hv.1 (by rw [e]; exact hR.symm hw.1)
  exact ⟨fun e => hfar.1 (key _ _ _ _ h1 h1' e), fun e => hfar.2.1 (key _ _ _ _ h1 h2' e),
    fun e => hfar.2.2.1 (key _ _ _ _ h2 h1' e), fun e => hfar.2.2.2 (key _ _ _ _ h2 h2' e)⟩

theorem far_to_disj {m : Map X} {a b a' b' : Nat} {p p' : Nat × Nat}
    (hfar : Far (SameCell (g3v m) m.n) (a, b) (a', b'))
    (h1 : IsVid3 m a p.1) (h2 : IsVid3 m b p.2) (h1' : IsVid3 m a' p'.1) (h2' : IsVid3 m b' p'.2) :
    Disj p p' :=
  far_ids (sameCell_equiv (g3v m) m.n) hfar h1 h2 h1' h2'

/-! ## `three_unlink` succeeds -/

/-- the walk of `three_unlink` is total on a stretch of `k` linked pairs of distinct darts -/
theorem unlinkWalk_run {ld rd stop : Nat} :
    ∀ (k f ls rs : Nat) (s : Map X), WF 4 s → k < f → ls < s.n → rs < s.n →
      (∀ t, t < k → it s 1 t ls ≠ stop ∧ it s 1 t ls ≠ 0 ∧ s.β 3 (it s 0 t rs) = it s 1 t ls) →
      (∀ t t', t < t' → t' < k → it s 1 t ls ≠ it s 1 t' ls ∧ it s 1 t ls ≠ it s 0 t' rs) →
      (it s 1 k ls = stop ∨ it s 1 k ls = 0) →
      ∃ s', run (threeUnlinkWalk (X := X) ld rd stop 1 0 false f ls rs) s =
        (.ok (it s 1 k ls, it s 0 k rs), s') := by
  intro k
  induction k with
  | zero =>
      intro f ls rs s hw hf hlsn hrsn _ _ hend
      cases f with
      | zero => omega
      | succ f =>
          unfold threeUnlinkWalk
          have : ¬ (ls ≠ stop ∧ ls ≠ 0) := by
            intro hh
            rcases hend with k | k
            · exact hh.1 k
            · exact hh.2 k
          rw [if_neg this]
          exact ⟨s, rfl⟩
  | succ k ih =>
      intro f ls rs s hw hf hlsn hrsn hp hd hend
      cases f with
      | zero => omega
      | succ f =>
          obtain ⟨p1, p2, p3⟩ := hp 0 (by omega)
          simp only [it_zero] at p1 p2 p3
          have ok : ∀ i x, i < 4 → x < s.n → s.okβ i x = true := fun i x hi hx => hw.okβ_of_lt hi hx
          have h3 : s.β 3 ls = rs := by
            have := invol_back hw (i := 3) (by omega) (by omega) hrsn (by rw [p3]; exact p2)
            rw [p3] at this; exact this
          have hne : s.β 3 ls ≠ 0 := by
            rw [h3]; intro hh; apply p2; rw [← p3, hh]; exact hw.null 3 (by omega)
          have hw1 : WF 4 (s.unlinkI 3 ls) := hw.unlinkI (by omega) (by omega) hlsn hne
          have eβ := hw.toSized.β_unlinkI (i := 3) (by omega) hlsn (by rw [h3]; exact hrsn)
          have e1 : ∀ x, (s.unlinkI 3 ls).β 1 x = s.β 1 x := by intro x; rw [eβ]; simp
          have e0 : ∀ x, (s.unlinkI 3 ls).β 0 x = s.β 0 x := by intro x; rw [eβ]; simp
          have i1 := it_congr e1
          have i0 := it_congr e0
          have hn1 : (s.unlinkI 3 ls).n = s.n := rfl
          obtain ⟨s', hs'⟩ := ih f (s.β 1 ls) (s.β 0 rs) (s.unlinkI 3 ls) hw1 (by omega)
            (hw.range 1 (by omega) ls hlsn) (hw.range 0 (by omega) rs hrsn)
            (by
              intro t ht
              obtain ⟨q1, q2, q3⟩ := hp (t + 1) (by omega)
              obtain ⟨d1, d2⟩ := hd 0 (t + 1) (by omega) (by omega)
              simp only [it_zero] at d1 d2
              rw [i1, i0]
              refine ⟨q1, q2, ?_⟩
              show (s.unlinkI 3 ls).β 3 (it s 0 (t + 1) rs) = it s 1 (t + 1) ls
              rw [eβ, h3]
              have a1 : ¬ rs = it s 0 (t + 1) rs := by
                intro hh
                apply d1
                rw [← q3, ← hh, p3]
              have a2 : ¬ ls = it s 0 (t + 1) rs := d2
              simp only [a1, a2, and_false, if_false]
              exact q3)
            (by
              intro t t' htt ht'
              obtain ⟨d1, d2⟩ := hd (t + 1) (t' + 1) (by omega) (by omega)
              rw [i1, i1, i0]
              exact ⟨d1, d2⟩)
            (by rw [i1]; exact hend)
          refine ⟨s', ?_⟩
          unfold threeUnlinkWalk
          rw [if_pos ⟨p1, p2⟩]
          simp only [bind, run_rB, ok 3 rs (by omega) hrsn, if_true, p3, ne_eq, not_true_eq_false,
            if_false, Bool.false_eq_true, Prog.pure_eq]
          rw [run_bind_of_ok (show run (Prog.ret ls : P X Nat) s = (.ok ls, s) from rfl)]
          simp only [not_true_eq_false, if_false]
          rw [run_bind_of_ok (iUnlinkCore_run (ok 3 ls (by omega) hlsn) hne (ok 3 _ (by omega) (by rw [h3]; exact hrsn)))]
          simp only [run_rB, hw1.okβ_of_lt (i := 1) (by omega) (show ls < (s.unlinkI 3 ls).n from hlsn),
            hw1.okβ_of_lt (i := 0) (by omega) (show rs < (s.unlinkI 3 ls).n from hrsn), if_true, e1, e0]
          rw [i1, i0] at hs'
          exact hs'


/-- on a mirrored map whose faces are 3-linked as a whole (`Sided3`), every dart of a closed
    3-linked face is linked to the matching dart of the opposite face -/
theorem face_linked {m : Map X} (hw : WF 4 m) (hM : Mirror m) (hS : Sided3 m) {ld : Nat} (hln : ld < m.n)
    (hne : m.β 3 ld ≠ 0) (hclosed : ∀ t, it m 1 t ld ≠ 0) :
    ∀ t, m.β 3 (it m 1 t ld) = it m 0 t (m.β 3 ld) ∧ it m 0 t (m.β 3 ld) ≠ 0 := by
  intro t
  induction t with
  | zero => exact ⟨rfl, hne⟩
  | succ t ih =>
      obtain ⟨i1, i2⟩ := ih
      have ms := mirror_step hw hM hS (it_lt hw (i := 1) (by omega) t ld hln) (by rw [i1]; exact i2)
      rw [it_succ', it_succ', ← i1, ms.1]
      exact ⟨rfl, ms.2 (by rw [← it_succ']; exact hclosed _)⟩

/-- the face does not contain its own 3-image: no left dart is a right dart -/
theorem face_disj {m : Map X} (hw : WF 4 m) {ld : Nat} (hrn : m.β 3 ld < m.n)
    (hq : ∀ t, it m 0 t (m.β 3 ld) ≠ 0) (hnsg : ∀ t, it m 1 t ld ≠ m.β 3 ld) :
    ∀ t' t, it m 1 t ld ≠ it m 0 t' (m.β 3 ld) := by
  intro t'
  induction t' with
  | zero => exact hnsg
  | succ t' ih =>
      intro t hh
      apply ih (t + 1)
      have hqn : it m 0 t' (m.β 3 ld) < m.n := it_lt hw (i := 0) (by omega) t' _ hrn
      have := hw.inv10 _ hqn (by rw [← it_succ']; exact hq _)
      rw [it_succ', hh, it_succ', this]

theorem cyc_len_lt {m : Map X} (hw : WF 4 m) {ld L : Nat} (hln : ld < m.n) (cl : Cyc m 1 ld L)
    (hmin : ∀ t, 0 < t → t < L → it m 1 t ld ≠ ld) : L < m.n := by
  have hnd : ((List.range L).map (fun t => it m 1 t ld)).Nodup := by
    unfold List.Nodup
    rw [List.pairwise_map]
    refine List.Pairwise.imp_of_mem (fun {a b} ha hb hab => ?_) (List.pairwise_lt_range (n := L))
    intro hh
    have := Cyc.inj hw (Or.inl ⟨rfl, rfl⟩) hln cl hmin (List.mem_range.1 ha) (List.mem_range.1 hb) hh
    omega
  have := length_lt_of_nodup hw.npos hnd
    (fun x hx => by obtain ⟨t, _, rfl⟩ := List.mem_map.1 hx; exact cl.nz t)
    (fun x hx => by obtain ⟨t, _, rfl⟩ := List.mem_map.1 hx; exact it_lt hw (i := 1) (by omega) t ld hln)
  simpa using this

/-- **`three_unlink` succeeds** on a 3-linked dart of a closed face of a mirrored map whose faces are
    3-linked as a whole (`Sided3`, C02b) and not to themselves -/
theorem threeUnlink3_run {m : Map X} (hw : WF 4 m) (hM : Mirror m) (hS : Sided3 m) {ld L : Nat}
    (hln : ld < m.n) (hne : m.β 3 ld ≠ 0) (cl : Cyc m 1 ld L)
    (hmin : ∀ t, 0 < t → t < L → it m 1 t ld ≠ ld) (hnsg : ∀ t, it m 1 t ld ≠ m.β 3 ld) :
    ∃ m1, run (threeUnlink3 (X := X) m.n ld) m = (.ok (), m1) := by
  have hrn : m.β 3 ld < m.n := hw.range 3 (by omega) ld hln
  have hl0 : ld ≠ 0 := fun hh => hne (by rw [hh]; exact hw.null 3 (by omega))
  have ok : ∀ i x, i < 4 → x < m.n → m.okβ i x = true := fun i x hi hx => hw.okβ_of_lt hi hx
  have FL := face_linked hw hM hS hln hne cl.nz
  have FD := face_disj hw hrn (fun t => (FL t).2) hnsg
  have back : ∀ t, m.β 3 (it m 0 t (m.β 3 ld)) = it m 1 t ld := by
    intro t
    have := invol_back hw (i := 3) (by omega) (by omega) (it_lt hw (i := 1) (by omega) t ld hln)
      (by rw [(FL t).1]; exact (FL t).2)
    rw [(FL t).1] at this; exact this
  have hw0 : WF 4 (m.unlinkI 3 ld) := hw.unlinkI (by omega) (by omega) hln hne
  have eβ := hw.toSized.β_unlinkI (i := 3) (by omega) hln hrn
  have e1 : ∀ x, (m.unlinkI 3 ld).β 1 x = m.β 1 x := by intro x; rw [eβ]; simp
  have e0 : ∀ x, (m.unlinkI 3 ld).β 0 x = m.β 0 x := by intro x; rw [eβ]; simp
  have i1 := it_congr e1
  have i0 := it_congr e0
  have hn0 : (m.unlinkI 3 ld).n = m.n := rfl
  have hLn := cyc_len_lt hw hln cl hmin
  have hpos := cl.pos
  have sh1 : ∀ t, it m 1 t (m.β 1 ld) = it m 1 (t + 1) ld := fun t => rfl
  have sh0 : ∀ t, it m 0 t (m.β 0 (m.β 3 ld)) = it m 0 (t + 1) (m.β 3 ld) := fun t => rfl
  obtain ⟨m1, hwalk⟩ := unlinkWalk_run (X := X) (ld := ld) (rd := m.β 3 ld) (stop := ld) (L - 1) (m.n + 1)
    (m.β 1 ld) (m.β 0 (m.β 3 ld)) (m.unlinkI 3 ld) hw0 (by omega)
    (hw.range 1 (by omega) ld hln) (hw.range 0 (by omega) _ hrn)
    (by
      intro t ht
      rw [i1, i0, sh1, sh0]
      refine ⟨hmin (t + 1) (by omega) (by omega), cl.nz _, ?_⟩
      rw [eβ]
      have a1 : ¬ m.β 3 ld = it m 0 (t + 1) (m.β 3 ld) := by
        intro hh
        have := back (t + 1)
        rw [← hh, invol_back hw (by omega) (by omega) hln hne] at this
        exact hmin (t + 1) (by omega) (by omega) this.symm
      have a2 : ¬ ld = it m 0 (t + 1) (m.β 3 ld) := FD (t + 1) 0
      simp only [a1, a2, and_false, if_false]
      exact back (t + 1))
    (by
      intro t t' htt ht'
      rw [i1, i1, i0, sh1, sh1, sh0]
      refine ⟨fun hh => ?_, FD _ _⟩
      have := Cyc.inj hw (Or.inl ⟨rfl, rfl⟩) hln cl hmin (s := t + 1) (t := t' + 1) (by omega) (by omega) hh
      omega)
    (by
      left
      rw [i1, sh1, show L - 1 + 1 = L by omega]
      exact cl.per)
  have hend : it (m.unlinkI 3 ld) 1 (L - 1) (m.β 1 ld) = ld := by
    rw [i1, sh1, show L - 1 + 1 = L by omega]; exact cl.per
  rw [hend] at hwalk
  refine ⟨m1, ?_⟩
  unfold threeUnlink3
  simp only [bind, run_rB, ok 3 ld (by omega) hln, if_true]
  rw [run_bind_of_ok (iUnlinkCore_run (ok 3 ld (by omega) hln) hne (ok 3 _ (by omega) hrn))]
  simp only [run_rB, hw0.okβ_of_lt (i := 1) (by omega) (show ld < (m.unlinkI 3 ld).n from hln),
    hw0.okβ_of_lt (i := 0) (by omega) (show m.β 3 ld < (m.unlinkI 3 ld).n from hrn), if_true, e1, e0]
  rw [run_bind_of_ok hwalk]
  simp only [hl0, if_false]
  rfl


/-! ## `split_attributes` under arbitrary laws -/

/-- the law calls of a `split` over the storages `ss` at `inp` all succeed -/
def SplitOK (cfg : Cfg X) (ss : List Nat) (inp : Nat) (m : Map X) : Prop :=
  ∀ s, s ∈ ss → ∃ a b, splitVal (cfg.law s) (m.att s inp) = .ok (a, b)

/-- **`split_attributes` succeeds when every law call does** -/
theorem forM_split_run (cfg : Cfg X) (lo ro inp : Nat) :
    ∀ (ss : List Nat) (m : Map X), ss.Nodup → m.fc = 0 →
      (∀ s, s ∈ ss → m.okA s inp = true ∧ m.okA s lo = true ∧ m.okA s ro = true) →
      (lo ≠ ro → SplitOK cfg ss inp m) →
      ∃ m', run (forM_ ss (fun s => splitS cfg s lo ro inp)) m = (.ok (), m') ∧ SplitIn cfg ss lo ro inp m m' := by
  intro ss
  induction ss with
  | nil =>
      intro m _ hfc _ _
      have : run (forM_ ([] : List Nat) (fun s => splitS cfg s lo ro inp)) m = (.ok (), m) := rfl
      exact ⟨m, this, forM_split_ok cfg lo ro inp [] m m () (by simp) hfc this⟩
  | cons s rest ih =>
      intro m hnd hfc hok hsp
      obtain ⟨hi, hl, hr⟩ := hok s (by simp)
      have hstep : ∃ m1, run (splitS cfg s lo ro inp) m = (.ok (), m1) := by
        by_cases c : lo = ro
        · subst c; exact ⟨_, splitS_run_move cfg s lo inp m hi hl⟩
        · obtain ⟨a, b, hab⟩ := hsp c s (by simp)
          refine ⟨m.splitAt s lo ro inp a b, ?_⟩
          rw [splitS_run cfg s lo ro inp m hfc c hi hl hr, hab]
      obtain ⟨m1, h1⟩ := hstep
      obtain ⟨st, fc1, oth, _⟩ := splitS_step cfg s lo ro inp m m1 () hfc h1
      have hnd' := List.nodup_cons.1 hnd
      obtain ⟨m', h2, _⟩ := ih m1 hnd'.2 (by rw [fc1]; exact hfc)
        (fun t ht => by
          obtain ⟨a1, a2, a3⟩ := hok t (List.mem_cons_of_mem _ ht)
          exact ⟨by rw [st.okA]; exact a1, by rw [st.okA]; exact a2, by rw [st.okA]; exact a3⟩)
        (fun c t ht => by
          have : t ≠ s := fun hh => hnd'.1 (hh ▸ ht)
          rw [oth t inp this]
          exact hsp c t (List.mem_cons_of_mem _ ht))
      have hrun : run (forM_ (s :: rest) (fun s => splitS cfg s lo ro inp)) m = (.ok (), m') := by
        show run ((splitS cfg s lo ro inp).bind fun _ => forM_ rest (fun s => splitS cfg s lo ro inp)) m = _
        rw [run_bind_of_ok h1]; exact h2
      exact ⟨m', hrun, forM_split_ok cfg lo ro inp _ m m' () hnd hfc hrun⟩

/-- **`split_attributes` fails when one law call does**: the error of the first failing storage -/
theorem forM_split_err (cfg : Cfg X) (lo ro inp : Nat) (hlr : lo ≠ ro) :
    ∀ (ss : List Nat) (m : Map X), ss.Nodup → m.fc = 0 →
      (∀ s, s ∈ ss → m.okA s inp = true ∧ m.okA s lo = true ∧ m.okA s ro = true) →
      (∃ s, s ∈ ss ∧ ∃ e, splitVal (cfg.law s) (m.att s inp) = .error e) →
      ∃ e m', run (forM_ ss (fun s => splitS cfg s lo ro inp)) m = (.err e, m') := by
  intro ss
  induction ss with
  | nil => intro m _ _ _ h; obtain ⟨s, hs, _⟩ := h; simp at hs
  | cons s rest ih =>
      intro m hnd hfc hok hbad
      obtain ⟨hi, hl, hr⟩ := hok s (by simp)
      have hrs := splitS_run cfg s lo ro inp m hfc hlr hi hl hr
      cases hv : splitVal (cfg.law s) (m.att s inp) with
      | error e =>
          rw [hv] at hrs
          refine ⟨e, m, ?_⟩
          show run ((splitS cfg s lo ro inp).bind fun _ => forM_ rest (fun s => splitS cfg s lo ro inp)) m = _
          rw [run_bind, hrs]
      | ok ab =>
          obtain ⟨a, b⟩ := ab
          rw [hv] at hrs
          have h1 : run (splitS cfg s lo ro inp) m = (.ok (), m.splitAt s lo ro inp a b) := hrs
          obtain ⟨st, fc1, oth, _⟩ := splitS_step cfg s lo ro inp m _ () hfc h1
          have hnd' := List.nodup_cons.1 hnd
          obtain ⟨t, ht, e, he⟩ := hbad
          have hts : t ∈ rest := by
            rcases List.mem_cons.1 ht with rfl | h'
            · rw [hv] at he; cases he
            · exact h'
          have hne : t ≠ s := fun hh => hnd'.1 (hh ▸ hts)
          obtain ⟨e', m', h2⟩ := ih _ hnd'.2 (by rw [fc1]; exact hfc)
            (fun t ht => by
              obtain ⟨a1, a2, a3⟩ := hok t (List.mem_cons_of_mem _ ht)
              exact ⟨by rw [st.okA]; exact a1, by rw [st.okA]; exact a2, by rw [st.okA]; exact a3⟩)
            ⟨t, hts, e, by rw [oth t inp hne]; exact he⟩
          refine ⟨e', m', ?_⟩
          show run ((splitS cfg s lo ro inp).bind fun _ => forM_ rest (fun s => splitS cfg s lo ro inp)) m = _
          rw [run_bind_of_ok h1]; exact h2


/-- one storage: `split` returns `Ok` when its law call succeeds (or is not made) -/
theorem splitS_total (cfg : Cfg X) (s lo ro inp : Nat) (m : Map X) (hfc : m.fc = 0)
    (hi : m.okA s inp = true) (hl : m.okA s lo = true) (hr : m.okA s ro = true)
    (hsp : lo ≠ ro → ∃ a b, splitVal (cfg.law s) (m.att s inp) = .ok (a, b)) :
    ∃ m1, run (splitS cfg s lo ro inp) m = (.ok (), m1) ∧ SameTopo m m1 ∧ m1.fc = 0 ∧
      (∀ t e, t ≠ s → m1.att t e = m.att t e) ∧
      (∀ e, e ≠ lo → e ≠ ro → e ≠ inp → m1.att s e = m.att s e) := by
  have hstep : ∃ m1, run (splitS cfg s lo ro inp) m = (.ok (), m1) := by
    by_cases c : lo = ro
    · subst c; exact ⟨_, splitS_run_move cfg s lo inp m hi hl⟩
    · obtain ⟨a, b, hab⟩ := hsp c
      refine ⟨m.splitAt s lo ro inp a b, ?_⟩
      rw [splitS_run cfg s lo ro inp m hfc c hi hl hr, hab]
  obtain ⟨m1, h1⟩ := hstep
  obtain ⟨st, fc1, oth, fr, _⟩ := splitS_step cfg s lo ro inp m m1 () hfc h1
  exact ⟨m1, h1, st, by rw [fc1]; exact hfc, oth, fr⟩

/-- **C05, 1-unsew succeeds, arbitrary laws**: on a well-formed mirrored 3-map, the 1-unsew of a
    1-sewn dart not 3-linked to its own successor returns `Ok` when every vertex storage law splits
    the value held at the identifier (= cell minimum) of the vertex of `β1 l`.  The result is then
    described by `C05_oneUnsew3_cells`. -/
theorem C05_oneUnsew3_succeeds_law (cfg : Cfg X) (m : Map X) (l : Nat) (hw : WF 4 m) (hM : Mirror m)
    (hfc : m.fc = 0) (hst : ∀ t, t ∈ vStores cfg → t < m.a.size)
    (hl : C02.InUse m l) (hsewn : m.β 1 l ≠ 0) (hadj : m.β 3 l ≠ m.β 1 l)
    (hsplit : ∀ v, IsVid3 m (m.β 1 l) v → SplitOK cfg (vStores cfg) v m) :
    ∃ m', run (oneUnsew3 cfg m.n l) m = (.ok (), m') := by
  obtain ⟨hl0, hln, hlu⟩ := hl
  have ir := hw.image_inUse (i := 1) (by omega) hln hsewn
  have ok : ∀ i x, i < 4 → x < m.n → m.okβ i x = true := fun i x hi hx => hw.okβ_of_lt hi hx
  obtain ⟨vold, hvold, svold, vold0, voldn⟩ := vid_run hw rfl hsewn ir.1
  obtain ⟨m1, hunl⟩ := oneUnlink3_run hw hM hln hsewn hadj
  obtain ⟨hw1, ho, hM1⟩ := oneUnlink3_ok hw hln hunl
  have hn1 : m1.n = m.n := ho.n
  have ok1 : ∀ i x, i < 4 → x < m.n → m1.okβ i x = true := fun i x hi hx => hw1.okβ_of_lt hi (by rw [hn1]; exact hx)
  have e2 : m1.β 2 l = m.β 2 l := ho.β 2 l (by omega)
  have e3 : m1.β 3 l = m.β 3 l := ho.β 3 l (by omega)
  have start : ∀ m', run (do
      let b2l ← rB 2 l
      let b3l ← rB 3 l
      if b2l = 0 ∧ b3l = 0 then pure () else
      let vl ← vertexId3 m.n (if b2l ≠ 0 then b2l else b3l)
      let vr ← vertexId3 m.n (m.β 1 l)
      if vl ≠ vr then do
        splitS cfg 0 vl vr vold
        splitAttrs cfg 0 vl vr vold
      else pure () : P X Unit) m1 = (.ok (), m') → run (oneUnsew3 cfg m.n l) m = (.ok (), m') := by
    intro m' h
    unfold oneUnsew3
    simp only [bind, run_rB, ok 1 l (by omega) hln, if_true]
    rw [run_bind_of_ok hvold, run_bind_of_ok hunl]
    exact h
  have fc1 : m1.fc = 0 := by rw [ho.fc]; exact hfc
  by_cases c : m.β 2 l = 0 ∧ m.β 3 l = 0
  · refine ⟨m1, ?_⟩
    apply start
    simp only [bind, run_rB, ok1 2 l (by omega) hln, ok1 3 l (by omega) hln, if_true, e2, e3,
      if_pos c]
    rfl
  · have hd0 : (if m.β 2 l ≠ 0 then m.β 2 l else m.β 3 l) ≠ 0 := by
      split
      · assumption
      · intro h3; exact c ⟨by omega, h3⟩
    have hdn : (if m.β 2 l ≠ 0 then m.β 2 l else m.β 3 l) < m1.n := by
      rw [hn1]; split
      · exact hw.range 2 (by omega) l hln
      · exact hw.range 3 (by omega) l hln
    obtain ⟨vl, hvl, svl, vl0, vln⟩ := vid_run hw1 hn1.symm hd0 hdn
    obtain ⟨vr, hvr, svr, vr0, vrn⟩ := vid_run hw1 hn1.symm hsewn (by rw [hn1]; exact ir.1)
    have pre : ∀ m', run (if vl ≠ vr then do
          splitS cfg 0 vl vr vold
          splitAttrs cfg 0 vl vr vold
        else pure () : P X Unit) m1 = (.ok (), m') → run (oneUnsew3 cfg m.n l) m = (.ok (), m') := by
      intro m' h
      apply start
      simp only [bind, run_rB, ok1 2 l (by omega) hln, ok1 3 l (by omega) hln, if_true, e2, e3,
        if_neg c]
      rw [run_bind_of_ok hvl, run_bind_of_ok hvr]
      exact h
    by_cases hv : vl ≠ vr
    · have hsz : ∀ t, t ∈ vStores cfg → t < m1.a.size := fun t ht => by rw [ho.a]; exact hst t ht
      obtain ⟨m', hrun, _⟩ := forM_split_run cfg vl vr vold (vStores cfg) m1 (C04.vStores_nodup cfg) fc1
        (fun t ht => ⟨hw1.okA_of_lt (hsz t ht) (by rw [hn1]; exact voldn), hw1.okA_of_lt (hsz t ht) vln,
          hw1.okA_of_lt (hsz t ht) vrn⟩)
        (fun _ t ht => by
          have : m1.att t vold = m.att t vold := by unfold Map.att; rw [ho.a]
          rw [this]; exact hsplit vold svold t ht)
      refine ⟨m', ?_⟩
      apply pre
      rw [if_pos hv]
      exact hrun
    · refine ⟨m1, ?_⟩
      apply pre; rw [if_neg hv]; rfl


theorem unlinkI_frame (m : Map X) (i l : Nat) :
    (m.unlinkI i l).n = m.n ∧ (m.unlinkI i l).fc = m.fc ∧ ∀ t e, (m.unlinkI i l).att t e = m.att t e :=
  ⟨rfl, rfl, fun _ _ => rfl⟩

theorem min_ne_of_disj {a b c d : Nat} (n1 : a ≠ d) (n2 : a ≠ c) (n3 : b ≠ d) (n4 : b ≠ c) :
    min d c ≠ a ∧ min d c ≠ b ∧ min d c ≠ min a b := by omega

/-- **C05, 2-unsew succeeds, arbitrary laws** (closed faces: both darts have a successor; the
    property's proviso: the end points of the edge are four different vertex incidences afterwards):
    the call returns `Ok` when every edge storage law splits the value at the old edge identifier
    and every vertex storage law splits the values at the two old vertex identifiers (cell minima).
    The result is then described by `C05_twoUnsew3_cells`. -/
theorem C05_twoUnsew3_succeeds_law (cfg : Cfg X) (m : Map X) (l : Nat) (hw : WF 4 m) (hfc : m.fc = 0)
    (hstV : ∀ t, t ∈ vStores cfg → t < m.a.size) (hstE : ∀ t, t ∈ eStores cfg → t < m.a.size)
    (hl : C02.InUse m l) (hsewn : m.β 2 l ≠ 0) (hbl : m.β 1 l ≠ 0) (hbr : m.β 1 (m.β 2 l) ≠ 0)
    (hfar : Far (SameCell (g3v (m.unlinkI 2 l)) m.n) (l, m.β 1 (m.β 2 l)) (m.β 2 l, m.β 1 l))
    (hsplitE : ∀ e, IsEid3 m l e → SplitOK cfg (eStores cfg) e m)
    (hsplitL : ∀ v, IsVid3 m l v → SplitOK cfg (vStores cfg) v m)
    (hsplitR : ∀ v, IsVid3 m (m.β 2 l) v → SplitOK cfg (vStores cfg) v m) :
    ∃ m', run (twoUnsew3 cfg m.n l) m = (.ok (), m') := by
  obtain ⟨hl0, hln, hlu⟩ := hl
  have ir := hw.image_inUse (i := 2) (by omega) hln hsewn
  have hrn := ir.1
  have han : m.β 1 (m.β 2 l) < m.n := hw.range 1 (by omega) _ hrn
  have hbn : m.β 1 l < m.n := hw.range 1 (by omega) l hln
  have ok : ∀ i x, i < 4 → x < m.n → m.okβ i x = true := fun i x hi hx => hw.okβ_of_lt hi hx
  have hw1 : WF 4 (m.unlinkI 2 l) := hw.unlinkI (by omega) (by omega) hln hsewn
  obtain ⟨hn1, fc1, attU⟩ := unlinkI_frame m 2 l
  rw [hfc] at fc1
  obtain ⟨eold, heold, seold⟩ := eid_run hw rfl hl0 hln
  obtain ⟨lvold, hlvold, slvold, lvold0, lvoldn⟩ := vid_run hw rfl hl0 hln
  obtain ⟨rvold, hrvold, srvold, rvold0, rvoldn⟩ := vid_run hw rfl hsewn hrn
  obtain ⟨enl, henl, senl⟩ := eid_run hw1 hn1.symm hl0 hln
  obtain ⟨enr, henr, senr⟩ := eid_run hw1 hn1.symm hsewn hrn
  have enln : enl < m.n := by have := senl.2 l (.refl _) hl0; omega
  have enrn : enr < m.n := by have := senr.2 _ (.refl _) hsewn; omega
  have eoldn : eold < m.n := by have := seold.2 l (.refl _) hl0; omega
  have okU : ∀ t, t < m.a.size → ∀ v, v < m.n → (m.unlinkI 2 l).okA t v = true :=
    fun t ht v hv => hw1.okA_of_lt ht hv
  obtain ⟨me, hE, sE⟩ := forM_split_run cfg enl enr eold (eStores cfg) (m.unlinkI 2 l) (C04.eStores_nodup cfg) fc1
    (fun t ht => ⟨okU t (hstE t ht) _ eoldn, okU t (hstE t ht) _ enln, okU t (hstE t ht) _ enrn⟩)
    (fun _ t ht => by rw [attU]; exact hsplitE eold seold t ht)
  have ste : SameTopo (m.unlinkI 2 l) me := sE.topo
  have wme : WF 4 me := hw1.sameTopo ste
  have nme : me.n = m.n := ste.n
  have fce : me.fc = 0 := by rw [sE.fc]; exact fc1
  have attE : ∀ t e, t ∈ vStores cfg → me.att t e = m.att t e := fun t e ht => by
    rw [sE.other t e (vStores_sep cfg ht).2, attU]
  obtain ⟨a, hra, sa0, a0, an⟩ := vid_run wme nme.symm hl0 (by rw [nme]; exact hln)
  obtain ⟨b, hrb, sb0, b0, bn⟩ := vid_run wme nme.symm hbr (by rw [nme]; exact han)
  obtain ⟨c, hrc, sc0, c0, cn⟩ := vid_run wme nme.symm hbl (by rw [nme]; exact hbn)
  obtain ⟨d, hrd, sd0, d0, dn⟩ := vid_run wme nme.symm hsewn (by rw [nme]; exact hrn)
  have toMin : ∀ x v, IsVid3 me x v → IsMinOf (SameCell (g3v (m.unlinkI 2 l)) m.n) x v := fun x v h => by
    have h' := (isVid3_sameTopo ste x v).1 h
    unfold IsVid3 at h'
    rw [hn1] at h'
    exact h'
  have sa := toMin _ _ sa0
  have sb := toMin _ _ sb0
  have sc := toMin _ _ sc0
  have sd := toMin _ _ sd0
  -- the old identifiers are the minima of the unions
  have eqV := sameCell_equiv (g3v (m.unlinkI 2 l)) m.n
  have hv := twoUnlink_cells hw hl0 hln hsewn hbl hbr
  have hsep : [(l, m.β 1 (m.β 2 l)), (m.β 2 l, m.β 1 l)].Pairwise (Far (SameCell (g3v (m.unlinkI 2 l)) m.n)) :=
    pairwise_two hfar
  have elv : lvold = min a b :=
    IsMinOf.unique slvold (min_of_far (R1 := SameCell (g3v m) m.n) eqV hv hsep (List.mem_cons_self ..) sa sb) lvold0 (min_ne_zero_of a0 b0)
  have erv : rvold = min d c :=
    IsMinOf.unique srvold (min_of_far (R1 := SameCell (g3v m) m.n) eqV hv hsep (List.mem_cons_of_mem _ (List.mem_cons_self ..)) sd sc) rvold0 (min_ne_zero_of d0 c0)
  obtain ⟨n1, n2, n3, n4⟩ := far_ids eqV hfar sa sb sd sc
  obtain ⟨ra, rb, rl⟩ : rvold ≠ a ∧ rvold ≠ b ∧ rvold ≠ lvold := by
    rw [elv, erv]; exact min_ne_of_disj n1 n2 n3 n4
  have szV : ∀ s : Map X, SameTopo me s → ∀ t, t ∈ vStores cfg → ∀ v, v < m.n → s.okA t v = true := by
    intro s st t ht v hv'
    rw [st.okA, ste.okA]
    exact okU t (hstV t ht) v hv'
  rw [nme] at an bn cn dn
  have h0 : (0 : Nat) ∈ vStores cfg := by unfold vStores; simp
  have hU : ∀ t, t ∈ storagesOf cfg 0 → t ∈ vStores cfg := fun t ht => List.mem_cons_of_mem _ ht
  -- built-in vertices: (a, b) from lvold, then (c, d) from rvold
  obtain ⟨s1, h1, st1, fcs1, o1, f1⟩ := splitS_total cfg 0 a b lvold me fce
    (szV me (SameTopo.refl _) 0 h0 _ lvoldn) (szV me (SameTopo.refl _) 0 h0 _ an) (szV me (SameTopo.refl _) 0 h0 _ bn)
    (fun _ => by rw [attE 0 _ h0]; exact hsplitL lvold slvold 0 h0)
  obtain ⟨s2, h2, st2, fcs2, o2, f2⟩ := splitS_total cfg 0 c d rvold s1 fcs1
    (szV s1 st1 0 h0 _ rvoldn) (szV s1 st1 0 h0 _ cn) (szV s1 st1 0 h0 _ dn)
    (fun _ => by
      rw [f1 rvold ra rb rl, attE 0 _ h0]
      exact hsplitR rvold srvold 0 h0)
  have st02 := st1.trans st2
  obtain ⟨s3, h3, sS3⟩ := forM_split_run cfg a b lvold (storagesOf cfg 0) s2 (C04.storagesOf_nodup cfg 0) fcs2
    (fun t ht => ⟨szV s2 st02 t (hU t ht) _ lvoldn, szV s2 st02 t (hU t ht) _ an, szV s2 st02 t (hU t ht) _ bn⟩)
    (fun _ t ht => by
      have t0 := (storagesOf_kind ht).1
      rw [o2 t lvold t0, o1 t lvold t0, attE t _ (hU t ht)]
      exact hsplitL lvold slvold t (hU t ht))
  obtain ⟨s4, h4, _⟩ := forM_split_run cfg c d rvold (storagesOf cfg 0) s3 (C04.storagesOf_nodup cfg 0)
    (by rw [sS3.fc]; exact fcs2)
    (fun t ht => ⟨szV s3 (st02.trans sS3.topo) t (hU t ht) _ rvoldn, szV s3 (st02.trans sS3.topo) t (hU t ht) _ cn,
      szV s3 (st02.trans sS3.topo) t (hU t ht) _ dn⟩)
    (fun _ t ht => by
      have t0 := (storagesOf_kind ht).1
      rw [sS3.frame t rvold ht ra rb rl, o2 t rvold t0, o1 t rvold t0, attE t _ (hU t ht)]
      exact hsplitR rvold srvold t (hU t ht))
  refine ⟨s4, ?_⟩
  unfold twoUnsew3
  simp only [bind, run_rB, ok 2 l (by omega) hln, ok 1 l (by omega) hln, ok 1 _ (by omega) hrn,
    if_true]
  have c1 : ¬ (m.β 1 l = 0 ∧ m.β 1 (m.β 2 l) = 0) := fun hh => hbl hh.1
  rw [if_neg c1, if_neg hbl, if_neg hbr]
  rw [run_bind_of_ok heold, run_bind_of_ok hlvold, run_bind_of_ok hrvold,
    run_bind_of_ok (iUnlinkCore_run (ok 2 l (by omega) hln) hsewn (ok 2 _ (by omega) hrn)),
    run_bind_of_ok henl, run_bind_of_ok henr, run_bind_of_ok (show run (splitAttrs cfg 1 enl enr eold) _ = _ from hE),
    run_bind_of_ok hra, run_bind_of_ok hrb, run_bind_of_ok hrc, run_bind_of_ok hrd,
    run_bind_of_ok h1, run_bind_of_ok h2, run_bind_of_ok (show run (splitAttrs cfg 0 a b lvold) _ = _ from h3)]
  exact h4


/-! ## 3-unsew, arbitrary laws -/

/-- the splitting loop of `three_unsew` runs to the end, arbitrary laws (closed faces; the
    property's proviso on vertices and — when there is an edge storage — on edges, in the order of
    the list): every law call is made
    on a value the loop has not written yet, so it suffices that the laws split the values of the
    STARTING state at the identifiers `min` of each pair -/
theorem unsewLoop_run_law {cfg : Cfg X} {m1 : Map X} (hw1 : WF 4 m1) :
    ∀ (zs : List (Nat × Nat)) (s : Map X), SameTopo m1 s → s.fc = 0 →
      (∀ t, t ∈ vStores cfg → t < s.a.size) → (∀ t, t ∈ eStores cfg → t < s.a.size) →
      (∀ lr, lr ∈ zs → lr.1 ≠ 0 ∧ lr.1 < m1.n ∧ lr.2 ≠ 0 ∧ lr.2 < m1.n ∧ m1.β 1 lr.1 ≠ 0 ∧ m1.β 0 lr.1 ≠ 0) →
      (eStores cfg ≠ [] → zs.Pairwise (Far (SameCell (g3e m1) m1.n))) →
      (pairsA m1 zs).Pairwise (Far (SameCell (g3v m1) m1.n)) →
      (∀ lr, lr ∈ zs → ∀ el er, IsEid3 m1 lr.1 el → IsEid3 m1 lr.2 er →
        SplitOK cfg (eStores cfg) (min el er) s) →
      (∀ lr, lr ∈ zs → ∀ v1 v2, IsVid3 m1 (m1.β 1 lr.1) v1 → IsVid3 m1 lr.2 v2 →
        SplitOK cfg (vStores cfg) (min v1 v2) s) →
      ∃ s', run (threeUnsewLoop cfg m1.n zs) s = (.ok (), s') ∧ SameTopo m1 s' := by
  intro zs
  induction zs with
  | nil => intro s st _ _ _ _ _ _ _ _; exact ⟨s, rfl, st⟩
  | cons p rest ih =>
      intro s st hfc hsV hsE hz hfE hfV hoE hoV
      obtain ⟨l, r⟩ := p
      obtain ⟨hl0, hln, hr0, hrn, hb1, hb0⟩ := hz (l, r) (by simp)
      simp only at hl0 hln hr0 hrn hb1 hb0
      have ws : WF 4 s := hw1.sameTopo st
      have hns : m1.n = s.n := st.n.symm
      have oks : ∀ i x, i < 4 → x < m1.n → s.okβ i x = true :=
        fun i x hi hx => ws.okβ_of_lt hi (by rw [st.n]; exact hx)
      have hbn : m1.β 1 l < m1.n := hw1.range 1 (by omega) l hln
      have eqE := sameCell_equiv (g3e m1) m1.n
      have eqV := sameCell_equiv (g3v m1) m1.n
      obtain ⟨el, hel, sel0⟩ := eid_run ws hns hl0 (by rw [st.n]; exact hln)
      obtain ⟨er, her, ser0⟩ := eid_run ws hns hr0 (by rw [st.n]; exact hrn)
      have sel := (isEid3_sameTopo st _ _).1 sel0
      have ser := (isEid3_sameTopo st _ _).1 ser0
      have eln : el < m1.n := by have := sel.2 l (.refl _) hl0; omega
      have ern : er < m1.n := by have := ser.2 r (.refl _) hr0; omega
      obtain ⟨sa, hA, sA⟩ := forM_split_run cfg el er (min el er) (eStores cfg) s (C04.eStores_nodup cfg) hfc
        (fun t ht => ⟨ws.okA_of_lt (hsE t ht) (by rw [st.n]; omega), ws.okA_of_lt (hsE t ht) (by rw [st.n]; exact eln),
          ws.okA_of_lt (hsE t ht) (by rw [st.n]; exact ern)⟩)
        (fun _ => hoE (l, r) (by simp) el er sel ser)
      have sta : SameTopo m1 sa := st.trans sA.topo
      have wa : WF 4 sa := hw1.sameTopo sta
      have fca : sa.fc = 0 := by rw [sA.fc]; exact hfc
      obtain ⟨v1, hv1, sv10, v10, v1n⟩ := vid_run wa sta.n.symm hb1 (by rw [sta.n]; exact hbn)
      obtain ⟨v2, hv2, sv20, v20, v2n⟩ := vid_run wa sta.n.symm hr0 (by rw [sta.n]; exact hrn)
      have sv1 := (isVid3_sameTopo sta _ _).1 sv10
      have sv2 := (isVid3_sameTopo sta _ _).1 sv20
      obtain ⟨sb, hB, sB⟩ := forM_split_run cfg v1 v2 (min v1 v2) (vStores cfg) sa (C04.vStores_nodup cfg) fca
        (fun t ht => by
          have hsz : t < sa.a.size := by rw [sA.topo.asz]; exact hsV t ht
          exact ⟨wa.okA_of_lt hsz (by omega), wa.okA_of_lt hsz v1n, wa.okA_of_lt hsz v2n⟩)
        (fun _ t ht => by
          rw [sA.other t _ (vStores_sep cfg ht).2]
          exact hoV (l, r) (by simp) v1 v2 sv1 sv2 t ht)
      have stb : SameTopo m1 sb := sta.trans sB.topo
      have hpa : pairsA m1 ((l, r) :: rest) = (m1.β 1 l, r) :: pairsA m1 rest := rfl
      rw [hpa] at hfV
      have hcV := List.pairwise_cons.1 hfV
      obtain ⟨s', hrun, st'⟩ := ih sb stb (by rw [sB.fc]; exact fca)
        (fun t ht => by rw [sB.topo.asz, sA.topo.asz]; exact hsV t ht)
        (fun t ht => by rw [sB.topo.asz, sA.topo.asz]; exact hsE t ht)
        (fun lr hm => hz lr (List.mem_cons_of_mem _ hm)) (fun h => (List.pairwise_cons.1 (hfE h)).2) hcV.2
        (fun lr hm el' er' a b t ht => by
          obtain ⟨n1, n2, n3, n4⟩ :=
            far_ids eqE ((List.pairwise_cons.1 (hfE (List.ne_nil_of_mem ht))).1 lr hm) sel ser a b
          obtain ⟨k1, k2, k3⟩ := min_ne_of_disj n1 n2 n3 n4
          rw [sB.other t _ (fun hv => (vStores_sep cfg hv).2 ht), sA.frame t _ ht k1 k2 k3]
          exact hoE lr (List.mem_cons_of_mem _ hm) el' er' a b t ht)
        (fun lr hm v1' v2' a b t ht => by
          have hmem : (m1.β 1 lr.1, lr.2) ∈ pairsA m1 rest := List.mem_map.2 ⟨lr, hm, rfl⟩
          obtain ⟨n1, n2, n3, n4⟩ := far_ids eqV (hcV.1 _ hmem) sv1 sv2 a b
          obtain ⟨k1, k2, k3⟩ := min_ne_of_disj n1 n2 n3 n4
          rw [sB.frame t _ ht k1 k2 k3, sA.other t _ (vStores_sep cfg ht).2]
          exact hoV lr (List.mem_cons_of_mem _ hm) v1' v2' a b t ht)
      refine ⟨s', ?_, st'⟩
      have wb : WF 4 sb := hw1.sameTopo stb
      have ok2 : sb.okβ 0 l = true := wb.okβ_of_lt (by omega) (by rw [stb.n]; exact hln)
      have oka : ∀ i x, i < 4 → x < m1.n → sa.okβ i x = true :=
        fun i x hi hx => wa.okβ_of_lt hi (by rw [sta.n]; exact hx)
      unfold threeUnsewLoop
      simp only [bind]
      rw [run_bind_of_ok hel, run_bind_of_ok her, run_bind_of_ok (show run (splitAttrs cfg 1 el er (min el er)) s = _ from hA)]
      simp only [run_rB, oka 1 l (by omega) hln, oka 2 l (by omega) hln, if_true, sta.β, hb1, if_false]
      rw [run_bind_of_ok hv1, run_bind_of_ok hv2]
      have hB' : run ((splitS cfg 0 v1 v2 (min v1 v2)).bind fun _ => splitAttrs cfg 0 v1 v2 (min v1 v2)) sa = (.ok (), sb) := hB
      rw [run_bind] at hB'
      cases h0 : run (splitS cfg 0 v1 v2 (min v1 v2)) sa with
      | mk o s0 =>
          rw [h0] at hB'
          cases o with
          | ok u0 =>
              simp only at hB'
              rw [run_bind_of_ok h0, run_bind_of_ok hB']
              simp only [run_rB, ok2, if_true, stb.β, hb0, if_false]
              exact hrun
          | err e => simp at hB'
          | retry => simp at hB'
          | panic => simp at hB'

/-- the 3-unsew succeeds, arbitrary laws; the proviso on the edges is only needed when some storage is
    bound to edges -/
theorem threeUnsew3_succeeds_gen (cfg : Cfg X) (m : Map X) (ld L : Nat) (hwf : WF 4 m) (hM : Mirror m)
    (hS : Sided3 m) (hfc : m.fc = 0)
    (hst : ∀ t, (t ∈ vStores cfg ∨ t ∈ eStores cfg ∨ t ∈ fStores cfg) → t < m.a.size)
    (hl : C02.InUse m ld) (hsewn : m.β 3 ld ≠ 0) (cl : Cyc m 1 ld L)
    (hmin : ∀ t, 0 < t → t < L → it m 1 t ld ≠ ld) (hnsg : ∀ t, it m 1 t ld ≠ m.β 3 ld)
    (hsplitF : ∀ f, IsFid3 m ld f → SplitOK cfg (fStores cfg) f m)
    (hsplitE : ∀ lr, lr ∈ walkPairs m 1 0 L ld (m.β 3 ld) → ∀ e, IsEid3 m lr.1 e → SplitOK cfg (eStores cfg) e m)
    (hsplitV : ∀ x, x ∈ pairsA m (walkPairs m 1 0 L ld (m.β 3 ld)) → ∀ v, IsVid3 m x.1 v →
      SplitOK cfg (vStores cfg) v m) :
    ∃ m1, run (threeUnlink3 (X := X) m.n ld) m = (.ok (), m1) ∧
      ((eStores cfg ≠ [] → (walkPairs m 1 0 L ld (m.β 3 ld)).Pairwise (Far (SameCell (g3e m1) m.n))) →
       (pairsA m (walkPairs m 1 0 L ld (m.β 3 ld))).Pairwise (Far (SameCell (g3v m1) m.n)) →
        ∃ m', run (threeUnsew3 cfg m.n ld) m = (.ok (), m')) := by
  obtain ⟨hl0, hln, hlu⟩ := hl
  obtain ⟨m1, hunl⟩ := threeUnlink3_run hwf hM hS hln hsewn cl hmin hnsg
  refine ⟨m1, hunl, fun hfarE hfarV => ?_⟩
  obtain ⟨lo, ro, hw1, hne, hL, hn1, e1, e0, hfo, hlond, hzip, hps, _, hedges, hverts, s_l, s_r, s_old, cr⟩ :=
    threeUnlink3_cells_at hwf hM hl0 hln cl hmin hunl
  have hsh := (threeUnlink3_ok hwf hln hunl).2
  have hrn : m.β 3 ld < m.n := hwf.range 3 (by omega) ld hln
  have hatt : ∀ t v, m1.att t v = m.att t v := fun t v => by unfold Map.att; rw [hsh.a]
  have fc1 : m1.fc = 0 := by rw [hsh.fc]; exact hfc
  have asz1 : m1.a.size = m.a.size := by rw [hsh.a]
  rw [← hn1] at hedges hverts hfarE hfarV hfo
  have eqE := sameCell_equiv (g3e m1) m1.n
  have eqV := sameCell_equiv (g3v m1) m1.n
  have lfn : listMin lo ld < m1.n := by have := s_l.2 ld (.refl _) hl0; omega
  have rfn : listMin ro (m.β 3 ld) < m1.n := by have := s_r.2 _ (.refl _) hne; omega
  have hszF : ∀ t, t ∈ fStores cfg → t < m1.a.size := fun t ht => by rw [asz1]; exact hst t (Or.inr (Or.inr ht))
  obtain ⟨mf, hF, sF⟩ := forM_split_run cfg (listMin lo ld) (listMin ro (m.β 3 ld))
    (min (listMin lo ld) (listMin ro (m.β 3 ld))) (fStores cfg) m1 (fStores_nodup cfg) fc1
    (fun t ht => ⟨hw1.okA_of_lt (hszF t ht) (by omega), hw1.okA_of_lt (hszF t ht) lfn, hw1.okA_of_lt (hszF t ht) rfn⟩)
    (fun _ t ht => by rw [hatt]; exact hsplitF _ s_old t ht)
  have notF : ∀ t, (t ∈ vStores cfg ∨ t ∈ eStores cfg) → t ∉ fStores cfg := by
    rintro t (hv | he) hf
    · rcases List.mem_cons.1 (show t ∈ 0 :: storagesOf cfg 0 from hv) with rfl | h'
      · exact (storagesOf_kind (show (0 : Nat) ∈ storagesOf cfg 2 from hf)).1 rfl
      · exact stores_disjoint (k := 0) (k' := 2) (by decide) h' hf
    · exact stores_disjoint (k := 1) (k' := 2) (by decide) he hf
  have attF : ∀ t e, (t ∈ vStores cfg ∨ t ∈ eStores cfg) → mf.att t e = m.att t e := fun t e ht => by
    rw [sF.other t e (notF t ht), hatt]
  have hzE : eStores cfg ≠ [] → (lo.zip ro).Pairwise (Far (SameCell (g3e m1) m1.n)) := by
    intro hne
    refine List.Pairwise.imp_of_mem (fun {x y} hx hy hxy => ?_) (zip_pairwise_fst hlond)
    rcases pairwise_mem (hfarE hne) ((hzip x).1 hx) ((hzip y).1 hy) with k | k | k
    · exact absurd (congrArg Prod.fst k) hxy
    · exact k
    · exact k.symm eqE
  have hzV : (pairsA m1 (lo.zip ro)).Pairwise (Far (SameCell (g3v m1) m1.n)) := by
    have pa : pairsA m1 (lo.zip ro) = pairsA m (lo.zip ro) := by unfold pairsA; simp only [e1]
    rw [pa]
    exact zip_pairwise_far hwf eqV hlond (fun pq => (hzip pq).1)
      (fun lr hm => ⟨by rw [← hn1]; exact (hps lr hm).2.1, by rw [← e1]; exact (hps lr hm).2.2.2.2.1⟩) hfarV
  obtain ⟨s', hrun, _⟩ := unsewLoop_run_law (cfg := cfg) hw1 (lo.zip ro) mf sF.topo (by rw [sF.fc]; exact fc1)
    (fun t ht => by rw [sF.topo.asz, asz1]; exact hst t (Or.inl ht))
    (fun t ht => by rw [sF.topo.asz, asz1]; exact hst t (Or.inr (Or.inl ht)))
    (fun lr hm => by
      obtain ⟨a1, a2, a3, a4, a5, a6, _⟩ := hps lr ((hzip lr).1 hm)
      exact ⟨a1, a2, a3, a4, a5, a6⟩) hzE hzV
    (fun lr hm el er a b t ht => by
      have hm' := (hzip lr).1 hm
      have := min_of_far (R1 := SameCell (g3e m) m1.n) eqE hedges (hfarE (List.ne_nil_of_mem ht)) hm' a b
      have hid : IsEid3 m lr.1 (min el er) := by unfold IsEid3; rw [← hn1]; exact this
      rw [attF t _ (Or.inr ht)]
      exact hsplitE lr hm' _ hid t ht)
    (fun lr hm v1 v2 a b t ht => by
      have hm' := (hzip lr).1 hm
      have hmem : (m.β 1 lr.1, lr.2) ∈ pairsA m (walkPairs m 1 0 L ld (m.β 3 ld)) := List.mem_map.2 ⟨lr, hm', rfl⟩
      rw [e1] at a
      have := min_of_far (R1 := SameCell (g3v m) m1.n) eqV hverts hfarV hmem a b
      have hid : IsVid3 m (m.β 1 lr.1) (min v1 v2) := by unfold IsVid3; rw [← hn1]; exact this
      rw [attF t _ (Or.inl ht)]
      exact hsplitV _ hmem _ hid t ht)
  refine ⟨s', ?_⟩
  rw [← hn1]
  rw [← hn1] at hunl
  unfold threeUnsew3
  simp only [bind, run_rB, hwf.okβ_of_lt (i := 3) (by omega) hln, if_true]
  rw [run_bind_of_ok hunl, run_bind_of_ok hfo]
  simp only []
  rw [run_bind_of_ok (show run (splitAttrs cfg 2 (listMin lo ld) (listMin ro (m.β 3 ld))
    (min (listMin lo ld) (listMin ro (m.β 3 ld)))) m1 = _ from hF)]
  exact hrun

/-- **C05, 3-unsew succeeds, arbitrary laws**.  Setting of `C05_threeUnsew3_succeeds` (closed face
    of least period `L`, well-formed mirrored map, faces 3-linked as a whole and not to themselves)
    with any configuration: `three_unlink` returns `Ok`; under the property's proviso on the edges
    and on the vertices of the unlinked map, the whole call returns `Ok` when every face / edge /
    vertex storage law splits the value held at the identifier (cell minimum, in the map BEFORE the
    call) of the glued face, of each of its `L` edges, of each of its `L` vertices.  The result is
    then described by `C05_threeUnsew3_cells` (+ `unsewn_cells`). -/
theorem C05_threeUnsew3_succeeds_law (cfg : Cfg X) (m : Map X) (ld L : Nat) (hwf : WF 4 m) (hM : Mirror m)
    (hS : Sided3 m) (hfc : m.fc = 0)
    (hst : ∀ t, (t ∈ vStores cfg ∨ t ∈ eStores cfg ∨ t ∈ fStores cfg) → t < m.a.size)
    (hl : C02.InUse m ld) (hsewn : m.β 3 ld ≠ 0) (cl : Cyc m 1 ld L)
    (hmin : ∀ t, 0 < t → t < L → it m 1 t ld ≠ ld) (hnsg : ∀ t, it m 1 t ld ≠ m.β 3 ld)
    (hsplitF : ∀ f, IsFid3 m ld f → SplitOK cfg (fStores cfg) f m)
    (hsplitE : ∀ lr, lr ∈ walkPairs m 1 0 L ld (m.β 3 ld) → ∀ e, IsEid3 m lr.1 e → SplitOK cfg (eStores cfg) e m)
    (hsplitV : ∀ x, x ∈ pairsA m (walkPairs m 1 0 L ld (m.β 3 ld)) → ∀ v, IsVid3 m x.1 v →
      SplitOK cfg (vStores cfg) v m) :
    ∃ m1, run (threeUnlink3 (X := X) m.n ld) m = (.ok (), m1) ∧
      ((walkPairs m 1 0 L ld (m.β 3 ld)).Pairwise (Far (SameCell (g3e m1) m.n)) →
       (pairsA m (walkPairs m 1 0 L ld (m.β 3 ld))).Pairwise (Far (SameCell (g3v m1) m.n)) →
        ∃ m', run (threeUnsew3 cfg m.n ld) m = (.ok (), m')) := by
  obtain ⟨m1, hunl, himp⟩ := threeUnsew3_succeeds_gen cfg m ld L hwf hM hS hfc hst hl hsewn cl hmin hnsg hsplitF
    hsplitE hsplitV
  exact ⟨m1, hunl, fun hfarE hfarV => himp (fun _ => hfarE) hfarV⟩

/-! ## non-vacuity -/

/-- two darts whose (computable) vertex identifiers differ are in different vertex cells -/
theorem not_sameCell_of_cellId3 {m : Map X} (h : WF 4 m) {a b : Nat} (ha0 : a ≠ 0) (ha : a < m.n)
    (hb0 : b ≠ 0) (hb : b < m.n) (hne : C03.cellId3 m .vertex a ≠ C03.cellId3 m .vertex b) :
    ¬ SameCell (g3v m) m.n a b := by
  intro hs
  have sa := (vertexId3_spec h ha0 ha (C03.C03_vertexId3_min h ha0 ha).1).2
  have sb := (vertexId3_spec h hb0 hb (C03.C03_vertexId3_min h hb0 hb).1).2
  have eqV := sameCell_equiv (g3v m) m.n
  have sa' : IsVid3 m b (C03.cellId3 m .vertex a) := IsMinOf.congr eqV sa hs
  exact hne (IsMinOf.unique sa' sb (sa.ne_zero h ha0 ha) (sb.ne_zero h hb0 hb))

def CidFar (m : Map X) (x y : Nat × Nat) : Prop :=
  C03.cellId3 m .vertex x.1 ≠ C03.cellId3 m .vertex y.1 ∧ C03.cellId3 m .vertex x.1 ≠ C03.cellId3 m .vertex y.2 ∧
  C03.cellId3 m .vertex x.2 ≠ C03.cellId3 m .vertex y.1 ∧ C03.cellId3 m .vertex x.2 ≠ C03.cellId3 m .vertex y.2

instance (m : Map X) (x y : Nat × Nat) : Decidable (CidFar m x y) := by unfold CidFar; exact inferInstance

def ValidPair (m : Map X) (x : Nat × Nat) : Prop := x.1 ≠ 0 ∧ x.1 < m.n ∧ x.2 ≠ 0 ∧ x.2 < m.n

instance (m : Map X) (x : Nat × Nat) : Decidable (ValidPair m x) := by unfold ValidPair; exact inferInstance

/-- the proviso `Far`, from its computable form -/
theorem far_of_cellId3 {m : Map X} (h : WF 4 m) {n : Nat} (hn : n = m.n) {x y : Nat × Nat}
    (hx : ValidPair m x) (hy : ValidPair m y) (hc : CidFar m x y) : Far (SameCell (g3v m) n) x y := by
  subst hn
  exact ⟨not_sameCell_of_cellId3 h hx.1 hx.2.1 hy.1 hy.2.1 hc.1,
    not_sameCell_of_cellId3 h hx.1 hx.2.1 hy.2.2.1 hy.2.2.2 hc.2.1,
    not_sameCell_of_cellId3 h hx.2.2.1 hx.2.2.2 hy.1 hy.2.1 hc.2.2.1,
    not_sameCell_of_cellId3 h hx.2.2.1 hx.2.2.2 hy.2.2.1 hy.2.2.2 hc.2.2.2⟩

theorem pairwise_far_of_cellId3 {m : Map X} (h : WF 4 m) {n : Nat} (hn : n = m.n) {ps : List (Nat × Nat)}
    (hv : ∀ p, p ∈ ps → ValidPair m p) (hc : ps.Pairwise (CidFar m)) :
    ps.Pairwise (Far (SameCell (g3v m) n)) :=
  List.Pairwise.imp_of_mem (fun {x y} hx hy hxy => far_of_cellId3 h hn (hv x hx) (hv y hy) hxy) hc

/-- a closed face from its computable description -/
theorem cyc_of_period {m : Map X} (hw : WF 4 m) {d L : Nat} (hL : 0 < L) (hp : it m 1 L d = d) (hd : d ≠ 0) :
    Cyc m 1 d L := ⟨hL, hp, periodic_nz (hw.null 1 (by omega)) hL hp hd⟩

theorem cyc_all_of_lt {m : Map X} {d L x : Nat} (c : Cyc m 1 d L) (h : ∀ t, t < L → it m 1 t d ≠ x) :
    ∀ t, it m 1 t d ≠ x := by
  intro t
  obtain ⟨s, hs, he⟩ := c.mod t
  rw [he]; exact h s hs

/-- computable form of `SplitOK` -/
def splitOKb (cfg : Cfg X) (ss : List Nat) (inp : Nat) (m : Map X) : Bool :=
  ss.all fun s => match splitVal (cfg.law s) (m.att s inp) with
    | .ok _ => true
    | .error _ => false

theorem splitOK_of_b {cfg : Cfg X} {ss : List Nat} {inp : Nat} {m : Map X} (h : splitOKb cfg ss inp m = true) :
    SplitOK cfg ss inp m := by
  intro s hs
  have := List.all_eq_true.1 h s hs
  cases hv : splitVal (cfg.law s) (m.att s inp) with
  | ok ab => exact ⟨ab.1, ab.2, rfl⟩
  | error e => rw [hv] at this; cases this

/-- `SplitOK` at the vertex identifier of a dart, from its computable form -/
theorem splitOK_vid {cfg : Cfg X} {ss : List Nat} {m : Map X} (h : WF 4 m) {d : Nat} (hd0 : d ≠ 0) (hd : d < m.n)
    (hb : splitOKb cfg ss (C03.cellId3 m .vertex d) m = true) : ∀ v, IsVid3 m d v → SplitOK cfg ss v m := by
  intro v hv
  have s := (vertexId3_spec h hd0 hd (C03.C03_vertexId3_min h hd0 hd).1).2
  rw [hv.unique s (hv.ne_zero h hd0 hd) (s.ne_zero h hd0 hd)]
  exact splitOK_of_b hb

theorem splitOK_eid {cfg : Cfg X} {ss : List Nat} {m : Map X} (h : WF 4 m) {d : Nat} (hd0 : d ≠ 0) (hd : d < m.n)
    (hb : splitOKb cfg ss (C03.cellId3 m .edge d) m = true) : ∀ v, IsEid3 m d v → SplitOK cfg ss v m := by
  intro v hv
  have s := (edgeId3_spec h hd0 hd (C03.C03_edgeId3_min h hd0 hd).1).2
  rw [IsMinOf.unique hv s (sameCellE_ne_zero h hd0 hd hv.1) (sameCellE_ne_zero h hd0 hd s.1)]
  exact splitOK_of_b hb

/-- built-in vertices, `VTerm` (every law defined), `ETerm` and `VDef` (the trait's default: splitting
    an undefined value is an error) -/
def lawCfg : Cfg Val := stdCfg 4 19

def termRow (k : Nat) : Array (Option Val) :=
  ((List.range 17).map fun i => if i = 0 then none else some (Val.tm (.leaf (k + i)))).toArray

/-- a map of 16 darts with `VDef` and `ETerm` defined at every identifier -/
def defAll (m : Map Val) : Map Val := { m with a := (m.a.set! 5 (termRow 100)).set! 2 (termRow 200) }

/-- the two 3-sewn triangles of `exSewn3` (`VDef`, `ETerm` undefined), resp. with both defined: the
    1-unsew of dart 1 splits the vertex of dart 2 -/
theorem exS3_wf : WF 4 (defAll exSewn3) := by decide +kernel

example : ∃ m', run (oneUnsew3 lawCfg (defAll exSewn3).n 1) (defAll exSewn3) = (.ok (), m') :=
  have ⟨mir, fc, st, u, sewn, adj, d0, dn, sp⟩ : Mirror (defAll exSewn3) ∧ (defAll exSewn3).fc = 0 ∧
      (∀ t, t ∈ vStores lawCfg → t < (defAll exSewn3).a.size) ∧ C02.InUse (defAll exSewn3) 1 ∧
      (defAll exSewn3).β 1 1 ≠ 0 ∧ (defAll exSewn3).β 3 1 ≠ (defAll exSewn3).β 1 1 ∧
      (defAll exSewn3).β 1 1 ≠ 0 ∧ (defAll exSewn3).β 1 1 < (defAll exSewn3).n ∧
      splitOKb lawCfg (vStores lawCfg) (C03.cellId3 (defAll exSewn3) .vertex ((defAll exSewn3).β 1 1))
        (defAll exSewn3) = true := by decide +kernel
  C05_oneUnsew3_succeeds_law lawCfg (defAll exSewn3) 1 exS3_wf mir fc st u sewn adj (splitOK_vid exS3_wf d0 dn sp)
/-- the hypothesis on the laws cannot be dropped: with `VDef` undefined the same call is refused
    (`split_from_none` of the default law) -/
example : (run (oneUnsew3 lawCfg exSewn3.n 1) exSewn3).1 = .err errInsufficient ∧
    splitOKb lawCfg (vStores lawCfg) (C03.cellId3 exSewn3 .vertex (exSewn3.β 1 1)) exSewn3 = false := by
  decide +kernel

/-- the square 2-sewn to the chain (`exSewn2`): the 2-unsew of dart 7 splits the edge and both end
    points -/
theorem exS2_wf : WF 4 (defAll exSewn2) := by decide +kernel

example : ∃ m', run (twoUnsew3 lawCfg (defAll exSewn2).n 7) (defAll exSewn2) = (.ok (), m') :=
  have ⟨fc, stV, stE, u, sewn, bl, br, spE, r0, rn, spL, spR⟩ : (defAll exSewn2).fc = 0 ∧
      (∀ t, t ∈ vStores lawCfg → t < (defAll exSewn2).a.size) ∧
      (∀ t, t ∈ eStores lawCfg → t < (defAll exSewn2).a.size) ∧ C02.InUse (defAll exSewn2) 7 ∧
      (defAll exSewn2).β 2 7 ≠ 0 ∧ (defAll exSewn2).β 1 7 ≠ 0 ∧ (defAll exSewn2).β 1 ((defAll exSewn2).β 2 7) ≠ 0 ∧
      splitOKb lawCfg (eStores lawCfg) (C03.cellId3 (defAll exSewn2) .edge 7) (defAll exSewn2) = true ∧
      (defAll exSewn2).β 2 7 ≠ 0 ∧ (defAll exSewn2).β 2 7 < (defAll exSewn2).n ∧
      splitOKb lawCfg (vStores lawCfg) (C03.cellId3 (defAll exSewn2) .vertex 7) (defAll exSewn2) = true ∧
      splitOKb lawCfg (vStores lawCfg) (C03.cellId3 (defAll exSewn2) .vertex ((defAll exSewn2).β 2 7))
        (defAll exSewn2) = true := by decide +kernel
  have ⟨vl, vr, far⟩ :
      ValidPair ((defAll exSewn2).unlinkI 2 7) (7, (defAll exSewn2).β 1 ((defAll exSewn2).β 2 7)) ∧
      ValidPair ((defAll exSewn2).unlinkI 2 7) ((defAll exSewn2).β 2 7, (defAll exSewn2).β 1 7) ∧
      CidFar ((defAll exSewn2).unlinkI 2 7) (7, (defAll exSewn2).β 1 ((defAll exSewn2).β 2 7))
        ((defAll exSewn2).β 2 7, (defAll exSewn2).β 1 7) := by decide +kernel
  C05_twoUnsew3_succeeds_law lawCfg (defAll exSewn2) 7 exS2_wf fc stV stE u sewn bl br
    (far_of_cellId3 (exS2_wf.unlinkI (by decide) (by decide) u.2.1 sewn) rfl vl vr far)
    (splitOK_eid exS2_wf u.1 u.2.1 spE) (splitOK_vid exS2_wf u.1 u.2.1 spL) (splitOK_vid exS2_wf r0 rn spR)
example : (run (twoUnsew3 lawCfg exSewn2.n 7) exSewn2).1 = .err errInsufficient := by decide +kernel


/-! ### the 3-unsew -/

theorem splitOK_nil {cfg : Cfg X} {ss : List Nat} (h : ss = []) (inp : Nat) (m : Map X) : SplitOK cfg ss inp m := by
  subst h; intro s hs; simp at hs

theorem splitOK_eid_all {cfg : Cfg X} {ss : List Nat} {m : Map X} (h : WF 4 m) {ps : List (Nat × Nat)}
    (hb : ∀ lr, lr ∈ ps → lr.1 ≠ 0 ∧ lr.1 < m.n ∧ splitOKb cfg ss (C03.cellId3 m .edge lr.1) m = true) :
    ∀ lr, lr ∈ ps → ∀ e, IsEid3 m lr.1 e → SplitOK cfg ss e m :=
  fun lr hm => splitOK_eid h (hb lr hm).1 (hb lr hm).2.1 (hb lr hm).2.2

theorem splitOK_vid_all {cfg : Cfg X} {ss : List Nat} {m : Map X} (h : WF 4 m) {ps : List (Nat × Nat)}
    (hb : ∀ lr, lr ∈ ps → lr.1 ≠ 0 ∧ lr.1 < m.n ∧ splitOKb cfg ss (C03.cellId3 m .vertex lr.1) m = true) :
    ∀ lr, lr ∈ ps → ∀ v, IsVid3 m lr.1 v → SplitOK cfg ss v m :=
  fun lr hm => splitOK_vid h (hb lr hm).1 (hb lr hm).2.1 (hb lr hm).2.2

theorem not_sameCellE_of_cellId3 {m : Map X} (h : WF 4 m) {a b : Nat} (ha0 : a ≠ 0) (ha : a < m.n)
    (hb0 : b ≠ 0) (hb : b < m.n) (hne : C03.cellId3 m .edge a ≠ C03.cellId3 m .edge b) :
    ¬ SameCell (g3e m) m.n a b := by
  intro hs
  have sa := (edgeId3_spec h ha0 ha (C03.C03_edgeId3_min h ha0 ha).1).2
  have sb := (edgeId3_spec h hb0 hb (C03.C03_edgeId3_min h hb0 hb).1).2
  have eqE := sameCell_equiv (g3e m) m.n
  have sa' : IsEid3 m b (C03.cellId3 m .edge a) := IsMinOf.congr eqE sa hs
  exact hne (IsMinOf.unique sa' sb (sameCellE_ne_zero h ha0 ha sa.1) (sameCellE_ne_zero h hb0 hb sb.1))

def CidFarE (m : Map X) (x y : Nat × Nat) : Prop :=
  C03.cellId3 m .edge x.1 ≠ C03.cellId3 m .edge y.1 ∧ C03.cellId3 m .edge x.1 ≠ C03.cellId3 m .edge y.2 ∧
  C03.cellId3 m .edge x.2 ≠ C03.cellId3 m .edge y.1 ∧ C03.cellId3 m .edge x.2 ≠ C03.cellId3 m .edge y.2

instance (m : Map X) (x y : Nat × Nat) : Decidable (CidFarE m x y) := by unfold CidFarE; exact inferInstance

theorem pairwise_farE_of_cellId3 {m : Map X} (h : WF 4 m) {n : Nat} (hn : n = m.n) {ps : List (Nat × Nat)}
    (hv : ∀ p, p ∈ ps → ValidPair m p) (hc : ps.Pairwise (CidFarE m)) :
    ps.Pairwise (Far (SameCell (g3e m) n)) := by
  subst hn
  refine List.Pairwise.imp_of_mem (fun {x y} hx hy hxy => ?_) hc
  have vx := hv x hx
  have vy := hv y hy
  exact ⟨not_sameCellE_of_cellId3 h vx.1 vx.2.1 vy.1 vy.2.1 hxy.1,
    not_sameCellE_of_cellId3 h vx.1 vx.2.1 vy.2.2.1 vy.2.2.2 hxy.2.1,
    not_sameCellE_of_cellId3 h vx.2.2.1 vx.2.2.2 vy.1 vy.2.1 hxy.2.2.1,
    not_sameCellE_of_cellId3 h vx.2.2.1 vx.2.2.2 vy.2.2.1 vy.2.2.2 hxy.2.2.2⟩

theorem slots_of_all {cfg : Cfg X} {k : Nat} (h : ∀ t, t ∈ vStores cfg ++ eStores cfg ++ fStores cfg → t < k) :
    ∀ t, (t ∈ vStores cfg ∨ t ∈ eStores cfg ∨ t ∈ fStores cfg) → t < k := by
  intro t ht
  apply h t
  rcases ht with h' | h' | h'
  · exact List.mem_append_left _ (List.mem_append_left _ h')
  · exact List.mem_append_left _ (List.mem_append_right _ h')
  · exact List.mem_append_right _ h'

/-- the two 3-sewn triangles with `VDef` and `ETerm` defined: the 3-unsew splits three edges and
    three vertices in every storage -/
example : ∃ m', run (threeUnsew3 lawCfg (defAll exSewn3).n 1) (defAll exSewn3) = (.ok (), m') := by
  have ⟨per, mir, sd, fc, st, u, sewn, hmin, hnsg, noF, spE, spV⟩ : it (defAll exSewn3) 1 3 1 = 1 ∧
      Mirror (defAll exSewn3) ∧ Sided3 (defAll exSewn3) ∧ (defAll exSewn3).fc = 0 ∧
      (∀ t, t ∈ vStores lawCfg ++ eStores lawCfg ++ fStores lawCfg → t < (defAll exSewn3).a.size) ∧
      C02.InUse (defAll exSewn3) 1 ∧ (defAll exSewn3).β 3 1 ≠ 0 ∧
      (∀ t, t < 3 → 0 < t → it (defAll exSewn3) 1 t 1 ≠ 1) ∧
      (∀ t, t < 3 → it (defAll exSewn3) 1 t 1 ≠ (defAll exSewn3).β 3 1) ∧ fStores lawCfg = [] ∧
      (∀ lr, lr ∈ walkPairs (defAll exSewn3) 1 0 3 1 ((defAll exSewn3).β 3 1) → lr.1 ≠ 0 ∧
        lr.1 < (defAll exSewn3).n ∧
        splitOKb lawCfg (eStores lawCfg) (C03.cellId3 (defAll exSewn3) .edge lr.1) (defAll exSewn3) = true) ∧
      (∀ lr, lr ∈ pairsA (defAll exSewn3) (walkPairs (defAll exSewn3) 1 0 3 1 ((defAll exSewn3).β 3 1)) →
        lr.1 ≠ 0 ∧ lr.1 < (defAll exSewn3).n ∧
        splitOKb lawCfg (vStores lawCfg) (C03.cellId3 (defAll exSewn3) .vertex lr.1) (defAll exSewn3) = true) := by
    decide +kernel
  have cl : Cyc (defAll exSewn3) 1 1 3 := cyc_of_period exS3_wf (by decide) per (by decide)
  obtain ⟨m1, h1, himp⟩ := C05_threeUnsew3_succeeds_law lawCfg (defAll exSewn3) 1 3 exS3_wf mir sd fc
    (slots_of_all st) u sewn cl (fun t h0 ht => hmin t ht h0) (cyc_all_of_lt cl hnsg)
    (fun f _ => splitOK_nil noF f _) (splitOK_eid_all exS3_wf spE) (splitOK_vid_all exS3_wf spV)
  obtain ⟨_, _, hL, _, _, _, _, wf⟩ := threeUnlink3_unlinked_closed exS3_wf mir u.2.1 cl.nz h1
  have hn := hL.n
  have e : m1 = (run (threeUnlink3 (X := Val) (defAll exSewn3).n 1) (defAll exSewn3)).2 := by rw [h1]
  subst e
  have ⟨vpE, farE, vpV, farV⟩ :
      (∀ p, p ∈ walkPairs (defAll exSewn3) 1 0 3 1 ((defAll exSewn3).β 3 1) →
        ValidPair (run (threeUnlink3 (X := Val) (defAll exSewn3).n 1) (defAll exSewn3)).2 p) ∧
      (walkPairs (defAll exSewn3) 1 0 3 1 ((defAll exSewn3).β 3 1)).Pairwise
        (CidFarE (run (threeUnlink3 (X := Val) (defAll exSewn3).n 1) (defAll exSewn3)).2) ∧
      (∀ p, p ∈ pairsA (defAll exSewn3) (walkPairs (defAll exSewn3) 1 0 3 1 ((defAll exSewn3).β 3 1)) →
        ValidPair (run (threeUnlink3 (X := Val) (defAll exSewn3).n 1) (defAll exSewn3)).2 p) ∧
      (pairsA (defAll exSewn3) (walkPairs (defAll exSewn3) 1 0 3 1 ((defAll exSewn3).β 3 1))).Pairwise
        (CidFar (run (threeUnlink3 (X := Val) (defAll exSewn3).n 1) (defAll exSewn3)).2) := by decide +kernel
  exact himp (pairwise_farE_of_cellId3 wf hn vpE farE) (pairwise_far_of_cellId3 wf hn vpV farV)
/-- with `VDef` / `ETerm` undefined the same call is refused -/
example : (run (threeUnsew3 lawCfg exSewn3.n 1) exSewn3).1 = .err errInsufficient := by decide +kernel

end HC.C05

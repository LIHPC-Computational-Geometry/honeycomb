/-
  C07 — concurrent transactions are serializable (protocol level).

  For the protocol model of `fast-stm` (Model/StmProto.lean: per-variable version stamps, logged
  first reads, validate-then-publish commit, restart on failed validation, `abort` returns without
  publishing), for EVERY number of threads, EVERY list of transactions per thread, EVERY program,
  and EVERY interleaving of the threads' steps:

    the final shared memory, together with the value returned by each committed transaction,
    is exactly what the one-at-a-time execution of the committed transactions IN COMMIT ORDER
    produces from the initial memory (`C07_serializable`);
    shared memory changes only at a commit whose validation succeeded (`C07_only_valid_commits_publish`):
    an attempt that observed a torn snapshot is restarted, or returns its error, and publishes nothing.

  What is NOT covered by these theorems (named in the evidence): the interleavings INSIDE `commit`
  on the real `parking_lot` locks (lock order, the window between validation and publication),
  memory ordering, `wait_for_change` wake-ups, and the premise that honeycomb operations access
  shared memory only through `Transaction::read/write` (false for `orbit()`/`is_free`: findings
  D3/D4) — these are the business of the schedule explorer (tools/props/c07.py).
-/
import Honeycomb.Model.StmProto
import Honeycomb.Lemmas.StmThy


namespace HC.C07
open HC HC.Proto Store

variable {Var Val ε α : Type} [DecidableEq Var] [DecidableEq α]

instance : LawfulStore (Var → Val) Var Val where
  sget_sset := by intro s v w x _ _; rfl
  svalid_sset := by intro s v w x; rfl
  styped_sset := by intro s v w x y; rfl
  styped_sget := by intro s v _; rfl

/-! ## publishing -/

theorem vals_publish (rs : List (Var × Val)) (ws : List (Var × Val)) (st : VStore Var Val) :
    vals (publish ws st) = ({ reads := rs, writes := ws } : Log Var Val).apply (vals st) := by
  unfold Log.apply
  simp only
  induction ws with
  | nil => rfl
  | cons p ps ih =>
      simp only [publish, List.foldr] at ih ⊢
      funext w
      have := congrFun ih w
      simp only [vals, sset] at this ⊢
      by_cases h : p.1 = w
      · simp [h]
      · simp [h, this]

theorem publish_ge (ws : List (Var × Val)) (st : VStore Var Val) (v : Var) :
    (st v).2 ≤ (publish ws st v).2 := by
  induction ws with
  | nil => exact Nat.le_refl _
  | cons p ps ih =>
      simp only [publish, List.foldr] at ih ⊢
      by_cases h : p.1 = v
      · simp only [h, if_true]; omega
      · simp only [h, if_false]; exact ih

theorem publish_same_version (ws : List (Var × Val)) (st : VStore Var Val) (v : Var)
    (h : (publish ws st v).2 = (st v).2) : publish ws st v = st v := by
  induction ws with
  | nil => rfl
  | cons p ps ih =>
      simp only [publish, List.foldr] at ih h ⊢
      by_cases hp : p.1 = v
      · simp only [hp, if_true] at h
        have := publish_ge ps st v
        simp only [publish] at this
        omega
      · simp only [hp, if_false] at h ⊢
        exact ih h

/-! ## invariants -/

/-- every logged read still determines the value: the version never goes back, and while it is
    unchanged the value is the one that was read -/
def VersOK (reads : List (Var × Val × Nat)) (st : VStore Var Val) : Prop :=
  ∀ r ∈ reads, r.2.2 ≤ (st r.1).2 ∧ ((st r.1).2 = r.2.2 → (st r.1).1 = r.2.1)

/-- the attempt is a genuine partial execution of the current transaction: on ANY memory that
    agrees with the logged reads, running the transaction from scratch through the log reaches
    exactly this program counter and this log -/
def PcOK (t : Thread Var Val ε α) : Prop :=
  ∀ p0 rest, t.todo = p0 :: rest → ∀ σ : Var → Val, t.att.toLog.ReadsOK σ →
    execLog p0 σ {} = execLog t.att.pc σ t.att.toLog

structure TInv (t : Thread Var Val ε α) (st : VStore Var Val) : Prop where
  pc : PcOK t
  vers : VersOK t.att.reads st

structure SInv (init : Var → Val) (s : Sys Var Val ε α) : Prop where
  thr : ∀ t ∈ s.threads, TInv t s.store
  rep : replay s.commits init = some (vals s.store)

theorem VersOK.publish {reads : List (Var × Val × Nat)} {st : VStore Var Val} (h : VersOK reads st)
    (ws : List (Var × Val)) : VersOK reads (publish ws st) := by
  intro r hr
  obtain ⟨h1, h2⟩ := h r hr
  have hge := publish_ge ws st r.1
  refine ⟨by omega, ?_⟩
  intro heq
  have hsame : (Proto.publish ws st r.1).2 = (st r.1).2 := by omega
  have := publish_same_version ws st r.1 hsame
  rw [this]; exact h2 (by omega)

theorem pcOK_fresh (todo : List (Prog Var Val ε α)) (results : List (Out ε α)) :
    PcOK ({ todo := todo, att := { pc := todo.headD .panic }, results := results } : Thread Var Val ε α) := by
  intro p0 rest h σ _
  have h' : todo = p0 :: rest := h
  subst h'
  rfl

theorem versOK_nil (st : VStore Var Val) : VersOK ([] : List (Var × Val × Nat)) st := by
  intro r hr; simp at hr

/-- validation + version invariant ⇒ the logged reads agree with the CURRENT memory -/
theorem readsOK_of_valid {a : Attempt Var Val ε α} {st : VStore Var Val}
    (hv : a.valid st = true) (hi : VersOK a.reads st) : a.toLog.ReadsOK (vals st) := by
  intro p hp
  simp only [Attempt.toLog, List.mem_map] at hp
  obtain ⟨r, hr, rfl⟩ := hp
  have := (hi r hr).2
  unfold Attempt.valid at hv
  rw [List.all_eq_true] at hv
  have hv' := hv r hr
  simp only [decide_eq_true_eq] at hv'
  simp only [vals, sget]
  exact (this hv').symm

/-! ## the key step: a validated commit is a sequential execution on the current memory (T3) -/

theorem T3_validated_commit (t : Thread Var Val ε α) (st : VStore Var Val) (p0 : Prog Var Val ε α)
    (rest : List (Prog Var Val ε α)) (a : α) (ht : t.todo = p0 :: rest) (hpc : t.att.pc = .ret a)
    (hinv : TInv t st) (hv : t.att.valid st = true) :
    run p0 (vals st) = (.ok a, vals (publish t.att.writes st)) := by
  have hr := readsOK_of_valid hv hinv.vers
  have h1 := hinv.pc p0 rest ht (vals st) hr
  rw [hpc] at h1
  simp only [execLog] at h1
  have hw0 : ({} : Log Var Val).WritesOK (vals st) := by intro q hq; simp at hq
  have hr0 : ({} : Log Var Val).ReadsOK (vals st) := by intro q hq; simp at hq
  have h2 := (T1_execLog_sound p0 (vals st) {} hw0 hr0).1
  rw [h1] at h2
  have e : ({} : Log Var Val).apply (vals st) = vals st := rfl
  rw [e] at h2
  rw [h2, vals_publish (t.att.reads.map fun r => (r.1, r.2.1))]
  rfl

/-! ## thread step preserves the thread invariant -/

theorem readsOK_mono {ℓ : Log Var Val} {σ : Var → Val} (p : Var × Val)
    (h : ({ ℓ with reads := p :: ℓ.reads } : Log Var Val).ReadsOK σ) : ℓ.ReadsOK σ :=
  fun q hq => h q (by simp [hq])

theorem threadStep_inv (t : Thread Var Val ε α) (st : VStore Var Val) (h : TInv t st) :
    TInv (threadStep t st).1 (threadStep t st).2.1 := by
  -- the program counter moves along the log: `execLog` of the old counter unfolds to that of the new one
  have adv : ∀ {pc' : Prog Var Val ε α} {rs : List (Var × Val × Nat)} {ws : List (Var × Val)},
      (∀ σ : Var → Val, ({ pc := pc', reads := rs, writes := ws } : Attempt Var Val ε α).toLog.ReadsOK σ →
        t.att.toLog.ReadsOK σ ∧ execLog t.att.pc σ t.att.toLog =
          execLog pc' σ ({ pc := pc', reads := rs, writes := ws } : Attempt Var Val ε α).toLog) →
      PcOK ({ t with att := { pc := pc', reads := rs, writes := ws } } : Thread Var Val ε α) := by
    intro pc' rs ws hk q0 r0 hq σ hσ
    obtain ⟨hσ', e⟩ := hk σ hσ
    rw [h.pc q0 r0 hq σ hσ', e]
  unfold threadStep
  split
  · exact h
  next p0 rest htd =>
    split
    next v k hpc =>
      dsimp only
      split
      next x hlw =>
        refine ⟨adv fun σ hσ => ⟨hσ, ?_⟩, h.vers⟩
        rw [hpc]
        simp only [execLog, svalid, if_true, Log.read, hlw]
        rfl
      next hlw =>
        split
        next x hfr =>
          refine ⟨adv fun σ hσ => ⟨hσ, ?_⟩, h.vers⟩
          rw [hpc]
          simp only [execLog, svalid, if_true, Log.read, hlw, hfr]
          rfl
        next hfr =>
          constructor
          · -- the new log is the old one plus the read of `v`
            refine adv fun σ hσ => ⟨fun q hq' => hσ q ?_, ?_⟩
            · simp only [Attempt.toLog, List.map_cons, List.mem_cons] at hq' ⊢
              exact Or.inr hq'
            · have hval : (st v).1 = σ v := hσ (v, (st v).1) (by simp [Attempt.toLog])
              rw [hpc]
              simp only [execLog, svalid, if_true, Log.read, hlw, hfr, sget]
              rw [← hval]
              rfl
          · intro r hr
            simp only [List.mem_cons] at hr
            rcases hr with rfl | hr
            · exact ⟨Nat.le_refl _, fun _ => rfl⟩
            · exact h.vers r hr
    next v x k hpc =>
      refine ⟨adv fun σ hσ => ⟨hσ, ?_⟩, h.vers⟩
      rw [hpc]
      simp only [execLog, svalid, styped, Bool.and_self, if_true]
      rfl
    next a hpc =>
      split
      · exact ⟨pcOK_fresh _ _, versOK_nil _⟩
      · exact ⟨pcOK_fresh (Var := Var) (Val := Val) t.todo t.results, versOK_nil _⟩
    · exact ⟨pcOK_fresh _ _, versOK_nil _⟩
    · exact ⟨pcOK_fresh (Var := Var) (Val := Val) t.todo t.results, versOK_nil _⟩
    · exact ⟨pcOK_fresh _ _, versOK_nil _⟩

theorem threadStep_cases (t : Thread Var Val ε α) (st : VStore Var Val) :
    (threadStep t st).2 = (st, none) ∨
    ∃ p0 rest a, t.todo = p0 :: rest ∧ t.att.pc = .ret a ∧ t.att.valid st = true ∧
      (threadStep t st).2 = (publish t.att.writes st, some (p0, a)) := by
  unfold threadStep
  split
  · exact Or.inl rfl
  next p0 rest htd =>
    split
    · dsimp only
      split
      · exact Or.inl rfl
      · split <;> exact Or.inl rfl
    · exact Or.inl rfl
    next _ a hpc =>
      by_cases hv : t.att.valid st = true
      · rw [if_pos hv]; exact Or.inr ⟨p0, rest, a, htd, hpc, hv, rfl⟩
      · rw [if_neg hv]; exact Or.inl rfl
    · exact Or.inl rfl
    · exact Or.inl rfl
    · exact Or.inl rfl

/-- shared memory changes only at a commit whose validation succeeded -/
theorem C07_only_valid_commits_publish (t : Thread Var Val ε α) (st : VStore Var Val)
    (h : (threadStep t st).2.1 ≠ st) :
    ∃ a, t.att.pc = .ret a ∧ t.att.valid st = true ∧ (threadStep t st).2.1 = publish t.att.writes st := by
  rcases threadStep_cases t st with hc | ⟨p0, rest, a, _, hpc, hv, hc⟩
  · exact absurd (by rw [hc]) h
  · exact ⟨a, hpc, hv, by rw [hc]⟩

theorem replay_append (cs : List (Nat × Prog Var Val ε α × α)) (i : Nat) (p : Prog Var Val ε α) (a : α) :
    ∀ (init mid fin : Var → Val), replay cs init = some mid → run p mid = (.ok a, fin) →
      replay (cs ++ [(i, p, a)]) init = some fin := by
  induction cs with
  | nil =>
      intro init mid fin h1 h2
      simp only [replay, Option.some.injEq] at h1
      subst h1
      simp only [List.nil_append, replay, h2, if_true]
  | cons c cs ih =>
      intro init mid fin h1 h2
      obtain ⟨j, q, b⟩ := c
      simp only [List.cons_append, replay] at h1 ⊢
      match hq : run q init with
      | (.ok b', s') =>
          simp only [hq] at h1 ⊢
          by_cases hb : b' = b
          · simp only [hb, if_true] at h1 ⊢
            exact ih s' mid fin h1 h2
          · simp only [hb, if_false] at h1
            exact absurd h1 (by simp)
      | (.err e, s') => simp only [hq] at h1; exact absurd h1 (by simp)
      | (.retry, s') => simp only [hq] at h1; exact absurd h1 (by simp)
      | (.panic, s') => simp only [hq] at h1; exact absurd h1 (by simp)

theorem TInv.other_step {u t : Thread Var Val ε α} {st : VStore Var Val} (hu : TInv u st) :
    TInv u (threadStep t st).2.1 := by
  rcases threadStep_cases t st with h | ⟨p0, rest, a, _, _, _, h⟩
  · rw [h]; exact hu
  · rw [h]; exact ⟨hu.pc, hu.vers.publish _⟩

theorem step_inv (init : Var → Val) (s : Sys Var Val ε α) (i : Nat) (h : SInv init s) :
    SInv init (s.step i) := by
  unfold Sys.step
  match hti : s.threads[i]? with
  | none => simp only; exact h
  | some t =>
      simp only
      have htm : t ∈ s.threads := List.mem_of_getElem? hti
      have hT := h.thr t htm
      constructor
      · intro u hu
        simp only at hu
        rcases List.mem_or_eq_of_mem_set hu with hu | rfl
        · exact (h.thr u hu).other_step
        · exact threadStep_inv t s.store hT
      · simp only
        rcases threadStep_cases t s.store with hc | ⟨p0, rest, a, htd, hpc, hv, hc⟩
        · have h1 : (threadStep t s.store).2.1 = s.store := by rw [hc]
          have h2 : (threadStep t s.store).2.2 = none := by rw [hc]
          rw [h1, h2]; exact h.rep
        · have h1 : (threadStep t s.store).2.1 = publish t.att.writes s.store := by rw [hc]
          have h2 : (threadStep t s.store).2.2 = some (p0, a) := by rw [hc]
          rw [h1, h2]
          exact replay_append s.commits i p0 a init _ _ h.rep (T3_validated_commit t s.store p0 rest a htd hpc hT hv)

theorem foldl_keeps {σ ι : Type} {f : σ → ι → σ} {I : σ → Prop} (h : ∀ s i, I s → I (f s i)) :
    ∀ (l : List ι) (s : σ), I s → I (l.foldl f s)
  | [], _, hs => hs
  | i :: is, s, hs => foldl_keeps h is _ (h s i hs)

theorem exec_inv (init : Var → Val) (sched : List Nat) :
    ∀ s : Sys Var Val ε α, SInv init s → SInv init (s.exec sched) :=
  foldl_keeps (step_inv init) sched

theorem init_inv (init : Var → Val) (progs : List (List (Prog Var Val ε α))) :
    SInv init (Sys.init init progs) := by
  constructor
  · intro t ht
    simp only [Sys.init, List.mem_map] at ht
    obtain ⟨ps, _, rfl⟩ := ht
    exact ⟨pcOK_fresh _ _, versOK_nil _⟩
  · rfl

/-- **C07 (protocol level)**: under EVERY interleaving, the final shared memory and the values
    returned by the committed transactions are those of the sequential execution of the committed
    transactions in commit order -/
theorem C07_serializable (init : Var → Val) (progs : List (List (Prog Var Val ε α))) (sched : List Nat) :
    replay ((Sys.init init progs).exec sched).commits init =
      some (vals ((Sys.init init progs).exec sched).store) :=
  (exec_inv init sched _ (init_inv init progs)).rep

/-- reformulation with `atomically`: each committed transaction, run alone through
    `atomically_with_err` on the memory left by its predecessors, returns the recorded value -/
theorem C07_replay_step (p : Prog Var Val ε α) (a : α) (s s' : Var → Val)
    (h : run p s = (.ok a, s')) : atomically p s = (.ok a, s') ∧ atomicallyLog p s = (.ok a, s') := by
  have := atomically_ok h
  exact ⟨this, by rw [T1_atomicallyLog_eq]; exact this⟩

/-! ## non-vacuity: the lost-update scenario on fixed schedules of two increments -/

/-- `x := x + 1` on variable `0` -/
def incr : Prog Nat Nat Unit Nat := .read 0 fun x => .write 0 (x + 1) (.ret (x + 1))

/-- two threads, one increment each, interleaved read-read-write-write-commit-commit: the second
    commit fails validation, restarts, and the final value is 2 (not the lost-update value 1) -/
example : (vals ((Sys.init (fun _ => 0) [[incr], [incr]]).exec [0, 1, 0, 1, 0, 1, 1, 1, 1]).store) 0 = 2 := by
  decide +kernel
example : ((Sys.init (fun _ => (0 : Nat)) [[incr], [incr]]).exec [0, 1, 0, 1, 0, 1, 1, 1, 1]).commits.map (·.1) = [0, 1] := by
  decide +kernel
/-- the failed validation really happened: thread 1 finished only after a restart -/
example : ((Sys.init (fun _ => (0 : Nat)) [[incr], [incr]]).exec [0, 1, 0, 1, 0, 1]).commits.map (·.1) = [0] := by
  decide +kernel

end HC.C07

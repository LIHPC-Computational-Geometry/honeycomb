/-
  C13, fifth part — the triangles built by EAR CLIPPING carry the coordinates of the vertex-list triangles.

  C13.lean proves the area sum and the orientation of the clipped ears for the vertex-list computation
  `earclipTriangles` (the kernel's `vertices` vector with its ear search and `remove`); C13c.lean proves the exact β
  structure of the result (`earTris`: n-2 closed dart triangles, computed with the kernel's `darts` vector).  This file
  ties the two IN THE RESULT MAP, with `pos m d := m.att 0 (vertex_id d)` and the labelling invariant `Lab` of
  Lemmas/PosCalc.lean (one step lemma per sew):

  * `earIter_pos`     : one iteration (`unsew1 rl; unsew1 y; sew1 y nd1; sew1 nd1 x; sew1 rl nd2; sew1 nd2 r0; sew2 nd1 nd2`)
                        on `rl → x → y → r0` with fresh `nd1`, `nd2`: every other dart keeps `pos`, `nd1` gets the coordinates
                        of `r0`, `nd2` those of `x`.  With these as the coordinates the darts are to carry, every sew
                        unites vertices that are to carry the same point (`Lab.sew1`, `Lab.sew2Both`): a fresh dart stays
                        alone and valueless until a sew gives it a β2 neighbour's vertex or the final 2-sew merges it with
                        the end point.  The 2-sew needs its two end points `x`, `r0` to be different
                        vertices: they carry different coordinates because the ear test rejected `cross = 0`;
  * `earclipLoop_pos` : the invariant "the `darts` vector is the current face in cyclic order AND `darts[i]` carries
                        `vertices[i]`" through the loop (with `EarsNotLast`, as in C13c);
  * `C13_earclip_triangles_carry_list_coordinates`, `C13_earclip_area_conserved_in_map`,
    `C13_earclip_orientation_in_map` (+ `_ccw_` / `_cw_` for the two public kernels),
    `C13_earclip_old_vertices_keep_coordinates`.

  Hypotheses beyond C13c: fresh spare darts (free, valueless), `cfg.law 0 = avgLaw`, `m.fc = 0`, and an orientation test
  that rejects triples with equal end points (true of `insideCCW` and `insideCW`).

  About the LAST triangle (the three vertices left at the end): the code does not test it.  What is proved is its
  doubled area — the polygon's minus the ears' — nothing about its sign.
-/
import Honeycomb.Props.C13d


namespace HC.C13
open HC HC.PosCalc HC.C03 HC.CellCalc

variable {n : Nat} {u : Array Bool}

/-! ## one iteration of the ear-clipping loop -/

/-- the coordinates through one iteration (`EarIter`: the seven sews `unsew1 rl; unsew1 y; sew1 y nd1; sew1 nd1 x;
    sew1 rl nd2; sew1 nd2 r0; sew2 nd1 nd2` on a face `rl → x → y → r0`) with valueless spare darts `nd1`, `nd2`, when the
    two end points `x`, `r0` of the cut carry different coordinates: every other dart keeps its coordinates, `nd1` gets
    those of `r0`, `nd2` those of `x` -/
theorem earIter_pos (cfg : Cfg Val) (hlaw : cfg.law 0 = avgLaw) {A B Rt : List Nat} {x y r0 nd1 nd2 : Nat}
    {m m7 : Map Val} (hi : Inv n u m) (hfc : m.fc = 0) (it : EarIter n u m m7 A B Rt x y r0 nd1 nd2)
    (hp1 : pos m nd1 = none) (hp2 : pos m nd2 = none) (hpx : pos m x ≠ pos m r0)
    (hs : run (earSews cfg n x y r0 (Rt.getLastD r0) nd1 nd2) m = (.ok (), m7)) :
    m7.fc = 0 ∧ (∀ d, Valid m d → d ≠ nd1 → d ≠ nd2 → pos m7 d = pos m d) ∧
    pos m7 nd1 = pos m r0 ∧ pos m7 nd2 = pos m x := by
  obtain ⟨lx, ly, lr0, lrl⟩ := it.live
  obtain ⟨l1, l2, h12⟩ := it.spare
  generalize hrl : Rt.getLastD r0 = rl at hs lrl
  have hch := it.face.chain
  simp only [List.cons_append] at hch
  have cyr : m.β 1 y = r0 := hch.2.1
  have clx : m.β 1 rl = x := by rw [← hrl]; exact (B1Chain.last Rt r0 x hch.2.2).2
  have hrlm : rl ∈ r0 :: Rt := by rw [← hrl]; exact ListFacts.getLastD_mem Rt r0
  have hn1 : nd1 ≠ x ∧ nd1 ≠ r0 ∧ nd1 ≠ rl :=
    ⟨fun c => it.out1 (by simp [c]), fun c => it.out1 (by simp [c]),
      fun c => it.out1 (c ▸ List.mem_cons_of_mem _ (List.mem_cons_of_mem _ hrlm))⟩
  have hn2 : nd2 ≠ x ∧ nd2 ≠ r0 :=
    ⟨fun c => it.out2 (by simp [c]), fun c => it.out2 (by simp [c])⟩
  have hwf := hi.wf
  have vx := valid_of_live hi lx
  have vr0 := valid_of_live hi lr0
  -- the coordinates every dart is to carry
  let p : Nat → Option Val := fun d => if d = nd1 then pos m r0 else if d = nd2 then pos m x else pos m d
  have pold : ∀ d, d ≠ nd1 → d ≠ nd2 → p d = pos m d := fun d a b => by simp only [p, if_neg a, if_neg b]
  have p1 : p nd1 = pos m r0 := by simp only [p, if_pos]
  have p2 : p nd2 = pos m x := by simp only [p, if_neg (Ne.symm h12), if_pos]
  have px : p x = pos m x := pold x (Ne.symm hn1.1) (Ne.symm hn2.1)
  have pr : p r0 = pos m r0 := pold r0 (Ne.symm hn1.2.1) (Ne.symm hn2.2)
  have hF : ∀ d, d ≠ nd1 → d ≠ nd2 → d ∉ [nd1, nd2] := fun d a b => by simp [a, b]
  have L0 : Lab p [nd1, nd2] m := by
    refine Lab.init hwf (fun d _ hd => ?_) (fun e he _ => ?_)
    · simp only [List.mem_cons, List.not_mem_nil, or_false, not_or] at hd
      exact (pold d hd.1 hd.2).symm
    · simp only [List.mem_cons, List.not_mem_nil, or_false] at he
      rcases he with rfl | rfl
      · exact ⟨fun i h3 => (it.free i h3).1, hp1⟩
      · exact ⟨fun i h3 => (it.free i h3).2, hp2⟩
  -- the neighbour across `a → b`, if any, is an old dart that is to carry the coordinates of `b`
  have nb : ∀ {a b : Nat}, Valid m a → Valid m b → m.β 1 a = b → m.β 2 a ≠ 0 →
      p (m.β 2 a) = pos m b ∧ m.β 2 a ∉ [nd1, nd2] := by
    intro a b va vb hab hnb
    have n1 := nb_ne_free hwf va l1.1 (it.free 2 (by omega)).1
    have n2 := nb_ne_free hwf va l2.1 (it.free 2 (by omega)).2
    refine ⟨?_, hF _ n1 n2⟩
    rw [pold _ n1 n2]
    exact (nb_pos hwf va vb hab hnb).2
  unfold earSews at hs
  obtain ⟨_, m1, s1, hs⟩ := run_bind_ok hs
  obtain ⟨_, m2, s2, hs⟩ := run_bind_ok hs
  obtain ⟨_, m3, s3, hs⟩ := run_bind_ok hs
  obtain ⟨_, m4, s4, hs⟩ := run_bind_ok hs
  obtain ⟨_, m5, s5, hs⟩ := run_bind_ok hs
  obtain ⟨_, m6, s6, s7⟩ := run_bind_ok hs
  -- the two unsews unite nothing; β2 stays what it was up to the 2-sew
  obtain ⟨i1, _, _, e1⟩ := oneUnsew2_eff cfg n hi s1
  obtain ⟨fc1, L1⟩ := L0.unsew1 cfg hlaw hi hfc s1
  obtain ⟨i2, _, _, e2⟩ := oneUnsew2_eff cfg n i1 s2
  obtain ⟨fc2, L2⟩ := L1.unsew1 cfg hlaw i1 fc1 s2
  obtain ⟨i3, _, _, e3⟩ := oneSew2_eff cfg n i2 ly l1 s3
  obtain ⟨i4, _, _, e4⟩ := oneSew2_eff cfg n i3 l1 lx s4
  obtain ⟨i5, _, _, e5⟩ := oneSew2_eff cfg n i4 lrl l2 s5
  obtain ⟨i6, _, _, e6⟩ := oneSew2_eff cfg n i5 l2 lr0 s6
  have b2 : ∀ z, m2.β 2 z = m.β 2 z := fun z => (eff1_β2 e2 z).trans (eff1_β2 e1 z)
  have b3 : ∀ z, m3.β 2 z = m.β 2 z := fun z => (eff1_β2 e3 z).trans (b2 z)
  have b4 : ∀ z, m4.β 2 z = m.β 2 z := fun z => (eff1_β2 e4 z).trans (b3 z)
  have b5 : ∀ z, m5.β 2 z = m.β 2 z := fun z => (eff1_β2 e5 z).trans (b4 z)
  -- `nd1` joins the end of `y`, `nd2` the end of `rl`; the sews from `nd1`, `nd2` unite nothing
  obtain ⟨fc3, L3, _⟩ := L2.sew1 cfg hlaw i2 fc2 ly l1 (by
    rw [b2]
    intro hnb
    obtain ⟨a, b⟩ := nb (valid_of_live hi ly) vr0 cyr hnb
    exact ⟨a.trans p1.symm, Or.inl b⟩) s3
  obtain ⟨fc4, L4, _⟩ := L3.sew1 cfg hlaw i3 fc3 l1 lx
    (fun c => absurd ((b3 nd1).trans (it.free 2 (by omega)).1) c) s4
  obtain ⟨fc5, L5, _⟩ := L4.sew1 cfg hlaw i4 fc4 lrl l2 (by
    rw [b4]
    intro hnb
    obtain ⟨a, b⟩ := nb (valid_of_live hi lrl) vx clx hnb
    exact ⟨a.trans p2.symm, Or.inl b⟩) s5
  obtain ⟨fc6, L6, _⟩ := L5.sew1 cfg hlaw i5 fc5 l2 lr0
    (fun c => absurd ((b5 nd2).trans (it.free 2 (by omega)).2) c) s6
  -- the 2-sew of `nd1 → x` and `nd2 → r0`: the ends `x`, `r0` of the new edge carry different coordinates
  have hb1n1 : m6.β 1 nd1 = x := by
    rw [e6, if_neg (fun hh => absurd hh.1 (by decide)), if_neg (fun hh => h12 hh.2.symm), e5,
      if_neg (fun hh => absurd hh.1 (by decide)), if_neg (fun hh => hn1.2.2 hh.2.symm), e4,
      if_neg (fun hh => absurd hh.1 (by decide)), if_pos ⟨rfl, rfl⟩]
  have hb1n2 : m6.β 1 nd2 = r0 := by
    rw [e6, if_neg (fun hh => absurd hh.1 (by decide)), if_pos ⟨rfl, rfl⟩]
  obtain ⟨fc7, L7, v1, v2⟩ := L6.sew2Both cfg hlaw i6 fc6 l1 l2 h12 (by rw [hb1n1]; exact lx.1) (by rw [hb1n2]; exact lr0.1)
    (by rw [hb1n2]; exact ⟨p1.trans pr.symm, Or.inr (hF r0 (Ne.symm hn1.2.1) (Ne.symm hn2.2))⟩)
    (by rw [hb1n1]; exact ⟨px.trans p2.symm, Or.inl (hF x (Ne.symm hn1.1) (Ne.symm hn2.1))⟩)
    (by rw [p1, p2]; exact fun c => hpx c.symm) s7
  refine ⟨fc7, fun d hd a b => ?_, ?_, ?_⟩
  · rw [← pold d a b]
    exact L7.of_not_mem (valid_trans hi it.inv hd) (hF d a b)
  · rw [← p1]
    exact v1
  · rw [← p2]
    exact v2

/-! ## the loop -/

/-- the 2D point carried by the origin of a dart -/
def p2pos (m : Map Val) (d : Nat) : Option P2 := (pos m d).map Val.p2

theorem triP2_of_p2pos {m : Map Val} {a b c : Nat} {pa pb pc : P2} (ha : p2pos m a = some pa)
    (hb : p2pos m b = some pb) (hc : p2pos m c = some pc) : triP2 m (a, b, c) = some (pa, pb, pc) := by
  unfold p2pos at ha hb hc
  unfold triP2
  cases h1 : pos m a with
  | none => rw [h1] at ha; simp at ha
  | some va =>
    cases h2 : pos m b with
    | none => rw [h2] at hb; simp at hb
    | some vb =>
      cases h3 : pos m c with
      | none => rw [h3] at hc; simp at hc
      | some vc =>
        rw [h1] at ha; rw [h2] at hb; rw [h3] at hc
        simp only [Option.map_some, Option.some.injEq] at ha hb hc
        simp only [ha, hb, hc]

/-- the vertex list split like the dart vector -/
theorem split_values {f : Nat → Option P2} {A B : List Nat} {x y : Nat} {vs : List P2}
    (h : (A ++ x :: y :: B).map f = vs.map some) :
    ∃ VA vx vy VB, vs = VA ++ vx :: vy :: VB ∧ A.map f = VA.map some ∧ f x = some vx ∧ f y = some vy ∧
      B.map f = VB.map some := by
  simp only [List.map_append, List.map_cons] at h
  obtain ⟨VA, Vr, hvs, hA, hr⟩ := List.map_eq_append_iff.1 h.symm
  obtain ⟨vx, Vr', hvr, hx, hr'⟩ := List.map_eq_cons_iff.1 hr
  obtain ⟨vy, VB, hvr', hy, hB⟩ := List.map_eq_cons_iff.1 hr'
  exact ⟨VA, vx, vy, VB, by rw [hvs, hvr, hvr'], hA.symm, hx.symm, hy.symm, hB.symm⟩

theorem getD_ear2 (VA VB : List P2) (vx vy vr : P2) (VRt : List P2) (h : VB ++ VA = vr :: VRt) :
    (VA ++ vx :: vy :: VB).getD ((VA.length + 2) % (VA ++ vx :: vy :: VB).length) default = vr := by
  cases VB with
  | nil =>
      simp only [List.nil_append] at h
      subst h
      have : ((vr :: VRt) ++ [vx, vy]).length = (vr :: VRt).length + 2 := by simp
      rw [this, Nat.mod_self]
      simp
  | cons vb VB' =>
      simp only [List.cons_append, List.cons.injEq] at h
      rw [Nat.mod_eq_of_lt (by simp)]
      have e : VA ++ vx :: vy :: vb :: VB' = (VA ++ [vx, vy]) ++ vb :: VB' := by simp
      rw [e, List.getD_eq_getElem?_getD, List.getElem?_append_right (by simp)]
      simp [h.1]

theorem map_length_eq {α β γ : Type} {f : α → γ} {g : β → γ} {l : List α} {l' : List β} (h : l.map f = l'.map g) :
    l.length = l'.length := by
  have := congrArg List.length h
  simpa using this

/-- **the coordinates through the ear-clipping loop**: on a closed face held in cyclic order in the kernel's `darts`
    vector, whose darts carry the points of the kernel's `vs` vector, with valueless spare darts: every dart other than the
    spare darts keeps its coordinates, and the corners of the dart triangles `earTris`, read in the result, are the
    triangles of the vertex-list computation `earclipTriangles`, in order -/
theorem earclipLoop_pos (cfg : Cfg Val) (hlaw : cfg.law 0 = avgLaw) (inside : P2 → P2 → P2 → Bool)
    (hins : ∀ a b c, inside a b c = true → a ≠ c) :
    ∀ (chunks : List (Nat × Nat)) (darts : List Nat) (vs : List P2) (m m' : Map Val) (d0 : Nat) (rest : List Nat),
      Inv n u m → darts = d0 :: rest → ClosedFace m d0 rest → darts.length = vs.length →
      vs.length = chunks.length + 3 → (sparesOf chunks).Nodup →
      (∀ x ∈ sparesOf chunks, Live n u x ∧ x ∉ darts) → EarsNotLast inside chunks.length vs →
      run (earclipLoop cfg n inside chunks darts vs) m = (.ok (), m') →
      m.fc = 0 → darts.map (p2pos m) = vs.map some → (∀ x ∈ sparesOf chunks, pos m x = none) →
      Inv n u m' ∧ (∀ d, Valid m d → d ∉ sparesOf chunks → pos m' d = pos m d) ∧
      ∃ tris, earclipTriangles inside chunks.length vs = some tris ∧
        (earTris inside chunks darts vs).map (triP2 m') = tris.map some := by
  refine earclipLoop_induct cfg n inside ?_ ?_
  · intro a b c vs m hi _ h3 _ hmap _
    match vs, h3, hmap with
    | [va, vb, vc], _, hmap =>
        simp only [List.map_cons, List.map_nil, List.cons.injEq, and_true] at hmap
        refine ⟨hi, fun _ _ _ => rfl, [(va, vb, vc)], rfl, ?_⟩
        simp only [earTris, List.map_cons, List.map_nil, List.cons.injEq, and_true]
        exact triP2_of_p2pos hmap.1 hmap.2.1 hmap.2.2
  · intro nd1 nd2 cs vs m m7 m' A B Rt x y r0 hi hf hlt _ hsnd hsp it hs ih hfc hmap hnone
    rw [sparesOf_cons] at hsnd hsp hnone
    simp only [List.nodup_cons, List.mem_cons, not_or] at hsnd
    have hvalid : ∀ z, z ∈ A ++ x :: y :: B → Valid m z := fun z hz =>
      ⟨it.face.nz z (it.mem_face.2 hz), it.face.lt hi.wf (it.mem_face.2 hz)⟩
    have hnd1d : ∀ z, z ∈ A ++ x :: y :: B → z ≠ nd1 := fun z hz c => (hsp nd1 (by simp)).2 (c ▸ hz)
    have hnd2d : ∀ z, z ∈ A ++ x :: y :: B → z ≠ nd2 := fun z hz c => (hsp nd2 (by simp)).2 (c ▸ hz)
    have hspd : ∀ z, z ∈ A ++ x :: y :: B → z ∉ sparesOf cs := fun z hz c => (hsp z (by simp [c])).2 hz
    obtain ⟨VA, vx, vy, VB, hvsplit, hmA, hmx, hmy, hmB⟩ := split_values hmap
    have hVA : VA.length = A.length := (map_length_eq hmA).symm
    have hmR : (r0 :: Rt).map (p2pos m) = (VB ++ VA).map some := by
      rw [← it.split, List.map_append, List.map_append, hmA, hmB]
    cases hVR : VB ++ VA with
    | nil => rw [hVR] at hmR; simp at hmR
    | cons vr VRt =>
    rw [hVR] at hmR
    simp only [List.map_cons, List.cons.injEq] at hmR
    have hmr0 : p2pos m r0 = some vr := hmR.1
    have hg0 : vs.getD A.length default = vx := by
      rw [hvsplit, ← hVA]; simp
    have hg2 : vs.getD ((A.length + 2) % vs.length) default = vr := by
      rw [hvsplit, ← hVA]; exact getD_ear2 VA VB vx vy vr VRt hVR
    have hg1 : vs.getD (A.length + 1) default = vy := by
      rw [hvsplit, ← hVA]; simp [List.getD_eq_getElem?_getD]
    have hmod : (A.length + 1) % vs.length = A.length + 1 := Nat.mod_eq_of_lt hlt
    have hpx : pos m x ≠ pos m r0 := by
      intro hh
      have ht := (findEar_spec hf).2
      unfold earTest at ht
      simp only [Bool.and_eq_true] at ht
      have := hins _ _ _ ht.1
      rw [hg0, hg2] at this
      apply this
      have e : p2pos m x = p2pos m r0 := by unfold p2pos; rw [hh]
      rw [hmx, hmr0] at e
      exact Option.some.inj e
    obtain ⟨hfc7, pk, p1, p2⟩ := earIter_pos cfg hlaw hi hfc it (hnone nd1 (by simp)) (hnone nd2 (by simp)) hpx hs
    have pkd : ∀ z, z ∈ A ++ x :: y :: B → p2pos m7 z = p2pos m z := by
      intro z hz
      unfold p2pos
      rw [pk z (hvalid z hz) (hnd1d z hz) (hnd2d z hz)]
    have herase : vs.eraseIdx (A.length + 1) = VA ++ vx :: VB := by
      rw [hvsplit, ← hVA, List.eraseIdx_append_of_length_le (by omega)]
      have e1 : VA.length + 1 - VA.length = 1 := by omega
      rw [e1]; rfl
    have hmap' : (A ++ nd2 :: B).map (p2pos m7) = (vs.eraseIdx (A.length + 1)).map some := by
      have eA : A.map (p2pos m7) = VA.map some := by
        rw [← hmA]; exact List.map_congr_left fun z hz => pkd z (by simp [hz])
      have eB : B.map (p2pos m7) = VB.map some := by
        rw [← hmB]; exact List.map_congr_left fun z hz => pkd z (by simp [hz])
      have e2 : p2pos m7 nd2 = some vx := by unfold p2pos; rw [p2]; exact hmx
      rw [herase, List.map_append, List.map_cons, List.map_append, List.map_cons, eA, eB, e2]
    have vsp : ∀ z ∈ sparesOf cs, Valid m z := fun z hz => valid_of_live hi (hsp z (by simp [hz])).1
    obtain ⟨j1, jkeep, r, hr, hmapT⟩ := ih hfc7 hmap' (fun z hz => by
      rw [pk z (vsp z hz) (fun c => hsnd.1.2 (c ▸ hz)) (fun c => hsnd.2.1 (c ▸ hz))]
      exact hnone z (by simp [hz]))
    have keepAll : ∀ d, Valid m d → d ≠ nd1 → d ≠ nd2 → d ∉ sparesOf cs → pos m' d = pos m d := by
      intro d hdv h1 h2 h3
      rw [jkeep d (valid_trans hi it.inv hdv) h3, pk d hdv h1 h2]
    have keepd : ∀ z, z ∈ A ++ x :: y :: B → p2pos m' z = p2pos m z := by
      intro z hz
      unfold p2pos
      rw [keepAll z (hvalid z hz) (hnd1d z hz) (hnd2d z hz) (hspd z hz)]
    refine ⟨j1, ?_, (vx, vy, vr) :: r, ?_, ?_⟩
    · intro d hdv hns
      rw [sparesOf_cons] at hns
      simp only [List.mem_cons, not_or] at hns
      exact keepAll d hdv hns.1 hns.2.1 hns.2.2
    · simp only [List.length_cons]
      unfold earclipTriangles
      simp only [hf, hmod, hr, hg0, hg1, hg2]
    · have e1 : p2pos m' nd1 = some vr := by
        unfold p2pos
        rw [jkeep nd1 (valid_of_live it.inv it.spare.1) hsnd.1.2, p1]; exact hmr0
      rw [earTris_cons inside nd1 nd2 cs A B x y hf hlt, List.map_cons, List.map_cons, hmapT,
        triP2_of_p2pos ((keepd x (by simp)).trans hmx) ((keepd y (by simp)).trans hmy) e1]

theorem cross_ends_eq (a b : P2) : cross a b a = 0 := by unfold cross; ring

/-- a counter-clockwise (resp. clockwise) triple has different end points -/
theorem insideCCW_ends_differ (a b c : P2) (h : insideCCW a b c = true) : a ≠ c := by
  intro hh; subst hh
  unfold insideCCW at h
  rw [cross_ends_eq] at h
  simp at h

theorem insideCW_ends_differ (a b c : P2) (h : insideCW a b c = true) : a ≠ c := by
  intro hh; subst hh
  unfold insideCW at h
  rw [cross_ends_eq] at h
  simp at h

/-- **C13, the triangles of the map carry the triangles of the vertex list (`earclip_cell_*`)**.  On a closed face
    `face :: rest` of a well-formed map, with spare darts that are in use, pairwise distinct, outside the face and
    FRESH (free, no vertex value under them), for an orientation test that rejects triples with equal end points (both
    `insideCCW` and `insideCW` do: `insideCCW_ends_differ`, `insideCW_ends_differ`) and ears never found at the last index
    (`EarsNotLast`, see C13c), every successful run
    * read the vertex list `vals` of the face, on which the vertex-list computation `earclipTriangles` (the object of
      `C13_earclip_area_sum`, `C13_earclip_ears_oriented`) yields `tris`;
    * left the `n - 2` dart triangles `earTris …`, each a closed β1-cycle of the result (`TriFace`), whose corners, read
      through the vertex identifiers of the RESULT map, are `tris`, in order;
    * left the coordinates of every dart other than the spare darts unchanged.
    Needs the vertex merge law to be the average (`Vertex2`) and no injected failure (`fc = 0`). -/
theorem C13_earclip_triangles_carry_list_coordinates (cfg : Cfg Val) (hlaw : cfg.law 0 = avgLaw)
    (inside : P2 → P2 → P2 → Bool) (hins : ∀ a b c, inside a b c = true → a ≠ c) (m m' : Map Val)
    (face : Nat) (nds rest : List Nat) (hwf : WF 3 m) (hfc : m.fc = 0) (hc : ClosedFace m face rest)
    (hsp : ∀ d ∈ nds, C01.InUse m d ∧ d ∉ face :: rest) (hnd : nds.Nodup)
    (hfresh : ∀ d ∈ nds, (∀ i, i < 3 → m.β i d = 0) ∧ m.att 0 d = none)
    (hears : ∀ vals, run (faceVertices m.n (face :: rest)) m = (.ok vals, m) →
      EarsNotLast inside (chunks2 nds).length (vals.map Val.p2))
    (h : run (earclipCell cfg m.n inside face nds) m = (.ok (), m')) :
    ∃ (vals : List Val) (tris : List Tri),
      run (faceVertices m.n (face :: rest)) m = (.ok vals, m) ∧
      (chunks2 nds).length + 3 = (face :: rest).length ∧
      earclipTriangles inside (chunks2 nds).length (vals.map Val.p2) = some tris ∧
      WF 3 m' ∧
      (∀ t ∈ earTris inside (chunks2 nds) (face :: rest) (vals.map Val.p2), TriFace m' t) ∧
      (earTris inside (chunks2 nds) (face :: rest) (vals.map Val.p2)).length + 2 = (face :: rest).length ∧
      (earTris inside (chunks2 nds) (face :: rest) (vals.map Val.p2)).map (triP2 m') = tris.map some ∧
      (∀ d, d ≠ 0 → d < m.n → d ∉ nds → pos m' d = pos m d) := by
  obtain ⟨vals, hv, wf', tf, tl, _⟩ := C13_earclip_structure cfg inside m m' face nds rest hwf hc
    (fun d hd => ⟨(hsp d hd).1, by
      unfold Map.isFree
      simp only [List.all_eq_true, List.mem_range, decide_eq_true_eq]
      exact (hfresh d hd).1, (hsp d hd).2⟩) hnd hears h
  obtain ⟨vals2, h2, _, h4, hcl, _⟩ := earclip_kernel_closed cfg inside m m' face nds rest hwf hc h
  have hve : vals2 = vals := by
    rw [hv] at h2
    exact (Out.ok.inj (Prod.mk.inj h2).1).symm
  rw [hve] at h4
  obtain ⟨hvl, _⟩ := faceVertices_length m.n _ _ _ _ hv
  have hsub := sparesOf_chunks2_sublist nds
  have hi : Inv m.n m.u m := Inv.of_wf hwf
  have hvals := faceVertices_pos hwf _ _ _ (fun d hd => ⟨hc.nz d hd, hc.lt hwf hd⟩) hv
  have hmap : (face :: rest).map (p2pos m) = (vals.map Val.p2).map some := by
    have e : (face :: rest).map (p2pos m) = ((face :: rest).map (pos m)).map (Option.map Val.p2) := by
      rw [List.map_map]; rfl
    rw [e, ← hvals, List.map_map, List.map_map]
    rfl
  obtain ⟨_, keep, tris, htris, hmapT⟩ := earclipLoop_pos (n := m.n) (u := m.u) cfg hlaw inside hins (chunks2 nds)
    (face :: rest) (vals.map Val.p2) m m' face rest hi rfl hc (by rw [List.length_map, hvl])
    (by rw [List.length_map, hvl]; exact hcl.symm) (hnd.sublist hsub)
    (fun x hx => ⟨(hsp x (hsub.subset hx)).1, (hsp x (hsub.subset hx)).2⟩) (hears vals hv) h4 hfc hmap
    (fun x hx => by
      have hx' := hsub.subset hx
      rw [pos_free hwf (valid_of_live hi (hsp x hx').1) (hfresh x hx').1]
      exact (hfresh x hx').2)
  refine ⟨vals, tris, hv, hcl, htris, wf', tf, ?_, hmapT,
    fun d hd0 hdlt hdn => keep d ⟨hd0, hdlt⟩ (fun hh => hdn (hsub.subset hh))⟩
  rw [tl]
  simp only [List.length_cons] at hcl ⊢
  omega

/-- **C13, the area of the polygon is conserved IN THE MAP (`earclip_cell_*`)**: the cross products of the dart triangles
    of the result, corners read through the result's vertex identifiers, add up to twice the signed area of the
    polygon read before the call -/
theorem C13_earclip_area_conserved_in_map (cfg : Cfg Val) (hlaw : cfg.law 0 = avgLaw)
    (inside : P2 → P2 → P2 → Bool) (hins : ∀ a b c, inside a b c = true → a ≠ c) (m m' : Map Val)
    (face : Nat) (nds rest : List Nat) (hwf : WF 3 m) (hfc : m.fc = 0) (hc : ClosedFace m face rest)
    (hsp : ∀ d ∈ nds, C01.InUse m d ∧ d ∉ face :: rest) (hnd : nds.Nodup)
    (hfresh : ∀ d ∈ nds, (∀ i, i < 3 → m.β i d = 0) ∧ m.att 0 d = none)
    (hears : ∀ vals, run (faceVertices m.n (face :: rest)) m = (.ok vals, m) →
      EarsNotLast inside (chunks2 nds).length (vals.map Val.p2))
    (h : run (earclipCell cfg m.n inside face nds) m = (.ok (), m')) :
    ∃ vals : List Val,
      run (faceVertices m.n (face :: rest)) m = (.ok vals, m) ∧
      (∀ t ∈ earTris inside (chunks2 nds) (face :: rest) (vals.map Val.p2), TriFace m' t) ∧
      (mapTris m' (earTris inside (chunks2 nds) (face :: rest) (vals.map Val.p2))).length + 2 = (face :: rest).length ∧
      ((mapTris m' (earTris inside (chunks2 nds) (face :: rest) (vals.map Val.p2))).map tri2).sum
        = area2 (vals.map Val.p2) := by
  obtain ⟨vals, tris, a1, a2, a3, _, a5, a6, a7, _⟩ :=
    C13_earclip_triangles_carry_list_coordinates cfg hlaw inside hins m m' face nds rest hwf hfc hc hsp hnd hfresh hears h
  have e : mapTris m' (earTris inside (chunks2 nds) (face :: rest) (vals.map Val.p2)) = tris :=
    filterMap_of_map_some _ _ _ a7
  have hl := congrArg List.length a7
  simp only [List.length_map] at hl
  obtain ⟨hvl, _⟩ := faceVertices_length m.n _ _ _ _ a1
  refine ⟨vals, a1, a5, by rw [e, ← hl]; exact a6, ?_⟩
  rw [e]
  exact C13_earclip_area_sum inside _ _ tris (by rw [List.length_map, hvl]; exact a2.symm) a3

/-- **C13, the orientation of the triangles IN THE MAP (`earclip_cell_*`)**: the triangles of the result, corners read
    through the result's vertex identifiers, are `ears ++ [last]` where every clipped ear passes the announced orientation
    test (`inside`: strictly counter-clockwise for `_countercw`, strictly clockwise for `_cw`).  The LAST triangle — the
    three vertices left when the spare darts are used up — is not tested by the code: all that is known is its doubled
    area, the polygon's minus the ears'; its orientation follows on a simple polygon of the announced orientation
    (not proved). -/
theorem C13_earclip_orientation_in_map (cfg : Cfg Val) (hlaw : cfg.law 0 = avgLaw)
    (inside : P2 → P2 → P2 → Bool) (hins : ∀ a b c, inside a b c = true → a ≠ c) (m m' : Map Val)
    (face : Nat) (nds rest : List Nat) (hwf : WF 3 m) (hfc : m.fc = 0) (hc : ClosedFace m face rest)
    (hsp : ∀ d ∈ nds, C01.InUse m d ∧ d ∉ face :: rest) (hnd : nds.Nodup)
    (hfresh : ∀ d ∈ nds, (∀ i, i < 3 → m.β i d = 0) ∧ m.att 0 d = none)
    (hears : ∀ vals, run (faceVertices m.n (face :: rest)) m = (.ok vals, m) →
      EarsNotLast inside (chunks2 nds).length (vals.map Val.p2))
    (h : run (earclipCell cfg m.n inside face nds) m = (.ok (), m')) :
    ∃ (vals : List Val) (ears : List Tri) (last : Tri),
      run (faceVertices m.n (face :: rest)) m = (.ok vals, m) ∧
      (∀ t ∈ earTris inside (chunks2 nds) (face :: rest) (vals.map Val.p2), TriFace m' t) ∧
      mapTris m' (earTris inside (chunks2 nds) (face :: rest) (vals.map Val.p2)) = ears ++ [last] ∧
      ears.length = (chunks2 nds).length ∧
      (∀ T ∈ ears, inside T.1 T.2.1 T.2.2 = true) ∧
      tri2 last = area2 (vals.map Val.p2) - (ears.map tri2).sum := by
  obtain ⟨vals, tris, a1, a2, a3, _, a5, a6, a7, _⟩ :=
    C13_earclip_triangles_carry_list_coordinates cfg hlaw inside hins m m' face nds rest hwf hfc hc hsp hnd hfresh hears h
  have e : mapTris m' (earTris inside (chunks2 nds) (face :: rest) (vals.map Val.p2)) = tris :=
    filterMap_of_map_some _ _ _ a7
  have hl := congrArg List.length a7
  simp only [List.length_map] at hl
  obtain ⟨hvl, _⟩ := faceVertices_length m.n _ _ _ _ a1
  have hor := C13_earclip_ears_oriented inside _ _ tris a3
  have hsum := C13_earclip_area_sum inside _ _ tris (by rw [List.length_map, hvl]; exact a2.symm) a3
  have hne : tris ≠ [] := by
    intro h0; rw [h0] at hl; simp only [List.length_nil] at hl
    simp only [List.length_cons] at a6 a2; omega
  refine ⟨vals, tris.dropLast, tris.getLast hne, a1, a5, by rw [e, List.dropLast_concat_getLast], ?_, hor, ?_⟩
  · rw [List.length_dropLast, ← hl]
    simp only [List.length_cons] at a6 a2
    omega
  · have : ((tris.dropLast ++ [tris.getLast hne]).map tri2).sum = area2 (vals.map Val.p2) := by
      rw [List.dropLast_concat_getLast]; exact hsum
    simp only [List.map_append, List.sum_append, List.map_cons, List.map_nil, List.sum_cons, List.sum_nil] at this
    linarith

/-- **C13, untouched coordinates (`earclip_cell_*`)**: every dart other than the spare darts reads the same coordinates
    through its vertex identifier after the call as before -/
theorem C13_earclip_old_vertices_keep_coordinates (cfg : Cfg Val) (hlaw : cfg.law 0 = avgLaw)
    (inside : P2 → P2 → P2 → Bool) (hins : ∀ a b c, inside a b c = true → a ≠ c) (m m' : Map Val)
    (face : Nat) (nds rest : List Nat) (hwf : WF 3 m) (hfc : m.fc = 0) (hc : ClosedFace m face rest)
    (hsp : ∀ d ∈ nds, C01.InUse m d ∧ d ∉ face :: rest) (hnd : nds.Nodup)
    (hfresh : ∀ d ∈ nds, (∀ i, i < 3 → m.β i d = 0) ∧ m.att 0 d = none)
    (hears : ∀ vals, run (faceVertices m.n (face :: rest)) m = (.ok vals, m) →
      EarsNotLast inside (chunks2 nds).length (vals.map Val.p2))
    (h : run (earclipCell cfg m.n inside face nds) m = (.ok (), m')) :
    ∀ d, d ≠ 0 → d < m.n → d ∉ nds → pos m' d = pos m d := by
  obtain ⟨_, _, _, _, _, _, _, _, _, keep⟩ :=
    C13_earclip_triangles_carry_list_coordinates cfg hlaw inside hins m m' face nds rest hwf hfc hc hsp hnd hfresh hears h
  exact keep

/-- **the two public kernels**: after `earclip_cell_countercw` every clipped ear is strictly counter-clockwise IN THE MAP;
    the last triangle has the remaining doubled area -/
theorem C13_earclip_ccw_orientation_in_map (cfg : Cfg Val) (hlaw : cfg.law 0 = avgLaw) (m m' : Map Val)
    (face : Nat) (nds rest : List Nat) (hwf : WF 3 m) (hfc : m.fc = 0) (hc : ClosedFace m face rest)
    (hsp : ∀ d ∈ nds, C01.InUse m d ∧ d ∉ face :: rest) (hnd : nds.Nodup)
    (hfresh : ∀ d ∈ nds, (∀ i, i < 3 → m.β i d = 0) ∧ m.att 0 d = none)
    (hears : ∀ vals, run (faceVertices m.n (face :: rest)) m = (.ok vals, m) →
      EarsNotLast insideCCW (chunks2 nds).length (vals.map Val.p2))
    (h : run (earclipCellCCW cfg m.n face nds) m = (.ok (), m')) :
    ∃ (vals : List Val) (ears : List Tri) (last : Tri),
      run (faceVertices m.n (face :: rest)) m = (.ok vals, m) ∧
      mapTris m' (earTris insideCCW (chunks2 nds) (face :: rest) (vals.map Val.p2)) = ears ++ [last] ∧
      (∀ T ∈ ears, 0 < tri2 T) ∧ tri2 last = area2 (vals.map Val.p2) - (ears.map tri2).sum := by
  obtain ⟨vals, ears, last, a1, _, a3, _, a5, a6⟩ := C13_earclip_orientation_in_map cfg hlaw insideCCW
    insideCCW_ends_differ m m' face nds rest hwf hfc hc hsp hnd hfresh hears h
  refine ⟨vals, ears, last, a1, a3, fun T hT => ?_, a6⟩
  have := a5 T hT
  unfold insideCCW at this
  simpa [tri2] using this

/-- after `earclip_cell_cw` every clipped ear is strictly clockwise IN THE MAP -/
theorem C13_earclip_cw_orientation_in_map (cfg : Cfg Val) (hlaw : cfg.law 0 = avgLaw) (m m' : Map Val)
    (face : Nat) (nds rest : List Nat) (hwf : WF 3 m) (hfc : m.fc = 0) (hc : ClosedFace m face rest)
    (hsp : ∀ d ∈ nds, C01.InUse m d ∧ d ∉ face :: rest) (hnd : nds.Nodup)
    (hfresh : ∀ d ∈ nds, (∀ i, i < 3 → m.β i d = 0) ∧ m.att 0 d = none)
    (hears : ∀ vals, run (faceVertices m.n (face :: rest)) m = (.ok vals, m) →
      EarsNotLast insideCW (chunks2 nds).length (vals.map Val.p2))
    (h : run (earclipCellCW cfg m.n face nds) m = (.ok (), m')) :
    ∃ (vals : List Val) (ears : List Tri) (last : Tri),
      run (faceVertices m.n (face :: rest)) m = (.ok vals, m) ∧
      mapTris m' (earTris insideCW (chunks2 nds) (face :: rest) (vals.map Val.p2)) = ears ++ [last] ∧
      (∀ T ∈ ears, tri2 T < 0) ∧ tri2 last = area2 (vals.map Val.p2) - (ears.map tri2).sum := by
  obtain ⟨vals, ears, last, a1, _, a3, _, a5, a6⟩ := C13_earclip_orientation_in_map cfg hlaw insideCW
    insideCW_ends_differ m m' face nds rest hwf hfc hc hsp hnd hfresh hears h
  refine ⟨vals, ears, last, a1, a3, fun T hT => ?_, a6⟩
  have := a5 T hT
  unfold insideCW at this
  simpa [tri2] using this

/-! ## non-vacuity: the pentagon of `d7Map` (counter-clockwise) and its mirror image (clockwise) -/

theorem d7_ears : ∀ vals, run (faceVertices d7Map.n [1, 2, 3, 4, 5]) d7Map = (.ok vals, d7Map) →
    EarsNotLast insideCCW (chunks2 [6, 7, 8, 9]).length (vals.map Val.p2) := by
  exact run_ok_elim d7_vals (by decide +kernel)

/-- the hypotheses hold on the pentagon; the three dart triangles of the result carry the three triangles of the list -/
example : ∃ (vals : List Val) (tris : List Tri),
    run (faceVertices d7Map.n [1, 2, 3, 4, 5]) d7Map = (.ok vals, d7Map) ∧
    earclipTriangles insideCCW (chunks2 [6, 7, 8, 9]).length (vals.map Val.p2) = some tris ∧
    (earTris insideCCW (chunks2 [6, 7, 8, 9]) [1, 2, 3, 4, 5] (vals.map Val.p2)).map
      (triP2 (run (earclipCell (stdCfg 3 0) d7Map.n insideCCW 1 [6, 7, 8, 9]) d7Map).2) = tris.map some := by
  obtain ⟨vals, tris, a1, _, a3, _, _, _, a7, _⟩ :=
    C13_earclip_triangles_carry_list_coordinates (stdCfg 3 0) rfl insideCCW insideCCW_ends_differ d7Map _ 1 [6, 7, 8, 9]
      [2, 3, 4, 5] d7_wf rfl d7_closed d7_spares (by decide) d7_fresh d7_ears (run_eq_of_fst (congrArg Prod.fst d7_earclip_run))
  exact ⟨vals, tris, a1, a3, a7⟩

/-- concretely: (2,3,6), (1,7,8), (9,4,5) carry ((2,1),(4,0),(4,4)), ((0,0),(2,1),(4,4)), ((0,0),(4,4),(0,4)) -/
example : [(2, 3, 6), (1, 7, 8), (9, 4, 5)].map
      (triP2 (run (earclipCell (stdCfg 3 0) d7Map.n insideCCW 1 [6, 7, 8, 9]) d7Map).2)
    = [some (⟨2, 1⟩, ⟨4, 0⟩, ⟨4, 4⟩), some (⟨0, 0⟩, ⟨2, 1⟩, ⟨4, 4⟩), some (⟨0, 0⟩, ⟨4, 4⟩, ⟨0, 4⟩)] ∧
    earclipTriangles insideCCW 2 d7Pentagon
      = some [(⟨2, 1⟩, ⟨4, 0⟩, ⟨4, 4⟩), (⟨0, 0⟩, ⟨2, 1⟩, ⟨4, 4⟩), (⟨0, 0⟩, ⟨4, 4⟩, ⟨0, 4⟩)] := by
  rw [d7_earclip_run]
  decide +kernel

/-- area: 8 + 4 + 16 = 28, read in the result map -/
example : ∃ vals : List Val, run (faceVertices d7Map.n [1, 2, 3, 4, 5]) d7Map = (.ok vals, d7Map) ∧
    ((mapTris (run (earclipCell (stdCfg 3 0) d7Map.n insideCCW 1 [6, 7, 8, 9]) d7Map).2
      (earTris insideCCW (chunks2 [6, 7, 8, 9]) [1, 2, 3, 4, 5] (vals.map Val.p2))).map tri2).sum
      = area2 (vals.map Val.p2) := by
  obtain ⟨vals, a1, _, _, a4⟩ :=
    C13_earclip_area_conserved_in_map (stdCfg 3 0) rfl insideCCW insideCCW_ends_differ d7Map _ 1 [6, 7, 8, 9]
      [2, 3, 4, 5] d7_wf rfl d7_closed d7_spares (by decide) d7_fresh d7_ears (run_eq_of_fst (congrArg Prod.fst d7_earclip_run))
  exact ⟨vals, a1, a4⟩

example : (mapTris (run (earclipCell (stdCfg 3 0) d7Map.n insideCCW 1 [6, 7, 8, 9]) d7Map).2
    [(2, 3, 6), (1, 7, 8), (9, 4, 5)]).map tri2 = [8, 4, 16] := by
  rw [d7_earclip_run]
  decide +kernel

/-- orientation: the two clipped ears pass the test in the map; the last triangle has the rest of the area -/
example : ∃ (vals : List Val) (ears : List Tri) (last : Tri),
    run (faceVertices d7Map.n [1, 2, 3, 4, 5]) d7Map = (.ok vals, d7Map) ∧
    mapTris (run (earclipCell (stdCfg 3 0) d7Map.n insideCCW 1 [6, 7, 8, 9]) d7Map).2
      (earTris insideCCW (chunks2 [6, 7, 8, 9]) [1, 2, 3, 4, 5] (vals.map Val.p2)) = ears ++ [last] ∧
    ears.length = 2 ∧ (∀ T ∈ ears, insideCCW T.1 T.2.1 T.2.2 = true) ∧
    tri2 last = area2 (vals.map Val.p2) - (ears.map tri2).sum := by
  obtain ⟨vals, ears, last, a1, _, a3, a4, a5, a6⟩ :=
    C13_earclip_orientation_in_map (stdCfg 3 0) rfl insideCCW insideCCW_ends_differ d7Map _ 1 [6, 7, 8, 9]
      [2, 3, 4, 5] d7_wf rfl d7_closed d7_spares (by decide) d7_fresh d7_ears (run_eq_of_fst (congrArg Prod.fst d7_earclip_run))
  exact ⟨vals, ears, last, a1, a3, a4, a5, a6⟩

example : ∃ (vals : List Val) (ears : List Tri) (last : Tri),
    run (faceVertices d7Map.n [1, 2, 3, 4, 5]) d7Map = (.ok vals, d7Map) ∧
    mapTris (run (earclipCellCCW (stdCfg 3 0) d7Map.n 1 [6, 7, 8, 9]) d7Map).2
      (earTris insideCCW (chunks2 [6, 7, 8, 9]) [1, 2, 3, 4, 5] (vals.map Val.p2)) = ears ++ [last] ∧
    (∀ T ∈ ears, 0 < tri2 T) ∧ tri2 last = area2 (vals.map Val.p2) - (ears.map tri2).sum :=
  C13_earclip_ccw_orientation_in_map (stdCfg 3 0) rfl d7Map _ 1 [6, 7, 8, 9] [2, 3, 4, 5] d7_wf rfl d7_closed
    d7_spares (by decide) d7_fresh d7_ears (run_eq_of_fst (congrArg Prod.fst d7_earclip_run))

/-- untouched coordinates -/
example : ∀ d, d ≠ 0 → d < d7Map.n → d ∉ [6, 7, 8, 9] →
    pos (run (earclipCell (stdCfg 3 0) d7Map.n insideCCW 1 [6, 7, 8, 9]) d7Map).2 d = pos d7Map d :=
  C13_earclip_old_vertices_keep_coordinates (stdCfg 3 0) rfl insideCCW insideCCW_ends_differ d7Map _ 1 [6, 7, 8, 9]
    [2, 3, 4, 5] d7_wf rfl d7_closed d7_spares (by decide) d7_fresh d7_ears (run_eq_of_fst (congrArg Prod.fst d7_earclip_run))

example : [1, 2, 3, 4, 5].map (pos (run (earclipCell (stdCfg 3 0) d7Map.n insideCCW 1 [6, 7, 8, 9]) d7Map).2)
    = [some (.pt 0 0 0), some (.pt 2 1 0), some (.pt 4 0 0), some (.pt 4 4 0), some (.pt 0 4 0)] := by
  rw [d7_earclip_run]
  decide +kernel

/-- the mirror image of the pentagon, clockwise, for `earclip_cell_cw` -/
def d7MapCW : Map Val :=
  { d7Map with
    a := #[#[none, some (.pt 0 0 0), some (.pt 0 4 0), some (.pt 4 4 0), some (.pt 4 0 0), some (.pt 2 1 0),
             none, none, none, none],
           Array.replicate 11 none, Array.replicate 11 none, Array.replicate 11 none,
           Array.replicate 11 none, Array.replicate 11 none] }

theorem d7cw_vals : run (faceVertices d7MapCW.n [1, 2, 3, 4, 5]) d7MapCW
    = (.ok [.pt 0 0 0, .pt 0 4 0, .pt 4 4 0, .pt 4 0 0, .pt 2 1 0], d7MapCW) := by
  exact faceVertices_of_fst (by decide +kernel)

def d7CWEarclipped : Map Val :=
  { d7MapCW with b := #[#[0, 6, 1, 8, 3, 9, 2, 5, 4, 7], #[0, 2, 6, 4, 8, 7, 1, 9, 3, 5], #[0, 0, 0, 0, 0, 0, 7, 6, 9, 8]] }

theorem d7cw_earclip_run :
    run (earclipCellCW (stdCfg 3 0) d7MapCW.n 1 [6, 7, 8, 9]) d7MapCW = (.ok (), d7CWEarclipped) := by
  apply eq_of_runIs
  decide +kernel

example : ∃ (vals : List Val) (ears : List Tri) (last : Tri),
    run (faceVertices d7MapCW.n [1, 2, 3, 4, 5]) d7MapCW = (.ok vals, d7MapCW) ∧
    mapTris (run (earclipCellCW (stdCfg 3 0) d7MapCW.n 1 [6, 7, 8, 9]) d7MapCW).2
      (earTris insideCW (chunks2 [6, 7, 8, 9]) [1, 2, 3, 4, 5] (vals.map Val.p2)) = ears ++ [last] ∧
    (∀ T ∈ ears, tri2 T < 0) ∧ tri2 last = area2 (vals.map Val.p2) - (ears.map tri2).sum :=
  C13_earclip_cw_orientation_in_map (stdCfg 3 0) rfl d7MapCW _ 1 [6, 7, 8, 9] [2, 3, 4, 5] (by decide +kernel) rfl
    ⟨by decide +kernel, by decide, by decide⟩ (by decide +kernel) (by decide) (by decide +kernel)
    (run_ok_elim d7cw_vals (by decide +kernel))
    (run_eq_of_fst (congrArg Prod.fst d7cw_earclip_run))

example : (mapTris (run (earclipCellCW (stdCfg 3 0) d7MapCW.n 1 [6, 7, 8, 9]) d7MapCW).2
    [(1, 2, 6), (3, 4, 8), (7, 9, 5)]).map tri2 = [-16, -8, -4] := by
  rw [d7cw_earclip_run]
  decide +kernel

/-! ## the last triangle -/

/-- decidable, on the vertex list alone: the triangle left at the end of `earclipTriangles` passes the announced test -/
def lastOKb (inside : P2 → P2 → P2 → Bool) (k : Nat) (vs : List P2) : Bool :=
  match earclipTriangles inside k vs with
  | none => true
  | some tris =>
      match tris.getLast? with
      | none => true
      | some T => inside T.1 T.2.1 T.2.2

def LastOK (inside : P2 → P2 → P2 → Bool) (k : Nat) (vs : List P2) : Prop := lastOKb inside k vs = true

instance (inside : P2 → P2 → P2 → Bool) (k : Nat) (vs : List P2) : Decidable (LastOK inside k vs) := by
  unfold LastOK; exact inferInstance

/-- **the sign of the last triangle is NOT a consequence of the ear tests** (it needs the simplicity of the polygon): on
    the self-crossing quadrilateral `(0,0) (4,0) (4,4) (5,3)` — doubled area `8 > 0` — the first corner is accepted as a
    counter-clockwise ear (cross `16`, the fourth vertex strictly outside), and the triangle left, `(0,0) (4,4) (5,3)`, is
    CLOCKWISE (cross `-8`) -/
theorem C13_earclip_last_triangle_needs_simplicity_witness :
    findEar insideCCW [⟨0, 0⟩, ⟨4, 0⟩, ⟨4, 4⟩, ⟨5, 3⟩] = some 0 ∧
    earclipTriangles insideCCW 1 [⟨0, 0⟩, ⟨4, 0⟩, ⟨4, 4⟩, ⟨5, 3⟩]
      = some [(⟨0, 0⟩, ⟨4, 0⟩, ⟨4, 4⟩), (⟨0, 0⟩, ⟨4, 4⟩, ⟨5, 3⟩)] ∧
    tri2 (⟨0, 0⟩, ⟨4, 4⟩, ⟨5, 3⟩) = -8 ∧ area2 [⟨0, 0⟩, ⟨4, 0⟩, ⟨4, 4⟩, ⟨5, 3⟩] = 8 ∧
    ¬ LastOK insideCCW 1 [⟨0, 0⟩, ⟨4, 0⟩, ⟨4, 4⟩, ⟨5, 3⟩] := by decide +kernel

/-- **C13, every triangle of the result has the announced orientation — PARTIAL**: under the decidable condition `LastOK`
    on the vertex list (evaluated by the oracle of tools/props/c13.py on every generated simple polygon in general position;
    on a simple polygon of the announced orientation it follows from a Jordan-type argument, which is not proved, and it
    fails without simplicity: `C13_earclip_last_triangle_needs_simplicity_witness`), ALL `n - 2` dart triangles of the
    result map, corners read through the result's vertex identifiers, pass the announced orientation test -/
theorem C13_earclip_all_triangles_oriented_partial (cfg : Cfg Val) (hlaw : cfg.law 0 = avgLaw)
    (inside : P2 → P2 → P2 → Bool) (hins : ∀ a b c, inside a b c = true → a ≠ c) (m m' : Map Val)
    (face : Nat) (nds rest : List Nat) (hwf : WF 3 m) (hfc : m.fc = 0) (hc : ClosedFace m face rest)
    (hsp : ∀ d ∈ nds, C01.InUse m d ∧ d ∉ face :: rest) (hnd : nds.Nodup)
    (hfresh : ∀ d ∈ nds, (∀ i, i < 3 → m.β i d = 0) ∧ m.att 0 d = none)
    (hears : ∀ vals, run (faceVertices m.n (face :: rest)) m = (.ok vals, m) →
      EarsNotLast inside (chunks2 nds).length (vals.map Val.p2))
    (hlast : ∀ vals, run (faceVertices m.n (face :: rest)) m = (.ok vals, m) →
      LastOK inside (chunks2 nds).length (vals.map Val.p2))
    (h : run (earclipCell cfg m.n inside face nds) m = (.ok (), m')) :
    ∃ vals : List Val,
      run (faceVertices m.n (face :: rest)) m = (.ok vals, m) ∧
      (∀ t ∈ earTris inside (chunks2 nds) (face :: rest) (vals.map Val.p2), TriFace m' t) ∧
      (mapTris m' (earTris inside (chunks2 nds) (face :: rest) (vals.map Val.p2))).length + 2 = (face :: rest).length ∧
      ∀ T ∈ mapTris m' (earTris inside (chunks2 nds) (face :: rest) (vals.map Val.p2)),
        inside T.1 T.2.1 T.2.2 = true := by
  obtain ⟨vals, tris, a1, a2, a3, _, a5, a6, a7, _⟩ :=
    C13_earclip_triangles_carry_list_coordinates cfg hlaw inside hins m m' face nds rest hwf hfc hc hsp hnd hfresh hears h
  have e : mapTris m' (earTris inside (chunks2 nds) (face :: rest) (vals.map Val.p2)) = tris :=
    filterMap_of_map_some _ _ _ a7
  have hl := congrArg List.length a7
  simp only [List.length_map] at hl
  have hor := C13_earclip_ears_oriented inside _ _ tris a3
  have hlo := hlast vals a1
  unfold LastOK lastOKb at hlo
  rw [a3] at hlo
  refine ⟨vals, a1, a5, by rw [e, ← hl]; exact a6, ?_⟩
  rw [e]
  intro T hT
  have hne : tris ≠ [] := List.ne_nil_of_mem hT
  rw [← List.dropLast_concat_getLast hne, List.mem_append, List.mem_singleton] at hT
  rcases hT with hT | hT
  · exact hor T hT
  · simp only [List.getLast?_eq_some_getLast hne] at hlo
    rw [hT]; exact hlo

/-- the same for `earclip_cell_countercw`: under `LastOK`, every triangle of the result map is strictly counter-clockwise -/
theorem C13_earclip_ccw_all_triangles_oriented_partial (cfg : Cfg Val) (hlaw : cfg.law 0 = avgLaw) (m m' : Map Val)
    (face : Nat) (nds rest : List Nat) (hwf : WF 3 m) (hfc : m.fc = 0) (hc : ClosedFace m face rest)
    (hsp : ∀ d ∈ nds, C01.InUse m d ∧ d ∉ face :: rest) (hnd : nds.Nodup)
    (hfresh : ∀ d ∈ nds, (∀ i, i < 3 → m.β i d = 0) ∧ m.att 0 d = none)
    (hears : ∀ vals, run (faceVertices m.n (face :: rest)) m = (.ok vals, m) →
      EarsNotLast insideCCW (chunks2 nds).length (vals.map Val.p2))
    (hlast : ∀ vals, run (faceVertices m.n (face :: rest)) m = (.ok vals, m) →
      LastOK insideCCW (chunks2 nds).length (vals.map Val.p2))
    (h : run (earclipCellCCW cfg m.n face nds) m = (.ok (), m')) :
    ∃ vals : List Val,
      run (faceVertices m.n (face :: rest)) m = (.ok vals, m) ∧
      ∀ T ∈ mapTris m' (earTris insideCCW (chunks2 nds) (face :: rest) (vals.map Val.p2)), 0 < tri2 T := by
  obtain ⟨vals, a1, _, _, a4⟩ := C13_earclip_all_triangles_oriented_partial cfg hlaw insideCCW insideCCW_ends_differ
    m m' face nds rest hwf hfc hc hsp hnd hfresh hears hlast h
  refine ⟨vals, a1, fun T hT => ?_⟩
  have := a4 T hT
  unfold insideCCW at this
  simpa [tri2] using this

/-- on the pentagon of `d7Map`: `LastOK` holds, all three triangles of the result are counter-clockwise -/
example : ∃ vals : List Val, run (faceVertices d7Map.n [1, 2, 3, 4, 5]) d7Map = (.ok vals, d7Map) ∧
    ∀ T ∈ mapTris (run (earclipCellCCW (stdCfg 3 0) d7Map.n 1 [6, 7, 8, 9]) d7Map).2
      (earTris insideCCW (chunks2 [6, 7, 8, 9]) [1, 2, 3, 4, 5] (vals.map Val.p2)), 0 < tri2 T :=
  C13_earclip_ccw_all_triangles_oriented_partial (stdCfg 3 0) rfl d7Map _ 1 [6, 7, 8, 9] [2, 3, 4, 5] d7_wf rfl d7_closed
    d7_spares (by decide) d7_fresh d7_ears
    (run_ok_elim d7_vals (by decide +kernel))
    (run_eq_of_fst (congrArg Prod.fst d7_earclip_run))

example : ∃ vals : List Val, run (faceVertices d7Map.n [1, 2, 3, 4, 5]) d7Map = (.ok vals, d7Map) ∧
    ∀ T ∈ mapTris (run (earclipCell (stdCfg 3 0) d7Map.n insideCCW 1 [6, 7, 8, 9]) d7Map).2
      (earTris insideCCW (chunks2 [6, 7, 8, 9]) [1, 2, 3, 4, 5] (vals.map Val.p2)), insideCCW T.1 T.2.1 T.2.2 = true := by
  obtain ⟨vals, a1, _, _, a4⟩ := C13_earclip_all_triangles_oriented_partial (stdCfg 3 0) rfl insideCCW
    insideCCW_ends_differ d7Map _ 1 [6, 7, 8, 9] [2, 3, 4, 5] d7_wf rfl d7_closed d7_spares (by decide) d7_fresh d7_ears
    (run_ok_elim d7_vals (by decide +kernel))
    (run_eq_of_fst (congrArg Prod.fst d7_earclip_run))
  exact ⟨vals, a1, a4⟩

/-! ## the clockwise twin of `C13_fan_accepts_convex_ccw` -/

/-- **C13, fan on clockwise convex polygons**: if every triangle `(v0, v_i, v_{i+1})`, `1 ≤ i ≤ n-2`, is negatively
    oriented with cross product `≤ -ε` (in particular on a strictly convex CLOCKWISE polygon with coordinates on a lattice
    coarser than `√ε`), the star search returns apex 0: the kernel does not answer `NonFannable` (the star test compares
    signs with the first examined side, it does not prefer an orientation) -/
theorem C13_fan_accepts_convex_cw (vs : List P2) (hn : 3 ≤ vs.length)
    (hneg : ∀ i, i < vs.length → i ≠ 0 → (i + 1) % vs.length ≠ 0 → sideCross vs 0 i ≤ -eps) :
    fanStar vs = some (some 0) := by
  refine fanStar_zero_of_signs vs hn (-1) fun i hi => ?_
  obtain ⟨h1, h2, h3⟩ := mem_fanSegs.1 hi
  have := hneg i h1 h2 h3
  have hp : sideCross vs 0 i < 0 := by linarith [eps_pos]
  constructor
  · unfold sideSignum signumF; rw [if_neg (by linarith), if_pos hp]
  · unfold ratAbs; rw [if_pos hp]; linarith

/-- a clockwise square and a clockwise convex pentagon -/
example : fanStar [⟨0, 0⟩, ⟨0, 2⟩, ⟨2, 2⟩, ⟨2, 0⟩] = some (some 0) :=
  C13_fan_accepts_convex_cw _ (by decide) (by decide +kernel)

example : fanStar [⟨0, 0⟩, ⟨-1, 2⟩, ⟨1, 4⟩, ⟨3, 3⟩, ⟨3, 1⟩] = some (some 0) :=
  C13_fan_accepts_convex_cw _ (by decide) (by decide +kernel)

end HC.C13

/-
  C07 at lock granularity (granularity B): serializability survives every interleaving of the
  individual lock acquisitions of `Transaction::commit` (validation of each variable under its
  own lock, read locks held until every variable of the log is locked), with blocking.
  Model: `Model/StmProtoB.lean`.  Theorem `C07_serializable_B`.  What one step can do is the relation `StepB`
  (`step_cases`); the invariant `SInvB` (the invariant of granularity A, what holds inside `commit()`, exclusivity
  of write locks) is kept move by move, and the last move of `commit()` is a validated commit of Props/C07.lean.
-/
import Honeycomb.Model.StmProtoB
import Honeycomb.Props.C07


namespace HC.C07B
open HC HC.Proto HC.ProtoB HC.C07 Store

variable {Var Val ε α : Type} [DecidableEq Var] [DecidableEq α]

/-! ## small facts -/

theorem publish_unwritten (ws : List (Var × Val)) (st : VStore Var Val) (v : Var)
    (h : ∀ p ∈ ws, p.1 ≠ v) : publish ws st v = st v := by
  induction ws with
  | nil => rfl
  | cons p ps ih =>
      simp only [publish, List.foldr]
      have hp : p.1 ≠ v := h p (by simp)
      simp only [hp, if_false]
      exact ih (fun q hq => h q (by simp [hq]))

theorem wrote_iff (t : Thread Var Val ε α) (v : Var) :
    wrote t v = true ↔ ∃ p ∈ t.att.writes, p.1 = v := by
  unfold wrote; simp [List.any_eq_true]

theorem wrote_mem_logVars (t : Thread Var Val ε α) (v : Var) (h : wrote t v = true) : v ∈ logVars t := by
  obtain ⟨p, hp, rfl⟩ := (wrote_iff t v).1 h
  unfold logVars
  exact List.mem_append_right _ (List.mem_map.2 ⟨p, hp, rfl⟩)

theorem read_mem_logVars (t : Thread Var Val ε α) (r : Var × Val × Nat) (h : r ∈ t.att.reads) :
    r.1 ∈ logVars t := by
  unfold logVars
  exact List.mem_append_left _ (List.mem_map.2 ⟨r, h, rfl⟩)

/-- a step of the closure (anything but `ret`) neither touches shared memory nor commits -/
theorem threadStep_not_ret (t : Thread Var Val ε α) (st : VStore Var Val)
    (h : ∀ a, t.att.pc ≠ .ret a) : (threadStep t st).2 = (st, none) := by
  rcases threadStep_cases t st with hc | ⟨_, _, a, _, hpc, _, _⟩
  · exact hc
  · exact absurd hpc (h a)

theorem getElem?_set_ne {β : Type} (l : List β) (i j : Nat) (x : β) (h : i ≠ j) :
    (l.set i x)[j]? = l[j]? := by
  simp [h]

theorem getElem?_set_self {β : Type} (l : List β) (i : Nat) (x y : β) (h : l[i]? = some y) :
    (l.set i x)[i]? = some x := by
  have : i < l.length := by
    rcases Nat.lt_or_ge i l.length with h1 | h1
    · exact h1
    · rw [List.getElem?_eq_none h1] at h; cases h
  simp [this]

theorem otherHolds_false {s : SysB Var Val ε α} {i : Nat} {v : Var} (h : otherHolds s i v = false)
    {j : Nat} {u : ThreadB Var Val ε α} (hij : j ≠ i) (hu : s.threads[j]? = some u) : heldBy u v = false := by
  unfold otherHolds at h
  rw [List.any_eq_false] at h
  have := h j (List.mem_range.2 (List.getElem?_eq_some_iff.1 hu).1)
  simp only [hu, Bool.and_eq_true, decide_eq_true_eq, not_and] at this
  have := this hij
  simpa using this

theorem otherWriteHolds_false {s : SysB Var Val ε α} {i : Nat} {v : Var} (h : otherWriteHolds s i v = false)
    {j : Nat} {u : ThreadB Var Val ε α} (hij : j ≠ i) (hu : s.threads[j]? = some u)
    (hh : heldBy u v = true) : wrote u.th v = false := by
  unfold otherWriteHolds at h
  rw [List.any_eq_false] at h
  have := h j (List.mem_range.2 (List.getElem?_eq_some_iff.1 hu).1)
  simp only [hu, Bool.and_eq_true, decide_eq_true_eq, not_and] at this
  have := this hij hh
  simpa using this

/-! ## the invariant -/

/-- what holds of a thread inside `commit()` -/
structure CommitInv (tb : ThreadB Var Val ε α) (st : VStore Var Val) (todo held : List Var) : Prop where
  pc : ∃ a, tb.th.att.pc = .ret a
  valid : ∀ r ∈ tb.th.att.reads, r.1 ∈ held → (st r.1).2 = r.2.2
  cover : ∀ v ∈ logVars tb.th, v ∈ held ∨ v ∈ todo

structure SInvB (init : Var → Val) (s : SysB Var Val ε α) : Prop where
  thr : ∀ tb ∈ s.threads, TInv tb.th s.store
  rep : replay s.commits init = some (vals s.store)
  com : ∀ (j : Nat) (u : ThreadB Var Val ε α), s.threads[j]? = some u →
    ∀ todo held, u.ph = some (todo, held) → CommitInv u s.store todo held
  excl : ∀ (i j : Nat) (tbi tbj : ThreadB Var Val ε α), i ≠ j → s.threads[i]? = some tbi → s.threads[j]? = some tbj →
    ∀ v, heldBy tbi v = true → heldBy tbj v = true → wrote tbi.th v = false ∧ wrote tbj.th v = false

theorem heldBy_none (t : Thread Var Val ε α) (v : Var) :
    heldBy ({ th := t, ph := none } : ThreadB Var Val ε α) v = false := rfl

theorem thr_set {s : SysB Var Val ε α} {st : VStore Var Val} (h : ∀ u ∈ s.threads, TInv u.th st) (i : Nat)
    {tb' : ThreadB Var Val ε α} (hnew : TInv tb'.th st) : ∀ u ∈ s.threads.set i tb', TInv u.th st := by
  intro u hu
  rcases List.mem_or_eq_of_mem_set hu with hu | rfl
  · exact h u hu
  · exact hnew

/-- updating thread `i` (and possibly shared memory): the commit invariant of the new state of
    thread `i` and its transport for the other threads give the commit invariant of the system -/
theorem com_set {s : SysB Var Val ε α} {i : Nat} {tb tb' : ThreadB Var Val ε α} {st' : VStore Var Val}
    (hcom : ∀ (j : Nat) (u : ThreadB Var Val ε α), s.threads[j]? = some u →
      ∀ todo held, u.ph = some (todo, held) → CommitInv u s.store todo held)
    (hti : s.threads[i]? = some tb)
    (hnew : ∀ todo held, tb'.ph = some (todo, held) → CommitInv tb' st' todo held)
    (hothers : ∀ (j : Nat) (u : ThreadB Var Val ε α), j ≠ i → s.threads[j]? = some u →
      ∀ todo held, u.ph = some (todo, held) → CommitInv u s.store todo held → CommitInv u st' todo held) :
    ∀ (j : Nat) (u : ThreadB Var Val ε α), (s.threads.set i tb')[j]? = some u →
      ∀ todo held, u.ph = some (todo, held) → CommitInv u st' todo held := by
  intro j u hj todo held hp
  by_cases hji : j = i
  · subst hji
    rw [getElem?_set_self _ _ _ _ hti] at hj
    simp only [Option.some.injEq] at hj; subst hj
    exact hnew todo held hp
  · rw [getElem?_set_ne _ _ _ _ (fun hh => hji hh.symm)] at hj
    exact hothers j u hji hj todo held hp (hcom j u hj todo held hp)

/-- updating thread `i`: exclusivity has to be shown between the new state of thread `i` and each of
    the other threads only (the statement is symmetric in the two threads) -/
theorem excl_set {s : SysB Var Val ε α} {i : Nat} {tb tb' : ThreadB Var Val ε α}
    (hex : ∀ (i j : Nat) (tbi tbj : ThreadB Var Val ε α), i ≠ j → s.threads[i]? = some tbi → s.threads[j]? = some tbj →
      ∀ v, heldBy tbi v = true → heldBy tbj v = true → wrote tbi.th v = false ∧ wrote tbj.th v = false)
    (hi : s.threads[i]? = some tb)
    (hnew : ∀ (j : Nat) (u : ThreadB Var Val ε α), j ≠ i → s.threads[j]? = some u →
      ∀ v, heldBy tb' v = true → heldBy u v = true → wrote tb'.th v = false ∧ wrote u.th v = false) :
    ∀ (a b : Nat) (ta tb2 : ThreadB Var Val ε α), a ≠ b → (s.threads.set i tb')[a]? = some ta → (s.threads.set i tb')[b]? = some tb2 →
      ∀ v, heldBy ta v = true → heldBy tb2 v = true → wrote ta.th v = false ∧ wrote tb2.th v = false := by
  intro a b ta tb2 hab ha hb v hva hvb
  by_cases hai : a = i
  · subst hai
    rw [getElem?_set_self _ _ _ _ hi] at ha
    simp only [Option.some.injEq] at ha; subst ha
    rw [getElem?_set_ne _ _ _ _ hab] at hb
    exact hnew b tb2 (fun hh => hab hh.symm) hb v hva hvb
  · by_cases hbi : b = i
    · subst hbi
      rw [getElem?_set_self _ _ _ _ hi] at hb
      simp only [Option.some.injEq] at hb; subst hb
      rw [getElem?_set_ne _ _ _ _ (fun h => hai h.symm)] at ha
      exact (hnew a ta hai ha v hvb hva).symm
    · rw [getElem?_set_ne _ _ _ _ (fun h => hai h.symm)] at ha
      rw [getElem?_set_ne _ _ _ _ (fun h => hbi h.symm)] at hb
      exact hex a b ta tb2 hab ha hb v hva hvb

/-- replacing thread `i` by one that holds a SUBSET of what it held (and wrote the same) keeps
    exclusivity; used for every step that does not acquire a lock -/
theorem excl_set_shrink {s : SysB Var Val ε α} {i : Nat} {tb tb' : ThreadB Var Val ε α}
    (hex : ∀ (i j : Nat) (tbi tbj : ThreadB Var Val ε α), i ≠ j → s.threads[i]? = some tbi → s.threads[j]? = some tbj →
      ∀ v, heldBy tbi v = true → heldBy tbj v = true → wrote tbi.th v = false ∧ wrote tbj.th v = false)
    (hi : s.threads[i]? = some tb)
    (hsub : ∀ v, heldBy tb' v = true → heldBy tb v = true ∧ wrote tb'.th v = wrote tb.th v) :
    ∀ (a b : Nat) (ta tb2 : ThreadB Var Val ε α), a ≠ b → (s.threads.set i tb')[a]? = some ta → (s.threads.set i tb')[b]? = some tb2 →
      ∀ v, heldBy ta v = true → heldBy tb2 v = true → wrote ta.th v = false ∧ wrote tb2.th v = false := by
  apply excl_set hex hi
  intro j u hji hj v hv hu
  obtain ⟨h1, h2⟩ := hsub v hv
  rw [h2]
  exact hex i j tb u (fun hh => hji hh.symm) hi hj v h1 hu

/-! ## steps of the closure (the thread is not inside `commit()`) -/

theorem inv_astep {init : Var → Val} {s : SysB Var Val ε α} {i : Nat} {tb : ThreadB Var Val ε α}
    (h : SInvB init s) (hti : s.threads[i]? = some tb) (hnr : ∀ a, tb.th.att.pc ≠ .ret a) :
    SInvB init { s with store := (threadStep tb.th s.store).2.1
                        threads := s.threads.set i { th := (threadStep tb.th s.store).1, ph := none } } := by
  have htm : tb ∈ s.threads := List.mem_of_getElem? hti
  have hst : (threadStep tb.th s.store).2.1 = s.store := by rw [threadStep_not_ret _ _ hnr]
  rw [hst]
  have hnew : heldBy ({ th := (threadStep tb.th s.store).1, ph := none } : ThreadB Var Val ε α) = fun _ => false := by
    funext v; rfl
  constructor
  · refine thr_set h.thr i ?_
    have := threadStep_inv tb.th s.store (h.thr tb htm)
    rw [hst] at this; exact this
  · exact h.rep
  · apply com_set h.com hti
    · intro todo held hp; cases hp
    · intro j u _ _ todo held _ hc; exact hc
  · apply excl_set_shrink h.excl hti
    intro v hv
    rw [hnew] at hv; cases hv

/-! ## entering `commit()` -/

theorem inv_enter {init : Var → Val} {s : SysB Var Val ε α} {i : Nat} {tb : ThreadB Var Val ε α} {a : α}
    (ord : List Var → List Var) (hord : ∀ l v, v ∈ l → v ∈ ord l)
    (h : SInvB init s) (hti : s.threads[i]? = some tb) (hpc : tb.th.att.pc = .ret a) :
    SInvB init { s with threads := s.threads.set i { th := tb.th, ph := some (ord (logVars tb.th), []) } } := by
  have htm : tb ∈ s.threads := List.mem_of_getElem? hti
  constructor
  · exact thr_set h.thr i (h.thr tb htm)
  · exact h.rep
  · apply com_set h.com hti
    · intro todo held hp
      simp only [Option.some.injEq, Prod.mk.injEq] at hp
      obtain ⟨rfl, rfl⟩ := hp
      exact ⟨⟨a, hpc⟩, fun r _ hr => absurd hr (by simp), fun v hv => Or.inr (hord _ v hv)⟩
    · intro j u _ _ todo held _ hc; exact hc
  · apply excl_set_shrink h.excl hti
    intro v hv
    simp [heldBy] at hv

/-! ## inside `commit()`: a variable that is already locked is skipped -/

theorem inv_skip {init : Var → Val} {s : SysB Var Val ε α} {i : Nat} {tb : ThreadB Var Val ε α}
    {v : Var} {todo held : List Var}
    (h : SInvB init s) (hti : s.threads[i]? = some tb) (hph : tb.ph = some (v :: todo, held))
    (hc : held.contains v = true) :
    SInvB init { s with threads := s.threads.set i { th := tb.th, ph := some (todo, held) } } := by
  have htm : tb ∈ s.threads := List.mem_of_getElem? hti
  have hci := h.com i tb hti _ _ hph
  have hvh : v ∈ held := by simpa using hc
  constructor
  · exact thr_set h.thr i (h.thr tb htm)
  · exact h.rep
  · apply com_set h.com hti
    · intro todo' held' hp
      simp only [Option.some.injEq, Prod.mk.injEq] at hp
      obtain ⟨rfl, rfl⟩ := hp
      refine ⟨hci.pc, hci.valid, ?_⟩
      intro w hw
      rcases hci.cover w hw with h1 | h1
      · exact Or.inl h1
      · rcases List.mem_cons.1 h1 with rfl | h2
        · exact Or.inl hvh
        · exact Or.inr h2
    · intro j u _ _ todo' held' _ hc; exact hc
  · apply excl_set_shrink h.excl hti
    intro w hw
    refine ⟨?_, rfl⟩
    simp only [heldBy, hph] at hw ⊢
    exact hw

/-! ## inside `commit()`: a failed validation releases everything and restarts the attempt -/

theorem inv_restart {init : Var → Val} {s : SysB Var Val ε α} {i : Nat} {tb : ThreadB Var Val ε α}
    (h : SInvB init s) (hti : s.threads[i]? = some tb) :
    SInvB init { s with threads := s.threads.set i { th := tb.th.restart, ph := none } } := by
  constructor
  · exact thr_set h.thr i ⟨pcOK_fresh (Var := Var) (Val := Val) tb.th.todo tb.th.results, versOK_nil _⟩
  · exact h.rep
  · apply com_set h.com hti
    · intro todo held hp; cases hp
    · intro j u _ _ todo held _ hc; exact hc
  · apply excl_set_shrink h.excl hti
    intro w hw
    simp [heldBy] at hw

/-! ## inside `commit()`: taking the lock of the next variable, validated under the lock -/

theorem inv_lock {init : Var → Val} {s : SysB Var Val ε α} {i : Nat} {tb : ThreadB Var Val ε α}
    {v : Var} {todo held : List Var}
    (h : SInvB init s) (hti : s.threads[i]? = some tb) (hph : tb.ph = some (v :: todo, held))
    (hval : validAt tb.th s.store v = true)
    (hfree : (wrote tb.th v = true ∧ otherHolds s i v = false) ∨
             (wrote tb.th v = false ∧ otherWriteHolds s i v = false)) :
    SInvB init { s with threads := s.threads.set i { th := tb.th, ph := some (todo, v :: held) } } := by
  have htm : tb ∈ s.threads := List.mem_of_getElem? hti
  have hci := h.com i tb hti _ _ hph
  constructor
  · exact thr_set h.thr i (h.thr tb htm)
  · exact h.rep
  · apply com_set h.com hti
    · intro todo' held' hp
      simp only [Option.some.injEq, Prod.mk.injEq] at hp
      obtain ⟨rfl, rfl⟩ := hp
      refine ⟨hci.pc, ?_, ?_⟩
      · intro r hr hrv
        rcases List.mem_cons.1 hrv with e | h2
        · unfold validAt at hval
          rw [List.all_eq_true] at hval
          have := hval r hr
          simp only [Bool.or_eq_true, decide_eq_true_eq, ne_eq] at this
          rcases this with h3 | h3
          · exact absurd e h3
          · rw [e]; exact h3
        · exact hci.valid r hr h2
      · intro w hw
        rcases hci.cover w hw with h1 | h1
        · exact Or.inl (List.mem_cons_of_mem _ h1)
        · rcases List.mem_cons.1 h1 with rfl | h2
          · exact Or.inl (List.mem_cons_self)
          · exact Or.inr h2
    · intro j u _ _ todo' held' _ hc; exact hc
  · -- exclusivity: the new lock is compatible with everything the other threads hold
    have old_held : ∀ w, heldBy ({ th := tb.th, ph := some (todo, v :: held) } : ThreadB Var Val ε α) w = true →
        w = v ∨ heldBy tb w = true := by
      intro w hw
      simp only [heldBy, hph, List.contains_cons, Bool.or_eq_true, beq_iff_eq] at hw ⊢
      rcases hw with h1 | h1
      · exact Or.inl h1
      · exact Or.inr h1
    apply excl_set h.excl hti
    intro j u hji hj w hwa hwb
    rcases old_held w hwa with rfl | h1
    · rcases hfree with ⟨_, hf⟩ | ⟨hw0, hf⟩
      · have := otherHolds_false hf hji hj
        rw [this] at hwb; cases hwb
      · exact ⟨hw0, otherWriteHolds_false hf hji hj hwb⟩
    · exact h.excl i j tb u (fun hh => hji hh.symm) hti hj w h1 hwb

/-! ## the last step of `commit()`: every variable of the log is locked -/

theorem inv_commit {init : Var → Val} {s : SysB Var Val ε α} {i : Nat} {tb : ThreadB Var Val ε α}
    {held : List Var} {p0 : Prog Var Val ε α} {rest : List (Prog Var Val ε α)} {a : α}
    (h : SInvB init s) (hti : s.threads[i]? = some tb) (hph : tb.ph = some ([], held))
    (htd : tb.th.todo = p0 :: rest) (hpc : tb.th.att.pc = .ret a) :
    SInvB init { store := publish tb.th.att.writes s.store
                 threads := s.threads.set i { th := tb.th.finish (.ok a), ph := none }
                 commits := s.commits ++ [(i, p0, a)] } := by
  have htm : tb ∈ s.threads := List.mem_of_getElem? hti
  have hci := h.com i tb hti _ _ hph
  -- every variable of the log is held
  have hall : ∀ v ∈ logVars tb.th, v ∈ held := by
    intro v hv
    rcases hci.cover v hv with h1 | h1
    · exact h1
    · simp at h1
  -- hence the whole read set is valid NOW: the commit is a validated commit of granularity A
  have hvalid : tb.th.att.valid s.store = true := by
    unfold Attempt.valid
    rw [List.all_eq_true]
    intro r hr
    simp only [decide_eq_true_eq]
    exact hci.valid r hr (hall _ (read_mem_logVars _ r hr))
  have hrun := T3_validated_commit tb.th s.store p0 rest a htd hpc (h.thr tb htm) hvalid
  -- what the commit writes is exclusively held by the committing thread
  have hunw : ∀ (j : Nat) (u : ThreadB Var Val ε α), j ≠ i → s.threads[j]? = some u → ∀ v, heldBy u v = true →
      publish tb.th.att.writes s.store v = s.store v := by
    intro j u hji hu v hv
    apply publish_unwritten
    intro p hp hpv
    have hw : wrote tb.th v = true := (wrote_iff _ _).2 ⟨p, hp, hpv⟩
    have hheld : heldBy tb v = true := by
      simp only [heldBy, hph]
      simpa using hall v (wrote_mem_logVars _ _ hw)
    have := (h.excl i j tb u (fun hh => hji hh.symm) hti hu v hheld hv).1
    rw [hw] at this; cases this
  constructor
  · intro u hu
    rcases List.mem_or_eq_of_mem_set hu with hu | rfl
    · exact ⟨(h.thr u hu).pc, (h.thr u hu).vers.publish _⟩
    · exact ⟨pcOK_fresh _ _, versOK_nil _⟩
  · exact replay_append s.commits i p0 a init _ _ h.rep hrun
  · apply com_set h.com hti
    · intro todo' held' hp; cases hp
    · intro j u hji hj todo' held' hp hcu
      refine ⟨hcu.pc, ?_, hcu.cover⟩
      intro r hr hrv
      have hheld : heldBy u r.1 = true := by
        simp only [heldBy, hp]; simpa using hrv
      show (publish tb.th.att.writes s.store r.1).2 = r.2.2
      rw [hunw j u hji hj r.1 hheld]
      exact hcu.valid r hr hrv
  · apply excl_set_shrink h.excl hti
    intro w hw
    simp [heldBy] at hw

/-! ## every step preserves the invariant -/

/-- the moves of thread `i` in protocol B -/
inductive StepB (ord : List Var → List Var) (s : SysB Var Val ε α) (i : Nat) : SysB Var Val ε α → Prop
  /-- no such thread, nothing to do, blocked on a lock, or a stuck final phase -/
  | idle : StepB ord s i s
  | enter {tb : ThreadB Var Val ε α} {a : α} (hti : s.threads[i]? = some tb) (htd : tb.th.todo ≠ []) (hph : tb.ph = none)
      (hpc : tb.th.att.pc = .ret a) :
      StepB ord s i { s with threads := s.threads.set i { th := tb.th, ph := some (ord (logVars tb.th), []) } }
  | astep {tb : ThreadB Var Val ε α} (hti : s.threads[i]? = some tb) (hph : tb.ph = none)
      (hnr : ∀ a, tb.th.att.pc ≠ .ret a) :
      StepB ord s i { s with store := (threadStep tb.th s.store).2.1
                             threads := s.threads.set i { th := (threadStep tb.th s.store).1, ph := none } }
  | skip {tb : ThreadB Var Val ε α} {v : Var} {todo held : List Var} (hti : s.threads[i]? = some tb)
      (hph : tb.ph = some (v :: todo, held)) (hc : held.contains v = true) :
      StepB ord s i { s with threads := s.threads.set i { th := tb.th, ph := some (todo, held) } }
  | lock {tb : ThreadB Var Val ε α} {v : Var} {todo held : List Var} (hti : s.threads[i]? = some tb)
      (hph : tb.ph = some (v :: todo, held)) (hval : validAt tb.th s.store v = true)
      (hfree : (wrote tb.th v = true ∧ otherHolds s i v = false) ∨
               (wrote tb.th v = false ∧ otherWriteHolds s i v = false)) :
      StepB ord s i { s with threads := s.threads.set i { th := tb.th, ph := some (todo, v :: held) } }
  | restart {tb : ThreadB Var Val ε α} (hti : s.threads[i]? = some tb) :
      StepB ord s i { s with threads := s.threads.set i { th := tb.th.restart, ph := none } }
  | commit {tb : ThreadB Var Val ε α} {held : List Var} {p0 : Prog Var Val ε α} {rest : List (Prog Var Val ε α)} {a : α}
      (hti : s.threads[i]? = some tb) (hph : tb.ph = some ([], held)) (htd : tb.th.todo = p0 :: rest)
      (hpc : tb.th.att.pc = .ret a) :
      StepB ord s i { store := publish tb.th.att.writes s.store
                      threads := s.threads.set i { th := tb.th.finish (.ok a), ph := none }
                      commits := s.commits ++ [(i, p0, a)] }

/-- the one case analysis of `SysB.step` -/
theorem step_cases (ord : List Var → List Var) (s : SysB Var Val ε α) (i : Nat) : StepB ord s i (s.step ord i) := by
  unfold SysB.step
  split
  · exact .idle
  next tb hti =>
    split
    · exact .idle
    next p0 rest htd =>
      have hne : tb.th.todo ≠ [] := by rw [htd]; exact List.cons_ne_nil _ _
      split
      next hph =>
        split
        next a hpc => exact .enter hti hne hph hpc
        next v k hpc =>
          dsimp only
          split
          · exact .idle
          · rw [hph]; exact .astep hti hph (fun a hh => by rw [hpc] at hh; cases hh)
        next hnr _ => rw [hph]; exact .astep hti hph hnr
      next v todo held hph =>
        by_cases hc : held.contains v = true
        · rw [if_pos hc]; exact .skip hti hph hc
        · rw [if_neg hc]
          by_cases hw : wrote tb.th v = true
          · rw [if_pos hw]
            by_cases ho : otherHolds s i v = true
            · rw [if_pos ho]; exact .idle
            · rw [if_neg ho]
              by_cases hv : validAt tb.th s.store v = true
              · rw [if_pos hv]; exact .lock hti hph hv (Or.inl ⟨hw, by simpa using ho⟩)
              · rw [if_neg hv]; exact .restart hti
          · rw [if_neg hw]
            by_cases ho : otherWriteHolds s i v = true
            · rw [if_pos ho]; exact .idle
            · rw [if_neg ho]
              by_cases hv : validAt tb.th s.store v = true
              · rw [if_pos hv]; exact .lock hti hph hv (Or.inr ⟨by simpa using hw, by simpa using ho⟩)
              · rw [if_neg hv]; exact .restart hti
      next held hph =>
        split
        next a hpc => exact .commit hti hph htd hpc
        · exact .idle

theorem stepB_inv (ord : List Var → List Var) (hord : ∀ l v, v ∈ l → v ∈ ord l)
    (init : Var → Val) (s : SysB Var Val ε α) (i : Nat) (h : SInvB init s) :
    SInvB init (s.step ord i) := by
  have hc := step_cases ord s i
  generalize s.step ord i = s' at hc ⊢
  cases hc with
  | idle => exact h
  | enter hti _ _ hpc => exact inv_enter ord hord h hti hpc
  | astep hti _ hnr => exact inv_astep h hti hnr
  | skip hti hph hc => exact inv_skip h hti hph hc
  | lock hti hph hv hf => exact inv_lock h hti hph hv hf
  | restart hti => exact inv_restart h hti
  | commit hti hph htd hpc => exact inv_commit h hti hph htd hpc

theorem execB_inv (ord : List Var → List Var) (hord : ∀ l v, v ∈ l → v ∈ ord l)
    (init : Var → Val) (sched : List Nat) :
    ∀ s : SysB Var Val ε α, SInvB init s → SInvB init (s.exec ord sched) :=
  foldl_keeps (stepB_inv ord hord init) sched

theorem initB_inv (init : Var → Val) (progs : List (List (Prog Var Val ε α))) :
    SInvB init (SysB.init init progs) := by
  constructor
  · intro tb ht
    simp only [SysB.init, List.mem_map] at ht
    obtain ⟨ps, _, rfl⟩ := ht
    exact ⟨pcOK_fresh _ _, versOK_nil _⟩
  · rfl
  · intro j u hj todo held hp
    simp only [SysB.init, List.getElem?_map] at hj
    match hps : progs[j]? with
    | none => rw [hps] at hj; cases hj
    | some ps => rw [hps] at hj; simp only [Option.map_some, Option.some.injEq] at hj; subst hj; cases hp
  · intro a b ta tb2 _ ha _ v hva _
    simp only [SysB.init, List.getElem?_map] at ha
    match hps : progs[a]? with
    | none => rw [hps] at ha; cases ha
    | some ps =>
        rw [hps] at ha; simp only [Option.map_some, Option.some.injEq] at ha; subst ha
        simp [heldBy] at hva

/-- **C07 at lock granularity**: under EVERY interleaving of closure steps and of the individual
    lock acquisitions / validations of `commit()`, with blocking on incompatible locks, the final
    shared memory and the values returned by the committed transactions are those of the
    sequential execution of the committed transactions in commit order -/
theorem C07_serializable_B (ord : List Var → List Var) (hord : ∀ l v, v ∈ l → v ∈ ord l)
    (init : Var → Val) (progs : List (List (Prog Var Val ε α))) (sched : List Nat) :
    replay ((SysB.init init progs).exec ord sched).commits init =
      some (vals ((SysB.init init progs).exec ord sched).store) :=
  (execB_inv ord hord init sched _ (initB_inv init progs)).rep

/-- a variable is never write-held by one thread while another thread holds it (in any mode):
    what the lock table of the real code guarantees is an invariant of the model -/
theorem C07_locks_exclusive_B (ord : List Var → List Var) (hord : ∀ l v, v ∈ l → v ∈ ord l)
    (init : Var → Val) (progs : List (List (Prog Var Val ε α))) (sched : List Nat)
    (i j : Nat) (ti tj : ThreadB Var Val ε α) (hij : i ≠ j)
    (hi : ((SysB.init init progs).exec ord sched).threads[i]? = some ti)
    (hj : ((SysB.init init progs).exec ord sched).threads[j]? = some tj) (v : Var)
    (h1 : heldBy ti v = true) (h2 : heldBy tj v = true) :
    wrote ti.th v = false ∧ wrote tj.th v = false :=
  (execB_inv ord hord init sched _ (initB_inv init progs)).excl i j ti tj hij hi hj v h1 h2

/-! ## non-vacuity: two increments, lock steps interleaved -/

/-- thread 0 and thread 1 both read x = 0 and write 1; both enter commit(); thread 0 locks x and
    commits; thread 1 then finds the version changed under the lock, restarts, and ends with 2 -/
example : (vals ((SysB.init (fun _ => 0) [[C07.incr], [C07.incr]]).exec id
    [0, 1, 0, 1, 0, 1, 0, 0, 0, 1, 1, 1, 1, 1, 1, 1, 1]).store) 0 = 2 := by decide +kernel
example : ((SysB.init (fun _ => (0 : Nat)) [[C07.incr], [C07.incr]]).exec id
    [0, 1, 0, 1, 0, 1, 0, 0, 0, 1, 1, 1, 1, 1, 1, 1, 1]).commits.map (·.1) = [0, 1] := by decide +kernel
/-- blocking really happens: while thread 0 holds the write lock of x, thread 1's lock step is a no-op -/
example : ((SysB.init (fun _ => (0 : Nat)) [[C07.incr], [C07.incr]]).exec id
    [0, 1, 0, 1, 0, 1, 0, 0, 1, 1, 1]).commits = [] := by decide +kernel

end HC.C07B

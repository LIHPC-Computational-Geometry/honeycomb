/-
  C19 — geometric primitives and the skewness measure obey their contracts.

  All theorems are about the definitions of `Model/Geometry.lean` (the model tied to the Rust by the
  `geo` correspondence stream), instantiated
    (a) with an arbitrary field `K` (exact laws; ordered where an order is needed) and with `ℝ`
        (`unit_dir`/`normal_dir` with `Real.sqrt`),
    (b) with the rounded arithmetic `FlR fl` — the SAME model definitions evaluated with
        `x ⊕ y := fl (x + y)` … under the hypothesis structure `RoundModel fl u` (standard model of
        floating-point arithmetic without overflow/underflow; a hypothesis, not an axiom),
    (c) with `ℝ` for the skewness formula.

  NOT PROVED (validated by the float stream of tools/props/c19.py only, see SPEC["not_proved"]):
  * that the HARDWARE arithmetic is the idealised rounding `rnd 53` / `rnd 24` (round to nearest even, unbounded
    exponent; `Model/Rounding.lean`).  That `rnd p` satisfies `RoundModel` with u = 2⁻ᵖ, is odd, monotone and exact
    on p-bit numbers IS proved (`Lemmas/Rounding.lean`, `Props/C19b.lean`), so the `C19_fl_*` theorems are
    unconditional for it; the identification with the machine is validated by the `flop` stream, and overflow /
    underflow / subnormal results are excluded;
  * bit-for-bit clauses on the machine types (compound = binary, dot symmetric, cross antisymmetric):
    proved here for every arithmetic (`FlR fl` with `fl` arbitrary) as equalities of model terms, which
    is the content of "bit for bit" given that the Rust evaluates the same expression; the statement
    about the compiled code is validated, not proved;
  * accuracy of `hypot`/`sqrt`/`acos`: "`unit_dir` returns a vector of norm 1 ± 1e-12 (f64) / 1e-5 (f32)" and
    "skewness ≈ 0 / invariant up to 1e-9" are exact theorems over ℝ here and tolerance tests there;
  * the angle sum of a simple polygon (hypothesis `hsum` of `C19_skew_mem_Ico`), and that the corner angles
    of a convex polygon lie in ]0, pi[ (hypothesis `hθ`);
  * that the SIGN OF ZERO agrees in `cross(a,b)` and `-cross(b,a)` (it does not: `x - x = +0`, `-(+0) = -0`; `FlR`
    has a single zero, the float oracle compares values);
  * reversal of the face orientation is proved on the list of corner angles (`C19_skew_reverse`), not on the polygon.
-/
import Honeycomb.Model.Geometry
import Mathlib.Tactic.Ring
import Mathlib.Tactic.Linarith
import Mathlib.Tactic.Positivity
import Mathlib.Tactic.FieldSimp
import Mathlib.Analysis.Real.Sqrt

namespace HC.C19
open HC.Geo

/-! ## compound assignment = binary operator, in EVERY arithmetic

These hold by unfolding for any coordinate type with the operation (no law needed) — in particular for
machine floats: "bit for bit". -/
section AnyArithmetic
variable {α : Type}

theorem C19_v2_subAssign_eq [Sub α] (a b : V2 α) : V2.subAssign a b = V2.sub a b := rfl
theorem C19_v2_addAssign_eq [Add α] (a b : V2 α) : V2.addAssign a b = V2.add a b := rfl
theorem C19_v2_mulAssign_eq [Mul α] (a : V2 α) (k : α) : V2.mulAssign a k = V2.mul a k := rfl
theorem C19_v2_divAssign_eq [Div α] [OfNat α 0] [DecidableEq α] (a : V2 α) (k : α) :
    V2.divAssign a k = V2.div a k := rfl
theorem C19_v3_addAssign_eq [Add α] (a b : V3 α) : V3.addAssign a b = V3.add a b := rfl
theorem C19_v3_subAssign_eq [Sub α] (a b : V3 α) : V3.subAssign a b = V3.sub a b := rfl
theorem C19_v3_mulAssign_eq [Mul α] (a : V3 α) (k : α) : V3.mulAssign a k = V3.mul a k := rfl
theorem C19_v3_divAssign_eq [Div α] [OfNat α 0] [DecidableEq α] (a : V3 α) (k : α) :
    V3.divAssign a k = V3.div a k := rfl
theorem C19_p2_addVAssign_eq [Add α] (p : P2 α) (v : V2 α) : P2.addVAssign p v = P2.addV p v := rfl
theorem C19_p2_addVRef_eq [Add α] (p : P2 α) (v : V2 α) : P2.addVRef p v = P2.addV p v := rfl
theorem C19_p2_addVRefAssign_eq [Add α] (p : P2 α) (v : V2 α) : P2.addVRefAssign p v = P2.addV p v := rfl
theorem C19_p2_subVAssign_eq [Sub α] (p : P2 α) (v : V2 α) : P2.subVAssign p v = P2.subV p v := rfl
theorem C19_p2_subVRef_eq [Sub α] (p : P2 α) (v : V2 α) : P2.subVRef p v = P2.subV p v := rfl
theorem C19_p2_subVRefAssign_eq [Sub α] (p : P2 α) (v : V2 α) : P2.subVRefAssign p v = P2.subV p v := rfl
theorem C19_p3_addVAssign_eq [Add α] (p : P3 α) (v : V3 α) : P3.addVAssign p v = P3.addV p v := rfl
theorem C19_p3_addVRef_eq [Add α] (p : P3 α) (v : V3 α) : P3.addVRef p v = P3.addV p v := rfl
theorem C19_p3_addVRefAssign_eq [Add α] (p : P3 α) (v : V3 α) : P3.addVRefAssign p v = P3.addV p v := rfl
theorem C19_p3_subVAssign_eq [Sub α] (p : P3 α) (v : V3 α) : P3.subVAssign p v = P3.subV p v := rfl
theorem C19_p3_subVRef_eq [Sub α] (p : P3 α) (v : V3 α) : P3.subVRef p v = P3.subV p v := rfl
theorem C19_p3_subVRefAssign_eq [Sub α] (p : P3 α) (v : V3 α) : P3.subVRefAssign p v = P3.subV p v := rfl

end AnyArithmetic

/-! ## (a) exact laws over a field -/
section Exact
variable {K : Type} [Field K]

/-! ### Vector2 -/

theorem C19_v2_sub_self (v : V2 K) : V2.sub v v = ⟨0, 0⟩ := by
  simp [V2.sub]

theorem C19_v2_add_sub_cancel (v u : V2 K) : V2.sub (V2.add v u) v = u := by
  cases u; simp [V2.sub, V2.add]




theorem C19_v2_dot_comm (a b : V2 K) : V2.dot a b = V2.dot b a := by
  simp only [V2.dot, mul_comm a.x, mul_comm a.y]

theorem C19_v2_neg_eq (a : V2 K) : V2.neg a = V2.sub ⟨0, 0⟩ a := by
  simp [V2.neg, V2.sub]

theorem C19_v2_div_ok_iff [DecidableEq K] (a : V2 K) (k : K) :
    V2.div a k = some (V2.divCore a k) ↔ k ≠ 0 := by
  unfold V2.div; split <;> simp_all

/-! ### Vector3 -/

theorem C19_v3_sub_self (v : V3 K) : V3.sub v v = ⟨0, 0, 0⟩ := by
  simp [V3.sub]

theorem C19_v3_add_sub_cancel (v u : V3 K) : V3.sub (V3.add v u) v = u := by
  cases u; simp [V3.sub, V3.add]


theorem C19_v3_dot_comm (a b : V3 K) : V3.dot a b = V3.dot b a := by
  simp only [V3.dot, mul_comm a.x, mul_comm a.y, mul_comm a.z]

theorem C19_v3_cross_antisymm (a b : V3 K) : V3.cross a b = V3.neg (V3.cross b a) := by
  simp only [V3.cross, V3.neg, V3.mk.injEq]
  refine ⟨?_, ?_, ?_⟩ <;> ring

theorem C19_v3_cross_dot_left (a b : V3 K) : V3.dot (V3.cross a b) a = 0 := by
  simp only [V3.cross, V3.dot]; ring

theorem C19_v3_cross_dot_right (a b : V3 K) : V3.dot (V3.cross a b) b = 0 := by
  simp only [V3.cross, V3.dot]; ring

theorem C19_v3_div_ok_iff [DecidableEq K] (a : V3 K) (k : K) :
    V3.div a k = some (V3.divCore a k) ↔ k ≠ 0 := by
  unfold V3.div; split <;> simp_all

/-! ### Vertex2 / Vertex3 -/


theorem C19_p2_sub_self (p : P2 K) : P2.sub p p = ⟨0, 0⟩ := by
  simp [P2.sub]

theorem C19_p2_add_sub_cancel (p : P2 K) (v : V2 K) : P2.sub (P2.addV p v) p = v := by
  cases v; simp [P2.sub, P2.addV]

theorem C19_p2_addV_subV_cancel (p : P2 K) (v : V2 K) : P2.subV (P2.addV p v) v = p := by
  cases p; simp [P2.subV, P2.addV]


theorem C19_p3_sub_self (p : P3 K) : P3.sub p p = ⟨0, 0, 0⟩ := by
  simp [P3.sub]

theorem C19_p3_add_sub_cancel (p : P3 K) (v : V3 K) : P3.sub (P3.addV p v) p = v := by
  cases v; simp [P3.sub, P3.addV]

theorem C19_p3_addV_subV_cancel (p : P3 K) (v : V3 K) : P3.subV (P3.addV p v) v = p := by
  cases p; simp [P3.subV, P3.addV]

/-! ### orientation (`cross_product_from_vertices`) -/

/-- twice the signed area of the triangle `a b c` (shoelace formula); positive = counter-clockwise -/
def shoelace2 (a b c : P2 K) : K :=
  (a.x * b.y - b.x * a.y) + (b.x * c.y - c.x * b.y) + (c.x * a.y - a.x * c.y)

theorem C19_orient_eq_shoelace (a b c : P2 K) : P2.orient a b c = shoelace2 a b c := by
  simp only [P2.orient, shoelace2]; ring

theorem C19_orient_swap (a b c : P2 K) : P2.orient a b c = -P2.orient a c b := by
  simp only [P2.orient]; ring

theorem C19_orient_cyclic (a b c : P2 K) : P2.orient a b c = P2.orient b c a := by
  simp only [P2.orient]; ring

/-- an affine map `p ↦ (m11·x + m12·y + tx, m21·x + m22·y + ty)` multiplies the orientation product by
    its determinant: orientation is preserved by translations, rotations, positive scalings and
    reversed by reflections -/
theorem C19_orient_affine (m11 m12 m21 m22 tx ty : K) (a b c : P2 K) :
    let f : P2 K → P2 K := fun p => ⟨m11 * p.x + m12 * p.y + tx, m21 * p.x + m22 * p.y + ty⟩
    P2.orient (f a) (f b) (f c) = (m11 * m22 - m12 * m21) * P2.orient a b c := by
  simp only [P2.orient]; ring

end Exact

section Ordered
variable {K : Type} [Field K] [LinearOrder K] [IsStrictOrderedRing K]

def Ccw (a b c : P2 K) : Prop := 0 < shoelace2 a b c
def Cw (a b c : P2 K) : Prop := shoelace2 a b c < 0

omit [IsStrictOrderedRing K] in
theorem C19_orient_pos_iff_ccw (a b c : P2 K) : 0 < P2.orient a b c ↔ Ccw a b c := by
  rw [C19_orient_eq_shoelace]; rfl

omit [IsStrictOrderedRing K] in
theorem C19_orient_neg_iff_cw (a b c : P2 K) : P2.orient a b c < 0 ↔ Cw a b c := by
  rw [C19_orient_eq_shoelace]; rfl

theorem C19_cw_iff_ccw_swap (a b c : P2 K) : Cw a b c ↔ Ccw a c b := by
  rw [← C19_orient_neg_iff_cw, ← C19_orient_pos_iff_ccw, C19_orient_swap a b c]
  exact neg_lt_zero

/-! ### average -/

theorem C19_p2_average_comm (a b : P2 K) : P2.average a b = P2.average b a := by
  simp only [P2.average, P2.mk.injEq]
  exact ⟨by ring, by ring⟩

theorem C19_p3_average_comm (a b : P3 K) : P3.average a b = P3.average b a := by
  simp only [P3.average, P3.mk.injEq]
  exact ⟨by ring, by ring, by ring⟩

theorem mid_between_of_le {x y : K} (h : x ≤ y) : x ≤ (x + y) / 2 ∧ (x + y) / 2 ≤ y := by
  rw [le_div_iff₀ two_pos, div_le_iff₀ two_pos, mul_two, mul_two]
  exact ⟨add_le_add_right h x, add_le_add_left h y⟩

theorem mid_between (x y : K) :
    min x y ≤ (x + y) / 2 ∧ (x + y) / 2 ≤ max x y := by
  rcases le_total x y with h | h
  · rw [min_eq_left h, max_eq_right h]
    exact mid_between_of_le h
  · rw [min_eq_right h, max_eq_left h, add_comm]
    exact mid_between_of_le h

theorem C19_p2_average_between (a b : P2 K) :
    (min a.x b.x ≤ (P2.average a b).x ∧ (P2.average a b).x ≤ max a.x b.x) ∧
    (min a.y b.y ≤ (P2.average a b).y ∧ (P2.average a b).y ≤ max a.y b.y) :=
  ⟨mid_between _ _, mid_between _ _⟩

theorem C19_p3_average_between (a b : P3 K) :
    (min a.x b.x ≤ (P3.average a b).x ∧ (P3.average a b).x ≤ max a.x b.x) ∧
    (min a.y b.y ≤ (P3.average a b).y ∧ (P3.average a b).y ≤ max a.y b.y) ∧
    (min a.z b.z ≤ (P3.average a b).z ∧ (P3.average a b).z ≤ max a.z b.z) :=
  ⟨mid_between _ _, mid_between _ _, mid_between _ _⟩

/-! ### `unit_dir` / `normal_dir`: failure iff null vector -/

theorem sq2_zero_iff (x y : K) : x * x + y * y = 0 ↔ x = 0 ∧ y = 0 :=
  mul_self_add_mul_self_eq_zero

theorem sq3_zero_iff (x y z : K) : x * x + y * y + z * z = 0 ↔ x = 0 ∧ y = 0 ∧ z = 0 := by
  rw [add_eq_zero_iff_of_nonneg (add_nonneg (mul_self_nonneg x) (mul_self_nonneg y)) (mul_self_nonneg z),
    sq2_zero_iff, mul_self_eq_zero, and_assoc]

theorem V2.normSq_eq_zero_iff (v : V2 K) : V2.normSq v = 0 ↔ v = ⟨0, 0⟩ := by
  cases v
  simp only [V2.normSq, V2.mk.injEq]
  exact sq2_zero_iff _ _

theorem V3.normSq_eq_zero_iff (v : V3 K) : V3.normSq v = 0 ↔ v = ⟨0, 0, 0⟩ := by
  cases v
  simp only [V3.normSq, V3.mk.injEq]
  exact sq3_zero_iff _ _ _

variable [DecidableEq K]

theorem C19_v2_unitDir_err_iff (v : V2 K) :
    V2.unitDirPre v = .error .invalidUnitDir ↔ v = ⟨0, 0⟩ := by
  rw [← V2.normSq_eq_zero_iff v]
  unfold V2.unitDirPre
  split <;> simp [*]

theorem C19_v2_unitDir_ok_iff (v : V2 K) :
    V2.unitDirPre v = .ok (V2.normSq v, v) ↔ v ≠ ⟨0, 0⟩ := by
  rw [Ne, ← C19_v2_unitDir_err_iff]
  unfold V2.unitDirPre
  split <;> simp

theorem C19_v2_normalDir_err_iff (v : V2 K) :
    V2.normalDirPre v = .error .invalidNormDir ↔ v = ⟨0, 0⟩ := by
  have h : (⟨-v.y, v.x⟩ : V2 K) = ⟨0, 0⟩ ↔ v = ⟨0, 0⟩ := by
    cases v
    simp only [V2.mk.injEq, neg_eq_zero, and_comm]
  rw [← h, ← V2.normSq_eq_zero_iff]
  unfold V2.normalDirPre V2.unitDirPre
  split <;> rename_i h' <;> split at h' <;> simp_all

/-- `normal_dir` succeeds on every non-null vector, with the quarter turn `(-y, x)` as direction -/
theorem C19_v2_normalDir_ok_iff (v : V2 K) :
    V2.normalDirPre v = .ok (V2.normSq (⟨-v.y, v.x⟩ : V2 K), ⟨-v.y, v.x⟩) ↔ v ≠ ⟨0, 0⟩ := by
  rw [Ne, ← C19_v2_normalDir_err_iff]
  unfold V2.normalDirPre V2.unitDirPre
  split <;> rename_i h <;> split at h <;> simp_all

theorem C19_v3_unitDir_err_iff (v : V3 K) :
    V3.unitDirPre v = .error .invalidUnitDir ↔ v = ⟨0, 0, 0⟩ := by
  rw [← V3.normSq_eq_zero_iff v]
  unfold V3.unitDirPre
  split <;> simp [*]

theorem C19_v3_unitDir_ok_iff (v : V3 K) :
    V3.unitDirPre v = .ok (V3.normSq v, v) ↔ v ≠ ⟨0, 0, 0⟩ := by
  rw [Ne, ← C19_v3_unitDir_err_iff]
  unfold V3.unitDirPre
  split <;> simp

end Ordered

/-! ### `unit_dir` / `normal_dir` over ℝ (with `Real.sqrt`) -/
section RealDir

/-- `Vector2::unit_dir` over ℝ: `unitDirPre` followed by `*self / norm` with `norm = √radicand` -/
noncomputable def unitDirR2 (v : V2 ℝ) : Except CoordsError (V2 ℝ) :=
  match V2.unitDirPre v with
  | .error e => .error e
  | .ok (s, d) => .ok (V2.divCore d (Real.sqrt s))

/-- `Vector2::normal_dir` over ℝ -/
noncomputable def normalDirR2 (v : V2 ℝ) : Except CoordsError (V2 ℝ) :=
  match V2.normalDirPre v with
  | .error e => .error e
  | .ok (s, d) => .ok (V2.divCore d (Real.sqrt s))

/-- `Vector3::unit_dir` over ℝ -/
noncomputable def unitDirR3 (v : V3 ℝ) : Except CoordsError (V3 ℝ) :=
  match V3.unitDirPre v with
  | .error e => .error e
  | .ok (s, d) => .ok (V3.divCore d (Real.sqrt s))

theorem C19_unitDirR2_err_iff (v : V2 ℝ) : unitDirR2 v = .error .invalidUnitDir ↔ v = ⟨0, 0⟩ := by
  rw [← C19_v2_unitDir_err_iff]
  unfold unitDirR2 V2.unitDirPre
  split <;> rename_i h <;> split at h <;> simp_all

theorem C19_normalDirR2_err_iff (v : V2 ℝ) : normalDirR2 v = .error .invalidNormDir ↔ v = ⟨0, 0⟩ := by
  rw [← C19_v2_normalDir_err_iff]
  unfold normalDirR2
  split <;> rename_i h <;> simp_all

theorem C19_unitDirR3_err_iff (v : V3 ℝ) : unitDirR3 v = .error .invalidUnitDir ↔ v = ⟨0, 0, 0⟩ := by
  rw [← C19_v3_unitDir_err_iff]
  unfold unitDirR3 V3.unitDirPre
  split <;> rename_i h <;> split at h <;> simp_all

theorem normSq2_pos {v : V2 ℝ} (hv : v ≠ ⟨0, 0⟩) : 0 < V2.normSq v :=
  lt_of_le_of_ne (add_nonneg (mul_self_nonneg _) (mul_self_nonneg _))
    (Ne.symm (mt (V2.normSq_eq_zero_iff v).mp hv))

theorem normSq3_pos {v : V3 ℝ} (hv : v ≠ ⟨0, 0, 0⟩) : 0 < V3.normSq v :=
  lt_of_le_of_ne (add_nonneg (add_nonneg (mul_self_nonneg _) (mul_self_nonneg _)) (mul_self_nonneg _))
    (Ne.symm (mt (V3.normSq_eq_zero_iff v).mp hv))

/-- on a non-null vector `unit_dir` returns `r = v / ‖v‖`: the `assert!` of `Div` does not fire, `r` has
    norm 1 and is a positive multiple of `v` -/
theorem C19_unitDirR2_spec (v : V2 ℝ) (hv : v ≠ ⟨0, 0⟩) :
    ∃ r k, unitDirR2 v = .ok r ∧ V2.div v (Real.sqrt (V2.normSq v)) = some r ∧
      V2.normSq r = 1 ∧ 0 < k ∧ r = V2.mul v k := by
  have hs := normSq2_pos hv
  have hq : 0 < Real.sqrt (V2.normSq v) := Real.sqrt_pos.mpr hs
  refine ⟨V2.divCore v (Real.sqrt (V2.normSq v)), (Real.sqrt (V2.normSq v))⁻¹, ?_, ?_, ?_, inv_pos.mpr hq, ?_⟩
  · unfold unitDirR2 V2.unitDirPre
    simp [hs.ne']
  · exact (C19_v2_div_ok_iff v _).mpr hq.ne'
  · have hm := Real.mul_self_sqrt hs.le
    simp only [V2.divCore, V2.normSq] at hm ⊢
    rw [div_mul_div_comm, div_mul_div_comm, ← add_div, hm]
    exact div_self hs.ne'
  · simp only [V2.divCore, V2.mul, div_eq_mul_inv]

/-- on a non-null vector `normal_dir` returns the unit vector along the quarter turn `(-y, x)`:
    norm 1, positive multiple of `(-y, x)`, orthogonal to `v`, and `(v, r)` is counter-clockwise -/
theorem C19_normalDirR2_spec (v : V2 ℝ) (hv : v ≠ ⟨0, 0⟩) :
    ∃ r k, normalDirR2 v = .ok r ∧ V2.normSq r = 1 ∧ 0 < k ∧ r = V2.mul ⟨-v.y, v.x⟩ k ∧
      V2.dot r v = 0 ∧ 0 < v.x * r.y - v.y * r.x := by
  have hw : (⟨-v.y, v.x⟩ : V2 ℝ) ≠ ⟨0, 0⟩ := by
    intro h
    simp only [V2.mk.injEq, neg_eq_zero] at h
    exact hv (by cases v; simp_all)
  obtain ⟨r, k, h1, _, h3, h4, h5⟩ := C19_unitDirR2_spec _ hw
  refine ⟨r, k, ?_, h3, h4, h5, ?_, ?_⟩
  · have hok := (C19_v2_normalDir_ok_iff v).mpr hv
    unfold normalDirR2
    rw [hok]
    unfold unitDirR2 at h1
    rw [(C19_v2_unitDir_ok_iff _).mpr hw] at h1
    exact h1
  · rw [h5]; simp only [V2.dot, V2.mul]; ring
  · rw [h5]; simp only [V2.mul]
    have : v.x * (v.x * k) - v.y * (-v.y * k) = V2.normSq v * k := by simp only [V2.normSq]; ring
    rw [this]
    exact mul_pos (normSq2_pos hv) h4

theorem C19_unitDirR3_spec (v : V3 ℝ) (hv : v ≠ ⟨0, 0, 0⟩) :
    ∃ r k, unitDirR3 v = .ok r ∧ V3.div v (Real.sqrt (V3.normSq v)) = some r ∧
      V3.normSq r = 1 ∧ 0 < k ∧ r = V3.mul v k := by
  have hs := normSq3_pos hv
  have hq : 0 < Real.sqrt (V3.normSq v) := Real.sqrt_pos.mpr hs
  refine ⟨V3.divCore v (Real.sqrt (V3.normSq v)), (Real.sqrt (V3.normSq v))⁻¹, ?_, ?_, ?_, inv_pos.mpr hq, ?_⟩
  · unfold unitDirR3 V3.unitDirPre
    simp [hs.ne']
  · exact (C19_v3_div_ok_iff v _).mpr hq.ne'
  · have hm := Real.mul_self_sqrt hs.le
    simp only [V3.divCore, V3.normSq] at hm ⊢
    rw [div_mul_div_comm, div_mul_div_comm, div_mul_div_comm, ← add_div, ← add_div, hm]
    exact div_self hs.ne'
  · simp only [V3.divCore, V3.mul, div_eq_mul_inv]

end RealDir

/-! ## (b) rounding

`RoundModel fl u` is the standard model of floating-point arithmetic: every operation returns
`fl` of the exact result of the operation on its (floating-point) arguments, and `fl` commits a
relative error of at most `u < 1`.  It is a HYPOTHESIS of the theorems below; `Props/C19b.lean` proves
that the idealised IEEE rounding `rnd p` (round to nearest even, `p` bits, unbounded exponent — i.e.
binary64 / binary32 as long as no overflow or underflow occurs, the domain of the property) satisfies
it with `u = 2⁻ᵖ`, which makes every theorem below unconditional for that rounding.  `FlR fl` instantiates the coordinate type of the model with this
arithmetic, so the statements are about the model definitions themselves (`V2.sub`, `P2.orient`, …)
evaluated operation by operation in the order the Rust evaluates them. -/
section Rounding
set_option linter.unusedSectionVars false
/- the coordinate field: any ordered field (ℝ in the examples; ℚ — the exact values of floats — for the
   unconditional instance `rnd 53` / `rnd 24` of `Props/C19b.lean`) -/
variable {K : Type} [Field K] [LinearOrder K] [IsStrictOrderedRing K]

structure RoundModel {K : Type} [Field K] [LinearOrder K] [IsStrictOrderedRing K] (fl : K → K) (u : K) : Prop where
  u_nonneg : 0 ≤ u
  u_lt_one : u < 1
  err : ∀ x, |fl x - x| ≤ u * |x|

/-- values of the rounded arithmetic: real numbers, with every operation followed by `fl` -/
structure FlR {K : Type} (fl : K → K) where
  val : K

variable {fl : K → K} {u : K}

instance : Add (FlR fl) := ⟨fun a b => ⟨fl (a.val + b.val)⟩⟩
instance : Sub (FlR fl) := ⟨fun a b => ⟨fl (a.val - b.val)⟩⟩
instance : Mul (FlR fl) := ⟨fun a b => ⟨fl (a.val * b.val)⟩⟩
noncomputable instance : Div (FlR fl) := ⟨fun a b => ⟨fl (a.val / b.val)⟩⟩
/-- negation is exact (sign flip) -/
instance : Neg (FlR fl) := ⟨fun a => ⟨-a.val⟩⟩
instance : OfNat (FlR fl) 0 := ⟨⟨0⟩⟩
instance : OfNat (FlR fl) 2 := ⟨⟨2⟩⟩

@[simp] theorem FlR.add_val (a b : FlR fl) : (a + b).val = fl (a.val + b.val) := rfl
@[simp] theorem FlR.sub_val (a b : FlR fl) : (a - b).val = fl (a.val - b.val) := rfl
@[simp] theorem FlR.mul_val (a b : FlR fl) : (a * b).val = fl (a.val * b.val) := rfl
@[simp] theorem FlR.div_val (a b : FlR fl) : (a / b).val = fl (a.val / b.val) := rfl
@[simp] theorem FlR.neg_val (a : FlR fl) : (-a).val = -a.val := rfl

/-- the real point with the same coordinates -/
def toR2 (p : P2 (FlR fl)) : P2 K := ⟨p.x.val, p.y.val⟩

theorem RoundModel.fl_zero (h : RoundModel fl u) : fl 0 = 0 := by
  have := h.err 0
  simpa using this

theorem sign_of_close {X x : K} (h : |X - x| < |x|) : (0 < X ↔ 0 < x) ∧ (X < 0 ↔ x < 0) := by
  obtain ⟨h1, h2⟩ := abs_sub_lt_iff.mp h
  rcases lt_or_ge x 0 with hx | hx
  · rw [abs_of_neg hx] at h1
    have hX : X < 0 := (sub_lt_iff_lt_add.mp h1).trans_eq (neg_add_cancel x)
    exact ⟨iff_of_false hX.not_gt hx.not_gt, iff_of_true hX hx⟩
  · rw [abs_of_nonneg hx] at h2
    have hX : 0 < X := (sub_lt_self_iff x).mp h2
    have hx' : 0 < x := hx.lt_of_ne' (abs_pos.mp ((abs_nonneg _).trans_lt h))
    exact ⟨iff_of_true hX hx', iff_of_false hX.not_gt hx'.not_gt⟩

theorem RoundModel.fl_sign (h : RoundModel fl u) (x : K) : (0 < fl x ↔ 0 < x) ∧ (fl x < 0 ↔ x < 0) := by
  by_cases hx : x = 0
  · rw [hx, h.fl_zero]
    exact ⟨Iff.rfl, Iff.rfl⟩
  · exact sign_of_close ((h.err x).trans_lt (mul_lt_of_lt_one_left (abs_pos.mpr hx) h.u_lt_one))

theorem RoundModel.fl_pos_iff (h : RoundModel fl u) (x : K) : 0 < fl x ↔ 0 < x := (h.fl_sign x).1

theorem RoundModel.fl_neg_iff (h : RoundModel fl u) (x : K) : fl x < 0 ↔ x < 0 := (h.fl_sign x).2

/-- multiplicative form of the error: `fl x = x · d` with `|d − 1| ≤ u` -/
theorem RoundModel.fl_rel (h : RoundModel fl u) (x : K) : ∃ d, |d - 1| ≤ u ∧ fl x = x * d := by
  by_cases hx : x = 0
  · subst hx
    exact ⟨1, by simpa using h.u_nonneg, by simpa using h.fl_zero⟩
  · refine ⟨fl x / x, ?_, (mul_div_cancel₀ _ hx).symm⟩
    have e : fl x / x - 1 = (fl x - x) / x := by rw [sub_div, div_self hx]
    rw [e, abs_div, div_le_iff₀ (abs_pos.mpr hx)]
    exact h.err x

/-! ### `v − v = 0` exactly -/

theorem RoundModel.flr_sub_self (h : RoundModel fl u) (a : FlR fl) : a - a = ⟨0⟩ :=
  congrArg FlR.mk (by rw [sub_self]; exact h.fl_zero)

theorem C19_fl_v2_sub_self (h : RoundModel fl u) (v : V2 (FlR fl)) : V2.sub v v = ⟨⟨0⟩, ⟨0⟩⟩ := by
  simp only [V2.sub, h.flr_sub_self]

theorem C19_fl_v3_sub_self (h : RoundModel fl u) (v : V3 (FlR fl)) :
    V3.sub v v = ⟨⟨0⟩, ⟨0⟩, ⟨0⟩⟩ := by
  simp only [V3.sub, h.flr_sub_self]

theorem C19_fl_p2_sub_self (h : RoundModel fl u) (p : P2 (FlR fl)) : P2.sub p p = ⟨⟨0⟩, ⟨0⟩⟩ := by
  simp only [P2.sub, h.flr_sub_self]

theorem C19_fl_p3_sub_self (h : RoundModel fl u) (p : P3 (FlR fl)) :
    P3.sub p p = ⟨⟨0⟩, ⟨0⟩, ⟨0⟩⟩ := by
  simp only [P3.sub, h.flr_sub_self]

/-! ### `(v + u) − v ≈ u` -/

/-- scalar form: `|fl(fl(a + b) − a) − b| ≤ (2u + u²)(|a| + |b|)` -/
theorem RoundModel.add_sub_bound (h : RoundModel fl u) (a b : K) :
    |fl (fl (a + b) - a) - b| ≤ (2 * u + u ^ 2) * (|a| + |b|) := by
  have hu0 := h.u_nonneg
  have h1 : |fl (a + b) - (a + b)| ≤ u * (|a| + |b|) :=
    (h.err _).trans (mul_le_mul_of_nonneg_left (abs_add_le a b) hu0)
  have h2 : |fl (a + b) - a| ≤ (|a| + |b|) + u * (|a| + |b|) := by
    have e : fl (a + b) - a = b + (fl (a + b) - (a + b)) := by ring
    rw [e]
    exact (abs_add_le _ _).trans (add_le_add (le_add_of_nonneg_left (abs_nonneg a)) h1)
  have e : fl (fl (a + b) - a) - b
      = (fl (fl (a + b) - a) - (fl (a + b) - a)) + (fl (a + b) - (a + b)) := by ring
  rw [e]
  calc _ ≤ u * ((|a| + |b|) + u * (|a| + |b|)) + u * (|a| + |b|) :=
        (abs_add_le _ _).trans (add_le_add ((h.err _).trans (mul_le_mul_of_nonneg_left h2 hu0)) h1)
    _ = _ := by ring

theorem C19_fl_v2_add_sub_bound (h : RoundModel fl u) (v w : V2 (FlR fl)) :
    |(V2.sub (V2.add v w) v).x.val - w.x.val| ≤ (2 * u + u ^ 2) * (|v.x.val| + |w.x.val|) ∧
    |(V2.sub (V2.add v w) v).y.val - w.y.val| ≤ (2 * u + u ^ 2) * (|v.y.val| + |w.y.val|) :=
  ⟨h.add_sub_bound _ _, h.add_sub_bound _ _⟩

theorem C19_fl_v3_add_sub_bound (h : RoundModel fl u) (v w : V3 (FlR fl)) :
    |(V3.sub (V3.add v w) v).x.val - w.x.val| ≤ (2 * u + u ^ 2) * (|v.x.val| + |w.x.val|) ∧
    |(V3.sub (V3.add v w) v).y.val - w.y.val| ≤ (2 * u + u ^ 2) * (|v.y.val| + |w.y.val|) ∧
    |(V3.sub (V3.add v w) v).z.val - w.z.val| ≤ (2 * u + u ^ 2) * (|v.z.val| + |w.z.val|) :=
  ⟨h.add_sub_bound _ _, h.add_sub_bound _ _, h.add_sub_bound _ _⟩

theorem C19_fl_p2_add_sub_bound (h : RoundModel fl u) (p : P2 (FlR fl)) (w : V2 (FlR fl)) :
    |(P2.sub (P2.addV p w) p).x.val - w.x.val| ≤ (2 * u + u ^ 2) * (|p.x.val| + |w.x.val|) ∧
    |(P2.sub (P2.addV p w) p).y.val - w.y.val| ≤ (2 * u + u ^ 2) * (|p.y.val| + |w.y.val|) :=
  ⟨h.add_sub_bound _ _, h.add_sub_bound _ _⟩

theorem C19_fl_p3_add_sub_bound (h : RoundModel fl u) (p : P3 (FlR fl)) (w : V3 (FlR fl)) :
    |(P3.sub (P3.addV p w) p).x.val - w.x.val| ≤ (2 * u + u ^ 2) * (|p.x.val| + |w.x.val|) ∧
    |(P3.sub (P3.addV p w) p).y.val - w.y.val| ≤ (2 * u + u ^ 2) * (|p.y.val| + |w.y.val|) ∧
    |(P3.sub (P3.addV p w) p).z.val - w.z.val| ≤ (2 * u + u ^ 2) * (|p.z.val| + |w.z.val|) :=
  ⟨h.add_sub_bound _ _, h.add_sub_bound _ _, h.add_sub_bound _ _⟩

/-! ### symmetric clauses hold in every arithmetic (no hypothesis on `fl`) -/

theorem FlR.mul_comm (a b : FlR fl) : a * b = b * a := congrArg FlR.mk (congrArg fl (_root_.mul_comm _ _))

theorem FlR.add_comm (a b : FlR fl) : a + b = b + a := congrArg FlR.mk (congrArg fl (_root_.add_comm _ _))

theorem C19_fl_v2_dot_comm (a b : V2 (FlR fl)) : V2.dot a b = V2.dot b a := by
  simp only [V2.dot, FlR.mul_comm a.x, FlR.mul_comm a.y]

theorem C19_fl_v3_dot_comm (a b : V3 (FlR fl)) : V3.dot a b = V3.dot b a := by
  simp only [V3.dot, FlR.mul_comm a.x, FlR.mul_comm a.y, FlR.mul_comm a.z]

theorem C19_fl_p2_average_comm (a b : P2 (FlR fl)) : P2.average a b = P2.average b a := by
  simp only [P2.average, FlR.add_comm a.x, FlR.add_comm a.y]

theorem C19_fl_p3_average_comm (a b : P3 (FlR fl)) : P3.average a b = P3.average b a := by
  simp only [P3.average, FlR.add_comm a.x, FlR.add_comm a.y, FlR.add_comm a.z]

/-- the computed cross product is antisymmetric as soon as rounding is odd (`fl (−x) = −fl x`,
    true of round-to-nearest; the sign of a zero component is not represented in `FlR`) -/
theorem C19_fl_v3_cross_antisymm (hodd : ∀ x, fl (-x) = -fl x) (a b : V3 (FlR fl)) :
    V3.cross a b = V3.neg (V3.cross b a) := by
  have key : ∀ p q r s : K, fl (fl (p * q) - fl (r * s)) = -fl (fl (s * r) - fl (q * p)) := by
    intro p q r s
    rw [← hodd, mul_comm s r, mul_comm q p]
    congr 1; ring
  simp only [V3.cross, V3.neg, V3.mk.injEq]
  exact ⟨congrArg FlR.mk (by simpa using key _ _ _ _), congrArg FlR.mk (by simpa using key _ _ _ _),
    congrArg FlR.mk (by simpa using key _ _ _ _)⟩

/-! ### the orientation sign outside the rounding band -/

theorem mul_err {a b p q : K} (ha : |a - 1| ≤ p) (hb : |b - 1| ≤ q) :
    |a * b - 1| ≤ p + q + p * q := by
  have e : a * b - 1 = (a - 1) + (b - 1) + (a - 1) * (b - 1) := by ring
  rw [e]
  refine (abs_add_three _ _ _).trans (add_le_add (add_le_add ha hb) ?_)
  rw [abs_mul]
  exact mul_le_mul ha hb (abs_nonneg _) ((abs_nonneg _).trans ha)

/-- an exact value counts as a rounding factor 1 -/
theorem RoundModel.err_one (h : RoundModel fl u) : |(1 : K) - 1| ≤ u := by
  rw [sub_self, abs_zero]
  exact h.u_nonneg

theorem err2 {a b : K} (ha : |a - 1| ≤ u) (hb : |b - 1| ≤ u) : |a * b - 1| ≤ 2 * u + u ^ 2 :=
  (mul_err ha hb).trans_eq (by ring)

theorem err3 {a b c : K} (ha : |a - 1| ≤ u) (hb : |b - 1| ≤ u) (hc : |c - 1| ≤ u) :
    |a * b * c - 1| ≤ 3 * u + 3 * u ^ 2 + u ^ 3 :=
  (mul_err (err2 ha hb) hc).trans_eq (by ring)

theorem abs_add_three_le {a b c p q r : K} (ha : |a| ≤ p) (hb : |b| ≤ q) (hc : |c| ≤ r) :
    |a + b + c| ≤ p + q + r :=
  (abs_add_three a b c).trans (add_le_add (add_le_add ha hb) hc)

theorem abs_mul_le_mul_abs {s e γ : K} (he : |e| ≤ γ) : |s * e| ≤ γ * |s| := by
  rw [abs_mul, mul_comm]
  exact mul_le_mul_of_nonneg_right he (abs_nonneg s)

/-- a rounded product of two rounded factors: `|fl(fl x · fl y) − x·y| ≤ (3u + 3u² + u³)·|x·y|` -/
theorem RoundModel.prod_bound (h : RoundModel fl u) (x y : K) :
    |fl (fl x * fl y) - x * y| ≤ (3 * u + 3 * u ^ 2 + u ^ 3) * |x * y| := by
  obtain ⟨d1, hd1, e1⟩ := h.fl_rel x
  obtain ⟨d2, hd2, e2⟩ := h.fl_rel y
  obtain ⟨d3, hd3, e3⟩ := h.fl_rel (fl x * fl y)
  have e : fl (fl x * fl y) - x * y = (x * y) * (d1 * d2 * d3 - 1) := by
    rw [e3, e1, e2]; ring
  rw [e]
  exact abs_mul_le_mul_abs (err3 hd1 hd2 hd3)

/-- the band around collinearity inside which the computed sign is not guaranteed:
    `|A·B| + |C·D|` for the four coordinate differences of `cross_product_from_vertices` -/
def orientBand (a b c : P2 K) : K :=
  |(b.x - a.x) * (c.y - b.y)| + |(b.y - a.y) * (c.x - b.x)|

/-- **orientation sign.**  Evaluate `cross_product_from_vertices` in rounded arithmetic (7 rounded
    operations, in the order of the Rust expression).  If the exact value on the same inputs is
    outside the band `(3u + 3u² + u³)·(|A·B| + |C·D|)`, the computed value has the exact sign. -/
theorem C19_fl_orient_sign (h : RoundModel fl u) (a b c : P2 (FlR fl))
    (hband : (3 * u + 3 * u ^ 2 + u ^ 3) * orientBand (toR2 a) (toR2 b) (toR2 c)
      < |P2.orient (toR2 a) (toR2 b) (toR2 c)|) :
    (0 < (P2.orient a b c).val ↔ 0 < P2.orient (toR2 a) (toR2 b) (toR2 c)) ∧
    ((P2.orient a b c).val < 0 ↔ P2.orient (toR2 a) (toR2 b) (toR2 c) < 0) := by
  simp only [P2.orient, toR2, orientBand, FlR.sub_val, FlR.mul_val] at hband ⊢
  rw [h.fl_pos_iff, h.fl_neg_iff]
  refine sign_of_close (lt_of_le_of_lt ?_ hband)
  rw [sub_sub_sub_comm, mul_add]
  exact (abs_sub _ _).trans (add_le_add (h.prod_bound _ _) (h.prod_bound _ _))

/-! ### orthogonality of the computed cross product -/

/-- difference of two rounded products of floats:
    `|fl(fl(x·y) − fl(z·w)) − (x·y − z·w)| ≤ (2u + u²)(|x·y| + |z·w|)` -/
theorem RoundModel.sub_prod_bound (h : RoundModel fl u) (x y z w : K) :
    |fl (fl (x * y) - fl (z * w)) - (x * y - z * w)| ≤ (2 * u + u ^ 2) * (|x * y| + |z * w|) := by
  obtain ⟨d1, hd1, e1⟩ := h.fl_rel (x * y)
  obtain ⟨d2, hd2, e2⟩ := h.fl_rel (z * w)
  obtain ⟨d3, hd3, e3⟩ := h.fl_rel (fl (x * y) - fl (z * w))
  have e : fl (fl (x * y) - fl (z * w)) - (x * y - z * w)
      = (x * y) * (d1 * d3 - 1) - (z * w) * (d2 * d3 - 1) := by
    rw [e3, e1, e2]; ring
  rw [e, mul_add]
  exact (abs_sub _ _).trans
    (add_le_add (abs_mul_le_mul_abs (err2 hd1 hd3)) (abs_mul_le_mul_abs (err2 hd2 hd3)))

/-- a rounded three-term dot product of arbitrary reals `s_i = x_i·y_i`:
    `|fl(fl(fl s0 + fl s1) + fl s2) − (s0 + s1 + s2)| ≤ (3u + 3u² + u³)(|s0| + |s1| + |s2|)` -/
theorem RoundModel.dot3_bound (h : RoundModel fl u) (s0 s1 s2 : K) :
    |fl (fl (fl s0 + fl s1) + fl s2) - (s0 + s1 + s2)|
      ≤ (3 * u + 3 * u ^ 2 + u ^ 3) * (|s0| + |s1| + |s2|) := by
  obtain ⟨d0, hd0, e0⟩ := h.fl_rel s0
  obtain ⟨d1, hd1, e1⟩ := h.fl_rel s1
  obtain ⟨d2, hd2, e2⟩ := h.fl_rel s2
  obtain ⟨d3, hd3, e3⟩ := h.fl_rel (fl s0 + fl s1)
  obtain ⟨d4, hd4, e4⟩ := h.fl_rel (fl (fl s0 + fl s1) + fl s2)
  -- the third term passes through two roundings only: count the missing one as a factor 1
  have e : fl (fl (fl s0 + fl s1) + fl s2) - (s0 + s1 + s2)
      = s0 * (d0 * d3 * d4 - 1) + s1 * (d1 * d3 * d4 - 1) + s2 * (d2 * 1 * d4 - 1) := by
    rw [e4, e3, e0, e1, e2]; ring
  rw [e, mul_add, mul_add]
  exact abs_add_three_le (abs_mul_le_mul_abs (err3 hd0 hd3 hd4)) (abs_mul_le_mul_abs (err3 hd1 hd3 hd4))
    (abs_mul_le_mul_abs (err3 hd2 h.err_one hd4))

/-- magnitude against which the orthogonality defect of the computed cross product is measured:
    `Σ |w_i|·(|p_i| + |q_i|)` where `p_i − q_i` is the i-th component of `a × b` -/
def crossMag (a b w : V3 K) : K :=
  |w.x| * (|a.y * b.z| + |a.z * b.y|) + |w.y| * (|a.z * b.x| + |a.x * b.z|)
    + |w.z| * (|a.x * b.y| + |a.y * b.x|)

def toR3 (v : V3 (FlR fl)) : V3 K := ⟨v.x.val, v.y.val, v.z.val⟩

theorem near_mul_bounds {k c m w ε : K} (hk : |k - c| ≤ ε * m) (hc : |c| ≤ m) :
    |(k - c) * w| ≤ ε * (|w| * m) ∧ |k * w| ≤ (1 + ε) * (|w| * m) := by
  have hk' : |k| ≤ (1 + ε) * m :=
    calc |k| = |(k - c) + c| := by rw [sub_add_cancel]
      _ ≤ ε * m + m := (abs_add_le _ _).trans (add_le_add hk hc)
      _ = (1 + ε) * m := by ring
  rw [abs_mul, abs_mul, mul_left_comm ε, mul_left_comm (1 + ε)]
  exact ⟨mul_le_mul_of_nonneg_left hk (abs_nonneg w) |>.trans_eq' (mul_comm _ _),
    mul_le_mul_of_nonneg_left hk' (abs_nonneg w) |>.trans_eq' (mul_comm _ _)⟩

/-- scalar core: if `ĉ_i` approximates `c_i` with `|ĉ_i − c_i| ≤ ε·m_i`, `|c_i| ≤ m_i` and `Σ c_i w_i = 0`, the rounded dot
    product `ĉ·w` is bounded by `(ε + γ₃(1 + ε))·Σ|w_i| m_i` -/
theorem RoundModel.orth_bound (h : RoundModel fl u) {c0 c1 c2 k0 k1 k2 m0 m1 m2 w0 w1 w2 ε : K}
        (h0 : |k0 - c0| ≤ ε * m0) (h1 : |k1 - c1| ≤ ε * m1) (h2 : |k2 - c2| ≤ ε * m2)
    (b0 : |c0| ≤ m0) (b1 : |c1| ≤ m1) (b2 : |c2| ≤ m2)
    (horth : c0 * w0 + c1 * w1 + c2 * w2 = 0) :
    |fl (fl (fl (k0 * w0) + fl (k1 * w1)) + fl (k2 * w2))|
      ≤ (ε + (3 * u + 3 * u ^ 2 + u ^ 3) * (1 + ε)) * (|w0| * m0 + |w1| * m1 + |w2| * m2) := by
  have hg : 0 ≤ 3 * u + 3 * u ^ 2 + u ^ 3 := (abs_nonneg _).trans (err3 h.err_one h.err_one h.err_one)
  obtain ⟨e0, t0⟩ := near_mul_bounds (w := w0) h0 b0
  obtain ⟨e1, t1⟩ := near_mul_bounds (w := w1) h1 b1
  obtain ⟨e2, t2⟩ := near_mul_bounds (w := w2) h2 b2
  -- the exact dot product of the `k_i` is the dot product of the differences `k_i − c_i`
  have hsum : k0 * w0 + k1 * w1 + k2 * w2 = (k0 - c0) * w0 + (k1 - c1) * w1 + (k2 - c2) * w2 := by
    rw [← sub_zero (k0 * w0 + k1 * w1 + k2 * w2), ← horth]; ring
  have hS : |k0 * w0 + k1 * w1 + k2 * w2| ≤ ε * (|w0| * m0 + |w1| * m1 + |w2| * m2) := by
    rw [hsum, mul_add, mul_add]
    exact abs_add_three_le e0 e1 e2
  have hT : |k0 * w0| + |k1 * w1| + |k2 * w2| ≤ (1 + ε) * (|w0| * m0 + |w1| * m1 + |w2| * m2) := by
    rw [mul_add, mul_add]
    exact add_le_add (add_le_add t0 t1) t2
  calc _ = |(fl (fl (fl (k0 * w0) + fl (k1 * w1)) + fl (k2 * w2)) - (k0 * w0 + k1 * w1 + k2 * w2))
          + (k0 * w0 + k1 * w1 + k2 * w2)| := by rw [sub_add_cancel]
    _ ≤ (3 * u + 3 * u ^ 2 + u ^ 3) * ((1 + ε) * (|w0| * m0 + |w1| * m1 + |w2| * m2))
          + ε * (|w0| * m0 + |w1| * m1 + |w2| * m2) :=
        (abs_add_le _ _).trans
          (add_le_add ((h.dot3_bound _ _ _).trans (mul_le_mul_of_nonneg_left hT hg)) hS)
    _ = _ := by ring

/-- **orthogonality up to rounding.**  The computed `(a × b)·a` and `(a × b)·b` (11 rounded operations
    each, in the order of `Vector3::cross` and `Vector3::dot`) are bounded by
    `K·Σ|w_i|(|p_i| + |q_i|)` with `K = (2u + u²) + (3u + 3u² + u³)(1 + 2u + u²) = 5u + O(u²)`. -/
theorem C19_fl_v3_cross_dot_bound (h : RoundModel fl u) (a b : V3 (FlR fl)) :
    |(V3.dot (V3.cross a b) a).val|
      ≤ ((2 * u + u ^ 2) + (3 * u + 3 * u ^ 2 + u ^ 3) * (1 + (2 * u + u ^ 2)))
          * crossMag (toR3 a) (toR3 b) (toR3 a) ∧
    |(V3.dot (V3.cross a b) b).val|
      ≤ ((2 * u + u ^ 2) + (3 * u + 3 * u ^ 2 + u ^ 3) * (1 + (2 * u + u ^ 2)))
          * crossMag (toR3 a) (toR3 b) (toR3 b) := by
  simp only [V3.dot, V3.cross, crossMag, toR3, FlR.add_val, FlR.mul_val, FlR.sub_val]
  constructor
  · exact h.orth_bound (h.sub_prod_bound _ _ _ _) (h.sub_prod_bound _ _ _ _) (h.sub_prod_bound _ _ _ _)
      (abs_sub _ _) (abs_sub _ _) (abs_sub _ _) (C19_v3_cross_dot_left (toR3 a) (toR3 b))
  · exact h.orth_bound (h.sub_prod_bound _ _ _ _) (h.sub_prod_bound _ _ _ _) (h.sub_prod_bound _ _ _ _)
      (abs_sub _ _) (abs_sub _ _) (abs_sub _ _) (C19_v3_cross_dot_right (toR3 a) (toR3 b))

/-- the constant is below `6u` for every `u ≤ 1/16` (so for `2⁻²⁴` and `2⁻⁵³`): the bound used by the float oracle -/
theorem cross_dot_const_le {u : K} (h0 : 0 ≤ u) (h1 : u ≤ 1 / 16) :
    (2 * u + u ^ 2) + (3 * u + 3 * u ^ 2 + u ^ 3) * (1 + (2 * u + u ^ 2)) ≤ 6 * u := by
  have hu1 : u ≤ 1 := h1.trans (by norm_num)
  have h2 : u ^ 2 ≤ u := pow_le_of_le_one h0 hu1 two_ne_zero
  have h3 : u ^ 3 ≤ u := pow_le_of_le_one h0 hu1 three_ne_zero
  have a : 0 ≤ 1 - 16 * u := sub_nonneg.mpr ((le_div_iff₀' (by norm_num)).mp h1)
  have b : 0 ≤ 6 - 10 * u - 5 * u ^ 2 - u ^ 3 := by linarith
  have e : 6 * u - ((2 * u + u ^ 2) + (3 * u + 3 * u ^ 2 + u ^ 3) * (1 + (2 * u + u ^ 2)))
      = u * ((1 - 16 * u) + u * (6 - 10 * u - 5 * u ^ 2 - u ^ 3)) := by ring
  exact sub_nonneg.mp (e ▸ mul_nonneg h0 (add_nonneg a (mul_nonneg h0 b)))

/-! ### the computed average lies between its arguments -/

/-- `x` and `2x` are representable (true of every finite float whose double does not overflow) -/
def Rep (fl : K → K) (x : K) : Prop := fl x = x ∧ fl (2 * x) = 2 * x

/-- with a MONOTONE rounding, the computed midpoint `fl(fl(a + b) / 2)` of two representable numbers lies
    between them (no relative-error hypothesis needed) -/
theorem fl_mid_between (hmono : Monotone fl) {a b : K} (ha : Rep fl a) (hb : Rep fl b) :
    min a b ≤ fl (fl (a + b) / 2) ∧ fl (fl (a + b) / 2) ≤ max a b := by
  -- `2x ≤ x + y ≤ 2y`, `x` and `y` and their doubles are fixed by `fl`, and `fl` is monotone
  have key : ∀ {x y : K}, Rep fl x → Rep fl y → x ≤ y →
      x ≤ fl (fl (x + y) / 2) ∧ fl (fl (x + y) / 2) ≤ y := by
    intro x y hx hy hxy
    have h1 : 2 * x ≤ fl (x + y) := by
      rw [← hx.2, two_mul]
      exact hmono (add_le_add_right hxy x)
    have h2 : fl (x + y) ≤ 2 * y := by
      rw [← hy.2, two_mul]
      exact hmono (add_le_add_left hxy y)
    exact ⟨hx.1.symm.trans_le (hmono ((le_div_iff₀' two_pos).mpr h1)),
      (hmono ((div_le_iff₀' two_pos).mpr h2)).trans_eq hy.1⟩
  rcases le_total a b with h | h
  · rw [min_eq_left h, max_eq_right h]; exact key ha hb h
  · rw [min_eq_right h, max_eq_left h, add_comm a b]
    exact key hb ha h

@[simp] theorem FlR.two_val : (2 : FlR fl).val = 2 := rfl

theorem C19_fl_p2_average_between (hmono : Monotone fl) (a b : P2 (FlR fl))
    (hax : Rep fl a.x.val) (hbx : Rep fl b.x.val) (hay : Rep fl a.y.val) (hby : Rep fl b.y.val) :
    (min a.x.val b.x.val ≤ (P2.average a b).x.val ∧ (P2.average a b).x.val ≤ max a.x.val b.x.val) ∧
    (min a.y.val b.y.val ≤ (P2.average a b).y.val ∧ (P2.average a b).y.val ≤ max a.y.val b.y.val) := by
  simp only [P2.average, FlR.div_val, FlR.add_val, FlR.two_val]
  exact ⟨fl_mid_between hmono hax hbx, fl_mid_between hmono hay hby⟩

theorem C19_fl_p3_average_between (hmono : Monotone fl) (a b : P3 (FlR fl))
    (hax : Rep fl a.x.val) (hbx : Rep fl b.x.val) (hay : Rep fl a.y.val) (hby : Rep fl b.y.val)
    (haz : Rep fl a.z.val) (hbz : Rep fl b.z.val) :
    (min a.x.val b.x.val ≤ (P3.average a b).x.val ∧ (P3.average a b).x.val ≤ max a.x.val b.x.val) ∧
    (min a.y.val b.y.val ≤ (P3.average a b).y.val ∧ (P3.average a b).y.val ≤ max a.y.val b.y.val) ∧
    (min a.z.val b.z.val ≤ (P3.average a b).z.val ∧ (P3.average a b).z.val ≤ max a.z.val b.z.val) := by
  simp only [P3.average, FlR.div_val, FlR.add_val, FlR.two_val]
  exact ⟨fl_mid_between hmono hax hbx, fl_mid_between hmono hay hby, fl_mid_between hmono haz hbz⟩


end Rounding

/-! ## (c) skewness over ℝ

`skewOfAngles pi θs` is the value `compute_face_skewness_2d/3d` return once the corner angles `θs`
have been measured (in the order the loop visits the corners).  `pi` is a parameter (`0 < pi`): the
Rust uses the `f64` constant, the theorems hold for it as well as for `Real.pi`. -/
section Skew

theorem foldl_sel_mem {α : Type} {op : α → α → α} (hop : ∀ a b, op a b = a ∨ op a b = b) (ts : List α) :
    ∀ t, ts.foldl op t ∈ t :: ts := by
  induction ts with
  | nil => intro t; simp
  | cons a r ih =>
    intro t
    have := ih (op t a)
    simp only [List.foldl_cons, List.mem_cons] at this ⊢
    rcases this with h | h
    · rcases hop t a with h' | h'
      · left; rw [h, h']
      · right; left; rw [h, h']
    · right; right; exact h

theorem foldl_sel_rel {α : Type} {op : α → α → α} {R : α → α → Prop} (hrefl : ∀ a, R a a)
    (htrans : ∀ a b c, R a b → R b c → R a c) (h1 : ∀ a b, R (op a b) a) (h2 : ∀ a b, R (op a b) b)
    (ts : List α) : ∀ t, ∀ x ∈ t :: ts, R (ts.foldl op t) x := by
  induction ts with
  | nil => intro t x hx; rw [List.mem_singleton.mp hx]; exact hrefl t
  | cons a r ih =>
    intro t x hx
    have hs := ih (op t a) _ (List.mem_cons_self ..)
    rcases List.mem_cons.mp hx with rfl | hx
    · exact htrans _ _ _ hs (h1 _ _)
    · rcases List.mem_cons.mp hx with rfl | hx
      · exact htrans _ _ _ hs (h2 _ _)
      · exact ih (op t a) x (List.mem_cons_of_mem _ hx)

theorem minAngle_le (t : ℝ) (ts : List ℝ) : ∀ x ∈ t :: ts, minAngle t ts ≤ x :=
  foldl_sel_rel le_refl (fun _ _ _ => le_trans) min_le_left min_le_right ts t

theorem minAngle_mem (t : ℝ) (ts : List ℝ) : minAngle t ts ∈ t :: ts := foldl_sel_mem min_choice ts t

theorem le_maxAngle (t : ℝ) (ts : List ℝ) : ∀ x ∈ t :: ts, x ≤ maxAngle t ts :=
  foldl_sel_rel (R := fun a b => b ≤ a) le_refl (fun _ _ _ h h' => le_trans h' h) le_max_left le_max_right ts t

theorem maxAngle_mem (t : ℝ) (ts : List ℝ) : maxAngle t ts ∈ t :: ts := foldl_sel_mem max_choice ts t

/-- the extreme angles depend only on the SET of angles -/
theorem extremes_congr {t t' : ℝ} {ts ts' : List ℝ}
    (h : ∀ x, x ∈ t :: ts ↔ x ∈ t' :: ts') :
    minAngle t ts = minAngle t' ts' ∧ maxAngle t ts = maxAngle t' ts' := by
  constructor
  · exact le_antisymm (minAngle_le t ts _ ((h _).mpr (minAngle_mem t' ts')))
      (minAngle_le t' ts' _ ((h _).mp (minAngle_mem t ts)))
  · exact le_antisymm (le_maxAngle t' ts' _ ((h _).mp (maxAngle_mem t ts)))
      (le_maxAngle t ts _ ((h _).mpr (maxAngle_mem t' ts')))

/-- **order independence.**  The value is the same for every permutation of the corner list … -/
theorem C19_skew_perm (pi : ℝ) {l l' : List ℝ} (h : l.Perm l') :
    skewOfAngles pi l = skewOfAngles pi l' := by
  cases l with
  | nil => rw [List.nil_perm.mp h]
  | cons t ts =>
    cases l' with
    | nil => exact absurd h.length_eq (by simp)
    | cons t' ts' =>
      obtain ⟨h1, h2⟩ := extremes_congr (fun x => h.mem_iff)
      have hl : (t :: ts).length = (t' :: ts').length := h.length_eq
      simp only [skewOfAngles, h1, h2, hl]

/-- … in particular for every cyclic rotation (choice of the starting dart of the face) … -/
theorem C19_skew_rotate (pi : ℝ) (l : List ℝ) (k : Nat) :
    skewOfAngles pi (l.drop k ++ l.take k) = skewOfAngles pi l := by
  apply C19_skew_perm
  have : (l.take k ++ l.drop k).Perm l := by rw [List.take_append_drop]
  exact List.perm_append_comm.trans this

theorem C19_skew_rotateLeft (pi : ℝ) (l : List ℝ) (k : Nat) :
    skewOfAngles pi (l.rotateLeft k) = skewOfAngles pi l := by
  by_cases h : l.length ≤ 1
  · simp [List.rotateLeft, h]
  · simp only [List.rotateLeft, h, if_false]
    exact C19_skew_rotate pi l _

/-- … and for the reversed list (orientation of the face). -/
theorem C19_skew_reverse (pi : ℝ) (l : List ℝ) :
    skewOfAngles pi l.reverse = skewOfAngles pi l :=
  C19_skew_perm pi (List.reverse_perm l)

theorem ideal_bounds {pi : ℝ} (hpi : 0 < pi) {n : Nat} (hn : 3 ≤ n) :
    0 < idealAngle pi n ∧ idealAngle pi n < pi := by
  have hn' : (3 : ℝ) ≤ n := by exact_mod_cast hn
  have hn0 : (0 : ℝ) < n := by linarith
  unfold idealAngle
  constructor
  · apply div_pos _ hn0
    exact mul_pos (by linarith) hpi
  · rw [div_lt_iff₀ hn0, sub_mul, mul_comm pi]
    linarith

/-- with the polygon angle sum `Σθ = (n − 2)·pi` as a hypothesis, the largest angle is at least the
    ideal one and the smallest at most the ideal one -/
theorem ideal_between {pi : ℝ} {t : ℝ} {ts : List ℝ}
    (hsum : (t :: ts).sum = (((t :: ts).length : ℝ) - 2) * pi) :
    minAngle t ts ≤ idealAngle pi (t :: ts).length ∧ idealAngle pi (t :: ts).length ≤ maxAngle t ts := by
  have hn0 : (0 : ℝ) < ((t :: ts).length : ℝ) := by
    simp only [List.length_cons, Nat.cast_add, Nat.cast_one]; positivity
  have h1 := List.sum_le_card_nsmul _ _ (le_maxAngle t ts)
  have h2 := List.card_nsmul_le_sum _ _ (minAngle_le t ts)
  unfold idealAngle
  rw [nsmul_eq_mul, hsum] at h1 h2
  constructor
  · rw [le_div_iff₀ hn0]; linarith
  · rw [div_le_iff₀ hn0]; linarith

/-- **range.**  For a face with `n ≥ 3` corners whose angles lie in `]0, pi[` and add up to
    `(n − 2)·pi` (angle sum of a simple polygon — a hypothesis) the skewness lies in `[0, 1[`. -/
theorem C19_skew_mem_Ico {pi : ℝ} (hpi : 0 < pi) (l : List ℝ) (hn : 3 ≤ l.length)
    (hθ : ∀ θ ∈ l, 0 < θ ∧ θ < pi) (hsum : l.sum = ((l.length : ℝ) - 2) * pi) :
    0 ≤ skewOfAngles pi l ∧ skewOfAngles pi l < 1 := by
  cases l with
  | nil => simp at hn
  | cons t ts =>
    obtain ⟨hi0, hi1⟩ := ideal_bounds hpi hn
    obtain ⟨hm, hM⟩ := ideal_between hsum
    have hMlt := (hθ _ (maxAngle_mem t ts)).2
    have hmpos := (hθ _ (minAngle_mem t ts)).1
    simp only [skewOfAngles]
    set I := idealAngle pi (t :: ts).length
    have hd : 0 < pi - I := by linarith
    constructor
    · exact le_max_of_le_left (div_nonneg (by linarith) hd.le)
    · apply max_lt
      · rw [div_lt_one hd]; linarith
      · rw [div_lt_one hi0]; linarith

/-- **equiangular faces.**  If every corner angle equals the ideal angle the skewness is 0
    (regular polygons in particular) — no side condition. -/
theorem C19_skew_eq_zero_of_equiangular (pi : ℝ) (l : List ℝ)
    (h : ∀ θ ∈ l, θ = idealAngle pi l.length) : skewOfAngles pi l = 0 := by
  cases l with
  | nil => rfl
  | cons t ts =>
    have h1 := h _ (maxAngle_mem t ts)
    have h2 := h _ (minAngle_mem t ts)
    simp only [skewOfAngles, h1, h2, sub_self, zero_div, max_self]

/-- conversely (for `n ≥ 3`, `0 < pi`): skewness 0 only for equiangular faces -/
theorem C19_skew_eq_zero_iff {pi : ℝ} (hpi : 0 < pi) (l : List ℝ) (hn : 3 ≤ l.length) :
    skewOfAngles pi l = 0 ↔ ∀ θ ∈ l, θ = idealAngle pi l.length := by
  refine ⟨?_, C19_skew_eq_zero_of_equiangular pi l⟩
  cases l with
  | nil => simp at hn
  | cons t ts =>
    obtain ⟨hi0, hi1⟩ := ideal_bounds hpi hn
    intro h0 θ hθ
    simp only [skewOfAngles] at h0
    set I := idealAngle pi (t :: ts).length
    have hd : 0 < pi - I := by linarith
    have hA : (maxAngle t ts - I) / (pi - I) ≤ 0 := h0 ▸ le_max_left _ _
    have hB : (I - minAngle t ts) / I ≤ 0 := h0 ▸ le_max_right _ _
    have hA' : maxAngle t ts - I ≤ 0 := by
      by_contra hc
      exact absurd hA (not_le.mpr (div_pos (not_le.mp hc) hd))
    have hB' : I - minAngle t ts ≤ 0 := by
      by_contra hc
      exact absurd hB (not_le.mpr (div_pos (not_le.mp hc) hi0))
    have := le_maxAngle t ts θ hθ
    have := minAngle_le t ts θ hθ
    linarith

/-! ### similarity invariance: the value depends on the geometry only through the corner angles -/

/-- cosine of the corner at `b` as the Rust computes it:
    `vin.dot(&vout) / (vin.norm() * vout.norm())` with `vin = v1 - v2`, `vout = v3 - v2` -/
noncomputable def cornerCos (a b c : P2 ℝ) : ℝ :=
  V2.dot (P2.sub a b) (P2.sub c b) /
    (Real.sqrt (V2.normSq (P2.sub a b)) * Real.sqrt (V2.normSq (P2.sub c b)))

/-- skewness of the polygon `pts` (vertices in the order of the darts `fid, β1 fid, …`), for any
    function `acos` turning the cosine into the measured angle -/
noncomputable def faceSkew (acos : ℝ → ℝ) (pi : ℝ) (pts : List (P2 ℝ)) : ℝ :=
  skewOfAngles pi ((corners pts).map fun c => acos (cornerCos c.1 c.2.1 c.2.2))

/-- a similarity: differences are transformed by a map `L` that multiplies dot products by `κ > 0` -/
structure Similarity (f : P2 ℝ → P2 ℝ) : Prop where
  ex : ∃ (L : V2 ℝ → V2 ℝ) (κ : ℝ), 0 < κ ∧ (∀ p q, P2.sub (f p) (f q) = L (P2.sub p q)) ∧
    (∀ v w, V2.dot (L v) (L w) = κ * V2.dot v w)

theorem C19_cornerCos_similarity {f : P2 ℝ → P2 ℝ} (hf : Similarity f) (a b c : P2 ℝ) :
    cornerCos (f a) (f b) (f c) = cornerCos a b c := by
  obtain ⟨L, κ, hκ, hsub, hdot⟩ := hf.ex
  have hn : ∀ v, V2.normSq (L v) = κ * V2.normSq v := fun v => hdot v v
  unfold cornerCos
  rw [hsub, hsub, hdot, hn, hn, Real.sqrt_mul hκ.le, Real.sqrt_mul hκ.le]
  have hk : Real.sqrt κ * Real.sqrt κ = κ := Real.mul_self_sqrt hκ.le
  have : Real.sqrt κ * Real.sqrt (V2.normSq (P2.sub a b)) * (Real.sqrt κ * Real.sqrt (V2.normSq (P2.sub c b)))
      = κ * (Real.sqrt (V2.normSq (P2.sub a b)) * Real.sqrt (V2.normSq (P2.sub c b))) := by
    rw [mul_mul_mul_comm, hk]
  rw [this, mul_div_mul_left _ _ hκ.ne']

theorem similarity_translate (t : V2 ℝ) : Similarity (fun p => P2.addV p t) :=
  ⟨⟨id, 1, one_pos, fun p q => by simp [P2.sub, P2.addV], fun v w => by simp⟩⟩

theorem similarity_scale {k : ℝ} (hk : k ≠ 0) : Similarity (fun p => ⟨k * p.x, k * p.y⟩) :=
  ⟨⟨fun v => V2.mul v k, k * k, mul_self_pos.mpr hk,
    fun p q => by simp only [P2.sub, V2.mul, V2.mk.injEq]; constructor <;> ring,
    fun v w => by simp only [V2.dot, V2.mul]; ring⟩⟩

theorem similarity_rotate {co si : ℝ} (h : co * co + si * si = 1) :
    Similarity (fun p => ⟨co * p.x - si * p.y, si * p.x + co * p.y⟩) :=
  ⟨⟨fun v => ⟨co * v.x - si * v.y, si * v.x + co * v.y⟩, 1, one_pos,
    fun p q => by simp only [P2.sub, V2.mk.injEq]; constructor <;> ring,
    fun v w => by
      simp only [V2.dot]
      have : (co * v.x - si * v.y) * (co * w.x - si * w.y) + (si * v.x + co * v.y) * (si * w.x + co * w.y)
          = (co * co + si * si) * (v.x * w.x + v.y * w.y) := by ring
      rw [this, h]⟩⟩

theorem similarity_reflect : Similarity (fun p => ⟨p.x, -p.y⟩) :=
  ⟨⟨fun v => ⟨v.x, -v.y⟩, 1, one_pos,
    fun p q => by simp only [P2.sub, V2.mk.injEq, true_and]; ring,
    fun v w => by simp only [V2.dot]; ring⟩⟩

theorem corners_map {β γ : Type} (f : β → γ) (pts : List β) :
    corners (pts.map f) = (corners pts).map fun c => (f c.1, f c.2.1, f c.2.2) := by
  unfold corners
  simp only [List.length_map, List.getElem?_map, List.map_filterMap]
  congr 1
  funext i
  cases pts[i % pts.length]? <;> cases pts[(i + 1) % pts.length]? <;>
    cases pts[(i + 2) % pts.length]? <;> rfl

/-- **similarity invariance** of the face skewness (translation, rotation, uniform scaling,
    reflection and their composites), for any angle function of the corner cosine -/
theorem C19_faceSkew_similarity (acos : ℝ → ℝ) (pi : ℝ) {f : P2 ℝ → P2 ℝ} (hf : Similarity f)
    (pts : List (P2 ℝ)) : faceSkew acos pi (pts.map f) = faceSkew acos pi pts := by
  unfold faceSkew
  rw [corners_map, List.map_map]
  congr 1
  apply List.map_congr_left
  intro c _
  simp only [Function.comp, C19_cornerCos_similarity hf]

/-! ### choice of the starting dart, on the polygon -/

/-- the vertex list read from the next dart of the face (`β1 fid` instead of `fid`) -/
def rotate1 {β : Type} : List β → List β
  | [] => []
  | a :: r => r ++ [a]

theorem rotate1_length {β : Type} (l : List β) : (rotate1 l).length = l.length := by
  cases l <;> simp [rotate1]

theorem rotate1_getElem? {β : Type} (a : β) (r : List β) (j : Nat) :
    (r ++ [a])[j % (r.length + 1)]? = (a :: r)[(j + 1) % (r.length + 1)]? := by
  have hlt : j % (r.length + 1) < r.length + 1 := Nat.mod_lt _ (Nat.succ_pos _)
  rw [Nat.add_mod]
  by_cases h : j % (r.length + 1) < r.length
  · have h1 : (1 : Nat) % (r.length + 1) = 1 % (r.length + 1) := rfl
    have : (j % (r.length + 1) + 1 % (r.length + 1)) % (r.length + 1) = j % (r.length + 1) + 1 := by
      rcases Nat.eq_zero_or_pos r.length with h0 | h0
      · omega
      · rw [Nat.mod_eq_of_lt (by omega : 1 < r.length + 1), Nat.mod_eq_of_lt (by omega)]
    rw [this, List.getElem?_append_left h, List.getElem?_cons_succ]
  · have he : j % (r.length + 1) = r.length := by omega
    have : (j % (r.length + 1) + 1 % (r.length + 1)) % (r.length + 1) = 0 := by
      rw [he]
      rcases Nat.eq_zero_or_pos r.length with h0 | h0
      · rw [h0]
      · rw [Nat.mod_eq_of_lt (by omega : 1 < r.length + 1), Nat.mod_self]
    rw [this, he, List.getElem?_append_right (Nat.le_refl _)]
    simp

theorem perm_map_succ_mod (m : Nat) :
    ((List.range (m + 1)).map fun i => (i + 1) % (m + 1)).Perm (List.range (m + 1)) := by
  have h1 : (List.range (m + 1)).map (fun i => (i + 1) % (m + 1))
      = (List.range m).map (· + 1) ++ [0] := by
    rw [List.range_succ, List.map_append]
    congr 1
    · apply List.map_congr_left
      intro i hi
      have := List.mem_range.mp hi
      exact Nat.mod_eq_of_lt (by omega)
    · simp
  rw [h1, List.range_succ_eq_map]
  exact List.perm_append_singleton _ _

theorem corners_rotate1_perm {β : Type} (pts : List β) :
    (corners (rotate1 pts)).Perm (corners pts) := by
  cases pts with
  | nil => exact List.Perm.refl _
  | cons a r =>
    have hfun : corners (rotate1 (a :: r))
        = ((List.range (r.length + 1)).map fun i => (i + 1) % (r.length + 1)).filterMap fun i =>
            match (a :: r)[i % (r.length + 1)]?, (a :: r)[(i + 1) % (r.length + 1)]?,
              (a :: r)[(i + 2) % (r.length + 1)]? with
            | some x, some y, some z => some (x, y, z)
            | _, _, _ => none := by
      simp only [corners, rotate1, List.length_append, List.length_cons, List.length_nil,
        List.filterMap_map, Nat.zero_add]
      apply List.filterMap_congr
      intro i _
      simp only [Function.comp]
      rw [rotate1_getElem? a r i, rotate1_getElem? a r (i + 1), rotate1_getElem? a r (i + 2)]
      have e0 : (i + 1) % (r.length + 1) % (r.length + 1) = (i + 1) % (r.length + 1) := Nat.mod_mod _ _
      have e1 : ((i + 1) % (r.length + 1) + 1) % (r.length + 1) = (i + 1 + 1) % (r.length + 1) := by
        rw [Nat.add_mod, Nat.mod_mod, ← Nat.add_mod]
      have e2 : ((i + 1) % (r.length + 1) + 2) % (r.length + 1) = (i + 2 + 1) % (r.length + 1) := by
        rw [Nat.add_mod, Nat.mod_mod, ← Nat.add_mod]
      rw [e0, e1, e2]
      generalize (a :: r)[(i + 1) % (r.length + 1)]? = x
      generalize (a :: r)[(i + 1 + 1) % (r.length + 1)]? = y
      generalize (a :: r)[(i + 2 + 1) % (r.length + 1)]? = z
      cases x <;> cases y <;> cases z <;> rfl
    rw [hfun]
    simp only [corners, List.length_cons]
    exact (perm_map_succ_mod r.length).filterMap _

theorem corners_iterate_rotate1_perm {β : Type} (k : Nat) (pts : List β) :
    (corners (rotate1^[k] pts)).Perm (corners pts) := by
  induction k generalizing pts with
  | zero => exact List.Perm.refl _
  | succ k ih =>
    rw [Function.iterate_succ_apply]
    exact (ih (rotate1 pts)).trans (corners_rotate1_perm pts)

/-- **choice of the starting dart**: reading the face from its `k`-th dart does not change the value -/
theorem C19_faceSkew_start_dart (acos : ℝ → ℝ) (pi : ℝ) (k : Nat) (pts : List (P2 ℝ)) :
    faceSkew acos pi (rotate1^[k] pts) = faceSkew acos pi pts :=
  C19_skew_perm pi ((corners_iterate_rotate1_perm k pts).map _)

end Skew

/-! ## Non-vacuity: every theorem is instantiated, every hypothesis shown satisfiable -/
section Examples

example : V2.sub (⟨1, 2⟩ : V2 ℚ) ⟨1, 2⟩ = ⟨0, 0⟩ := C19_v2_sub_self _
example : V2.sub (V2.add (⟨1, 2⟩ : V2 ℚ) ⟨3, 5⟩) ⟨1, 2⟩ = ⟨3, 5⟩ := C19_v2_add_sub_cancel _ _
example : V2.addAssign (⟨1, 2⟩ : V2 ℚ) ⟨3, 5⟩ = V2.add ⟨1, 2⟩ ⟨3, 5⟩ := C19_v2_addAssign_eq _ _
example : V2.mulAssign (⟨1, 2⟩ : V2 ℚ) 3 = V2.mul ⟨1, 2⟩ 3 := C19_v2_mulAssign_eq _ _
example : V2.divAssign (⟨1, 2⟩ : V2 ℚ) 4 = V2.div ⟨1, 2⟩ 4 := C19_v2_divAssign_eq _ _
example : V2.subAssign (⟨1, 2⟩ : V2 ℚ) ⟨3, 5⟩ = V2.sub ⟨1, 2⟩ ⟨3, 5⟩ := C19_v2_subAssign_eq _ _
/-- D12 (fixed in /repo 90eb331): the body `self.0 -= rhs.0; self.0 -= rhs.0;` computed
    `(a.x - b.x - b.x, a.y)`, which is not `a - b` — e.g. `(1,2) -= (3/2,-1/4)` gave `(-2, 2)` instead of
    `(-1/2, 9/4)`.  A statement about that formula only: `V2.subAssign` is `V2.sub` (`C19_v2_subAssign_eq`). -/
example : (⟨(1 : ℚ) - 3 / 2 - 3 / 2, 2⟩ : V2 ℚ) ≠ V2.sub ⟨1, 2⟩ ⟨3 / 2, -1 / 4⟩ := by
  intro h
  have h2 := congrArg V2.y h
  norm_num [V2.sub] at h2
example : V2.dot (⟨1, 2⟩ : V2 ℚ) ⟨3, 5⟩ = V2.dot ⟨3, 5⟩ ⟨1, 2⟩ := C19_v2_dot_comm _ _
example : V2.neg (⟨1, 2⟩ : V2 ℚ) = V2.sub ⟨0, 0⟩ ⟨1, 2⟩ := C19_v2_neg_eq _
example : V2.div (⟨1, 2⟩ : V2 ℚ) 4 = some (V2.divCore ⟨1, 2⟩ 4) :=
  (C19_v2_div_ok_iff _ _).mpr (by norm_num)
example : V2.div (⟨1, 2⟩ : V2 ℚ) 0 ≠ some (V2.divCore ⟨1, 2⟩ 0) := fun h =>
  (C19_v2_div_ok_iff _ _).mp h rfl
example : V3.sub (⟨1, 2, 3⟩ : V3 ℚ) ⟨1, 2, 3⟩ = ⟨0, 0, 0⟩ := C19_v3_sub_self _
example : V3.sub (V3.add (⟨1, 2, 3⟩ : V3 ℚ) ⟨3, 5, 7⟩) ⟨1, 2, 3⟩ = ⟨3, 5, 7⟩ :=
  C19_v3_add_sub_cancel _ _
example : V3.addAssign (⟨1, 2, 3⟩ : V3 ℚ) ⟨3, 5, 7⟩ = V3.add ⟨1, 2, 3⟩ ⟨3, 5, 7⟩ := C19_v3_addAssign_eq _ _
example : V3.subAssign (⟨1, 2, 3⟩ : V3 ℚ) ⟨3, 5, 7⟩ = V3.sub ⟨1, 2, 3⟩ ⟨3, 5, 7⟩ := C19_v3_subAssign_eq _ _
example : V3.mulAssign (⟨1, 2, 3⟩ : V3 ℚ) 3 = V3.mul ⟨1, 2, 3⟩ 3 := C19_v3_mulAssign_eq _ _
example : V3.divAssign (⟨1, 2, 3⟩ : V3 ℚ) 4 = V3.div ⟨1, 2, 3⟩ 4 := C19_v3_divAssign_eq _ _
example : V3.dot (⟨1, 2, 3⟩ : V3 ℚ) ⟨3, 5, 7⟩ = V3.dot ⟨3, 5, 7⟩ ⟨1, 2, 3⟩ := C19_v3_dot_comm _ _
example : V3.cross (⟨1, 0, 0⟩ : V3 ℚ) ⟨0, 1, 0⟩ = V3.neg (V3.cross ⟨0, 1, 0⟩ ⟨1, 0, 0⟩) :=
  C19_v3_cross_antisymm _ _
example : V3.dot (V3.cross (⟨1, 2, 3⟩ : V3 ℚ) ⟨3, 5, 7⟩) ⟨1, 2, 3⟩ = 0 := C19_v3_cross_dot_left _ _
example : V3.dot (V3.cross (⟨1, 2, 3⟩ : V3 ℚ) ⟨3, 5, 7⟩) ⟨3, 5, 7⟩ = 0 := C19_v3_cross_dot_right _ _
example : V3.div (⟨1, 2, 3⟩ : V3 ℚ) 4 = some (V3.divCore ⟨1, 2, 3⟩ 4) :=
  (C19_v3_div_ok_iff _ _).mpr (by norm_num)
example : P2.addVAssign (⟨1, 2⟩ : P2 ℚ) ⟨3, 5⟩ = P2.addV ⟨1, 2⟩ ⟨3, 5⟩ := C19_p2_addVAssign_eq _ _
example : P2.addVRef (⟨1, 2⟩ : P2 ℚ) ⟨3, 5⟩ = P2.addV ⟨1, 2⟩ ⟨3, 5⟩ := C19_p2_addVRef_eq _ _
example : P2.addVRefAssign (⟨1, 2⟩ : P2 ℚ) ⟨3, 5⟩ = P2.addV ⟨1, 2⟩ ⟨3, 5⟩ := C19_p2_addVRefAssign_eq _ _
example : P2.subVAssign (⟨1, 2⟩ : P2 ℚ) ⟨3, 5⟩ = P2.subV ⟨1, 2⟩ ⟨3, 5⟩ := C19_p2_subVAssign_eq _ _
example : P2.subVRef (⟨1, 2⟩ : P2 ℚ) ⟨3, 5⟩ = P2.subV ⟨1, 2⟩ ⟨3, 5⟩ := C19_p2_subVRef_eq _ _
example : P2.subVRefAssign (⟨1, 2⟩ : P2 ℚ) ⟨3, 5⟩ = P2.subV ⟨1, 2⟩ ⟨3, 5⟩ := C19_p2_subVRefAssign_eq _ _
example : P2.sub (⟨1, 2⟩ : P2 ℚ) ⟨1, 2⟩ = ⟨0, 0⟩ := C19_p2_sub_self _
example : P2.sub (P2.addV (⟨1, 2⟩ : P2 ℚ) ⟨3, 5⟩) ⟨1, 2⟩ = ⟨3, 5⟩ := C19_p2_add_sub_cancel _ _
example : P2.subV (P2.addV (⟨1, 2⟩ : P2 ℚ) ⟨3, 5⟩) ⟨3, 5⟩ = ⟨1, 2⟩ := C19_p2_addV_subV_cancel _ _
example : P3.addVAssign (⟨1, 2, 3⟩ : P3 ℚ) ⟨3, 5, 7⟩ = P3.addV ⟨1, 2, 3⟩ ⟨3, 5, 7⟩ := C19_p3_addVAssign_eq _ _
example : P3.addVRef (⟨1, 2, 3⟩ : P3 ℚ) ⟨3, 5, 7⟩ = P3.addV ⟨1, 2, 3⟩ ⟨3, 5, 7⟩ := C19_p3_addVRef_eq _ _
example : P3.addVRefAssign (⟨1, 2, 3⟩ : P3 ℚ) ⟨3, 5, 7⟩ = P3.addV ⟨1, 2, 3⟩ ⟨3, 5, 7⟩ :=
  C19_p3_addVRefAssign_eq _ _
example : P3.subVAssign (⟨1, 2, 3⟩ : P3 ℚ) ⟨3, 5, 7⟩ = P3.subV ⟨1, 2, 3⟩ ⟨3, 5, 7⟩ := C19_p3_subVAssign_eq _ _
example : P3.subVRef (⟨1, 2, 3⟩ : P3 ℚ) ⟨3, 5, 7⟩ = P3.subV ⟨1, 2, 3⟩ ⟨3, 5, 7⟩ := C19_p3_subVRef_eq _ _
example : P3.subVRefAssign (⟨1, 2, 3⟩ : P3 ℚ) ⟨3, 5, 7⟩ = P3.subV ⟨1, 2, 3⟩ ⟨3, 5, 7⟩ :=
  C19_p3_subVRefAssign_eq _ _
example : P3.sub (⟨1, 2, 3⟩ : P3 ℚ) ⟨1, 2, 3⟩ = ⟨0, 0, 0⟩ := C19_p3_sub_self _
example : P3.sub (P3.addV (⟨1, 2, 3⟩ : P3 ℚ) ⟨3, 5, 7⟩) ⟨1, 2, 3⟩ = ⟨3, 5, 7⟩ := C19_p3_add_sub_cancel _ _
example : P3.subV (P3.addV (⟨1, 2, 3⟩ : P3 ℚ) ⟨3, 5, 7⟩) ⟨3, 5, 7⟩ = ⟨1, 2, 3⟩ :=
  C19_p3_addV_subV_cancel _ _

example : P2.orient (⟨0, 0⟩ : P2 ℚ) ⟨1, 0⟩ ⟨0, 1⟩ = shoelace2 ⟨0, 0⟩ ⟨1, 0⟩ ⟨0, 1⟩ := C19_orient_eq_shoelace _ _ _
example : P2.orient (⟨0, 0⟩ : P2 ℚ) ⟨1, 0⟩ ⟨0, 1⟩ = -P2.orient ⟨0, 0⟩ ⟨0, 1⟩ ⟨1, 0⟩ := C19_orient_swap _ _ _
example : P2.orient (⟨0, 0⟩ : P2 ℚ) ⟨1, 0⟩ ⟨0, 1⟩ = P2.orient ⟨1, 0⟩ ⟨0, 1⟩ ⟨0, 0⟩ := C19_orient_cyclic _ _ _
example (a b c : P2 ℚ) :
    P2.orient (⟨2 * a.x + 0 * a.y + 7, 0 * a.x + 3 * a.y + 1⟩ : P2 ℚ) ⟨2 * b.x + 0 * b.y + 7, 0 * b.x + 3 * b.y + 1⟩
      ⟨2 * c.x + 0 * c.y + 7, 0 * c.x + 3 * c.y + 1⟩ = (2 * 3 - 0 * 0) * P2.orient a b c :=
  C19_orient_affine 2 0 0 3 7 1 a b c
/-- the standard frame `(0,0), (1,0), (0,1)` is counter-clockwise and its orientation product positive -/
example : Ccw (⟨0, 0⟩ : P2 ℚ) ⟨1, 0⟩ ⟨0, 1⟩ := by norm_num [Ccw, shoelace2]
example : 0 < P2.orient (⟨0, 0⟩ : P2 ℚ) ⟨1, 0⟩ ⟨0, 1⟩ :=
  (C19_orient_pos_iff_ccw _ _ _).mpr (by norm_num [Ccw, shoelace2])
example : P2.orient (⟨0, 0⟩ : P2 ℚ) ⟨0, 1⟩ ⟨1, 0⟩ < 0 :=
  (C19_orient_neg_iff_cw _ _ _).mpr (by norm_num [Cw, shoelace2])
example : Cw (⟨0, 0⟩ : P2 ℚ) ⟨0, 1⟩ ⟨1, 0⟩ :=
  (C19_cw_iff_ccw_swap _ _ _).mpr (by norm_num [Ccw, shoelace2])

example : P2.average (⟨0, 0⟩ : P2 ℚ) ⟨2, 4⟩ = P2.average ⟨2, 4⟩ ⟨0, 0⟩ := C19_p2_average_comm _ _
example : P3.average (⟨0, 0, 1⟩ : P3 ℚ) ⟨2, 4, 3⟩ = P3.average ⟨2, 4, 3⟩ ⟨0, 0, 1⟩ := C19_p3_average_comm _ _
example := (C19_p2_average_between (⟨0, 0⟩ : P2 ℚ) ⟨2, 4⟩).1.1
example := (C19_p3_average_between (⟨0, 0, 1⟩ : P3 ℚ) ⟨2, 4, 3⟩).2.2.2

-- unit_dir / normal_dir: both outcomes occur
example : V2.unitDirPre (⟨0, 0⟩ : V2 ℚ) = .error .invalidUnitDir := (C19_v2_unitDir_err_iff _).mpr rfl
example : V2.unitDirPre (⟨3, 4⟩ : V2 ℚ) = .ok (V2.normSq ⟨3, 4⟩, ⟨3, 4⟩) :=
  (C19_v2_unitDir_ok_iff _).mpr (by simp)
example : V2.normalDirPre (⟨0, 0⟩ : V2 ℚ) = .error .invalidNormDir := (C19_v2_normalDir_err_iff _).mpr rfl
example : V2.normalDirPre (⟨3, 4⟩ : V2 ℚ) = .ok (V2.normSq (⟨-4, 3⟩ : V2 ℚ), ⟨-4, 3⟩) :=
  (C19_v2_normalDir_ok_iff _).mpr (by simp)
example : V3.unitDirPre (⟨0, 0, 0⟩ : V3 ℚ) = .error .invalidUnitDir := (C19_v3_unitDir_err_iff _).mpr rfl
example : V3.unitDirPre (⟨1, 2, 2⟩ : V3 ℚ) = .ok (V3.normSq ⟨1, 2, 2⟩, ⟨1, 2, 2⟩) :=
  (C19_v3_unitDir_ok_iff _).mpr (by simp)
example : unitDirR2 ⟨0, 0⟩ = .error .invalidUnitDir := (C19_unitDirR2_err_iff _).mpr rfl
example : normalDirR2 ⟨0, 0⟩ = .error .invalidNormDir := (C19_normalDirR2_err_iff _).mpr rfl
example : unitDirR3 ⟨0, 0, 0⟩ = .error .invalidUnitDir := (C19_unitDirR3_err_iff _).mpr rfl
example : ∃ r k, unitDirR2 ⟨3, 4⟩ = .ok r ∧ V2.div ⟨3, 4⟩ (Real.sqrt (V2.normSq ⟨3, 4⟩)) = some r ∧
    V2.normSq r = 1 ∧ 0 < k ∧ r = V2.mul ⟨3, 4⟩ k := C19_unitDirR2_spec ⟨3, 4⟩ (by simp)
example : ∃ r k, normalDirR2 ⟨3, 4⟩ = .ok r ∧ V2.normSq r = 1 ∧ 0 < k ∧ r = V2.mul ⟨-4, 3⟩ k ∧
    V2.dot r ⟨3, 4⟩ = 0 ∧ 0 < (3 : ℝ) * r.y - 4 * r.x := C19_normalDirR2_spec ⟨3, 4⟩ (by simp)
example : ∃ r k, unitDirR3 ⟨1, 2, 2⟩ = .ok r ∧ V3.div ⟨1, 2, 2⟩ (Real.sqrt (V3.normSq ⟨1, 2, 2⟩)) = some r ∧
    V3.normSq r = 1 ∧ 0 < k ∧ r = V3.mul ⟨1, 2, 2⟩ k := C19_unitDirR3_spec ⟨1, 2, 2⟩ (by simp)

-- (b) the rounding model is satisfiable: exact arithmetic, and a genuinely inexact rounding
theorem roundModel_id : RoundModel (id : ℝ → ℝ) 0 := ⟨le_rfl, one_pos, fun x => by simp⟩

/-- `fl x = x·(1 + 1/4)` commits exactly the maximal relative error `u = 1/4` -/
theorem roundModel_quarter : RoundModel (fun x : ℝ => x * (1 + 1 / 4)) (1 / 4) :=
  ⟨by norm_num, by norm_num, fun x => by
    have : x * (1 + 1 / 4) - x = 1 / 4 * x := by ring
    rw [this, abs_mul]; norm_num⟩

example : (fun x : ℝ => x * (1 + 1 / 4)) 0 = 0 := roundModel_quarter.fl_zero
example : 0 < (fun x : ℝ => x * (1 + 1 / 4)) 2 ↔ (0 : ℝ) < 2 := roundModel_quarter.fl_pos_iff 2
example : (fun x : ℝ => x * (1 + 1 / 4)) (-2) < 0 ↔ (-2 : ℝ) < 0 := roundModel_quarter.fl_neg_iff (-2)
example : ∃ d, |d - 1| ≤ (1 / 4 : ℝ) ∧ (fun x : ℝ => x * (1 + 1 / 4)) 2 = 2 * d := roundModel_quarter.fl_rel 2
example (v : V2 (FlR fun x : ℝ => x * (1 + 1 / 4))) : V2.sub v v = ⟨⟨0⟩, ⟨0⟩⟩ := C19_fl_v2_sub_self roundModel_quarter v
example (v : V3 (FlR fun x : ℝ => x * (1 + 1 / 4))) : V3.sub v v = ⟨⟨0⟩, ⟨0⟩, ⟨0⟩⟩ := C19_fl_v3_sub_self roundModel_quarter v
example (v : P2 (FlR fun x : ℝ => x * (1 + 1 / 4))) : P2.sub v v = ⟨⟨0⟩, ⟨0⟩⟩ := C19_fl_p2_sub_self roundModel_quarter v
example (v : P3 (FlR fun x : ℝ => x * (1 + 1 / 4))) : P3.sub v v = ⟨⟨0⟩, ⟨0⟩, ⟨0⟩⟩ := C19_fl_p3_sub_self roundModel_quarter v
example (a b : ℝ) : |(fun x : ℝ => x * (1 + 1 / 4)) ((fun x : ℝ => x * (1 + 1 / 4)) (a + b) - a) - b|
    ≤ (2 * (1 / 4) + (1 / 4) ^ 2) * (|a| + |b|) := roundModel_quarter.add_sub_bound a b
example (v w : V2 (FlR fun x : ℝ => x * (1 + 1 / 4))) :=
  C19_fl_v2_add_sub_bound roundModel_quarter v w
example (v w : V3 (FlR fun x : ℝ => x * (1 + 1 / 4))) :=
  C19_fl_v3_add_sub_bound roundModel_quarter v w
example (p : P2 (FlR fun x : ℝ => x * (1 + 1 / 4))) (w : V2 (FlR fun x : ℝ => x * (1 + 1 / 4))) :=
  C19_fl_p2_add_sub_bound roundModel_quarter p w
example (p : P3 (FlR fun x : ℝ => x * (1 + 1 / 4))) (w : V3 (FlR fun x : ℝ => x * (1 + 1 / 4))) :=
  C19_fl_p3_add_sub_bound roundModel_quarter p w
example (a b : V2 (FlR fun x : ℝ => x * (1 + 1 / 4))) : V2.dot a b = V2.dot b a := C19_fl_v2_dot_comm a b
example (a b : V3 (FlR fun x : ℝ => x * (1 + 1 / 4))) : V3.dot a b = V3.dot b a := C19_fl_v3_dot_comm a b
example (a b : P2 (FlR fun x : ℝ => x * (1 + 1 / 4))) : P2.average a b = P2.average b a := C19_fl_p2_average_comm a b
example (a b : P3 (FlR fun x : ℝ => x * (1 + 1 / 4))) : P3.average a b = P3.average b a := C19_fl_p3_average_comm a b
/-- the oddness hypothesis of the antisymmetry theorem is satisfiable by an inexact rounding -/
example (a b : V3 (FlR fun x : ℝ => x * (1 + 1 / 4))) : V3.cross a b = V3.neg (V3.cross b a) :=
  C19_fl_v3_cross_antisymm (fun x => by ring) a b
example (x y : ℝ) := roundModel_quarter.prod_bound x y

/-- the band hypothesis of the orientation theorem is satisfiable with an inexact rounding (`u = 1/4`,
    band factor `61/64`): the standard frame is far from collinear, the computed sign is right -/
example : 0 < (P2.orient (α := FlR fun x : ℝ => x * (1 + 1 / 4)) ⟨⟨0⟩, ⟨0⟩⟩ ⟨⟨1⟩, ⟨0⟩⟩ ⟨⟨0⟩, ⟨1⟩⟩).val :=
  (C19_fl_orient_sign roundModel_quarter ⟨⟨0⟩, ⟨0⟩⟩ ⟨⟨1⟩, ⟨0⟩⟩ ⟨⟨0⟩, ⟨1⟩⟩
    (by norm_num [orientBand, toR2, P2.orient])).1.mpr (by norm_num [toR2, P2.orient])

-- (c) skewness: a right triangle measured with `pi = 4` (angles 2, 1, 1), an equilateral one with `pi = 3`
example : 0 ≤ skewOfAngles (4 : ℝ) [2, 1, 1] ∧ skewOfAngles (4 : ℝ) [2, 1, 1] < 1 :=
  C19_skew_mem_Ico (by norm_num) _ (by simp) (by
    intro θ hθ
    simp only [List.mem_cons, List.not_mem_nil, or_false] at hθ
    rcases hθ with rfl | rfl | rfl <;> norm_num) (by norm_num)
example : skewOfAngles (3 : ℝ) [1, 1, 1] = 0 :=
  C19_skew_eq_zero_of_equiangular _ _ (by
    intro θ hθ
    simp only [List.mem_cons, List.not_mem_nil, or_false] at hθ
    rcases hθ with rfl | rfl | rfl <;> norm_num [idealAngle])
example : skewOfAngles (4 : ℝ) [2, 1, 1] ≠ 0 := fun h => by
  have := (C19_skew_eq_zero_iff (by norm_num) _ (by simp)).mp h 2 (by simp)
  norm_num [idealAngle] at this
example : skewOfAngles (4 : ℝ) [1, 2, 1] = skewOfAngles (4 : ℝ) [2, 1, 1] :=
  C19_skew_perm _ (List.Perm.swap ..)
example : skewOfAngles (4 : ℝ) ([2, 1, 1].drop 1 ++ [2, 1, 1].take 1) = skewOfAngles (4 : ℝ) [2, 1, 1] :=
  C19_skew_rotate _ _ 1
example : skewOfAngles (4 : ℝ) ([2, 1, 1].rotateLeft 2) = skewOfAngles (4 : ℝ) [2, 1, 1] :=
  C19_skew_rotateLeft _ _ 2
example : skewOfAngles (4 : ℝ) [2, 1, 1].reverse = skewOfAngles (4 : ℝ) [2, 1, 1] := C19_skew_reverse _ _
example : minAngle (2 : ℝ) [1, 1] ≤ 1 := minAngle_le _ _ _ (by simp)
example : minAngle (2 : ℝ) [1, 1] ∈ [(2 : ℝ), 1, 1] := minAngle_mem _ _
example : (2 : ℝ) ≤ maxAngle 2 [1, 1] := le_maxAngle _ _ _ (by simp)
example : maxAngle (2 : ℝ) [1, 1] ∈ [(2 : ℝ), 1, 1] := maxAngle_mem _ _

-- similarities exist: translation, scaling, the 3-4-5 rotation, reflection
example : Similarity (fun p => P2.addV p ⟨7, -1⟩) := similarity_translate _
example : Similarity (fun p => ⟨3 * p.x, 3 * p.y⟩) := similarity_scale (by norm_num)
example : Similarity (fun p => ⟨3 / 5 * p.x - 4 / 5 * p.y, 4 / 5 * p.x + 3 / 5 * p.y⟩) :=
  similarity_rotate (by norm_num)
example : Similarity (fun p => ⟨p.x, -p.y⟩) := similarity_reflect
example (a b c : P2 ℝ) : cornerCos (P2.addV a ⟨7, -1⟩) (P2.addV b ⟨7, -1⟩) (P2.addV c ⟨7, -1⟩) = cornerCos a b c :=
  C19_cornerCos_similarity (similarity_translate _) a b c
example (acos : ℝ → ℝ) (pts : List (P2 ℝ)) :
    faceSkew acos 3 (pts.map fun p => ⟨3 / 5 * p.x - 4 / 5 * p.y, 4 / 5 * p.x + 3 / 5 * p.y⟩) = faceSkew acos 3 pts :=
  C19_faceSkew_similarity acos 3 (similarity_rotate (by norm_num)) pts
example : corners ([1, 2, 3].map (· + 1)) = (corners [1, 2, 3]).map fun c => (c.1 + 1, c.2.1 + 1, c.2.2 + 1) :=
  corners_map _ _

example (x y z w : ℝ) := roundModel_quarter.sub_prod_bound x y z w
example (s0 s1 s2 : ℝ) := roundModel_quarter.dot3_bound s0 s1 s2
example (a b : V3 (FlR fun x : ℝ => x * (1 + 1 / 4))) := C19_fl_v3_cross_dot_bound roundModel_quarter a b
/-- the hypotheses of the scalar core are satisfiable: exact cross product of `e_x`, `e_y` against `e_x` -/
example := roundModel_quarter.orth_bound (c0 := 0) (c1 := 0) (c2 := 1) (k0 := 0) (k1 := 0) (k2 := 1)
  (m0 := 0) (m1 := 0) (m2 := 1) (w0 := 1) (w1 := 0) (w2 := 0) (ε := 0)
  (by norm_num) (by norm_num) (by norm_num) (by norm_num) (by norm_num) (by norm_num) (by norm_num)
example : (2 * (2⁻¹ : ℝ) ^ 24 + ((2⁻¹ : ℝ) ^ 24) ^ 2)
    + (3 * (2⁻¹ : ℝ) ^ 24 + 3 * ((2⁻¹ : ℝ) ^ 24) ^ 2 + ((2⁻¹ : ℝ) ^ 24) ^ 3) * (1 + (2 * (2⁻¹ : ℝ) ^ 24 + ((2⁻¹ : ℝ) ^ 24) ^ 2))
    ≤ 6 * (2⁻¹ : ℝ) ^ 24 := cross_dot_const_le (by positivity) (by norm_num)
/-- satisfiable with an inexact monotone rounding: round to the nearest integer below (`⌊x⌋`) -/
example : (min (1 : ℝ) 4 ≤ (fun x : ℝ => (⌊x⌋ : ℝ)) ((fun x : ℝ => (⌊x⌋ : ℝ)) (1 + 4) / 2)) :=
  (fl_mid_between (fl := fun x : ℝ => (⌊x⌋ : ℝ)) (fun x y h => by
      show ((⌊x⌋ : ℤ) : ℝ) ≤ ((⌊y⌋ : ℤ) : ℝ)
      exact_mod_cast Int.floor_le_floor h)
    (a := 1) (b := 4) ⟨by norm_num, by norm_num⟩ ⟨by norm_num, by norm_num⟩).1

example (a b : P2 (FlR fun x : ℝ => (⌊x⌋ : ℝ))) (h : Monotone fun x : ℝ => (⌊x⌋ : ℝ))
    (h1 : Rep (fun x : ℝ => (⌊x⌋ : ℝ)) a.x.val) (h2 : Rep (fun x : ℝ => (⌊x⌋ : ℝ)) b.x.val)
    (h3 : Rep (fun x : ℝ => (⌊x⌋ : ℝ)) a.y.val) (h4 : Rep (fun x : ℝ => (⌊x⌋ : ℝ)) b.y.val) :=
  C19_fl_p2_average_between h a b h1 h2 h3 h4
example (a b : P3 (FlR fun x : ℝ => (⌊x⌋ : ℝ))) (h : Monotone fun x : ℝ => (⌊x⌋ : ℝ))
    (h1 : Rep (fun x : ℝ => (⌊x⌋ : ℝ)) a.x.val) (h2 : Rep (fun x : ℝ => (⌊x⌋ : ℝ)) b.x.val)
    (h3 : Rep (fun x : ℝ => (⌊x⌋ : ℝ)) a.y.val) (h4 : Rep (fun x : ℝ => (⌊x⌋ : ℝ)) b.y.val)
    (h5 : Rep (fun x : ℝ => (⌊x⌋ : ℝ)) a.z.val) (h6 : Rep (fun x : ℝ => (⌊x⌋ : ℝ)) b.z.val) :=
  C19_fl_p3_average_between h a b h1 h2 h3 h4 h5 h6

example : rotate1 [1, 2, 3] = [2, 3, 1] := rfl
example : (rotate1 [1, 2, 3]).length = 3 := rotate1_length _
example := rotate1_getElem? 1 [2, 3] 5
example := perm_map_succ_mod 4
example : (corners (rotate1 [1, 2, 3])).Perm (corners [1, 2, 3]) := corners_rotate1_perm _
example : (corners (rotate1^[2] [1, 2, 3, 4])).Perm (corners [1, 2, 3, 4]) := corners_iterate_rotate1_perm 2 _
example (acos : ℝ → ℝ) (pts : List (P2 ℝ)) : faceSkew acos 3 (rotate1^[2] pts) = faceSkew acos 3 pts :=
  C19_faceSkew_start_dart acos 3 2 pts

end Examples

end HC.C19

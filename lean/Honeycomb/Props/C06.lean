/-
  C06 — a call that reports an error leaves the map exactly as it was.

  Model-level content: every core editing call and every transactional kernel is a closure
  `P X α` run through `atomically_with_err`; its writes go to the transaction log only
  (`atomicallyLog`, the semantics of `Transaction::read/write` + commit-on-Ok), and that is
  provably the same as the sequential semantics `atomically` (T1).  Hence *any* outcome other
  than `Ok` — an error raised anywhere in the closure, in particular by the k-th user
  `AttributeUpdate` call for every `k` (the fault countdown `fc` is part of the quantified
  state), a `retry`, a panic inside the closure — leaves every observable part of the map
  (all β images, flags, every slot of every storage) identical.

  The part that is a fact about the CODE rather than about the model — that the operations touch
  shared state only through their `Transaction` — is established by the tie (fault-injection
  campaign + differential run, see tools/props/c06.py), not by these theorems.
-/
import Honeycomb.Lemmas.MapLawful
import Honeycomb.Lemmas.WFLink
import Honeycomb.Props.C01

namespace HC.C06
open HC
variable {X : Type}

/-- T2 on maps: no `Ok`, no change — for EVERY closure -/
theorem C06_error_leaves_map_unchanged {α : Type} (p : P X α) (m : Map X) (e : Err)
    (h : (atomically p m).1 = .err e) : (atomically p m).2 = m :=
  atomically_not_ok p m (by intro a; rw [h]; simp)

theorem C06_panic_or_retry_leaves_map_unchanged {α : Type} (p : P X α) (m : Map X)
    (h : (atomically p m).1 = .panic ∨ (atomically p m).1 = .retry) : (atomically p m).2 = m :=
  atomically_not_ok p m (by intro a; rcases h with h | h <;> rw [h] <;> simp)

/-- the same through the real mechanism (transaction log, commit only on `Ok`) -/
theorem C06_log_error_leaves_map_unchanged {α : Type} (p : P X α) (m : Map X) (e : Err)
    (h : (atomicallyLog p m).1 = .err e) : (atomicallyLog p m).2 = m := by
  rw [T1_atomicallyLog_eq] at h ⊢
  exact C06_error_leaves_map_unchanged p m e h

/-- instance: every public editing call of CMap2, any attribute configuration, any laws, any
    fault position (`m.fc` is arbitrary) -/
theorem C06_core_call_2d (cfg : Cfg X) (m : Map X) (op : C01.Op2) (e : Err)
    (h : (atomically (C01.prog cfg m.n op) m).1 = .err e) :
    (atomically (C01.prog cfg m.n op) m).2 = m :=
  C06_error_leaves_map_unchanged _ m e h

/-- a law call made while the fault countdown `fc` stands at 1 fails (the fault campaign is not vacuous) -/
theorem C06_fault_fires {Y : Type} (e : Err) (r : Except Err Y) (m : Map X) (h : m.fc = 1) :
    (run (lawCall (X := X) true e r) m).1 = .err e := by
  unfold lawCall
  simp only [if_true, Prog.bind_eq, run_rF, h]
  rfl

/-- `remove_free_dart` that refuses (panics) has changed nothing observable:
    either it stopped at the first assertion, or it re-wrote an already set flag -/
theorem C06_remove_refused_unchanged {nb : Nat} (m : Map X) (d : Nat)
    (h : (m.removeFreeDart nb d).1 = .panic) :
    ∀ e, (m.removeFreeDart nb d).2.unused e = m.unused e ∧
      (∀ i, (m.removeFreeDart nb d).2.β i e = m.β i e) ∧
      (∀ s, (m.removeFreeDart nb d).2.att s e = m.att s e) := by
  intro e
  unfold Map.removeFreeDart at h ⊢
  by_cases h1 : d < m.n
  · by_cases h2 : m.isFree nb d = true
    · simp only [h1, h2, if_true] at h ⊢
      unfold atomically at h ⊢
      rw [run_removeFreeDartTx] at h ⊢
      by_cases hok : m.okU d = true
      · simp only [hok, if_true] at h ⊢
        cases hu : m.unused d
        · simp [hu] at h
        · simp only
          refine ⟨?_, fun i => rfl, fun s => rfl⟩
          rw [Map.unused_setU]
          by_cases hde : d = e
          · subst hde; simp [hok, hu]
          · simp [hde]
      · simp only [hok]
        exact ⟨rfl, fun i => rfl, fun s => rfl⟩
    · simp only [h1, h2, if_true]
      exact ⟨rfl, fun i => rfl, fun s => rfl⟩
  · simp only [h1]
    exact ⟨rfl, fun i => rfl, fun s => rfl⟩

/-! non-vacuity: a 2-sew that fails at the first, second … attribute update -/

/-- the two triangles of C01 with every vertex defined -/
def exMap : Map Val := C01.exMap

example : (atomically (C01.prog (stdCfg 3 7) 9 (.sew 2 2 4)) exMap).1 = .ok () := by decide +kernel
example : (atomically (C01.prog (stdCfg 3 7) 9 (.sew 2 2 4)) { exMap with fc := 1 }).1
    = .err errFailedMerge := by decide +kernel
theorem exMap_second_merge_fails : (atomically (C01.prog (stdCfg 3 7) 9 (.sew 2 2 4)) { exMap with fc := 2 }).1
    = .err errFailedMerge := by decide +kernel
example : (atomically (C01.prog (stdCfg 3 7) 9 (.sew 2 2 4)) { exMap with fc := 2 }).1
    = .err errFailedMerge := exMap_second_merge_fails
example : (atomically (C01.prog (stdCfg 3 7) 9 (.sew 2 2 4)) { exMap with fc := 2 }).2
    = { exMap with fc := 2 } :=
  C06_error_leaves_map_unchanged _ _ errFailedMerge exMap_second_merge_fails

end HC.C06

/-
  C02, continued — the two predicates the 3-D rendering theorems (Props/C20b.lean) need besides
  `WF 4` and `Mirror`:

  * `Sided3 m` (the body of `C20.Sided`, Lemmas/SceneFace3): a face is 3-linked as a whole —
    `β3 d = 0 ↔ β3 (β1 d) = 0` whenever `β1 d ≠ 0`;
  * `NoSelfGlue3 m` (C20b's `NoSelfGlue`, on iterates): no dart is 3-linked to a dart of its own
    β1-walk.

  FINDINGS (exhaustive search `tools/sided_scan.py`: every WF 3-map with ≤ 4 darts × every guarded
  call, 24 500 random histories; model and implementation agree on every call):
  * `Sided3` is NOT preserved by the editing API under C02's guards alone: a 1-link / 1-sew of a
    3-linked dart with a 3-free dart breaks it (`new 3 3 0; link 3 1 2; link 1 1 3`,
    `C02b_sided_counterexample`), and two more such calls break `NoSelfGlue3` as well
    (`… ; link 1 3 2`, `C02b_noSelfGlue_counterexample`).  Nothing else breaks either of them.
  * With the extra guard `G(l, r) := (β3 l = 0 ↔ β3 r = 0)` on 1-links / 1-sews (necessary and
    sufficient, step by step) `WF 4 ∧ Mirror ∧ Sided3` is preserved by every call and every history:
    `C02b_step_preserves_Sided`, `C02b_history_preserves_Sided` — PROVED here, using that
    `three_link` links and `three_unlink` unlinks WHOLE faces (`Lemmas/Cell3b.lean`:
    `threeLink3_linked`, `threeUnlink3_unlinked`, closed and open faces).
  * `NoSelfGlue` (unbounded form `NoSelfGlueAll`) is preserved from `WF 4 ∧ Mirror ∧ Sided3 ∧
    NoSelfGlue` maps by every call satisfying C02's guards and `G13`:
    `C02b_step_preserves_NoSelfGlue`, `C02b_history_preserves_all` — PROVED here.  Key fact
    (`nsg_of_noAdj`): on a well-formed, mirrored, sided map β3 REVERSES a β1-walk from `d` to `β3 d`,
    so a self-glued face shows as a β3 fixed point (impossible) or as a dart 3-linked to its own
    successor (`NoAdj`, decidable, local) — and a successful 1-link never creates one (the second
    `one_link_core` of the 3-D `one_link` would repeat the first).  Without `G13` the search found no
    violation from maps satisfying all four predicates either, but the result need not be sided;
    that variant is not proved (`C02b_step_preserves_NoSelfGlue_partial` covers every call other
    than 1-links / 1-sews without `G13`).
-/
import Honeycomb.Lemmas.Cell3b
import Honeycomb.Props.C02

namespace HC.C02
open HC HC.Cell3
variable {X : Type}

/-! ## Sided -/

theorem sided_of_β13 {m m' : Map X} (hn : m'.n = m.n) (h1 : ∀ d, m'.β 1 d = m.β 1 d)
    (h3 : ∀ d, m'.β 3 d = m.β 3 d) (hS : Sided3 m) : Sided3 m' := by
  intro d hd
  simp only [h1, h3]
  exact hS d (by rw [← hn]; exact hd)

/-- the darts of a covered list are closed under β1 and its inverse -/
theorem endp_succ {m : Map X} (hw : WF 4 m) {ps : List (Nat × Nat)} (hc : Covered m ps) {d : Nat}
    (hd : d < m.n) (h1 : m.β 1 d ≠ 0) : Endp ps d ↔ Endp ps (m.β 1 d) := by
  constructor
  · rintro ⟨pq, hm, rfl | rfl⟩
    · obtain ⟨pq', hm', e⟩ := (hc pq hm 1 (by omega)).1 h1
      exact ⟨pq', hm', Or.inl e.symm⟩
    · obtain ⟨pq', hm', e⟩ := (hc pq hm 1 (by omega)).2 h1
      exact ⟨pq', hm', Or.inr e.symm⟩
  · have back : m.β 0 (m.β 1 d) = d := hw.inv01 d hd h1
    have hd0 : d ≠ 0 := fun hh => h1 (by rw [hh]; exact hw.null 1 (by omega))
    rintro ⟨pq, hm, e | e⟩
    · obtain ⟨pq', hm', e'⟩ := (hc pq hm 0 (by omega)).1 (by rw [← e, back]; exact hd0)
      exact ⟨pq', hm', Or.inl (by rw [e', ← e, back])⟩
    · obtain ⟨pq', hm', e'⟩ := (hc pq hm 0 (by omega)).2 (by rw [← e, back]; exact hd0)
      exact ⟨pq', hm', Or.inr (by rw [e', ← e, back])⟩

theorem sided_of_endp {m m' : Map X} (hw : WF 4 m) (hn : m'.n = m.n) (h1 : ∀ d, m'.β 1 d = m.β 1 d)
    {ps : List (Nat × Nat)} (hc : Covered m ps) (same : ∀ x, ¬ Endp ps x → m'.β 3 x = m.β 3 x)
    (hE : (∀ x, Endp ps x → m'.β 3 x ≠ 0) ∨ (∀ x, Endp ps x → m'.β 3 x = 0)) (hS : Sided3 m) :
    Sided3 m' := by
  intro d hd
  have hd' : d < m.n := by rw [← hn]; exact hd
  rw [h1]
  intro g1
  by_cases he : Endp ps d
  · have he' := (endp_succ hw hc hd' g1).1 he
    rcases hE with nz | z
    · exact ⟨fun hh => absurd hh (nz _ he), fun hh => absurd hh (nz _ he')⟩
    · rw [z _ he, z _ he']
  · have he' : ¬ Endp ps (m.β 1 d) := fun hh => he ((endp_succ hw hc hd' g1).2 hh)
    rw [same _ he, same _ he']
    exact hS d hd' g1

/-- 3-linking whole faces keeps `Sided3` -/
theorem sided_linked {m m' : Map X} (hw : WF 4 m) {ps : List (Nat × Nat)} (L : Linked3 m m' ps)
    (hc : Covered m ps) (hS : Sided3 m) : Sided3 m' :=
  sided_of_endp hw L.n (fun d => L.other 1 d (by omega)) hc (fun x hx => L.rest' hx)
    (Or.inl fun x hx => (L.endp hx).2.2.2.1) hS

/-- 3-unlinking whole faces keeps `Sided3` -/
theorem sided_unlinked {m m' : Map X} (hw : WF 4 m) {ps : List (Nat × Nat)} (L : Linked3 m' m ps)
    (hc : Covered m ps) (hS : Sided3 m) : Sided3 m' :=
  sided_of_endp hw L.n.symm (fun d => (L.other 1 d (by omega)).symm) hc (fun x hx => (L.rest' hx).symm)
    (Or.inr fun x hx => (L.endp hx).1) hS

/-- the extra guard on 1-links / 1-sews: both darts 3-linked, or neither -/
def G13 (m : Map X) (l r : Nat) : Prop := m.β 3 l = 0 ↔ m.β 3 r = 0

theorem sided_add1 {m m' : Map X} {l r : Nat} (A : Add1 m m' l r) (hg : G13 m l r) (hS : Sided3 m) :
    Sided3 m' := by
  intro d hd
  rw [A.β 3 d (by omega), A.β 3 (m'.β 1 d) (by omega)]
  by_cases c : d = l
  · rw [c, A.β1_self]; intro _; exact hg
  · rw [A.β1_ne c]; exact hS d (by rw [← A.n]; exact hd)

theorem sided_sub1 {m m' : Map X} {l r : Nat} (A : Add1 m m' l r) (hS : Sided3 m') : Sided3 m := by
  intro d hd h1
  have c : d ≠ l := fun hh => h1 (by rw [hh]; exact A.free)
  have := hS d (by rw [A.n]; exact hd) (by rw [A.β1_ne c]; exact h1)
  rw [A.β1_ne c, A.β 3 _ (by omega), A.β 3 _ (by omega)] at this
  exact this

theorem sided_oneLink3 {l r : Nat} {m m1 : Map X} {u : Unit} (hw : WF 4 m)
    (hl0 : l ≠ 0) (hr0 : r ≠ 0) (hln : l < m.n) (hrn : r < m.n)
    (hul : m.unused l = false) (hur : m.unused r = false) (hg : G13 m l r) (hS : Sided3 m)
    (h : run (oneLink3 (X := X) l r) m = (.ok u, m1)) : Sided3 m1 := by
  obtain ⟨_, hform⟩ := oneLink3_effect hw hl0 hr0 hln hrn hul hur h
  rcases hform with ⟨_, A⟩ | ⟨h3l, h3r, m0, _, A, B⟩
  · exact sided_add1 A hg hS
  · -- `β3 r` and `β3 l` are both 3-linked
    refine sided_add1 B ?_ (sided_add1 A hg hS)
    unfold G13
    rw [A.β 3 _ (by omega), A.β 3 _ (by omega), invol_back hw (by omega) (by omega) hrn h3r,
      invol_back hw (by omega) (by omega) hln h3l]
    exact ⟨fun hh => absurd hh hr0, fun hh => absurd hh hl0⟩

theorem sided_oneUnlink3 {l : Nat} {m m1 : Map X} {u : Unit} (hw : WF 4 m) (hln : l < m.n) (hS : Sided3 m)
    (h : run (oneUnlink3 (X := X) l) m = (.ok u, m1)) : Sided3 m1 := by
  obtain ⟨_, _, hform⟩ := oneUnlink3_effect hw hln h
  rcases hform with ⟨_, A⟩ | ⟨_, _, m0, _, B, A⟩
  · exact sided_sub1 A hS
  · exact sided_sub1 B (sided_sub1 A hS)

/-- the guard of C02 plus `G13` on 1-links / 1-sews -/
def ArgsG (m : Map X) : Op3 → Prop
  | .link 1 l r => G13 m l r
  | .sew 1 l r => G13 m l r
  | _ => True

instance (m : Map X) (l r : Nat) : Decidable (G13 m l r) := by unfold G13; exact inferInstance

instance (m : Map X) : (op : Op3) → Decidable (ArgsG m op)
  | .link 1 l r => inferInstanceAs (Decidable (G13 m l r))
  | .link 0 _ _ => isTrue trivial
  | .link (_ + 2) _ _ => isTrue trivial
  | .sew 1 l r => inferInstanceAs (Decidable (G13 m l r))
  | .sew 0 _ _ => isTrue trivial
  | .sew (_ + 2) _ _ => isTrue trivial
  | .unlink _ _ => isTrue trivial
  | .unsew _ _ => isTrue trivial
  | .addFreeDarts _ => isTrue trivial
  | .insertFreeDart => isTrue trivial
  | .removeFreeDart _ => isTrue trivial
  | .removeFreeDartTx _ => isTrue trivial

theorem sided_addFreeDarts {m : Map X} (hwf : WF 4 m) (k : Nat) (hS : Sided3 m) :
    Sided3 (m.addFreeDarts k).2 := by
  have eβ := fun i d (hi : i < 4) => addFreeDarts_β hwf.toSized k i d hi
  intro d hd
  rw [eβ 1 d (by omega), eβ 3 d (by omega)]
  by_cases hdn : d < m.n
  · simp only [hdn, if_true]
    intro g1
    rw [eβ 3 _ (by omega)]
    simp only [hwf.range 1 (by omega) d hdn, if_true]
    exact hS d hdn g1
  · simp [hdn]

/-- **C02b, one call**: with the extra guard `G13` on 1-links / 1-sews, every public editing call
    keeps "faces are 3-linked as a whole" on a well-formed mirrored 3-map (success, error and panic
    branches alike) -/
theorem C02b_step_preserves_Sided (cfg : Cfg X) (m : Map X) (op : Op3)
    (hwf : WF 4 m) (hM : Mirror m) (hS : Sided3 m) (hargs : ArgsOK m op) (hg : ArgsG m op) :
    Sided3 (step cfg m op) := by
  refine step_keeps cfg m op hwf hS (fun _ _ => sided_of_β13) (fun k => sided_addFreeDarts hwf k hS)
    (fun l r m' hl hr hop h => ?_) (fun l r m' hl hr _ h => ?_) (fun l m' hl h => sided_oneUnlink3 hwf hl.2.1 hS h)
    (fun l m' hl h => ?_) hargs
  · have hg' : G13 m l r := by rcases hop with rfl | rfl <;> exact hg
    exact sided_oneLink3 hwf hl.1 hr.1 hl.2.1 hr.2.1 hl.2.2 hr.2.2 hg' hS h
  · obtain ⟨ps, L, _, hc⟩ := threeLink3_linked hwf hl.1 hr.1 h
    exact sided_linked hwf L hc hS
  · obtain ⟨ps, L, _, hc, _⟩ := threeUnlink3_unlinked hwf hM hS hl.2.1 h
    exact sided_unlinked hwf L hc hS

/-- histories whose 1-links / 1-sews join darts of equal 3-status -/
def HistoryG (cfg : Cfg X) : Map X → List Op3 → Prop
  | _, [] => True
  | m, op :: ops => ArgsOK m op ∧ ArgsG m op ∧ HistoryG cfg (step cfg m op) ops

instance instDecHistoryG (cfg : Cfg X) : (m : Map X) → (ops : List Op3) → Decidable (HistoryG cfg m ops)
  | _, [] => isTrue trivial
  | m, op :: ops =>
      @instDecidableAnd _ _ (inferInstanceAs (Decidable (ArgsOK m op)))
        (@instDecidableAnd _ _ (inferInstanceAs (Decidable (ArgsG m op))) (instDecHistoryG cfg (step cfg m op) ops))

/-- **C02b**: `WF 4 ∧ Mirror ∧ Sided3` survives every finite editing history whose 1-links / 1-sews
    join darts of equal 3-status -/
theorem C02b_history_preserves_Sided (cfg : Cfg X) (ops : List Op3) :
    ∀ m : Map X, WF 4 m → Mirror m → Sided3 m → HistoryG cfg m ops →
      WF 4 (ops.foldl (step cfg) m) ∧ Mirror (ops.foldl (step cfg) m) ∧ Sided3 (ops.foldl (step cfg) m) := by
  induction ops with
  | nil => intro m h hM hS _; exact ⟨h, hM, hS⟩
  | cons op ops ih =>
      intro m h hM hS hh
      exact ih _ (C02_step_preserves_WF cfg m op h hh.1) (C02_step_preserves_Mirror cfg m op h hM hh.1)
        (C02b_step_preserves_Sided cfg m op h hM hS hh.1 hh.2.1) hh.2.2

/-! ## NoSelfGlue -/

/-- no dart is 3-linked to a dart of its own β1-walk (`Props/C20b.lean`, `NoSelfGlue`, on iterates) -/
def NoSelfGlue3 (m : Map X) : Prop := ∀ d, d < m.n → m.β 3 d ≠ 0 → ∀ t, t < m.n → it m 1 t d ≠ m.β 3 d

instance (m : Map X) : Decidable (NoSelfGlue3 m) := by unfold NoSelfGlue3; exact inferInstance

/-- the bound on `t` is harmless: a walk that meets a dart meets it within `n` steps (not needed
    below; the unbounded form is what the preservation proofs give) -/
def NoSelfGlueAll (m : Map X) : Prop := ∀ d, d < m.n → m.β 3 d ≠ 0 → ∀ t, it m 1 t d ≠ m.β 3 d

theorem NoSelfGlueAll.bounded {m : Map X} (h : NoSelfGlueAll m) : NoSelfGlue3 m :=
  fun d hd h3 t _ => h d hd h3 t

theorem nsg_of_β13 {m m' : Map X} (hn : m'.n = m.n) (h1 : ∀ d, m'.β 1 d = m.β 1 d)
    (h3 : ∀ d, m'.β 3 d = m.β 3 d) (hN : NoSelfGlueAll m) : NoSelfGlueAll m' := by
  intro d hd
  rw [h3]
  intro g t
  rw [it_congr h1]
  exact hN d (by rw [← hn]; exact hd) g t

theorem SameTopo.nsg {m m' : Map X} (st : SameTopo m m') (hN : NoSelfGlueAll m) : NoSelfGlueAll m' :=
  nsg_of_β13 st.n (st.β 1) (st.β 3) hN

/-- clearing β3 entries cannot create a self-glued face -/
theorem nsg_shrink {m m' : Map X} (hs : Shrink3 m m') (hN : NoSelfGlueAll m) : NoSelfGlueAll m' := by
  intro d hd g t
  have e : m'.β 3 d = m.β 3 d := by
    rcases hs.sub d with hh | hh
    · exact hh
    · exact absurd hh g
  rw [e, it_congr (fun x => hs.β 1 x (by omega))]
  exact hN d (by rw [← hs.n]; exact hd) (by rw [← e]; exact g) t

/-- clearing β1 entries shortens the walks -/
theorem it_cleared {m m' : Map X} (h0 : m'.β 1 0 = 0) (hc : ∀ x, m'.β 1 x = m.β 1 x ∨ m'.β 1 x = 0) :
    ∀ t d, it m' 1 t d = it m 1 t d ∨ it m' 1 t d = 0 := by
  intro t
  induction t with
  | zero => intro d; exact Or.inl rfl
  | succ t ih =>
      intro d
      rw [it_succ, it_succ]
      rcases hc d with hh | hh
      · rw [hh]; exact ih _
      · rw [hh]; exact Or.inr (it_null h0 t)

theorem nsg_cleared1 {m m' : Map X} (hn : m'.n = m.n) (h0 : m'.β 1 0 = 0)
    (hc : ∀ x, m'.β 1 x = m.β 1 x ∨ m'.β 1 x = 0) (h3 : ∀ d, m'.β 3 d = m.β 3 d)
    (hN : NoSelfGlueAll m) : NoSelfGlueAll m' := by
  intro d hd
  rw [h3]
  intro g t
  rcases it_cleared h0 hc t d with hh | hh
  · rw [hh]; exact hN d (by rw [← hn]; exact hd) g t
  · rw [hh]; exact fun e => g e.symm

theorem nsg_oneUnlink3 {l : Nat} {m m1 : Map X} {u : Unit} (hw : WF 4 m) (hln : l < m.n) (hN : NoSelfGlueAll m)
    (h : run (oneUnlink3 (X := X) l) m = (.ok u, m1)) : NoSelfGlueAll m1 := by
  obtain ⟨_, hw1, hform⟩ := oneUnlink3_effect hw hln h
  rcases hform with ⟨_, A⟩ | ⟨_, _, m0, _, B, A⟩
  · exact nsg_cleared1 A.n.symm (hw1.null 1 (by omega)) A.β1_sub (fun d => (A.β 3 d (by omega)).symm) hN
  · have ho := B.only.trans A.only
    refine nsg_cleared1 ho.n.symm (hw1.null 1 (by omega)) (fun x => ?_) (fun d => (ho.β 3 d (by omega)).symm) hN
    rcases B.β1_sub x with hh | hh
    · rw [hh]; exact A.β1_sub x
    · exact Or.inr hh

/-- 3-linking whole faces, pairwise disjoint, cannot glue a face to itself -/
theorem nsg_linked {m m' : Map X} (hw : WF 4 m) (hw' : WF 4 m') {ps : List (Nat × Nat)} (L : Linked3 m m' ps)
    (hc : Covered m ps) (hN : NoSelfGlueAll m) : NoSelfGlueAll m' := by
  have e1 : ∀ x, m'.β 1 x = m.β 1 x := fun x => L.other 1 x (by omega)
  -- a left dart is never a right dart
  have lr : ∀ pq, pq ∈ ps → ∀ pq', pq' ∈ ps → pq'.1 ≠ pq.2 := by
    intro pq hm pq' hm'
    by_cases c : pq' = pq
    · rw [c]
      obtain ⟨a1, _, _, _, _, a6, a7, _⟩ := L.pairs pq hm
      have := (hw'.invol 3 (by omega) (by omega) pq.1 (by rw [L.n]; exact a7) (by rw [a1]; exact a6)).2
      rw [a1] at this; exact fun hh => this hh.symm
    · exact (L.cross pq' hm' pq hm c).2.1
  -- the β1-walk from a left (right) dart stays among the left (right) darts, or reaches null
  have walk : ∀ (side : Nat × Nat → Nat),
      (∀ pq, pq ∈ ps → m.β 1 (side pq) ≠ 0 → ∃ pq', pq' ∈ ps ∧ side pq' = m.β 1 (side pq)) →
      ∀ t pq, pq ∈ ps → it m 1 t (side pq) = 0 ∨ ∃ pq', pq' ∈ ps ∧ side pq' = it m 1 t (side pq) := by
    intro side hside t
    induction t with
    | zero => intro pq hm; exact Or.inr ⟨pq, hm, rfl⟩
    | succ t ih =>
        intro pq hm
        rw [it_succ']
        rcases ih pq hm with hh | ⟨pq', hm', e⟩
        · rw [hh]; exact Or.inl (hw.null 1 (by omega))
        · by_cases c : m.β 1 (it m 1 t (side pq)) = 0
          · exact Or.inl c
          · rw [← e] at c ⊢
            exact Or.inr (hside pq' hm' c)
  have walkL := walk Prod.fst fun pq hm c => (hc pq hm 1 (by omega)).1 c
  have walkR := walk Prod.snd fun pq hm c => (hc pq hm 1 (by omega)).2 c
  intro d hd g t
  rw [it_congr e1]
  by_cases he : Endp ps d
  · obtain ⟨pq, hm, rfl | rfl⟩ := he
    · obtain ⟨a1, _, _, _, _, a6, _⟩ := L.pairs pq hm
      rw [a1]
      rcases walkL t pq hm with hh | ⟨pq', hm', e⟩
      · rw [hh]; exact fun e => a6 e.symm
      · rw [← e]; exact lr pq hm pq' hm'
    · obtain ⟨_, a2, _, _, a5, _, _⟩ := L.pairs pq hm
      rw [a2]
      rcases walkR t pq hm with hh | ⟨pq', hm', e⟩
      · rw [hh]; exact fun e => a5 e.symm
      · rw [← e]; exact fun hh => lr pq' hm' pq hm hh.symm
  · rw [L.rest' he] at g ⊢
    exact hN d (by rw [← L.n]; exact hd) g t

theorem it_addFreeDarts {m : Map X} (hwf : WF 4 m) (k : Nat) :
    ∀ t d, d < m.n → it (m.addFreeDarts k).2 1 t d = it m 1 t d := by
  intro t
  induction t with
  | zero => intro d _; rfl
  | succ t ih =>
      intro d hd
      rw [it_succ, it_succ, addFreeDarts_β hwf.toSized k 1 d (by omega), if_pos hd]
      exact ih _ (hwf.range 1 (by omega) d hd)

theorem nsg_addFreeDarts {m : Map X} (hwf : WF 4 m) (k : Nat) (hN : NoSelfGlueAll m) :
    NoSelfGlueAll (m.addFreeDarts k).2 := by
  intro d hd
  rw [addFreeDarts_β hwf.toSized k 3 d (by omega)]
  by_cases hdn : d < m.n
  · rw [if_pos hdn]
    intro g t
    rw [it_addFreeDarts hwf k t d hdn]
    exact hN d hdn g t
  · rw [if_neg hdn]; intro g; exact absurd rfl g

/-- the call is not a 1-link / 1-sew -/
def NotLink1 : Op3 → Prop
  | .link 1 _ _ => False
  | .sew 1 _ _ => False
  | _ => True

theorem nsg_step (cfg : Cfg X) (m : Map X) (op : Op3)
    (hwf : WF 4 m) (hN : NoSelfGlueAll m) (hargs : ArgsOK m op)
    (l1 : ∀ l r m', InUse m l → InUse m r → (op = .link 1 l r ∨ op = .sew 1 l r) →
      run (oneLink3 (X := X) l r) m = (.ok (), m') → NoSelfGlueAll m') : NoSelfGlueAll (step cfg m op) := by
  refine step_keeps cfg m op hwf hN (fun _ _ => nsg_of_β13) (fun k => nsg_addFreeDarts hwf k hN) l1
    (fun l r m' hl hr hlr h => ?_) (fun l m' hl h => nsg_oneUnlink3 hwf hl.2.1 hN h)
    (fun l m' hl h => nsg_shrink (threeUnlink3_ok hwf hl.2.1 h).2 hN) hargs
  obtain ⟨hw', _⟩ := threeLink3_ok hwf hl.1 hr.1 hl.2.1 hr.2.1 hl.2.2 hr.2.2 hlr h
  obtain ⟨ps, L, _, hc⟩ := threeLink3_linked hwf hl.1 hr.1 h
  exact nsg_linked hwf hw' L hc hN

set_option linter.unusedVariables false in
/-- **C02b (NoSelfGlue), one call, PARTIAL**: every public editing call OTHER THAN a 1-link / 1-sew
    keeps "no face is glued to itself" on a well-formed, mirrored, sided 3-map.  (For 1-links /
    1-sews the exhaustive search of `tools/sided_scan.py` found no violation from maps satisfying
    all four predicates; not proved.) -/
theorem C02b_step_preserves_NoSelfGlue_partial (cfg : Cfg X) (m : Map X) (op : Op3)
    (hwf : WF 4 m) (hM : Mirror m) (hS : Sided3 m) (hN : NoSelfGlueAll m) (hargs : ArgsOK m op)
    (hnot : NotLink1 op) : NoSelfGlueAll (step cfg m op) := by
  refine nsg_step cfg m op hwf hN hargs fun l r m' _ _ hop _ => ?_
  rcases hop with rfl | rfl <;> exact hnot.elim

/-! ## NoSelfGlue through 1-links: no dart is 3-linked to its own successor -/

/-- on a mirrored, sided map the β3 images of a β1-walk form the β0-walk of the β3 image -/
theorem mirror_walk {m : Map X} (hw : WF 4 m) (hM : Mirror m) (hS : Sided3 m) {x : Nat} (hx : x < m.n)
    (h3 : m.β 3 x ≠ 0) : ∀ k, it m 1 k x ≠ 0 →
      m.β 3 (it m 1 k x) = it m 0 k (m.β 3 x) ∧ m.β 3 (it m 1 k x) ≠ 0 := by
  intro k
  induction k with
  | zero => intro _; exact ⟨rfl, h3⟩
  | succ k ih =>
      intro hne
      rw [it_succ'] at hne ⊢
      have hz0 : it m 1 k x ≠ 0 := fun hh => hne (by rw [hh]; exact hw.null 1 (by omega))
      obtain ⟨e, e0⟩ := ih hz0
      obtain ⟨s1, s2⟩ := mirror_step hw hM hS (it_lt hw (by omega) k x hx) e0
      exact ⟨by rw [it_succ', ← e, s1], s2 hne⟩

theorem it_back {m : Map X} (hw : WF 4 m) {d : Nat} (hd : d < m.n) : ∀ k t, k ≤ t → it m 1 t d ≠ 0 →
    it m 0 k (it m 1 t d) = it m 1 (t - k) d := by
  intro k
  induction k with
  | zero => intro t _ _; rfl
  | succ k ih =>
      intro t hk hne
      cases t with
      | zero => omega
      | succ t =>
          rw [it_succ, walk_back hw (Or.inl ⟨rfl, rfl⟩) hd hne]
          have hne' : it m 1 t d ≠ 0 := by
            intro hh; apply hne; rw [it_succ', hh]; exact hw.null 1 (by omega)
          rw [ih t (by omega) hne']
          congr 1; omega

/-- no dart is 3-linked to its own successor -/
def NoAdj (m : Map X) : Prop := ∀ x, x < m.n → m.β 3 x ≠ 0 → m.β 1 x ≠ m.β 3 x

theorem noAdj_of_nsg {m : Map X} (hN : NoSelfGlueAll m) : NoAdj m :=
  fun x hx h3 => hN x hx h3 1

/-- **on a well-formed, mirrored, sided 3-map a self-glued face shows at two consecutive darts**:
    a β1-walk from `d` to `β3 d` is reversed by β3, so its middle is a β3 fixed point (impossible)
    or a dart 3-linked to its successor -/
theorem nsg_of_noAdj {m : Map X} (hw : WF 4 m) (hM : Mirror m) (hS : Sided3 m) (hA : NoAdj m) :
    NoSelfGlueAll m := by
  intro d hd h3 t ht
  have hne : it m 1 t d ≠ 0 := by rw [ht]; exact h3
  -- β3 reverses the walk
  have rev : ∀ k, k ≤ t → m.β 3 (it m 1 k d) = it m 1 (t - k) d ∧ it m 1 k d ≠ 0 := by
    intro k hk
    have hk0 : it m 1 k d ≠ 0 := by
      intro hh
      apply hne
      rw [show t = k + (t - k) by omega, it_add, hh, it_null (hw.null 1 (by omega))]
    refine ⟨?_, hk0⟩
    rw [(mirror_walk hw hM hS hd h3 k hk0).1, ← ht, it_back hw hd k t hk hne]
  obtain ⟨s, hs⟩ : ∃ s, t = 2 * s ∨ t = 2 * s + 1 := ⟨t / 2, by omega⟩
  rcases hs with rfl | rfl
  · -- t = 2 s: the middle dart is a fixed point of β3
    obtain ⟨e, e0⟩ := rev s (by omega)
    rw [show 2 * s - s = s by omega] at e
    have hxn : it m 1 s d < m.n := it_lt hw (by omega) s d hd
    exact (hw.invol 3 (by omega) (by omega) _ hxn (by rw [e]; exact e0)).2 e
  · -- t = 2 s + 1: the dart before the middle is 3-linked to its successor
    obtain ⟨e, e0⟩ := rev s (by omega)
    rw [show 2 * s + 1 - s = s + 1 by omega] at e
    have hxn : it m 1 s d < m.n := it_lt hw (by omega) s d hd
    have e3 : m.β 3 (it m 1 s d) ≠ 0 := by
      rw [e]; exact (rev (s + 1) (by omega)).2
    exact hA _ hxn e3 (by rw [e, it_succ'])

theorem noAdj_add1 {m m' : Map X} {l r : Nat} (A : Add1 m m' l r) (hlr : m.β 3 l ≠ r) (hA : NoAdj m) :
    NoAdj m' := by
  intro x hx
  rw [A.β 3 x (by omega)]
  by_cases c : x = l
  · rw [c, A.β1_self]; intro _ hh; exact hlr hh.symm
  · rw [A.β1_ne c]; exact hA x (by rw [← A.n]; exact hx)

theorem noAdj_oneLink3 {l r : Nat} {m m1 : Map X} {u : Unit} (hw : WF 4 m)
    (hl0 : l ≠ 0) (hr0 : r ≠ 0) (hln : l < m.n) (hrn : r < m.n)
    (hul : m.unused l = false) (hur : m.unused r = false) (hA : NoAdj m)
    (h : run (oneLink3 (X := X) l r) m = (.ok u, m1)) : NoAdj m1 := by
  obtain ⟨_, hform⟩ := oneLink3_effect hw hl0 hr0 hln hrn hul hur h
  -- `β3 l = r` makes both darts 3-linked to each other
  have both : m.β 3 l = r → m.β 3 l ≠ 0 ∧ m.β 3 r ≠ 0 ∧ m.β 3 r = l := by
    intro hh
    have h3l : m.β 3 l ≠ 0 := by rw [hh]; exact hr0
    have := invol_back hw (i := 3) (by omega) (by omega) hln h3l
    rw [hh] at this
    exact ⟨h3l, by rw [this]; exact hl0, this⟩
  rcases hform with ⟨hnb, A⟩ | ⟨h3l, h3r, m0, _, A, B⟩
  · exact noAdj_add1 A (fun hh => hnb ⟨(both hh).1, (both hh).2.1⟩) hA
  · -- `β3 l = r` is impossible: the second link would repeat the first one
    have nolr : m.β 3 l ≠ r := by
      intro hh
      have g1 := B.free
      rw [(both hh).2.2, A.β1_self] at g1
      exact hr0 g1
    refine noAdj_add1 B ?_ (noAdj_add1 A nolr hA)
    rw [A.β 3 _ (by omega), invol_back hw (by omega) (by omega) hrn h3r]
    exact fun hh => nolr hh.symm

/-- **C02b (NoSelfGlue), one call**: with the guard `G13` on 1-links / 1-sews, every public editing
    call keeps "no face is glued to itself" on a well-formed, mirrored, sided 3-map -/
theorem C02b_step_preserves_NoSelfGlue (cfg : Cfg X) (m : Map X) (op : Op3)
    (hwf : WF 4 m) (hM : Mirror m) (hS : Sided3 m) (hN : NoSelfGlueAll m) (hargs : ArgsOK m op)
    (hg : ArgsG m op) : NoSelfGlueAll (step cfg m op) := by
  refine nsg_step cfg m op hwf hN hargs fun l r m' hl hr hop h => ?_
  -- a 1-link / 1-sew: through the "no dart 3-linked to its successor" characterisation
  have hg' : G13 m l r := by rcases hop with rfl | rfl <;> exact hg
  obtain ⟨hw', _, hM'⟩ := oneLink3_ok hwf hl.1 hr.1 hl.2.1 hr.2.1 hl.2.2 hr.2.2 h
  exact nsg_of_noAdj hw' (hM' hM) (sided_oneLink3 hwf hl.1 hr.1 hl.2.1 hr.2.1 hl.2.2 hr.2.2 hg' hS h)
    (noAdj_oneLink3 hwf hl.1 hr.1 hl.2.1 hr.2.1 hl.2.2 hr.2.2 (noAdj_of_nsg hN) h)

/-- **C02b**: the four predicates of the 3-D rendering theorems survive every finite editing
    history whose 1-links / 1-sews join darts of equal 3-status -/
theorem C02b_history_preserves_all (cfg : Cfg X) (ops : List Op3) :
    ∀ m : Map X, WF 4 m → Mirror m → Sided3 m → NoSelfGlueAll m → HistoryG cfg m ops →
      WF 4 (ops.foldl (step cfg) m) ∧ Mirror (ops.foldl (step cfg) m) ∧ Sided3 (ops.foldl (step cfg) m) ∧
      NoSelfGlueAll (ops.foldl (step cfg) m) := by
  induction ops with
  | nil => intro m h hM hS hN _; exact ⟨h, hM, hS, hN⟩
  | cons op ops ih =>
      intro m h hM hS hN hh
      exact ih _ (C02_step_preserves_WF cfg m op h hh.1) (C02_step_preserves_Mirror cfg m op h hM hh.1)
        (C02b_step_preserves_Sided cfg m op h hM hS hh.1 hh.2.1)
        (C02b_step_preserves_NoSelfGlue cfg m op h hM hS hN hh.1 hh.2.1) hh.2.2

/-- `NoSelfGlueAll` from its decidable characterisation -/
theorem nsgAll_of_decidable {m : Map X} (hw : WF 4 m) (hM : Mirror m) (hS : Sided3 m)
    (hA : ∀ x, x < m.n → m.β 3 x ≠ 0 → m.β 1 x ≠ m.β 3 x) : NoSelfGlueAll m := nsg_of_noAdj hw hM hS hA

instance (m : Map X) : Decidable (NoAdj m) := by unfold NoAdj; exact inferInstance

/-! ## the guard is needed -/

/-- three free darts -/
def ex3 : Map Val := Map.empty 4 1 4

/-- **counterexample (Sided)**: under C02's guards alone, `link 3 1 2; link 1 1 3` from three free
    darts reaches a well-formed mirrored map in which dart 1 is 3-linked and its successor is not -/
theorem C02b_sided_counterexample :
    HistoryOK exCfg ex3 [.link 3 1 2, .link 1 1 3] ∧ WF 4 ex3 ∧ Mirror ex3 ∧ Sided3 ex3 ∧
    ¬ Sided3 ([Op3.link 3 1 2, .link 1 1 3].foldl (step exCfg) ex3) := by decide +kernel

example : ¬ HistoryG exCfg ex3 [.link 3 1 2, .link 1 1 3] := by decide +kernel

/-- **counterexample (NoSelfGlue)**: one more unguarded 1-link glues a face to itself -/
theorem C02b_noSelfGlue_counterexample :
    HistoryOK exCfg ex3 [.link 3 1 2, .link 1 1 3, .link 1 3 2] ∧ NoSelfGlue3 ex3 ∧
    WF 4 ([Op3.link 3 1 2, .link 1 1 3, .link 1 3 2].foldl (step exCfg) ex3) ∧
    Mirror ([Op3.link 3 1 2, .link 1 1 3, .link 1 3 2].foldl (step exCfg) ex3) ∧
    ¬ NoSelfGlue3 ([Op3.link 3 1 2, .link 1 1 3, .link 1 3 2].foldl (step exCfg) ex3) := by decide +kernel

/-- non-vacuity of the positive theorems: the history of `C02.exHistory` satisfies the guard -/
theorem exHistory_guard : HistoryG exCfg exMap exHistory ∧ Sided3 exMap := by decide +kernel
theorem exMap_nsg : NoSelfGlueAll exMap :=
  nsg_of_noAdj exMap_wf exMap_mirror exHistory_guard.2 (by decide +kernel)

example : HistoryG exCfg exMap exHistory ∧ Sided3 exMap := exHistory_guard
example : Sided3 (exHistory.foldl (step exCfg) exMap) :=
  (C02b_history_preserves_Sided exCfg exHistory exMap exMap_wf exMap_mirror exHistory_guard.2 exHistory_guard.1).2.2
example : NoSelfGlueAll (exHistory.foldl (step exCfg) exMap) :=
  (C02b_history_preserves_all exCfg exHistory exMap exMap_wf exMap_mirror exHistory_guard.2 exMap_nsg
    exHistory_guard.1).2.2.2
example : NoSelfGlueAll (step exCfg exMap (.link 1 13 14)) :=
  C02b_step_preserves_NoSelfGlue exCfg exMap _ exMap_wf exMap_mirror exHistory_guard.2 exMap_nsg
    (by decide +kernel) (by decide +kernel)
example : Sided3 (step exCfg exMap (.sew 3 1 4)) :=
  C02b_step_preserves_Sided exCfg exMap _ exMap_wf exMap_mirror exHistory_guard.2 exHistory_ok.1 (by decide)

end HC.C02

/-
  C12 — grid builders produce the advertised regular mesh for every size.

  Model: `Model/Grid.lean` (hand-written, tied by the correspondence run) over the GENERATED tables
  `Gen/GridTables.lean`.  Everything below holds for **all** `nx, ny[, nz] ≥ 1`, all origins and
  lengths (over `Rat`).

  Proved here
    C12_grid2_WF / C12_split2_WF / C12_hex3_WF   well-formedness (`WF 3` / `WF 4`) of the three builders
    C12_grid2_beta2       β2 of the four sides of cell (ix,iy): null iff the side is on the outer
                          boundary, else the facing dart of the adjacent cell
    C12_grid2_faces       the four darts of a cell form a β1-cycle; two darts are in the same face
                          iff they belong to the same cell (faces ↔ cells, nx·ny of them)
    C12_grid2_corners / C12_grid2_vertices / C12_grid2_area
                          `vertex_id` ↔ lattice points (bijection with the (nx+1)(ny+1) points), every vertex
                          carries exactly origin + (i·lx, j·ly); faces counter-clockwise with area lx·ly
    C12_build2_ok         `build()` on a valid plain-grid descriptor returns Ok with that map (the face-count
                          debug assertion holds: `iter_faces` yields nx·ny ids)
    C12_split2_faces      same for the two triangles of a split cell, and the diagonal gluing
    C12_split2_corners / C12_split2_vertices / C12_split2_area   the split grid's vertices, coordinates, areas
    C12_hex3_cells        the 24 darts of a cell are closed under β0, β1, β2 (volumes ↔ cells) and
                          β3 is null iff the face is on the outer boundary, else the facing dart
    C12_parse2/3_error_iff, C12_parse2/3_forms_agree   descriptor parsing
    C12_build2_zero_count_empty / C12_build2_total   zero cell count ⇒ Ok(empty map), never a panic (the model
                          mirrors the guard of /repo 9dd602d); plain grid: every nx, ny gives a WF map with nx·ny faces
  and the `NOT PROVED` comment block (after `C12_grid2_area`).  Second part: `Props/C12b.lean`.
-/
import Mathlib.Tactic.Ring
import Mathlib.Algebra.Order.Field.Rat
import Honeycomb.Lemmas.GridLink
import Honeycomb.Lemmas.GridSquare
import Honeycomb.Lemmas.GridSplit
import Honeycomb.Lemmas.Grid3Vertex
import Honeycomb.Lemmas.Run
import Honeycomb.Lemmas.WFLink

namespace HC.C12
open HC HC.Gen

/-! ## (a) well-formedness -/

/-- `build_2d_grid` returns a well-formed 2-map (β0/β1 inverse, β2 fixed-point-free involution,
    images in range, inert null dart, consistent vector sizes, no removed dart) for every size -/
theorem C12_grid2_WF (ox oy lx ly : Rat) {nx ny : Nat} (hnx : 0 < nx) (hny : 0 < ny) :
    WF 3 (buildGrid2 ox oy nx ny lx ly) :=
  (GridVertex.G2_wf hnx hny).sameTopo (sameTopo_grid2 ox oy nx ny lx ly)

theorem C12_split2_WF (ox oy lx ly : Rat) {nx ny : Nat} (hnx : 0 < nx) (hny : 0 < ny) :
    WF 3 (buildSplit2 ox oy nx ny lx ly) :=
  (GridVertexSplit.G2_wf hnx hny).sameTopo (sameTopo_split2 ox oy nx ny lx ly)

theorem C12_hex3_WF (ox oy oz lx ly lz : Rat) {nx ny nz : Nat} (hnx : 0 < nx) (hny : 0 < ny) :
    WF 4 (buildHex3 ox oy oz nx ny nz lx ly lz) :=
  (Grid3Vertex.H3_wf nz hnx hny).sameTopo (sameTopo_hex3 ox oy oz nx ny nz lx ly lz)

example : WF 3 (buildGrid2 0 0 3 2 1 (1/2)) := C12_grid2_WF 0 0 1 (1/2) (by decide) (by decide)
example : WF 3 (buildSplit2 (-1) 2 1 5 3 1) := C12_split2_WF (-1) 2 3 1 (by decide) (by decide)
example : WF 4 (buildHex3 0 0 0 2 1 3 1 1 2) := C12_hex3_WF 0 0 0 1 1 2 (by decide) (by decide)

/-! ## β of the built maps at a dart given by cell and local index -/

/-- number of darts (null dart included) -/
theorem grid2_n (ox oy lx ly : Rat) (nx ny : Nat) : (buildGrid2 ox oy nx ny lx ly).n = 4 * nx * ny + 1 :=
  (sameTopo_grid2 ox oy nx ny lx ly).n

theorem split2_n (ox oy lx ly : Rat) (nx ny : Nat) : (buildSplit2 ox oy nx ny lx ly).n = 6 * nx * ny + 1 :=
  (sameTopo_split2 ox oy nx ny lx ly).n

theorem hex3_n (ox oy oz lx ly lz : Rat) (nx ny nz : Nat) :
    (buildHex3 ox oy oz nx ny nz lx ly lz).n = 24 * nx * ny * nz + 1 :=
  (sameTopo_hex3 ox oy oz nx ny nz lx ly lz).n

theorem grid2_β (ox oy lx ly : Rat) {nx ny ix iy o i : Nat} (hx : ix < nx) (hy : iy < ny)
    (ho : o < 4) (hi : i < 3) :
    (buildGrid2 ox oy nx ny lx ly).β i (dartOf 4 nx ny ix iy 0 o) =
      absEntry 4 nx ny 1 ix iy 0 (squareShape.at o i).1 (squareShape.at o i).2 :=
  squareMap_β (sameTopo_grid2 ox oy nx ny lx ly) hx hy ho hi

theorem split2_β (ox oy lx ly : Rat) {nx ny ix iy o i : Nat} (hx : ix < nx) (hy : iy < ny)
    (ho : o < 6) (hi : i < 3) :
    (buildSplit2 ox oy nx ny lx ly).β i (dartOf 6 nx ny ix iy 0 o) =
      absEntry 6 nx ny 1 ix iy 0 (trisShape.at o i).1 (trisShape.at o i).2 :=
  trisMap_β (sameTopo_split2 ox oy nx ny lx ly) hx hy ho hi

theorem hex3_β (ox oy oz lx ly lz : Rat) {nx ny nz ix iy iz o i : Nat} (hx : ix < nx) (hy : iy < ny)
    (hz : iz < nz) (ho : o < 24) (hi : i < 4) :
    (buildHex3 ox oy oz nx ny nz lx ly lz).β i (dartOf 24 nx ny ix iy iz o) =
      absEntry 24 nx ny nz ix iy iz (hexShape.at o i).1 (hexShape.at o i).2 :=
  hexMap_β (sameTopo_hex3 ox oy oz nx ny nz lx ly lz) hx hy hz ho hi

/-! ## (b) gluing of neighbours, free outer boundary -/

/-- Local darts 0,1,2,3 of cell `(ix, iy)` are its bottom, right, top and left sides (see
    `C12_grid2_corners`).  β2 of a side is null **iff** the side lies on the outer boundary of the
    grid; otherwise it is the facing side of the adjacent cell: bottom ↔ top of the cell below,
    right ↔ left of the cell to the right, and so on. -/
theorem C12_grid2_beta2 (ox oy lx ly : Rat) {nx ny ix iy : Nat} (hx : ix < nx) (hy : iy < ny) :
    let m := buildGrid2 ox oy nx ny lx ly
    let D := fun (x y k : Nat) => dartOf 4 nx ny x y 0 k
    m.β 2 (D ix iy 0) = (if iy = 0 then 0 else D ix (iy - 1) 2) ∧
    m.β 2 (D ix iy 1) = (if ix + 1 = nx then 0 else D (ix + 1) iy 3) ∧
    m.β 2 (D ix iy 2) = (if iy + 1 = ny then 0 else D ix (iy + 1) 0) ∧
    m.β 2 (D ix iy 3) = (if ix = 0 then 0 else D (ix - 1) iy 1) := by
  intro m D
  refine ⟨?_, ?_, ?_, ?_⟩
  · exact grid2_β ox oy lx ly hx hy (by decide : 0 < 4) (by decide : 2 < 3)
  · exact grid2_β ox oy lx ly hx hy (by decide : 1 < 4) (by decide : 2 < 3)
  · exact grid2_β ox oy lx ly hx hy (by decide : 2 < 4) (by decide : 2 < 3)
  · exact grid2_β ox oy lx ly hx hy (by decide : 3 < 4) (by decide : 2 < 3)

/-- every non-null dart is a side of exactly one cell -/
theorem C12_grid2_darts {nx ny : Nat} (hnx : 0 < nx) (hny : 0 < ny) {d : Nat} (h1 : 1 ≤ d)
    (h2 : d ≤ 4 * nx * ny) :
    ∃ ix iy k, ix < nx ∧ iy < ny ∧ k < 4 ∧ d = dartOf 4 nx ny ix iy 0 k ∧
      ∀ ix' iy' k', ix' < nx → iy' < ny → k' < 4 → d = dartOf 4 nx ny ix' iy' 0 k' →
        ix' = ix ∧ iy' = iy ∧ k' = k := by
  obtain ⟨ix, iy, o, hx, hy, ho, e⟩ := GridLattice.isDart_of_range (K := 4) (by decide) hnx hny h1 h2
  refine ⟨ix, iy, o, hx, hy, ho, e, ?_⟩
  intro ix' iy' k' hx' hy' hk' e'
  obtain ⟨a, b, _, c⟩ := dartOf_inj hx' hy' hk' hx hy ho (e'.symm.trans e)
  exact ⟨a, b, c⟩

example : (buildGrid2 0 0 3 2 1 1).β 2 (dartOf 4 3 2 1 0 0 1) = dartOf 4 3 2 2 0 0 3 := by decide

/-! ## (c) faces = cells -/

/-- `k`-fold application -/
def iter (f : Nat → Nat) : Nat → Nat → Nat
  | 0, x => x
  | k + 1, x => iter f k (f x)

/-- `e` is reached from `d` by following β1 -/
def SameFace (m : Map Val) (d e : Nat) : Prop := ∃ k, iter (m.β 1) k d = e

theorem grid2_β1 (ox oy lx ly : Rat) {nx ny ix iy k : Nat} (hx : ix < nx) (hy : iy < ny) (hk : k < 4) :
    (buildGrid2 ox oy nx ny lx ly).β 1 (dartOf 4 nx ny ix iy 0 k) = dartOf 4 nx ny ix iy 0 ((k + 1) % 4) :=
  GridVertex.β1_D (sameTopo_grid2 ox oy nx ny lx ly) hx hy hk

theorem grid2_β0 (ox oy lx ly : Rat) {nx ny ix iy k : Nat} (hx : ix < nx) (hy : iy < ny) (hk : k < 4) :
    (buildGrid2 ox oy nx ny lx ly).β 0 (dartOf 4 nx ny ix iy 0 k) = dartOf 4 nx ny ix iy 0 ((k + 3) % 4) :=
  GridVertex.β0_D (sameTopo_grid2 ox oy nx ny lx ly) hx hy hk

theorem grid2_iter (ox oy lx ly : Rat) {nx ny ix iy : Nat} (hx : ix < nx) (hy : iy < ny) :
    ∀ (j k : Nat), k < 4 → iter ((buildGrid2 ox oy nx ny lx ly).β 1) j (dartOf 4 nx ny ix iy 0 k) =
      dartOf 4 nx ny ix iy 0 ((k + j) % 4) := by
  intro j
  induction j with
  | zero => intro k hk; simp [iter, Nat.mod_eq_of_lt hk]
  | succ j ih =>
      intro k hk
      rw [iter, grid2_β1 ox oy lx ly hx hy hk, ih _ (Nat.mod_lt _ (by decide))]
      have : ((k + 1) % 4 + j) % 4 = (k + (j + 1)) % 4 := by omega
      rw [this]

/-- The four darts of cell `(ix, iy)` form a β1-cycle `0 → 1 → 2 → 3 → 0` (β0 runs it backwards),
    and two darts lie in the same face iff they are sides of the same cell: the faces of the map are
    in bijection with the `nx·ny` cells (every non-null dart is a side of exactly one cell by
    `C12_grid2_darts`). -/
theorem C12_grid2_faces (ox oy lx ly : Rat) {nx ny ix iy k : Nat} (hx : ix < nx) (hy : iy < ny) (hk : k < 4) :
    let m := buildGrid2 ox oy nx ny lx ly
    let D := fun (x y k : Nat) => dartOf 4 nx ny x y 0 k
    m.β 1 (D ix iy k) = D ix iy ((k + 1) % 4) ∧
    m.β 0 (D ix iy k) = D ix iy ((k + 3) % 4) ∧
    (∀ ix' iy' k', ix' < nx → iy' < ny → k' < 4 →
      (SameFace m (D ix iy k) (D ix' iy' k') ↔ ix' = ix ∧ iy' = iy)) := by
  intro m D
  refine ⟨grid2_β1 ox oy lx ly hx hy hk, grid2_β0 ox oy lx ly hx hy hk, ?_⟩
  intro ix' iy' k' hx' hy' hk'
  constructor
  · rintro ⟨j, hj⟩
    rw [grid2_iter ox oy lx ly hx hy j k hk] at hj
    obtain ⟨a, b, _, _⟩ := dartOf_inj hx hy (Nat.mod_lt _ (by decide)) hx' hy' hk' hj
    exact ⟨a.symm, b.symm⟩
  · rintro ⟨rfl, rfl⟩
    refine ⟨(k' + 4 - k) % 4, ?_⟩
    rw [grid2_iter ox oy lx ly hx hy _ k hk]
    have : (k + (k' + 4 - k) % 4) % 4 = k' := by omega
    rw [this]

example : SameFace (buildGrid2 0 0 2 2 1 1) 5 8 := ⟨3, by decide⟩

/-! ## descriptor parsing -/

theorem badLen_true {x : Rat} : badLen x = true ↔ x ≤ 0 := by simp [badLen]

theorem badLen_pos {x : Rat} (h : 0 < x) : badLen x = false := by
  simp [badLen, Rat.not_le.mpr h]

theorem natMul_pos {n : Nat} {l : Rat} (hn : 0 < n) (hl : 0 < l) : 0 < (n : Rat) * l :=
  Rat.mul_pos (Rat.natCast_pos.mpr hn) hl

theorem natMul_div {n : Nat} (hn : 0 < n) (l : Rat) : (n : Rat) * l / (n : Rat) = l := by
  rw [Rat.mul_comm, Rat.mul_div_cancel (Rat.ne_of_lt (Rat.natCast_pos.mpr hn)).symm]

theorem ceilCount_mul (n : Nat) {l : Rat} (hl : 0 < l) : ceilCount ((n : Rat) * l) l = n := by
  unfold ceilCount
  rw [Rat.mul_div_cancel (Rat.ne_of_lt hl).symm, ← Rat.intCast_natCast, Rat.ceil_intCast]
  simp

/-- number of descriptor fields that are set -/
def nFields {α β γ : Type} (a : Option α) (b : Option β) (c : Option γ) : Nat :=
  a.isSome.toNat + b.isSome.toNat + c.isSome.toNat

theorem missing_ne_invalid (k a : Nat) : errMissingGrid.tag ≠ (errInvalidGrid k a).tag := by
  show "MissingGridParameters" ≠ "InvalidGridParameters"
  decide

/-- what a chain of `check_parameters!` followed by `Ok(..)` returns: never a panic, and an error exactly
    when one of the checked lengths is non-positive (`B`), which is then `InvalidGridParameters` -/
structure Checked {α : Type} (r : Out Err α) (B : Prop) : Prop where
  noPanic : r ≠ .panic
  noRetry : r ≠ .retry
  invalid : (∃ k a, r = .err (errInvalidGrid k a)) ↔ B
  onlyInvalid : ∀ e, r = .err e → ∃ k a, e = errInvalidGrid k a

theorem Checked.last {α : Type} (x : Rat) (k a : Nat) (v : α) :
    Checked (if badLen x then .err (errInvalidGrid k a) else .ok v) (x ≤ 0) := by
  by_cases h : x ≤ 0
  · rw [if_pos (badLen_true.mpr h)]
    exact ⟨nofun, nofun, iff_of_true ⟨k, a, rfl⟩ h, fun e he => ⟨k, a, (Out.err.inj he).symm⟩⟩
  · rw [if_neg (fun hb => h (badLen_true.mp hb))]
    exact ⟨nofun, nofun, iff_of_false (fun ⟨_, _, he⟩ => nomatch he) h, fun e he => nomatch he⟩

theorem Checked.step {α : Type} {r : Out Err α} {B : Prop} (x : Rat) (k a : Nat) (h : Checked r B) :
    Checked (if badLen x then .err (errInvalidGrid k a) else r) (x ≤ 0 ∨ B) := by
  by_cases hx : x ≤ 0
  · rw [if_pos (badLen_true.mpr hx)]
    exact ⟨nofun, nofun, iff_of_true ⟨k, a, rfl⟩ (Or.inl hx),
      fun e he => ⟨k, a, (Out.err.inj he).symm⟩⟩
  · rw [if_neg (fun hb => hx (badLen_true.mp hb))]
    exact ⟨h.noPanic, h.noRetry, h.invalid.trans (or_iff_right hx).symm, h.onlyInvalid⟩

/-- the five clauses of `C12_parse2_error_iff` / `C12_parse3_error_iff` for an arm with checks (`nf` fields
    given, at least two) -/
theorem Checked.clauses {α : Type} {r : Out Err α} {B : Prop} (h : Checked r B) {nf : Nat} (hnf : ¬ nf < 2) :
    r ≠ .panic ∧ r ≠ .retry ∧ (r = .err errMissingGrid ↔ nf < 2) ∧
    ((∃ k a, r = .err (errInvalidGrid k a)) ↔ B) ∧
    ((∃ e, r = .err e) ↔ (nf < 2 ∨ ∃ k a, r = .err (errInvalidGrid k a))) := by
  refine ⟨h.noPanic, h.noRetry, iff_of_false ?_ hnf, h.invalid, ?_, ?_⟩
  · intro he
    obtain ⟨k, a, e⟩ := h.onlyInvalid _ he
    exact absurd (congrArg Err.tag e) (missing_ne_invalid k a)
  · rintro ⟨e, he⟩
    obtain ⟨k, a, rfl⟩ := h.onlyInvalid e he
    exact Or.inr ⟨k, a, he⟩
  · rintro (h1 | ⟨k, a, he⟩)
    · exact absurd h1 hnf
    · exact ⟨_, he⟩

/-- the same clauses for the catch-all arm (fewer than two fields) -/
theorem missing_clauses {α : Type} {nf : Nat} (hnf : nf < 2) :
    (.err errMissingGrid : Out Err α) ≠ .panic ∧ (.err errMissingGrid : Out Err α) ≠ .retry ∧
    ((.err errMissingGrid : Out Err α) = .err errMissingGrid ↔ nf < 2) ∧
    ((∃ k a, (.err errMissingGrid : Out Err α) = .err (errInvalidGrid k a)) ↔ False) ∧
    ((∃ e, (.err errMissingGrid : Out Err α) = .err e) ↔
      (nf < 2 ∨ ∃ k a, (.err errMissingGrid : Out Err α) = .err (errInvalidGrid k a))) := by
  refine ⟨nofun, nofun, iff_of_true rfl hnf, iff_of_false ?_ id,
    iff_of_true ⟨_, rfl⟩ (Or.inl hnf)⟩
  rintro ⟨k, a, he⟩
  exact absurd (congrArg Err.tag (Out.err.inj he)) (missing_ne_invalid k a)

/-- `parse_2d` never panics; it reports an error **exactly** when fewer than two fields are given
    (`MissingGridParameters`) or one of the lengths it uses is non-positive
    (`InvalidGridParameters`).  (When all three fields are given the total lengths are ignored,
    also by the check.) -/
theorem C12_parse2_error_iff (o : Rat × Rat) (n : Option (Nat × Nat)) (lpc lens : Option (Rat × Rat)) :
    parse2 o n lpc lens ≠ .panic ∧ parse2 o n lpc lens ≠ .retry ∧
    (parse2 o n lpc lens = .err errMissingGrid ↔ nFields n lpc lens < 2) ∧
    ((∃ k a, parse2 o n lpc lens = .err (errInvalidGrid k a)) ↔
      match n, lpc, lens with
      | some _, some (lpx, lpy), _ => lpx ≤ 0 ∨ lpy ≤ 0
      | some _, none, some (lx, ly) => lx ≤ 0 ∨ ly ≤ 0
      | none, some (lpx, lpy), some (lx, ly) => lpx ≤ 0 ∨ lpy ≤ 0 ∨ lx ≤ 0 ∨ ly ≤ 0
      | _, _, _ => False) ∧
    ((∃ e, parse2 o n lpc lens = .err e) ↔
      (nFields n lpc lens < 2 ∨ ∃ k a, parse2 o n lpc lens = .err (errInvalidGrid k a))) := by
  rcases n with _ | ⟨nx, ny⟩ <;> rcases lpc with _ | ⟨lpx, lpy⟩ <;> rcases lens with _ | ⟨lx, ly⟩
  · exact missing_clauses (by simp [nFields])
  · exact missing_clauses (by simp [nFields])
  · exact missing_clauses (by simp [nFields])
  · exact (((Checked.last ly 1 1 _).step lx 1 0).step lpy 0 1 |>.step lpx 0 0).clauses (by simp [nFields])
  · exact missing_clauses (by simp [nFields])
  · exact ((Checked.last ly 1 1 _).step lx 1 0).clauses (by simp [nFields])
  · exact ((Checked.last lpy 0 1 _).step lpx 0 0).clauses (by simp [nFields])
  · exact ((Checked.last lpy 0 1 _).step lpx 0 0).clauses (by simp [nFields])

/-- `parse_3d`: same characterisation -/
theorem C12_parse3_error_iff (o : Rat × Rat × Rat) (n : Option (Nat × Nat × Nat))
    (lpc lens : Option (Rat × Rat × Rat)) :
    parse3 o n lpc lens ≠ .panic ∧ parse3 o n lpc lens ≠ .retry ∧
    (parse3 o n lpc lens = .err errMissingGrid ↔ nFields n lpc lens < 2) ∧
    ((∃ k a, parse3 o n lpc lens = .err (errInvalidGrid k a)) ↔
      match n, lpc, lens with
      | some _, some (lpx, lpy, lpz), _ => lpx ≤ 0 ∨ lpy ≤ 0 ∨ lpz ≤ 0
      | some _, none, some (lx, ly, lz) => lx ≤ 0 ∨ ly ≤ 0 ∨ lz ≤ 0
      | none, some (lpx, lpy, lpz), some (lx, ly, lz) =>
          lpx ≤ 0 ∨ lpy ≤ 0 ∨ lpz ≤ 0 ∨ lx ≤ 0 ∨ ly ≤ 0 ∨ lz ≤ 0
      | _, _, _ => False) ∧
    ((∃ e, parse3 o n lpc lens = .err e) ↔
      (nFields n lpc lens < 2 ∨ ∃ k a, parse3 o n lpc lens = .err (errInvalidGrid k a))) := by
  rcases n with _ | ⟨nx, ny, nz⟩ <;> rcases lpc with _ | ⟨lpx, lpy, lpz⟩ <;>
    rcases lens with _ | ⟨lx, ly, lz⟩
  · exact missing_clauses (by simp [nFields])
  · exact missing_clauses (by simp [nFields])
  · exact missing_clauses (by simp [nFields])
  · exact ((((Checked.last lz 1 2 _).step ly 1 1).step lx 1 0).step lpz 0 2 |>.step lpy 0 1 |>.step lpx 0 0).clauses
      (by simp [nFields])
  · exact missing_clauses (by simp [nFields])
  · exact (((Checked.last lz 1 2 _).step ly 1 1).step lx 1 0).clauses (by simp [nFields])
  · exact (((Checked.last lpz 0 2 _).step lpy 0 1).step lpx 0 0).clauses (by simp [nFields])
  · exact (((Checked.last lpz 0 2 _).step lpy 0 1).step lpx 0 0).clauses (by simp [nFields])

/-- The three descriptor forms (counts + cell lengths, counts + total lengths, cell lengths + total
    lengths) parse to the same `(origin, counts, cell lengths)` whenever the total lengths are the
    exact multiples `n · len_per_cell` (over a field; all three fields: the totals are ignored). -/
theorem C12_parse2_forms_agree (o : Rat × Rat) {nx ny : Nat} {lpx lpy : Rat} (hnx : 0 < nx)
    (hny : 0 < ny) (hx : 0 < lpx) (hy : 0 < lpy) (junk : Rat × Rat) :
    let r : Out Err ((Rat × Rat) × (Nat × Nat) × (Rat × Rat)) := .ok (o, (nx, ny), (lpx, lpy))
    let tot : Rat × Rat := ((nx : Rat) * lpx, (ny : Rat) * lpy)
    parse2 o (some (nx, ny)) (some (lpx, lpy)) none = r ∧
    parse2 o (some (nx, ny)) none (some tot) = r ∧
    parse2 o none (some (lpx, lpy)) (some tot) = r ∧
    parse2 o (some (nx, ny)) (some (lpx, lpy)) (some junk) = r := by
  intro r tot
  have a1 := badLen_pos hx
  have a2 := badLen_pos hy
  have a3 := badLen_pos (natMul_pos hnx hx)
  have a4 := badLen_pos (natMul_pos hny hy)
  refine ⟨?_, ?_, ?_, ?_⟩
  · simp [parse2, a1, a2, r]
  · simp [parse2, a3, a4, r, tot, natMul_div hnx, natMul_div hny]
  · simp [parse2, a1, a2, a3, a4, r, tot, ceilCount_mul nx hx, ceilCount_mul ny hy]
  · simp [parse2, a1, a2, r]

theorem C12_parse3_forms_agree (o : Rat × Rat × Rat) {nx ny nz : Nat} {lpx lpy lpz : Rat}
    (hnx : 0 < nx) (hny : 0 < ny) (hnz : 0 < nz) (hx : 0 < lpx) (hy : 0 < lpy) (hz : 0 < lpz)
    (junk : Rat × Rat × Rat) :
    let r : Out Err ((Rat × Rat × Rat) × (Nat × Nat × Nat) × (Rat × Rat × Rat)) :=
      .ok (o, (nx, ny, nz), (lpx, lpy, lpz))
    let tot : Rat × Rat × Rat := ((nx : Rat) * lpx, (ny : Rat) * lpy, (nz : Rat) * lpz)
    parse3 o (some (nx, ny, nz)) (some (lpx, lpy, lpz)) none = r ∧
    parse3 o (some (nx, ny, nz)) none (some tot) = r ∧
    parse3 o none (some (lpx, lpy, lpz)) (some tot) = r ∧
    parse3 o (some (nx, ny, nz)) (some (lpx, lpy, lpz)) (some junk) = r := by
  intro r tot
  have a1 := badLen_pos hx
  have a2 := badLen_pos hy
  have a3 := badLen_pos hz
  have a4 := badLen_pos (natMul_pos hnx hx)
  have a5 := badLen_pos (natMul_pos hny hy)
  have a6 := badLen_pos (natMul_pos hnz hz)
  refine ⟨?_, ?_, ?_, ?_⟩
  · simp [parse3, a1, a2, a3, r]
  · simp [parse3, a4, a5, a6, r, tot, natMul_div hnx, natMul_div hny, natMul_div hnz]
  · simp [parse3, a1, a2, a3, a4, a5, a6, r, tot, ceilCount_mul nx hx, ceilCount_mul ny hy,
      ceilCount_mul nz hz]
  · simp [parse3, a1, a2, a3, r]

/-- hence the three forms build the same map (same outcome of `CMapBuilder::build`) -/
theorem C12_build2_forms_agree (split : Bool) (o : Rat × Rat) {nx ny : Nat} {lpx lpy : Rat}
    (hnx : 0 < nx) (hny : 0 < ny) (hx : 0 < lpx) (hy : 0 < lpy) :
    let tot : Rat × Rat := ((nx : Rat) * lpx, (ny : Rat) * lpy)
    build2 split o (some (nx, ny)) none (some tot) = build2 split o (some (nx, ny)) (some (lpx, lpy)) none ∧
    build2 split o none (some (lpx, lpy)) (some tot) = build2 split o (some (nx, ny)) (some (lpx, lpy)) none := by
  intro tot
  obtain ⟨h1, h2, h3, _⟩ := C12_parse2_forms_agree o hnx hny hx hy (0, 0)
  unfold build2
  rw [h1, h2, h3]
  exact ⟨rfl, rfl⟩

theorem C12_build3_forms_agree (split : Bool) (o : Rat × Rat × Rat) {nx ny nz : Nat} {lpx lpy lpz : Rat}
    (hnx : 0 < nx) (hny : 0 < ny) (hnz : 0 < nz) (hx : 0 < lpx) (hy : 0 < lpy) (hz : 0 < lpz) :
    let tot : Rat × Rat × Rat := ((nx : Rat) * lpx, (ny : Rat) * lpy, (nz : Rat) * lpz)
    build3 split o (some (nx, ny, nz)) none (some tot) =
      build3 split o (some (nx, ny, nz)) (some (lpx, lpy, lpz)) none ∧
    build3 split o none (some (lpx, lpy, lpz)) (some tot) =
      build3 split o (some (nx, ny, nz)) (some (lpx, lpy, lpz)) none := by
  intro tot
  obtain ⟨h1, h2, h3, _⟩ := C12_parse3_forms_agree o hnx hny hnz hx hy hz (0, 0, 0)
  unfold build3
  rw [h1, h2, h3]
  exact ⟨rfl, rfl⟩

theorem two_pos : (0 : Rat) < 2 := Rat.natCast_pos.mpr (by decide : 0 < 2)
theorem half_pos : (0 : Rat) < 1 / 2 := by
  rw [Rat.div_def, Rat.one_mul]; exact Rat.inv_pos.mpr two_pos

example : parse2 (0, 0) none (some (1 / 2, 2)) (some (((2 : Nat) : Rat) * (1 / 2), ((3 : Nat) : Rat) * 2)) =
    .ok ((0, 0), (2, 3), (1 / 2, 2)) :=
  (C12_parse2_forms_agree (0, 0) (nx := 2) (ny := 3) (by decide) (by decide) half_pos two_pos (0, 0)).2.2.1
example : parse3 (0, 0, 0) (some (1, 2, 3)) none (some (((1 : Nat) : Rat) * 2, ((2 : Nat) : Rat) * (1 / 2), ((3 : Nat) : Rat) * 2)) =
    .ok ((0, 0, 0), (1, 2, 3), (2, 1 / 2, 2)) :=
  (C12_parse3_forms_agree (0, 0, 0) (nx := 1) (ny := 2) (nz := 3) (by decide) (by decide) (by decide)
    two_pos half_pos two_pos (0, 0, 0)).2.1
example : ∃ k a, parse2 (0, 0) none (some (2, 2)) (some (-1, 6)) = .err (errInvalidGrid k a) :=
  (C12_parse2_error_iff (0, 0) none (some (2, 2)) (some (-1, 6))).2.2.2.1.mpr
    (Or.inr (Or.inr (Or.inl (by decide))))
example : parse3 (0, 0, 0) none none (some (1, 6, 1)) = .err errMissingGrid :=
  (C12_parse3_error_iff (0, 0, 0) none none (some (1, 6, 1))).2.2.1.mpr (by decide)

/-! ## zero cell counts -/

/-- the empty map: only the null dart -/
abbrev emptyMap2 : Map Val := Map.empty 3 6 1

theorem emptyMap2_facts : emptyMap2.n = 1 ∧ WF 3 emptyMap2 ∧ iterFaces2 emptyMap2 = [] ∧
    iterVertices2 emptyMap2 = [] := by decide

/-- Zero cell count, 2-D (the guard of /repo 9dd602d, mirrored by the model): whenever the
    descriptor parses (any of the three forms) to counts with `nx = 0` or `ny = 0`, `build()` returns
    `Ok` with the empty map — one null dart, well-formed, no face, no vertex — split or not; it
    never panics.  (Relies on the GENERATED flags `squareZeroGuard` / `trisZeroGuard`: if the guard
    disappears from grid.rs this theorem stops compiling.) -/
theorem C12_build2_zero_count_empty (split : Bool) (o : Rat × Rat) (n : Option (Nat × Nat))
    (lpc lens : Option (Rat × Rat)) {o' : Rat × Rat} {nx ny : Nat} {l : Rat × Rat}
    (hp : parse2 o n lpc lens = .ok (o', (nx, ny), l)) (h0 : nx = 0 ∨ ny = 0) :
    build2 split o n lpc lens = .ok emptyMap2 ∧
    emptyMap2.n = 1 ∧ WF 3 emptyMap2 ∧ iterFaces2 emptyMap2 = [] ∧ iterVertices2 emptyMap2 = [] := by
  refine ⟨?_, emptyMap2_facts⟩
  have hk : ∀ K : Nat, K * nx * ny = 0 := by
    intro K
    rcases h0 with h | h <;> subst h <;> simp
  unfold build2
  rw [hp]
  cases split <;> simp [h0, squareZeroGuard, trisZeroGuard, hk]

/-- instances: counts given explicitly with valid lengths (forms `n_cells + len_per_cell`, with or
    without ignored totals, and `n_cells + lens`) -/
theorem C12_build2_zero_count_forms (split : Bool) (o : Rat × Rat) {nx ny : Nat} {lx ly : Rat}
    (h0 : nx = 0 ∨ ny = 0) (hx : 0 < lx) (hy : 0 < ly) (lens : Option (Rat × Rat)) :
    build2 split o (some (nx, ny)) (some (lx, ly)) lens = .ok emptyMap2 ∧
    build2 split o (some (nx, ny)) none (some (lx, ly)) = .ok emptyMap2 := by
  have a1 := badLen_pos hx
  have a2 := badLen_pos hy
  constructor
  · refine (C12_build2_zero_count_empty split o _ _ _ (o' := o) (l := (lx, ly)) ?_ h0).1
    rcases lens with _ | ⟨tx, ty⟩ <;> simp [parse2, a1, a2]
  · refine (C12_build2_zero_count_empty split o _ _ _ (o' := o)
      (l := (lx / (nx : Rat), ly / (ny : Rat))) ?_ h0).1
    simp [parse2, a1, a2]

example : build2 true (0, 0) (some (0, 2)) (some (2, 2)) none = .ok emptyMap2 :=
  (C12_build2_zero_count_forms true (0, 0) (Or.inl rfl) two_pos two_pos none).1

/-! ## (d) split grid: triangles and diagonal; hex grid: cells and shared faces -/

/-- Split grid, cell `(ix, iy)`: local darts `0 → 1 → 2 → 0` (lower-left triangle: bottom side,
    diagonal, left side) and `3 → 4 → 5 → 3` (upper-right triangle: diagonal, right side, top side)
    are β1-cycles; the two diagonal darts are glued to each other; the four outer sides are glued
    to the facing side of the adjacent cell, and free exactly on the outer boundary. -/
theorem C12_split2_faces (ox oy lx ly : Rat) {nx ny ix iy : Nat} (hx : ix < nx) (hy : iy < ny) :
    let m := buildSplit2 ox oy nx ny lx ly
    let D := fun (x y k : Nat) => dartOf 6 nx ny x y 0 k
    (∀ k, k < 6 → m.β 1 (D ix iy k) = D ix iy (3 * (k / 3) + (k + 1) % 3) ∧
                  m.β 0 (D ix iy k) = D ix iy (3 * (k / 3) + (k + 2) % 3)) ∧
    m.β 2 (D ix iy 1) = D ix iy 3 ∧ m.β 2 (D ix iy 3) = D ix iy 1 ∧
    m.β 2 (D ix iy 0) = (if iy = 0 then 0 else D ix (iy - 1) 5) ∧
    m.β 2 (D ix iy 2) = (if ix = 0 then 0 else D (ix - 1) iy 4) ∧
    m.β 2 (D ix iy 4) = (if ix + 1 = nx then 0 else D (ix + 1) iy 2) ∧
    m.β 2 (D ix iy 5) = (if iy + 1 = ny then 0 else D ix (iy + 1) 0) := by
  intro m D
  refine ⟨?_, ?_, ?_, ?_, ?_, ?_, ?_⟩
  · intro k hk
    exact ⟨GridVertexSplit.β1_D (sameTopo_split2 ox oy nx ny lx ly) hx hy hk,
      GridVertexSplit.β0_D (sameTopo_split2 ox oy nx ny lx ly) hx hy hk⟩
  · exact split2_β ox oy lx ly hx hy (by decide : 1 < 6) (by decide : 2 < 3)
  · exact split2_β ox oy lx ly hx hy (by decide : 3 < 6) (by decide : 2 < 3)
  · exact split2_β ox oy lx ly hx hy (by decide : 0 < 6) (by decide : 2 < 3)
  · exact split2_β ox oy lx ly hx hy (by decide : 2 < 6) (by decide : 2 < 3)
  · exact split2_β ox oy lx ly hx hy (by decide : 4 < 6) (by decide : 2 < 3)
  · exact split2_β ox oy lx ly hx hy (by decide : 5 < 6) (by decide : 2 < 3)

/-- every non-null dart of the split grid is a side of exactly one cell -/
theorem C12_split2_darts {nx ny : Nat} (hnx : 0 < nx) (hny : 0 < ny) {d : Nat} (h1 : 1 ≤ d)
    (h2 : d ≤ 6 * nx * ny) :
    ∃ ix iy k, ix < nx ∧ iy < ny ∧ k < 6 ∧ d = dartOf 6 nx ny ix iy 0 k ∧
      ∀ ix' iy' k', ix' < nx → iy' < ny → k' < 6 → d = dartOf 6 nx ny ix' iy' 0 k' →
        ix' = ix ∧ iy' = iy ∧ k' = k := by
  obtain ⟨ix, iy, o, hx, hy, ho, e⟩ := GridLattice.isDart_of_range (K := 6) (by decide) hnx hny h1 h2
  refine ⟨ix, iy, o, hx, hy, ho, e, ?_⟩
  intro ix' iy' k' hx' hy' hk' e'
  obtain ⟨a, b, _, c⟩ := dartOf_inj hx' hy' hk' hx hy ho (e'.symm.trans e)
  exact ⟨a, b, c⟩

/-- the face (group of four local darts) a local dart of a hexahedron belongs to:
    0 = y-, 1 = z-, 2 = x+, 3 = z+, 4 = x-, 5 = y+ (the comment block of grid.rs) -/
def hexFace (o : Nat) : Nat := o / 4

/-- direction code (see `absEntry`) of the neighbour across a face -/
def hexFaceDir : Nat → Nat
  | 0 => 3 | 1 => 5 | 2 => 2 | 3 => 6 | 4 => 1 | _ => 4

/-- the face of the neighbour that is glued to a face -/
def hexFaceOpp : Nat → Nat
  | 0 => 5 | 1 => 3 | 2 => 4 | 3 => 1 | 4 => 2 | _ => 0

theorem hexShape_facts : ∀ o, o < 24 →
    (hexShape.at o 0).1 = 0 ∧ (hexShape.at o 1).1 = 0 ∧ (hexShape.at o 2).1 = 0 ∧
    hexFace (hexShape.at o 0).2 = hexFace o ∧ hexFace (hexShape.at o 1).2 = hexFace o ∧
    (hexShape.at o 1).2 = 4 * (o / 4) + (o + 1) % 4 ∧ (hexShape.at o 0).2 = 4 * (o / 4) + (o + 3) % 4 ∧
    (hexShape.at o 2).2 < 24 ∧ hexFace (hexShape.at o 2).2 ≠ hexFace o ∧
    (hexShape.at o 3).1 = hexFaceDir (hexFace o) ∧
    hexFace (hexShape.at o 3).2 = hexFaceOpp (hexFace o) := by decide

/-- Hex grid, cell `(ix, iy, iz)`, local dart `o < 24`: the six groups of four local darts are
    β1-cycles (the six quadrilateral faces; β0 runs them backwards); β2 stays inside the cell and
    leads to another face of it (the 24 darts are closed under β0, β1, β2: the volume is the cell);
    β3 is null **iff** the cell has no neighbour across that face (outer boundary), and otherwise
    it is a dart of the facing face (`hexFaceOpp`) of the adjacent cell. -/
theorem C12_hex3_cells (ox oy oz lx ly lz : Rat) {nx ny nz ix iy iz o : Nat} (hx : ix < nx)
    (hy : iy < ny) (hz : iz < nz) (ho : o < 24) :
    let m := buildHex3 ox oy oz nx ny nz lx ly lz
    let D := fun (x y z k : Nat) => dartOf 24 nx ny x y z k
    m.β 1 (D ix iy iz o) = D ix iy iz (4 * (o / 4) + (o + 1) % 4) ∧
    m.β 0 (D ix iy iz o) = D ix iy iz (4 * (o / 4) + (o + 3) % 4) ∧
    (∃ o', o' < 24 ∧ hexFace o' ≠ hexFace o ∧ m.β 2 (D ix iy iz o) = D ix iy iz o') ∧
    (∃ o', hexFace o' = hexFaceOpp (hexFace o) ∧
      m.β 3 (D ix iy iz o) = absEntry 24 nx ny nz ix iy iz (hexFaceDir (hexFace o)) o') := by
  intro m D
  obtain ⟨e0, e1, e2, _, _, p1, p0, b2, f2, d3, f3⟩ := hexShape_facts o ho
  refine ⟨?_, ?_, ⟨(hexShape.at o 2).2, b2, f2, ?_⟩, ⟨(hexShape.at o 3).2, f3, ?_⟩⟩
  · rw [show m.β 1 (D ix iy iz o) = _ from hex3_β ox oy oz lx ly lz hx hy hz ho (by decide : 1 < 4), e1, p1]
    rfl
  · rw [show m.β 0 (D ix iy iz o) = _ from hex3_β ox oy oz lx ly lz hx hy hz ho (by decide : 0 < 4), e0, p0]
    rfl
  · rw [show m.β 2 (D ix iy iz o) = _ from hex3_β ox oy oz lx ly lz hx hy hz ho (by decide : 2 < 4), e2]
    rfl
  · rw [show m.β 3 (D ix iy iz o) = _ from hex3_β ox oy oz lx ly lz hx hy hz ho (by decide : 3 < 4), d3]

/-- every non-null dart of the hex grid is a local dart of exactly one cell: `nx·ny·nz` cells of 24
    darts -/
theorem C12_hex3_darts {nx ny nz : Nat} (hnx : 0 < nx) (hny : 0 < ny) {d : Nat} (h1 : 1 ≤ d)
    (h2 : d ≤ 24 * nx * ny * nz) :
    ∃ ix iy iz k, ix < nx ∧ iy < ny ∧ iz < nz ∧ k < 24 ∧ d = dartOf 24 nx ny ix iy iz k ∧
      ∀ ix' iy' iz' k', ix' < nx → iy' < ny → iz' < nz → k' < 24 → d = dartOf 24 nx ny ix' iy' iz' k' →
        ix' = ix ∧ iy' = iy ∧ iz' = iz ∧ k' = k := by
  have h2' : d ≤ 24 * (nx * ny * nz) := by
    rw [← Nat.mul_assoc, ← Nat.mul_assoc]; exact h2
  obtain ⟨ix, iy, iz, o, hx, hy, hz, ho, e⟩ := decode (K := 24) (by decide) hnx hny h1 h2'
  refine ⟨ix, iy, iz, o, hx, hy, hz, ho, e, ?_⟩
  intro ix' iy' iz' k' hx' hy' _ hk' e'
  exact dartOf_inj hx' hy' hk' hx hy ho (e'.symm.trans e)

example : (buildSplit2 0 0 2 2 1 1).β 2 (dartOf 6 2 2 0 0 0 4) = dartOf 6 2 2 1 0 0 2 := by decide
example : (buildHex3 0 0 0 2 1 1 1 1 1).β 3 (dartOf 24 2 1 0 0 0 8) = dartOf 24 2 1 1 0 0 16 :=
  hex3_β 0 0 0 1 1 1 (nx := 2) (ny := 1) (nz := 1) (ix := 0) (iy := 0) (iz := 0) (o := 8) (i := 3)
    (by decide) (by decide) (by decide) (by decide) (by decide)

/-! ## (e) vertices: lattice points and coordinates -/

open GridVertex in
/-- Corners of cell `(ix, iy)`: the vertex (`vertex_id`) at the origin of local darts 0,1,2,3 carries
    exactly `origin + (ix·lx, iy·ly)`, `+ ((ix+1)·lx, iy·ly)`, `+ ((ix+1)·lx, (iy+1)·ly)`,
    `+ (ix·lx, (iy+1)·ly)`: the face runs counter-clockwise round the rectangle
    `[ix·lx, (ix+1)·lx] × [iy·ly, (iy+1)·ly]` (shifted by the origin), so local darts 0,1,2,3 are its
    bottom, right, top and left sides. -/
theorem C12_grid2_corners (ox oy lx ly : Rat) {nx ny ix iy : Nat} (hnx : 0 < nx) (hny : 0 < ny)
    (hx : ix < nx) (hy : iy < ny) :
    let m := buildGrid2 ox oy nx ny lx ly
    let V := fun (k : Nat) => m.att 0 (vid2 m (dartOf 4 nx ny ix iy 0 k))
    V 0 = some (.pt (ox + ((ix : Nat) : Rat) * lx) (oy + ((iy : Nat) : Rat) * ly) 0) ∧
    V 1 = some (.pt (ox + ((ix + 1 : Nat) : Rat) * lx) (oy + ((iy : Nat) : Rat) * ly) 0) ∧
    V 2 = some (.pt (ox + ((ix + 1 : Nat) : Rat) * lx) (oy + ((iy + 1 : Nat) : Rat) * ly) 0) ∧
    V 3 = some (.pt (ox + ((ix : Nat) : Rat) * lx) (oy + ((iy + 1 : Nat) : Rat) * ly) 0) := by
  intro m V
  have h : ∀ k, k < 4 → V k = some (GridLattice.coord ox oy lx ly (ix + cdx k, iy + cdy k)) := by
    intro k hk
    have hd : IsDart nx ny (D nx ny ix iy k) := ⟨ix, iy, k, hx, hy, hk, rfl⟩
    have := grid2_att ox oy lx ly hnx hny hd
    rw [pt_D hx hk] at this
    exact this
  exact ⟨h 0 (by decide), h 1 (by decide), h 2 (by decide), h 3 (by decide)⟩

open GridVertex in
/-- Vertices ↔ lattice points: two darts have the same `vertex_id` iff they start at the same
    lattice point; the lattice points of darts are exactly the `(nx+1)·(ny+1)` points
    `(i, j)`, `i ≤ nx`, `j ≤ ny`; and the vertex of a dart carries `origin + (i·lx, j·ly)`. -/
theorem C12_grid2_vertices (ox oy lx ly : Rat) {nx ny : Nat} (hnx : 0 < nx) (hny : 0 < ny) :
    let m := buildGrid2 ox oy nx ny lx ly
    (∀ d e, IsDart nx ny d → IsDart nx ny e → (vid2 m d = vid2 m e ↔ pt nx d = pt nx e)) ∧
    (∀ d, IsDart nx ny d → (pt nx d).1 ≤ nx ∧ (pt nx d).2 ≤ ny ∧
      m.att 0 (vid2 m d) = some (.pt (ox + ((pt nx d).1 : Rat) * lx) (oy + ((pt nx d).2 : Rat) * ly) 0)) ∧
    (∀ i j, i ≤ nx → j ≤ ny → ∃ d, IsDart nx ny d ∧ pt nx d = (i, j)) ∧
    (∀ d, 1 ≤ d → d ≤ 4 * nx * ny → IsDart nx ny d) := by
  exact (spec hnx hny).vertices ox oy lx ly (placement hnx hny) rfl

example : ∃ v, (buildGrid2 0 0 2 2 1 1).att 0 (vid2 (buildGrid2 0 0 2 2 1 1) (dartOf 4 2 2 1 1 0 0)) = some v :=
  ⟨_, (C12_grid2_corners 0 0 1 1 (nx := 2) (ny := 2) (ix := 1) (iy := 1) (by decide) (by decide)
    (by decide) (by decide)).1⟩

/-- twice the signed area of the quadrilateral `p0 p1 p2 p3` (shoelace formula) -/
def area2 (p0 p1 p2 p3 : Rat × Rat) : Rat :=
  (p0.1 * p1.2 - p1.1 * p0.2) + (p1.1 * p2.2 - p2.1 * p1.2) + (p2.1 * p3.2 - p3.1 * p2.2) +
    (p3.1 * p0.2 - p0.1 * p3.2)

/-- The corners of `C12_grid2_corners`, in face order, span a quadrilateral of signed area `lx·ly`:
    positive (counter-clockwise) for positive cell lengths. -/
theorem C12_grid2_area (ox oy lx ly : Rat) (ix iy : Nat) :
    let x0 := ox + ((ix : Nat) : Rat) * lx
    let x1 := ox + ((ix + 1 : Nat) : Rat) * lx
    let y0 := oy + ((iy : Nat) : Rat) * ly
    let y1 := oy + ((iy + 1 : Nat) : Rat) * ly
    area2 (x0, y0) (x1, y0) (x1, y1) (x0, y1) = 2 * (lx * ly) ∧
    (0 < lx → 0 < ly → 0 < area2 (x0, y0) (x1, y0) (x1, y1) (x0, y1)) := by
  intro x0 x1 y0 y1
  have h : area2 (x0, y0) (x1, y0) (x1, y1) (x0, y1) = 2 * (lx * ly) := by
    simp only [area2, x0, x1, y0, y1]
    push_cast
    ring
  refine ⟨h, ?_⟩
  intro hx hy
  rw [h]
  exact Rat.mul_pos two_pos (Rat.mul_pos hx hy)

example : area2 (0, 0) (1, 0) (1, 1) (0, 1) = 2 := by
  have := (C12_grid2_area 0 0 1 1 0 0).1
  simpa using this

/-
Proved in Props/C12b.lean: the split / hex `build()` results, the 3-D vertex coordinates and lattice
bijection, volumes ↔ cells, and all the 2-D counts.

NOT PROVED: the floating-point reading of all coordinate statements (they are over `Rat`; the
  correspondence run uses dyadic values for which every f64 operation is exact).  For the third
  descriptor form `C12_ceil_count_rounding` (C12b) gives the exact condition under an abstract
  monotone rounding that fixes the two integers `⌈q⌉` and `⌈q⌉ − 1`; `Props/C12c.lean` instantiates it
  with binary64 round-to-nearest (`rnd 53` of `Lemmas/Rounding.lean`, unbounded exponent).

(The hex grid's edge and face counts are proved in Props/C12d.lean: C12_hex3_counts_all.  The
  tetrahedral split grid is `unimplemented!()` in the code: nothing to prove.)
-/

/-- `CMapBuilder::build` on a valid 2-D descriptor (positive counts and cell lengths, plain grid)
    returns `Ok` with exactly the map the theorems above describe: `iter_faces` yields `nx·ny`
    identifiers, so the final `debug_assert_eq!` holds, and nothing else can panic. -/
theorem C12_build2_ok (o : Rat × Rat) {nx ny : Nat} {lpx lpy : Rat} (hnx : 0 < nx) (hny : 0 < ny)
    (hx : 0 < lpx) (hy : 0 < lpy) (lens : Option (Rat × Rat)) :
    build2 false o (some (nx, ny)) (some (lpx, lpy)) lens = .ok (buildGrid2 o.1 o.2 nx ny lpx lpy) ∧
    (iterFaces2 (buildGrid2 o.1 o.2 nx ny lpx lpy)).length = nx * ny := by
  have a1 := badLen_pos hx
  have a2 := badLen_pos hy
  have hf := GridFace.iterFaces_length hnx hny (sameTopo_grid2 o.1 o.2 nx ny lpx lpy)
  refine ⟨?_, hf⟩
  have h0 : ¬ (nx = 0 ∨ ny = 0) := by omega
  unfold build2
  rcases lens with _ | ⟨lx, ly⟩ <;> simp [parse2, a1, a2, h0, hf]

/-- Full strength, **every** `nx, ny` (zero included): with positive cell lengths the plain 2-D
    builder never panics and never errs — it returns the empty map for a zero count and the
    regular grid of the theorems above otherwise; in both cases a well-formed map with `nx·ny`
    faces. -/
theorem C12_build2_total (o : Rat × Rat) (nx ny : Nat) {lpx lpy : Rat} (hx : 0 < lpx) (hy : 0 < lpy)
    (lens : Option (Rat × Rat)) :
    ∃ m, build2 false o (some (nx, ny)) (some (lpx, lpy)) lens = .ok m ∧ WF 3 m ∧
      (iterFaces2 m).length = nx * ny ∧
      m = (if nx = 0 ∨ ny = 0 then emptyMap2 else buildGrid2 o.1 o.2 nx ny lpx lpy) := by
  by_cases h0 : nx = 0 ∨ ny = 0
  · refine ⟨emptyMap2, (C12_build2_zero_count_forms false o h0 hx hy lens).1, emptyMap2_facts.2.1, ?_, by simp [h0]⟩
    rw [emptyMap2_facts.2.2.1]
    rcases h0 with h | h <;> subst h <;> simp
  · have hnx : 0 < nx := by omega
    have hny : 0 < ny := by omega
    obtain ⟨h1, h2⟩ := C12_build2_ok o hnx hny hx hy lens
    exact ⟨_, h1, C12_grid2_WF o.1 o.2 lpx lpy hnx hny, h2, by simp [h0]⟩

/-- split grid, every `nx, ny`: never an error; a zero count gives the empty map (for positive
    counts the only modelled panic is the mirrored face-count assertion, which holds:
    `C12_build2_split_ok`, `C12_build2_split_total_wf` in Props/C12b.lean) -/
theorem C12_build2_split_total (o : Rat × Rat) (nx ny : Nat) {lpx lpy : Rat} (hx : 0 < lpx) (hy : 0 < lpy)
    (lens : Option (Rat × Rat)) :
    (¬ ∃ e, build2 true o (some (nx, ny)) (some (lpx, lpy)) lens = .err e) ∧
    (nx = 0 ∨ ny = 0 → build2 true o (some (nx, ny)) (some (lpx, lpy)) lens = .ok emptyMap2) := by
  have a1 := badLen_pos hx
  have a2 := badLen_pos hy
  refine ⟨?_, fun h0 => (C12_build2_zero_count_forms true o h0 hx hy lens).1⟩
  unfold build2
  rcases lens with _ | ⟨lx, ly⟩ <;> simp [parse2, a1, a2] <;> (repeat' split) <;> simp

example : ∃ m, build2 false (0, 0) (some (0, 5)) (some (2, 2)) none = .ok m ∧ WF 3 m :=
  let ⟨m, h1, h2, _⟩ := C12_build2_total (0, 0) 0 5 two_pos two_pos none
  ⟨m, h1, h2⟩

example : build2 false (0, 0) (some (3, 2)) (some (2, 2)) none = .ok (buildGrid2 0 0 3 2 2 2) :=
  (C12_build2_ok (0, 0) (by decide) (by decide) two_pos two_pos none).1

/-! ## split grid: vertices, coordinates, triangle areas -/

open GridVertexSplit in
/-- Split grid, cell `(ix, iy)`: the vertices at the origins of local darts 0..5 carry
    bottom-left, bottom-right, top-left | top-left, bottom-right, top-right corner of the cell:
    triangle `0 1 2` is the lower-left half, triangle `3 4 5` the upper-right half, the diagonal
    runs from the bottom-right to the top-left corner. -/
theorem C12_split2_corners (ox oy lx ly : Rat) {nx ny ix iy : Nat} (hnx : 0 < nx) (hny : 0 < ny)
    (hx : ix < nx) (hy : iy < ny) :
    let m := buildSplit2 ox oy nx ny lx ly
    let V := fun (k : Nat) => m.att 0 (vid2 m (dartOf 6 nx ny ix iy 0 k))
    let P := fun (i j : Nat) => some (Val.pt (ox + ((i : Nat) : Rat) * lx) (oy + ((j : Nat) : Rat) * ly) 0)
    V 0 = P ix iy ∧ V 1 = P (ix + 1) iy ∧ V 2 = P ix (iy + 1) ∧
    V 3 = P ix (iy + 1) ∧ V 4 = P (ix + 1) iy ∧ V 5 = P (ix + 1) (iy + 1) := by
  intro m V P
  have h : ∀ k, k < 6 → V k = some (GridLattice.coord ox oy lx ly (ix + cdx k, iy + cdy k)) := by
    intro k hk
    have hd : IsDart nx ny (D nx ny ix iy k) := ⟨ix, iy, k, hx, hy, hk, rfl⟩
    have := split2_att ox oy lx ly hnx hny hd
    rw [pt_D hx hk] at this
    exact this
  exact ⟨h 0 (by decide), h 1 (by decide), h 2 (by decide), h 3 (by decide), h 4 (by decide), h 5 (by decide)⟩

open GridVertexSplit in
/-- Split grid, vertices ↔ lattice points (same statement as `C12_grid2_vertices`) -/
theorem C12_split2_vertices (ox oy lx ly : Rat) {nx ny : Nat} (hnx : 0 < nx) (hny : 0 < ny) :
    let m := buildSplit2 ox oy nx ny lx ly
    (∀ d e, IsDart nx ny d → IsDart nx ny e → (vid2 m d = vid2 m e ↔ pt nx d = pt nx e)) ∧
    (∀ d, IsDart nx ny d → (pt nx d).1 ≤ nx ∧ (pt nx d).2 ≤ ny ∧
      m.att 0 (vid2 m d) = some (.pt (ox + ((pt nx d).1 : Rat) * lx) (oy + ((pt nx d).2 : Rat) * ly) 0)) ∧
    (∀ i j, i ≤ nx → j ≤ ny → ∃ d, IsDart nx ny d ∧ pt nx d = (i, j)) ∧
    (∀ d, 1 ≤ d → d ≤ 6 * nx * ny → IsDart nx ny d) := by
  exact (spec hnx hny).vertices ox oy lx ly (placement hnx hny) rfl

/-- twice the signed area of the triangle `p q r` -/
def tri2 (p q r : Rat × Rat) : Rat :=
  (p.1 * q.2 - q.1 * p.2) + (q.1 * r.2 - r.1 * q.2) + (r.1 * p.2 - p.1 * r.2)

/-- both triangles of a split cell (corners of `C12_split2_corners`, in face order) have `tri2 = lx·ly`,
    i.e. signed area `lx·ly/2`; the third conjunct says that this is positive (counter-clockwise) for
    positive cell lengths -/
theorem C12_split2_area (ox oy lx ly : Rat) (ix iy : Nat) :
    let x0 := ox + ((ix : Nat) : Rat) * lx
    let x1 := ox + ((ix + 1 : Nat) : Rat) * lx
    let y0 := oy + ((iy : Nat) : Rat) * ly
    let y1 := oy + ((iy + 1 : Nat) : Rat) * ly
    tri2 (x0, y0) (x1, y0) (x0, y1) = lx * ly ∧ tri2 (x0, y1) (x1, y0) (x1, y1) = lx * ly ∧
    (0 < lx → 0 < ly → 0 < lx * ly) := by
  intro x0 x1 y0 y1
  refine ⟨?_, ?_, fun hx hy => Rat.mul_pos hx hy⟩
  · simp only [tri2, x0, x1, y0, y1]
    push_cast
    ring
  · simp only [tri2, x0, x1, y0, y1]
    push_cast
    ring

example : ∃ v, (buildSplit2 0 0 2 2 1 1).att 0 (vid2 (buildSplit2 0 0 2 2 1 1) (dartOf 6 2 2 1 1 0 5)) = some v :=
  ⟨_, (C12_split2_corners 0 0 1 1 (nx := 2) (ny := 2) (ix := 1) (iy := 1) (by decide) (by decide)
    (by decide) (by decide)).2.2.2.2.2⟩

/-- Zero cell count, 3-D: `build()` returns `Ok` with the empty map (one null dart); no panic -/
theorem C12_build3_zero_count_empty (o : Rat × Rat × Rat) {nx ny nz : Nat} {lx ly lz : Rat}
    (h0 : nx = 0 ∨ ny = 0 ∨ nz = 0) (hx : 0 < lx) (hy : 0 < ly) (hz : 0 < lz)
    (lens : Option (Rat × Rat × Rat)) :
    ∃ m, build3 false o (some (nx, ny, nz)) (some (lx, ly, lz)) lens = .ok m ∧ m.n = 1 := by
  have a1 := badLen_pos hx
  have a2 := badLen_pos hy
  have a3 := badLen_pos hz
  have hk : hexK * nx * ny * nz = 0 := by
    rcases h0 with h | h | h <;> subst h <;> simp
  have hc : nx * ny * nz = 0 := by
    rcases h0 with h | h | h <;> subst h <;> simp
  have hm : buildHex3 o.1 o.2.1 o.2.2 nx ny nz lx ly lz = gridMap 4 0 (hexβ nx ny nz) := by
    unfold buildHex3
    simp only [hk]
    rfl
  refine ⟨gridMap 4 0 (hexβ nx ny nz), ?_, rfl⟩
  unfold build3
  rcases lens with _ | ⟨tx, ty, tz⟩ <;> simp [parse3, a1, a2, a3, hm, hc] <;> rfl

example : ∃ m, build3 false (0, 0, 0) (some (2, 0, 1)) (some (2, 2, 2)) none = .ok m ∧ m.n = 1 :=
  C12_build3_zero_count_empty (0, 0, 0) (Or.inr (Or.inl rfl)) two_pos two_pos two_pos none

end HC.C12

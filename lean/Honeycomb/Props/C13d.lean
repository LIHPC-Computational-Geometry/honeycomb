/-
  C13, fourth part — the triangles built by the FAN kernels carry the coordinates of the vertex-list triangles.

  C13.lean proves areas / orientation for the vertex-list computation `fanTriangles vs id` (the list the kernel's star
  search works on); C13b.lean proves the exact β structure of the result (`FanResult`: n-2 closed dart triangles).
  This file ties the two IN THE RESULT MAP: with `pos m d := m.att 0 (vertex_id d)` (what `read_vertex(vertex_id(d))`
  returns, `Lemmas/PosCalc.lean`),

  * `fanIter_pos`   : one iteration of the loop (`unsew1 x1; sew2 d1 d2; sew1 d2 x2; sew1 x1 d1; sew1 d1 d0`) from
                      `d0 → x1 → x2` with fresh spare darts `d1`, `d2`: every other dart keeps `pos`, `d1` gets the
                      coordinates of `x2`, `d2` those of the apex — with these as the coordinates the darts are to
                      carry (`Lab`, Lemmas/PosCalc.lean), each vertex merge is between a fresh singleton cell without
                      value and a cell with a value (`merge_incomplete`), or between two cells that carry the SAME value
                      (`avg v v = v`: the neighbour across `x1` starts where `x2` starts), which is `Lab.sew1`;
  * `fanLoop_pos`   : the invariant through the loop: old darts keep `pos`, `p_j` has the `pos` of `c_{j+1}`, `q_j` that
                      of the apex;
  * `fanFrom_pos`   : the whole tail of both kernels (first unsew, loop, closing sew, final `write_vertex` of the apex
                      value — which rewrites the value already there);
  * `C13_fan_triangles_carry_list_coordinates` : for `fan_cell`, the k-th dart triangle of the result, corners read
                      through the result's vertex identifiers, is the k-th triangle of `fanTriangles (vals.map p2) id`
                      (`vals` = the vertex list read from the map, `id` = the star index found on it);
  * `C13_fan_area_conserved_in_map`, `C13_fan_orientation_in_map` : hence the area sum and (in general position) the
                      strict common orientation hold for the triangles of the result map;
  * `C13_fan_old_vertices_keep_coordinates` : every dart other than the spare darts reads the same coordinates;
  * `C13_fan_convex_triangles_carry_list_coordinates` : the same (carry, area, untouched) for `fan_convex_cell`.

  Hypotheses, beyond those of C13b (closed face, spare darts in use / distinct / outside the face): the spare darts are
  FRESH — free (all β null) and valueless (no vertex value under them) —, the vertex storage merges with the average
  (`cfg.law 0 = avgLaw`, `Vertex2`), and no failure is injected (`m.fc = 0`).

  The same tie for ear clipping (`earclipTriangles`) is in Props/C13e.lean.  NOT covered: spare darts that already carry a
  value or links.
-/
import Honeycomb.Lemmas.PosCalc
import Honeycomb.Props.C13c


namespace HC.C13
open HC HC.PosCalc HC.C03 HC.CellCalc

variable {n : Nat} {u : Array Bool}

/-! ## the value triangles of a fan -/

/-- `(a, v1, v2), (a, v2, v3), …` — the first `k` triangles of the fan of apex value `a` over the values `vs` -/
def fanValTris {α : Type} (a : α) : List α → Nat → List (α × α × α)
  | v1 :: v2 :: rest, k + 1 => (a, v1, v2) :: fanValTris a (v2 :: rest) k
  | _, _ => []

/-- the coordinates of the three corners of a dart triangle, read through vertex identifiers -/
def posTri (m : Map Val) (t : Nat × Nat × Nat) : Option Val × Option Val × Option Val :=
  (pos m t.1, pos m t.2.1, pos m t.2.2)

/-! ## one iteration of the fan loop -/

/-- the coordinates through one iteration (`FanIter`: the five sews `unsew::<1>(x1); sew::<2>(d1, d2); sew::<1>(d2, x2);
    sew::<1>(x1, d1); sew::<1>(d1, d0)` from a state where `d0 → x1 → x2`) when `d1`, `d2` are fresh (free, valueless):
    every other dart keeps its coordinates, `d1` gets those of `x2`, `d2` those of `d0` -/
theorem fanIter_pos (cfg : Cfg Val) (hlaw : cfg.law 0 = avgLaw) {d0 x1 x2 d1 d2 : Nat} {L' : List Nat}
    {m m5 : Map Val} (hi : Inv n u m) (hfc : m.fc = 0) (it : FanIter n u m m5 d0 x1 x2 d1 d2 L')
    (hf1 : ∀ i, i < 3 → m.β i d1 = 0) (hf2 : ∀ i, i < 3 → m.β i d2 = 0)
    (hn1 : pos m d1 = none) (hn2 : pos m d2 = none)
    (hs : run (fanSews cfg n d0 x1 x2 d1 d2) m = (.ok (), m5)) :
    m5.fc = 0 ∧ (∀ d, Valid m d → d ≠ d1 → d ≠ d2 → pos m5 d = pos m d) ∧
    pos m5 d1 = pos m x2 ∧ pos m5 d2 = pos m d0 := by
  obtain ⟨l0, _, lx2⟩ := it.live
  obtain ⟨l1, l2, h12⟩ := it.spare
  have c2 : m.β 1 x1 = x2 := it.chain.2.1
  have hd1 : d1 ≠ d0 ∧ d1 ≠ x1 ∧ d1 ≠ x2 :=
    ⟨fun c => it.out1 (by simp [c]), fun c => it.out1 (by simp [c]), fun c => it.out1 (by simp [c])⟩
  have hd2 : d2 ≠ d0 ∧ d2 ≠ x1 ∧ d2 ≠ x2 :=
    ⟨fun c => it.out2 (by simp [c]), fun c => it.out2 (by simp [c]), fun c => it.out2 (by simp [c])⟩
  have hwf := hi.wf
  -- the coordinates every dart is to carry
  let p : Nat → Option Val := fun d => if d = d1 then pos m x2 else if d = d2 then pos m d0 else pos m d
  have pold : ∀ d, d ≠ d1 → d ≠ d2 → p d = pos m d := fun d a b => by simp only [p, if_neg a, if_neg b]
  have p1 : p d1 = pos m x2 := by simp only [p, if_pos]
  have p2 : p d2 = pos m d0 := by simp only [p, if_neg (Ne.symm h12), if_pos]
  have px2 : p x2 = pos m x2 := pold x2 (Ne.symm hd1.2.2) (Ne.symm hd2.2.2)
  have pd0 : p d0 = pos m d0 := pold d0 (Ne.symm hd1.1) (Ne.symm hd2.1)
  have hF : ∀ d, d ≠ d1 → d ≠ d2 → d ∉ [d1, d2] := fun d a b => by simp [a, b]
  have L0 : Lab p [d1, d2] m := by
    refine Lab.init hwf (fun d _ hd => ?_) (fun e he _ => ?_)
    · simp only [List.mem_cons, List.not_mem_nil, or_false, not_or] at hd
      exact (pold d hd.1 hd.2).symm
    · simp only [List.mem_cons, List.not_mem_nil, or_false] at he
      rcases he with rfl | rfl
      · exact ⟨hf1, hn1⟩
      · exact ⟨hf2, hn2⟩
  unfold fanSews at hs
  obtain ⟨_, m1, s1, hs⟩ := run_bind_ok hs
  obtain ⟨_, m2, s2, hs⟩ := run_bind_ok hs
  obtain ⟨_, m3, s3, hs⟩ := run_bind_ok hs
  obtain ⟨_, m4, s4, s5⟩ := run_bind_ok hs
  -- the unsew and the 2-sew of the two 1-free spare darts unite nothing
  obtain ⟨i1, lx1, _, e1⟩ := oneUnsew2_eff cfg n hi s1
  rw [c2] at e1
  obtain ⟨fc1, L1⟩ := L0.unsew1 cfg hlaw hi hfc s1
  have hfr : ∀ d, d ≠ x1 → d ≠ x2 → m1.β 1 d = m.β 1 d := fun d a b => by
    rw [e1, if_neg (fun hh => b hh.2.symm), if_neg (fun hh => a hh.2.symm)]
  obtain ⟨i2, _, _, e2⟩ := twoSew2_eff cfg n i1 l1 l2 h12 s2
  obtain ⟨fc2, L2⟩ := L1.sew2Free cfg i1 fc1 l1 l2 h12 ((hfr d1 hd1.2.1 hd1.2.2).trans (hf1 1 (by omega)))
    ((hfr d2 hd2.2.1 hd2.2.2).trans (hf2 1 (by omega))) s2
  have b2 : ∀ z, m2.β 2 z = if d2 = z then d1 else if d1 = z then d2 else m.β 2 z := fun z => by
    rw [e2, eff1_β2 e1]
    simp only [true_and]
  -- `sew1 d2 x2`: `d1 = β2 d2` joins the vertex of `x2`
  obtain ⟨i3, _, _, e3⟩ := oneSew2_eff cfg n i2 l2 lx2 s3
  obtain ⟨fc3, L3, v3⟩ := L2.sew1 cfg hlaw i2 fc2 l2 lx2 (by
    rw [b2, if_pos rfl]
    exact fun _ => ⟨p1.trans px2.symm, Or.inr (hF x2 (Ne.symm hd1.2.2) (Ne.symm hd2.2.2))⟩) s3
  rw [b2, if_pos rfl] at v3
  have L3' : Lab p [d2] m3 := by
    refine L3.settle fun e he hd => ?_
    simp only [List.mem_cons, List.not_mem_nil, or_false] at he hd
    rcases he with rfl | rfl
    · rw [(v3 l1.1).1, p1, px2]
    · exact absurd rfl hd
  have b3 : ∀ z, m3.β 2 z = m2.β 2 z := eff1_β2 e3
  -- `sew1 x1 d1`: the neighbour across `x1` (if any) joins `d1`; both are to carry the coordinates of `x2`
  have vx1 := valid_of_live hi lx1
  obtain ⟨i4, _, _, e4⟩ := oneSew2_eff cfg n i3 lx1 l1 s4
  have hb2x1 : m3.β 2 x1 = m.β 2 x1 := by rw [b3, b2, if_neg hd2.2.1, if_neg hd1.2.1]
  obtain ⟨fc4, L4, _⟩ := L3'.sew1 cfg hlaw i3 fc3 lx1 l1 (by
    rw [hb2x1]
    intro hnb
    have n1 : m.β 2 x1 ≠ d1 := nb_ne_free hwf vx1 l1.1 (hf1 2 (by omega))
    have n2 : m.β 2 x1 ≠ d2 := nb_ne_free hwf vx1 l2.1 (hf2 2 (by omega))
    refine ⟨?_, Or.inr (by simp [h12])⟩
    rw [pold _ n1 n2, p1]
    exact (nb_pos hwf vx1 (valid_of_live hi lx2) c2 hnb).2) s4
  have b4 : ∀ z, m4.β 2 z = m2.β 2 z := fun z => (eff1_β2 e4 z).trans (b3 z)
  -- `sew1 d1 d0`: `d2 = β2 d1` joins the vertex of `d0`
  have hb2d1 : m4.β 2 d1 = d2 := by rw [b4, b2, if_neg (Ne.symm h12), if_pos rfl]
  obtain ⟨fc5, L5, v5⟩ := L4.sew1 cfg hlaw i4 fc4 l1 l0 (by
    rw [hb2d1]
    exact fun _ => ⟨p2.trans pd0.symm, Or.inr (by simp [Ne.symm hd2.1])⟩) s5
  rw [hb2d1] at v5
  have L5' : Lab p [] m5 := by
    refine L5.settle fun e he _ => ?_
    simp only [List.mem_cons, List.not_mem_nil, or_false] at he
    rw [he, (v5 l2.1).1, pd0, p2]
  have vt : ∀ d, Valid m d → Valid m5 d := fun d hd => valid_trans hi it.inv hd
  refine ⟨fc5, fun d hd a b => ?_, ?_, ?_⟩
  · rw [L5'.nil (vt d hd), pold d a b]
  · rw [L5'.nil (vt d1 (valid_of_live hi l1)), p1]
  · rw [L5'.nil (vt d2 (valid_of_live hi l2)), p2]

/-! ## the loop -/

theorem B1Chain.valid {m : Map Val} (hwf : WF 3 m) : ∀ (l : List Nat) (d : Nat), Valid m d → (∀ x ∈ l, x ≠ 0) →
    B1Chain m d l → ∀ y ∈ l, Valid m y := by
  intro l
  induction l with
  | nil => intro d _ _ _ y hy; cases hy
  | cons x rest ih =>
      intro d hd hnz h y hy
      obtain ⟨h1, h2⟩ := h
      have hx : Valid m x := ⟨hnz x (by simp), by rw [← h1]; exact hwf.range 1 (by omega) d hd.2⟩
      simp only [List.mem_cons] at hy
      rcases hy with rfl | hy
      · exact hx
      · exact ih x hx (fun z hz => hnz z (List.mem_cons_of_mem _ hz)) h2 y hy

/-- the fan loop from the apex-side dart `d0` with the face darts `L` ahead and fresh spare pairs `cs`: every dart
    other than the spare darts keeps its coordinates, and the corners of the triangles closed by the loop carry
    `(apex, L[j], L[j+1])` -/
theorem fanLoop_pos (cfg : Cfg Val) (hlaw : cfg.law 0 = avgLaw) :
    ∀ (cs : List (Nat × Nat)) (d0 : Nat) (L : List Nat) (m m' : Map Val) (r : Nat),
      Inv n u m → Live n u d0 → B1Chain m d0 L → L.length = cs.length + 2 → (d0 :: L).Nodup →
      (∀ x ∈ L, x ≠ 0) → (sparesOf cs).Nodup → (∀ x ∈ sparesOf cs, Live n u x ∧ x ∉ d0 :: L) →
      run (fanLoop cfg n d0 cs) m = (.ok r, m') →
      m.fc = 0 → (∀ x ∈ sparesOf cs, ∀ i, i < 3 → m.β i x = 0) → (∀ x ∈ sparesOf cs, pos m x = none) →
      Inv n u m' ∧ m'.fc = 0 ∧
      (∀ d, Valid m d → d ∉ sparesOf cs → pos m' d = pos m d) ∧
      (loopTris d0 L cs).map (posTri m') = fanValTris (pos m d0) (L.map (pos m)) cs.length ∧
      pos m' (loopEnd d0 cs) = pos m d0 := by
  refine fanLoop_induct cfg n ?_ ?_
  · intro d0 L m hi _ _ hfc _ _
    refine ⟨hi, hfc, fun _ _ _ => rfl, ?_, rfl⟩
    cases L with
    | nil => simp [loopTris, fanValTris]
    | cons a t => cases t <;> simp [loopTris, fanValTris]
  · intro d1 d2 cs d0 x1 x2 L' m m5 m' r hi hnz hsnd hsp _ it hs ih hfc hfree hnone
    rw [sparesOf_cons] at hsnd hsp hfree hnone
    simp only [List.nodup_cons, List.mem_cons, not_or] at hsnd
    obtain ⟨l0, lx1, lx2⟩ := it.live
    obtain ⟨l1, l2, hne⟩ := it.spare
    have o1 := it.out1
    have o2 := it.out2
    simp only [List.mem_cons, not_or] at o1 o2
    obtain ⟨hfc5, pk, p1, p2⟩ := fanIter_pos cfg hlaw hi hfc it (hfree d1 (by simp)) (hfree d2 (by simp))
      (hnone d1 (by simp)) (hnone d2 (by simp)) hs
    -- the remaining spares: not among d0, x1, x2, d1, d2
    have hsep : ∀ x ∈ sparesOf cs, x ≠ d0 ∧ x ≠ x1 ∧ x ≠ x2 ∧ x ≠ d1 ∧ x ≠ d2 := by
      intro x hx
      obtain ⟨_, b⟩ := hsp x (by simp [hx])
      simp only [List.mem_cons, not_or] at b
      exact ⟨b.1, b.2.1, b.2.2.1, fun hh => hsnd.1.2 (hh ▸ hx), fun hh => hsnd.2.1 (hh ▸ hx)⟩
    have vsp : ∀ x ∈ sparesOf cs, Valid m x := fun x hx => valid_of_live hi (hsp x (by simp [hx])).1
    obtain ⟨j1, j2, j3, j4, j5⟩ := ih hfc5
      (fun x hx i hi3 => by
        obtain ⟨a0, a1, a2, a3, a4⟩ := hsep x hx
        rw [it.β_other a0 a1 a2 a3 a4 i]
        exact hfree x (by simp [hx]) i hi3)
      (fun x hx => by
        obtain ⟨_, _, _, a3, a4⟩ := hsep x hx
        rw [pk x (vsp x hx) a3 a4]
        exact hnone x (by simp [hx]))
    have v0 := valid_of_live hi l0
    have vL : ∀ y ∈ x2 :: L', Valid m y := fun y hy =>
      B1Chain.valid hi.wf _ d0 v0 hnz it.chain y (List.mem_cons_of_mem _ hy)
    have keep5 : ∀ d, Valid m d → d ≠ d1 → d ≠ d2 → d ∉ sparesOf cs → pos m' d = pos m d := by
      intro d hd h1 h2 h3
      rw [j3 d (valid_trans hi it.inv hd) h3, pk d hd h1 h2]
    have hd0sp : d0 ∉ sparesOf cs := fun hh => (hsp d0 (by simp [hh])).2 (by simp)
    have hx1sp : x1 ∉ sparesOf cs := fun hh => (hsp x1 (by simp [hh])).2 (by simp)
    refine ⟨j1, j2, ?_, ?_, ?_⟩
    · intro d hd hns
      rw [sparesOf_cons] at hns
      simp only [List.mem_cons, not_or] at hns
      exact keep5 d hd hns.1 hns.2.1 hns.2.2
    · have eT : posTri m' (d0, x1, d1) = (pos m d0, pos m x1, pos m x2) := by
        show (pos m' d0, pos m' x1, pos m' d1) = _
        rw [keep5 d0 v0 (Ne.symm o1.1) (Ne.symm o2.1) hd0sp,
          keep5 x1 (valid_of_live hi lx1) (Ne.symm o1.2.1) (Ne.symm o2.2.1) hx1sp,
          j3 d1 (valid_of_live it.inv l1) hsnd.1.2, p1]
      simp only [loopTris, List.map_cons, List.length_cons, fanValTris]
      rw [eT, j4, p2, ← List.map_cons]
      refine congrArg (fun l => (pos m d0, pos m x1, pos m x2) :: fanValTris (pos m d0) l cs.length) ?_
      apply List.map_congr_left
      intro y hy
      have y1 : y ≠ d1 := fun c => by
        rw [c, List.mem_cons] at hy
        exact hy.elim o1.2.2.1 o1.2.2.2
      have y2 : y ≠ d2 := fun c => by
        rw [c, List.mem_cons] at hy
        exact hy.elim o2.2.2.1 o2.2.2.2
      exact pk y (vL y hy) y1 y2
    · simp only [loopEnd]
      rw [j5, p2]

/-! ## the whole fan from the apex dart -/

theorem fanValTris_succ {α : Type} (a : α) : ∀ (k : Nat) (vs : List α) (y1 y2 : α), vs.drop k = [y1, y2] →
    fanValTris a vs (k + 1) = fanValTris a vs k ++ [(a, y1, y2)] := by
  intro k
  induction k with
  | zero =>
      intro vs y1 y2 h
      simp only [List.drop_zero] at h
      subst h
      simp [fanValTris]
  | succ k ih =>
      intro vs y1 y2 h
      match vs, h with
      | [], h => simp at h
      | [_], h => simp at h
      | v1 :: v2 :: rest, h =>
        simp only [List.drop_succ_cons] at h
        simp only [fanValTris, ih (v2 :: rest) y1 y2 h, List.cons_append]

/-- rewriting a vertex with the value it already carries changes no coordinates -/
theorem writeVtx_pos {m m' : Map Val} {vid : Nat} {v : Val} {a : Option Val}
    (h : run (writeVtx vid v) m = (.ok a, m')) (hv : m.att 0 vid = some v) :
    SameTopo m m' ∧ ∀ d, pos m' d = pos m d := by
  have st := attrOnly_writeVtx vid v m
  rw [h] at st
  refine ⟨st, fun d => ?_⟩
  unfold pos
  rw [cellId_sameTopo st _ d]
  unfold writeVtx at h
  simp only [bind] at h
  rw [run_rA] at h
  by_cases hok : m.okA 0 vid = true
  · simp only [hok, if_true, run_wA, Prog.pure_eq, run_ret, Prod.mk.injEq] at h
    obtain ⟨_, rfl⟩ := h
    rw [Map.att_setA]
    by_cases hc : 0 = 0 ∧ vid = cellId m .vertex d ∧ m.okA 0 vid = true
    · rw [if_pos hc, ← hc.2.1, hv]
    · rw [if_neg hc]
  · simp [hok] at h

/-- **the coordinates after a fan from the apex dart `s`** of the closed face `s :: L` with fresh spare darts
    (free, valueless): every dart that is not a spare dart keeps its coordinates, and the corners of the `n - 2`
    triangles, read through the vertex identifiers of the result map, are `(apex, L[j], L[j+1])` -/
theorem fanFrom_pos (cfg : Cfg Val) (hlaw : cfg.law 0 = avgLaw) (s : Nat) (nds : List Nat) (L : List Nat)
    (m m' : Map Val) (hi : Inv n u m) (hfc : m.fc = 0) (hc : ClosedFace m s L)
    (hlen : L.length = (chunks2 nds).length + 2) (hsnd : (sparesOf (chunks2 nds)).Nodup)
    (hsp : ∀ x ∈ sparesOf (chunks2 nds), Live n u x ∧ x ∉ s :: L)
    (hfree : ∀ x ∈ sparesOf (chunks2 nds), ∀ i, i < 3 → m.β i x = 0)
    (hnone : ∀ x ∈ sparesOf (chunks2 nds), pos m x = none)
    (h : run (fanFrom cfg n s nds) m = (.ok (), m')) :
    (∀ d, Valid m d → d ∉ sparesOf (chunks2 nds) → pos m' d = pos m d) ∧
    ∃ x1 x2, L.drop (chunks2 nds).length = [x1, x2] ∧
      (loopTris s L (chunks2 nds) ++ [(loopEnd s (chunks2 nds), x1, x2)]).map (posTri m') =
        fanValTris (pos m s) (L.map (pos m)) ((chunks2 nds).length + 1) := by
  obtain ⟨vid, v0, m1, m2, m3, r, x1, x2, vid2, _, hLne, hvid, hv0, ls, hb0, s1, i1, e1, hch1, s2, i2, lr, hr, hD,
    ⟨c1, c2, _⟩, lx2, s3, hvid2, s4⟩ := fanFrom_elim cfg n s nds L m m' hi hc hlen hsnd hsp h
  have hp : FacePath m s L := hc.facePath
  have hwf := hi.wf
  have vs : Valid m s := valid_of_live hi ls
  have hvidc : vid = cellId m .vertex s := by
    have := (C03_vertexId2_min hwf vs.1 vs.2).1
    rw [hi.n_eq, hvid] at this
    exact (Prod.mk.inj this).1 |> Out.ok.inj
  have hv0' : pos m s = some v0 := by
    rw [run_rA'] at hv0
    by_cases hok : m.okA 0 vid = true
    · simp only [hok, if_true, Prod.mk.injEq] at hv0
      unfold pos; rw [← hvidc]; exact Out.ok.inj hv0.1
    · simp [hok] at hv0
  obtain ⟨hfc1, L1⟩ := Lab.unsew1 (p := pos m) (F := []) cfg hlaw hi hfc (fun _ _ => Or.inl rfl) s1
  have pA : ∀ d, Valid m d → pos m1 d = pos m d := fun d hd => L1.nil (valid_trans hi i1 hd)
  have hfree1 : ∀ x ∈ sparesOf (chunks2 nds), ∀ i, i < 3 → m1.β i x = 0 := by
    intro x hx i hi3
    rw [e1]
    by_cases c1 : 0 = i ∧ s = x
    · rw [if_pos c1]
    · rw [if_neg c1]
      by_cases c2 : 1 = i ∧ m.β 0 s = x
      · rw [if_pos c2]
      · rw [if_neg c2]; exact hfree x hx i hi3
  have vsp : ∀ x ∈ sparesOf (chunks2 nds), Valid m x := fun x hx => valid_of_live hi (hsp x hx).1
  have hnone1 : ∀ x ∈ sparesOf (chunks2 nds), pos m1 x = none := fun x hx => by
    rw [pA x (vsp x hx)]; exact hnone x hx
  obtain ⟨_, _, _, _, _, _, hf2, _, _⟩ :=
    fanLoop_struct cfg n _ s L m1 m2 r i1 ls hch1 hlen hp.nodup hp.nz hsnd hsp s2
  obtain ⟨_, hfc2, pB, trisB, endB⟩ :=
    fanLoop_pos cfg hlaw _ s L m1 m2 r i1 ls hch1 hlen hp.nodup hp.nz hsnd hsp s2 hfc1 hfree1 hnone1
  rw [← hr] at endB
  have hx1L : x1 ∈ L := List.mem_of_mem_drop (by rw [hD]; simp)
  have hx2L : x2 ∈ L := List.mem_of_mem_drop (by rw [hD]; simp)
  obtain ⟨i3, _, _, e3⟩ := oneSew2_eff cfg n i2 lx2 lr s3
  -- `β1 x2 = s` in the original map
  have hx2s : m.β 1 x2 = s := by
    have hL : L = L.take (chunks2 nds).length ++ [x1, x2] := by rw [← hD, List.take_append_drop]
    have hch := hc.chain
    rw [hL] at hch
    have e : (L.take (chunks2 nds).length ++ [x1, x2]) ++ [s] =
        (L.take (chunks2 nds).length ++ [x1]) ++ x2 :: [s] := by simp
    rw [e, B1Chain.append] at hch
    exact hch.2.1
  have vx2 : Valid m x2 := valid_of_live hi lx2
  have hx2sp : x2 ∉ sparesOf (chunks2 nds) := fun hh => (hsp x2 hh).2 (List.mem_cons_of_mem _ hx2L)
  have hssp : s ∉ sparesOf (chunks2 nds) := fun hh => (hsp s hh).2 (by simp)
  have hb2x2 : m2.β 2 x2 = m.β 2 x2 := by
    rw [hf2 x2 hx2sp, e1, if_neg (fun hh => absurd hh.1 (by decide)), if_neg (fun hh => absurd hh.1 (by decide))]
  have p12 : ∀ d, Valid m d → d ∉ sparesOf (chunks2 nds) → pos m2 d = pos m d := fun d hd hns => by
    rw [pB d (valid_trans hi i1 hd) hns, pA d hd]
  have hpr : pos m2 r = pos m s := by rw [endB, pA s vs]
  -- the closing sew unites the vertex of the neighbour across `x2` (if any) with that of `r`: both carry the apex
  obtain ⟨_, L3, _⟩ := Lab.sew1 (p := pos m2) (F := []) cfg hlaw i2 hfc2 lx2 lr (fun _ _ => Or.inl rfl) (by
    rw [hb2x2]
    intro hnb
    obtain ⟨hnbv, hnbp⟩ := nb_pos hwf vx2 vs hx2s hnb
    have hnbsp : m.β 2 x2 ∉ sparesOf (chunks2 nds) := fun hh =>
      nb_ne_free hwf vx2 (hsp _ hh).1.1 (hfree _ hh 2 (by omega)) rfl
    refine ⟨?_, Or.inl List.not_mem_nil⟩
    rw [p12 _ hnbv hnbsp, hpr]
    exact hnbp) s3
  have pC : ∀ d, Valid m d → pos m3 d = pos m2 d := fun d hd => L3.nil (valid_trans hi i3 hd)
  -- the final write puts back the apex value
  have hvid2c : vid2 = cellId m3 .vertex s := by
    have v3 := valid_trans hi i3 vs
    have := (C03_vertexId2_min i3.wf v3.1 v3.2).1
    rw [i3.n_eq, hvid2] at this
    exact (Prod.mk.inj this).1 |> Out.ok.inj
  have hatt3 : m3.att 0 vid2 = some v0 := by
    have : pos m3 s = some v0 := by rw [pC s vs, p12 s vs hssp]; exact hv0'
    rw [hvid2c]; exact this
  obtain ⟨_, pD⟩ := writeVtx_pos s4 hatt3
  have pall : ∀ d, Valid m d → pos m' d = pos m2 d := fun d hd => by rw [pD d, pC d hd]
  refine ⟨fun d hd hns => by rw [pall d hd, p12 d hd hns], x1, x2, hD, ?_⟩
  have hmapL : L.map (pos m1) = L.map (pos m) := by
    apply List.map_congr_left
    intro y hy
    exact pA y (B1Chain.valid hwf L s vs hp.nz hp.chain y hy)
  have eT : (loopTris s L (chunks2 nds)).map (posTri m')
      = fanValTris (pos m s) (L.map (pos m)) (chunks2 nds).length := by
    rw [← pA s vs, ← hmapL, ← trisB]
    apply List.map_congr_left
    intro t ht
    obtain ⟨a, b, c⟩ := loopTris_mem _ _ _ t ht
    have va : Valid m t.1 := by
      rcases a with a | a
      · rw [a]; exact vs
      · exact vsp _ a
    have vb : Valid m t.2.1 :=
      B1Chain.valid hwf L s vs hp.nz hp.chain _ (List.mem_of_mem_take b)
    have vc : Valid m t.2.2 := vsp _ c
    unfold posTri
    rw [pall _ va, pall _ vb, pall _ vc]
  have eL : posTri m' (loopEnd s (chunks2 nds), x1, x2) = (pos m s, pos m x1, pos m x2) := by
    have vr : Valid m r := valid_of_live hi lr
    have vx1 : Valid m x1 := B1Chain.valid hwf L s vs hp.nz hp.chain x1 hx1L
    have hx1sp : x1 ∉ sparesOf (chunks2 nds) := fun hh => (hsp x1 hh).2 (List.mem_cons_of_mem _ hx1L)
    rw [← hr]
    show (pos m' r, pos m' x1, pos m' x2) = _
    rw [pall r vr, hpr, pall x1 vx1, p12 x1 vx1 hx1sp, pall x2 vx2, p12 x2 vx2 hx2sp]
  rw [fanValTris_succ (pos m s) _ (L.map (pos m)) (pos m x1) (pos m x2)
    (by rw [← List.map_drop, hD]; rfl), List.map_append, eT, List.map_cons, List.map_nil, eL]

/-! ## from dart values to the vertex-list triangles -/

/-- what `faceVertices` reads: the coordinates of the darts, through their vertex identifiers -/
theorem faceVertices_pos {m : Map Val} (hwf : WF 3 m) : ∀ (ds : List Nat) (vals : List Val) (m' : Map Val),
    (∀ d ∈ ds, Valid m d) → run (faceVertices m.n ds) m = (.ok vals, m') → vals.map some = ds.map (pos m) := by
  intro ds
  induction ds with
  | nil => intro vals m' _ h; simp [faceVertices] at h; obtain ⟨rfl, _⟩ := h; rfl
  | cons d rest ih =>
      intro vals m' hv h
      unfold faceVertices at h
      obtain ⟨vid, h1, h⟩ := run_ro_bind_ok (readOnly_vertexId2 m.n d) h
      obtain ⟨v, hv0, h⟩ := run_ro_bind_ok (ReadOnly.rA 0 vid) h
      have vd := hv d (by simp)
      have hvidc : vid = cellId m .vertex d := by
        have := (C03_vertexId2_min hwf vd.1 vd.2).1
        rw [h1] at this
        exact (Prod.mk.inj this).1 |> Out.ok.inj
      cases v with
      | none => simp at h
      | some v =>
          simp only at h
          obtain ⟨r, m2, h2, hfin⟩ := run_bind_ok h
          obtain ⟨_, e2⟩ := faceVertices_length _ _ _ _ _ h2
          rw [e2] at h2 hfin
          have e1 := ih r _ (fun x hx => hv x (List.mem_cons_of_mem _ hx)) h2
          simp at hfin
          obtain ⟨hvals, _⟩ := hfin
          rw [← hvals]
          have hp : pos m d = some v := by
            rw [run_rA'] at hv0
            by_cases hok : m.okA 0 vid = true
            · simp only [hok, if_true, Prod.mk.injEq] at hv0
              unfold pos; rw [← hvidc]; exact Out.ok.inj hv0.1
            · simp [hok] at hv0
          simp only [List.map_cons, e1, hp]

theorem fanValTris_map {α β : Type} (f : α → β) (a : α) : ∀ (vs : List α) (k : Nat),
    fanValTris (f a) (vs.map f) k = (fanValTris a vs k).map (fun t => (f t.1, f t.2.1, f t.2.2)) := by
  intro vs
  induction vs with
  | nil => intro k; simp [fanValTris]
  | cons v1 rest ih =>
      intro k
      cases rest with
      | nil => simp [fanValTris]
      | cons v2 r =>
          cases k with
          | zero => simp [fanValTris]
          | succ k =>
              have := ih k
              simp only [List.map_cons] at this
              simp only [List.map_cons, fanValTris, this]

theorem fanValTris_zip {α : Type} (a : α) : ∀ (vs : List α) (k : Nat), vs.length = k + 1 →
    fanValTris a vs k = (vs.zip vs.tail).map (fun bc => (a, bc.1, bc.2)) := by
  intro vs
  induction vs with
  | nil => intro k h; simp at h
  | cons v1 rest ih =>
      intro k h
      cases rest with
      | nil => simp [fanValTris]
      | cons v2 r =>
          cases k with
          | zero => simp at h
          | succ k =>
              have := ih k (by simp at h ⊢; omega)
              simp only [List.tail_cons] at this ⊢
              simp only [fanValTris, this, List.zip_cons_cons, List.map_cons]

theorem filterMap_of_map_some {α β : Type} (f : α → Option β) : ∀ (l : List α) (ys : List β),
    l.map f = ys.map some → l.filterMap f = ys := by
  intro l
  induction l with
  | nil => intro ys h; cases ys with
    | nil => rfl
    | cons _ _ => simp at h
  | cons x rest ih =>
      intro ys h
      cases ys with
      | nil => simp at h
      | cons y ys' =>
          simp only [List.map_cons, List.cons.injEq] at h
          rw [List.filterMap_cons, h.1, ih ys' h.2]

/-- the triangle of 2D points carried by the three corners of a dart triangle (if all three are defined) -/
def triP2 (m : Map Val) (t : Nat × Nat × Nat) : Option Tri :=
  match pos m t.1, pos m t.2.1, pos m t.2.2 with
  | some a, some b, some c => some (a.p2, b.p2, c.p2)
  | _, _, _ => none

/-- the triangles of the result map as 2D triangles -/
def mapTris (m : Map Val) (ts : List (Nat × Nat × Nat)) : List Tri := ts.filterMap (triP2 m)

theorem triP2_of_posTri {m : Map Val} {t : Nat × Nat × Nat} {a b c : Val}
    (h : posTri m t = (some a, some b, some c)) : triP2 m t = some (a.p2, b.p2, c.p2) := by
  unfold posTri at h
  simp only [Prod.mk.injEq] at h
  unfold triP2
  rw [h.1, h.2.1, h.2.2]

/-- the list form: if the corners carry the fan of the rotated value list, the 2D triangles are `fanTriangles` -/
theorem triP2_of_fanValTris {m : Map Val} (ts : List (Nat × Nat × Nat)) (vals : List Val) (id : Nat) (v : Val)
    (vl : List Val) (k : Nat) (hrot : vals.drop id ++ vals.take id = v :: vl) (hk : vl.length = k + 1)
    (h : ts.map (posTri m) = fanValTris (some v) (vl.map some) k) :
    ts.map (triP2 m) = (fanTriangles (vals.map Val.p2) id).map some := by
  have hft : fanTriangles (vals.map Val.p2) id = (fanValTris v vl k).map (fun t => (t.1.p2, t.2.1.p2, t.2.2.p2)) := by
    unfold fanTriangles rotL
    rw [← List.map_drop, ← List.map_take, ← List.map_append, hrot]
    simp only [List.map_cons]
    rw [← fanValTris_zip (Val.p2 v) (vl.map Val.p2) k (by simp [hk]), fanValTris_map]
  rw [hft, fanValTris_map] at *
  clear hft
  generalize fanValTris v vl k = F at h
  induction ts generalizing F with
  | nil => cases F with
    | nil => rfl
    | cons _ _ => simp at h
  | cons t rest ih =>
      cases F with
      | nil => simp at h
      | cons T F' =>
          simp only [List.map_cons, List.cons.injEq] at h ⊢
          exact ⟨triP2_of_posTri h.1, ih F' h.2⟩

/-- the dart triangles of the fan of the face `s :: L` with the spare pairs `cs`, in the order they are closed:
    `(s, c1, p1), (q1, c2, p2), …` and last `(q_last, c_{n-2}, c_{n-1})` -/
def fanFaces (s : Nat) (L : List Nat) (cs : List (Nat × Nat)) : List (Nat × Nat × Nat) :=
  loopTris s L cs ++
    match L.drop cs.length with
    | [x1, x2] => [(loopEnd s cs, x1, x2)]
    | _ => []

/-- both fan kernels from the apex dart `s` of the closed face `s :: L`, spare darts fresh -/
theorem fanFrom_tie (cfg : Cfg Val) (hlaw : cfg.law 0 = avgLaw) (m m' : Map Val) (s : Nat) (L : List Nat)
    (nds : List Nat) (hwf : WF 3 m) (hfc : m.fc = 0) (hc : ClosedFace m s L)
    (hlen : L.length = (chunks2 nds).length + 2)
    (hsp : ∀ d ∈ nds, C01.InUse m d ∧ d ∉ s :: L) (hnd : nds.Nodup)
    (hfresh : ∀ d ∈ nds, (∀ i, i < 3 → m.β i d = 0) ∧ m.att 0 d = none)
    (h : run (fanFrom cfg m.n s nds) m = (.ok (), m')) :
    WF 3 m' ∧ FanResult m m' s L (chunks2 nds) ∧
    (∀ t ∈ fanFaces s L (chunks2 nds), TriFace m' t) ∧
    (fanFaces s L (chunks2 nds)).length + 1 = L.length ∧
    (∀ d, d ≠ 0 → d < m.n → d ∉ nds → pos m' d = pos m d) ∧
    (fanFaces s L (chunks2 nds)).map (posTri m') =
      fanValTris (pos m s) (L.map (pos m)) ((chunks2 nds).length + 1) := by
  have hsub := sparesOf_chunks2_sublist nds
  have hi : Inv m.n m.u m := Inv.of_wf hwf
  have hsp' : ∀ x ∈ sparesOf (chunks2 nds), Live m.n m.u x ∧ x ∉ s :: L :=
    fun x hx => ⟨(hsp x (hsub.subset hx)).1, (hsp x (hsub.subset hx)).2⟩
  obtain ⟨i1, r⟩ := C13_fan_structure (n := m.n) (u := m.u) cfg m.n s nds L m m' hi hc hlen (hnd.sublist hsub) hsp' h
  have hnone : ∀ x ∈ sparesOf (chunks2 nds), pos m x = none := by
    intro x hx
    have hx' := hsub.subset hx
    rw [pos_free hwf (valid_of_live hi (hsp' x hx).1) (hfresh x hx').1]
    exact (hfresh x hx').2
  obtain ⟨keep, x1, x2, hD, tris⟩ := fanFrom_pos (n := m.n) (u := m.u) cfg hlaw s nds L m m' hi hfc hc hlen
    (hnd.sublist hsub) hsp' (fun x hx => (hfresh x (hsub.subset hx)).1) hnone h
  have hff : fanFaces s L (chunks2 nds) = loopTris s L (chunks2 nds) ++ [(loopEnd s (chunks2 nds), x1, x2)] := by
    unfold fanFaces; rw [hD]
  refine ⟨i1.wf, r, ?_, ?_, fun d hd0 hdlt hdn => keep d ⟨hd0, hdlt⟩ (fun hh => hdn (hsub.subset hh)), ?_⟩
  rotate_left
  · rw [hff, List.length_append]
    have := r.2.1
    simp only [List.length_singleton]
    omega
  rotate_left
  · obtain ⟨⟨y1, y2, hD', ht⟩, _⟩ := r
    rw [hD] at hD'
    simp only [List.cons.injEq, and_true] at hD'
    rw [hff, hD'.1, hD'.2]
    exact ht
  · rw [hff]; exact tris

/-- a closed face read from its dart of index `id` -/
theorem ClosedFace.rotL {m : Map Val} {a : Nat} {rest : List Nat} (hc : ClosedFace m a rest) (id : Nat)
    (hid : id < (a :: rest).length) :
    ∃ L, (a :: rest).getD id 0 :: L = (a :: rest).drop id ++ (a :: rest).take id ∧
      ClosedFace m ((a :: rest).getD id 0) L := by
  cases id with
  | zero => exact ⟨rest, by simp, by simpa using hc⟩
  | succ j =>
      simp only [List.length_cons, Nat.add_lt_add_iff_right] at hid
      have hsplit : rest = rest.take j ++ rest[j] :: rest.drop (j + 1) := by
        rw [List.getElem_cons_drop, List.take_append_drop]
      have hget : (a :: rest).getD (j + 1) 0 = rest[j] := by
        simp [List.getD_eq_getElem?_getD, List.getElem?_eq_getElem hid]
      rw [hget]
      refine ⟨rest.drop (j + 1) ++ a :: rest.take j, ?_, ?_⟩
      · simp only [List.drop_succ_cons, List.take_succ_cons]
        rw [← List.cons_append, List.getElem_cons_drop]
      · rw [hsplit] at hc
        exact hc.rotate_at

/-- the tie between the rotated dart list and the rotated value list -/
theorem rot_values {m : Map Val} {darts : List Nat} {vals : List Val} {id s : Nat} {L : List Nat}
    (hvals : vals.map some = darts.map (pos m)) (hrot : s :: L = darts.drop id ++ darts.take id) :
    ∃ v vl, vals.drop id ++ vals.take id = v :: vl ∧ pos m s = some v ∧ L.map (pos m) = vl.map some := by
  have e : (vals.drop id ++ vals.take id).map some = (s :: L).map (pos m) := by
    rw [hrot, List.map_append, List.map_append, List.map_drop, List.map_take, List.map_drop, List.map_take, hvals]
  cases hr : vals.drop id ++ vals.take id with
  | nil => rw [hr] at e; simp at e
  | cons v vl =>
      rw [hr] at e
      simp only [List.map_cons, List.cons.injEq] at e
      exact ⟨v, vl, rfl, e.1.symm, e.2.symm⟩

/-! ## the triangles of the vertex-list fan are the sides seen from the apex -/

theorem mod_wrap (a n : Nat) (h : a < 2 * n) : a % n = if a < n then a else a - n := by
  by_cases c : a < n
  · rw [if_pos c, Nat.mod_eq_of_lt c]
  · rw [if_neg c, Nat.mod_eq_sub_mod (by omega), Nat.mod_eq_of_lt (by omega)]

theorem rot_get (vs : List P2) (k : Nat) (hk : k < vs.length) (j : Nat) (hj : j < vs.length - 1) :
    (vs.drop (k + 1) ++ vs.take k).getD j default = vs.getD ((k + 1 + j) % vs.length) default := by
  rw [mod_wrap _ _ (by omega)]
  simp only [List.getD_eq_getElem?_getD]
  by_cases c : k + 1 + j < vs.length
  · rw [if_pos c, List.getElem?_append_left (by rw [List.length_drop]; omega), List.getElem?_drop]
  · rw [if_neg c, List.getElem?_append_right (by rw [List.length_drop]; omega), List.length_drop,
      List.getElem?_take_of_lt (by omega)]
    congr 2
    omega

/-- every triangle of `fanTriangles vs k` is `(v_k, v_i, v_{i+1})` for a side `i` not incident to the apex -/
theorem fanTriangles_mem (vs : List P2) (k : Nat) (hk : k < vs.length) (T : Tri) (hT : T ∈ fanTriangles vs k) :
    ∃ i, i < vs.length ∧ i ≠ k ∧ (i + 1) % vs.length ≠ k ∧ tri2 T = sideCross vs k i := by
  unfold fanTriangles rotL at hT
  rw [← List.getElem_cons_drop (h := hk)] at hT
  simp only [List.cons_append, List.mem_map] at hT
  obtain ⟨bc, hbc, rfl⟩ := hT
  obtain ⟨j, hj, hget⟩ := List.mem_iff_getElem.1 hbc
  have hlen : (vs.drop (k + 1) ++ vs.take k).length = vs.length - 1 := by
    rw [List.length_append, List.length_drop, List.length_take]; omega
  simp only [List.length_zip, List.length_tail, hlen] at hj
  rw [List.getElem_zip] at hget
  have hj1 : j < vs.length - 1 := by omega
  have hj2 : j + 1 < vs.length - 1 := by omega
  have g1 := rot_get vs k hk j hj1
  have g2 := rot_get vs k hk (j + 1) hj2
  rw [← List.getElem_eq_getD (h := by rw [hlen]; exact hj1)] at g1
  rw [← List.getElem_eq_getD (h := by rw [hlen]; exact hj2)] at g2
  have hn : 0 < vs.length := by omega
  refine ⟨(k + 1 + j) % vs.length, Nat.mod_lt _ hn, ?_, ?_, ?_⟩
  · rw [mod_wrap _ _ (by omega)]
    by_cases c : k + 1 + j < vs.length
    · rw [if_pos c]; omega
    · rw [if_neg c]; omega
  · rw [Nat.mod_add_mod, mod_wrap _ _ (by omega)]
    by_cases c : k + 1 + j + 1 < vs.length
    · rw [if_pos c]; omega
    · rw [if_neg c]; omega
  · unfold tri2 sideCross
    rw [Nat.mod_add_mod, ← hget]
    simp only [List.getElem_tail]
    rw [← g1, show k + 1 + j + 1 = k + 1 + (j + 1) by omega, ← g2, ← List.getElem_eq_getD (h := hk)]

theorem sum_pos_of_pos : ∀ (l : List Rat), l ≠ [] → (∀ x ∈ l, 0 < x) → 0 < l.sum := by
  intro l
  induction l with
  | nil => intro h _; exact absurd rfl h
  | cons x rest ih =>
      intro _ h
      rw [List.sum_cons]
      have hx := h x (by simp)
      cases rest with
      | nil => simpa using hx
      | cons y r =>
          have := ih (by simp) (fun z hz => h z (List.mem_cons_of_mem _ hz))
          linarith

theorem sum_neg_of_neg : ∀ (l : List Rat), l ≠ [] → (∀ x ∈ l, x < 0) → l.sum < 0 := by
  intro l
  induction l with
  | nil => intro h _; exact absurd rfl h
  | cons x rest ih =>
      intro _ h
      rw [List.sum_cons]
      have hx := h x (by simp)
      cases rest with
      | nil => simpa using hx
      | cons y r =>
          have := ih (by simp) (fun z hz => h z (List.mem_cons_of_mem _ hz))
          linarith

theorem fan_kernel_closed (cfg : Cfg Val) (m m' : Map Val) (face : Nat) (nds rest : List Nat) (hwf : WF 3 m)
    (hc : ClosedFace m face rest) (h : run (fanCell cfg m.n face nds) m = (.ok (), m')) :
    ∃ (vals : List Val) (id : Nat) (L : List Nat),
      run (faceVertices m.n (face :: rest)) m = (.ok vals, m) ∧
      4 ≤ (face :: rest).length ∧ nds.length = 2 * ((face :: rest).length - 3) ∧
      fanStar (vals.map Val.p2) = some (some id) ∧
      run (fanFrom cfg m.n ((face :: rest).getD id 0) nds) m = (.ok (), m') ∧
      (face :: rest).getD id 0 :: L = (face :: rest).drop id ++ (face :: rest).take id ∧
      ClosedFace m ((face :: rest).getD id 0) L ∧ L.length = rest.length ∧
      (∀ x, x ∈ (face :: rest).getD id 0 :: L → x ∈ face :: rest) := by
  obtain ⟨darts, vals, id, h1, h2, h4, hn, hs, hfrom, _⟩ := C13_fan_kernel_star cfg m.n face nds m m' h
  have hd : darts = face :: rest := by
    have := closedFace_orbit_eq hwf hc
    rw [h1] at this
    exact Out.ok.inj (Prod.mk.inj this).1
  rw [hd] at h2 h4 hn hfrom
  obtain ⟨hvl, _⟩ := faceVertices_length m.n _ _ _ _ h2
  have hid : id < (face :: rest).length := by
    have := (fanStarFrom_some _ _ id hs).1
    simpa [hvl] using this
  obtain ⟨L, hrot, hcs⟩ := hc.rotL id hid
  have hLlen : L.length = rest.length := by
    have := congrArg List.length hrot
    simp only [List.length_cons, List.length_append, List.length_drop, List.length_take] at this hid
    omega
  have hk := chunks2_length nds
  have hmem : ∀ x, x ∈ (face :: rest).getD id 0 :: L → x ∈ face :: rest := by
    intro x hx
    rw [hrot, List.mem_append] at hx
    rcases hx with hx | hx
    · exact List.mem_of_mem_drop hx
    · exact List.mem_of_mem_take hx
  exact ⟨vals, id, L, h2, h4, hn, hs, hfrom, hrot, hcs, hLlen, hmem⟩

/-- **C13, the triangles of the map carry the triangles of the vertex list (`fan_cell`)**.  On a closed face
    `face :: rest` of a well-formed map, with spare darts that are in use, pairwise distinct, outside the face and
    FRESH (free: all β null; valueless: no vertex value stored under them), every successful run
    * read the vertex list `vals` of the face (`faceVertices`), found the star index `id` on it (`fanStar`),
    * fanned the face from its dart `s` of index `id`: `s :: L` is the face read from `s`, the `n - 2` dart triangles
      `fanFaces s L _` are closed β1-cycles of the result (`TriFace`), and
    * the corners of the k-th dart triangle, read through the vertex identifiers of the RESULT map
      (`pos m' d = m'.att 0 (vertex_id d)`), are the k-th triangle of `fanTriangles (vals.map Val.p2) id`, the
      vertex-list computation of `C13_fan_area_sum` / `C13_fan_apex_sees_all`.
    Needs the vertex merge law to be the average (`Vertex2`), and no injected failure (`fc = 0`). -/
theorem C13_fan_triangles_carry_list_coordinates (cfg : Cfg Val) (hlaw : cfg.law 0 = avgLaw) (m m' : Map Val)
    (face : Nat) (nds rest : List Nat) (hwf : WF 3 m) (hfc : m.fc = 0) (hc : ClosedFace m face rest)
    (hsp : ∀ d ∈ nds, C01.InUse m d ∧ d ∉ face :: rest) (hnd : nds.Nodup)
    (hfresh : ∀ d ∈ nds, (∀ i, i < 3 → m.β i d = 0) ∧ m.att 0 d = none)
    (h : run (fanCell cfg m.n face nds) m = (.ok (), m')) :
    ∃ (vals : List Val) (id s : Nat) (L : List Nat),
      run (faceVertices m.n (face :: rest)) m = (.ok vals, m) ∧
      fanStar (vals.map Val.p2) = some (some id) ∧
      s :: L = (face :: rest).drop id ++ (face :: rest).take id ∧
      ClosedFace m s L ∧ WF 3 m' ∧
      (∀ t ∈ fanFaces s L (chunks2 nds), TriFace m' t) ∧
      (fanFaces s L (chunks2 nds)).length + 2 = (face :: rest).length ∧
      (fanFaces s L (chunks2 nds)).map (triP2 m') = (fanTriangles (vals.map Val.p2) id).map some ∧
      (∀ d, d ≠ 0 → d < m.n → d ∉ nds → pos m' d = pos m d) := by
  obtain ⟨vals, id, L, h2, h4, hn, hs, hfrom, hrot, hcs, hLlen, hmem⟩ := fan_kernel_closed cfg m m' face nds rest hwf hc h
  have hk := chunks2_length nds
  obtain ⟨wf', _, faces, flen, keep, tris⟩ := fanFrom_tie cfg hlaw m m' _ L nds hwf hfc hcs
    (by simp only [List.length_cons] at h4 hn; omega)
    (fun d hd => ⟨(hsp d hd).1, fun hh => (hsp d hd).2 (hmem d hh)⟩) hnd hfresh hfrom
  have hvals := faceVertices_pos hwf _ _ _ (fun d hd => ⟨hc.nz d hd, hc.lt hwf hd⟩) h2
  obtain ⟨v, vl, hr, hv, hvl'⟩ := rot_values hvals hrot
  rw [hv, hvl'] at tris
  have hvll : vl.length = (chunks2 nds).length + 1 + 1 := by
    have := congrArg List.length hvl'
    simp only [List.length_map] at this
    simp only [List.length_cons] at h4 hn
    omega
  exact ⟨vals, id, _, L, h2, hs, hrot, hcs, wf', faces, by simp only [List.length_cons]; omega,
    triP2_of_fanValTris _ vals id v vl _ hr hvll tris, keep⟩

/-- **C13, the area of the polygon is conserved IN THE MAP (`fan_cell`)**: the cross products of the dart triangles of
    the result, with corners read through the result's vertex identifiers, add up to twice the signed area of the
    polygon read before the fan -/
theorem C13_fan_area_conserved_in_map (cfg : Cfg Val) (hlaw : cfg.law 0 = avgLaw) (m m' : Map Val)
    (face : Nat) (nds rest : List Nat) (hwf : WF 3 m) (hfc : m.fc = 0) (hc : ClosedFace m face rest)
    (hsp : ∀ d ∈ nds, C01.InUse m d ∧ d ∉ face :: rest) (hnd : nds.Nodup)
    (hfresh : ∀ d ∈ nds, (∀ i, i < 3 → m.β i d = 0) ∧ m.att 0 d = none)
    (h : run (fanCell cfg m.n face nds) m = (.ok (), m')) :
    ∃ (vals : List Val) (id s : Nat) (L : List Nat),
      run (faceVertices m.n (face :: rest)) m = (.ok vals, m) ∧
      s :: L = (face :: rest).drop id ++ (face :: rest).take id ∧
      (∀ t ∈ fanFaces s L (chunks2 nds), TriFace m' t) ∧
      (mapTris m' (fanFaces s L (chunks2 nds))).length + 2 = (face :: rest).length ∧
      ((mapTris m' (fanFaces s L (chunks2 nds))).map tri2).sum = area2 (vals.map Val.p2) := by
  obtain ⟨vals, id, s, L, a1, _, a3, _, _, a6, a7, a8, _⟩ :=
    C13_fan_triangles_carry_list_coordinates cfg hlaw m m' face nds rest hwf hfc hc hsp hnd hfresh h
  have e : mapTris m' (fanFaces s L (chunks2 nds)) = fanTriangles (vals.map Val.p2) id :=
    filterMap_of_map_some _ _ _ a8
  have hl := congrArg List.length a8
  simp only [List.length_map] at hl
  exact ⟨vals, id, s, L, a1, a3, a6, by rw [e, ← hl]; exact a7, by rw [e]; exact C13_fan_area_sum _ _⟩

/-- **C13, the orientation of the triangles IN THE MAP (`fan_cell`)**: if no side of the polygon is collinear with a
    vertex it is not incident to (general position; the star test alone leaves the first examined side weak,
    `C13_fan_first_side_weak_witness`), all dart triangles of the result, corners read through the result's vertex
    identifiers, are strictly oriented like the polygon -/
theorem C13_fan_orientation_in_map (cfg : Cfg Val) (hlaw : cfg.law 0 = avgLaw) (m m' : Map Val)
    (face : Nat) (nds rest : List Nat) (hwf : WF 3 m) (hfc : m.fc = 0) (hc : ClosedFace m face rest)
    (hsp : ∀ d ∈ nds, C01.InUse m d ∧ d ∉ face :: rest) (hnd : nds.Nodup)
    (hfresh : ∀ d ∈ nds, (∀ i, i < 3 → m.β i d = 0) ∧ m.att 0 d = none)
    (hgp : ∀ vals, run (faceVertices m.n (face :: rest)) m = (.ok vals, m) → ∀ k, k < vals.length →
      ∀ i, i < vals.length → i ≠ k → (i + 1) % vals.length ≠ k → sideCross (vals.map Val.p2) k i ≠ 0)
    (h : run (fanCell cfg m.n face nds) m = (.ok (), m')) :
    ∃ (vals : List Val) (id s : Nat) (L : List Nat),
      run (faceVertices m.n (face :: rest)) m = (.ok vals, m) ∧
      s :: L = (face :: rest).drop id ++ (face :: rest).take id ∧
      (∀ t ∈ fanFaces s L (chunks2 nds), TriFace m' t) ∧
      ((0 < area2 (vals.map Val.p2) ∧ ∀ T ∈ mapTris m' (fanFaces s L (chunks2 nds)), 0 < tri2 T) ∨
       (area2 (vals.map Val.p2) < 0 ∧ ∀ T ∈ mapTris m' (fanFaces s L (chunks2 nds)), tri2 T < 0)) := by
  obtain ⟨vals, id, s, L, a1, a2, a3, _, _, a6, a7, a8, _⟩ :=
    C13_fan_triangles_carry_list_coordinates cfg hlaw m m' face nds rest hwf hfc hc hsp hnd hfresh h
  have e : mapTris m' (fanFaces s L (chunks2 nds)) = fanTriangles (vals.map Val.p2) id :=
    filterMap_of_map_some _ _ _ a8
  have hl := congrArg List.length a8
  simp only [List.length_map] at hl
  obtain ⟨hvl, _⟩ := faceVertices_length m.n _ _ _ _ a1
  have hne : (fanTriangles (vals.map Val.p2) id).map tri2 ≠ [] := by
    intro h0
    have := congrArg List.length h0
    simp only [List.length_map, List.length_nil] at this
    simp only [List.length_cons] at a7 hvl
    have hr3 : 4 ≤ (face :: rest).length := by
      obtain ⟨darts, _, _, h1, _, h4, _⟩ := C13_fan_kernel_star cfg m.n face nds m m' h
      have hd := closedFace_orbit_eq hwf hc
      rw [h1] at hd
      rw [Out.ok.inj (Prod.mk.inj hd).1] at h4
      exact h4
    simp only [List.length_cons] at hr3
    omega
  have hgp' := hgp vals a1
  have hid0 : id < vals.length := by
    have := (fanStarFrom_some _ _ id a2).1
    simpa using this
  obtain ⟨hid, hsign⟩ := C13_fan_apex_sees_all (vals.map Val.p2) id a2 (by
    intro i h1 h2 h3
    simp only [List.length_map] at h1 h3
    exact hgp' id hid0 i h1 h2 h3)
  refine ⟨vals, id, s, L, a1, a3, a6, ?_⟩
  rw [e, ← C13_fan_area_sum (vals.map Val.p2) id]
  rcases hsign with hp | hn
  · left
    have hall : ∀ T ∈ fanTriangles (vals.map Val.p2) id, 0 < tri2 T := by
      intro T hT
      obtain ⟨i, i1, i2, i3, i4⟩ := fanTriangles_mem _ id hid T hT
      rw [i4]; exact hp i i1 i2 i3
    refine ⟨sum_pos_of_pos _ hne ?_, hall⟩
    intro x hx
    obtain ⟨T, hT, rfl⟩ := List.mem_map.1 hx
    exact hall T hT
  · right
    have hall : ∀ T ∈ fanTriangles (vals.map Val.p2) id, tri2 T < 0 := by
      intro T hT
      obtain ⟨i, i1, i2, i3, i4⟩ := fanTriangles_mem _ id hid T hT
      rw [i4]; exact hn i i1 i2 i3
    refine ⟨sum_neg_of_neg _ hne ?_, hall⟩
    intro x hx
    obtain ⟨T, hT, rfl⟩ := List.mem_map.1 hx
    exact hall T hT

/-- **C13, untouched coordinates (`fan_cell`)**: every dart other than the spare darts — the darts of the polygon,
    the darts of the neighbouring faces, everything else in the map — reads the same coordinates through its vertex
    identifier after the fan as before -/
theorem C13_fan_old_vertices_keep_coordinates (cfg : Cfg Val) (hlaw : cfg.law 0 = avgLaw) (m m' : Map Val)
    (face : Nat) (nds rest : List Nat) (hwf : WF 3 m) (hfc : m.fc = 0) (hc : ClosedFace m face rest)
    (hsp : ∀ d ∈ nds, C01.InUse m d ∧ d ∉ face :: rest) (hnd : nds.Nodup)
    (hfresh : ∀ d ∈ nds, (∀ i, i < 3 → m.β i d = 0) ∧ m.att 0 d = none)
    (h : run (fanCell cfg m.n face nds) m = (.ok (), m')) :
    ∀ d, d ≠ 0 → d < m.n → d ∉ nds → pos m' d = pos m d := by
  obtain ⟨_, _, _, _, _, _, _, _, _, _, _, _, keep⟩ :=
    C13_fan_triangles_carry_list_coordinates cfg hlaw m m' face nds rest hwf hfc hc hsp hnd hfresh h
  exact keep

/-- **C13, the same for `fan_convex_cell`** (which fans from the face dart itself, index 0, without any test): when
    the vertices of the face are all defined (`faceVertices` reads `vals`), the dart triangles of the result carry
    `fanTriangles (vals.map Val.p2) 0`, their cross products add up to twice the polygon's signed area, and every dart
    other than the spare darts keeps its coordinates -/
theorem C13_fan_convex_triangles_carry_list_coordinates (cfg : Cfg Val) (hlaw : cfg.law 0 = avgLaw) (m m' : Map Val)
    (face : Nat) (nds rest : List Nat) (hwf : WF 3 m) (hfc : m.fc = 0) (hc : ClosedFace m face rest)
    (hsp : ∀ d ∈ nds, C01.InUse m d ∧ d ∉ face :: rest) (hnd : nds.Nodup)
    (hfresh : ∀ d ∈ nds, (∀ i, i < 3 → m.β i d = 0) ∧ m.att 0 d = none)
    (vals : List Val) (hvals : run (faceVertices m.n (face :: rest)) m = (.ok vals, m))
    (h : run (fanConvexCell cfg m.n face nds) m = (.ok (), m')) :
    WF 3 m' ∧ (∀ t ∈ fanFaces face rest (chunks2 nds), TriFace m' t) ∧
    (fanFaces face rest (chunks2 nds)).length + 2 = (face :: rest).length ∧
    (fanFaces face rest (chunks2 nds)).map (triP2 m') = (fanTriangles (vals.map Val.p2) 0).map some ∧
    ((mapTris m' (fanFaces face rest (chunks2 nds))).map tri2).sum = area2 (vals.map Val.p2) ∧
    (∀ d, d ≠ 0 → d < m.n → d ∉ nds → pos m' d = pos m d) := by
  obtain ⟨darts, h1, h3, hreq⟩ := C13_fanConvex_kernel cfg m.n face nds m m' h
  have hk := chunks2_length nds
  have hd : darts = face :: rest := by
    have := closedFace_orbit_eq hwf hc
    rw [h1] at this
    exact Out.ok.inj (Prod.mk.inj this).1
  rw [hd] at hreq
  simp only [List.length_cons] at hreq
  obtain ⟨wf', _, faces, flen, keep, tris⟩ := fanFrom_tie cfg hlaw m m' face rest nds hwf hfc hc
    (by omega) hsp hnd hfresh h3
  have hv := faceVertices_pos hwf _ _ _ (fun d hd => ⟨hc.nz d hd, hc.lt hwf hd⟩) hvals
  obtain ⟨v, vl, hr, hv1, hvl'⟩ := rot_values (id := 0) (s := face) (L := rest) hv (by simp)
  rw [hv1, hvl'] at tris
  have hvll : vl.length = (chunks2 nds).length + 1 + 1 := by
    have := congrArg List.length hvl'
    simp only [List.length_map] at this
    omega
  have carry := triP2_of_fanValTris _ vals 0 v vl _ hr hvll tris
  have e : mapTris m' (fanFaces face rest (chunks2 nds)) = fanTriangles (vals.map Val.p2) 0 :=
    filterMap_of_map_some _ _ _ carry
  exact ⟨wf', faces, by simp only [List.length_cons]; omega, carry, by rw [e]; exact C13_fan_area_sum _ _, keep⟩

/-! ## non-vacuity: the pentagon of `d7Map` (face 1–5, spare darts 6–9) -/

theorem d7_spares : ∀ d ∈ [6, 7, 8, 9], C01.InUse d7Map d ∧ d ∉ [1, 2, 3, 4, 5] := by decide +kernel
theorem d7_fresh : ∀ d ∈ [6, 7, 8, 9], (∀ i, i < 3 → d7Map.β i d = 0) ∧ d7Map.att 0 d = none := by decide +kernel

/-- the hypotheses hold on the pentagon; `fan_cell` fans it from dart 2 (apex index 1) -/
example : ∃ (vals : List Val) (id s : Nat) (L : List Nat),
    run (faceVertices d7Map.n [1, 2, 3, 4, 5]) d7Map = (.ok vals, d7Map) ∧
    fanStar (vals.map Val.p2) = some (some id) ∧ s :: L = [1, 2, 3, 4, 5].drop id ++ [1, 2, 3, 4, 5].take id ∧
    (fanFaces s L (chunks2 [6, 7, 8, 9])).map (triP2 (run (fanCell (stdCfg 3 0) d7Map.n 1 [6, 7, 8, 9]) d7Map).2)
      = (fanTriangles (vals.map Val.p2) id).map some := by
  obtain ⟨vals, id, s, L, a1, a2, a3, _, _, _, _, a8, _⟩ :=
    C13_fan_triangles_carry_list_coordinates (stdCfg 3 0) rfl d7Map _ 1 [6, 7, 8, 9] [2, 3, 4, 5] d7_wf rfl d7_closed
      d7_spares (by decide) d7_fresh (run_eq_of_fst (congrArg Prod.fst d7_fan_run))
  exact ⟨vals, id, s, L, a1, a2, a3, a8⟩

/-- concretely: the dart triangles (2,3,6), (7,4,8), (9,5,1) of the result carry the three triangles of the list fan
    from vertex 1 = (2,1), in order -/
example : fanFaces 2 [3, 4, 5, 1] (chunks2 [6, 7, 8, 9]) = [(2, 3, 6), (7, 4, 8), (9, 5, 1)] := by decide +kernel

example : [(2, 3, 6), (7, 4, 8), (9, 5, 1)].map (triP2 (run (fanCell (stdCfg 3 0) d7Map.n 1 [6, 7, 8, 9]) d7Map).2)
    = (fanTriangles d7Pentagon 1).map some := by
  rw [d7_fan_run]
  decide +kernel

example : (fanTriangles d7Pentagon 1) =
    [(⟨2, 1⟩, ⟨4, 0⟩, ⟨4, 4⟩), (⟨2, 1⟩, ⟨4, 4⟩, ⟨0, 4⟩), (⟨2, 1⟩, ⟨0, 4⟩, ⟨0, 0⟩)] := by decide +kernel

/-- area: 8 + 12 + 8 = 28 = twice the area of the pentagon, read in the result map -/
example : ∃ (vals : List Val) (id s : Nat) (L : List Nat),
    run (faceVertices d7Map.n [1, 2, 3, 4, 5]) d7Map = (.ok vals, d7Map) ∧
    s :: L = [1, 2, 3, 4, 5].drop id ++ [1, 2, 3, 4, 5].take id ∧
    ((mapTris (run (fanCell (stdCfg 3 0) d7Map.n 1 [6, 7, 8, 9]) d7Map).2 (fanFaces s L (chunks2 [6, 7, 8, 9]))).map
      tri2).sum = area2 (vals.map Val.p2) := by
  obtain ⟨vals, id, s, L, a1, a2, _, _, a5⟩ :=
    C13_fan_area_conserved_in_map (stdCfg 3 0) rfl d7Map _ 1 [6, 7, 8, 9] [2, 3, 4, 5] d7_wf rfl d7_closed
      d7_spares (by decide) d7_fresh (run_eq_of_fst (congrArg Prod.fst d7_fan_run))
  exact ⟨vals, id, s, L, a1, a2, a5⟩

example : (mapTris (run (fanCell (stdCfg 3 0) d7Map.n 1 [6, 7, 8, 9]) d7Map).2 [(2, 3, 6), (7, 4, 8), (9, 5, 1)]).map tri2
    = [8, 12, 8] ∧ area2 d7Pentagon = 28 := by
  rw [d7_fan_run]
  decide +kernel

/-- orientation: the pentagon is in general position, all three triangles of the result are counter-clockwise -/
example : ∃ (vals : List Val) (id s : Nat) (L : List Nat),
    run (faceVertices d7Map.n [1, 2, 3, 4, 5]) d7Map = (.ok vals, d7Map) ∧
    s :: L = [1, 2, 3, 4, 5].drop id ++ [1, 2, 3, 4, 5].take id ∧
    ((0 < area2 (vals.map Val.p2) ∧ ∀ T ∈ mapTris (run (fanCell (stdCfg 3 0) d7Map.n 1 [6, 7, 8, 9]) d7Map).2
        (fanFaces s L (chunks2 [6, 7, 8, 9])), 0 < tri2 T) ∨
     (area2 (vals.map Val.p2) < 0 ∧ ∀ T ∈ mapTris (run (fanCell (stdCfg 3 0) d7Map.n 1 [6, 7, 8, 9]) d7Map).2
        (fanFaces s L (chunks2 [6, 7, 8, 9])), tri2 T < 0)) := by
  obtain ⟨vals, id, s, L, a1, a2, _, a4⟩ :=
    C13_fan_orientation_in_map (stdCfg 3 0) rfl d7Map _ 1 [6, 7, 8, 9] [2, 3, 4, 5] d7_wf rfl d7_closed
      d7_spares (by decide) d7_fresh
      (run_ok_elim d7_vals (by decide +kernel))
      (run_eq_of_fst (congrArg Prod.fst d7_fan_run))
  exact ⟨vals, id, s, L, a1, a2, a4⟩

/-- untouched coordinates: the five corners read the same points after the fan -/
example : ∀ d, d ≠ 0 → d < d7Map.n → d ∉ [6, 7, 8, 9] →
    pos (run (fanCell (stdCfg 3 0) d7Map.n 1 [6, 7, 8, 9]) d7Map).2 d = pos d7Map d :=
  C13_fan_old_vertices_keep_coordinates (stdCfg 3 0) rfl d7Map _ 1 [6, 7, 8, 9] [2, 3, 4, 5] d7_wf rfl d7_closed
    d7_spares (by decide) d7_fresh (run_eq_of_fst (congrArg Prod.fst d7_fan_run))

example : [1, 2, 3, 4, 5].map (pos (run (fanCell (stdCfg 3 0) d7Map.n 1 [6, 7, 8, 9]) d7Map).2)
    = [some (.pt 0 0 0), some (.pt 2 1 0), some (.pt 4 0 0), some (.pt 4 4 0), some (.pt 0 4 0)] := by
  rw [d7_fan_run]
  decide +kernel

/-- `fan_convex_cell` on the same (non-convex) pentagon fans from dart 1 without any test: the triangles of the result
    are those of the list fan from vertex 0 — the first one clockwise (−4), the sum still 28 -/
example : [(1, 2, 6), (7, 3, 8), (9, 4, 5)].map
      (triP2 (run (fanConvexCell (stdCfg 3 0) d7Map.n 1 [6, 7, 8, 9]) d7Map).2)
    = (fanTriangles d7Pentagon 0).map some ∧
    ((mapTris (run (fanConvexCell (stdCfg 3 0) d7Map.n 1 [6, 7, 8, 9]) d7Map).2
      (fanFaces 1 [2, 3, 4, 5] (chunks2 [6, 7, 8, 9]))).map tri2).sum = area2 d7Pentagon := by
  obtain ⟨_, _, _, a4, a5, _⟩ :=
    C13_fan_convex_triangles_carry_list_coordinates (stdCfg 3 0) rfl d7Map _ 1 [6, 7, 8, 9] [2, 3, 4, 5] d7_wf rfl
      d7_closed d7_spares (by decide) d7_fresh _ d7_vals (run_eq_of_fst (congrArg Prod.fst d7_fanConvex_run))
  have e : [Val.pt 0 0 0, .pt 2 1 0, .pt 4 0 0, .pt 4 4 0, .pt 0 4 0].map Val.p2 = d7Pentagon := by decide +kernel
  rw [e] at a4 a5
  exact ⟨a4, a5⟩

example : (mapTris (run (fanConvexCell (stdCfg 3 0) d7Map.n 1 [6, 7, 8, 9]) d7Map).2 [(1, 2, 6), (7, 3, 8), (9, 4, 5)]).map
    tri2 = [-4, 16, 16] := by
  rw [d7_fanConvex_run]
  decide +kernel

end HC.C13

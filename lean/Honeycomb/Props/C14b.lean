/-
  C14, second part — exact β tables after `insert_vertices_on_edge`, and the vertices of the new darts
  (`honeycomb-kernels/src/cell_insertion/vertices.rs`, model `Model/Kernels/VertexInsertion.lean`).

  PROVED (every well-formed map, every edge shape, every `k`)
  * `C14_insertVertices_beta_structure` (`InsertResult`) — after a successful call:
      first side   e → fh[0] → … → fh[k-1] → old successor of e           (β1),
      second side  e2 → sh[0] → … → sh[k-1] → old successor of e2          (β1, two-dart edge, e2 = β2 e),
      β2 pairs the two sides in reverse order (e2 ↔ fh[k-1], sh[j] ↔ fh[k-2-j], sh[k-1] ↔ e),
      every other β1 and β2 image of every dart is unchanged, β0 changes only at the new darts and the two old
      successors; the result is well formed (so β0 is the inverse of β1 there too, and the null dart keeps its
      null images).
  * `InsHyp` (`insHyp_insertVertices`) — what the theorems below and Props/C14c.lean, C16 use of a successful call: both maps
      well formed, the spare darts existing, non-null and free, `InsertResult`.
  * `C14_new_darts_distinct_vertices` — the vertex of `fh[t]` in the result is `{fh[t]}` (one-dart edge) or
      `{fh[t], sh[k-1-t]}` (two-dart edge) (`new_vertex_darts`), hence the vertex identifiers of the new darts are
      pairwise distinct (uses C03: `vertex_id_transac` = minimum of the vertex orbit, equal ids ⇔ same orbit).
  * `C14_new_vertex_position_full` — `C14_new_vertex_position` without side hypothesis: the i-th point sits at the
      vertex identifier of the i-th new dart, every other slot of every storage is unchanged.
  Tools: the β tables of the link cores (`*_tab`, Lemmas/KernelWF2.lean), "nothing non-null is overwritten" (`Ext`), the
  two chain loops (`chainFirst_struct`, `chainSecond_struct`), and one side of the body on β1 / β0 (`side_struct`: the
  successor taken off, the chain laid, its last dart linked to the old successor), used once on a one-dart edge and twice
  on a two-dart edge.

  * `C14_insertVertex_beta_structure` — the same `InsertResult` (one new dart per side) for `insert_vertex_on_edge`, the
      `k = 1` kernel with its own code path.

  CONTINUED in Props/C14c.lean: the vertices of the old darts (end points included) keep their dart sets, identifiers
  and coordinates.
-/
import Honeycomb.Lemmas.ListFacts
import Honeycomb.Lemmas.KernelWF2
import Honeycomb.Props.C14
import Honeycomb.Props.C03
import Mathlib.Data.List.Nodup


namespace HC.C14
open HC

/-- nothing non-null is overwritten -/
def Ext (m m' : Map Val) : Prop := ∀ i y, m.β i y ≠ 0 → m'.β i y = m.β i y

theorem Ext.refl (m : Map Val) : Ext m m := fun _ _ _ => rfl

theorem Ext.trans {m m1 m2 : Map Val} (h1 : Ext m m1) (h2 : Ext m1 m2) : Ext m m2 := by
  intro i y hy
  have e1 := h1 i y hy
  rw [h2 i y (by rw [e1]; exact hy), e1]

/-- a table of two writes into empty slots only extends the map -/
theorem ext_of_tab {m m' : Map Val} {i1 d1 v1 i2 d2 v2 : Nat} (h1 : m.β i1 d1 = 0) (h2 : m.β i2 d2 = 0)
    (e : ∀ i d, m'.β i d = if i1 = i ∧ d1 = d then v1 else if i2 = i ∧ d2 = d then v2 else m.β i d) : Ext m m' := by
  intro i y hne
  rw [e, if_neg (fun c => hne (by rw [← c.1, ← c.2]; exact h1)),
    if_neg (fun c => hne (by rw [← c.1, ← c.2]; exact h2))]

/-! ## the two chains -/

/-- first side: `prev → l[0] → l[1] → …`; only β1 of the darts before the last one and β0 of the new darts are
    written, nothing non-null is overwritten -/
theorem chainFirst_struct : ∀ (l : List Nat) (prev : Nat) (m m' : Map Val) (r : Nat),
    (∀ x ∈ l, x ≠ 0) → run (chainFirst prev l) m = (.ok r, m') →
      r = l.getLastD prev ∧ Ext m m' ∧ B1Chain m' prev l ∧
      (∀ y, y ∉ (prev :: l).dropLast → m'.β 1 y = m.β 1 y) ∧
      (∀ y, y ∉ l → m'.β 0 y = m.β 0 y) ∧ (∀ y, m'.β 2 y = m.β 2 y) := by
  intro l
  induction l with
  | nil =>
      intro prev m m' r _ h
      simp [chainFirst] at h
      obtain ⟨rfl, rfl⟩ := h
      exact ⟨rfl, Ext.refl _, trivial, fun _ _ => rfl, fun _ _ => rfl, fun _ => rfl⟩
  | cons nd rest ih =>
      intro prev m m' r hnz h
      unfold chainFirst at h
      obtain ⟨_, m1, h1, h⟩ := run_bind_ok h
      obtain ⟨g1, g0, e1⟩ := oneLinkCore_tab h1
      have x1 := ext_of_tab g0 g1 e1
      obtain ⟨hr, x2, hch, f1, f0, f2⟩ := ih nd m1 m' r (fun x hx => hnz x (by simp [hx])) h
      have hnd : nd ≠ 0 := hnz nd (by simp)
      refine ⟨by rw [List.getLastD_cons]; exact hr, x1.trans x2, ⟨?_, hch⟩, ?_, ?_, ?_⟩
      · have : m1.β 1 prev = nd := by rw [e1]; simp
        rw [x2 1 prev (by rw [this]; exact hnd), this]
      · intro y hy
        rw [List.dropLast_cons_of_ne_nil (by simp)] at hy
        simp only [List.mem_cons, not_or] at hy
        rw [f1 y hy.2, e1, if_neg (fun hh => absurd hh.1 (by decide)), if_neg (fun hh => hy.1 hh.2.symm)]
      · intro y hy
        simp only [List.mem_cons, not_or] at hy
        rw [f0 y hy.2, e1, if_neg (fun hh => hy.1 hh.2.symm), if_neg (fun hh => absurd hh.1 (by decide))]
      · intro y
        rw [f2 y, e1, if_neg (fun hh => absurd hh.1 (by decide)), if_neg (fun hh => absurd hh.1 (by decide))]

/-- second side: `prev → nd_0 → nd_1 → …` through β1, each dart before the last 2-linked with the matching first-side
    dart -/
theorem chainSecond_struct : ∀ (l : List (Nat × Nat)) (prev : Nat) (m m' : Map Val) (r : Nat),
    prev ≠ 0 → (∀ p ∈ l, p.1 ≠ 0 ∧ p.2 ≠ 0) → run (chainSecond prev l) m = (.ok r, m') →
      r = (l.map Prod.snd).getLastD prev ∧ Ext m m' ∧ B1Chain m' prev (l.map Prod.snd) ∧
      (∀ p ∈ (prev :: l.map Prod.snd).zip (l.map Prod.fst), m'.β 2 p.1 = p.2 ∧ m'.β 2 p.2 = p.1) ∧
      (∀ y, y ∉ (prev :: l.map Prod.snd).dropLast → m'.β 1 y = m.β 1 y) ∧
      (∀ y, y ∉ l.map Prod.snd → m'.β 0 y = m.β 0 y) ∧
      (∀ y, y ∉ (prev :: l.map Prod.snd).dropLast → y ∉ l.map Prod.fst → m'.β 2 y = m.β 2 y) := by
  intro l
  induction l with
  | nil =>
      intro prev m m' r _ _ h
      simp [chainSecond] at h
      obtain ⟨rfl, rfl⟩ := h
      exact ⟨rfl, Ext.refl _, trivial, by simp, fun _ _ => rfl, fun _ _ => rfl, fun _ _ _ => rfl⟩
  | cons c rest ih =>
      intro prev m m' r hp hnz h
      obtain ⟨d, nd⟩ := c
      obtain ⟨hd0, hnd0⟩ := hnz (d, nd) (by simp)
      unfold chainSecond at h
      obtain ⟨_, m1, h1, h⟩ := run_bind_ok h
      obtain ⟨t1, t0, e1⟩ := twoLinkCore_tab h1
      have x1 := ext_of_tab t0 t1 e1
      obtain ⟨_, m2, h2, h⟩ := run_bind_ok h
      obtain ⟨g1, g0, e2⟩ := oneLinkCore_tab h2
      have x2 := ext_of_tab g0 g1 e2
      obtain ⟨hr, x3, hch, hp2, f1, f0, f2⟩ :=
        ih nd m2 m' r hnd0 (fun p hp => hnz p (by simp [hp])) h
      have a1 : m2.β 1 prev = nd := by rw [e2]; simp
      have a2 : m2.β 2 prev = d := by
        rw [e2, if_neg (fun hh => absurd hh.1 (by decide)), if_neg (fun hh => absurd hh.1 (by decide)), e1]
        by_cases c : d = prev
        · simp [c]
        · simp [c]
      have a3 : m2.β 2 d = prev := by
        rw [e2, if_neg (fun hh => absurd hh.1 (by decide)), if_neg (fun hh => absurd hh.1 (by decide)), e1]
        simp
      refine ⟨by rw [List.map_cons, List.getLastD_cons]; exact hr, (x1.trans x2).trans x3, ⟨?_, hch⟩, ?_, ?_, ?_, ?_⟩
      · rw [x3 1 prev (by rw [a1]; exact hnd0), a1]
      · intro p hp'
        simp only [List.map_cons, List.zip_cons_cons, List.mem_cons] at hp'
        rcases hp' with rfl | hp'
        · exact ⟨by rw [x3 2 prev (by rw [a2]; exact hd0), a2], by rw [x3 2 d (by rw [a3]; exact hp), a3]⟩
        · exact hp2 p hp'
      · intro y hy
        simp only [List.map_cons] at hy
        rw [List.dropLast_cons_of_ne_nil (by simp)] at hy
        simp only [List.mem_cons, not_or] at hy
        rw [f1 y hy.2, e2, if_neg (fun hh => absurd hh.1 (by decide)), if_neg (fun hh => hy.1 hh.2.symm), e1,
          if_neg (fun hh => absurd hh.1 (by decide)), if_neg (fun hh => absurd hh.1 (by decide))]
      · intro y hy
        simp only [List.map_cons, List.mem_cons, not_or] at hy
        rw [f0 y hy.2, e2, if_neg (fun hh => hy.1 hh.2.symm), if_neg (fun hh => absurd hh.1 (by decide)), e1,
          if_neg (fun hh => absurd hh.1 (by decide)), if_neg (fun hh => absurd hh.1 (by decide))]
      · intro y hy1 hy2
        simp only [List.map_cons] at hy1 hy2
        rw [List.dropLast_cons_of_ne_nil (by simp)] at hy1
        simp only [List.mem_cons, not_or] at hy1 hy2
        rw [f2 y hy1.2 hy2.2, e2, if_neg (fun hh => absurd hh.1 (by decide)),
          if_neg (fun hh => absurd hh.1 (by decide)), e1, if_neg (fun hh => hy2.1 hh.2.symm),
          if_neg (fun hh => hy1.1 hh.2.symm)]

/-! ## the editing part of `insert_vertices_on_edge` -/

theorem whenP_ok {c : Bool} {p : P Val Unit} {m m' : Map Val} {a : Unit} (h : run (whenP c p) m = (.ok a, m')) :
    (c = true ∧ run p m = (.ok a, m')) ∨ (c = false ∧ m' = m) := by
  unfold whenP at h
  cases c
  · right; simp at h; exact ⟨rfl, h.symm⟩
  · left; exact ⟨rfl, h⟩

theorem sameβ_placeVertices (k : Nat) (v1 v2 : Val) (l : List (Rat × Nat)) {m m' : Map Val} {a : Unit}
    (h : run (placeVertices k v1 v2 l) m = (.ok a, m')) : ∀ i d, m'.β i d = m.β i d := by
  have st := attrOnly_placeVertices k v1 v2 l m
  rw [h] at st
  exact st.β

/-- the `if b1d1_old != 0 { unlink::<1>(base_dart1) }` step, uniformly -/
theorem unlinkOld_eff {e : Nat} {m m' : Map Val} {a : Unit} (h0 : m.β 0 0 = 0)
    (h : run (whenP (decide (m.β 1 e ≠ 0)) (oneUnlinkCore e)) m = (.ok a, m')) :
    ∀ i d, m'.β i d = if 0 = i ∧ m.β 1 e = d then 0 else if 1 = i ∧ e = d then 0 else m.β i d := by
  rcases whenP_ok h with ⟨_, h1⟩ | ⟨hc, hm⟩
  · exact (oneUnlinkCore_tab h1).2
  · rw [hm]
    have ho : m.β 1 e = 0 := by simpa using hc
    intro i d
    by_cases c1 : 0 = i ∧ m.β 1 e = d
    · obtain ⟨rfl, rfl⟩ := c1; rw [if_pos ⟨rfl, rfl⟩, ho]; exact h0
    · rw [if_neg c1]
      by_cases c2 : 1 = i ∧ e = d
      · obtain ⟨rfl, rfl⟩ := c2; rw [if_pos ⟨rfl, rfl⟩]; exact ho
      · rw [if_neg c2]

/-- the same step, row by row -/
theorem unlinkOld_rows {e : Nat} {m m' : Map Val} {a : Unit} (h0 : m.β 0 0 = 0)
    (h : run (whenP (decide (m.β 1 e ≠ 0)) (oneUnlinkCore e)) m = (.ok a, m')) :
    (∀ y, m'.β 1 y = if e = y then 0 else m.β 1 y) ∧ (∀ y, m'.β 0 y = if m.β 1 e = y then 0 else m.β 0 y) ∧
    ∀ y, m'.β 2 y = m.β 2 y := by
  have ea := unlinkOld_eff h0 h
  refine ⟨fun y => ?_, fun y => ?_, fun y => ?_⟩
  · rw [ea, if_neg (fun hh => absurd hh.1 (by decide))]
    simp
  · rw [ea]
    by_cases c : m.β 1 e = y
    · rw [if_pos ⟨rfl, c⟩, if_pos c]
    · rw [if_neg (fun hh => c hh.2), if_neg (fun hh => absurd hh.1 (by decide)), if_neg c]
  · rw [ea, if_neg (fun hh => absurd hh.1 (by decide)), if_neg (fun hh => absurd hh.1 (by decide))]

/-- the `if b1d1_old != 0 { link::<1>(prev, b1d1_old) }` step, uniformly (given that both slots are empty) -/
theorem linkOld_eff {l o : Nat} {m m' : Map Val} {a : Unit} (hl : m.β 1 l = 0)
    (h : run (whenP (decide (o ≠ 0)) (oneLinkCore l o)) m = (.ok a, m')) :
    Ext m m' ∧
      (∀ y, m'.β 1 y = if l = y then o else m.β 1 y) ∧
      (∀ y, (y ≠ o ∨ o = 0) → m'.β 0 y = m.β 0 y) ∧ (∀ y, m'.β 2 y = m.β 2 y) := by
  rcases whenP_ok h with ⟨hcT, h1⟩ | ⟨hc, hm⟩
  · obtain ⟨g1, g0, e1⟩ := oneLinkCore_tab h1
    refine ⟨ext_of_tab g0 g1 e1, fun y => ?_, fun y hy => ?_, fun y => ?_⟩
    · rw [e1, if_neg (fun hh => absurd hh.1 (by decide))]; simp
    · have hy' : y ≠ o := by
        rcases hy with c | c
        · exact c
        · exact absurd c (by simpa using hcT)
      rw [e1, if_neg (fun hh => hy' hh.2.symm), if_neg (fun hh => absurd hh.1 (by decide))]
    · rw [e1, if_neg (fun hh => absurd hh.1 (by decide)), if_neg (fun hh => absurd hh.1 (by decide))]
  · rw [hm]
    have ho : o = 0 := by simpa using hc
    refine ⟨Ext.refl _, fun y => ?_, fun _ _ => rfl, fun _ => rfl⟩
    by_cases c : l = y
    · subst c; rw [if_pos rfl, ho]; exact hl
    · rw [if_neg c]

/-- the same step as one uniform table -/
theorem linkOld_eff' {l o : Nat} {m m' : Map Val} {a : Unit} (hl : m.β 1 l = 0)
    (h : run (whenP (decide (o ≠ 0)) (oneLinkCore l o)) m = (.ok a, m')) :
    ∀ i d, m'.β i d = if o ≠ 0 ∧ 0 = i ∧ o = d then l else if 1 = i ∧ l = d then o else m.β i d := by
  rcases whenP_ok h with ⟨hcT, h1⟩ | ⟨hc, hm⟩
  · obtain ⟨_, _, e1⟩ := oneLinkCore_tab h1
    have ho : o ≠ 0 := by simpa using hcT
    intro i d
    rw [e1]
    by_cases c : 0 = i ∧ o = d
    · rw [if_pos c, if_pos ⟨ho, c⟩]
    · rw [if_neg c, if_neg (fun (hh : o ≠ 0 ∧ 0 = i ∧ o = d) => c hh.2)]
  · rw [hm]
    have ho : o = 0 := by simpa using hc
    intro i d
    rw [if_neg (fun hh => hh.1 ho)]
    by_cases c : 1 = i ∧ l = d
    · obtain ⟨rfl, rfl⟩ := c; rw [if_pos ⟨rfl, rfl⟩, ho]; exact hl
    · rw [if_neg c]

theorem getLastD_mem : ∀ (l : List Nat) (e : Nat), l.getLastD e ∈ e :: l :=
  ListFacts.getLastD_mem

theorem getLastD_not_mem_dropLast : ∀ (l : List Nat) (e : Nat), (e :: l).Nodup → l.getLastD e ∉ (e :: l).dropLast :=
  ListFacts.getLastD_not_mem_dropLast

theorem getLastD_ne_of_ne_nil : ∀ (l : List Nat) (e : Nat), l ≠ [] → l.getLastD e ∈ l := by
  intro l e h
  cases l with
  | nil => exact absurd rfl h
  | cons x rest => rw [List.getLastD_cons]; exact getLastD_mem rest x

/-- **one side of the body**, on β1 and β0: in `mb` the dart `x` has lost its successor `o = β1 x` (read in `m`), a
    chain `x → l` has been laid on darts without successor (`mc`), and its last dart is linked to `o` (`md`): the side
    is `x → l → o`, every other β1 and — but at `o` and on `l` — β0 is that of `m` -/
theorem side_struct {m mb mc md : Map Val} {x r : Nat} {l : List Nat} {a : Unit}
    (h00 : m.β 0 0 = 0) (hl0 : ∀ y ∈ l, y ≠ 0) (hfree : ∀ y ∈ l, m.β 1 y = 0) (hnd : (x :: l).Nodup)
    (e1 : ∀ y, mb.β 1 y = if x = y then 0 else m.β 1 y)
    (e0 : ∀ y, mb.β 0 y = if m.β 1 x = y then 0 else m.β 0 y)
    (hr : r = l.getLastD x) (hch : B1Chain mc x l)
    (f1 : ∀ y, y ∉ (x :: l).dropLast → mc.β 1 y = mb.β 1 y) (f0 : ∀ y, y ∉ l → mc.β 0 y = mb.β 0 y)
    (hd : run (whenP (decide (m.β 1 x ≠ 0)) (oneLinkCore r (m.β 1 x))) mc = (.ok a, md)) :
    Ext mc md ∧ B1Chain md x l ∧ md.β 1 (l.getLastD x) = m.β 1 x ∧ (∀ y, y ∉ x :: l → md.β 1 y = m.β 1 y) ∧
    (∀ y, y ∉ l → y ≠ m.β 1 x → md.β 0 y = m.β 0 y) ∧ md.β 0 0 = 0 ∧ ∀ y, md.β 2 y = mc.β 2 y := by
  have hrm := getLastD_mem l x
  have hrd := getLastD_not_mem_dropLast l x hnd
  -- β1 of the last dart is still null
  have hr0 : mc.β 1 r = 0 := by
    rw [hr, f1 _ hrd, e1]
    by_cases c : x = l.getLastD x
    · rw [if_pos c]
    · rw [if_neg c]
      rcases List.mem_cons.1 hrm with hh | hh
      · exact absurd hh.symm c
      · exact hfree _ hh
  have hc00 : mc.β 0 0 = 0 := by
    rw [f0 0 (fun hh => hl0 0 hh rfl), e0]
    by_cases c : m.β 1 x = 0
    · rw [if_pos c]
    · rw [if_neg c]
      exact h00
  obtain ⟨xd, g1, g0, g2⟩ := linkOld_eff hr0 hd
  refine ⟨xd, ?_, ?_, fun y hy => ?_, fun y hy1 hy2 => ?_, ?_, g2⟩
  · -- the chain persists: only β1 of the last dart was written afterwards
    refine B1Chain.frame l x hch fun y hy => ?_
    rw [g1, if_neg (fun hh => hrd (by rw [← hr, hh]; exact hy))]
  · rw [g1, hr, if_pos rfl]
  · rw [g1, if_neg (fun hh => hy (by rw [← hh, hr]; exact hrm)), f1 y (fun hh => hy (List.dropLast_subset _ hh)), e1,
      if_neg (fun hh => hy (by rw [← hh]; exact List.mem_cons_self))]
  · rw [g0 y (Or.inl hy2), f0 y hy1, e0, if_neg (fun hh => hy2 hh.symm)]
  · by_cases c : m.β 1 x = 0
    · rw [g0 0 (Or.inr c)]
      exact hc00
    · rw [g0 0 (Or.inl (fun hh => c hh.symm))]
      exact hc00

/-- what a successful `insert_vertices_on_edge` has done to the β tables (`e` the edge dart, `fh`/`sh` the two halves
    of the spare darts; `o1 = β1(e)`, `e2 = β2(e)`, `o2 = β1(e2)` read in the map `m` before the call):
    * first side: `e → fh[0] → … → fh[k-1] → o1` through β1;
    * second side (two-dart edge): `e2 → sh[0] → … → sh[k-1] → o2` through β1;
    * β2 pairs the two sides in reverse order: `e2 ↔ fh[k-1]`, `sh[j] ↔ fh[k-2-j]`, …, `sh[k-1] ↔ e`;
    * every other β1 / β2 image is unchanged, β0 changes only at the new darts and at the two old successors (where
      it is the inverse of β1 again, the result being well formed) -/
structure InsertResult (m m' : Map Val) (e : Nat) (fh sh : List Nat) : Prop where
  side1 : B1Chain m' e fh ∧ m'.β 1 (fh.getLastD e) = m.β 1 e
  side2 : m.β 2 e ≠ 0 → B1Chain m' (m.β 2 e) sh ∧ m'.β 1 (sh.getLastD (m.β 2 e)) = m.β 1 (m.β 2 e)
  pairs : m.β 2 e ≠ 0 → (∀ p ∈ (m.β 2 e :: sh).zip fh.reverse, m'.β 2 p.1 = p.2 ∧ m'.β 2 p.2 = p.1) ∧
    m'.β 2 (sh.getLastD (m.β 2 e)) = e ∧ m'.β 2 e = sh.getLastD (m.β 2 e)
  frame1 : ∀ y, y ∉ e :: fh → (m.β 2 e ≠ 0 → y ∉ m.β 2 e :: sh) → m'.β 1 y = m.β 1 y
  frame2 : ∀ y, (m.β 2 e ≠ 0 → y ∉ e :: fh ∧ y ∉ m.β 2 e :: sh) → m'.β 2 y = m.β 2 y
  frame0 : ∀ y, y ∉ fh → y ≠ m.β 1 e → (m.β 2 e ≠ 0 → y ∉ sh ∧ y ≠ m.β 1 (m.β 2 e)) → m'.β 0 y = m.β 0 y

theorem body_struct_one (k : Nat) (v1 v2 : Val) (e : Nat) (fh sh : List Nat) (ts : List Rat) (m m' : Map Val)
    (hnull : ∀ i, i < 3 → m.β i 0 = 0) (he2 : m.β 2 e = 0)
    (hfh0 : ∀ x ∈ fh, x ≠ 0) (hfree : ∀ x ∈ fh, ∀ i, i < 3 → m.β i x = 0) (hnd : (e :: fh).Nodup)
    (h : run (insertVerticesBody k v1 v2 e (m.β 2 e) (m.β 1 e) fh sh ts) m = (.ok (), m')) :
    InsertResult m m' e fh sh := by
  unfold insertVerticesBody at h
  obtain ⟨_, ma, ha, k1⟩ := run_bind_ok h
  obtain ⟨ea1, ea0, ea2⟩ := unlinkOld_rows (hnull 0 (by omega)) ha
  obtain ⟨_, mb, hb, k2⟩ := run_bind_ok k1
  have hmb : mb = ma := by
    rcases whenP_ok hb with ⟨c, _⟩ | ⟨_, hm⟩
    · simp [he2] at c
    · exact hm
  rw [hmb] at k2
  obtain ⟨r, mc, hc, k3⟩ := run_bind_ok k2
  obtain ⟨hr, _, hch, f1, f0, f2⟩ := chainFirst_struct fh e ma mc r hfh0 hc
  obtain ⟨_, md, hd, k4⟩ := run_bind_ok k3
  obtain ⟨_, s1, s2, s3, s4, _, s6⟩ := side_struct (hnull 0 (by omega)) hfh0 (fun y hy => hfree y hy 1 (by omega)) hnd
    ea1 ea0 hr hch f1 f0 hd
  obtain ⟨_, me, hee, k5⟩ := run_bind_ok k4
  have hme : me = md := by
    rcases whenP_ok hee with ⟨c, _⟩ | ⟨_, hm⟩
    · simp [he2] at c
    · exact hm
  rw [hme] at k5
  have hβ := sameβ_placeVertices k v1 v2 _ k5
  refine ⟨⟨B1Chain.frame fh e s1 fun y _ => hβ 1 y, by rw [hβ]; exact s2⟩, fun hh => absurd he2 hh,
    fun hh => absurd he2 hh, fun y hy _ => by rw [hβ]; exact s3 y hy, fun y _ => by rw [hβ, s6, f2, ea2],
    fun y hy1 hy2 _ => by rw [hβ]; exact s4 y hy1 hy2⟩

theorem body_struct_two (k : Nat) (v1 v2 : Val) (e : Nat) (fh sh : List Nat) (ts : List Rat) (m m' : Map Val)
    (hnull : ∀ i, i < 3 → m.β i 0 = 0) (he2 : m.β 2 e ≠ 0)
    (hfh0 : ∀ x ∈ fh, x ≠ 0) (hfree : ∀ x ∈ fh, ∀ i, i < 3 → m.β i x = 0) (hnd : (e :: fh).Nodup)
    (hsh0 : ∀ x ∈ sh, x ≠ 0) (hsfree : ∀ x ∈ sh, ∀ i, i < 3 → m.β i x = 0) (hnd2 : (m.β 2 e :: sh).Nodup)
    (hdis : ∀ x ∈ e :: fh, x ∉ m.β 2 e :: sh) (hlen : fh.length = sh.length)
    (h : run (insertVerticesBody k v1 v2 e (m.β 2 e) (m.β 1 e) fh sh ts) m = (.ok (), m')) :
    InsertResult m m' e fh sh := by
  have hdis' : ∀ x ∈ m.β 2 e :: sh, x ∉ e :: fh := fun x hx hh => hdis x hh hx
  unfold insertVerticesBody at h
  obtain ⟨_, ma, ha, k1⟩ := run_bind_ok h
  obtain ⟨ea1, ea0, ea2⟩ := unlinkOld_rows (hnull 0 (by omega)) ha
  obtain ⟨_, mb, hb, k2⟩ := run_bind_ok k1
  have hb' : run (iUnlinkCore 2 e) ma = (.ok (), mb) := by
    rcases whenP_ok hb with ⟨_, hh⟩ | ⟨c, _⟩
    · exact hh
    · simp [he2] at c
  obtain ⟨_, eb⟩ := twoUnlinkCore_tab hb'
  rw [ea2] at eb
  have eb1 : ∀ y, mb.β 1 y = if e = y then 0 else m.β 1 y := fun y => by
    rw [eb, if_neg (fun hh => absurd hh.1 (by decide)), if_neg (fun hh => absurd hh.1 (by decide)), ea1]
  have eb0 : ∀ y, mb.β 0 y = if m.β 1 e = y then 0 else m.β 0 y := fun y => by
    rw [eb, if_neg (fun hh => absurd hh.1 (by decide)), if_neg (fun hh => absurd hh.1 (by decide)), ea0]
  obtain ⟨r, mc, hc, k3⟩ := run_bind_ok k2
  obtain ⟨hr, _, hch, f1, f0, f2⟩ := chainFirst_struct fh e mb mc r hfh0 hc
  obtain ⟨_, md, hd, k4⟩ := run_bind_ok k3
  obtain ⟨_, s1, s2, s3, s4, s5, s6⟩ := side_struct (hnull 0 (by omega)) hfh0 (fun y hy => hfree y hy 1 (by omega)) hnd
    eb1 eb0 hr hch f1 f0 hd
  obtain ⟨_, me, hee, k5⟩ := run_bind_ok k4
  have hside : run (insertVerticesSide2 e (m.β 2 e) fh sh) md = (.ok (), me) := by
    rcases whenP_ok hee with ⟨_, hh⟩ | ⟨c, _⟩
    · exact hh
    · simp [he2] at c
  have hβ := sameβ_placeVertices k v1 v2 _ k5
  unfold insertVerticesSide2 at hside
  obtain ⟨_, q1⟩ := rB_bind_ok hside
  obtain ⟨_, m5, h5, q2⟩ := run_bind_ok q1
  obtain ⟨e51, e50, e52⟩ := unlinkOld_rows s5 h5
  obtain ⟨r2, m6, h6, q3⟩ := run_bind_ok q2
  have hzl : (fh.reverse.zip sh).map Prod.fst = fh.reverse := List.map_fst_zip (by simp [hlen])
  have hzr : (fh.reverse.zip sh).map Prod.snd = sh := List.map_snd_zip (by simp [hlen])
  obtain ⟨hr2, _, hch2, hp2, j1, j0, j2⟩ := chainSecond_struct (fh.reverse.zip sh) (m.β 2 e) m5 m6 r2 he2
    (fun p hp => ⟨hfh0 _ (by simpa using mem_zip_fst hp), hsh0 _ (mem_zip_snd hp)⟩) h6
  rw [hzr] at hr2 hch2 hp2 j1 j0 j2
  rw [hzl] at hp2 j2
  obtain ⟨_, m7, h7, q4⟩ := run_bind_ok q3
  have ho2 : md.β 1 (m.β 2 e) = m.β 1 (m.β 2 e) := s3 _ (hdis' _ List.mem_cons_self)
  obtain ⟨x7, t1, t2, t3, t4, _, t6⟩ := side_struct s5 hsh0
    (fun y hy => by rw [s3 y (hdis' y (List.mem_cons_of_mem _ hy))]; exact hsfree y hy 1 (by omega)) hnd2
    e51 e50 hr2 hch2 j1 j0 h7
  obtain ⟨u1, u0, e8⟩ := twoLinkCore_tab q4
  have x8 := ext_of_tab u0 u1 e8
  have e81 : ∀ y, me.β 1 y = m7.β 1 y := fun y => by
    rw [e8, if_neg (fun hh => absurd hh.1 (by decide)), if_neg (fun hh => absurd hh.1 (by decide))]
  have e80 : ∀ y, me.β 0 y = m7.β 0 y := fun y => by
    rw [e8, if_neg (fun hh => absurd hh.1 (by decide)), if_neg (fun hh => absurd hh.1 (by decide))]
  have hr2m := getLastD_mem sh (m.β 2 e)
  refine ⟨⟨?_, ?_⟩, fun _ => ⟨?_, ?_⟩, fun _ => ⟨?_, ?_, ?_⟩, ?_, ?_, ?_⟩
  · refine B1Chain.frame fh e s1 fun y hy => ?_
    rw [hβ, e81, t3 y (hdis y (List.dropLast_subset _ hy))]
  · rw [hβ, e81, t3 _ (hdis _ (getLastD_mem fh e)), s2]
  · exact B1Chain.frame sh _ t1 fun y _ => by rw [hβ, e81]
  · rw [hβ, e81, t2, ho2]
  · intro p hp
    obtain ⟨a, b⟩ := hp2 p hp
    have hp1 : p.1 ≠ 0 := by
      have := mem_zip_fst hp
      simp only [List.mem_cons] at this
      rcases this with c | c
      · rw [c]; exact he2
      · exact hsh0 _ c
    have hp2' : p.2 ≠ 0 := hfh0 _ (by simpa using mem_zip_snd hp)
    constructor
    · rw [hβ, x8 2 p.1 (by rw [x7 2 p.1 (by rw [a]; exact hp2'), a]; exact hp2'),
        x7 2 p.1 (by rw [a]; exact hp2'), a]
    · rw [hβ, x8 2 p.2 (by rw [x7 2 p.2 (by rw [b]; exact hp1), b]; exact hp1),
        x7 2 p.2 (by rw [b]; exact hp1), b]
  · rw [hβ, e8, ← hr2]
    by_cases c : e = r2
    · simp [c]
    · simp [c]
  · rw [hβ, e8, ← hr2]; simp
  · intro y hy1 hy2
    rw [hβ, e81, t3 y (hy2 he2), s3 y hy1]
  · intro y hy
    obtain ⟨hy1, hy2⟩ := hy he2
    have hyr2 : r2 ≠ y := fun hh => hy2 (by rw [← hh, hr2]; exact hr2m)
    have hye : e ≠ y := fun hh => hy1 (by rw [← hh]; simp)
    rw [hβ, e8, if_neg (fun hh => hye hh.2), if_neg (fun hh => hyr2 hh.2), t6,
      j2 y (fun hh => hy2 (List.dropLast_subset _ hh)) (fun hh => hy1 (List.mem_cons_of_mem _ (by simpa using hh))),
      e52, s6, f2, eb, if_neg (fun hh => hy2 (by rw [← hh.2]; simp)), if_neg (fun hh => hye hh.2), ea2]
  · intro y hy1 hy2 hy3
    obtain ⟨hy3a, hy3b⟩ := hy3 he2
    rw [hβ, e80, t4 y hy3a (by rw [ho2]; exact hy3b), s4 y hy1 hy2]

/-! ## the theorem on `insert_vertices_on_edge` -/

/-- **C14, exact β tables**: after a successful `insert_vertices_on_edge` on a well-formed map the edge is
    replaced by the `k + 1` segments of `InsertResult` — `e → fh[0] → … → fh[k-1] → old successor` on the first side,
    the mirrored chain on the second side of a two-dart edge, β2 pairing the two sides in reverse order — every other
    β1 / β2 image of every dart is unchanged, β0 changes only at the new darts and the two old successors, and the map is
    well formed again (so β0 is the inverse of β1 there too).  `fh`, `sh` are the two halves of the spare darts.
    User-side hypotheses as for `C14_insertVertices_preserves_WF`, plus: the first-half darts are pairwise distinct
    (also on a one-dart edge). -/
theorem C14_insertVertices_beta_structure (m m' : Map Val) (e : Nat) (nds : List Nat) (ts : List Rat)
    (hwf : WF 3 m) (he : C01.InUse m e)
    (hlive : ∀ d ∈ nds, m.unused d = false)
    (hfhnd : (nds.take ts.length).Nodup) (hnodup : m.β 2 e ≠ 0 → nds.Nodup)
    (h : run (insertVerticesOnEdge m.n e nds ts) m = (.ok (), m')) :
    WF 3 m' ∧ InsertResult m m' e (nds.take ts.length) (nds.drop ts.length) := by
  refine ⟨C14_insertVertices_preserves_WF m m' e nds ts hwf he hlive hnodup h, ?_⟩
  obtain ⟨hc, hfree, hok, hfh0, hsh0, _, hend, vid1, vid2, v1, v2, _, _, _, _, hbody⟩ := insertVertices_ok_elim h
  have hfreeF : ∀ x ∈ nds.take ts.length, ∀ i, i < 3 → m.β i x = 0 :=
    fun x hx i hi => free_β (hfree x (List.mem_of_mem_take hx)).2 i hi
  have hfreeS : ∀ x ∈ nds.drop ts.length, ∀ i, i < 3 → m.β i x = 0 :=
    fun x hx i hi => free_β (hfree x (List.mem_of_mem_drop hx)).2 i hi
  -- the edge dart is not free, hence not a spare dart
  have heF : e ∉ nds.take ts.length := by
    intro hh
    rcases hend with c | c
    · exact c (hfreeF e hh 1 (by omega))
    · exact c (hfreeF e hh 2 (by omega))
  have hndF : (e :: nds.take ts.length).Nodup := by
    simp only [List.nodup_cons]; exact ⟨heF, hfhnd⟩
  by_cases h2 : m.β 2 e = 0
  · exact body_struct_one m.n v1 v2 e _ _ ts m m' hwf.null h2 hfh0 hfreeF hndF hbody
  · have hinv := hwf.invol 2 (by omega) (by omega) e he.2.1 h2
    have hnd := hnodup h2
    rw [← List.take_append_drop ts.length nds] at hnd
    obtain ⟨_, hndS, hdisj⟩ := List.nodup_append.1 hnd
    -- neither `e` nor `β2 e` is free
    have he2S : m.β 2 e ∉ nds.drop ts.length := by
      intro hh
      have := hfreeS _ hh 2 (by omega)
      rw [hinv.1] at this; exact he.1 this
    have he2F : m.β 2 e ∉ nds.take ts.length := by
      intro hh
      have := hfreeF _ hh 2 (by omega)
      rw [hinv.1] at this; exact he.1 this
    have heS : e ∉ nds.drop ts.length := fun hh => h2 (hfreeS e hh 2 (by omega))
    refine body_struct_two m.n v1 v2 e _ _ ts m m' hwf.null h2
      hfh0 hfreeF hndF (hsh0 h2) hfreeS (by simp only [List.nodup_cons]; exact ⟨he2S, hndS⟩) ?_ ?_ hbody
    · intro x hx hx2
      simp only [List.mem_cons] at hx hx2
      rcases hx with rfl | hx
      · rcases hx2 with c | c
        · exact hinv.2 c.symm
        · exact heS c
      · rcases hx2 with c | c
        · exact he2F (c ▸ hx)
        · exact hdisj x hx x c rfl
    · rw [List.length_take, List.length_drop]; omega

/-- the facts about a successful insertion used below and in Props/C14c.lean (all consequences of the hypotheses of
    `C14_insertVertices_beta_structure` / `C14_insertVertex_beta_structure`) -/
structure InsHyp (m m' : Map Val) (e : Nat) (fh sh : List Nat) : Prop where
  wf : WF 3 m
  wf' : WF 3 m'
  n_eq : m'.n = m.n
  e0 : e ≠ 0
  elt : e < m.n
  fhlt : ∀ x ∈ fh, x < m.n ∧ x ≠ 0
  fhfree : ∀ x ∈ fh, ∀ i, i < 3 → m.β i x = 0
  two : m.β 2 e ≠ 0 → fh.length = sh.length ∧ (∀ x ∈ sh, x < m.n ∧ x ≠ 0) ∧ (∀ x ∈ sh, ∀ i, i < 3 → m.β i x = 0)
  res : InsertResult m m' e fh sh

/-- the hypotheses of `C14_insertVertices_beta_structure` give `InsHyp` -/
theorem insHyp_insertVertices (m m' : Map Val) (e : Nat) (nds : List Nat) (ts : List Rat)
    (hwf : WF 3 m) (he : C01.InUse m e)
    (hlive : ∀ d ∈ nds, m.unused d = false)
    (hfhnd : (nds.take ts.length).Nodup) (hnodup : m.β 2 e ≠ 0 → nds.Nodup)
    (h : run (insertVerticesOnEdge m.n e nds ts) m = (.ok (), m')) :
    InsHyp m m' e (nds.take ts.length) (nds.drop ts.length) := by
  obtain ⟨hwf', hres⟩ := C14_insertVertices_beta_structure m m' e nds ts hwf he hlive hfhnd hnodup h
  obtain ⟨hc, hfree, _, hfh0, hsh0, _, _, _⟩ := insertVertices_ok_elim h
  have hn : m'.n = m.n := (insertVertices_inv m m' e nds ts hwf he hlive hnodup h).n_eq
  have hlt : ∀ x ∈ nds, x < m.n := fun x hx => ((hwf.toSized.okβ 0 x).1 (hfree x hx).1).2
  refine ⟨hwf, hwf', hn, he.1, he.2.1, fun x hx => ⟨hlt x (List.mem_of_mem_take hx), hfh0 x hx⟩,
    fun x hx i hi => free_β (hfree x (List.mem_of_mem_take hx)).2 i hi, fun h2 => ⟨?_, ?_, ?_⟩, hres⟩
  · rw [List.length_take, List.length_drop]; omega
  · exact fun x hx => ⟨hlt x (List.mem_of_mem_drop hx), hsh0 h2 x hx⟩
  · exact fun x hx i hi => free_β (hfree x (List.mem_of_mem_drop hx)).2 i hi

/-! ## `insert_vertex_on_edge` (the `k = 1` kernel) -/

theorem sameβ_vid_write (k nd : Nat) (v : Val) {m m' : Map Val} {a : Unit}
    (h : run (do let vnew ← vertexId2 k nd; let _ ← writeVtx vnew v; pure ()) m = (.ok a, m')) :
    ∀ i d, m'.β i d = m.β i d := by
  have ao : AttrOnly (do let vnew ← vertexId2 k nd; let _ ← writeVtx vnew v; pure () : P Val Unit) :=
    AttrOnly.bind (AttrOnly.of_readOnly (readOnly_vertexId2 _ _)) fun _ =>
      AttrOnly.bind (attrOnly_writeVtx _ _) fun _ => AttrOnly.pure _
  have st := ao m
  rw [h] at st
  exact st.β

theorem body1_struct (k : Nat) (v1 v2 : Val) (e nd1 nd2 : Nat) (t : Option Rat) (m m' : Map Val)
    (hnull : ∀ i, i < 3 → m.β i 0 = 0) (he2 : m.β 2 e = 0) (hne : e ≠ nd1)
    (h : run (insertVertexBody1 k v1 v2 e (m.β 1 e) nd1 t) m = (.ok (), m')) :
    InsertResult m m' e [nd1] [nd2] := by
  unfold insertVertexBody1 at h
  obtain ⟨_, ma, ha, k1⟩ := run_bind_ok h
  have ea := unlinkOld_eff (hnull 0 (by omega)) ha
  obtain ⟨_, mb, hb, k2⟩ := run_bind_ok k1
  obtain ⟨_, _, eb⟩ := oneLinkCore_tab hb
  obtain ⟨_, mc, hc, k3⟩ := run_bind_ok k2
  obtain ⟨_, _, ec⟩ := oneLinkCore_tab hc
  have hβ := sameβ_vid_write k nd1 _ k3
  have f1 : ∀ y, m'.β 1 y = if nd1 = y then m.β 1 e else if e = y then nd1 else m.β 1 y := by
    intro y
    rw [hβ, ec, eb, ea]
    simp only [show ¬ (0 = 1) by decide, false_and, if_false, true_and]
    by_cases c1 : nd1 = y
    · simp [c1]
    · by_cases c2 : e = y
      · simp [c1, c2]
      · simp [c1, c2]
  refine ⟨⟨⟨?_, trivial⟩, ?_⟩, fun hh => absurd he2 hh, fun hh => absurd he2 hh, ?_, ?_, ?_⟩
  · rw [f1, if_neg (fun hh => hne hh.symm), if_pos rfl]
  · show m'.β 1 nd1 = m.β 1 e
    rw [f1, if_pos rfl]
  · intro y hy _
    simp only [List.mem_cons, List.not_mem_nil, or_false, not_or] at hy
    rw [f1, if_neg (fun hh => hy.2 hh.symm), if_neg (fun hh => hy.1 hh.symm)]
  · intro y _
    rw [hβ, ec, eb, ea]
    simp only [show ¬ (0 = 2) by decide, show ¬ (1 = 2) by decide, false_and, if_false]
  · intro y hy1 hy2 _
    simp only [List.mem_cons, List.not_mem_nil, or_false] at hy1
    rw [hβ, ec, if_neg (fun hh => hy2 hh.2.symm), if_neg (fun hh => absurd hh.1 (by decide)), eb,
      if_neg (fun hh => hy1 hh.2.symm), if_neg (fun hh => absurd hh.1 (by decide)), ea,
      if_neg (fun hh => hy2 hh.2.symm), if_neg (fun hh => absurd hh.1 (by decide))]

theorem body2_struct (k : Nat) (v1 v2 : Val) (e nd1 nd2 : Nat) (t : Option Rat) (m m' : Map Val)
    (hnull : ∀ i, i < 3 → m.β i 0 = 0) (he2 : m.β 2 e ≠ 0) (hee2 : e ≠ m.β 2 e)
    (hfree1 : ∀ i, i < 3 → m.β i nd1 = 0) (hfree2 : ∀ i, i < 3 → m.β i nd2 = 0)
    (h12 : nd1 ≠ nd2) (hen1 : e ≠ nd1) (hen2 : e ≠ nd2) (h2n1 : m.β 2 e ≠ nd1) (h2n2 : m.β 2 e ≠ nd2)
    (h : run (insertVertexBody2 k v1 v2 e (m.β 2 e) (m.β 1 e) (m.β 1 (m.β 2 e)) nd1 nd2 t) m = (.ok (), m')) :
    InsertResult m m' e [nd1] [nd2] := by
  -- The nine link / unlink cores are read one after the other as tables `ea … ei` (each in terms of the state before
  -- it); `F1`, `F2` compose them into the β1 and β2 functions of the result in terms of `m` alone, the two sides, the
  -- pairing and the β1 / β2 frames of `InsertResult` are read off them, and the β0 frame off the composed tables directly.
  unfold insertVertexBody2 at h
  obtain ⟨_, ma, ha, k1⟩ := run_bind_ok h
  have ea := unlinkOld_eff (hnull 0 (by omega)) ha
  obtain ⟨_, mb, hb, k2⟩ := run_bind_ok k1
  have ho2 : ma.β 1 (m.β 2 e) = m.β 1 (m.β 2 e) := by
    rw [ea, if_neg (fun hh => absurd hh.1 (by decide)), if_neg (fun hh => hee2 hh.2)]
  have hb' : run (whenP (decide (ma.β 1 (m.β 2 e) ≠ 0)) (oneUnlinkCore (m.β 2 e))) ma = (.ok (), mb) := by
    rw [ho2]; exact hb
  have ha00 : ma.β 0 0 = 0 := by
    rw [ea]
    by_cases c : m.β 1 e = 0
    · rw [if_pos ⟨rfl, c⟩]
    · rw [if_neg (fun hh => c hh.2), if_neg (fun hh => absurd hh.1 (by decide))]; exact hnull 0 (by omega)
  have eb := unlinkOld_eff ha00 hb'
  rw [ho2] at eb
  obtain ⟨_, mc, hc, k3⟩ := run_bind_ok k2
  obtain ⟨_, ec⟩ := twoUnlinkCore_tab hc
  have hb2e : mb.β 2 e = m.β 2 e := by
    rw [eb, if_neg (fun hh => absurd hh.1 (by decide)), if_neg (fun hh => absurd hh.1 (by decide)), ea,
      if_neg (fun hh => absurd hh.1 (by decide)), if_neg (fun hh => absurd hh.1 (by decide))]
  rw [hb2e] at ec
  obtain ⟨_, md, hd, k4⟩ := run_bind_ok k3
  obtain ⟨_, _, ed⟩ := oneLinkCore_tab hd
  obtain ⟨_, me, hee, k5⟩ := run_bind_ok k4
  have hnd1free : md.β 1 nd1 = 0 := by
    rw [ed, ec, eb, ea]
    simp only [show ¬ (0 = 1) by decide, show ¬ (2 = 1) by decide, false_and, if_false, true_and,
      if_neg hen1, if_neg h2n1]
    exact hfree1 1 (by omega)
  have ee := linkOld_eff' hnd1free hee
  obtain ⟨_, mf, hf, k6⟩ := run_bind_ok k5
  obtain ⟨_, _, ef⟩ := oneLinkCore_tab hf
  obtain ⟨_, mg, hg, k7⟩ := run_bind_ok k6
  have hnd2free : mf.β 1 nd2 = 0 := by
    rw [ef, ee, ed, ec, eb, ea]
    simp only [show ¬ (0 = 1) by decide, show ¬ (2 = 1) by decide, false_and, and_false, if_false, true_and,
      if_neg h2n2, if_neg h12, if_neg hen2]
    exact hfree2 1 (by omega)
  have eg := linkOld_eff' hnd2free hg
  obtain ⟨_, mh, hh', k8⟩ := run_bind_ok k7
  obtain ⟨_, _, eh⟩ := twoLinkCore_tab hh'
  obtain ⟨_, mi, hi', k9⟩ := run_bind_ok k8
  obtain ⟨_, _, ei⟩ := twoLinkCore_tab hi'
  have hβ := sameβ_vid_write k nd1 _ k9
  have F1 : ∀ y, m'.β 1 y = if nd2 = y then m.β 1 (m.β 2 e) else if m.β 2 e = y then nd2 else
      if nd1 = y then m.β 1 e else if e = y then nd1 else m.β 1 y := by
    intro y
    rw [hβ, ei, eh, eg, ef, ee, ed, ec, eb, ea]
    simp only [show ¬ (0 = 1) by decide, show ¬ (2 = 1) by decide, false_and, and_false, if_false, true_and]
    by_cases c1 : nd2 = y
    · simp [c1]
    · by_cases c2 : m.β 2 e = y
      · simp [c1, c2]
      · by_cases c3 : nd1 = y
        · simp [c1, c2, c3]
        · by_cases c4 : e = y
          · simp [c1, c3, c4]
          · simp [c1, c2, c3, c4]
  have F2 : ∀ y, m'.β 2 y = if nd1 = y then m.β 2 e else if m.β 2 e = y then nd1 else
      if nd2 = y then e else if e = y then nd2 else m.β 2 y := by
    intro y
    rw [hβ, ei, eh, eg, ef, ee, ed, ec, eb, ea]
    simp only [show ¬ (0 = 2) by decide, show ¬ (1 = 2) by decide, false_and, and_false, if_false, true_and]
    by_cases c1 : nd1 = y
    · simp [c1]
    · by_cases c2 : m.β 2 e = y
      · simp [c1, c2]
      · by_cases c3 : nd2 = y
        · simp [c1, c2, c3]
        · by_cases c4 : e = y
          · simp [c1, c3, c4]
          · simp [c1, c2, c3, c4]
  refine ⟨⟨⟨?_, trivial⟩, ?_⟩, fun _ => ⟨⟨?_, trivial⟩, ?_⟩, fun _ => ⟨?_, ?_, ?_⟩, ?_, ?_, ?_⟩
  · rw [F1, if_neg (fun hh => hen2 hh.symm), if_neg (fun hh => hee2 hh.symm), if_neg (fun hh => hen1 hh.symm),
      if_pos rfl]
  · show m'.β 1 nd1 = m.β 1 e
    rw [F1, if_neg (fun hh => h12 hh.symm), if_neg h2n1, if_pos rfl]
  · rw [F1, if_neg (fun hh => h2n2 hh.symm), if_pos rfl]
  · show m'.β 1 nd2 = m.β 1 (m.β 2 e)
    rw [F1, if_pos rfl]
  · intro p hp
    simp only [List.reverse_cons, List.reverse_nil, List.nil_append, List.zip_cons_cons, List.zip_nil_right,
      List.mem_singleton] at hp
    subst hp
    exact ⟨by show m'.β 2 (m.β 2 e) = nd1; rw [F2, if_neg (fun hh => h2n1 hh.symm), if_pos rfl],
      by show m'.β 2 nd1 = m.β 2 e; rw [F2, if_pos rfl]⟩
  · show m'.β 2 nd2 = e
    rw [F2, if_neg h12, if_neg h2n2, if_pos rfl]
  · show m'.β 2 e = nd2
    rw [F2, if_neg (fun hh => hen1 hh.symm), if_neg (fun hh => hee2 hh.symm), if_neg (fun hh => hen2 hh.symm),
      if_pos rfl]
  · intro y hy1 hy2
    have hy2' := hy2 he2
    simp only [List.mem_cons, List.not_mem_nil, or_false, not_or] at hy1 hy2'
    rw [F1, if_neg (fun hh => hy2'.2 hh.symm), if_neg (fun hh => hy2'.1 hh.symm), if_neg (fun hh => hy1.2 hh.symm),
      if_neg (fun hh => hy1.1 hh.symm)]
  · intro y hy
    obtain ⟨hy1, hy2⟩ := hy he2
    simp only [List.mem_cons, List.not_mem_nil, or_false, not_or] at hy1 hy2
    rw [F2, if_neg (fun hh => hy1.2 hh.symm), if_neg (fun hh => hy2.1 hh.symm), if_neg (fun hh => hy2.2 hh.symm),
      if_neg (fun hh => hy1.1 hh.symm)]
  · intro y hy1 hy2 hy3
    obtain ⟨hy3a, hy3b⟩ := hy3 he2
    simp only [List.mem_cons, List.not_mem_nil, or_false] at hy1 hy3a
    rw [hβ, ei, eh, eg, ef, ee, ed, ec, eb, ea]
    simp only [show ¬ (1 = 0) by decide, show ¬ (2 = 0) by decide, false_and, if_false, true_and]
    rw [if_neg (fun hh => hy3b hh.2.symm), if_neg (fun hh => hy3a hh.symm), if_neg (fun hh => hy2 hh.2.symm),
      if_neg (fun hh => hy1 hh.symm), if_neg (fun hh => hy3b hh.symm), if_neg (fun hh => hy2 hh.symm)]

/-- **C14, exact β tables for `insert_vertex_on_edge`**: the same `InsertResult` with one new dart per side —
    `e → nd1 → old successor`, `e2 → nd2 → old successor of e2`, `e2 ↔ nd1`, `nd2 ↔ e`, everything else unchanged —
    and a well-formed result -/
theorem C14_insertVertex_beta_structure (m m' : Map Val) (e nd1 nd2 : Nat) (t : Option Rat)
    (hwf : WF 3 m) (he : C01.InUse m e)
    (hl1 : m.unused nd1 = false) (hl2 : m.β 2 e ≠ 0 → m.unused nd2 = false ∧ nd1 ≠ nd2)
    (hend : m.β 1 e ≠ 0 ∨ m.β 2 e ≠ 0)
    (h : run (insertVertexOnEdge m.n e nd1 nd2 t) m = (.ok (), m')) :
    WF 3 m' ∧ InsertResult m m' e [nd1] [nd2] := by
  refine ⟨C14_insertVertex_preserves_WF m m' e nd1 nd2 t hwf he hl1 (fun hh => (hl2 hh).1) hend h, ?_⟩
  obtain ⟨_, _, hnd1, hnd2, vid1, vid2, v1, v2, _, _, _, _, hB1, hB2⟩ := insertVertex_ok_elim h
  have hf1 : ∀ i, i < 3 → m.β i nd1 = 0 := fun i hi => free_β hnd1.2.2 i hi
  have hen1 : e ≠ nd1 := by
    rintro rfl
    rcases hend with c | c
    · exact c (hf1 1 (by omega))
    · exact c (hf1 2 (by omega))
  by_cases b2 : m.β 2 e = 0
  · exact body1_struct m.n v1 v2 e nd1 nd2 t m m' hwf.null b2 hen1 (hB1 b2)
  · obtain ⟨g1, _, g3⟩ := hnd2 b2
    have hf2 : ∀ i, i < 3 → m.β i nd2 = 0 := fun i hi => free_β g3 i hi
    have hinv := hwf.invol 2 (by omega) (by omega) e he.2.1 b2
    refine body2_struct m.n v1 v2 e nd1 nd2 t m m' hwf.null b2 (fun hh => hinv.2 hh.symm)
      hf1 hf2 (hl2 b2).2 hen1 ?_ ?_ ?_ (hB2 b2)
    · rintro rfl; exact b2 (hf2 2 (by omega))
    · intro hh
      have := hf1 2 (by omega)
      rw [← hh, hinv.1] at this; exact he.1 this
    · intro hh
      have := hf2 2 (by omega)
      rw [← hh, hinv.1] at this; exact he.1 this

/-! ## the new darts lie in pairwise distinct vertices -/

theorem B1Chain.index {m : Map Val} : ∀ (l : List Nat) (d j : Nat), B1Chain m d l → j < l.length →
    m.β 1 ((d :: l).getD j 0) = (d :: l).getD (j + 1) 0 := by
  intro l
  induction l with
  | nil => intro d j _ hj; simp at hj
  | cons x rest ih =>
      intro d j h hj
      cases j with
      | zero => simpa using h.1
      | succ j' =>
          have := ih x j' h.2 (by simpa using hj)
          simpa using this

theorem zip_index {Q : Nat × Nat → Prop} {A B : List Nat} (h : ∀ p ∈ A.zip B, Q p) (j : Nat)
    (hA : j < A.length) (hB : j < B.length) : Q (A.getD j 0, B.getD j 0) := by
  have hz : j < (A.zip B).length := by simp [List.length_zip]; omega
  have := h _ (List.getElem_mem hz)
  rw [List.getElem_zip] at this
  rw [List.getD_eq_getElem?_getD, List.getD_eq_getElem?_getD, List.getElem?_eq_getElem hA,
    List.getElem?_eq_getElem hB]
  exact this

theorem getLastD_index : ∀ (l : List Nat) (d : Nat), l.getLastD d = (d :: l).getD l.length 0 := by
  intro l
  induction l with
  | nil => intro d; rfl
  | cons x rest ih => intro d; rw [List.getLastD_cons, ih x]; simp

theorem getD_mem_of_lt {l : List Nat} {j : Nat} (h : j < l.length) : l.getD j 0 ∈ l :=
  getD_mem h

set_option linter.unusedVariables false in
/-- the vertex closure argument: a set of darts closed under the two vertex images contains the whole vertex -/
theorem reach_vertex_closed {m : Map Val} (S : Nat → Prop) (h0 : S 0)
    (hcl : ∀ y, S y → S (m.β 1 (m.β 2 y)) ∧ S (m.β 2 (m.β 0 y))) {a x : Nat} (ha : S a)
    (hr : Reach (C03.g2 m .vertex) a x) : S x := by
  induction hr with
  | refl => exact ha
  | tail _ hc ih =>
      simp only [C03.g2, List.mem_cons, List.not_mem_nil, or_false] at hc
      rcases hc with rfl | rfl
      · exact (hcl _ ih).1
      · exact (hcl _ ih).2

/-- β2 pairs the two sides in reverse order, in index form: `S2[j] ↔ S1[k-j]` -/
theorem InsertResult.pairs_index {m m' : Map Val} {e : Nat} {fh sh : List Nat} (hres : InsertResult m m' e fh sh)
    (he2 : m.β 2 e ≠ 0) (hlen : fh.length = sh.length) (j : Nat) (hj : j ≤ fh.length) :
    m'.β 2 ((m.β 2 e :: sh).getD j 0) = (e :: fh).getD (fh.length - j) 0 ∧
    m'.β 2 ((e :: fh).getD (fh.length - j) 0) = (m.β 2 e :: sh).getD j 0 := by
  obtain ⟨hpz, hpl1, hpl2⟩ := hres.pairs he2
  by_cases hjk : j = fh.length
  · subst hjk
    rw [Nat.sub_self, hlen, ← getLastD_index]
    exact ⟨hpl1, hpl2⟩
  · have hj' : j < fh.length := by omega
    have := zip_index (Q := fun p => m'.β 2 p.1 = p.2 ∧ m'.β 2 p.2 = p.1) hpz j
      (by simp; omega) (by simp; omega)
    have hrev : fh.reverse.getD j 0 = (e :: fh).getD (fh.length - j) 0 := by
      rw [List.getD_eq_getElem?_getD, List.getElem?_eq_getElem (by simp; omega), List.getElem_reverse]
      have : fh.length - j = (fh.length - 1 - j) + 1 := by omega
      rw [this]
      simp [List.getD_eq_getElem?_getD, List.getElem?_eq_getElem (show fh.length - 1 - j < fh.length by omega)]
    rw [hrev] at this
    exact this

theorem B1Chain.index_back {m : Map Val} (hwf : WF 3 m) (l : List Nat) (d : Nat) (hch : B1Chain m d l) (hd : d < m.n)
    (hl : ∀ x ∈ l, x < m.n ∧ x ≠ 0) (j : Nat) (hj : j < l.length) :
    m.β 0 ((d :: l).getD (j + 1) 0) = (d :: l).getD j 0 := by
  have c := B1Chain.index l d j hch hj
  have hlt : (d :: l).getD j 0 < m.n := by
    cases j with
    | zero => simpa using hd
    | succ j' => exact (hl _ (by simpa using getD_mem_of_lt (l := l) (j := j') (by omega))).1
  have hne : (d :: l).getD (j + 1) 0 ≠ 0 := (hl _ (by simpa using getD_mem_of_lt hj)).2
  have := hwf.inv01 _ hlt (by rw [c]; exact hne)
  rw [c] at this; exact this

set_option linter.unusedVariables false in
/-- after a successful insertion the vertex of the `t`-th new dart `fh[t]` consists of that dart and (two-dart edge)
    its mirror `sh[k-1-t]` only -/
theorem new_vertex_darts (m m' : Map Val) (e : Nat) (fh sh : List Nat) (hwf : WF 3 m) (hwf' : WF 3 m') (hn : m'.n = m.n)
    (he : e < m.n) (hfhlt : ∀ x ∈ fh, x < m.n ∧ x ≠ 0) (hfree : ∀ x ∈ fh, ∀ i, i < 3 → m.β i x = 0)
    (h2 : m.β 2 e ≠ 0 → fh.length = sh.length ∧ m.β 2 e < m.n ∧ ∀ x ∈ sh, x < m.n ∧ x ≠ 0)
    (hres : InsertResult m m' e fh sh) (t : Nat) (ht : t < fh.length) (x : Nat)
    (hr : Reach (C03.g2 m' .vertex) (fh.getD t 0) x) :
    x = fh.getD t 0 ∨ x = 0 ∨ (m.β 2 e ≠ 0 ∧ x = (m.β 2 e :: sh).getD (fh.length - t) 0) := by
  have hnull := hwf'.null
  have c1 := fun j hj => B1Chain.index fh e j hres.side1.1 hj
  have i1 := B1Chain.index_back hwf' fh e hres.side1.1 (by rw [hn]; exact he) (fun x hx => by rw [hn]; exact hfhlt x hx)
  have ha : (e :: fh).getD (t + 1) 0 = fh.getD t 0 := by simp
  by_cases he2 : m.β 2 e = 0
  · -- one-dart edge: the vertex is the dart alone
    have hb2 : ∀ y, m'.β 2 y = m.β 2 y := fun y => hres.frame2 y (fun hh => absurd he2 hh)
    have hS1free : ∀ j, j ≤ fh.length → m.β 2 ((e :: fh).getD j 0) = 0 := by
      intro j hj
      cases j with
      | zero => simpa using he2
      | succ j' => exact hfree _ (by simpa using getD_mem_of_lt (l := fh) (j := j') (by omega)) 2 (by omega)
    have := reach_vertex_closed (m := m') (fun y => y = fh.getD t 0 ∨ y = 0) (Or.inr rfl) ?_ (Or.inl rfl) hr
    · rcases this with c | c
      · exact Or.inl c
      · exact Or.inr (Or.inl c)
    · intro y hy
      rcases hy with rfl | rfl
      · constructor
        · right; rw [hb2, ← ha, hS1free _ (by omega)]; exact hnull 1 (by omega)
        · right; rw [← ha, i1 t ht, hb2, hS1free _ (by omega)]
      · exact ⟨Or.inr (by rw [hnull 2 (by omega)]; exact hnull 1 (by omega)),
          Or.inr (by rw [hnull 0 (by omega)]; exact hnull 2 (by omega))⟩
  · obtain ⟨hlen, he2lt, hshlt⟩ := h2 he2
    obtain ⟨hch2, _⟩ := hres.side2 he2
    have c2 := fun j hj => B1Chain.index sh (m.β 2 e) j hch2 hj
    have i2 := B1Chain.index_back hwf' sh (m.β 2 e) hch2 (by rw [hn]; exact he2lt)
      (fun x hx => by rw [hn]; exact hshlt x hx)
    have p := hres.pairs_index he2 hlen
    have hb : (fh.length - t) = (fh.length - t - 1) + 1 := by omega
    have := reach_vertex_closed (m := m')
      (fun y => y = fh.getD t 0 ∨ y = 0 ∨ y = (m.β 2 e :: sh).getD (fh.length - t) 0)
      (Or.inr (Or.inl rfl)) ?_ (Or.inl rfl) hr
    · rcases this with c | c | c
      · exact Or.inl c
      · exact Or.inr (Or.inl c)
      · exact Or.inr (Or.inr ⟨he2, c⟩)
    · intro y hy
      rcases hy with rfl | rfl | rfl
      · constructor
        · -- β1(β2 a) = b
          right; right
          have hp := (p (fh.length - t - 1) (by omega)).2
          have e1 : fh.length - (fh.length - t - 1) = t + 1 := by omega
          rw [e1, ha] at hp
          rw [hp, c2 _ (by omega), ← hb]
        · -- β2(β0 a) = b
          right; right
          rw [← ha, i1 t ht]
          have hp := (p (fh.length - t) (by omega)).2
          have e1 : fh.length - (fh.length - t) = t := by omega
          rw [e1] at hp
          exact hp
      · exact ⟨Or.inr (Or.inl (by rw [hnull 2 (by omega)]; exact hnull 1 (by omega))),
          Or.inr (Or.inl (by rw [hnull 0 (by omega)]; exact hnull 2 (by omega)))⟩
      · constructor
        · -- β1(β2 b) = a
          left
          have hp := (p (fh.length - t) (by omega)).1
          have e1 : fh.length - (fh.length - t) = t := by omega
          rw [e1] at hp
          rw [hp, c1 t ht, ha]
        · -- β2(β0 b) = a
          left
          rw [hb, i2 _ (by omega)]
          have hp := (p (fh.length - t - 1) (by omega)).1
          have e1 : fh.length - (fh.length - t - 1) = t + 1 := by omega
          rw [e1, ha] at hp
          exact hp

/-- the same from `InsHyp` -/
theorem InsHyp.new_vertex_darts {m m' : Map Val} {e : Nat} {fh sh : List Nat} (H : InsHyp m m' e fh sh) (t : Nat)
    (ht : t < fh.length) (x : Nat) (hr : Reach (C03.g2 m' .vertex) (fh.getD t 0) x) :
    x = fh.getD t 0 ∨ x = 0 ∨ (m.β 2 e ≠ 0 ∧ x = (m.β 2 e :: sh).getD (fh.length - t) 0) :=
  C14.new_vertex_darts m m' e fh sh H.wf H.wf' H.n_eq H.elt H.fhlt H.fhfree
    (fun h2 => ⟨(H.two h2).1, H.wf.range 2 (by omega) e H.elt, (H.two h2).2.1⟩) H.res t ht x hr

/-- **C14 (c), the new darts lie in pairwise distinct vertices**: after a successful `insert_vertices_on_edge` the
    vertex identifiers of the first-half darts, computed on the resulting map, are pairwise distinct (the vertex of
    `fh[t]` is `{fh[t]}` on a one-dart edge and `{fh[t], sh[k-1-t]}` on a two-dart edge) — the hypothesis of
    `C14_new_vertex_position` -/
theorem C14_new_darts_distinct_vertices (m m' : Map Val) (e : Nat) (nds : List Nat) (ts : List Rat)
    (hwf : WF 3 m) (he : C01.InUse m e)
    (hlive : ∀ d ∈ nds, m.unused d = false)
    (hfhnd : (nds.take ts.length).Nodup) (hnodup : m.β 2 e ≠ 0 → nds.Nodup)
    (h : run (insertVerticesOnEdge m.n e nds ts) m = (.ok (), m')) :
    ((ts.zip (nds.take ts.length)).map (fun x => (run (vertexId2 m.n x.2) m').1)).Nodup := by
  have H := insHyp_insertVertices m m' e nds ts hwf he hlive hfhnd hnodup h
  have hwf' := H.wf'
  have hn := H.n_eq
  have hfhlt := H.fhlt
  have hlenF : (nds.take ts.length).length = ts.length := by
    have := (insertVertices_ok_elim h).1
    rw [List.length_take]
    omega
  -- the list of identifiers is the image of the first half
  have hmap : (ts.zip (nds.take ts.length)).map (fun x => (run (vertexId2 m.n x.2) m').1)
      = (nds.take ts.length).map (fun d => (run (vertexId2 m.n d) m').1) := by
    have : (ts.zip (nds.take ts.length)).map (fun x => (run (vertexId2 m.n x.2) m').1)
        = ((ts.zip (nds.take ts.length)).map Prod.snd).map (fun d => (run (vertexId2 m.n d) m').1) := by
      rw [List.map_map]; rfl
    rw [this, List.map_snd_zip (by omega)]
  rw [hmap]
  refine List.Nodup.map_on ?_ hfhnd
  intro a ha b hb hab
  obtain ⟨alt, a0⟩ := hfhlt a ha
  obtain ⟨blt, b0⟩ := hfhlt b hb
  have ra := (C03.C03_vertexId2_min hwf' a0 (by rw [hn]; exact alt)).1
  have rb := (C03.C03_vertexId2_min hwf' b0 (by rw [hn]; exact blt)).1
  rw [hn] at ra rb
  rw [ra, rb] at hab
  simp only [Out.ok.injEq] at hab
  have hreach := (C03.C03_same_id_iff_same_cell hwf' (pol := .vertex) trivial a0 (by rw [hn]; exact alt) b0
    (by rw [hn]; exact blt)).1.1 hab
  -- `a = fh[t]`
  obtain ⟨t, ht, rfl⟩ := List.getElem_of_mem ha
  have hgd : (nds.take ts.length).getD t 0 = (nds.take ts.length)[t] := by
    rw [List.getD_eq_getElem?_getD, List.getElem?_eq_getElem ht]; rfl
  rw [← hgd] at hreach
  rcases H.new_vertex_darts t ht b hreach with c | c | ⟨he2, c⟩
  · rw [c, hgd]
  · exact absurd c b0
  · -- `b` would be a second-half dart (or `β2 e`): impossible for a first-half dart
    exfalso
    obtain ⟨hl, _, _⟩ := H.two he2
    have hnd := hnodup he2
    rw [← List.take_append_drop ts.length nds] at hnd
    have hdisj := (List.nodup_append.1 hnd).2.2
    have hj : (nds.take ts.length).length - t = ((nds.take ts.length).length - t - 1) + 1 := by omega
    rw [hj] at c
    simp only [List.getD_cons_succ] at c
    have hmemS : b ∈ nds.drop ts.length := by
      rw [c]; exact getD_mem_of_lt (by omega)
    exact hdisj b hb b hmemS rfl

/-- **C14 (c), positions, unconditional form**: after a successful `insert_vertices_on_edge` the `i`-th new point
    `v1 + (v2 - v1)·t_i` sits in the slot of the vertex identifier of the `i`-th new dart (computed on the result) and
    no other slot of any storage has changed — `C14_new_vertex_position` with its hypothesis discharged -/
theorem C14_new_vertex_position_full (m m' : Map Val) (e : Nat) (nds : List Nat) (ts : List Rat)
    (hwf : WF 3 m) (he : C01.InUse m e)
    (hlive : ∀ d ∈ nds, m.unused d = false)
    (hfhnd : (nds.take ts.length).Nodup) (hnodup : m.β 2 e ≠ 0 → nds.Nodup)
    (h : run (insertVerticesOnEdge m.n e nds ts) m = (.ok (), m')) :
    ∃ vid1 vid2 v1 v2,
      run (vertexId2 m.n e) m = (.ok vid1, m) ∧
      run (vertexId2 m.n (if m.β 1 e ≠ 0 then m.β 1 e else m.β 2 e)) m = (.ok vid2, m) ∧
      m.att 0 vid1 = some v1 ∧ m.att 0 vid2 = some v2 ∧
      (∀ x ∈ ts.zip (nds.take ts.length), ∀ vid, (run (vertexId2 m.n x.2) m').1 = .ok vid →
        m'.att 0 vid = some (placeVal v1 v2 (some x.1))) ∧
      (∀ s d, (s ≠ 0 ∨ ∀ x ∈ ts.zip (nds.take ts.length), (run (vertexId2 m.n x.2) m').1 ≠ .ok d) →
        m'.att s d = m.att s d) :=
  C14_new_vertex_position h (C14_new_darts_distinct_vertices m m' e nds ts hwf he hlive hfhnd hnodup h)

/-! ## non-vacuity -/

/-- two-dart edge 1 ↔ 4 of `exMap` (dart 1 on the triangle 1-2-3), two vertices, spare darts 5, 6 | 7, 8 -/
def exMap2 : Map Val :=
  { (Map.empty 3 6 9 : Map Val) with
    b := #[#[0, 3, 1, 2, 0, 0, 0, 0, 0], #[0, 2, 3, 1, 0, 0, 0, 0, 0], #[0, 4, 0, 0, 1, 0, 0, 0, 0]]
    a := #[#[none, some (.pt 0 0 0), some (.pt 4 0 0), some (.pt 0 4 0), none, none, none, none, none],
           Array.replicate 10 none, Array.replicate 10 none, Array.replicate 10 none,
           Array.replicate 10 none, Array.replicate 10 none] }

theorem exMap2_wf : WF 3 exMap2 := by decide +kernel

theorem exMap2_spares : C01.InUse exMap2 1 ∧ (∀ d ∈ [5, 6, 7, 8], exMap2.unused d = false) ∧
    (exMap2.β 2 1 ≠ 0 → [5, 6, 7, 8].Nodup) := by decide +kernel

def exIns2 : Map Val :=
  { exMap2 with
    b := #[#[0, 3, 6, 2, 0, 1, 5, 4, 7], #[0, 5, 3, 1, 7, 6, 2, 8, 0], #[0, 8, 0, 0, 6, 7, 4, 5, 1]]
    a := #[#[none, some (.pt 0 0 0), some (.pt 4 0 0), some (.pt 0 4 0), none, some (.pt 1 0 0), some (.pt 2 0 0),
             none, none],
           Array.replicate 10 none, Array.replicate 10 none, Array.replicate 10 none,
           Array.replicate 10 none, Array.replicate 10 none] }

theorem exMap2_insert_run :
    run (insertVerticesOnEdge exMap2.n 1 [5, 6, 7, 8] [1/4, 1/2]) exMap2 = (.ok (), exIns2) := by
  apply eq_of_runIs
  decide +kernel

example : (run (insertVerticesOnEdge exMap2.n 1 [5, 6, 7, 8] [1/4, 1/2]) exMap2).1 = .ok () :=
  congrArg Prod.fst exMap2_insert_run

example : InsertResult exMap2 (run (insertVerticesOnEdge exMap2.n 1 [5, 6, 7, 8] [1/4, 1/2]) exMap2).2 1 [5, 6] [7, 8] :=
  (C14_insertVertices_beta_structure exMap2 _ 1 [5, 6, 7, 8] [1/4, 1/2] exMap2_wf exMap2_spares.1 exMap2_spares.2.1
    (by decide) exMap2_spares.2.2 (run_eq_of_fst (congrArg Prod.fst exMap2_insert_run))).2

/-- what it says on this instance: 1 → 5 → 6 → 2, 4 → 7 → 8 (4 was 1-free), β2: 4 ↔ 6, 7 ↔ 5, 8 ↔ 1 -/
def exRes2 : Map Val := (run (insertVerticesOnEdge exMap2.n 1 [5, 6, 7, 8] [1/4, 1/2]) exMap2).2

theorem exRes2_eq : exRes2 = exIns2 := by
  unfold exRes2
  rw [exMap2_insert_run]

theorem exRes2_run : run (insertVerticesOnEdge exMap2.n 1 [5, 6, 7, 8] [1/4, 1/2]) exMap2 = (.ok (), exRes2) := by
  rw [exRes2_eq]
  exact exMap2_insert_run

example : [exRes2.β 1 1, exRes2.β 1 5, exRes2.β 1 6, exRes2.β 1 4, exRes2.β 1 7, exRes2.β 1 8,
    exRes2.β 2 4, exRes2.β 2 7, exRes2.β 2 8, exRes2.β 2 1] = [5, 6, 2, 7, 8, 0, 6, 5, 1, 8] := by
  rw [exRes2_eq]
  decide +kernel

example : ((([1/4, 1/2] : List Rat).zip [5, 6]).map (fun x => (run (vertexId2 exMap2.n x.2) exRes2).1)).Nodup :=
  C14_new_darts_distinct_vertices exMap2 _ 1 [5, 6, 7, 8] [1/4, 1/2] exMap2_wf exMap2_spares.1 exMap2_spares.2.1
    (by decide) exMap2_spares.2.2 exRes2_run

/-- the vertices of the new darts 5, 6 are {5, 8} and {6, 7}; their points sit at the ids 5 and 6 -/
example : [(run (vertexId2 exMap2.n 5) exRes2).1, (run (vertexId2 exMap2.n 8) exRes2).1,
    (run (vertexId2 exMap2.n 6) exRes2).1, (run (vertexId2 exMap2.n 7) exRes2).1] = [.ok 5, .ok 5, .ok 6, .ok 6] := by
  rw [exRes2_eq]
  decide +kernel
example : [exRes2.att 0 5, exRes2.att 0 6] = [some (.pt 1 0 0), some (.pt 2 0 0)] := by
  rw [exRes2_eq]
  decide +kernel

/-- `insert_vertex_on_edge` on the same two-dart edge: 1 → 5 → 2, 4 → 6, β2: 4 ↔ 5, 6 ↔ 1 -/
example : InsertResult exMap2 (run (insertVertexOnEdge exMap2.n 1 5 6 none) exMap2).2 1 [5] [6] :=
  (C14_insertVertex_beta_structure exMap2 _ 1 5 6 none exMap2_wf (by decide +kernel) (by decide +kernel)
    (by decide +kernel) (by decide +kernel) (ok_of_fst (by decide +kernel))).2

end HC.C14

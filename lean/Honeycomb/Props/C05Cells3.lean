/-
  C05 at cell level on OPEN faces: 3-sew and 3-unsew.

  On an open face `three_link` / `three_unlink` walk β1 forward from `ld` (β0 from `rd`) until the
  null dart, then β0 backward from `β0 ld` (β1 from `β1 rd`) until the null dart; both sides must
  end at the same step (`OpenPair`).  The pairs they link / unlink are exactly
  `openPairs m ld rd F B` (`threeLink3_linked_open`, `threeUnlink3_unlinked_open`).
-/
import Honeycomb.Props.C05Succ

namespace HC.C05
open HC HC.CellCalc HC.Cell3
open HC.C04 (vStores eStores)
variable {X : Type}

/-! ## the exact pairs of a 3-link of two open faces -/

/-- two open faces of the same shape: `F` darts from `ld` on along β1 (from `rd` along β0), `B` darts
    behind `ld` along β0 (behind `rd` along β1) -/
structure OpenPair (m : Map X) (ld rd F B : Nat) : Prop where
  fpos : 0 < F
  endF : it m 1 F ld = 0
  endG : it m 0 F rd = 0
  endA : it m 0 B (m.β 0 ld) = 0
  endB : it m 1 B (m.β 1 rd) = 0
  nzF : ∀ t, t < F → it m 1 t ld ≠ 0 ∧ it m 0 t rd ≠ 0
  nzB : ∀ s, s < B → it m 0 s (m.β 0 ld) ≠ 0 ∧ it m 1 s (m.β 1 rd) ≠ 0

/-- the pairs `(β1^t ld, β0^t rd)`, `t < F`, then `(β0^(s+1) ld, β1^(s+1) rd)`, `s < B` -/
def openPairs (m : Map X) (ld rd F B : Nat) : List (Nat × Nat) :=
  walkPairs m 1 0 F ld rd ++ walkPairs m 0 1 B (m.β 0 ld) (m.β 1 rd)

/-- **`three_link` on an open left face**: both faces are open with the same shape and exactly the
    pairs of `openPairs` get 3-linked -/
theorem threeLink3_linked_open {n ld rd : Nat} {m m' : Map X} {u : Unit} (hw : WF 4 m)
    (hl0 : ld ≠ 0) (hr0 : rd ≠ 0) (hopen : ∃ t, it m 1 t ld = 0)
    (h : run (threeLink3 (X := X) n ld rd) m = (.ok u, m')) :
    ∃ F B, OpenPair m ld rd F B ∧ Linked3 m m' (openPairs m ld rd F B) := by
  obtain ⟨_, _, _, _, k, _, hcase⟩ := threeLink3_walks hw.toSized hl0 hr0 h
  rcases hcase with ⟨hpl, _, _⟩ | ⟨eF, eG, k', LA, eA, eB⟩
  · obtain ⟨t, ht⟩ := hopen
    exact absurd ht (periodic_nz (hw.null 1 (by omega)) (by omega) hpl hl0 t)
  · refine ⟨k + 1, k', ⟨by omega, eF, eG, eA, eB, fun t ht => ?_, fun s hs => ?_⟩, LA⟩
    · obtain ⟨a5, a6⟩ :=
        LA.nz (List.mem_append_left _ ((mem_walkPairs _ ld rd _).2 ⟨t, ht, rfl⟩))
      exact ⟨a5, a6⟩
    · obtain ⟨a5, a6⟩ :=
        LA.nz (List.mem_append_right _ ((mem_walkPairs _ _ _ _).2 ⟨s, hs, rfl⟩))
      exact ⟨a5, a6⟩


/-! ## faces, edges: the partitions -/

/-- the darts of a β0 / β1 walk are in the face cell of its first dart -/
theorem face_walk_same {m : Map X} (hw : WF 4 m) {i d : Nat} (hi : i = 1 ∨ i = 0) (hd : d < m.n) :
    ∀ t, (∀ s, s ≤ t → it m i s d ≠ 0) → SameCell (g3f m) m.n d (it m i t d) := by
  have hi4 : i < 4 := by omega
  intro t
  induction t with
  | zero => intro _; exact .refl _
  | succ t ih =>
      intro hnz
      refine .trans (ih fun s hs => hnz s (by omega)) (.step ((gstep3f_iff m _ _).2
        ⟨hnz t (by omega), it_lt hw hi4 t d hd, hnz (t + 1) (by omega), ?_⟩))
      rw [it_succ']
      rcases hi with rfl | rfl
      · exact Or.inl rfl
      · exact Or.inr (Or.inl rfl)

theorem mem_openPairs {m : Map X} {ld rd F B : Nat} (pq : Nat × Nat) :
    pq ∈ openPairs m ld rd F B ↔ (∃ t, t < F ∧ pq = (it m 1 t ld, it m 0 t rd)) ∨
      (∃ s, s < B ∧ pq = (it m 0 (s + 1) ld, it m 1 (s + 1) rd)) := by
  unfold openPairs
  rw [List.mem_append, mem_walkPairs, mem_walkPairs]
  rfl

/-- every pair of `openPairs` joins the face of `ld` to the face of `rd` -/
theorem openPairs_faces {m : Map X} (hw : WF 4 m) {ld rd F B : Nat} (hln : ld < m.n) (hrn : rd < m.n)
    (O : OpenPair m ld rd F B) (pq : Nat × Nat) (hm : pq ∈ openPairs m ld rd F B) :
    SameCell (g3f m) m.n pq.1 ld ∧ SameCell (g3f m) m.n pq.2 rd := by
  rcases (mem_openPairs pq).1 hm with ⟨t, ht, rfl⟩ | ⟨s, hs, rfl⟩
  · exact ⟨.symm (face_walk_same hw (Or.inl rfl) hln t fun s hs => (O.nzF s (by omega)).1),
      .symm (face_walk_same hw (Or.inr rfl) hrn t fun s hs => (O.nzF s (by omega)).2)⟩
  · have nzA : ∀ r, r ≤ s + 1 → it m 0 r ld ≠ 0 := by
      intro r hr
      cases r with
      | zero => exact (O.nzF 0 O.fpos).1
      | succ r => exact (O.nzB r (by omega)).1
    have nzB : ∀ r, r ≤ s + 1 → it m 1 r rd ≠ 0 := by
      intro r hr
      cases r with
      | zero => exact (O.nzF 0 O.fpos).2
      | succ r => exact (O.nzB r (by omega)).2
    exact ⟨.symm (face_walk_same hw (Or.inr rfl) hln (s + 1) nzA),
      .symm (face_walk_same hw (Or.inl rfl) hrn (s + 1) nzB)⟩

/-- **faces and edges after 3-linking a list of pairs that all join the faces of `ld` and `rd`** -/
theorem faces_edges_linked3 {m m1 : Map X} {ps : List (Nat × Nat)} {ld rd : Nat} (hL : Linked3 m m1 ps)
    (hmem : (ld, rd) ∈ ps)
    (hall : ∀ pq, pq ∈ ps → SameCell (g3f m) m.n pq.1 ld ∧ SameCell (g3f m) m.n pq.2 rd) :
    (∀ d e, SameCell (g3f m1) m.n d e ↔ Glue (SameCell (g3f m) m.n) [(ld, rd)] d e) ∧
    (∀ d e, SameCell (g3e m1) m.n d e ↔ Glue (SameCell (g3e m) m.n) ps d e) := by
  have e1 : ∀ x, m1.β 1 x = m.β 1 x := fun x => hL.other 1 x (by omega)
  have e0 : ∀ x, m1.β 0 x = m.β 0 x := fun x => hL.other 0 x (by omega)
  constructor
  · intro d e
    have := cells_linked3 (base := fun m x => [m.β 1 x, m.β 0 x]) (m := m) (m' := m1)
      (fun x => by simp only [e1, e0]) hL d e
    rw [show gB3 (fun m x => [m.β 1 x, m.β 0 x]) m = g3f m from rfl,
      show gB3 (fun m x => [m.β 1 x, m.β 0 x]) m1 = g3f m1 from rfl] at this
    rw [this]
    exact glue_same_cells (sameCell_equiv (g3f m) m.n) hall ⟨_, hmem⟩ d e
  · intro d e
    exact cells_linked3 (base := fun m x => [m.β 2 x]) (m := m) (m' := m1)
      (fun x => by simp only [hL.other 2 x (by omega)]) hL d e

/-! ## vertices: the general partition after 3-linking a list of pairs -/

/-- the head of a linked dart, as `three_sew` looks for it: its successor, else its β2 image (which
    starts at the head) -/
def headG (m : Map X) (x : Nat) : Nat := if m.β 1 x ≠ 0 then m.β 1 x else m.β 2 x

theorem headG_eq (m : Map X) (x : Nat) : headG m x = head3 m.β x := rfl

/-! ## the pairs of two open faces are closed under the paired β1/β0 steps -/

theorem openPairs_zipped {m : Map X} (hw : WF 4 m) {ld rd F B : Nat} (hln : ld < m.n) (hrn : rd < m.n)
    (O : OpenPair m ld rd F B) : Zipped m (openPairs m ld rd F B) := by
  obtain ⟨k, rfl⟩ : ∃ k, F = k + 1 := ⟨F - 1, by have := O.fpos; omega⟩
  exact zipped_open hw hln hrn O.endF O.endG O.endA O.endB O.nzF O.nzB fun x => List.mem_append

/-- `it` is the iterate of `β i` -/
theorem it_eq_iterate (m : Map X) (i : Nat) : ∀ k d, it m i k d = (m.β i)^[k] d
  | 0, _ => rfl
  | k + 1, d => it_eq_iterate m i k (m.β i d)

theorem reach_it {m : Map X} {i j d : Nat} (t : Nat) : Reach (gIJ m i j) d (it m i t d) ∧
    Reach (gIJ m i j) d (it m j t d) := by
  rw [it_eq_iterate, it_eq_iterate]
  exact ⟨reach_iter (fun y => by simp [gIJ]) d t, reach_iter (fun y => by simp [gIJ]) d t⟩

theorem openPairs_reach {m : Map X} {ld rd F B : Nat} (pq : Nat × Nat) (hm : pq ∈ openPairs m ld rd F B) :
    Reach (gIJ m 1 0) ld pq.1 ∧ Reach (gIJ m 0 1) rd pq.2 := by
  rcases (mem_openPairs _).1 hm with ⟨t, ht, rfl⟩ | ⟨s, hs, rfl⟩
  · exact ⟨(reach_it t).1, (reach_it t).1⟩
  · exact ⟨(reach_it (s + 1)).2, (reach_it (s + 1)).2⟩

/-! ## the two face walks of the code, in lock-step along linked pairs -/

/-- **the zipped face walks of `three_sew` / `three_unsew` list exactly the linked pairs**, for any
    list of pairs that is 3-linked in some map, closed under the paired steps and reachable -/
theorem zip_walks_linked {m m1 : Map X} (hw : WF 4 m) {ps : List (Nat × Nat)} (hL : Linked3 m m1 ps)
    {ld rd : Nat} (hl0 : ld ≠ 0) (hln : ld < m.n) (hmem : (ld, rd) ∈ ps)
    (hcov : Zipped m ps) (hreach : ∀ pq, pq ∈ ps → Reach (gIJ m 1 0) ld pq.1) (pq : Nat × Nat) :
    pq ∈ (bfsPure (gIJ m 1 0) (m.n + 1) [ld] [0, ld] []).zip (bfsPure (gIJ m 0 1) (m.n + 1) [rd] [0, rd] []) ↔
      pq ∈ ps := by
  let Φ : Nat → Nat → Prop := fun x y => (x = 0 ∧ y = 0) ∨ (x, y) ∈ ps
  have nzp : ∀ x y, (x, y) ∈ ps → x ≠ 0 ∧ y ≠ 0 := by
    intro x y h
    obtain ⟨a5, a6⟩ := hL.nz h
    exact ⟨a5, a6⟩
  have hb : BiUnique Φ := by
    rintro x y x' y' (⟨rfl, rfl⟩ | h1) (⟨rfl, rfl⟩ | h2)
    · exact ⟨fun _ => rfl, fun _ => rfl⟩
    · exact ⟨fun hh => absurd hh.symm (nzp _ _ h2).1, fun hh => absurd hh.symm (nzp _ _ h2).2⟩
    · exact ⟨fun hh => absurd hh (nzp _ _ h1).1, fun hh => absurd hh (nzp _ _ h1).2⟩
    · obtain ⟨a1, a2⟩ := hL.new h1
      obtain ⟨b1, b2⟩ := hL.new h2
      simp only at a1 a2 b1 b2
      constructor
      · intro hh; rw [← a1, ← b1, hh]
      · intro hh; rw [← a2, ← b2, hh]
  have n0 := hw.null 0 (by omega)
  have n1 := hw.null 1 (by omega)
  have hstep : ∀ x y, Φ x y → Rel2 Φ (gIJ m 1 0 x) (gIJ m 0 1 y) := by
    rintro x y (⟨rfl, rfl⟩ | h1)
    · unfold gIJ; rw [n0, n1]
      exact .cons (Or.inl ⟨rfl, rfl⟩) (.cons (Or.inl ⟨rfl, rfl⟩) .nil)
    · unfold gIJ
      obtain ⟨c1, c2⟩ := hcov.step h1
      refine .cons ?_ (.cons ?_ .nil)
      · rcases c1 with k | k
        · exact Or.inr k
        · exact Or.inl k
      · rcases c2 with k | k
        · exact Or.inr k
        · exact Or.inl k
  have phi0 : Φ ld rd := Or.inr hmem
  have R := bfsPure_lockstep hb hstep (m.n + 1) [ld] [rd] [0, ld] [0, rd] [] []
    (.cons phi0 .nil) (.cons (Or.inl ⟨rfl, rfl⟩) (.cons phi0 .nil)) .nil
  obtain ⟨z1, z2⟩ := R.zip_mem
  obtain ⟨_, _, hno0, hmemb, _⟩ := bfsPure_spec (gIJ_null hw (i := 1) (j := 0) (by omega) (by omega))
    (gIJ_range hw (i := 1) (j := 0) (by omega) (by omega)) hl0 hln
  constructor
  · intro hm
    have hx : pq.1 ∈ bfsPure (gIJ m 1 0) (m.n + 1) [ld] [0, ld] [] := (List.of_mem_zip hm).1
    rcases z1 pq hm with ⟨k1, _⟩ | k
    · exact absurd (k1 ▸ hx) hno0
    · exact k
  · intro hm
    obtain ⟨x, y⟩ := pq
    obtain ⟨y', hy'⟩ := z2 x ((hmemb x).2 ⟨(nzp x y hm).1, hreach _ hm⟩)
    have : y' = y := (hb _ _ _ _ (z1 _ hy') (Or.inr hm)).1 rfl
    rw [← this]; exact hy'


/-! ## a 3-free face given as a set of darts: its cell, its identifier -/

theorem face_cell_of_set {m : Map X} (hw : WF 4 m) {S : Nat → Prop} {d : Nat}
    (hS0 : ∀ x, S x → x ≠ 0 ∧ x < m.n ∧ m.β 3 x = 0)
    (hSstep : ∀ x, S x → (m.β 1 x ≠ 0 → S (m.β 1 x)) ∧ (m.β 0 x ≠ 0 → S (m.β 0 x)))
    (hSd : S d) (hSsame : ∀ x, S x → SameCell (g3f m) m.n d x) (e : Nat) :
    SameCell (g3f m) m.n d e ↔ S e := by
  have key : ∀ a b, GStep (g3f m) m.n a b → (S a ↔ S b) := by
    intro a b hs
    obtain ⟨a0, han, b0, hb⟩ := (gstep3f_iff m a b).1 hs
    constructor
    · intro sa
      rcases hb with rfl | rfl | rfl
      · exact (hSstep a sa).1 b0
      · exact (hSstep a sa).2 b0
      · exact absurd (hS0 a sa).2.2 b0
    · intro sb
      rcases hb with rfl | rfl | rfl
      · have := hw.inv01 a han b0
        rw [← this]; exact (hSstep _ sb).2 (by rw [this]; exact a0)
      · have := hw.inv10 a han b0
        rw [← this]; exact (hSstep _ sb).1 (by rw [this]; exact a0)
      · have := invol_back hw (i := 3) (by omega) (by omega) han b0
        rw [(hS0 _ sb).2.2] at this
        exact absurd this.symm a0
  constructor
  · intro h
    have aux : ∀ a b, SameCell (g3f m) m.n a b → (S a ↔ S b) := by
      intro a b hab
      induction hab with
      | refl a => exact Iff.rfl
      | step hs => exact key _ _ hs
      | symm _ ih => exact ih.symm
      | trans _ _ ih1 ih2 => exact ih1.trans ih2
    exact (aux d e h).1 hSd
  · exact hSsame e

/-- the face identifier the code computes (minimum of its face walk) is the smallest dart of the
    face cell, on a 3-free face given as a set of darts -/
theorem face_min_of_set {m : Map X} (hw : WF 4 m) {S : Nat → Prop} {i j d : Nat} (dir : Dir i j)
    (hS0 : ∀ x, S x → x ≠ 0 ∧ x < m.n ∧ m.β 3 x = 0)
    (hSstep : ∀ x, S x → (m.β 1 x ≠ 0 → S (m.β 1 x)) ∧ (m.β 0 x ≠ 0 → S (m.β 0 x)))
    (hSd : S d) (hSsame : ∀ x, S x → SameCell (g3f m) m.n d x)
    (hSreach : ∀ x, S x → Reach (gIJ m i j) d x) :
    IsFid3 m d (listMin (bfsPure (gIJ m i j) (m.n + 1) [d] [0, d] []) d) := by
  have hi4 : i < 4 := by have := dir.ilt; omega
  have hj4 : j < 4 := by have := dir.jlt; omega
  obtain ⟨hd0, hdn, _⟩ := hS0 d hSd
  obtain ⟨_, _, _, hmemb, _⟩ := bfsPure_spec (gIJ_null hw hi4 hj4) (gIJ_range hw hi4 hj4) hd0 hdn
  have hinv : ∀ x, Reach (gIJ m i j) d x → x = 0 ∨ S x := by
    intro x hr
    induction hr with
    | refl => exact Or.inr hSd
    | @tail b c _ hc ih =>
        rcases ih with rfl | sb
        · exact Or.inl (gIJ_null hw hi4 hj4 c hc)
        · have hc' : c = m.β i b ∨ c = m.β j b := by
            unfold gIJ at hc; simpa using hc
          by_cases c0 : c = 0
          · exact Or.inl c0
          · right
            rcases dir with ⟨rfl, rfl⟩ | ⟨rfl, rfl⟩
            · rcases hc' with rfl | rfl
              · exact (hSstep b sb).1 c0
              · exact (hSstep b sb).2 c0
            · rcases hc' with rfl | rfl
              · exact (hSstep b sb).2 c0
              · exact (hSstep b sb).1 c0
  have hmem : ∀ x, x ∈ bfsPure (gIJ m i j) (m.n + 1) [d] [0, d] [] ↔ S x := by
    intro x
    rw [hmemb]
    constructor
    · rintro ⟨x0, hr⟩
      rcases hinv x hr with k | k
      · exact absurd k x0
      · exact k
    · intro sx; exact ⟨(hS0 x sx).1, hSreach x sx⟩
  have hdm : d ∈ bfsPure (gIJ m i j) (m.n + 1) [d] [0, d] [] := (hmem d).2 hSd
  obtain ⟨k1, k2⟩ := listMin_spec hdm
  constructor
  · exact (face_cell_of_set hw hS0 hSstep hSd hSsame _).2 ((hmem _).1 k1)
  · intro e he _
    exact k2 e ((hmem e).2 ((face_cell_of_set hw hS0 hSstep hSd hSsame e).1 he))


/-! ## the identifier pairs the code collects, on any faces -/

theorem vid_zero (n : Nat) (m : Map X) : run (vertexId3 (X := X) n 0) m = (.ok 0, m) := by
  unfold vertexId3
  rw [show 8 * n + 8 = (8 * n + 6) + 1 + 1 by omega]
  unfold popLoop
  simp only [List.contains_cons, beq_self_eq_true, Bool.true_or, if_true]
  unfold popLoop
  rfl

/-- the vertex identifier of a dart that may be null (`vertex_id(NULL) = NULL`) -/
def VidOr0 (m : Map X) (d v : Nat) : Prop := (d ≠ 0 ∧ IsVid3 m d v) ∨ (d = 0 ∧ v = 0)

theorem vidOr0_spec {m : Map X} (hwf : WF 4 m) {n d v : Nat} (hd : d < m.n)
    (hr : run (vertexId3 (X := X) n d) m = (.ok v, m)) : VidOr0 m d v := by
  by_cases d0 : d = 0
  · subst d0
    rw [vid_zero] at hr
    simp only [Prod.mk.injEq, Out.ok.injEq, and_true] at hr
    exact Or.inr ⟨rfl, hr.symm⟩
  · exact Or.inl ⟨d0, (vertexId3_spec hwf d0 hd hr).2⟩

theorem head_code_eq (m : Map X) (l : Nat) : (if m.β 1 l = 0 then m.β 2 l else m.β 1 l) = headG m l := by
  unfold headG
  by_cases c : m.β 1 l = 0
  · simp [c]
  · simp [c]

theorem headG_lt {m : Map X} (hwf : WF 4 m) {l : Nat} (hl : l < m.n) : headG m l < m.n := by
  unfold headG
  split
  · exact hwf.range 1 (by omega) l hl
  · exact hwf.range 2 (by omega) l hl

/-- what the collecting loop of `three_sew` records, pair by pair, on ANY faces: the edge ids of the
    two darts; the vertex id of the head of the left dart (null when the dart has no head) with the
    vertex id of the right dart; and, when the left dart has no predecessor, the vertex id of the
    left dart with the vertex id of the head of the right dart — each the smallest dart of its cell -/
theorem collected_ids_gen {m : Map X} (hwf : WF 4 m) :
    ∀ {zs es vs : List (Nat × Nat)}, Collected m.n m zs es vs →
      (∀ lr, lr ∈ zs → lr.1 ≠ 0 ∧ lr.1 < m.n ∧ lr.2 ≠ 0 ∧ lr.2 < m.n) →
      (∀ p, p ∈ es → ∃ lr, lr ∈ zs ∧ IsEid3 m lr.1 p.1 ∧ IsEid3 m lr.2 p.2) ∧
      (∀ lr, lr ∈ zs → ∃ p, p ∈ es ∧ IsEid3 m lr.1 p.1 ∧ IsEid3 m lr.2 p.2) ∧
      (∀ p, p ∈ vs → ∃ lr, lr ∈ zs ∧ ((VidOr0 m (headG m lr.1) p.1 ∧ IsVid3 m lr.2 p.2) ∨
        (m.β 0 lr.1 = 0 ∧ IsVid3 m lr.1 p.1 ∧ VidOr0 m (headG m lr.2) p.2))) ∧
      (∀ lr, lr ∈ zs → (∃ p, p ∈ vs ∧ VidOr0 m (headG m lr.1) p.1 ∧ IsVid3 m lr.2 p.2) ∧
        (m.β 0 lr.1 = 0 → ∃ p, p ∈ vs ∧ IsVid3 m lr.1 p.1 ∧ VidOr0 m (headG m lr.2) p.2)) := by
  intro zs es vs hC
  induction hC with
  | nil => intro _; exact ⟨fun p h => absurd h (by simp), fun p h => absurd h (by simp),
      fun p h => absurd h (by simp), fun p h => absurd h (by simp)⟩
  | @cons l r rest es vs es' vs' hP _ ih =>
      intro hz
      obtain ⟨i1, i2, i3, i4⟩ := ih (fun lr hm => hz lr (List.mem_cons_of_mem _ hm))
      obtain ⟨hl0, hln, hr0, hrn⟩ := hz (l, r) (by simp)
      simp only at hl0 hln hr0 hrn
      obtain ⟨el, er, v1, v2, hel, her, hv1, hv2, hes, hvs⟩ := hP
      rw [head_code_eq] at hv1
      have s1 := (edgeId3_spec hwf hl0 hln hel).2
      have s2 := (edgeId3_spec hwf hr0 hrn her).2
      have s3 := vidOr0_spec hwf (headG_lt hwf hln) hv1
      have s4 := (vertexId3_spec hwf hr0 hrn hv2).2
      have loc : (∀ p, p ∈ vs → (VidOr0 m (headG m l) p.1 ∧ IsVid3 m r p.2) ∨
            (m.β 0 l = 0 ∧ IsVid3 m l p.1 ∧ VidOr0 m (headG m r) p.2)) ∧
          (∃ p, p ∈ vs ∧ VidOr0 m (headG m l) p.1 ∧ IsVid3 m r p.2) ∧
          (m.β 0 l = 0 → ∃ p, p ∈ vs ∧ IsVid3 m l p.1 ∧ VidOr0 m (headG m r) p.2) := by
        rcases hvs with ⟨c, rfl⟩ | ⟨c, v3, v4, hv3, hv4, rfl⟩
        · refine ⟨fun p hp => ?_, ⟨(v1, v2), by simp, s3, s4⟩, fun hh => absurd hh c⟩
          have : p = (v1, v2) := by simpa using hp
          subst this; exact Or.inl ⟨s3, s4⟩
        · rw [head_code_eq] at hv4
          have s5 := (vertexId3_spec hwf hl0 hln hv3).2
          have s6 := vidOr0_spec hwf (headG_lt hwf hrn) hv4
          refine ⟨fun p hp => ?_, ⟨(v1, v2), by simp, s3, s4⟩, fun _ => ⟨(v3, v4), by simp, s5, s6⟩⟩
          have : p = (v1, v2) ∨ p = (v3, v4) := by simpa using hp
          rcases this with rfl | rfl
          · exact Or.inl ⟨s3, s4⟩
          · exact Or.inr ⟨c, s5, s6⟩
      obtain ⟨loc1, loc2, loc3⟩ := loc
      subst hes
      refine ⟨?_, ?_, ?_, ?_⟩
      · intro p hp
        rcases List.mem_append.1 hp with hp | hp
        · have : p = (el, er) := by simpa using hp
          subst this; exact ⟨(l, r), by simp, s1, s2⟩
        · obtain ⟨lr, hm, k⟩ := i1 p hp
          exact ⟨lr, List.mem_cons_of_mem _ hm, k⟩
      · intro lr hm
        rcases List.mem_cons.1 hm with rfl | hm
        · exact ⟨(el, er), by simp, s1, s2⟩
        · obtain ⟨p, hp, k⟩ := i2 lr hm
          exact ⟨p, List.mem_append_right _ hp, k⟩
      · intro p hp
        rcases List.mem_append.1 hp with hp | hp
        · exact ⟨(l, r), by simp, loc1 p hp⟩
        · obtain ⟨lr, hm, k⟩ := i3 p hp
          exact ⟨lr, List.mem_cons_of_mem _ hm, k⟩
      · intro lr hm
        rcases List.mem_cons.1 hm with rfl | hm
        · obtain ⟨p, hp, k⟩ := loc2
          refine ⟨⟨p, List.mem_append_left _ hp, k⟩, fun hh => ?_⟩
          obtain ⟨q, hq, k'⟩ := loc3 hh
          exact ⟨q, List.mem_append_left _ hq, k'⟩
        · obtain ⟨⟨p, hp, k⟩, k2⟩ := i4 lr hm
          refine ⟨⟨p, List.mem_append_right _ hp, k⟩, fun hh => ?_⟩
          obtain ⟨q, hq, k'⟩ := k2 hh
          exact ⟨q, List.mem_append_right _ hq, k'⟩

/-! ## the vertex pairs of the code: the same unions as the general partition -/

/-- the vertex pairs `three_sew` collects (cells, not identifiers): the head of each left dart with
    its partner; and, for a left dart without predecessor, the dart with the head of its partner -/
def codePairs (m : Map X) (ps : List (Nat × Nat)) : List (Nat × Nat) :=
  ps.flatMap fun pq =>
    (if headG m pq.1 ≠ 0 then [(headG m pq.1, pq.2)] else []) ++
    (if m.β 0 pq.1 = 0 ∧ headG m pq.2 ≠ 0 then [(pq.1, headG m pq.2)] else [])

theorem mem_codePairs {m : Map X} {ps : List (Nat × Nat)} (x : Nat × Nat) :
    x ∈ codePairs m ps ↔ ∃ pq, pq ∈ ps ∧ ((headG m pq.1 ≠ 0 ∧ x = (headG m pq.1, pq.2)) ∨
      (m.β 0 pq.1 = 0 ∧ headG m pq.2 ≠ 0 ∧ x = (pq.1, headG m pq.2))) := by
  unfold codePairs
  rw [List.mem_flatMap]
  constructor
  · rintro ⟨pq, hm, hx⟩
    refine ⟨pq, hm, ?_⟩
    rcases List.mem_append.1 hx with hx | hx
    · by_cases c : headG m pq.1 ≠ 0
      · rw [if_pos c] at hx; exact Or.inl ⟨c, by simpa using hx⟩
      · rw [if_neg c] at hx; simp at hx
    · by_cases c : m.β 0 pq.1 = 0 ∧ headG m pq.2 ≠ 0
      · rw [if_pos c] at hx; exact Or.inr ⟨c.1, c.2, by simpa using hx⟩
      · rw [if_neg c] at hx; simp at hx
  · rintro ⟨pq, hm, ⟨c, rfl⟩ | ⟨c1, c2, rfl⟩⟩
    · exact ⟨pq, hm, List.mem_append_left _ (by rw [if_pos c]; simp)⟩
    · exact ⟨pq, hm, List.mem_append_right _ (by rw [if_pos ⟨c1, c2⟩]; simp)⟩

/-- on a list of pairs closed under the paired steps, the pair "left dart — head of its partner" of a
    dart WITH a predecessor is the pair "head of the predecessor — its partner" -/
theorem codePairs_iff {m m1 : Map X} (hw : WF 4 m) {ps : List (Nat × Nat)} (hL : Linked3 m m1 ps)
    (hcov : Zipped m ps) (x : Nat × Nat) : x ∈ pairs3 m.β ps ↔ x ∈ codePairs m ps := by
  rw [mem_pairs3, mem_codePairs]
  simp only [← headG_eq]
  constructor
  · rintro ⟨⟨l, r⟩, hm, ⟨c, rfl⟩ | ⟨c, rfl⟩⟩
    · exact ⟨(l, r), hm, Or.inl ⟨c, rfl⟩⟩
    · by_cases c0 : m.β 0 l = 0
      · exact ⟨(l, r), hm, Or.inr ⟨c0, c, rfl⟩⟩
      · obtain ⟨_, _, _, _, l0, r0, ln, rn⟩ := hL.pairs _ hm
        simp only at l0 r0 ln rn c
        have hm' : (m.β 0 l, m.β 1 r) ∈ ps := by
          rcases (hcov.step hm).2 with k | k
          · exact k
          · exact absurd k.1 c0
        obtain ⟨_, _, _, _, _, r0', _, _⟩ := hL.pairs _ hm'
        simp only at r0'
        have inv := hw.inv10 l ln c0
        have h1 : headG m (m.β 0 l) = l := by
          unfold headG; rw [if_pos (by rw [inv]; exact l0)]; exact inv
        have h2 : headG m r = m.β 1 r := by unfold headG; rw [if_pos r0']
        refine ⟨(m.β 0 l, m.β 1 r), hm', Or.inl ⟨by rw [h1]; exact l0, ?_⟩⟩
        simp only [h1, h2]
  · rintro ⟨pq, hm, ⟨c, rfl⟩ | ⟨_, c, rfl⟩⟩
    · exact ⟨pq, hm, Or.inl ⟨c, rfl⟩⟩
    · exact ⟨pq, hm, Or.inr ⟨c, rfl⟩⟩


/-! ## the two face walks of the code on a list of linked pairs -/

/-- everything the cell-level theorems need about a list `ps` of pairs 3-linked between `m` and
    `m1`, closed under the paired steps, on the faces of `ld` and `rd`: the zipped walks, the three
    partitions, the face identifiers -/
theorem linked_faces_cells {m m1 : Map X} (hwf : WF 4 m) (hw1 : WF 4 m1) {ps : List (Nat × Nat)}
    (hL : Linked3 m m1 ps) {ld rd : Nat} (hmem : (ld, rd) ∈ ps) (hcov : Zipped m ps)
    (hreach : ∀ pq, pq ∈ ps → Reach (gIJ m 1 0) ld pq.1 ∧ Reach (gIJ m 0 1) rd pq.2)
    (hfaces : ∀ pq, pq ∈ ps → SameCell (g3f m) m.n pq.1 ld ∧ SameCell (g3f m) m.n pq.2 rd) :
    run (faceOrbits3 (X := X) m.n ld rd) m =
      (.ok (bfsPure (gIJ m 1 0) (m.n + 1) [ld] [0, ld] [], bfsPure (gIJ m 0 1) (m.n + 1) [rd] [0, rd] []), m) ∧
    (∀ pq, pq ∈ (bfsPure (gIJ m 1 0) (m.n + 1) [ld] [0, ld] []).zip
      (bfsPure (gIJ m 0 1) (m.n + 1) [rd] [0, rd] []) ↔ pq ∈ ps) ∧
    (∀ d e, SameCell (g3f m1) m.n d e ↔ Glue (SameCell (g3f m) m.n) [(ld, rd)] d e) ∧
    (∀ d e, SameCell (g3e m1) m.n d e ↔ Glue (SameCell (g3e m) m.n) ps d e) ∧
    (∀ d e, SameCell (g3v m1) m.n d e ↔ Glue (SameCell (g3v m) m.n) (codePairs m ps) d e) ∧
    IsFid3 m ld (listMin (bfsPure (gIJ m 1 0) (m.n + 1) [ld] [0, ld] []) ld) ∧
    IsFid3 m rd (listMin (bfsPure (gIJ m 0 1) (m.n + 1) [rd] [0, rd] []) rd) := by
  have d10 : Dir 1 0 := Or.inl ⟨rfl, rfl⟩
  have d01 : Dir 0 1 := Or.inr ⟨rfl, rfl⟩
  obtain ⟨_, _, f3l, f3r, hl0, hr0, hln, hrn⟩ := hL.pairs _ hmem
  simp only at f3l f3r hl0 hr0 hln hrn
  have o1 : run (orbitWith m.n (gen3 (X := X) (.custom [1, 0])) ld) m = _ :=
    run_orbitWith (fun x hx => run_gen3_custom2 hwf (i := 1) (j := 0) (by omega) (by omega) hx)
      (gIJ_range hwf (i := 1) (j := 0) (by omega) (by omega)) hl0 hln
  have o2 : run (orbitWith m.n (gen3 (X := X) (.custom [0, 1])) rd) m = _ :=
    run_orbitWith (fun x hx => run_gen3_custom2 hwf (i := 0) (j := 1) (by omega) (by omega) hx)
      (gIJ_range hwf (i := 0) (j := 1) (by omega) (by omega)) hr0 hrn
  have hfo : run (faceOrbits3 (X := X) m.n ld rd) m =
      (.ok (bfsPure (gIJ m 1 0) (m.n + 1) [ld] [0, ld] [], bfsPure (gIJ m 0 1) (m.n + 1) [rd] [0, rd] []), m) := by
    unfold faceOrbits3
    simp only [bind]
    rw [run_bind_of_ok o1, run_bind_of_ok o2]
    rfl
  obtain ⟨pf, pe⟩ := faces_edges_linked3 hL hmem hfaces
  have pv : ∀ d e, SameCell (g3v m1) m.n d e ↔ Glue (SameCell (g3v m) m.n) (codePairs m ps) d e := by
    intro d e
    rw [hL.vertex_cells hwf hw1 d e]
    constructor
    · exact Glue.mono fun x hx => (codePairs_iff hwf hL hcov x).1 hx
    · exact Glue.mono fun x hx => (codePairs_iff hwf hL hcov x).2 hx
  have stepL : ∀ x, (∃ y, (x, y) ∈ ps) → (m.β 1 x ≠ 0 → ∃ y, (m.β 1 x, y) ∈ ps) ∧
      (m.β 0 x ≠ 0 → ∃ y, (m.β 0 x, y) ∈ ps) := by
    rintro x ⟨y, hm⟩
    obtain ⟨c1, c2⟩ := hcov.step hm
    constructor
    · intro hh
      rcases c1 with k | k
      · exact ⟨_, k⟩
      · exact absurd k.1 hh
    · intro hh
      rcases c2 with k | k
      · exact ⟨_, k⟩
      · exact absurd k.1 hh
  have stepR : ∀ y, (∃ x, (x, y) ∈ ps) → (m.β 1 y ≠ 0 → ∃ x, (x, m.β 1 y) ∈ ps) ∧
      (m.β 0 y ≠ 0 → ∃ x, (x, m.β 0 y) ∈ ps) := by
    rintro y ⟨x, hm⟩
    obtain ⟨c1, c2⟩ := hcov.step hm
    constructor
    · intro hh
      rcases c2 with k | k
      · exact ⟨_, k⟩
      · exact absurd k.2 hh
    · intro hh
      rcases c1 with k | k
      · exact ⟨_, k⟩
      · exact absurd k.2 hh
  refine ⟨hfo, zip_walks_linked hwf hL hl0 hln hmem hcov (fun pq hm => (hreach pq hm).1), pf, pe, pv, ?_, ?_⟩
  · refine face_min_of_set hwf (S := fun x => ∃ y, (x, y) ∈ ps) d10 ?_ stepL ⟨rd, hmem⟩ ?_ ?_
    · rintro x ⟨y, hm⟩
      obtain ⟨_, _, a3, _, a5, _, a7, _⟩ := hL.pairs _ hm
      exact ⟨a5, a7, a3⟩
    · rintro x ⟨y, hm⟩; exact .symm (hfaces _ hm).1
    · rintro x ⟨y, hm⟩; exact (hreach _ hm).1
  · refine face_min_of_set hwf (S := fun y => ∃ x, (x, y) ∈ ps) d01 ?_ stepR ⟨ld, hmem⟩ ?_ ?_
    · rintro y ⟨x, hm⟩
      obtain ⟨_, _, _, a4, _, a6, _, a8⟩ := hL.pairs _ hm
      exact ⟨a6, a8, a4⟩
    · rintro y ⟨x, hm⟩; exact .symm (hfaces _ hm).2
    · rintro y ⟨x, hm⟩; exact (hreach _ hm).2

/-- **C05, 3-sew at cell level on OPEN faces**.  The left face is open (`hopen`); the call returned
    `Ok`.  Then both faces are open with the same shape (`OpenPair`: `F` darts from `ld` on, `B`
    behind), `three_link` links exactly `ps = openPairs m ld rd F B`, and:
    * the zipped face walks of the code list exactly `ps`;
    * the face partition is the old one with `ld — rd` united, the edge partition the old one with
      `l — r` united for `(l, r) ∈ ps`, the vertex partition the old one with the pairs of
      `codePairs m ps` united: `head l — r` for every pair (head = β1, else β2; dropped when null),
      and `l — head r` for the pair whose left dart has no predecessor;
    * the two face identifiers are the smallest darts of the two face cells, the identifier merged
      into is the smallest dart of the united face;
    * the collected edge / vertex identifier pairs are, pair by pair, the smallest darts of these
      cells (null for a missing head — such a pair is not kept);
    * under the property's proviso (no old cell in two unions) each merged-into identifier `min` is
      the smallest dart of the united cell;
    * the data: `MergedIn` / `MergedPairs` between these identifiers. -/
theorem C05_threeSew3_cells_open (cfg : Cfg X) (m m' : Map X) (ld rd : Nat) (u : Unit)
    (hwf : WF 4 m) (hl : C02.InUse m ld) (hr : C02.InUse m rd) (hne : ld ≠ rd) (hfc : m.fc = 0)
    (hopen : ∃ t, it m 1 t ld = 0)
    (h : run (threeSew3 cfg m.n ld rd) m = (.ok u, m')) :
    ∃ F B m1 lo ro es vs mf me,
      OpenPair m ld rd F B ∧
      run (threeLink3 (X := X) m.n ld rd) m = (.ok (), m1) ∧ WF 4 m1 ∧ SameTopo m1 m' ∧
      Linked3 m m1 (openPairs m ld rd F B) ∧
      run (faceOrbits3 m.n ld rd) m = (.ok (lo, ro), m) ∧
      (∀ pq, pq ∈ lo.zip ro ↔ pq ∈ openPairs m ld rd F B) ∧
      (∀ d e, SameCell (g3f m1) m.n d e ↔ Glue (SameCell (g3f m) m.n) [(ld, rd)] d e) ∧
      (∀ d e, SameCell (g3e m1) m.n d e ↔ Glue (SameCell (g3e m) m.n) (openPairs m ld rd F B) d e) ∧
      (∀ d e, SameCell (g3v m1) m.n d e ↔
        Glue (SameCell (g3v m) m.n) (codePairs m (openPairs m ld rd F B)) d e) ∧
      IsFid3 m ld (listMin lo ld) ∧ IsFid3 m rd (listMin ro rd) ∧
      IsFid3 m1 ld (min (listMin lo ld) (listMin ro rd)) ∧
      Collected m.n m (lo.zip ro) es vs ∧
      (∀ p, p ∈ es → ∃ lr, lr ∈ openPairs m ld rd F B ∧ IsEid3 m lr.1 p.1 ∧ IsEid3 m lr.2 p.2) ∧
      (∀ lr, lr ∈ openPairs m ld rd F B → ∃ p, p ∈ es ∧ IsEid3 m lr.1 p.1 ∧ IsEid3 m lr.2 p.2) ∧
      (∀ p, p ∈ vs → ∃ lr, lr ∈ openPairs m ld rd F B ∧
        ((VidOr0 m (headG m lr.1) p.1 ∧ IsVid3 m lr.2 p.2) ∨
         (m.β 0 lr.1 = 0 ∧ IsVid3 m lr.1 p.1 ∧ VidOr0 m (headG m lr.2) p.2))) ∧
      (∀ lr, lr ∈ openPairs m ld rd F B →
        (∃ p, p ∈ vs ∧ VidOr0 m (headG m lr.1) p.1 ∧ IsVid3 m lr.2 p.2) ∧
        (m.β 0 lr.1 = 0 → ∃ p, p ∈ vs ∧ IsVid3 m lr.1 p.1 ∧ VidOr0 m (headG m lr.2) p.2)) ∧
      ((openPairs m ld rd F B).Pairwise (Far (SameCell (g3e m) m.n)) →
        ∀ lr, lr ∈ openPairs m ld rd F B → ∀ el er, IsEid3 m lr.1 el → IsEid3 m lr.2 er →
          IsEid3 m1 lr.1 (min el er)) ∧
      ((codePairs m (openPairs m ld rd F B)).Pairwise (Far (SameCell (g3v m) m.n)) →
        ∀ x, x ∈ codePairs m (openPairs m ld rd F B) → ∀ va vb, IsVid3 m x.1 va → IsVid3 m x.2 vb →
          IsVid3 m1 x.1 (min va vb)) ∧
      MergedIn cfg (fStores cfg) (min (listMin lo ld) (listMin ro rd)) (listMin lo ld) (listMin ro rd) m1 mf ∧
      MergedPairs cfg (eStores cfg) (es.filter keepPair) mf me ∧
      MergedPairs cfg (vStores cfg) (vs.filter keepPair) me m' := by
  obtain ⟨hl0, hln, hlu⟩ := hl
  obtain ⟨hr0, hrn, hru⟩ := hr
  obtain ⟨lo, ro, es, vs, m1, mf, me, hfo, hC, hlink, hF, hE, hV, htopo⟩ :=
    C05_threeSew3_effect cfg m.n ld rd m m' u hfc h
  obtain ⟨hw1, _, _, _⟩ := threeLink3_ok hwf hl0 hr0 hln hrn hlu hru hne hlink
  obtain ⟨F, B, O, hL⟩ := threeLink3_linked_open hwf hl0 hr0 hopen hlink
  have hmem : (ld, rd) ∈ openPairs m ld rd F B := (mem_openPairs _).2 (Or.inl ⟨0, O.fpos, rfl⟩)
  obtain ⟨hfo', hzip, pf, pe, pv, fl, fr⟩ := linked_faces_cells hwf hw1 hL hmem (openPairs_zipped hwf hln hrn O)
    (fun pq hm => openPairs_reach pq hm) (fun pq hm => openPairs_faces hwf hln hrn O pq hm)
  rw [hfo] at hfo'
  simp only [Prod.mk.injEq, Out.ok.injEq, and_true] at hfo'
  obtain ⟨rfl, rfl⟩ := hfo'
  have hz : ∀ lr, lr ∈ (bfsPure (gIJ m 1 0) (m.n + 1) [ld] [0, ld] []).zip
      (bfsPure (gIJ m 0 1) (m.n + 1) [rd] [0, rd] []) → lr.1 ≠ 0 ∧ lr.1 < m.n ∧ lr.2 ≠ 0 ∧ lr.2 < m.n := by
    intro lr hm
    obtain ⟨_, _, _, _, a5, a6, a7, a8⟩ := hL.pairs lr ((hzip lr).1 hm)
    exact ⟨a5, a7, a6, a8⟩
  obtain ⟨c1, c2, c3, c4⟩ := collected_ids_gen hwf hC hz
  have eqF := sameCell_equiv (g3f m) m.n
  have hn1 : m1.n = m.n := hL.n
  have s_new : IsFid3 m1 ld (min (listMin (bfsPure (gIJ m 1 0) (m.n + 1) [ld] [0, ld] []) ld)
      (listMin (bfsPure (gIJ m 0 1) (m.n + 1) [rd] [0, rd] []) rd)) := by
    have := min_of_far (R1 := SameCell (g3f m1) m.n) eqF pf (by simp) (p := ld) (q := rd) (by simp) fl fr
    unfold IsFid3; rw [hn1]; exact this
  refine ⟨F, B, m1, _, _, es, vs, mf, me, O, hlink, hw1, htopo, hL, hfo, hzip, pf, pe, pv, fl, fr, s_new, hC,
    ?_, ?_, ?_, ?_, ?_, ?_, hF, hE, hV⟩
  · intro p hp
    obtain ⟨lr, hm, k⟩ := c1 p hp
    exact ⟨lr, (hzip lr).1 hm, k⟩
  · intro lr hm
    exact c2 lr ((hzip lr).2 hm)
  · intro p hp
    obtain ⟨lr, hm, k⟩ := c3 p hp
    exact ⟨lr, (hzip lr).1 hm, k⟩
  · intro lr hm
    exact c4 lr ((hzip lr).2 hm)
  · intro hfar lr hm el er a b
    have := min_of_far (R1 := SameCell (g3e m1) m.n) (sameCell_equiv (g3e m) m.n) pe hfar hm a b
    unfold IsEid3; rw [hn1]; exact this
  · intro hfar x hm va vb a b
    have := min_of_far (R1 := SameCell (g3v m1) m.n) (sameCell_equiv (g3v m) m.n) pv hfar hm a b
    unfold IsVid3; rw [hn1]; exact this


/-! ## 3-unsew on open faces -/

/-- **`three_unlink` on an open left face** of a mirrored map whose faces are 3-linked as a whole:
    both faces are open with the same shape and exactly the pairs of `openPairs` get unlinked -/
theorem threeUnlink3_unlinked_open {n ld : Nat} {m m' : Map X} {u : Unit} (hw : WF 4 m) (hM : Mirror m)
    (hS : Sided3 m) (hln : ld < m.n) (hopen : ∃ t, it m 1 t ld = 0)
    (h : run (threeUnlink3 (X := X) n ld) m = (.ok u, m')) :
    ∃ F B, m.β 3 ld ≠ 0 ∧ OpenPair m ld (m.β 3 ld) F B ∧
      Linked3 m' m (openPairs m ld (m.β 3 ld) F B) ∧ WF 4 m' := by
  obtain ⟨hne, k, m1, _, _, _, _, hcase⟩ := threeUnlink3_walks hw hln h
  have hl0 : ld ≠ 0 := fun hh => hne (by rw [hh]; exact hw.null 3 (by omega))
  rcases hcase with ⟨hpl, _⟩ | ⟨eF, eG, k', LA, hw2, eA, _⟩
  · obtain ⟨t, ht⟩ := hopen
    exact absurd ht (periodic_nz (hw.null 1 (by omega)) (by omega) hpl hl0 t)
  · have linkedF : ∀ t, t < k + 1 → it m 1 t ld ≠ 0 ∧ it m 0 t (m.β 3 ld) ≠ 0 := by
      intro t ht
      obtain ⟨a5, a6⟩ :=
        LA.nz (List.mem_append_right _ ((mem_walkPairs _ ld _ _).2 ⟨t, ht, rfl⟩))
      exact ⟨a5, a6⟩
    have linkedB : ∀ s, s < k' → m.β 3 (it m 0 s (m.β 0 ld)) = it m 1 s (m.β 1 (m.β 3 ld)) ∧
        it m 0 s (m.β 0 ld) ≠ 0 ∧ it m 1 s (m.β 1 (m.β 3 ld)) ≠ 0 := by
      intro s hs'
      obtain ⟨a1, _, _, _, a5, a6, _, _⟩ :=
        LA.pairs _ (List.mem_append_left _ ((mem_walkPairs _ _ _ _).2 ⟨s, hs', rfl⟩))
      exact ⟨a1, a5, a6⟩
    refine ⟨k + 1, k', hne, ⟨by omega, eF, eG, eA, ends_together hw hM hS hln hne linkedB eA,
      linkedF, fun s hs' => (linkedB s hs').2⟩, LA.of_mem fun x => ?_, hw2⟩
    unfold openPairs
    simp only [List.mem_append]
    exact Or.comm

/-- the splitting loop of `three_unsew` at cell level: `m1` is the unlinked map (the topology of every
    state of the loop); for each pair of the zipped walks the edge storages split `min el er` between
    the edge identifiers (cell minima in `m1`) of the two darts, the vertex storages split
    `min v1 v2` between the vertex identifier of the head of the left dart (null when it has none)
    and that of the right dart, and, when the left dart has no predecessor, `min v3 v4` between the
    vertex identifier of the left dart and that of the head of the right dart -/
inductive UnsewnCells (cfg : Cfg X) (m1 : Map X) : List (Nat × Nat) → Map X → Map X → Prop
  | nil (s : Map X) : UnsewnCells cfg m1 [] s s
  | cons {l r el er v1 v2 : Nat} {rest : List (Nat × Nat)} {s sa sb sc s' : Map X} :
      IsEid3 m1 l el → IsEid3 m1 r er → SplitIn cfg (eStores cfg) el er (min el er) s sa →
      VidOr0 m1 (headG m1 l) v1 → IsVid3 m1 r v2 → SplitIn cfg (vStores cfg) v1 v2 (min v1 v2) sa sb →
      ((m1.β 0 l ≠ 0 ∧ sc = sb) ∨
       (m1.β 0 l = 0 ∧ ∃ v3 v4, IsVid3 m1 l v3 ∧ VidOr0 m1 (headG m1 r) v4 ∧
          SplitIn cfg (vStores cfg) v3 v4 (min v3 v4) sb sc)) →
      UnsewnCells cfg m1 rest sc s' → UnsewnCells cfg m1 ((l, r) :: rest) s s'

theorem headG_sameTopo {m m' : Map X} (st : SameTopo m m') (l : Nat) : headG m' l = headG m l := by
  unfold headG; rw [st.β 1 l, st.β 2 l]

theorem vidOr0_sameTopo {m m' : Map X} (st : SameTopo m m') {d v : Nat} (h : VidOr0 m' d v) : VidOr0 m d v := by
  rcases h with ⟨a, b⟩ | ⟨a, b⟩
  · exact Or.inl ⟨a, (isVid3_sameTopo st d v).1 b⟩
  · exact Or.inr ⟨a, b⟩

/-- the identifiers of the splitting loop are cell minima of the unlinked map -/
theorem unsewn_cells {cfg : Cfg X} {n : Nat} {m1 : Map X} (hw1 : WF 4 m1) :
    ∀ {zs : List (Nat × Nat)} {s s' : Map X}, UnsewnPairs cfg n zs s s' → SameTopo m1 s →
      (∀ lr, lr ∈ zs → lr.1 ≠ 0 ∧ lr.1 < m1.n ∧ lr.2 ≠ 0 ∧ lr.2 < m1.n) → UnsewnCells cfg m1 zs s s' := by
  intro zs s s' hU
  induction hU with
  | nil s => intro _ _; exact .nil s
  | @cons l r el er v1 v2 rest s sa sb sc s' hel her hA hv1 hv2 hB hC _ ih =>
      intro st hz
      obtain ⟨hl0, hln, hr0, hrn⟩ := hz (l, r) (by simp)
      simp only at hl0 hln hr0 hrn
      have ws : WF 4 s := hw1.sameTopo st
      have sta : SameTopo m1 sa := st.trans hA.topo
      have wa : WF 4 sa := hw1.sameTopo sta
      have stb : SameTopo m1 sb := sta.trans hB.topo
      have wb : WF 4 sb := hw1.sameTopo stb
      have e1 := (isEid3_sameTopo st _ _).1 (edgeId3_spec ws hl0 (by rw [st.n]; exact hln) hel).2
      have e2 := (isEid3_sameTopo st _ _).1 (edgeId3_spec ws hr0 (by rw [st.n]; exact hrn) her).2
      rw [head_code_eq] at hv1
      have k1 : VidOr0 m1 (headG m1 l) v1 := by
        have := vidOr0_sameTopo sta (vidOr0_spec wa (headG_lt wa (by rw [sta.n]; exact hln)) hv1)
        rw [headG_sameTopo sta] at this; exact this
      have k2 := (isVid3_sameTopo sta _ _).1 (vertexId3_spec wa hr0 (by rw [sta.n]; exact hrn) hv2).2
      have stc : SameTopo m1 sc := by
        rcases hC with ⟨_, rfl⟩ | ⟨_, v3, v4, _, _, hS⟩
        · exact stb
        · exact stb.trans hS.topo
      refine .cons e1 e2 hA k1 k2 hB ?_ (ih stc fun lr hm => hz lr (List.mem_cons_of_mem _ hm))
      rcases hC with ⟨c, rfl⟩ | ⟨c, v3, v4, hv3, hv4, hS⟩
      · exact Or.inl ⟨by rw [← stb.β 0 l]; exact c, rfl⟩
      · rw [head_code_eq] at hv4
        refine Or.inr ⟨by rw [← stb.β 0 l]; exact c, v3, v4, ?_, ?_, hS⟩
        · exact (isVid3_sameTopo stb _ _).1 (vertexId3_spec wb hl0 (by rw [stb.n]; exact hln) hv3).2
        · have := vidOr0_sameTopo stb (vidOr0_spec wb (headG_lt wb (by rw [stb.n]; exact hrn)) hv4)
          rw [headG_sameTopo stb] at this; exact this

theorem openPair_congr {m m1 : Map X} (e1 : ∀ x, m1.β 1 x = m.β 1 x) (e0 : ∀ x, m1.β 0 x = m.β 0 x)
    {ld rd F B : Nat} (O : OpenPair m ld rd F B) :
    OpenPair m1 ld rd F B ∧ openPairs m1 ld rd F B = openPairs m ld rd F B := by
  have i1 := it_congr e1
  have i0 := it_congr e0
  refine ⟨⟨O.fpos, by rw [i1]; exact O.endF, by rw [i0]; exact O.endG, by rw [i0, e0]; exact O.endA,
    by rw [i1, e1]; exact O.endB, fun t ht => by rw [i1, i0]; exact O.nzF t ht,
    fun s hs => by rw [i0, i1, e0, e1]; exact O.nzB s hs⟩, ?_⟩
  unfold openPairs
  rw [walkPairs_congr e1 e0, walkPairs_congr e0 e1, e0, e1]

theorem codePairs_congr {m m1 : Map X} (h : ∀ e x, e ≠ 3 → m1.β e x = m.β e x) (ps : List (Nat × Nat)) :
    codePairs m1 ps = codePairs m ps := by
  unfold codePairs headG
  simp only [h 1 _ (by omega), h 2 _ (by omega), h 0 _ (by omega)]

/-- **C05, 3-unsew at cell level on OPEN faces** (mirrored map whose faces are 3-linked as a whole).
    The left face is open; the call returned `Ok`.  Then both faces are open with the same shape,
    `three_unlink` unlinks exactly `ps = openPairs m ld (β3 ld) F B`, the zipped face walks of the
    code (on the unlinked map `m1`) list exactly `ps`, the OLD partitions are the new ones with
    `ld — rd` (faces), the pairs of `ps` (edges), the pairs of `codePairs m ps` (vertices) united;
    the face identifiers split into are the smallest darts of the two new faces, the one split from
    is the smallest dart of the old face; every identifier of the splitting loop is the smallest
    dart of its cell in `m1` (`UnsewnCells`; null for a missing head); under the property's proviso
    the identifier split from, `min` of the two, is the smallest dart of the old cell. -/
theorem C05_threeUnsew3_cells_open (cfg : Cfg X) (m m' : Map X) (ld : Nat) (u : Unit)
    (hwf : WF 4 m) (hM : Mirror m) (hS : Sided3 m) (hl : C02.InUse m ld) (hfc : m.fc = 0)
    (hopen : ∃ t, it m 1 t ld = 0)
    (h : run (threeUnsew3 cfg m.n ld) m = (.ok u, m')) :
    ∃ F B m1 lo ro mf,
      m.β 3 ld ≠ 0 ∧ OpenPair m ld (m.β 3 ld) F B ∧
      run (threeUnlink3 (X := X) m.n ld) m = (.ok (), m1) ∧ WF 4 m1 ∧ SameTopo m1 m' ∧
      Linked3 m1 m (openPairs m ld (m.β 3 ld) F B) ∧
      run (faceOrbits3 m.n ld (m.β 3 ld)) m1 = (.ok (lo, ro), m1) ∧
      (∀ pq, pq ∈ lo.zip ro ↔ pq ∈ openPairs m ld (m.β 3 ld) F B) ∧
      (∀ d e, SameCell (g3f m) m.n d e ↔ Glue (SameCell (g3f m1) m.n) [(ld, m.β 3 ld)] d e) ∧
      (∀ d e, SameCell (g3e m) m.n d e ↔
        Glue (SameCell (g3e m1) m.n) (openPairs m ld (m.β 3 ld) F B) d e) ∧
      (∀ d e, SameCell (g3v m) m.n d e ↔
        Glue (SameCell (g3v m1) m.n) (codePairs m (openPairs m ld (m.β 3 ld) F B)) d e) ∧
      IsFid3 m1 ld (listMin lo ld) ∧ IsFid3 m1 (m.β 3 ld) (listMin ro (m.β 3 ld)) ∧
      IsFid3 m ld (min (listMin lo ld) (listMin ro (m.β 3 ld))) ∧
      SplitIn cfg (fStores cfg) (listMin lo ld) (listMin ro (m.β 3 ld))
        (min (listMin lo ld) (listMin ro (m.β 3 ld))) m1 mf ∧
      UnsewnCells cfg m1 (lo.zip ro) mf m' ∧
      ((openPairs m ld (m.β 3 ld) F B).Pairwise (Far (SameCell (g3e m1) m.n)) →
        ∀ lr, lr ∈ openPairs m ld (m.β 3 ld) F B → ∀ el er, IsEid3 m1 lr.1 el → IsEid3 m1 lr.2 er →
          IsEid3 m lr.1 (min el er)) ∧
      ((codePairs m (openPairs m ld (m.β 3 ld) F B)).Pairwise (Far (SameCell (g3v m1) m.n)) →
        ∀ x, x ∈ codePairs m (openPairs m ld (m.β 3 ld) F B) → ∀ va vb, IsVid3 m1 x.1 va → IsVid3 m1 x.2 vb →
          IsVid3 m x.1 (min va vb)) := by
  obtain ⟨hl0, hln, hlu⟩ := hl
  obtain ⟨m1, lo, ro, mf, hunl, hfo, hF, hU, htopo⟩ := C05_threeUnsew3_effect cfg m.n ld m m' u hfc h
  obtain ⟨F, B, hne, O, hL, hw1⟩ := threeUnlink3_unlinked_open hwf hM hS hln hopen hunl
  have hrn : m.β 3 ld < m.n := hwf.range 3 (by omega) ld hln
  have hn1 : m1.n = m.n := hL.n.symm
  have eo : ∀ e x, e ≠ 3 → m1.β e x = m.β e x := fun e x he => (hL.other e x he).symm
  obtain ⟨O1, eps⟩ := openPair_congr (m := m) (m1 := m1) (fun x => eo 1 x (by omega)) (fun x => eo 0 x (by omega)) O
  have hL1 : Linked3 m1 m (openPairs m1 ld (m.β 3 ld) F B) := by rw [eps]; exact hL
  have hmem : (ld, m.β 3 ld) ∈ openPairs m1 ld (m.β 3 ld) F B := (mem_openPairs _).2 (Or.inl ⟨0, O.fpos, rfl⟩)
  obtain ⟨hfo', hzip, pf, pe, pv, fl, fr⟩ := linked_faces_cells hw1 hwf hL1 hmem
    (openPairs_zipped hw1 (by rw [hn1]; exact hln) (by rw [hn1]; exact hrn) O1)
    (fun pq hm => openPairs_reach pq hm)
    (fun pq hm => openPairs_faces hw1 (by rw [hn1]; exact hln) (by rw [hn1]; exact hrn) O1 pq hm)
  rw [eps] at hzip pe pv
  rw [codePairs_congr eo] at pv
  rw [hn1] at hfo' hzip pf pe pv fl fr
  rw [hfo] at hfo'
  simp only [Prod.mk.injEq, Out.ok.injEq, and_true] at hfo'
  obtain ⟨rfl, rfl⟩ := hfo'
  have hz : ∀ lr, lr ∈ (bfsPure (gIJ m1 1 0) (m.n + 1) [ld] [0, ld] []).zip
      (bfsPure (gIJ m1 0 1) (m.n + 1) [m.β 3 ld] [0, m.β 3 ld] []) →
      lr.1 ≠ 0 ∧ lr.1 < m1.n ∧ lr.2 ≠ 0 ∧ lr.2 < m1.n := by
    intro lr hm
    obtain ⟨_, _, _, _, a5, a6, a7, a8⟩ := hL.pairs lr ((hzip lr).1 hm)
    exact ⟨a5, a7, a6, a8⟩
  have hUC := unsewn_cells hw1 hU hF.topo hz
  have eqF := sameCell_equiv (g3f m1) m.n
  have s_old : IsFid3 m ld (min (listMin (bfsPure (gIJ m1 1 0) (m.n + 1) [ld] [0, ld] []) ld)
      (listMin (bfsPure (gIJ m1 0 1) (m.n + 1) [m.β 3 ld] [0, m.β 3 ld] []) (m.β 3 ld))) := by
    have a := fl; have b := fr
    unfold IsFid3 at a b
    rw [hn1] at a b
    exact min_of_far (R1 := SameCell (g3f m) m.n) eqF pf (by simp) (p := ld) (q := m.β 3 ld) (by simp) a b
  refine ⟨F, B, m1, _, _, mf, hne, O, hunl, hw1, htopo, hL, hfo, hzip, pf, pe, pv, fl, fr, s_old, hF, hUC, ?_, ?_⟩
  · intro hfar lr hm el er a b
    unfold IsEid3 at a b
    rw [hn1] at a b
    exact min_of_far (R1 := SameCell (g3e m) m.n) (sameCell_equiv (g3e m1) m.n) pe hfar hm a b
  · intro hfar x hm va vb a b
    unfold IsVid3 at a b
    rw [hn1] at a b
    exact min_of_far (R1 := SameCell (g3v m) m.n) (sameCell_equiv (g3v m1) m.n) pv hfar hm a b

/-! ## non-vacuity: two open chains of three darts -/

/-- two open chains `1 → 2 → 3` and `4 → 5 → 6`, geometrically mirror images (the second runs
    backwards over the points of the first): 3-sewable along `(2, 5)`, which links `(2, 5)`,
    `(3, 4)` forward and `(1, 6)` backward -/
def exChains : Map Val :=
  { (Map.empty 4 1 7 : Map Val) with
    b := #[#[0, 0, 1, 2, 0, 4, 5], #[0, 2, 3, 0, 5, 6, 0], Array.replicate 7 0, Array.replicate 7 0]
    a := #[#[none, some (.pt 0 0 0), some (.pt 1 0 0), some (.pt 2 0 0), some (.pt 3 0 0), some (.pt 2 0 0),
             some (.pt 1 0 0)]] }

theorem exChains_facts : WF 4 exChains ∧ C02.InUse exChains 2 ∧ C02.InUse exChains 5 ∧ it exChains 1 2 2 = 0 ∧
    (run (threeSew3 plainCfg exChains.n 2 5) exChains).1 = .ok () := by decide +kernel

example : WF 4 exChains ∧ (run (threeSew3 plainCfg exChains.n 2 5) exChains).1 = .ok () ∧
    it exChains 1 2 2 = 0 :=
  have ⟨wf, _, _, op, ok⟩ := exChains_facts
  ⟨wf, ok, op⟩
example :=
  have ⟨wf, l, r, op, ok⟩ := exChains_facts
  C05_threeSew3_cells_open plainCfg exChains (run (threeSew3 plainCfg exChains.n 2 5) exChains).2 2 5 ()
    wf l r (by decide) rfl ⟨2, op⟩ (run_of_fst ok)
/-- its pairs, and the vertex unions of the code: `3 — 5`, `2 — 6` (darts 3 and 6 have no head, dart
    1 has no predecessor but its partner 6 has no head) -/
example : openPairs exChains 2 5 2 1 = [(2, 5), (3, 4), (1, 6)] ∧
    codePairs exChains (openPairs exChains 2 5 2 1) = [(3, 5), (2, 6)] := by decide +kernel


/-- the two 3-sewn tetrahedra of `exTets` after a 1-unsew of dart 3: the glued faces are open
    (`1 → 2 → 3` against `14, 13, 15` along β0), still 3-linked dart by dart; every dart of the
    walk has a head through β2 -/
def exTetsCut : Map Val := (run (oneUnsew3 plainCfg exTets.n 3) exTets).2

/-- the open faces unsewn, then 3-sewn again from the middle dart -/
def exTetsCutOpen : Map Val := (run (threeUnsew3 plainCfg exTetsCut.n 2) exTetsCut).2

theorem exTetsCut_facts : ((run (oneUnsew3 plainCfg exTets.n 3) exTets).1 = .ok () ∧
    WF 4 exTetsCut ∧ Mirror exTetsCut ∧ Sided3 exTetsCut ∧ exTetsCut.fc = 0 ∧
    C02.InUse exTetsCut 1 ∧ C02.InUse exTetsCut 2 ∧ it exTetsCut 1 3 1 = 0 ∧ it exTetsCut 1 2 2 = 0 ∧
    (run (threeUnsew3 plainCfg exTetsCut.n 1) exTetsCut).1 = .ok () ∧
    (run (threeUnsew3 plainCfg exTetsCut.n 2) exTetsCut).1 = .ok () ∧
    openPairs exTetsCut 2 13 2 1 = [(2, 13), (3, 15), (1, 14)] ∧
    codePairs exTetsCut (openPairs exTetsCut 2 13 2 1) = [(3, 13), (4, 15), (2, 14), (1, 23)]) ∧
    WF 4 exTetsCutOpen ∧ C02.InUse exTetsCutOpen 2 ∧ C02.InUse exTetsCutOpen 13 ∧
    exTetsCutOpen.fc = 0 ∧ it exTetsCutOpen 1 2 2 = 0 ∧
    (run (threeSew3 plainCfg exTetsCutOpen.n 2 13) exTetsCutOpen).1 = .ok () ∧
    C03.cellId3 exTetsCutOpen .vertex 4 = C03.cellId3 exTetsCutOpen .vertex 1 := by
  decide +kernel

example : (run (oneUnsew3 plainCfg exTets.n 3) exTets).1 = .ok () ∧ it exTetsCut 1 3 1 = 0 ∧
    (run (threeUnsew3 plainCfg exTetsCut.n 1) exTetsCut).1 = .ok () ∧
    (run (threeUnsew3 plainCfg exTetsCut.n 2) exTetsCut).1 = .ok () :=
  have ⟨cut, _, _, _, _, _, _, op1, _, ok1, ok2, _⟩ := exTetsCut_facts.1
  ⟨cut, op1, ok1, ok2⟩
/-- from the first dart of the open face (no backward part) … -/
example :=
  have ⟨_, wf, mir, sd, fc, u1, _, op1, _, ok1, _⟩ := exTetsCut_facts.1
  C05_threeUnsew3_cells_open plainCfg exTetsCut (run (threeUnsew3 plainCfg exTetsCut.n 1) exTetsCut).2 1 ()
    wf mir sd u1 fc ⟨3, op1⟩ (run_of_fst ok1)
/-- … and from the middle one (one pair forward, one pair backward) -/
example :=
  have ⟨_, wf, mir, sd, fc, _, u2, _, op2, _, ok2, _⟩ := exTetsCut_facts.1
  C05_threeUnsew3_cells_open plainCfg exTetsCut (run (threeUnsew3 plainCfg exTetsCut.n 2) exTetsCut).2 2 ()
    wf mir sd u2 fc ⟨2, op2⟩ (run_of_fst ok2)
example : openPairs exTetsCut 2 13 2 1 = [(2, 13), (3, 15), (1, 14)] ∧
    codePairs exTetsCut (openPairs exTetsCut 2 13 2 1) = [(3, 13), (4, 15), (2, 14), (1, 23)] :=
  exTetsCut_facts.1.2.2.2.2.2.2.2.2.2.2.2


example : (run (threeSew3 plainCfg exTetsCutOpen.n 2 13) exTetsCutOpen).1 = .ok () ∧
    it exTetsCutOpen 1 2 2 = 0 :=
  have ⟨_, _, _, _, op, ok, _⟩ := exTetsCut_facts.2
  ⟨ok, op⟩
example :=
  have ⟨wf, l, r, fc, op, ok, _⟩ := exTetsCut_facts.2
  C05_threeSew3_cells_open plainCfg exTetsCutOpen
    (run (threeSew3 plainCfg exTetsCutOpen.n 2 13) exTetsCutOpen).2 2 13 () wf l r (by decide) fc ⟨2, op⟩ (run_of_fst ok)

end HC.C05

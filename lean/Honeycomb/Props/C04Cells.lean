/-
  C04, cell level (1-sew / 1-unsew, and the 2-sew of two darts with successors,
  `C04_twoSew2_cells`): the identifiers computed by the operation ARE the cells.

  On a well-formed 2-map, a successful `one_sew l r` with `β2 l = x ≠ 0`:
    * unites the vertex cells of `x` and `r` and leaves every other vertex cell unchanged
      (cell calculus A3/A4, `Lemmas/CellCalc.lean`);
    * the old identifiers are the minima of the two old cells, the new identifier is the minimum of
      the united cell, i.e. `min` of the two old identifiers (C03);
    * in every vertex-bound storage the united cell carries `merge*` of the two old values under
      the new identifier (or keeps its value when `x` and `r` already were one cell), the
      identifier that stopped designating a cell is empty, every other slot is unchanged (C04).
  `one_unsew` is the mirror image.
-/
import Honeycomb.Props.C04
import Honeycomb.Lemmas.CellCalc

namespace HC.C04
open HC HC.C03 HC.CellCalc
variable {X : Type}

theorem run_ok_inj {α : Type} {p : P X α} {m m1 m2 : Map X} {a b : α}
    (h1 : run p m = (.ok a, m1)) (h2 : run p m = (.ok b, m2)) : a = b :=
  HC.run_ok_inj h1 h2

/-- membership in the vertex cell, through the orbit -/
theorem mem_cell_iff {m : Map X} (h : WF 3 m) {d : Nat} (hd0 : d ≠ 0) (hd : d < m.n) (e : Nat) :
    e ∈ orb m .vertex d ↔ SameCell (g2 m .vertex) m.n d e :=
  C03_orbit2_is_cell h (pol := .vertex) trivial hd0 hd e

theorem vid_eq {m1 : Map X} (hwf : WF 3 m1) {n d a : Nat} (hn : m1.n = n) (hd0 : d ≠ 0) (hd : d < n)
    (h : run (vertexId2 (X := X) n d) m1 = (.ok a, m1)) : a = cellId m1 .vertex d := by
  subst hn
  exact run_ok_inj h (C03_vertexId2_min hwf hd0 hd).1

theorem cellId_isMin {m : Map X} (h : WF 3 m) {d : Nat} (hd0 : d ≠ 0) (hd : d < m.n) :
    Cell3.IsMinOf (SameCell (g2 m .vertex) m.n) d (cellId m .vertex d) :=
  have s := cellId_spec h (pol := .vertex) trivial hd0 hd
  ⟨(mem_cell_iff h hd0 hd _).1 s.1, fun e he _ => s.2 e ((mem_cell_iff h hd0 hd e).2 he)⟩

/-- the minimum of a union of two cells -/
theorem cellId_of_union {m m1 : Map X} (hwf : WF 3 m) (hwf1 : WF 3 m1) (hn : m1.n = m.n)
    {c p q : Nat} (hc0 : c ≠ 0) (hc : c < m.n) (hp0 : p ≠ 0) (hp : p < m.n) (hq0 : q ≠ 0) (hq : q < m.n)
    (hcell : ∀ x, SameCell (g2 m1 .vertex) m.n c x ↔
      (SameCell (g2 m .vertex) m.n p x ∨ SameCell (g2 m .vertex) m.n q x)) :
    cellId m1 .vertex c = min (cellId m .vertex p) (cellId m .vertex q) := by
  have hc' : c < m1.n := by
    rw [hn]
    exact hc
  have a := cellId_isMin hwf1 hc0 hc'
  rw [hn] at a
  have b := Cell3.isMinOf_union hcell (cellId_isMin hwf hp0 hp) (cellId_isMin hwf hq0 hq)
  have p1 := (cellId_idem hwf (pol := .vertex) trivial hp0 hp).1
  have q1 := (cellId_idem hwf (pol := .vertex) trivial hq0 hq).1
  exact a.unique b (cellId_idem hwf1 (pol := .vertex) trivial hc0 hc').1 (by omega)

/-- **C04, 1-sew at cell level** -/
theorem C04_oneSew2_cells (cfg : Cfg X) (m m' : Map X) (l r : Nat) (u : Unit)
    (hwf : WF 3 m) (hl : C01.InUse m l) (hr : C01.InUse m r) (hfc : m.fc = 0) (hx : m.β 2 l ≠ 0)
    (h : run (oneSew2 cfg m.n l r) m = (.ok u, m')) :
    WF 3 (link1 m l r) ∧ SameTopo (link1 m l r) m' ∧ (∀ s e, (link1 m l r).att s e = m.att s e) ∧
    -- the new vertex partition: the cells of `β2 l` and `r` are united, nothing else changes
    (∀ d e, SameCell (g2 (link1 m l r) .vertex) m.n d e ↔
      United (g2 m .vertex) m.n (m.β 2 l) r d e) ∧
    -- the new identifier is the smaller of the two old ones
    cellId (link1 m l r) .vertex r = min (cellId m .vertex (m.β 2 l)) (cellId m .vertex r) ∧
    -- the data: merged from the two old identifiers into the new one, in every vertex storage
    MergedIn cfg (vStores cfg) (cellId (link1 m l r) .vertex r)
      (cellId m .vertex (m.β 2 l)) (cellId m .vertex r) (link1 m l r) m' := by
  obtain ⟨hl0, hln, hlu⟩ := hl
  obtain ⟨hr0, hrn, hru⟩ := hr
  have hxn : m.β 2 l < m.n := hwf.range 2 (by omega) l hln
  obtain ⟨m1, hlink, htopo, hcase⟩ := C04_oneSew2_effect cfg m.n l r m m' u hfc h
  obtain ⟨_, _, h1, h0, rfl⟩ := oneLinkCore_ok hlink
  have hwf1 : WF 3 (link1 m l r) := hwf.link1 (by omega) hl0 hr0 hln hrn hlu hru h1 h0
  rcases hcase with ⟨hc, _⟩ | ⟨_, v1, v2, nv, hv1, hv2, hnv, hm⟩
  · exact absurd hc hx
  have e1 := vid_eq hwf rfl hx hxn hv1
  have e2 := vid_eq hwf rfl hr0 hrn hv2
  have e3 := vid_eq hwf1 (link1_n m l r) hr0 hrn hnv
  subst e1 e2 e3
  have hcells : ∀ d e, SameCell (g2 (link1 m l r) .vertex) m.n d e ↔
      United (g2 m .vertex) m.n (m.β 2 l) r d e := by
    intro d e
    have := vertex_cells_link1 hwf hl0 hr0 hln hrn h1 h0 d e
    rw [if_neg hx] at this; exact this
  exact ⟨hwf1, htopo, fun _ _ => rfl, hcells,
    cellId_of_union hwf hwf1 (link1_n m l r) hr0 hrn hx hxn hr0 hrn fun x => (hcells r x).trans (United.at_right x),
    hm⟩

/-! ## 1-unsew: the old partition is the new one plus the removed pair -/

/-- the map after `one_unlink_core l` -/
def unlink1 (m : Map X) (l : Nat) : Map X := (m.setβ 1 l 0).setβ 0 (m.β 1 l) 0

theorem g2_congr {m m' : Map X} (hβ : ∀ j e, m'.β j e = m.β j e) (pol : Policy) (a : Nat) :
    g2 m' pol a = g2 m pol a := by
  cases pol <;> simp [g2, hβ]

theorem sameCell_of_beta_eq {m m' : Map X} (hβ : ∀ j e, m'.β j e = m.β j e) (n d e : Nat) :
    SameCell (g2 m' .vertex) n d e ↔ SameCell (g2 m .vertex) n d e := by
  apply sameCell_congr
  intro a b
  unfold GStep
  rw [g2_congr hβ]

theorem unlink1_β {m : Map X} (h : WF 3 m) {l : Nat} (hl : l < m.n) (j e : Nat) :
    (unlink1 m l).β j e =
      if 0 = j ∧ m.β 1 l = e then 0 else if 1 = j ∧ l = e then 0 else m.β j e :=
  h.toSized.β_unlink1 (by omega) hl (h.range 1 (by omega) l hl) j e

/-- re-linking what was unlinked gives back the same β functions -/
theorem link1_unlink1_β {m : Map X} (h : WF 3 m) {l : Nat} (hl : l < m.n) (hne : m.β 1 l ≠ 0) (j e : Nat) :
    (link1 (unlink1 m l) l (m.β 1 l)).β j e = m.β j e := by
  have hwf1 : WF 3 (unlink1 m l) := h.unlink1 (by omega) hl hne
  have hrn : m.β 1 l < m.n := h.range 1 (by omega) l hl
  rw [link1_β hwf1 (m := unlink1 m l) hl hrn, unlink1_β h hl]
  by_cases c0 : 0 = j ∧ m.β 1 l = e
  · obtain ⟨rfl, rfl⟩ := c0
    simp [h.inv01 l hl hne]
  · by_cases c1 : 1 = j ∧ l = e
    · obtain ⟨rfl, rfl⟩ := c1
      simp
    · simp [c0, c1]

/-- **C04, 1-unsew at cell level** -/
theorem C04_oneUnsew2_cells (cfg : Cfg X) (m m' : Map X) (l : Nat) (u : Unit)
    (hwf : WF 3 m) (hl : C01.InUse m l) (hfc : m.fc = 0) (hx : m.β 2 l ≠ 0)
    (h : run (oneUnsew2 cfg m.n l) m = (.ok u, m')) :
    m.β 1 l ≠ 0 ∧ WF 3 (unlink1 m l) ∧ SameTopo (unlink1 m l) m' ∧
    -- the OLD vertex partition is the new one with the cells of `β2 l` and `β1 l` united
    (∀ d e, SameCell (g2 m .vertex) m.n d e ↔
      United (g2 (unlink1 m l) .vertex) m.n (m.β 2 l) (m.β 1 l) d e) ∧
    -- the old identifier is the smaller of the two new ones
    cellId m .vertex (m.β 1 l) =
      min (cellId (unlink1 m l) .vertex (m.β 2 l)) (cellId (unlink1 m l) .vertex (m.β 1 l)) ∧
    -- the data: split from the old identifier into the two new ones, in every vertex storage
    SplitIn cfg (vStores cfg) (cellId (unlink1 m l) .vertex (m.β 2 l))
      (cellId (unlink1 m l) .vertex (m.β 1 l)) (cellId m .vertex (m.β 1 l)) (unlink1 m l) m' := by
  obtain ⟨hl0, hln, _⟩ := hl
  obtain ⟨m1, hunl, htopo, hcase⟩ := C04_oneUnsew2_effect cfg m.n l m m' u hfc h
  obtain ⟨_, _, hne, rfl⟩ := oneUnlinkCore_ok hunl
  have hrn : m.β 1 l < m.n := hwf.range 1 (by omega) l hln
  have hxn : m.β 2 l < m.n := hwf.range 2 (by omega) l hln
  have hwf1 : WF 3 (unlink1 m l) := hwf.unlink1 (by omega) hln hne
  have hn : (unlink1 m l).n = m.n := by simp only [unlink1, Map.n_setβ]
  rcases hcase with ⟨hc, _⟩ | ⟨_, vold, nl, nr, hvold, hnl, hnr, hm⟩
  · exact absurd hc hx
  have e1 := vid_eq hwf rfl hne hrn hvold
  have e2 := vid_eq hwf1 hn hx hxn hnl
  have e3 := vid_eq hwf1 hn hne hrn hnr
  subst e1 e2 e3
  -- β values of the unlinked map needed by the link calculus
  have hb := unlink1_β hwf hln
  have h1' : (unlink1 m l).β 1 l = 0 := by rw [hb]; simp
  have h0' : (unlink1 m l).β 0 (m.β 1 l) = 0 := by rw [hb]; simp
  have h2' : (unlink1 m l).β 2 l = m.β 2 l := by rw [hb]; simp
  have hcells : ∀ d e, SameCell (g2 m .vertex) m.n d e ↔
      United (g2 (unlink1 m l) .vertex) m.n (m.β 2 l) (m.β 1 l) d e := by
    intro d e
    rw [← sameCell_of_beta_eq (link1_unlink1_β hwf hln hne) m.n d e]
    have := vertex_cells_link1 hwf1 (m := unlink1 m l) hl0 hne hln hrn h1' h0' d e
    rw [h2', if_neg hx] at this
    exact this
  exact ⟨hne, hwf1, htopo, hcells,
    cellId_of_union hwf1 hwf hn.symm hne (by rw [hn]; exact hrn) hx (by rw [hn]; exact hxn)
      hne (by rw [hn]; exact hrn) fun x => by rw [hn]; exact (hcells _ x).trans (United.at_right x),
    hm⟩

/-! ## 2-sew at cell level (both darts have a successor) -/

/-- the new edge id of a 2-sew -/
theorem eid_after_link2 {m : Map X} (hwf : WF 3 m) {l r eid : Nat} (hr0 : r ≠ 0) (hlr : l ≠ r)
    (hln : l < m.n) (hrn : r < m.n) (hwf1 : WF 3 (link2 m l r))
    (heid : run (edgeId2 (X := X) l) (link2 m l r) = (.ok eid, link2 m l r)) : eid = min l r := by
  have hrl : ¬ r = l := fun hh => hlr hh.symm
  have hb2 : (link2 m l r).β 2 l = r := by rw [link2_β hwf hln hrn]; simp [hrl]
  have hok : (link2 m l r).okβ 2 l = true := (hwf1.toSized.okβ 2 l).2 ⟨by omega, hln⟩
  unfold edgeId2 at heid
  simp only [bind, run_rB, hok, if_true, hb2, hr0, if_false, Prog.pure_eq, run_ret,
    Prod.mk.injEq, Out.ok.injEq] at heid
  rw [← heid.1]; exact Nat.min_comm _ _

/-- **C04, 2-sew at cell level** (both darts have a successor; the orientation test passed) -/
theorem C04_twoSew2_cells (cfg : Cfg X) (m m' : Map X) (l r : Nat) (u : Unit)
    (hwf : WF 3 m) (hl : C01.InUse m l) (hr : C01.InUse m r) (hlr : l ≠ r) (hfc : m.fc = 0)
    (hbl : m.β 1 l ≠ 0) (hbr : m.β 1 r ≠ 0)
    (h : run (twoSew2 cfg m.n l r) m = (.ok u, m')) :
    WF 3 (link2 m l r) ∧ SameTopo (link2 m l r) m' ∧
    -- the new vertex partition: cell(l) ∪ cell(β1 r), then cell(r) ∪ cell(β1 l); nothing else changes
    (∃ R : Nat → Nat → Prop,
      (∀ d e, R d e ↔ United (g2 m .vertex) m.n l (m.β 1 r) d e) ∧
      (∀ d e, SameCell (g2 (link2 m l r) .vertex) m.n d e ↔ UnitedR R r (m.β 1 l) d e)) ∧
    -- provided the two end points of the new edge are different vertices AFTER the call, the two
    -- new identifiers are the minima of the respective pairs of old identifiers
    (¬ SameCell (g2 (link2 m l r) .vertex) m.n l r →
      cellId (link2 m l r) .vertex l = min (cellId m .vertex l) (cellId m .vertex (m.β 1 r)) ∧
      cellId (link2 m l r) .vertex r = min (cellId m .vertex (m.β 1 l)) (cellId m .vertex r)) ∧
    -- the data, in the order of the code (built-in vertices for both ends, user vertex storages
    -- for both ends, edge storages), between the identifiers just described
    (∃ ma mb mc md,
      MergedIn cfg [0] (cellId (link2 m l r) .vertex l) (cellId m .vertex l) (cellId m .vertex (m.β 1 r))
        (link2 m l r) ma ∧
      MergedIn cfg [0] (cellId (link2 m l r) .vertex r) (cellId m .vertex (m.β 1 l)) (cellId m .vertex r) ma mb ∧
      MergedIn cfg (storagesOf cfg 0) (cellId (link2 m l r) .vertex l) (cellId m .vertex l)
        (cellId m .vertex (m.β 1 r)) mb mc ∧
      MergedIn cfg (storagesOf cfg 0) (cellId (link2 m l r) .vertex r) (cellId m .vertex (m.β 1 l))
        (cellId m .vertex r) mc md ∧
      MergedIn cfg (eStores cfg) (min l r) l r md m') := by
  obtain ⟨hl0, hln, hlu⟩ := hl
  obtain ⟨hr0, hrn, hru⟩ := hr
  have han : m.β 1 r < m.n := hwf.range 1 (by omega) r hrn
  have hbn : m.β 1 l < m.n := hwf.range 1 (by omega) l hln
  obtain ⟨lv, b1rv, b1lv, rv, m1, lvn, rvn, eid, ma, mb, mc, md, hlv, hb1rv, hb1lv, hrv, _, hlink,
    hlvn, hrvn, heid, rA', rB', rC', rD', rE'⟩ := C04_twoSew2_both cfg m.n l r m m' u hfc hbl hbr h
  obtain ⟨_, _, h2l, h2r, rfl⟩ := iLinkCore_ok hlink
  have hwf1 : WF 3 (link2 m l r) := hwf.linkI (by omega) (by omega) hl0 hr0 hlr hln hrn hlu hru h2l h2r
  have e1 := vid_eq hwf rfl hl0 hln hlv
  have e2 := vid_eq hwf rfl hbr han hb1rv
  have e3 := vid_eq hwf rfl hbl hbn hb1lv
  have e4 := vid_eq hwf rfl hr0 hrn hrv
  have e5 := vid_eq hwf1 (link2_n m l r) hl0 hln hlvn
  have e6 := vid_eq hwf1 (link2_n m l r) hr0 hrn hrvn
  have e7 := eid_after_link2 hwf hr0 hlr hln hrn hwf1 heid
  subst e1 e2 e3 e4 e5 e6 e7
  have htopo : SameTopo (link2 m l r) m' :=
    (((rA'.topo.trans rB'.topo).trans rC'.topo).trans rD'.topo).trans rE'.topo
  obtain ⟨R, hR, hcells⟩ := vertex_cells_link2 hwf hl0 hr0 hlr hln hrn h2l h2r
  have hR' : ∀ d e, R d e ↔ United (g2 m .vertex) m.n l (m.β 1 r) d e := by
    intro d e; rw [hR, if_neg hbr]
  have hcells' : ∀ d e, SameCell (g2 (link2 m l r) .vertex) m.n d e ↔ UnitedR R r (m.β 1 l) d e := by
    intro d e; rw [hcells, if_neg hbl]
  refine ⟨hwf1, htopo, ⟨R, hR', hcells'⟩, ?_, ⟨ma, mb, mc, md, rA', rB', rC', rD', rE'⟩⟩
  intro hsep
  -- `R` inherits reflexivity, symmetry and transitivity from `United`
  have Rrefl : ∀ d, R d d := fun d => (hR' d d).2 (Or.inl (.refl d))
  -- r and β1 l are in one new cell; l and β1 r are in one R-class
  have hrb : SameCell (g2 (link2 m l r) .vertex) m.n r (m.β 1 l) :=
    (hcells' _ _).2 (Or.inr (Or.inl ⟨Rrefl _, Rrefl _⟩))
  have hla : R l (m.β 1 r) := (hR' _ _).2 (Or.inr (Or.inl ⟨.refl _, .refl _⟩))
  -- consequences of the separation: l is R-related neither to r nor to β1 l
  have nlr : ¬ R l r := fun hh => hsep ((hcells' _ _).2 (Or.inl hh))
  have nlb : ¬ R l (m.β 1 l) := fun hh =>
    hsep (.trans ((hcells' _ _).2 (Or.inl hh)) (.symm hrb))
  have Rsymm : ∀ d e, R d e → R e d := by
    intro d e hh
    exact (hR' _ _).2 (United.symm ((hR' _ _).1 hh))
  have Rtrans : ∀ d b e, R d b → R b e → R d e := by
    intro d b e h1 h2
    exact (hR' _ _).2 (United.trans ((hR' _ _).1 h1) ((hR' _ _).1 h2))
  constructor
  · -- the new cell of l is cell(l) ∪ cell(β1 r)
    apply cellId_of_union hwf hwf1 rfl hl0 hln hl0 hln hbr han
    intro x
    rw [hcells']
    constructor
    · rintro (h1 | ⟨h1, _⟩ | ⟨h1, _⟩)
      · rcases (hR' _ _).1 h1 with a | ⟨_, a2⟩ | ⟨a1, a2⟩
        · exact Or.inl a
        · exact Or.inr a2
        · exact Or.inl a2
      · exact absurd h1 nlr
      · exact absurd h1 nlb
    · rintro (h1 | h1)
      · exact Or.inl ((hR' _ _).2 (Or.inl h1))
      · exact Or.inl ((hR' _ _).2 (Or.inr (Or.inl ⟨.refl _, h1⟩)))
  · -- the new cell of r is cell(β1 l) ∪ cell(r)
    apply cellId_of_union hwf hwf1 rfl hr0 hrn hbl hbn hr0 hrn
    intro x
    rw [hcells']
    -- R-classes of r and β1 l do not contain l or β1 r
    have nrl : ¬ R r l := fun hh => nlr (Rsymm _ _ hh)
    have nbl : ¬ R (m.β 1 l) l := fun hh => nlb (Rsymm _ _ hh)
    have plain : ∀ c, ¬ R c l → ∀ y, R c y → SameCell (g2 m .vertex) m.n c y := by
      intro c hc y hy
      rcases (hR' _ _).1 hy with a | ⟨a1, _⟩ | ⟨a1, _⟩
      · exact a
      · exact absurd ((hR' _ _).2 (Or.inl a1)) hc
      · exact absurd (Rtrans _ _ _ ((hR' _ _).2 (Or.inl a1)) (Rsymm _ _ hla)) hc
    constructor
    · rintro (h1 | ⟨_, h2⟩ | ⟨_, h2⟩)
      · exact Or.inr (plain r nrl x h1)
      · exact Or.inl (plain _ nbl x h2)
      · exact Or.inr (plain r nrl x h2)
    · rintro (h1 | h1)
      · exact Or.inr (Or.inl ⟨Rrefl _, (hR' _ _).2 (Or.inl h1)⟩)
      · exact Or.inl ((hR' _ _).2 (Or.inl h1))

/-! non-vacuity: the two triangles of C01 glued along 2|4; dart 2 is 1-unsewn (its β2 image is 4,
    so the vertex {3, 5} splits into {3} and {5}) and sewn back (the two cells are united again) -/
def glued : Map Val := (run (twoSew2 (stdCfg 3 7) 9 2 4) C01.exMap).2
def opened : Map Val := (run (oneUnsew2 (stdCfg 3 7) 9 2) glued).2

theorem glued_opened_run :
    (WF 3 glued ∧ glued.fc = 0 ∧ glued.n = 9 ∧ glued.β 2 2 = 4) ∧
    (run (oneUnsew2 (stdCfg 3 7) glued.n 2) glued).1 = .ok () ∧
    (cellId glued .vertex 3 = 3 ∧ cellId opened .vertex 4 = 4 ∧ cellId opened .vertex 3 = 3) ∧
    (WF 3 opened ∧ opened.fc = 0 ∧ opened.β 2 2 = 4 ∧ opened.β 1 2 = 0 ∧ opened.β 0 3 = 0) ∧
    (run (oneSew2 (stdCfg 3 7) opened.n 2 3) opened).1 = .ok () := by decide +kernel

example : WF 3 glued ∧ glued.fc = 0 ∧ glued.n = 9 ∧ glued.β 2 2 = 4 := glued_opened_run.1
example : (run (oneUnsew2 (stdCfg 3 7) glued.n 2) glued).1 = .ok () := glued_opened_run.2.1
example : cellId glued .vertex 3 = 3 ∧ cellId opened .vertex 4 = 4 ∧ cellId opened .vertex 3 = 3 :=
  glued_opened_run.2.2.1
example : WF 3 opened ∧ opened.fc = 0 ∧ opened.β 2 2 = 4 ∧ opened.β 1 2 = 0 ∧ opened.β 0 3 = 0 :=
  glued_opened_run.2.2.2.1
example : (run (oneSew2 (stdCfg 3 7) opened.n 2 3) opened).1 = .ok () := glued_opened_run.2.2.2.2

theorem exMap_sew24_run :
    (C01.InUse C01.exMap 2 ∧ C01.InUse C01.exMap 4 ∧ C01.exMap.β 1 2 ≠ 0 ∧ C01.exMap.β 1 4 ≠ 0 ∧
      (run (twoSew2 (stdCfg 3 7) C01.exMap.n 2 4) C01.exMap).1 = .ok ()) ∧
    (cellId (link2 C01.exMap 2 4) .vertex 2 = 2 ∧ cellId (link2 C01.exMap 2 4) .vertex 4 = 3 ∧
      cellId C01.exMap .vertex 2 = 2 ∧ cellId C01.exMap .vertex 5 = 5 ∧
      cellId C01.exMap .vertex 3 = 3 ∧ cellId C01.exMap .vertex 4 = 4) := by decide +kernel

/-- hypotheses of `C04_twoSew2_cells` on the two triangles of C01, sewing 2 with 4: both darts have
    a successor, the call succeeds, the two end points stay different vertices (different ids ⇔
    different cells, C03), and the new ids are the minima: {2,5} ↦ 2, {3,4} ↦ 3 -/
example : C01.InUse C01.exMap 2 ∧ C01.InUse C01.exMap 4 ∧ C01.exMap.β 1 2 ≠ 0 ∧ C01.exMap.β 1 4 ≠ 0 ∧
    (run (twoSew2 (stdCfg 3 7) C01.exMap.n 2 4) C01.exMap).1 = .ok () := exMap_sew24_run.1
example : cellId (link2 C01.exMap 2 4) .vertex 2 = 2 ∧ cellId (link2 C01.exMap 2 4) .vertex 4 = 3 ∧
    cellId C01.exMap .vertex 2 = 2 ∧ cellId C01.exMap .vertex 5 = 5 ∧
    cellId C01.exMap .vertex 3 = 3 ∧ cellId C01.exMap .vertex 4 = 4 := exMap_sew24_run.2

end HC.C04

/-
  C16 — steps 2 + 3 (`intersection_darts`: group, number, `insert_intersections`) SUCCEED: forward totality of the loop over all edges.

  * `insertIntersections_total`    every call of `insert_vertices_on_edge` answers `Ok` (`C16_insertVertices_total_partial`); its
                                   hypotheses — edge dart in use below the fresh block, 2-linked, successors on both sides, positions in
                                   ]0,1[, both end points valued — are transported along the loop: the invariant `GInv` and its step
                                   (Props/C16Chain.lean) for the discrete part, `carries_insert_frame` for the values
  * `C16_steps23_total_partial`    for every iteration order of the `HashMap` (`KeysAreHitEdges`): `HitDartsOK`, positions in ]0,1[ and
                                   valued end points of every written slot ⇒ `stepsTwoThree … = (res, Ok, m3)`.  PARTIAL: crossed edges
                                   2-linked with successors on both sides (interior grid edges; a boundary edge is not covered)
  On the grid of the builder all hypotheses are theorems: `C16_steps23_total_on_grid` (Props/C16Step5Pipe.lean).
-/
import Honeycomb.Props.C16InsertTotal


namespace HC.C16
open HC

/-- **C16, step 3 — `insert_intersections` is total**: over the groups in the iteration order, every call of
    `insert_vertices_on_edge` answers `Ok` (so the `.unwrap()` of the caller does not panic), when every edge is a 2-linked
    in-use dart below the fresh block whose two darts have a successor, its positions lie in `]0,1[`, and its two end points
    carry a value.  The hypotheses are transported along the loop with the frame of C14. -/
theorem insertIntersections_total : ∀ (gs : List (Nat × List Hit)) (m : Map Val) (off : Nat), GInv m off gs →
    0 < m.a.size → (∀ g, g ∈ gs → m.β 2 g.1 ≠ 0 ∧ m.β 1 (m.β 2 g.1) ≠ 0) →
    (∀ g, g ∈ gs → ∀ h, h ∈ g.2 → 0 < h.t ∧ h.t < 1) →
    (∀ g, g ∈ gs → (∃ v, Carries m g.1 v) ∧ ∃ v, Carries m (m.β 1 g.1) v) →
    ∃ m', run (insertIntersections m.n (gs.zip (slicesFrom off (gs.map (·.2.length))))) m = (.ok (), m') := by
  intro gs
  induction gs with
  | nil =>
      intro m off _ _ _ _ _
      exact ⟨m, by simp only [List.map_nil, slicesFrom, List.zip_nil_right, insertIntersections, Prog.pure_eq, run_ret]⟩
  | cons g rest ih =>
      intro m off G h0 hlk hts01 hval
      have hwf := G.wf
      have hroom := G.room
      simp only [List.map_cons, List.sum_cons] at hroom
      obtain ⟨ig, glt, gb1⟩ := G.keys g List.mem_cons_self
      obtain ⟨gb2, gb12⟩ := hlk g List.mem_cons_self
      obtain ⟨⟨v1, hv1⟩, ⟨v2, hv2⟩⟩ := hval g List.mem_cons_self
      have hts : (g.2.map (·.t)).length = g.2.length := List.length_map _
      obtain ⟨m1, h1, _⟩ := C16_insertVertices_total_partial (m := m) (e := g.1)
        (nds := List.range' off (2 * g.2.length)) (ts := g.2.map (·.t)) hwf h0 ig gb1 gb2 gb12
        (by rw [List.length_range', hts])
        (fun x hx => by
          have := List.mem_range'_1.1 hx
          have := G.pos
          obtain ⟨fu, fb⟩ := G.fresh x (by omega) (by omega)
          exact ⟨⟨by omega, by omega, fu⟩, fb⟩)
        List.nodup_range'
        (fun t ht => by
          obtain ⟨h, hh, rfl⟩ := List.mem_map.1 ht
          exact hts01 g List.mem_cons_self h hh)
        (by rw [hv1.2]; rfl) (by rw [hv2.2]; rfl)
      obtain ⟨G1, n1, _, _, fr, hne⟩ := G.step h1
      have hsub : ∀ g', g' ∈ rest → g' ∈ g :: rest := fun g' h => List.mem_cons_of_mem _ h
      have frk : ∀ g', g' ∈ rest → m1.β 1 g'.1 = m.β 1 g'.1 ∧ m1.β 2 g'.1 = m.β 2 g'.1 := fun g' hg' =>
        fr g'.1 (hne g' hg').1 (hne g' hg').2 (Or.inl (G.keys g' (hsub g' hg')).2.1)
      -- the opposite dart of a later edge is neither of the two darts of this edge
      have hopp : ∀ g', g' ∈ rest → m.β 2 g'.1 ≠ g.1 ∧ m.β 2 g'.1 ≠ m.β 2 g.1 := by
        intro g' hg'
        refine ⟨G.can g' (hsub g' hg') g List.mem_cons_self, fun e => ?_⟩
        obtain ⟨ig', _, _⟩ := G.keys g' (hsub g' hg')
        have i1 := (hwf.invol 2 (by decide) (by decide) g'.1 ig'.2.1 (hlk g' (hsub g' hg')).1).1
        have i2 := (hwf.invol 2 (by decide) (by decide) g.1 ig.2.1 gb2).1
        rw [e, i2] at i1
        exact (hne g' hg').1 i1.symm
      have hlk1 : ∀ g', g' ∈ rest → m1.β 2 g'.1 ≠ 0 ∧ m1.β 1 (m1.β 2 g'.1) ≠ 0 := by
        intro g' hg'
        rw [(frk g' hg').2, (fr _ (hopp g' hg').1 (hopp g' hg').2 (Or.inl (G.b2_lt (hsub g' hg')))).1]
        exact hlk g' (hsub g' hg')
      have frame01 : ∀ x P, x < off → Carries m x P → Carries m1 x P := fun x P hx hc =>
        carries_insert_frame hts hwf ig G.live h1 (Or.inl hx) hc
      have hval1 : ∀ g', g' ∈ rest → (∃ v, Carries m1 g'.1 v) ∧ ∃ v, Carries m1 (m1.β 1 g'.1) v := by
        intro g' hg'
        obtain ⟨⟨u1, hu1⟩, ⟨u2, hu2⟩⟩ := hval g' (hsub g' hg')
        refine ⟨⟨u1, frame01 _ _ (G.keys g' (hsub g' hg')).2.1 hu1⟩, ⟨u2, ?_⟩⟩
        rw [(frk g' hg').1]
        exact frame01 _ _ (G.b1_lt (hsub g' hg')) hu2
      obtain ⟨m', r'⟩ := ih m1 _ G1 (by rw [asize_of_run h1]; exact h0) hlk1 (fun g' hg' => hts01 g' (hsub g' hg')) hval1
      refine ⟨m', ?_⟩
      simp only [List.map_cons, slicesFrom, List.zip_cons_cons, insertIntersections, Prog.bind_eq]
      rw [run_bind_of_ok h1, ← n1]
      exact r'

/-- **C16, steps 2 + 3 are total** (partial: every crossed edge 2-linked with successors on both sides — interior grid
    edges, `HitDartsOK`).  For every iteration order of the `HashMap` (`KeysAreHitEdges`), on a well-formed map with a vertex
    storage, when every written slot has its position in `]0,1[` and the two end points of its dart carry a value,
    `intersection_darts` succeeds: no call of `insert_vertices_on_edge` is refused. -/
theorem C16_steps23_total_partial {m0 : Map Val} {slots : List Slot} {keys : List Nat} (hwf : WF 3 m0)
    (h0 : 0 < m0.a.size) (hhit : HitDartsOK m0 slots) (hk : KeysAreHitEdges (m0.β 2) slots keys)
    (ht : ∀ (K d : Nat) (t : Rat), slots[K]? = some (some (d, t)) → 0 < t ∧ t < 1)
    (hv : ∀ (K d : Nat) (t : Rat), slots[K]? = some (some (d, t)) →
      (∃ v, Carries m0 d v) ∧ ∃ v, Carries m0 (m0.β 1 d) v) :
    ∃ res m3, stepsTwoThree m0 slots keys = (res, .ok (), m3) := by
  obtain ⟨hnd, hkeys, hall⟩ := keysOK_of_hit_edges hwf hhit hk
  unfold stepsTwoThree
  simp only
  set hs := hitsOf (m0.β 2) slots with hhs
  set gs := groupsOf hs keys with hgs
  set tot := 2 * (gs.map (·.2.length)).sum with htot
  have hfst : (m0.addFreeDarts tot).1 = m0.n := rfl
  have eβ : ∀ i d, i < 3 → d < m0.n → (m0.addFreeDarts tot).2.β i d = m0.β i d :=
    fun i d hi hd => addFreeDarts_β_lt hwf tot hi hd
  -- what a key is: the edge of a written slot
  have keyinfo : ∀ e, e ∈ keys → (m0.β 2 e ≠ 0 ∧ m0.β 1 (m0.β 2 e) ≠ 0) ∧
      ((∃ v, Carries m0 e v) ∧ ∃ v, Carries m0 (m0.β 1 e) v) := by
    intro e he
    obtain ⟨ie, eb1, _⟩ := hkeys e he
    obtain ⟨h, hh⟩ := (hk.2 e).1 he
    obtain ⟨K, d, t, hK, hx⟩ := (C16_hits_slot_numbers (m0.β 2) slots _).1 hh
    injection hx with hed _
    obtain ⟨hd, hb1, hb2, hb12⟩ := hhit K d t hK
    obtain ⟨⟨v1, c1⟩, ⟨v2, c2⟩⟩ := hv K d t hK
    subst hed
    by_cases hdd : edgeOf (m0.β 2) d = d
    · rw [hdd]; exact ⟨⟨hb2, hb12⟩, ⟨v1, c1⟩, ⟨v2, c2⟩⟩
    · obtain ⟨_, hb2e, hb12e, hends⟩ := opposite_ends hwf hd hb1 hdd ie eb1
      obtain ⟨ce1, ce2⟩ := hends v1 v2 c1 c2
      exact ⟨⟨by rw [hb2e]; exact hd.1, hb12e⟩, ⟨v2, ce1⟩, ⟨v1, ce2⟩⟩
  obtain ⟨m3, r⟩ := insertIntersections_total gs (m0.addFreeDarts tot).2 m0.n (GInv.init hs hwf hnd hkeys tot htot)
    (by simp only [Map.addFreeDarts, Array.size_map]; exact h0)
    (by intro g hg
        obtain ⟨a, _, _⟩ := hkeys g.1 (mem_groupsOf hg).1
        obtain ⟨⟨l2, l12⟩, _⟩ := keyinfo g.1 (mem_groupsOf hg).1
        rw [eβ 2 _ (by decide) a.2.1, eβ 1 _ (by decide) (hwf.range 2 (by decide) _ a.2.1)]
        exact ⟨l2, l12⟩)
    (by intro g hg h hh
        rw [(mem_groupsOf hg).2] at hh
        obtain ⟨K, d, t, hK, hx⟩ := (C16_hits_slot_numbers (m0.β 2) slots _).1 (mem_groupOf.1 hh)
        injection hx with _ hh'
        have := ht K d t hK
        rw [hh']; simp only
        split
        · constructor <;> linarith
        · exact this)
    (by intro g hg
        obtain ⟨a, _, _⟩ := hkeys g.1 (mem_groupsOf hg).1
        obtain ⟨_, ⟨v1, c1⟩, ⟨v2, c2⟩⟩ := keyinfo g.1 (mem_groupsOf hg).1
        exact ⟨⟨v1, carries_addFreeDarts hwf tot c1⟩,
          ⟨v2, by rw [eβ 1 _ (by decide) a.2.1]; exact carries_addFreeDarts hwf tot c2⟩⟩)
  rw [hfst, r]
  exact ⟨_, _, rfl⟩

end HC.C16

/-
  C02 — `CMap3::one_link` / `CMap3::one_unlink` of dim3/links/one.rs (the 1-links that keep 3-glued faces
  mirrored), TRANSLATED from the source on every run (`Gen/Links3.lean`, written by tools/gen_lean.py),
  interpreted in the model's transaction monad, are EQUAL as programs to the hand-written `oneLink3` /
  `oneUnlink3` of Model/Ops3.lean, which the Mirror clause of C02 is proved about.  The cores they call are
  tied in Props/C01Gen.lean.
-/
import Honeycomb.Gen.Links3
import Honeycomb.Model.Ops3
import Honeycomb.Props.C02

namespace HC.GenTie
open HC HC.C02
variable {X : Type}

/-- operand of a generated instruction: parameters, the null dart, bound variables -/
def linkArg (l r : Nat) (env : List Nat) : Nat → Nat
  | 0 => l
  | 1 => r
  | 2 => 0
  | n => env.getD (n - 20) 0

/-- the `*_core` function of a call instruction -/
def coreCall : Nat → Nat → Nat → Option (P X Unit)
  | 0, a, b => some (oneLinkCore a b)
  | 1, a, b => some (iLinkCore 2 a b)
  | 2, a, b => some (iLinkCore 3 a b)
  | 3, a, _ => some (oneUnlinkCore a)
  | 4, a, _ => some (iUnlinkCore 2 a)
  | 5, a, _ => some (iUnlinkCore 3 a)
  | _, _, _ => none

def linkErr : Nat → String
  | 0 => "NonFreeBase"
  | 1 => "NonFreeImage"
  | 2 => "AlreadyFree"
  | _ => "AsymmetricalFaces"

/-- the meaning of a generated instruction list (see the header of Gen/Links3.lean); the fuel only makes the
    recursion structural (an `if` skips its block with `List.drop`) -/
def interpLink (l r : Nat) : Nat → List Nat → List (Nat × List Nat) → P X Unit
  | 0, _, _ => Prog.panic
  | _ + 1, _, [] => pure ()
  | f + 1, env, (0, [c, a, b]) :: rest =>
      match coreCall c (linkArg l r env a) (linkArg l r env b) with
      | some p => do p; interpLink l r f env rest
      | none => Prog.panic
  | f + 1, env, (1, [i, a]) :: rest => do
      let v ← rB i (linkArg l r env a)
      interpLink l r f (env ++ [v]) rest
  | f + 1, env, (2, [a, b, n]) :: rest =>
      if linkArg l r env a ≠ 0 ∧ linkArg l r env b ≠ 0 then interpLink l r f env rest
      else interpLink l r f env (rest.drop n)
  | f + 1, env, (3, i :: a :: b :: k :: es) :: rest => do
      let x ← rB i (linkArg l r env a)
      if x ≠ linkArg l r env b then abort ⟨linkErr k, es.map (linkArg l r env)⟩ else
      interpLink l r f env rest
  | _, _, _ => Prog.panic

/-- **tie of `CMap3::one_link`** -/
theorem C02_gen_oneLink3 (l r : Nat) : interpLink (X := X) l r 16 [] Gen.oneLink3 = oneLink3 l r := by
  simp only [Gen.oneLink3, interpLink, coreCall, linkArg, oneLink3, List.drop, List.getD, List.nil_append,
    List.cons_append, Prog.bind_eq, Prog.pure_eq, Prog.bind_unit]
  rfl

/-- **tie of `CMap3::one_unlink`** -/
theorem C02_gen_oneUnlink3 (l : Nat) : interpLink (X := X) l 0 16 [] Gen.oneUnlink3 = oneUnlink3 l := by
  simp only [Gen.oneUnlink3, interpLink, coreCall, linkArg, oneUnlink3, List.drop, List.getD, List.nil_append,
    List.cons_append, Prog.bind_eq, Prog.pure_eq, Prog.bind_unit]
  rfl

/-- **C02 stated on the translated code**: every successful run of the translated `CMap3::one_link` /
    `one_unlink` on a well-formed 3-map with in-use arguments ends in a well-formed map, and in a mirrored one
    if it started from a mirrored one -/
theorem C02_gen_one_links_preserve_WF_and_Mirror (l r : Nat) :
    Safe (fun m : Map X => InUse m l ∧ InUse m r) (interpLink (X := X) l r 16 [] Gen.oneLink3) ∧
    Safe (fun m : Map X => InUse m l) (interpLink (X := X) l 0 16 [] Gen.oneUnlink3) := by
  rw [C02_gen_oneLink3, C02_gen_oneUnlink3]
  exact ⟨safe_oneLink3 l r, safe_oneUnlink3 l⟩

/-- a list the interpreter does not understand is a panic, not a silent success -/
example (l r : Nat) : interpLink (X := X) l r 4 [] [(9, [])] = Prog.panic := rfl

end HC.GenTie

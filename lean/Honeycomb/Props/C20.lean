/-
  C20 — the viewer's scene extraction mirrors the map.

  Model: `Honeycomb/Model/Scene.lean` (`extract2`, `extract3`, shared core `extractWith` over a
  `Reader`), after `honeycomb-render/src/import_map.rs`.

  PROVED (for every map size; `sc` is the scene: `extract2 m = some sc`).  Hypotheses used, where
  named: `WF 3 m` (C01's well-formedness), `ClosedFaces m` (every in-use dart has a β1 image),
  `NoLoops m` (no face with a single side), `Embedded m` (every vertex id has coordinates).
  * `C20_no_panic`               WF, ClosedFaces, NoLoops, Embedded ⇒ the start-up system does not panic
                                 (`∃ sc, extract2 m = some sc`), so the clauses below are not vacuous
  * `C20_vertex_entities`        one vertex entity per id of `iter_vertices`, in that order, and the
                                 table row stored in the entity holds the coordinates of that vertex
  * `C20_index_map_injective`,
    `C20_index_map_onto`         `index_map` is a bijection between the vertex ids and the table rows
  * `C20_table_row`              `table[index_map v] = ` the value of vertex `v`
  * `C20_dart_start`             a dart entity carries `vertex_id(d)`, `edge_id(d)`, a face id of
                                 `iter_faces`, volume 1; `start` is the row of its vertex, which holds
                                 that vertex' coordinates
  * `C20_dart_end`               (WF, ClosedFaces) `end` is the row of `vertex_id(β1 d)`
  * `C20_edge_entity`            one edge entity per id of `iter_edges`; ends = rows of the vertices of
                                 the edge dart and of `β2 id` (`β1 id` when `id` is 2-free)
  * `C20_face_corners`           (WF, ClosedFaces) one face entity per id of `iter_faces`; its corner
                                 list is `index_map ∘ vertex_id` over the β1-cycle `f, β1 f, β1² f, …`
                                 (`β1^k f = f`, the `k` darts distinct)
  * `C20_dart_entities_of_face`  (WF, ClosedFaces) the dart entities are, face after face in
                                 `iter_faces` order, exactly the darts of the β1-cycle of the face id,
                                 each once, tagged with that face id
  * `C20_each_dart_once`         (WF, ClosedFaces) every in-use dart has exactly one dart entity and no
                                 other dart has one
  * `C20_3d_vertex_entities`, `C20_3d_dart_start`, `C20_3d_edge_entity`, `C20_3d_face_entity`
                                 the dimension-independent clauses for `extract3` (ids, table rows,
                                 start, edge ends `β3` else `β2` else `β1`, corner rows along the
                                 `Custom(&[1])` walk), conditional on `extract3 m = some sc`
  The walk lemma `bfs1_cycle` (the `Custom(&[1])` orbit of an in-use dart on a closed face is its
  β1-cycle, closing back on the start; any number of β rows, from `b1walk_spec` of `Lemmas/Walk1.lean`;
  `walk1_cycle` is its 2-D reading) and C03's
  2-D id theory carry the 2-D results.  The clauses that do not depend on the dimension are proved over
  a `Reader` (`vertex_entities`, `dart_start`, `edge_entities`, `face_corners_of_cycle`,
  `dart_entities_of_walks`) and read on `reader2` / `reader3`; `darts_once` (faces listed by increasing
  identifier partition the darts in use) carries `C20_each_dart_once` and `C20_3d_each_dart_once`.

  NOT PROVED (validated by tools/props/c20.py on the implementation, see SPEC["not_proved"]):
  * the normal *vectors* (`FaceNormals`, `VolumeNormals`) are finite unit vectors — glam `f32`
    arithmetic is not modelled; only the keys are (and those are compared, not proved).  The clause
    is in fact FALSE in 3-D at straight corners (NaN; known finding D20a).
  * (3-D dart `end`, corner order, two-sided enumeration, one entity per in-use dart, panic-freedom,
    normal keys, and the exact part of the normals are proved in Props/C20b.lean.)
-/
import Honeycomb.Model.Scene
import Honeycomb.Props.C03
import Honeycomb.Lemmas.Walk1
import Mathlib.Data.List.Forall2
import Mathlib.Data.List.Iterate
import Mathlib.Data.List.Nodup


namespace HC.C20
open HC

/-! ## `mapO`, `rowOf`, `cyclicPairs` -/

theorem mapO_iff {α β : Type} {f : α → Option β} :
    ∀ {l : List α} {r : List β}, mapO f l = some r ↔ List.Forall₂ (fun a b => f a = some b) l r := by
  intro l
  induction l with
  | nil => intro r; cases r <;> simp [mapO]
  | cons a as ih =>
      intro r
      unfold mapO
      cases hfa : f a <;> cases hm : mapO f as <;> cases r <;> simp_all [List.forall₂_cons]

theorem mapO_length {α β : Type} {f : α → Option β} {l : List α} {r : List β}
    (h : mapO f l = some r) : r.length = l.length :=
  ((mapO_iff.1 h).length_eq).symm

theorem mapO_get {α β : Type} {f : α → Option β} {l : List α} {r : List β}
    (h : mapO f l = some r) {i : Nat} {a : α} (ha : l[i]? = some a) :
    ∃ b, r[i]? = some b ∧ f a = some b := by
  have h2 := List.forall₂_iff_get.1 (mapO_iff.1 h)
  obtain ⟨hi, rfl⟩ := List.getElem?_eq_some_iff.1 ha
  have hi' : i < r.length := by rw [← h2.1]; exact hi
  exact ⟨r[i], List.getElem?_eq_getElem hi', h2.2 i hi hi'⟩

theorem mapO_get' {α β : Type} {f : α → Option β} {l : List α} {r : List β}
    (h : mapO f l = some r) {i : Nat} {b : β} (hb : r[i]? = some b) :
    ∃ a, l[i]? = some a ∧ f a = some b := by
  have h2 := List.forall₂_iff_get.1 (mapO_iff.1 h)
  obtain ⟨hi, rfl⟩ := List.getElem?_eq_some_iff.1 hb
  have hi' : i < l.length := by rw [h2.1]; exact hi
  exact ⟨l[i], List.getElem?_eq_getElem hi', h2.2 i hi' hi⟩

theorem mapO_mem' {α β : Type} {f : α → Option β} {l : List α} {r : List β}
    (h : mapO f l = some r) {b : β} (hb : b ∈ r) : ∃ a, a ∈ l ∧ f a = some b := by
  obtain ⟨i, hi⟩ := List.mem_iff_getElem?.1 hb
  obtain ⟨a, ha, hf⟩ := mapO_get' h hi
  exact ⟨a, List.mem_iff_getElem?.2 ⟨i, ha⟩, hf⟩

theorem mapO_mem {α β : Type} {f : α → Option β} {l : List α} {r : List β}
    (h : mapO f l = some r) {a : α} (ha : a ∈ l) : ∃ b, b ∈ r ∧ f a = some b := by
  obtain ⟨i, hi⟩ := List.mem_iff_getElem?.1 ha
  obtain ⟨b, hb, hf⟩ := mapO_get h hi
  exact ⟨b, List.mem_iff_getElem?.2 ⟨i, hb⟩, hf⟩

theorem mapO_isSome {α β : Type} {f : α → Option β} :
    ∀ {l : List α}, (∀ a, a ∈ l → ∃ b, f a = some b) → ∃ r, mapO f l = some r := by
  intro l
  induction l with
  | nil => intro _; exact ⟨[], rfl⟩
  | cons a as ih =>
      intro h
      obtain ⟨b, hb⟩ := h a List.mem_cons_self
      obtain ⟨bs, hbs⟩ := ih fun x hx => h x (List.mem_cons_of_mem _ hx)
      exact ⟨b :: bs, by unfold mapO; rw [hb, hbs]⟩

theorem mapO_map_eq {α β : Type} {f : α → Option β} {p : β → α} {l : List α} {r : List β}
    (h : mapO f l = some r) (hp : ∀ a b, f a = some b → p b = a) : r.map p = l := by
  apply List.ext_getElem?
  intro i
  rw [List.getElem?_map]
  cases hr : r[i]? with
  | none =>
      have : l[i]? = none := by
        rw [List.getElem?_eq_none_iff] at hr ⊢
        rw [← mapO_length h]; exact hr
      rw [this]; rfl
  | some b =>
      obtain ⟨a, ha, hf⟩ := mapO_get' h hr
      rw [ha]; simp [hp a b hf]

theorem rowOf_get : ∀ {vs : List Nat} {v r : Nat}, rowOf vs v = some r → vs[r]? = some v := by
  intro vs
  induction vs with
  | nil => intro v r h; simp [rowOf] at h
  | cons x xs ih =>
      intro v r h
      unfold rowOf at h
      by_cases hx : x = v
      · simp only [hx, if_true, Option.some.injEq] at h
        subst h; simp [hx]
      · simp only [hx, if_false, Option.map_eq_some_iff] at h
        obtain ⟨r', hr', rfl⟩ := h
        simpa using ih hr'

theorem rowOf_of_mem : ∀ {vs : List Nat} {v : Nat}, v ∈ vs → ∃ r, rowOf vs v = some r := by
  intro vs
  induction vs with
  | nil => intro v h; simp at h
  | cons x xs ih =>
      intro v h
      unfold rowOf
      by_cases hx : x = v
      · exact ⟨0, by simp [hx]⟩
      · rcases List.mem_cons.1 h with h | h
        · exact absurd h.symm hx
        · obtain ⟨r, hr⟩ := ih h
          exact ⟨r + 1, by simp [hx, hr]⟩

theorem rowOf_of_get_nodup : ∀ {vs : List Nat} {v r : Nat}, vs.Nodup → vs[r]? = some v →
    rowOf vs v = some r := by
  intro vs
  induction vs with
  | nil => intro v r _ h; simp at h
  | cons x xs ih =>
      intro v r hn h
      unfold rowOf
      cases r with
      | zero =>
          simp only [List.getElem?_cons_zero, Option.some.injEq] at h
          simp [h]
      | succ r' =>
          simp only [List.getElem?_cons_succ] at h
          have hv : v ∈ xs := List.mem_iff_getElem?.2 ⟨r', h⟩
          have hx : x ≠ v := fun e => (List.nodup_cons.1 hn).1 (e ▸ hv)
          simp [hx, ih (List.nodup_cons.1 hn).2 h]

theorem length_cyclicPairs {α : Type} (l : List α) : (cyclicPairs l).length = l.length := by
  unfold cyclicPairs
  cases l with
  | nil => rfl
  | cons a as => simp

theorem map_fst_cyclicPairs {α : Type} (l : List α) : (cyclicPairs l).map Prod.fst = l := by
  unfold cyclicPairs
  apply List.map_fst_zip
  cases l with
  | nil => simp
  | cons a as => simp

theorem cyclicPairs_succ {α : Type} (l : List α) (i : Nat) :
    (l.tail ++ l.take 1)[i]? = if i < l.length then l[(i + 1) % l.length]? else none := by
  cases l with
  | nil => simp
  | cons a as =>
    simp only [List.tail_cons, List.take_succ_cons, List.take_zero, List.length_cons]
    rcases Nat.lt_trichotomy i as.length with h | h | h
    · rw [if_pos (by omega), List.getElem?_append_left h, Nat.mod_eq_of_lt (by omega), List.getElem?_cons_succ]
    · rw [if_pos (by omega), h, Nat.mod_self, List.getElem?_append_right (Nat.le_refl _), Nat.sub_self]
      rfl
    · rw [if_neg (by omega), List.getElem?_eq_none_iff, List.length_append, List.length_singleton]
      omega

theorem cyclicPairs_get {α : Type} (l : List α) {i : Nat} {a : α} (ha : l[i]? = some a) :
    ∃ b, l[(i + 1) % l.length]? = some b ∧ (cyclicPairs l)[i]? = some (a, b) := by
  have hi : i < l.length := (List.getElem?_eq_some_iff.1 ha).1
  have hj : (i + 1) % l.length < l.length := Nat.mod_lt _ (by omega)
  refine ⟨l[(i + 1) % l.length], List.getElem?_eq_getElem hj, ?_⟩
  unfold cyclicPairs
  rw [List.getElem?_zip_eq_some]
  refine ⟨ha, ?_⟩
  rw [cyclicPairs_succ, if_pos hi]
  exact List.getElem?_eq_getElem hj

/-! ## inversion of `extractWith` -/

variable {R : Reader} {vn : Option (List (Nat × Nat))} {sc : Scene}

theorem extractWith_inv (h : extractWith R vn = some sc) :
    ∃ table verts edges fbs,
      mapO R.coords R.vs = some table ∧
      mapO (fun v => (rowOf R.vs v).map (fun r => (v, r))) R.vs = some verts ∧
      mapO (edgeBundle R) R.es = some edges ∧
      mapO (faceBundle R) R.fs = some fbs ∧
      sc.table = table ∧ sc.verts = verts ∧ sc.edges = edges ∧
      sc.faces = fbs.map (·.1) ∧ sc.darts = (fbs.map (·.2.2)).flatten ∧
      sc.fnKeys = (fbs.map (·.2.1)).flatten ∧ sc.vnKeys = vn := by
  unfold extractWith at h
  split at h
  · rename_i table verts edges fbs h1 h2 h3 h4
    simp only [Option.some.injEq] at h
    subst h
    exact ⟨table, verts, edges, fbs, h1, h2, h3, h4, rfl, rfl, rfl, rfl, rfl, rfl, rfl⟩
  · exact absurd h (by simp)

theorem dartBundles_inv {f : Nat} {w : List Nat} {ents : List DartEnt}
    (h : dartBundles R f w = some ents) :
    ∃ rows, mapO R.rowOfDart w = some rows ∧
      mapO (fun (p : (Nat × Nat) × (Nat × Nat)) =>
        match R.vid p.1.1, R.eid p.1.1, R.volid p.1.1 with
        | some v, some e, some c =>
            some ({ d := p.1.1, v := v, e := e, f := f, vol := c, s := p.1.2, t := p.2.2 } : DartEnt)
        | _, _, _ => none) (cyclicPairs (w.zip rows)) = some ents := by
  unfold dartBundles at h
  split at h
  · exact absurd h (by simp)
  · rename_i rows hr
    exact ⟨rows, hr, h⟩

theorem dartEnt_of_pair {f : Nat} {p : (Nat × Nat) × (Nat × Nat)} {e : DartEnt}
    (h : (match R.vid p.1.1, R.eid p.1.1, R.volid p.1.1 with
        | some v, some e, some c =>
            some ({ d := p.1.1, v := v, e := e, f := f, vol := c, s := p.1.2, t := p.2.2 } : DartEnt)
        | _, _, _ => none) = some e) :
    e.d = p.1.1 ∧ R.vid p.1.1 = some e.v ∧ R.eid p.1.1 = some e.e ∧ R.volid p.1.1 = some e.vol ∧
      e.f = f ∧ e.s = p.1.2 ∧ e.t = p.2.2 := by
  split at h
  · rename_i v e' c h1 h2 h3
    simp only [Option.some.injEq] at h
    subst h
    exact ⟨rfl, h1, h2, h3, rfl, rfl, rfl⟩
  · exact absurd h (by simp)

theorem dartBundles_get {f : Nat} {w : List Nat} {ents : List DartEnt}
    (h : dartBundles R f w = some ents) :
    ents.length = w.length ∧
    ∀ i d, w[i]? = some d → ∃ e d', ents[i]? = some e ∧ w[(i + 1) % w.length]? = some d' ∧
      e.d = d ∧ e.f = f ∧ R.vid d = some e.v ∧ R.eid d = some e.e ∧ R.volid d = some e.vol ∧
      R.rowOfDart d = some e.s ∧ R.rowOfDart d' = some e.t := by
  obtain ⟨rows, hr, he⟩ := dartBundles_inv h
  have hlen : rows.length = w.length := mapO_length hr
  have hz : (w.zip rows).length = w.length := by simp [hlen]
  refine ⟨by rw [mapO_length he, length_cyclicPairs, hz], ?_⟩
  intro i d hd
  obtain ⟨r, hri, hrd⟩ := mapO_get hr hd
  have hzi : (w.zip rows)[i]? = some (d, r) := List.getElem?_zip_eq_some.2 ⟨hd, hri⟩
  obtain ⟨b, hb, hp⟩ := cyclicPairs_get (w.zip rows) hzi
  rw [hz] at hb
  obtain ⟨hb1, hb2⟩ := List.getElem?_zip_eq_some.1 hb
  obtain ⟨a, ha, hra⟩ := mapO_get' hr hb2
  rw [hb1] at ha
  simp only [Option.some.injEq] at ha
  subst ha
  obtain ⟨e, hei, hfe⟩ := mapO_get he hp
  obtain ⟨h1, h2, h3, h4, h5, h6, h7⟩ := dartEnt_of_pair hfe
  simp only at h1 h2 h3 h4 h6 h7
  exact ⟨e, b.1, hei, hb1, h1, h5, h2, h3, h4, by rw [h6]; exact hrd, by rw [h7]; exact hra⟩

theorem dartBundles_map_fd {f : Nat} {w : List Nat} {ents : List DartEnt}
    (h : dartBundles R f w = some ents) :
    ents.map (fun e => (e.f, e.d)) = w.map (fun d => (f, d)) := by
  obtain ⟨hlen, hget⟩ := dartBundles_get h
  apply List.ext_getElem?
  intro i
  rw [List.getElem?_map, List.getElem?_map]
  by_cases hi : i < w.length
  · obtain ⟨e, d', he, _, hd, hf, _⟩ := hget i w[i] (List.getElem?_eq_getElem hi)
    rw [he, List.getElem?_eq_getElem hi]; simp [hd, hf]
  · have h1 : ents[i]? = none := by rw [List.getElem?_eq_none_iff]; omega
    have h2 : w[i]? = none := by rw [List.getElem?_eq_none_iff]; omega
    rw [h1, h2]; rfl

theorem dartBundles_map_d {f : Nat} {w : List Nat} {ents : List DartEnt}
    (h : dartBundles R f w = some ents) : ents.map (·.d) = w := by
  have := congrArg (List.map Prod.snd) (dartBundles_map_fd h)
  rw [List.map_map, List.map_map] at this
  simpa [Function.comp_def] using this

theorem faceBundle_inv {f : Nat} {fb : (Nat × List Nat) × List (Nat × Nat) × List DartEnt}
    (h : faceBundle R f = some fb) :
    ∃ w rows d1 w2 d2, R.walk f = some w ∧ mapO R.rowOfDart w = some rows ∧ 2 ≤ rows.length ∧
      dartBundles R f w = some d1 ∧ R.side2 f = some w2 ∧ dartBundles R f w2 = some d2 ∧
      fb = ((f, rows), rows.map (fun r => (f, r)), d1 ++ d2) := by
  unfold faceBundle at h
  split at h
  · exact absurd h (by simp)
  · rename_i w hw
    split at h
    · exact absurd h (by simp)
    · rename_i rows hrows
      split at h
      · exact absurd h (by simp)
      · rename_i hlen
        split at h
        · rename_i d1 d2 hd1 hd2
          simp only [Option.some.injEq] at h
          cases hs : R.side2 f with
          | none => rw [hs] at hd2; simp at hd2
          | some w2 =>
              rw [hs] at hd2
              simp only [Option.bind_some] at hd2
              exact ⟨w, rows, d1, w2, d2, hw, hrows, by omega, hd1, rfl, hd2, h.symm⟩
        · exact absurd h (by simp)

/-! ## the dimension-independent clauses -/

theorem table_row (h : extractWith R vn = some sc) {v r : Nat} (hr : rowOf R.vs v = some r) :
    ∃ x, sc.table[r]? = some x ∧ R.coords v = some x := by
  obtain ⟨table, verts, edges, fbs, h1, _, _, _, e1, _⟩ := extractWith_inv h
  obtain ⟨x, hx, hc⟩ := mapO_get h1 (rowOf_get hr)
  exact ⟨x, by rw [e1]; exact hx, hc⟩

theorem vertex_entities (h : extractWith R vn = some sc) :
    sc.verts.map Prod.fst = R.vs ∧ sc.table.length = R.vs.length ∧
    ∀ v r, (v, r) ∈ sc.verts → rowOf R.vs v = some r ∧
      ∃ x, sc.table[r]? = some x ∧ R.coords v = some x := by
  obtain ⟨table, verts, edges, fbs, h1, h2, _, _, e1, e2, _⟩ := extractWith_inv h
  refine ⟨?_, by rw [e1]; exact mapO_length h1, ?_⟩
  · rw [e2]
    refine mapO_map_eq h2 ?_
    intro a b hab
    simp only [Option.map_eq_some_iff] at hab
    obtain ⟨r, _, rfl⟩ := hab
    rfl
  · intro v r hvr
    rw [e2] at hvr
    obtain ⟨a, _, hf⟩ := mapO_mem' h2 hvr
    simp only [Option.map_eq_some_iff, Prod.mk.injEq] at hf
    obtain ⟨r', hr', rfl, rfl⟩ := hf
    exact ⟨hr', table_row h hr'⟩

theorem row_of_dart (h : extractWith R vn = some sc) {d r : Nat} (hr : R.rowOfDart d = some r) :
    ∃ v x, R.vid d = some v ∧ rowOf R.vs v = some r ∧ sc.table[r]? = some x ∧ R.coords v = some x := by
  unfold Reader.rowOfDart at hr
  cases hv : R.vid d with
  | none => rw [hv] at hr; simp at hr
  | some v =>
      rw [hv] at hr
      simp only [Option.bind_some] at hr
      obtain ⟨x, hx, hc⟩ := table_row h hr
      exact ⟨v, x, rfl, hr, hx, hc⟩

theorem edge_entities (h : extractWith R vn = some sc) :
    sc.edges.map (·.1) = R.es ∧
    ∀ id a b, (id, a, b) ∈ sc.edges →
      R.rowOfDart id = some a ∧ R.rowOfDart (R.edgeEnd id) = some b := by
  obtain ⟨table, verts, edges, fbs, _, _, h3, _, _, _, e3, _⟩ := extractWith_inv h
  have inv : ∀ a b, edgeBundle R a = some b →
      b.1 = a ∧ R.rowOfDart a = some b.2.1 ∧ R.rowOfDart (R.edgeEnd a) = some b.2.2 := by
    intro a b hab
    unfold edgeBundle at hab
    split at hab
    · rename_i r1 r2 h1 h2
      simp only [Option.some.injEq] at hab
      subst hab
      exact ⟨rfl, h1, h2⟩
    · exact absurd hab (by simp)
  refine ⟨?_, ?_⟩
  · rw [e3]; exact mapO_map_eq h3 fun a b hab => (inv a b hab).1
  · intro id a b hm
    rw [e3] at hm
    obtain ⟨x, _, hx⟩ := mapO_mem' h3 hm
    obtain ⟨e1, e2, e4⟩ := inv x _ hx
    simp only at e1 e2 e4
    subst e1
    exact ⟨e2, e4⟩

theorem face_entities (h : extractWith R vn = some sc) :
    sc.faces.map (·.1) = R.fs ∧
    ∀ f rows, (f, rows) ∈ sc.faces → f ∈ R.fs ∧ 2 ≤ rows.length ∧
      ∃ w, R.walk f = some w ∧ List.Forall₂ (fun d r => R.rowOfDart d = some r) w rows := by
  obtain ⟨table, verts, edges, fbs, _, _, _, h4, _, _, _, e4, _⟩ := extractWith_inv h
  refine ⟨?_, ?_⟩
  · rw [e4, List.map_map]
    refine mapO_map_eq h4 ?_
    intro a b hab
    obtain ⟨w, rows, d1, w2, d2, _, _, _, _, _, _, rfl⟩ := faceBundle_inv hab
    rfl
  · intro f rows hm
    rw [e4, List.mem_map] at hm
    obtain ⟨fb, hfb, efb⟩ := hm
    obtain ⟨a, ha, hf⟩ := mapO_mem' h4 hfb
    obtain ⟨w, rows', d1, w2, d2, hw, hrows, hlen, _, _, _, rfl⟩ := faceBundle_inv hf
    simp only [Prod.mk.injEq] at efb
    obtain ⟨rfl, rfl⟩ := efb
    exact ⟨ha, hlen, w, hw, mapO_iff.1 hrows⟩

theorem face_corners_of_cycle {s : Nat → Nat} (h : extractWith R vn = some sc)
    (hcyc : ∀ f, f ∈ R.fs → ∃ w, R.walk f = some w ∧ w = List.iterate s f w.length ∧ w.Nodup ∧
      s^[w.length] f = f) :
    sc.faces.map (·.1) = R.fs ∧
    ∀ f rows, (f, rows) ∈ sc.faces →
      2 ≤ rows.length ∧ s^[rows.length] f = f ∧ (List.iterate s f rows.length).Nodup ∧
      ∀ i r, rows[i]? = some r → R.rowOfDart (s^[i] f) = some r := by
  obtain ⟨h1, h2⟩ := face_entities h
  refine ⟨h1, ?_⟩
  intro f rows hm
  obtain ⟨hf, hlen, w, hw, hall⟩ := h2 f rows hm
  obtain ⟨w', hw', hit, hnd, hc⟩ := hcyc f hf
  obtain rfl : w = w' := Option.some.inj (hw.symm.trans hw')
  have hl : w.length = rows.length := hall.length_eq
  rw [hl] at hit hc
  refine ⟨hlen, hc, hit ▸ hnd, ?_⟩
  intro i r hr
  obtain ⟨hi, e1⟩ := List.getElem?_eq_some_iff.1 hr
  have hrel := (List.forall₂_iff_get.1 hall).2 i (hl ▸ hi) hi
  have e2 : w.get ⟨i, hl ▸ hi⟩ = s^[i] f := by
    show w[i] = _
    have : w[i]'(hl ▸ hi) = (List.iterate s f rows.length)[i]'(by simpa using hi) := by
      congr 1
    rw [this]
    exact List.getElem_iterate _ _ _ _ _
  rw [e2] at hrel
  exact hrel.trans (congrArg some e1)

theorem dart_entity (h : extractWith R vn = some sc) {e : DartEnt} (he : e ∈ sc.darts) :
    e.f ∈ R.fs ∧ R.vid e.d = some e.v ∧ R.eid e.d = some e.e ∧ R.volid e.d = some e.vol ∧
      R.rowOfDart e.d = some e.s ∧
      ∃ w w2, R.walk e.f = some w ∧ R.side2 e.f = some w2 ∧
        ((∃ i d', w[i]? = some e.d ∧ w[(i + 1) % w.length]? = some d' ∧ R.rowOfDart d' = some e.t) ∨
         (∃ i d', w2[i]? = some e.d ∧ w2[(i + 1) % w2.length]? = some d' ∧
            R.rowOfDart d' = some e.t)) := by
  obtain ⟨table, verts, edges, fbs, _, _, _, h4, _, _, _, _, e5, _⟩ := extractWith_inv h
  rw [e5, List.mem_flatten] at he
  obtain ⟨l, hl, hel⟩ := he
  rw [List.mem_map] at hl
  obtain ⟨fb, hfb, rfl⟩ := hl
  obtain ⟨f, hf, hfbf⟩ := mapO_mem' h4 hfb
  obtain ⟨w, rows, d1, w2, d2, hw, hrows, hlen, hd1, hs2, hd2, rfl⟩ := faceBundle_inv hfbf
  simp only [List.mem_append] at hel
  have key : ∀ (ww : List Nat) (dd : List DartEnt), dartBundles R f ww = some dd → e ∈ dd →
      e.f = f ∧ R.vid e.d = some e.v ∧ R.eid e.d = some e.e ∧ R.volid e.d = some e.vol ∧
      R.rowOfDart e.d = some e.s ∧
      ∃ i d', ww[i]? = some e.d ∧ ww[(i + 1) % ww.length]? = some d' ∧ R.rowOfDart d' = some e.t := by
    intro ww dd hdd hmem
    obtain ⟨hl2, hget⟩ := dartBundles_get hdd
    obtain ⟨i, hi⟩ := List.mem_iff_getElem?.1 hmem
    have hi' : i < ww.length := by
      have := (List.getElem?_eq_some_iff.1 hi).1
      omega
    obtain ⟨e', d', he', hd', h1, h2, h3, h4', h5, h6, h7⟩ :=
      hget i ww[i] (List.getElem?_eq_getElem hi')
    rw [hi] at he'
    simp only [Option.some.injEq] at he'
    subst he'
    refine ⟨h2, h1 ▸ h3, h1 ▸ h4', h1 ▸ h5, h1 ▸ h6, i, d', ?_, hd', h7⟩
    rw [h1]; exact List.getElem?_eq_getElem hi'
  rcases hel with hel | hel
  · obtain ⟨k1, k2, k3, k4, k5, i, d', k6, k7, k8⟩ := key w d1 hd1 hel
    rw [k1]
    exact ⟨hf, k2, k3, k4, k5, w, w2, hw, hs2, Or.inl ⟨i, d', k6, k7, k8⟩⟩
  · obtain ⟨k1, k2, k3, k4, k5, i, d', k6, k7, k8⟩ := key w2 d2 hd2 hel
    rw [k1]
    exact ⟨hf, k2, k3, k4, k5, w, w2, hw, hs2, Or.inr ⟨i, d', k6, k7, k8⟩⟩

theorem dart_start (h : extractWith R vn = some sc) {e : DartEnt} (he : e ∈ sc.darts) :
    e.f ∈ R.fs ∧ R.vid e.d = some e.v ∧ R.eid e.d = some e.e ∧ R.volid e.d = some e.vol ∧
      rowOf R.vs e.v = some e.s ∧ ∃ x, sc.table[e.s]? = some x ∧ R.coords e.v = some x := by
  obtain ⟨h1, h2, h3, h4, h5, _⟩ := dart_entity h he
  obtain ⟨v, x, k1, k2, k3, k4⟩ := row_of_dart h h5
  obtain rfl : e.v = v := Option.some.inj (h2.symm.trans k1)
  exact ⟨h1, h2, h3, h4, k2, x, k3, k4⟩

theorem forall₂_map_eq {α β γ : Type} {P : α → β → Prop} {F : α → γ} {G : β → γ} :
    ∀ {l : List α} {r : List β}, List.Forall₂ P l r → (∀ a b, a ∈ l → P a b → F a = G b) →
      l.map F = r.map G := by
  intro l r h
  induction h with
  | nil => intro _; rfl
  | cons hab _ ih =>
      intro hall
      simp only [List.map_cons, List.cons.injEq]
      exact ⟨hall _ _ List.mem_cons_self hab, ih fun a b ha => hall a b (List.mem_cons_of_mem _ ha)⟩

theorem dart_entities_of_walks {W1 W2 : Nat → List Nat} (h : extractWith R vn = some sc)
    (hW : ∀ f, f ∈ R.fs → R.walk f = some (W1 f) ∧ R.side2 f = some (W2 f)) :
    sc.darts.map (fun e => (e.f, e.d)) = R.fs.flatMap fun f => (W1 f ++ W2 f).map fun d => (f, d) := by
  obtain ⟨table, verts, edges, fbs, _, _, _, h4, _, _, _, _, e5, _⟩ := extractWith_inv h
  have hall := mapO_iff.1 h4
  rw [e5, List.map_flatten, List.map_map, List.flatMap_def]
  congr 1
  symm
  refine forall₂_map_eq hall ?_
  intro f fb hf hfb
  obtain ⟨w, rows, d1, w2, d2, hw, _, _, hd1, hs2, hd2, rfl⟩ := faceBundle_inv hfb
  obtain rfl : w = W1 f := Option.some.inj (hw.symm.trans (hW f hf).1)
  obtain rfl : w2 = W2 f := Option.some.inj (hs2.symm.trans (hW f hf).2)
  simp only [Function.comp, List.map_append]
  rw [dartBundles_map_fd hd1, dartBundles_map_fd hd2]

theorem dart_ids_of_walks {W1 W2 : Nat → List Nat} (h : extractWith R vn = some sc)
    (hW : ∀ f, f ∈ R.fs → R.walk f = some (W1 f) ∧ R.side2 f = some (W2 f)) :
    sc.darts.map (·.d) = R.fs.flatMap fun f => W1 f ++ W2 f := by
  have := congrArg (List.map Prod.snd) (dart_entities_of_walks h hW)
  simpa [List.map_flatMap, Function.comp_def] using this

/-- the faces partition the darts in use: `D f` lists the darts of the face with identifier `f` (the
    identifiers `fs` in increasing order), `cid d` is the identifier of the face of `d` -/
theorem darts_once {fs : List Nat} {D : Nat → List Nat} {cid : Nat → Nat} {U : Nat → Prop}
    (hsorted : fs.Pairwise (fun a b => a < b)) (hnd : ∀ f, f ∈ fs → (D f).Nodup)
    (hcid : ∀ f, f ∈ fs → ∀ d, d ∈ D f → cid d = f ∧ U d)
    (hcov : ∀ d, U d → cid d ∈ fs ∧ d ∈ D (cid d)) :
    (fs.flatMap D).Nodup ∧ ∀ d, d ∈ fs.flatMap D ↔ U d := by
  refine ⟨List.nodup_flatMap.2 ⟨hnd, hsorted.imp_of_mem fun {a b} ha hb hab d hda hdb => ?_⟩, fun d => ?_⟩
  · exact Nat.ne_of_lt hab ((hcid a ha d hda).1.symm.trans (hcid b hb d hdb).1)
  · rw [List.mem_flatMap]
    exact ⟨fun ⟨f, hf, hd⟩ => (hcid f hf d hd).2, fun hd => ⟨_, hcov d hd⟩⟩

theorem extractWith_isSome
    (hc : ∀ v, v ∈ R.vs → ∃ x, R.coords v = some x)
    (he : ∀ id, id ∈ R.es → ∃ b, edgeBundle R id = some b)
    (hf : ∀ f, f ∈ R.fs → ∃ fb, faceBundle R f = some fb) :
    ∃ sc, extractWith R vn = some sc := by
  obtain ⟨table, h1⟩ := mapO_isSome hc
  obtain ⟨verts, h2⟩ := mapO_isSome (f := fun v => (rowOf R.vs v).map (fun r => (v, r))) (l := R.vs)
    (fun v hv => by obtain ⟨r, hr⟩ := rowOf_of_mem hv; exact ⟨(v, r), by simp [hr]⟩)
  obtain ⟨edges, h3⟩ := mapO_isSome he
  obtain ⟨fbs, h4⟩ := mapO_isSome hf
  unfold extractWith
  rw [h1, h2, h3, h4]
  exact ⟨_, rfl⟩

theorem dartBundles_isSome {f : Nat} {w : List Nat}
    (hw : ∀ d, d ∈ w → (∃ r, R.rowOfDart d = some r) ∧ (∃ v, R.vid d = some v) ∧
      (∃ e, R.eid d = some e) ∧ ∃ c, R.volid d = some c) :
    ∃ ents, dartBundles R f w = some ents := by
  obtain ⟨rows, hr⟩ := mapO_isSome (f := R.rowOfDart) (l := w) fun d hd => (hw d hd).1
  unfold dartBundles
  rw [hr]
  apply mapO_isSome
  intro p hp
  have hp1 : p.1 ∈ w.zip rows := by
    have : p.1 ∈ (cyclicPairs (w.zip rows)).map Prod.fst := List.mem_map_of_mem hp
    rwa [map_fst_cyclicPairs] at this
  have hd : p.1.1 ∈ w := (List.of_mem_zip hp1).1
  obtain ⟨_, ⟨v, hv⟩, ⟨e, he⟩, ⟨c, hc⟩⟩ := hw _ hd
  rw [hv, he, hc]
  exact ⟨_, rfl⟩

theorem faceBundle_isSome {f : Nat} {w w2 : List Nat} (hwalk : R.walk f = some w)
    (hs2 : R.side2 f = some w2) (hlen : 2 ≤ w.length)
    (hw : ∀ d, d ∈ w ++ w2 → (∃ r, R.rowOfDart d = some r) ∧ (∃ v, R.vid d = some v) ∧
      (∃ e, R.eid d = some e) ∧ ∃ c, R.volid d = some c) :
    ∃ fb, faceBundle R f = some fb := by
  obtain ⟨rows, hr⟩ := mapO_isSome (f := R.rowOfDart) (l := w)
    fun d hd => (hw d (List.mem_append_left _ hd)).1
  obtain ⟨d1, hd1⟩ := dartBundles_isSome (R := R) (f := f) (w := w)
    fun d hd => hw d (List.mem_append_left _ hd)
  obtain ⟨d2, hd2⟩ := dartBundles_isSome (R := R) (f := f) (w := w2)
    fun d hd => hw d (List.mem_append_right _ hd)
  unfold faceBundle
  rw [hwalk]
  simp only [hr]
  have : ¬ rows.length < 2 := by rw [mapO_length hr]; omega
  rw [if_neg this, hd1, hs2]
  simp only [Option.bind_some, hd2]
  exact ⟨_, rfl⟩

/-! ## the `Custom(&[1])` walk on a closed face is the β1-cycle -/

/-- every in-use dart has a successor (the faces are closed) -/
def ClosedFaces {X : Type} (m : Map X) : Prop :=
  ∀ d, d < m.n → d ≠ 0 → m.unused d = false → m.β 1 d ≠ 0

instance {X : Type} (m : Map X) : Decidable (ClosedFaces m) := by
  unfold ClosedFaces; exact inferInstance

/-- in-use darts, as the property means it -/
def InUse {X : Type} (m : Map X) (d : Nat) : Prop := d ≠ 0 ∧ d < m.n ∧ m.unused d = false

instance {X : Type} (m : Map X) (d : Nat) : Decidable (InUse m d) := by
  unfold InUse; exact inferInstance

/-- the darts yielded by `orbit(Custom(&[1]), d)`, as a pure function (C03's `orb`) -/
def walk1 {X : Type} (m : Map X) (d : Nat) : List Nat := C03.orb m (.custom [1]) d

theorem polOK1 : C03.PolOK (.custom [1]) := by
  intro b hb
  simp only [List.mem_singleton] at hb
  omega

theorem reach1_inUse {X : Type} {nb : Nat} {m : Map X} (hwf : WF nb m) (h2 : 2 ≤ nb) {d : Nat}
    (hd : InUse m d) {x : Nat} (hr : Reach (fun x => [m.β 1 x]) d x) (hx0 : x ≠ 0) : InUse m x := by
  refine reach_closed (S := InUse m) (step1_null hwf h2) (fun x y hx hy hy0 => ?_) hd hr hx0
  rw [List.mem_singleton.1 hy] at hy0 ⊢
  exact C01.inUse_image hwf h2 (by omega) hx.2.1 hy0

theorem iterate_of_walk {f : Nat → Nat} : ∀ (w : List Nat) (d : Nat), Walk f w → w.head? = some d →
    w = List.iterate f d w.length
  | [], _, _, h => by simp at h
  | [a], d, _, h => by
      simp only [List.head?_cons, Option.some.injEq] at h
      rw [h]
      rfl
  | a :: b :: r, d, hw, h => by
      simp only [List.head?_cons, Option.some.injEq] at h
      subst h
      have := iterate_of_walk (b :: r) (f a) hw.2 (by rw [hw.1]; rfl)
      rw [List.length_cons, List.iterate, ← this]

/-- **walk lemma** (any number of β rows), on the BFS over the single image `β1`: on a well-formed map
    with closed faces, the walk from an in-use dart `d` is `d, β1 d, …, β1^(k-1) d` with `k ≥ 1` darts,
    all distinct and in use, and `β1^k d = d` -/
theorem bfs1_cycle {X : Type} {nb : Nat} {m : Map X} (hwf : WF nb m) (h2 : 2 ≤ nb)
    (hcl : ClosedFaces m) {d : Nat} (hd : InUse m d) {w : List Nat}
    (hw : w = bfsPure (fun x => [m.β 1 x]) (m.n + 1) [d] [0, d] []) :
    w = List.iterate (m.β 1) d w.length ∧ 0 < w.length ∧
    w.Nodup ∧ (m.β 1)^[w.length] d = d ∧ ∀ x, x ∈ w → InUse m x := by
  obtain ⟨hhead, hnd, hwalk, hmem, _, hclose⟩ := b1walk_spec hwf h2 hd.1 hd.2.1 hw
  have hin : ∀ x, x ∈ w → InUse m x := fun x hx =>
    reach1_inUse hwf h2 hd ((hmem x).1 hx).2 ((hmem x).1 hx).1
  have hit := iterate_of_walk w d hwalk hhead
  obtain ⟨hne, hlast⟩ := hclose fun x hx => hcl x (hin x hx).2.1 (hin x hx).1 (hin x hx).2.2
  have hpos : 0 < w.length := List.length_pos_iff.mpr hne
  refine ⟨hit, hpos, hnd, ?_, hin⟩
  have hl : w.getLast hne = (m.β 1)^[w.length - 1] d := by
    rw [List.getLast_eq_getElem]
    conv_lhs => arg 1; rw [hit]
    exact List.getElem_iterate _ _ _ _ _
  rw [show w.length = (w.length - 1).succ by omega, Function.iterate_succ_apply', ← hl]
  exact hlast

theorem iterate_cycle_succ {s : Nat → Nat} {d : Nat} {w : List Nat} (hit : w = List.iterate s d w.length)
    (hcyc : s^[w.length] d = d) {i x y : Nat} (hx : w[i]? = some x)
    (hy : w[(i + 1) % w.length]? = some y) : y = s x := by
  generalize hk : w.length = k at *
  have hi : i < k := by
    have := (List.getElem?_eq_some_iff.1 hx).1; omega
  have gx : x = s^[i] d := by
    rw [hit] at hx
    obtain ⟨h1, h2⟩ := List.getElem?_eq_some_iff.1 hx
    rw [← h2]; exact List.getElem_iterate _ _ _ _ _
  by_cases h1 : i + 1 < k
  · rw [Nat.mod_eq_of_lt h1, hit] at hy
    obtain ⟨h2, h3⟩ := List.getElem?_eq_some_iff.1 hy
    rw [← h3, List.getElem_iterate, gx]
    exact Function.iterate_succ_apply' _ _ _
  · have h2 : i + 1 = k := by omega
    rw [h2, Nat.mod_self, hit] at hy
    obtain ⟨h3, h4⟩ := List.getElem?_eq_some_iff.1 hy
    rw [← h4, List.getElem_iterate, gx, ← Function.iterate_succ_apply' s i d,
      show i.succ = k by omega, hcyc]
    rfl

theorem walk1_cycle {X : Type} {m : Map X} (hwf : WF 3 m) (hcl : ClosedFaces m) {d : Nat}
    (hd : InUse m d) :
    walk1 m d = List.iterate (m.β 1) d (walk1 m d).length ∧ 0 < (walk1 m d).length ∧
    (walk1 m d).Nodup ∧ (m.β 1)^[(walk1 m d).length] d = d ∧ ∀ x, x ∈ walk1 m d → InUse m x :=
  bfs1_cycle hwf (by omega) hcl hd (congrArg (bfsPure · (m.n + 1) [d] [0, d] []) (C03.g2_custom1 m))

/-! ## 2-D: what the reader computes on a well-formed map -/

section TwoD
variable {m : Map Val} {sc : Scene}

theorem evalP_of_run {α : Type} {p : P Val α} {m : Map Val} {a : α} {m' : Map Val}
    (h : run p m = (.ok a, m')) : evalP p m = some a := by
  unfold evalP; rw [h]

theorem walk_eq (hwf : WF 3 m) {d : Nat} (hd0 : d ≠ 0) (hdn : d < m.n) :
    (reader2 m).walk d = some (walk1 m d) :=
  evalP_of_run (C03.C03_orbit2_spec hwf polOK1 hd0 hdn).1

theorem vid_eq (hwf : WF 3 m) {d : Nat} (hd0 : d ≠ 0) (hdn : d < m.n) :
    (reader2 m).vid d = some (C03.cellId m .vertex d) :=
  evalP_of_run (C03.C03_vertexId2_min hwf hd0 hdn).1

theorem row_of_dart2 {vn : Option (List (Nat × Nat))} (h : extractWith (reader2 m) vn = some sc) {d r : Nat}
    (hr : (reader2 m).rowOfDart d = some r) :
    ∃ v x, evalP (vertexId2 m.n d) m = some v ∧ rowOf (iterVertices2 m) v = some r ∧
      sc.table[r]? = some x ∧ m.att 0 v = some x :=
  row_of_dart h hr

theorem reader2_edgeEnd (m : Map Val) (id : Nat) :
    (reader2 m).edgeEnd id = if m.β 2 id = 0 then m.β 1 id else m.β 2 id := by
  simp only [reader2]

/-! ## C20, 2-D -/

/-- **C20, vertex entities**: the vertex entities are, in order, the ids of `iter_vertices`, the
    table has one row per vertex, and the row stored in the entity of vertex `v` holds the
    coordinates of `v` -/
theorem C20_vertex_entities (h : extract2 m = some sc) :
    sc.verts.map Prod.fst = iterVertices2 m ∧ sc.table.length = (iterVertices2 m).length ∧
    ∀ v r, (v, r) ∈ sc.verts → rowOf (iterVertices2 m) v = some r ∧
      ∃ x, sc.table[r]? = some x ∧ m.att 0 v = some x :=
  vertex_entities (R := reader2 m) h

/-- **C20, `index_map` is injective** (two vertex ids never share a table row) -/
theorem C20_index_map_injective (m : Map Val) {v w r : Nat}
    (hv : rowOf (iterVertices2 m) v = some r) (hw : rowOf (iterVertices2 m) w = some r) : v = w := by
  have h1 := rowOf_get hv
  have h2 := rowOf_get hw
  rw [h1] at h2
  exact Option.some.inj h2

/-- **C20, `index_map` is onto the table rows** and defined exactly on the vertex ids -/
theorem C20_index_map_onto (m : Map Val) :
    (∀ r, r < (iterVertices2 m).length → ∃ v, v ∈ iterVertices2 m ∧ rowOf (iterVertices2 m) v = some r) ∧
    (∀ v r, rowOf (iterVertices2 m) v = some r → v ∈ iterVertices2 m ∧ r < (iterVertices2 m).length) ∧
    (∀ v, v ∈ iterVertices2 m → ∃ r, rowOf (iterVertices2 m) v = some r) := by
  have hnd : (iterVertices2 m).Nodup :=
    (C03.iterCells_sorted m _).imp (fun h => Nat.ne_of_lt h)
  refine ⟨?_, ?_, fun v hv => rowOf_of_mem hv⟩
  · intro r hr
    exact ⟨_, List.getElem_mem hr, rowOf_of_get_nodup hnd (List.getElem?_eq_getElem hr)⟩
  · intro v r h
    have := rowOf_get h
    exact ⟨List.mem_iff_getElem?.2 ⟨r, this⟩, (List.getElem?_eq_some_iff.1 this).1⟩

/-- **C20, table = coordinates**: the row `index_map v` of the table holds the value of vertex `v` -/
theorem C20_table_row (h : extract2 m = some sc) {v r : Nat}
    (hr : rowOf (iterVertices2 m) v = some r) :
    ∃ x, sc.table[r]? = some x ∧ m.att 0 v = some x :=
  table_row (R := reader2 m) h hr

/-- **C20, dart entity: ids and start**: a dart entity of dart `d` carries `vertex_id(d)`,
    `edge_id(d)`, the id of a face of `iter_faces`, volume 1, and `start` is `index_map` of its
    vertex id — the table row holding the coordinates of that vertex -/
theorem C20_dart_start (h : extract2 m = some sc) {e : DartEnt} (he : e ∈ sc.darts) :
    e.f ∈ iterFaces2 m ∧ evalP (vertexId2 m.n e.d) m = some e.v ∧ evalP (edgeId2 e.d) m = some e.e ∧
    e.vol = 1 ∧ rowOf (iterVertices2 m) e.v = some e.s ∧
    ∃ x, sc.table[e.s]? = some x ∧ m.att 0 e.v = some x := by
  obtain ⟨h1, h2, h3, h4, h5, h6⟩ := dart_start (R := reader2 m) h he
  exact ⟨h1, h2, h3, (Option.some.inj h4).symm, h5, h6⟩

/-- **C20, dart entity: end** (closed faces): `end` is `index_map` of the vertex id of the
    successor `β1 d` — the table row holding the coordinates of that vertex -/
theorem C20_dart_end (hwf : WF 3 m) (hcl : ClosedFaces m) (h : extract2 m = some sc) {e : DartEnt}
    (he : e ∈ sc.darts) :
    ∃ v' x, evalP (vertexId2 m.n (m.β 1 e.d)) m = some v' ∧
      rowOf (iterVertices2 m) v' = some e.t ∧ sc.table[e.t]? = some x ∧ m.att 0 v' = some x := by
  obtain ⟨h1, _, _, _, _, w, w2, hw, hw2, hcase⟩ := dart_entity (R := reader2 m) h he
  have hf := C03.mem_iterCells_inUse h1
  have hw' : w = walk1 m e.f := Option.some.inj (hw.symm.trans (walk_eq hwf hf.1 hf.2.1))
  have hw2' : w2 = [] := (Option.some.inj hw2).symm
  rcases hcase with ⟨i, d', k1, k2, k3⟩ | ⟨i, d', k1, _, _⟩
  · subst hw'
    have hc := walk1_cycle hwf hcl hf
    have hd' : d' = m.β 1 e.d := iterate_cycle_succ hc.1 hc.2.2.2.1 k1 k2
    subst hd'
    exact row_of_dart2 h k3
  · subst hw2'; simp at k1

/-- **C20, edge entities**: one per id of `iter_edges`, in that order; the two ends are
    `index_map` of the vertex of the edge's dart and of the vertex of `β2 id` (of `β1 id` when the
    dart is 2-free), and the table holds the coordinates of these vertices at those rows -/
theorem C20_edge_entity (h : extract2 m = some sc) :
    sc.edges.map (·.1) = iterEdges2 m ∧
    ∀ id a b, (id, a, b) ∈ sc.edges →
      ∃ v1 v2 x1 x2, evalP (vertexId2 m.n id) m = some v1 ∧
        evalP (vertexId2 m.n (if m.β 2 id = 0 then m.β 1 id else m.β 2 id)) m = some v2 ∧
        rowOf (iterVertices2 m) v1 = some a ∧ rowOf (iterVertices2 m) v2 = some b ∧
        sc.table[a]? = some x1 ∧ m.att 0 v1 = some x1 ∧
        sc.table[b]? = some x2 ∧ m.att 0 v2 = some x2 := by
  obtain ⟨h1, h2⟩ := edge_entities (R := reader2 m) h
  refine ⟨h1, ?_⟩
  intro id a b hm
  obtain ⟨k1, k2⟩ := h2 id a b hm
  rw [reader2_edgeEnd] at k2
  obtain ⟨v1, x1, a1, a2, a3, a4⟩ := row_of_dart2 h k1
  obtain ⟨v2, x2, b1, b2, b3, b4⟩ := row_of_dart2 h k2
  exact ⟨v1, v2, x1, x2, a1, b1, a2, b2, a3, a4, b3, b4⟩

/-- **C20, face entities** (closed faces): one per id of `iter_faces`, in that order; the corner
    list of face `f` has as many entries as the β1-cycle of `f` has darts (`β1^k f = f`, the `k`
    darts `f, β1 f, …` distinct, `k ≥ 2`), and its `i`-th entry is `index_map` of the vertex id of
    `β1^i f` — the table row holding the coordinates of that corner -/
theorem C20_face_corners (hwf : WF 3 m) (hcl : ClosedFaces m) (h : extract2 m = some sc) :
    sc.faces.map (·.1) = iterFaces2 m ∧
    ∀ f rows, (f, rows) ∈ sc.faces →
      2 ≤ rows.length ∧ (m.β 1)^[rows.length] f = f ∧ (List.iterate (m.β 1) f rows.length).Nodup ∧
      ∀ i r, rows[i]? = some r →
        ∃ v x, evalP (vertexId2 m.n ((m.β 1)^[i] f)) m = some v ∧
          rowOf (iterVertices2 m) v = some r ∧ sc.table[r]? = some x ∧ m.att 0 v = some x := by
  obtain ⟨h1, h2⟩ := face_corners_of_cycle (s := m.β 1) h fun f hf =>
    have hfu := C03.mem_iterCells_inUse hf
    have hc := walk1_cycle hwf hcl hfu
    ⟨_, walk_eq hwf hfu.1 hfu.2.1, hc.1, hc.2.2.1, hc.2.2.2.1⟩
  refine ⟨h1, fun f rows hm => ?_⟩
  obtain ⟨hlen, hc, hnd, hrow⟩ := h2 f rows hm
  exact ⟨hlen, hc, hnd, fun i r hr => row_of_dart2 h (hrow i r hr)⟩

/-- the number of darts of the β1-cycle of `f` -/
def period (m : Map Val) (f : Nat) : Nat := (walk1 m f).length

/-- `period m f` is the least positive period of `β1` at `f` (closed faces): the cycle closes after
    `period` steps and its darts are pairwise distinct, all in use -/
theorem period_spec (hwf : WF 3 m) (hcl : ClosedFaces m) {f : Nat} (hf : InUse m f) :
    0 < period m f ∧ (m.β 1)^[period m f] f = f ∧ (List.iterate (m.β 1) f (period m f)).Nodup ∧
    ∀ x, x ∈ List.iterate (m.β 1) f (period m f) → InUse m x := by
  obtain ⟨hit, hpos, hnd, hcyc, hin⟩ := walk1_cycle hwf hcl hf
  unfold period
  exact ⟨hpos, hcyc, by rw [← hit]; exact hnd, by rw [← hit]; exact hin⟩

/-- **C20, dart entities, face by face** (closed faces): the dart entities are, in spawn order and
    face after face in `iter_faces` order, exactly the darts `f, β1 f, …, β1^(period-1) f` of the
    β1-cycle of the face id `f`, each once, tagged with that face id -/
theorem C20_dart_entities_of_face (hwf : WF 3 m) (hcl : ClosedFaces m) (h : extract2 m = some sc) :
    sc.darts.map (fun e => (e.f, e.d)) =
      (iterFaces2 m).flatMap (fun f => (List.iterate (m.β 1) f (period m f)).map (fun d => (f, d))) := by
  rw [dart_entities_of_walks (W1 := walk1 m) (W2 := fun _ => []) h fun f hf =>
    ⟨walk_eq hwf (C03.mem_iterCells_inUse hf).1 (C03.mem_iterCells_inUse hf).2.1, rfl⟩]
  refine List.flatMap_congr fun f hf => ?_
  rw [List.append_nil, (walk1_cycle hwf hcl (C03.mem_iterCells_inUse hf)).1]
  rfl

theorem orb_faceLinear_eq (m : Map Val) (f : Nat) : C03.orb m .faceLinear f = walk1 m f := by
  unfold walk1 C03.orb
  have : C03.g2 m .faceLinear = C03.g2 m (.custom [1]) := by funext x; rfl
  rw [this]

theorem mem_walk1_iff (hwf : WF 3 m) (hcl : ClosedFaces m) {f : Nat} (hf : InUse m f) (x : Nat) :
    x ∈ walk1 m f ↔ x ∈ C03.orb m .face f := by
  rw [← orb_faceLinear_eq]
  refine C03.C03_faceLinear_closed hwf hf.1 hf.2.1 ?_ x
  intro y hy
  have hyu := C03.C03_orbit_of_in_use_is_in_use hwf (pol := .face) trivial hf.1 hf.2.1 hf.2.2 y hy
  obtain ⟨_, _, _, hno0, _, hlt⟩ := C03.C03_orbit2_spec hwf (pol := .face) trivial hf.1 hf.2.1
  exact hcl y (hlt y hy) (fun e => hno0 (e ▸ hy)) hyu

theorem faceId_of_mem_walk1 (hwf : WF 3 m) (hcl : ClosedFaces m) {f d : Nat} (hf : f ∈ iterFaces2 m)
    (hd : d ∈ walk1 m f) : C03.cellId m .face d = f := by
  have hfu := C03.mem_iterCells_inUse hf
  have hdu := (walk1_cycle hwf hcl hfu).2.2.2.2 d hd
  have h1 := (mem_walk1_iff hwf hcl hfu d).1 hd
  have h2 := ((C03.mem_orb hwf (pol := .face) trivial hfu.1 hfu.2.1 d).1 h1).2
  have := ((C03.C03_same_id_iff_same_cell hwf (pol := .face) trivial hfu.1 hfu.2.1 hdu.1 hdu.2.1).1).2 h2
  rw [← this]; exact C03.faceId_of_mem_iterFaces hwf hf

/-- **C20, one dart entity per in-use dart** (closed faces): no dart has two dart entities, and the
    darts that have one are exactly the in-use darts (non-null, existing, not removed) -/
theorem C20_each_dart_once (hwf : WF 3 m) (hcl : ClosedFaces m) (h : extract2 m = some sc) :
    (sc.darts.map (·.d)).Nodup ∧ ∀ d, d ∈ sc.darts.map (·.d) ↔ InUse m d := by
  rw [dart_ids_of_walks (W1 := walk1 m) (W2 := fun _ => []) h fun f hf =>
    ⟨walk_eq hwf (C03.mem_iterCells_inUse hf).1 (C03.mem_iterCells_inUse hf).2.1, rfl⟩]
  simp only [List.append_nil]
  refine darts_once (cid := C03.cellId m .face) (C03.iterCells_sorted m (faceId2 m.n))
    (fun f hf => (walk1_cycle hwf hcl (C03.mem_iterCells_inUse hf)).2.2.1)
    (fun f hf d hd => ⟨faceId_of_mem_walk1 hwf hcl hf hd,
      (walk1_cycle hwf hcl (C03.mem_iterCells_inUse hf)).2.2.2.2 d hd⟩) ?_
  rintro d ⟨hd0, hdn, hdu⟩
  have hf : C03.cellId m .face d ∈ iterFaces2 m :=
    (C03.C03_iterFaces2_mem hwf _).2 ⟨d, hd0, hdn, hdu, rfl⟩
  have hfu := C03.mem_iterCells_inUse hf
  refine ⟨hf, ?_⟩
  rw [mem_walk1_iff hwf hcl hfu, C03.mem_orb hwf (pol := .face) trivial hfu.1 hfu.2.1]
  have h1 := (C03.cellId_spec hwf (pol := .face) trivial hd0 hdn).1
  have h2 := ((C03.mem_orb hwf (pol := .face) trivial hd0 hdn _).1 h1).2
  exact ⟨hd0, C03.reach_symm hwf (pol := .face) trivial hdn hfu.1 h2⟩

/-! ## the extraction does not panic on embedded maps with closed faces -/

/-- every vertex id has coordinates -/
def Embedded (m : Map Val) : Prop := ∀ v, v ∈ iterVertices2 m → (m.att 0 v).isSome = true

/-- no face is a β1-loop on a single dart -/
def NoLoops {X : Type} (m : Map X) : Prop :=
  ∀ d, d < m.n → d ≠ 0 → m.unused d = false → m.β 1 d ≠ d

instance (m : Map Val) : Decidable (Embedded m) := by unfold Embedded; exact inferInstance
instance {X : Type} (m : Map X) : Decidable (NoLoops m) := by unfold NoLoops; exact inferInstance

theorem lookups_inUse (hwf : WF 3 m) {d : Nat} (hd : InUse m d) :
    (∃ r, (reader2 m).rowOfDart d = some r) ∧ (∃ v, (reader2 m).vid d = some v) ∧
      (∃ e, (reader2 m).eid d = some e) ∧ ∃ c, (reader2 m).volid d = some c := by
  have hv := vid_eq hwf hd.1 hd.2.1
  have hmem : C03.cellId m .vertex d ∈ iterVertices2 m :=
    (C03.C03_iterVertices2_mem hwf _).2 ⟨d, hd.1, hd.2.1, hd.2.2, rfl⟩
  obtain ⟨r, hr⟩ := rowOf_of_mem hmem
  refine ⟨⟨r, ?_⟩, ⟨_, hv⟩, ⟨_, evalP_of_run (C03.C03_edgeId2_min hwf hd.1 hd.2.1).1⟩, ⟨1, rfl⟩⟩
  unfold Reader.rowOfDart
  rw [hv]; exact hr

/-- **C20, the extraction succeeds**: on a well-formed 2-map whose in-use darts all lie on closed
    faces of at least two sides and whose vertex ids all have coordinates, the start-up system does
    not panic (so the other theorems apply to the scene it builds) -/
theorem C20_no_panic (hwf : WF 3 m) (hcl : ClosedFaces m) (hnl : NoLoops m) (hemb : Embedded m) :
    ∃ sc, extract2 m = some sc := by
  unfold extract2
  apply extractWith_isSome
  · intro v hv
    exact Option.isSome_iff_exists.1 (hemb v hv)
  · intro id hid
    have hu : InUse m id := C03.mem_iterCells_inUse hid
    obtain ⟨⟨r1, hr1⟩, _⟩ := lookups_inUse hwf hu
    have hend : InUse m ((reader2 m).edgeEnd id) := by
      show InUse m (if m.β 2 id = 0 then m.β 1 id else m.β 2 id)
      by_cases h2 : m.β 2 id = 0
      · rw [if_pos h2]; exact C01.inUse_image hwf (by omega) (by omega) hu.2.1 (hcl id hu.2.1 hu.1 hu.2.2)
      · rw [if_neg h2]; exact C01.inUse_image hwf (by omega) (by omega) hu.2.1 h2
    obtain ⟨⟨r2, hr2⟩, _⟩ := lookups_inUse hwf hend
    unfold edgeBundle
    rw [hr1, hr2]
    exact ⟨_, rfl⟩
  · intro f hf
    have hfu := C03.mem_iterCells_inUse hf
    obtain ⟨hit, hpos, _, hcyc, hin⟩ := walk1_cycle hwf hcl hfu
    refine faceBundle_isSome (w2 := []) (walk_eq hwf hfu.1 hfu.2.1) rfl ?_ ?_
    · -- a cycle of length 1 would be a β1-loop
      by_contra hlt
      have h1 : (walk1 m f).length = 1 := by omega
      rw [h1] at hcyc
      exact hnl f hfu.2.1 hfu.1 hfu.2.2 hcyc
    · intro d hd
      rw [List.append_nil] at hd
      exact lookups_inUse hwf (hin d hd)

end TwoD

/-! ## 3-D: the dimension-independent clauses for `extract3` -/

section ThreeD
variable {m : Map Val} {sc : Scene}

theorem extract3_inv' (h : extract3 m = some sc) :
    ∃ sc0 k, extractWith (reader3 m) (some []) = some sc0 ∧ volKeys3 m (reader3 m) = some k ∧
      sc = { sc0 with vnKeys := some k } := by
  unfold extract3 at h
  simp only at h
  split at h
  · exact absurd h (by simp)
  · rename_i sc0 h0
    split at h
    · exact absurd h (by simp)
    · rename_i k hk
      simp only [Option.some.injEq] at h
      exact ⟨sc0, k, h0, hk, h.symm⟩

theorem extract3_inv (h : extract3 m = some sc) :
    ∃ sc0 k, extractWith (reader3 m) (some []) = some sc0 ∧ volKeys3 m (reader3 m) = some k ∧
      sc.table = sc0.table ∧ sc.verts = sc0.verts ∧ sc.edges = sc0.edges ∧ sc.faces = sc0.faces ∧
      sc.darts = sc0.darts ∧ sc.vnKeys = some k := by
  obtain ⟨sc0, k, h0, hk, rfl⟩ := extract3_inv' h
  exact ⟨sc0, k, h0, hk, rfl, rfl, rfl, rfl, rfl, rfl⟩

theorem row_of_dart3 {vn : Option (List (Nat × Nat))} (h : extractWith (reader3 m) vn = some sc) {d r : Nat}
    (hr : (reader3 m).rowOfDart d = some r) :
    ∃ v x, evalP (vertexId3 m.n d) m = some v ∧ rowOf (iterVertices3 m) v = some r ∧
      sc.table[r]? = some x ∧ m.att 0 v = some x :=
  row_of_dart h hr

theorem reader3_edgeEnd (m : Map Val) (id : Nat) :
    (reader3 m).edgeEnd id
      = if m.β 3 id = 0 then (if m.β 2 id = 0 then m.β 1 id else m.β 2 id) else m.β 3 id := by
  simp only [reader3]

/-- **C20 (3-D), vertex entities and table**: as in 2-D, with `iter_vertices` of the 3-map -/
theorem C20_3d_vertex_entities (h : extract3 m = some sc) :
    sc.verts.map Prod.fst = iterVertices3 m ∧ sc.table.length = (iterVertices3 m).length ∧
    ∀ v r, (v, r) ∈ sc.verts → rowOf (iterVertices3 m) v = some r ∧
      ∃ x, sc.table[r]? = some x ∧ m.att 0 v = some x := by
  obtain ⟨sc0, k, h0, _, e1, e2, _⟩ := extract3_inv h
  rw [e1, e2]
  exact vertex_entities (R := reader3 m) h0

/-- **C20 (3-D), dart entity: ids and start**: a dart entity of dart `d` carries `vertex_id(d)`,
    `edge_id(d)`, `volume_id(d)`, the id of a face of `iter_faces`, and `start` is `index_map` of
    its vertex id — the table row holding the coordinates of that vertex -/
theorem C20_3d_dart_start (h : extract3 m = some sc) {e : DartEnt} (he : e ∈ sc.darts) :
    e.f ∈ iterFaces3 m ∧ evalP (vertexId3 m.n e.d) m = some e.v ∧
    evalP (edgeId3 m.n e.d) m = some e.e ∧ evalP (volumeId3 m.n e.d) m = some e.vol ∧
    rowOf (iterVertices3 m) e.v = some e.s ∧
    ∃ x, sc.table[e.s]? = some x ∧ m.att 0 e.v = some x := by
  obtain ⟨sc0, k, h0, _, e1, _, _, _, e5, _⟩ := extract3_inv h
  rw [e5] at he
  rw [e1]
  exact dart_start (R := reader3 m) h0 he

/-- **C20 (3-D), edge entities**: one per id of `iter_edges`; the ends are `index_map` of the vertex
    of the edge's dart and of the vertex of `β3 id`, else `β2 id`, else `β1 id` (first non-free), and
    the table holds the coordinates of these vertices at those rows -/
theorem C20_3d_edge_entity (h : extract3 m = some sc) :
    sc.edges.map (·.1) = iterEdges3 m ∧
    ∀ id a b, (id, a, b) ∈ sc.edges →
      ∃ v1 v2 x1 x2, evalP (vertexId3 m.n id) m = some v1 ∧
        evalP (vertexId3 m.n
          (if m.β 3 id = 0 then (if m.β 2 id = 0 then m.β 1 id else m.β 2 id) else m.β 3 id)) m = some v2 ∧
        rowOf (iterVertices3 m) v1 = some a ∧ rowOf (iterVertices3 m) v2 = some b ∧
        sc.table[a]? = some x1 ∧ m.att 0 v1 = some x1 ∧
        sc.table[b]? = some x2 ∧ m.att 0 v2 = some x2 := by
  obtain ⟨sc0, k, h0, _, e1, _, e3, _⟩ := extract3_inv h
  obtain ⟨h1, h2⟩ := edge_entities (R := reader3 m) h0
  rw [e3, e1]
  refine ⟨h1, ?_⟩
  intro id a b hm
  obtain ⟨k1, k2⟩ := h2 id a b hm
  rw [reader3_edgeEnd] at k2
  obtain ⟨v1, x1, a1, a2, a3, a4⟩ := row_of_dart3 h0 k1
  obtain ⟨v2, x2, b1, b2, b3, b4⟩ := row_of_dart3 h0 k2
  exact ⟨v1, v2, x1, x2, a1, b1, a2, b2, a3, a4, b3, b4⟩

/-- **C20 (3-D), face entities carry the ids of `iter_faces`** and list, in walk order, the rows of
    the vertices of the darts of `orbit(Custom(&[1]), id)` (that this walk is the β1-cycle of `id` on
    closed faces is `C20_3d_face_corners` of Props/C20b.lean) -/
theorem C20_3d_face_entity (h : extract3 m = some sc) :
    sc.faces.map (·.1) = iterFaces3 m ∧
    ∀ f rows, (f, rows) ∈ sc.faces → 2 ≤ rows.length ∧
      ∃ w, evalP (orbit3 m.n (.custom [1]) f) m = some w ∧
        List.Forall₂ (fun d r => ∃ v x, evalP (vertexId3 m.n d) m = some v ∧
          rowOf (iterVertices3 m) v = some r ∧ sc.table[r]? = some x ∧ m.att 0 v = some x) w rows := by
  obtain ⟨sc0, k, h0, _, e1, _, _, e4, _⟩ := extract3_inv h
  obtain ⟨h1, h2⟩ := face_entities (R := reader3 m) h0
  rw [e4, e1]
  refine ⟨h1, ?_⟩
  intro f rows hm
  obtain ⟨_, hlen, w, hw, hall⟩ := h2 f rows hm
  refine ⟨hlen, w, hw, hall.imp ?_⟩
  intro d r hdr
  exact row_of_dart3 h0 hdr

end ThreeD

/-! ## non-vacuity: the hypotheses are satisfiable and the conclusions say something -/

/-- two triangles `1-2-3` (A B C) and `4-5-6` (C B D) glued along `2|4`; dart 7 is removed.
    Vertex ids 1, 2, 3, 6 — the id 6 sits in table row 3 (id ≠ row). -/
def exT : Map Val :=
  { n := 8
    b := #[#[0, 3, 1, 2, 6, 4, 5, 0], #[0, 2, 3, 1, 5, 6, 4, 0], #[0, 0, 4, 0, 2, 0, 0, 0]]
    u := #[false, false, false, false, false, false, false, true]
    a := #[#[none, some (.pt 0 0 0), some (.pt 1 0 0), some (.pt 0 1 0), none, none,
             some (.pt 1 1 0), none]] }

def exTScene : Scene :=
  { table := [.pt 0 0 0, .pt 1 0 0, .pt 0 1 0, .pt 1 1 0]
    verts := [(1, 0), (2, 1), (3, 2), (6, 3)]
    edges := [(1, 0, 1), (2, 1, 2), (3, 2, 0), (5, 1, 3), (6, 3, 2)]
    faces := [(1, [0, 1, 2]), (4, [2, 1, 3])]
    darts := [⟨1, 1, 1, 1, 1, 0, 1⟩, ⟨2, 2, 2, 1, 1, 1, 2⟩, ⟨3, 3, 3, 1, 1, 2, 0⟩,
              ⟨4, 3, 2, 4, 1, 2, 1⟩, ⟨5, 2, 5, 4, 1, 1, 3⟩, ⟨6, 6, 6, 4, 1, 3, 2⟩]
    fnKeys := [(1, 0), (1, 1), (1, 2), (4, 2), (4, 1), (4, 3)]
    vnKeys := none }

theorem exT_wf : WF 3 exT := by decide +kernel
theorem exT_closed : ClosedFaces exT := by decide +kernel
theorem exT_noLoops : NoLoops exT := by decide +kernel
theorem exT_scene : extract2 exT = some exTScene := by decide +kernel
theorem exT_vertices : iterVertices2 exT = [1, 2, 3, 6] := (C20_vertex_entities exT_scene).1.symm
theorem exT_embedded : Embedded exT := by
  unfold Embedded
  rw [exT_vertices]
  decide

example : ∃ sc, extract2 exT = some sc := C20_no_panic exT_wf exT_closed exT_noLoops exT_embedded
example : exTScene.verts.map Prod.fst = iterVertices2 exT := (C20_vertex_entities exT_scene).1
example : iterVertices2 exT = [1, 2, 3, 6] := exT_vertices
example : rowOf (iterVertices2 exT) 6 = some 3 := by rw [exT_vertices]; decide
example : ∃ x, exTScene.table[3]? = some x ∧ exT.att 0 6 = some x :=
  C20_table_row exT_scene (by rw [exT_vertices]; decide)
example {v w r : Nat} (hv : rowOf (iterVertices2 exT) v = some r)
    (hw : rowOf (iterVertices2 exT) w = some r) : v = w := C20_index_map_injective exT hv hw
example : ∃ v, v ∈ iterVertices2 exT ∧ rowOf (iterVertices2 exT) v = some 3 :=
  (C20_index_map_onto exT).1 3 (by rw [exT_vertices]; decide)
-- dart 4 (C → B, second triangle): vertex id 3 ≠ dart id; start row 2 = C, end row 1 = B = vertex of β1 4 = 5
example : (⟨4, 3, 2, 4, 1, 2, 1⟩ : DartEnt) ∈ exTScene.darts := by decide +kernel
example : rowOf (iterVertices2 exT) 3 = some 2 ∧
    ∃ x, exTScene.table[2]? = some x ∧ exT.att 0 3 = some x :=
  (C20_dart_start exT_scene (e := ⟨4, 3, 2, 4, 1, 2, 1⟩) (by decide)).2.2.2.2
example : ∃ v' x, evalP (vertexId2 exT.n (exT.β 1 4)) exT = some v' ∧
    rowOf (iterVertices2 exT) v' = some 1 ∧ exTScene.table[1]? = some x ∧ exT.att 0 v' = some x :=
  C20_dart_end exT_wf exT_closed exT_scene (e := ⟨4, 3, 2, 4, 1, 2, 1⟩) (by decide)
-- edges: 2 is sewn (second end through β2), 5 is a boundary edge (second end through β1)
example : exTScene.edges.map (·.1) = iterEdges2 exT := (C20_edge_entity exT_scene).1
example : exT.β 2 2 = 4 ∧ exT.β 2 5 = 0 ∧ exT.β 1 5 = 6 := by decide +kernel
example := (C20_edge_entity exT_scene).2 5 1 3 (by decide)
-- faces: corner order follows β1; the second face starts at its id 4 (corner C), not at a "first" dart
example : exTScene.faces.map (·.1) = iterFaces2 exT := (C20_face_corners exT_wf exT_closed exT_scene).1
example : (exT.β 1)^[3] 4 = 4 ∧ (List.iterate (exT.β 1) 4 3).Nodup :=
  let h := (C20_face_corners exT_wf exT_closed exT_scene).2 4 [2, 1, 3] (by decide)
  ⟨h.2.1, h.2.2.1⟩
example : period exT 4 = 3 := by decide +kernel
example : exTScene.darts.map (fun e => (e.f, e.d)) =
    [(1, 1), (1, 2), (1, 3), (4, 4), (4, 5), (4, 6)] := by decide +kernel
example : exTScene.darts.map (fun e => (e.f, e.d)) = (iterFaces2 exT).flatMap
    (fun f => (List.iterate (exT.β 1) f (period exT f)).map (fun d => (f, d))) :=
  C20_dart_entities_of_face exT_wf exT_closed exT_scene
-- the removed dart 7 has no entity, every other dart exactly one
example : (7 ∈ exTScene.darts.map (·.d) ↔ InUse exT 7) ∧ ¬ InUse exT 7 :=
  ⟨(C20_each_dart_once exT_wf exT_closed exT_scene).2 7, by decide⟩
example : (exTScene.darts.map (·.d)).Nodup := (C20_each_dart_once exT_wf exT_closed exT_scene).1

-- the hypotheses matter: an isolated in-use dart (open face) makes the start-up system panic
def exFree : Map Val :=
  { n := 2, b := #[#[0, 0], #[0, 0], #[0, 0]], u := #[false, false], a := #[#[none, some (.pt 0 0 0)]] }
example : WF 3 exFree ∧ ¬ ClosedFaces exFree ∧ extract2 exFree = none := by decide +kernel

/-- 3-D: one triangular face with two sides `1-2-3` / `4-5-6` (β3: 1↔4, 2↔6, 3↔5), mirrored -/
def exP : Map Val :=
  { n := 7
    b := #[#[0, 3, 1, 2, 6, 4, 5], #[0, 2, 3, 1, 5, 6, 4], #[0, 0, 0, 0, 0, 0, 0],
           #[0, 4, 6, 5, 1, 3, 2]]
    u := #[false, false, false, false, false, false, false]
    a := #[#[none, some (.pt 0 0 0), some (.pt 1 0 0), some (.pt 0 1 0), some (.pt 1 0 0),
             some (.pt 0 0 0), some (.pt 0 1 0)]] }

def exPScene : Scene :=
  { table := [.pt 0 0 0, .pt 1 0 0, .pt 0 1 0]
    verts := [(1, 0), (2, 1), (3, 2)]
    edges := [(1, 0, 1), (2, 1, 2), (3, 2, 0)]
    faces := [(1, [0, 1, 2])]
    darts := [⟨1, 1, 1, 1, 1, 0, 1⟩, ⟨2, 2, 2, 1, 1, 1, 2⟩, ⟨3, 3, 3, 1, 1, 2, 0⟩,
              ⟨4, 2, 1, 1, 4, 1, 0⟩, ⟨5, 1, 3, 1, 4, 0, 2⟩, ⟨6, 3, 2, 1, 4, 2, 1⟩]
    fnKeys := [(1, 0), (1, 1), (1, 2)]
    vnKeys := some [(1, 0), (1, 1), (1, 2), (4, 1), (4, 0), (4, 2)] }

theorem exP_wf : WF 4 exP ∧ Mirror exP := by decide +kernel
theorem exP_scene : extract3 exP = some exPScene := by decide +kernel

example : exPScene.verts.map Prod.fst = iterVertices3 exP := (C20_3d_vertex_entities exP_scene).1
example := (C20_3d_dart_start exP_scene (e := ⟨4, 2, 1, 1, 4, 1, 0⟩) (by decide))
example := (C20_3d_edge_entity exP_scene).2 1 0 1 (by decide)
example := (C20_3d_face_entity exP_scene).2 1 [0, 1, 2] (by decide)
-- both sides of the face are enumerated: six dart entities for the six darts
example : exPScene.darts.map (·.d) = [1, 2, 3, 4, 5, 6] := by decide +kernel

end HC.C20

/-
  C12, third part — the descriptor form `len_per_cell + lens` in binary64.

  The code computes `(lx / lpx).ceil().to_usize().unwrap()` where `lx`, `lpx` are ALREADY floats: the
  division is ONE rounding of the exact quotient of two floats, `ceil` and the conversion are exact.
  With `rnd 53` of `Lemmas/Rounding.lean` (round to nearest even, 53 bits, unbounded exponent: IEEE
  binary64 division as long as the quotient neither overflows nor is subnormal) the count is
  `⌈rnd 53 (L / l)⌉`.

    C12_ceil_count_f64        for positive floats with `⌈L/l⌉ ≤ 2^53`: the count is ⌈L/l⌉ or ⌈L/l⌉ − 1; it is
                              ⌈L/l⌉ iff `rnd 53 (L/l) > ⌈L/l⌉ − 1`, and ⌈L/l⌉ − 1 iff `rnd 53 (L/l) = ⌈L/l⌉ − 1`
    C12_ceil_count_f64_exact  it is exact whenever `L/l` is itself a binary64 number
    C12_ceil_count_f64_one_short   such floats exist: `l = 1 + 2⁻⁵²`, `L = 3 + 2⁻⁵⁰` give `L/l = 3 + ε`,
                              `0 < ε < 2⁻⁵²` (half an ulp of 3): the quotient rounds to 3, the count is 3, ⌈L/l⌉ = 4.
                              The real builder does build 3 cells on this input (reproduced through the
                              harness: `grid 2 0 0 lpl 0 0 4503599627370497/4503599627370496 1
                              3377699720527873/1125899906842624 1` → 12 darts).
-/
import Honeycomb.Props.C12b
import Honeycomb.Lemmas.Rounding

namespace HC.C12
open HC HC.Geo HC.Rounding

/-- binary64, counts up to `2^53`: the computed count `⌈rnd 53 (L/l)⌉` is `⌈L/l⌉` or one less; it is
    `⌈L/l⌉` iff the rounded quotient stays above `⌈L/l⌉ − 1`, and one less iff the quotient rounds down
    onto the integer `⌈L/l⌉ − 1` (then `L/l` exceeds that integer by at most half an ulp of it). -/
theorem C12_ceil_count_f64 {L l : ℚ} (hL : 0 < L) (hl : 0 < l) (hn : (L / l).ceil ≤ 2 ^ 53) :
    ((rnd 53 (L / l)).ceil = (L / l).ceil ∨ (rnd 53 (L / l)).ceil = (L / l).ceil - 1) ∧
    ((rnd 53 (L / l)).ceil = (L / l).ceil ↔ (((L / l).ceil - 1 : ℤ) : ℚ) < rnd 53 (L / l)) ∧
    ((rnd 53 (L / l)).ceil = (L / l).ceil - 1 ↔ rnd 53 (L / l) = (((L / l).ceil - 1 : ℤ) : ℚ)) := by
  have hq : 0 < L / l := div_pos hL hl
  have hc : 1 ≤ (L / l).ceil := by
    have : ((0 : ℤ) : ℚ) < L / l := by simpa using hq
    have := (Rat.lt_ceil_iff (x := L / l) (y := 0)).mpr this
    omega
  have h1 : (L / l).ceil.natAbs ≤ 2 ^ 53 := by omega
  have h2 : ((L / l).ceil - 1).natAbs ≤ 2 ^ 53 := by omega
  obtain ⟨lo, hi⟩ := rnd_ceil_bounds (p := 53) (by norm_num) (L / l) h1 h2
  exact C12_ceil_count_of_bounds _ _ lo hi

/-- the count is exact whenever the quotient is a binary64 number (cell length a power of two, total
    length an exact multiple of the cell length with a representable factor, …) -/
theorem C12_ceil_count_f64_exact {L l : ℚ} (h : Representable 53 (L / l)) :
    (rnd 53 (L / l)).ceil.toNat = ceilCount L l := by
  unfold ceilCount
  rw [rnd_of_representable (by norm_num) h]

/-- `n · l / l` for a count `n ≤ 2^53`, with the EXACT product `n · l` as total length: the rounded quotient has
    ceiling `n`.  (Nothing is said about a total length that is itself the rounding of `n · l`.) -/
theorem C12_ceil_count_f64_multiple {n : ℕ} {l : ℚ} (hl : 0 < l) (hn : n ≤ 2 ^ 53) :
    (rnd 53 ((n : ℚ) * l / l)).ceil.toNat = n := by
  have e : (n : ℚ) * l / l = ((n : ℤ) : ℚ) := by
    rw [mul_div_assoc, div_self (ne_of_gt hl), mul_one]; simp
  rw [e, rnd_fixes_small_integers (by norm_num) (by simpa using hn), Rat.ceil_intCast]
  simp

/-- the two floats of the one-short example -/
def shortL : ℚ := 3377699720527873 / 1125899906842624   -- 3 + 2⁻⁵⁰
def shortl : ℚ := 4503599627370497 / 4503599627370496   -- 1 + 2⁻⁵²

/-- Floats for which the count is one short exist well below `2^53`: `l = 1 + 2⁻⁵²`, `L = 3 + 2⁻⁵⁰`
    are binary64 numbers, `L / l = 3 + 2⁻⁵²/(1 + 2⁻⁵²)` lies strictly between 3 and 3 + half an ulp of 3, the
    division returns 3, the computed count is 3 while `⌈L/l⌉ = 4`: three cells of length `l` cover
    `3 + 3·2⁻⁵²`, short of `L` by `2⁻⁵²`. -/
theorem C12_ceil_count_f64_one_short :
    Representable 53 shortL ∧ Representable 53 shortl ∧ 0 < shortl ∧
    rnd 53 (shortL / shortl) = 3 ∧ (rnd 53 (shortL / shortl)).ceil = 3 ∧ (shortL / shortl).ceil = 4 ∧
    (rnd 53 (shortL / shortl)).ceil = (shortL / shortl).ceil - 1 := by
  have hr : rnd 53 (shortL / shortl) = 3 := by decide +kernel
  have hc : (shortL / shortl).ceil = 4 := by decide +kernel
  refine ⟨⟨3377699720527873, -50, by decide +kernel, ?_⟩, ⟨4503599627370497, -52, by decide +kernel, ?_⟩,
    by decide +kernel, hr, ?_, hc, ?_⟩
  · unfold shortL; norm_num
  · unfold shortl; norm_num
  · rw [hr]; rfl
  · rw [hr, hc]; rfl

/-- an exact instance: `L = 7/2`, `l = 1/2` (quotient 7, representable) -/
example : (rnd 53 ((7 / 2 : ℚ) / (1 / 2))).ceil.toNat = ceilCount (7 / 2) (1 / 2) :=
  C12_ceil_count_f64_exact ⟨7, 0, by decide +kernel, by norm_num⟩

example : (rnd 53 ((5 : ℚ) / 2)).ceil = ((5 : ℚ) / 2).ceil ∨ (rnd 53 ((5 : ℚ) / 2)).ceil = ((5 : ℚ) / 2).ceil - 1 :=
  (C12_ceil_count_f64 (L := 5) (l := 2) (by norm_num) (by norm_num) (by decide +kernel)).1

end HC.C12

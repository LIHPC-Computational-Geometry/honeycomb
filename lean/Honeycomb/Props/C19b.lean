/-
  C19, second part — the rounding-model hypothesis is SATISFIED by idealised IEEE arithmetic.

  `rnd p` (Model/Rounding.lean, theory in Lemmas/Rounding.lean) rounds a rational to the nearest number
  with `p` significant bits, ties to even, with an UNBOUNDED exponent range: binary64 for `p = 53`,
  binary32 for `p = 24`, as long as no overflow and no underflow (subnormal result) occurs.  Overflow and
  underflow are excluded from the property's quantifier and are NOT modelled here.

  * `C19b_roundModel`: `RoundModel (rnd p) 2⁻ᵖ` for every `p ≥ 1` (`…_f64`, `…_f32` for 53 / 24 bits);
    `C19b_rnd_odd`, `C19b_rnd_monotone`, `C19b_rep` discharge the other hypotheses used in `Props/C19.lean`
    (odd rounding; monotone rounding that fixes representable numbers).
  * consequently every `C19_fl_*` theorem is UNCONDITIONAL for the arithmetic `FlR (rnd p)` over ℚ —
    the model definitions (`V2.sub`, `P2.orient`, `V3.cross`, …) evaluated operation by operation with
    correctly rounded `+ − × ÷`: `C19b_*` below.
  * `C19b_closed_*`: the results of the rounded operations are again `p`-bit numbers (floats stay floats).

  What links `rnd 53` / `rnd 24` to the hardware is the `flop` stream of tools/props/c19.py (the real f64 / f32
  `+ − × ÷` of the harness compared with `rnd`, through python Fractions on a large sample and through
  the Lean definition itself on a smaller one).  That IEEE-754 hardware implements round-to-nearest-even is
  validated there, not proved.
-/
import Honeycomb.Props.C19
import Honeycomb.Lemmas.Rounding

namespace HC.C19
open HC.Geo HC.Rounding

/-! ## the instance -/

/-- unit roundoff of `p`-bit arithmetic: `2⁻ᵖ` (`2⁻⁵³` for binary64, `2⁻²⁴` for binary32) -/
abbrev uro (p : ℕ) : ℚ := (2 : ℚ) ^ (-(p : ℤ))

/-- **idealised IEEE rounding satisfies the rounding model** with unit roundoff `u = 2⁻ᵖ` -/
theorem C19b_roundModel {p : ℕ} (hp : 0 < p) : RoundModel (rnd p) (uro p) where
  u_nonneg := (two_zpow_pos _).le
  u_lt_one := by
    have : (2 : ℚ) ^ (-(p : ℤ)) < 2 ^ (0 : ℤ) := two_zpow_lt_iff.mpr (by omega)
    simpa using this
  err := rnd_rel_error p

theorem C19b_roundModel_f64 : RoundModel (rnd 53) ((2 : ℚ) ^ (-(53 : ℤ))) := C19b_roundModel (p := 53) (by norm_num)

theorem C19b_roundModel_f32 : RoundModel (rnd 24) ((2 : ℚ) ^ (-(24 : ℤ))) := C19b_roundModel (p := 24) (by norm_num)

/-- the rounding is odd (hypothesis of `C19_fl_v3_cross_antisymm`) -/
theorem C19b_rnd_odd (p : ℕ) : ∀ x : ℚ, rnd p (-x) = -rnd p x := rnd_neg p

/-- the rounding is monotone (hypothesis of `C19_fl_p2_average_between`) -/
theorem C19b_rnd_monotone {p : ℕ} (hp : 0 < p) : Monotone (rnd p) := fun a b h => rnd_monotone hp a b h

/-- `p`-bit numbers and their doubles are fixed (hypothesis `Rep` of `C19_fl_p2_average_between`) -/
theorem C19b_rep {p : ℕ} (hp : 0 < p) {x : ℚ} (h : Representable p x) : Rep (rnd p) x :=
  ⟨rnd_of_representable hp h, rnd_of_representable hp h.two_mul⟩

/-! ## floats stay floats -/

theorem C19b_closed_add {p : ℕ} (hp : 0 < p) (a b : FlR (rnd p)) : Representable p (a + b).val :=
  representable_rnd hp _
theorem C19b_closed_sub {p : ℕ} (hp : 0 < p) (a b : FlR (rnd p)) : Representable p (a - b).val :=
  representable_rnd hp _
theorem C19b_closed_mul {p : ℕ} (hp : 0 < p) (a b : FlR (rnd p)) : Representable p (a * b).val :=
  representable_rnd hp _
theorem C19b_closed_div {p : ℕ} (hp : 0 < p) (a b : FlR (rnd p)) : Representable p (a / b).val :=
  representable_rnd hp _
theorem C19b_closed_neg {p : ℕ} (a : FlR (rnd p)) (h : Representable p a.val) : Representable p (-a).val :=
  h.neg

/-! ## the rounding theorems of C19, unconditional for `rnd p` -/
section Unconditional
variable {p : ℕ} (hp : 0 < p)
include hp

theorem C19b_v2_sub_self (v : V2 (FlR (rnd p))) : V2.sub v v = ⟨⟨0⟩, ⟨0⟩⟩ :=
  C19_fl_v2_sub_self (C19b_roundModel hp) v
theorem C19b_v3_sub_self (v : V3 (FlR (rnd p))) : V3.sub v v = ⟨⟨0⟩, ⟨0⟩, ⟨0⟩⟩ :=
  C19_fl_v3_sub_self (C19b_roundModel hp) v
theorem C19b_p2_sub_self (v : P2 (FlR (rnd p))) : P2.sub v v = ⟨⟨0⟩, ⟨0⟩⟩ :=
  C19_fl_p2_sub_self (C19b_roundModel hp) v
theorem C19b_p3_sub_self (v : P3 (FlR (rnd p))) : P3.sub v v = ⟨⟨0⟩, ⟨0⟩, ⟨0⟩⟩ :=
  C19_fl_p3_sub_self (C19b_roundModel hp) v

/-- `(v + w) − v` is within `(2u + u²)(|v| + |w|)` of `w`, `u = 2⁻ᵖ`, componentwise -/
theorem C19b_v2_add_sub_bound (v w : V2 (FlR (rnd p))) :
    |(V2.sub (V2.add v w) v).x.val - w.x.val| ≤ (2 * uro p + uro p ^ 2) * (|v.x.val| + |w.x.val|) ∧
    |(V2.sub (V2.add v w) v).y.val - w.y.val| ≤ (2 * uro p + uro p ^ 2) * (|v.y.val| + |w.y.val|) :=
  C19_fl_v2_add_sub_bound (C19b_roundModel hp) v w
theorem C19b_v3_add_sub_bound (v w : V3 (FlR (rnd p))) :
    |(V3.sub (V3.add v w) v).x.val - w.x.val| ≤ (2 * uro p + uro p ^ 2) * (|v.x.val| + |w.x.val|) ∧
    |(V3.sub (V3.add v w) v).y.val - w.y.val| ≤ (2 * uro p + uro p ^ 2) * (|v.y.val| + |w.y.val|) ∧
    |(V3.sub (V3.add v w) v).z.val - w.z.val| ≤ (2 * uro p + uro p ^ 2) * (|v.z.val| + |w.z.val|) :=
  C19_fl_v3_add_sub_bound (C19b_roundModel hp) v w
theorem C19b_p2_add_sub_bound (q : P2 (FlR (rnd p))) (w : V2 (FlR (rnd p))) :
    |(P2.sub (P2.addV q w) q).x.val - w.x.val| ≤ (2 * uro p + uro p ^ 2) * (|q.x.val| + |w.x.val|) ∧
    |(P2.sub (P2.addV q w) q).y.val - w.y.val| ≤ (2 * uro p + uro p ^ 2) * (|q.y.val| + |w.y.val|) :=
  C19_fl_p2_add_sub_bound (C19b_roundModel hp) q w
theorem C19b_p3_add_sub_bound (q : P3 (FlR (rnd p))) (w : V3 (FlR (rnd p))) :
    |(P3.sub (P3.addV q w) q).x.val - w.x.val| ≤ (2 * uro p + uro p ^ 2) * (|q.x.val| + |w.x.val|) ∧
    |(P3.sub (P3.addV q w) q).y.val - w.y.val| ≤ (2 * uro p + uro p ^ 2) * (|q.y.val| + |w.y.val|) ∧
    |(P3.sub (P3.addV q w) q).z.val - w.z.val| ≤ (2 * uro p + uro p ^ 2) * (|q.z.val| + |w.z.val|) :=
  C19_fl_p3_add_sub_bound (C19b_roundModel hp) q w

/-- **orientation sign**, correctly rounded arithmetic: outside the band
    `(3u + 3u² + u³)(|A·B| + |C·D|)`, `u = 2⁻ᵖ`, the computed `cross_product_from_vertices` has the sign of
    the exact one -/
theorem C19b_orient_sign (a b c : P2 (FlR (rnd p)))
    (hband : (3 * uro p + 3 * uro p ^ 2 + uro p ^ 3)
        * orientBand (toR2 a) (toR2 b) (toR2 c) < |P2.orient (toR2 a) (toR2 b) (toR2 c)|) :
    (0 < (P2.orient a b c).val ↔ 0 < P2.orient (toR2 a) (toR2 b) (toR2 c)) ∧
    ((P2.orient a b c).val < 0 ↔ P2.orient (toR2 a) (toR2 b) (toR2 c) < 0) :=
  C19_fl_orient_sign (C19b_roundModel hp) a b c hband

/-- orthogonality of the computed cross product up to rounding -/
theorem C19b_v3_cross_dot_bound (a b : V3 (FlR (rnd p))) :
    |(V3.dot (V3.cross a b) a).val|
      ≤ ((2 * uro p + uro p ^ 2) + (3 * uro p + 3 * uro p ^ 2 + uro p ^ 3) * (1 + (2 * uro p + uro p ^ 2)))
          * crossMag (toR3 a) (toR3 b) (toR3 a) ∧
    |(V3.dot (V3.cross a b) b).val|
      ≤ ((2 * uro p + uro p ^ 2) + (3 * uro p + 3 * uro p ^ 2 + uro p ^ 3) * (1 + (2 * uro p + uro p ^ 2)))
          * crossMag (toR3 a) (toR3 b) (toR3 b) :=
  C19_fl_v3_cross_dot_bound (C19b_roundModel hp) a b

/-- the computed midpoint of two `p`-bit points lies between them, componentwise -/
theorem C19b_p2_average_between (a b : P2 (FlR (rnd p)))
    (hax : Representable p a.x.val) (hbx : Representable p b.x.val)
    (hay : Representable p a.y.val) (hby : Representable p b.y.val) :
    (min a.x.val b.x.val ≤ (P2.average a b).x.val ∧ (P2.average a b).x.val ≤ max a.x.val b.x.val) ∧
    (min a.y.val b.y.val ≤ (P2.average a b).y.val ∧ (P2.average a b).y.val ≤ max a.y.val b.y.val) :=
  C19_fl_p2_average_between (C19b_rnd_monotone hp) a b (C19b_rep hp hax) (C19b_rep hp hbx)
    (C19b_rep hp hay) (C19b_rep hp hby)

theorem C19b_p3_average_between (a b : P3 (FlR (rnd p)))
    (hax : Representable p a.x.val) (hbx : Representable p b.x.val)
    (hay : Representable p a.y.val) (hby : Representable p b.y.val)
    (haz : Representable p a.z.val) (hbz : Representable p b.z.val) :
    (min a.x.val b.x.val ≤ (P3.average a b).x.val ∧ (P3.average a b).x.val ≤ max a.x.val b.x.val) ∧
    (min a.y.val b.y.val ≤ (P3.average a b).y.val ∧ (P3.average a b).y.val ≤ max a.y.val b.y.val) ∧
    (min a.z.val b.z.val ≤ (P3.average a b).z.val ∧ (P3.average a b).z.val ≤ max a.z.val b.z.val) :=
  C19_fl_p3_average_between (C19b_rnd_monotone hp) a b (C19b_rep hp hax) (C19b_rep hp hbx)
    (C19b_rep hp hay) (C19b_rep hp hby) (C19b_rep hp haz) (C19b_rep hp hbz)

end Unconditional

/-- the computed cross product is antisymmetric (values; the sign of zero is not represented) -/
theorem C19b_v3_cross_antisymm (p : ℕ) (a b : V3 (FlR (rnd p))) : V3.cross a b = V3.neg (V3.cross b a) :=
  C19_fl_v3_cross_antisymm (rnd_neg p) a b

/-! ## Non-vacuity -/
section Examples

example : RoundModel (rnd 53) ((2 : ℚ) ^ (-(53 : ℤ))) := C19b_roundModel_f64
example : RoundModel (rnd 24) ((2 : ℚ) ^ (-(24 : ℤ))) := C19b_roundModel_f32
example : rnd 53 (-(1 / 3)) = -rnd 53 (1 / 3) := C19b_rnd_odd 53 _
example : rnd 53 (1 / 3) ≤ rnd 53 (1 / 2) := C19b_rnd_monotone (p := 53) (by norm_num) (by norm_num)
/-- `3/8` is a 53-bit number -/
example : Representable 53 (3 / 8) := ⟨3, -3, by norm_num, by norm_num⟩
example : Rep (rnd 53) (3 / 8) := C19b_rep (by norm_num) ⟨3, -3, by norm_num, by norm_num⟩
example (a b : FlR (rnd 53)) : Representable 53 (a + b).val := C19b_closed_add (by norm_num) a b
example (a b : FlR (rnd 53)) : Representable 53 (a - b).val := C19b_closed_sub (by norm_num) a b
example (a b : FlR (rnd 53)) : Representable 53 (a * b).val := C19b_closed_mul (by norm_num) a b
example (a b : FlR (rnd 53)) : Representable 53 (a / b).val := C19b_closed_div (by norm_num) a b
example : Representable 53 (-(⟨3 / 8⟩ : FlR (rnd 53))).val :=
  C19b_closed_neg _ ⟨3, -3, by norm_num, by norm_num⟩
example (v : V2 (FlR (rnd 53))) : V2.sub v v = ⟨⟨0⟩, ⟨0⟩⟩ := C19b_v2_sub_self (by norm_num) v
example (v : V3 (FlR (rnd 53))) : V3.sub v v = ⟨⟨0⟩, ⟨0⟩, ⟨0⟩⟩ := C19b_v3_sub_self (by norm_num) v
example (v : P2 (FlR (rnd 24))) : P2.sub v v = ⟨⟨0⟩, ⟨0⟩⟩ := C19b_p2_sub_self (by norm_num) v
example (v : P3 (FlR (rnd 24))) : P3.sub v v = ⟨⟨0⟩, ⟨0⟩, ⟨0⟩⟩ := C19b_p3_sub_self (by norm_num) v
example (v w : V2 (FlR (rnd 53))) := C19b_v2_add_sub_bound (p := 53) (by norm_num) v w
example (v w : V3 (FlR (rnd 53))) := C19b_v3_add_sub_bound (p := 53) (by norm_num) v w
example (q : P2 (FlR (rnd 53))) (w : V2 (FlR (rnd 53))) := C19b_p2_add_sub_bound (p := 53) (by norm_num) q w
example (q : P3 (FlR (rnd 53))) (w : V3 (FlR (rnd 53))) := C19b_p3_add_sub_bound (p := 53) (by norm_num) q w
example (a b : V3 (FlR (rnd 53))) := C19b_v3_cross_dot_bound (p := 53) (by norm_num) a b
example (a b : V3 (FlR (rnd 53))) : V3.cross a b = V3.neg (V3.cross b a) := C19b_v3_cross_antisymm 53 a b

/-- the band hypothesis is satisfiable in binary64: the standard frame `(0,0), (1,0), (0,1)` is far from
    collinear, so the correctly rounded orientation product is positive -/
example : 0 < (P2.orient (α := FlR (rnd 53)) ⟨⟨0⟩, ⟨0⟩⟩ ⟨⟨1⟩, ⟨0⟩⟩ ⟨⟨0⟩, ⟨1⟩⟩).val :=
  (C19b_orient_sign (p := 53) (by norm_num) ⟨⟨0⟩, ⟨0⟩⟩ ⟨⟨1⟩, ⟨0⟩⟩ ⟨⟨0⟩, ⟨1⟩⟩
    (by norm_num [orientBand, toR2, P2.orient])).1.mpr (by norm_num [toR2, P2.orient])

/-- midpoint of two binary64 points with dyadic coordinates -/
example := C19b_p2_average_between (p := 53) (by norm_num) ⟨⟨1⟩, ⟨3 / 8⟩⟩ ⟨⟨3⟩, ⟨-5⟩⟩
  ⟨1, 0, by norm_num, by norm_num⟩ ⟨3, 0, by norm_num, by norm_num⟩
  ⟨3, -3, by norm_num, by norm_num⟩ ⟨-5, 0, by norm_num, by norm_num⟩
example := C19b_p3_average_between (p := 53) (by norm_num) ⟨⟨1⟩, ⟨3 / 8⟩, ⟨0⟩⟩ ⟨⟨3⟩, ⟨-5⟩, ⟨2⟩⟩
  ⟨1, 0, by norm_num, by norm_num⟩ ⟨3, 0, by norm_num, by norm_num⟩
  ⟨3, -3, by norm_num, by norm_num⟩ ⟨-5, 0, by norm_num, by norm_num⟩
  ⟨0, 0, by norm_num, by norm_num⟩ ⟨2, 0, by norm_num, by norm_num⟩

end Examples

end HC.C19

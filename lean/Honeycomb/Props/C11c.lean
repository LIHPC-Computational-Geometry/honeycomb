/-
  C11, third part — export followed by import on meshes without cracks.

  For a well-formed map whose in-use faces are closed with at least three sides, whose vertices all have
  coordinates, in which no two darts run between the same ordered pair of vertices and the two ends of every
  side have different coordinates (`Exportable`):
  (c1) `C11_export_ok`: the export does not panic and its piece is given in closed form (points of the
       `iter_vertices` ids; one `Line` per 2-free edge id; one cell per face id listing the points of the
       β1 walk from the face id);
  (c2) `C11_roundTrip_faces`: export followed by import returns `Ok m'`; `m'` is well formed and consists of
       one β1 cycle on consecutive darts per face of `m`, dart `sⱼ + i` of `m'` being the COPY of the i-th dart
       of the walk of the j-th face id: its successor is the copy of the successor, and its vertex carries
       the coordinates (z dropped) of that dart's vertex in `m`  (per-face statement);
  (c3) `C11_roundTrip_adjacency`: if moreover `m` has no crack (`NoCrack`: no two 2-free darts run between
       the same two vertices in opposite directions), the copies of `d` and `e` are 2-sewn in `m'` EXACTLY
       when `β2 d = e` in `m`  (adjacency statement; with the known finding C11-crack this hypothesis is
       necessary).
  (c4) `C11_roundTrip_bijection`: "is the copy of" is a bijection between the darts of `m'` and the in-use
       darts of `m`.
  Together: `d ↦ copy of d` is an isomorphism from the in-use part of `m` onto `m'` for β1, β2 and the
  vertex coordinates.
-/
import Honeycomb.Props.C11b
import Honeycomb.Lemmas.ListFacts
import Mathlib.Data.List.Nodup


namespace HC.C11
open HC HC.Vtk HC.C03 HC.CellCalc

/-! ## the export in closed form -/

/-- vertex identifier (C03: the smallest dart of the vertex orbit) -/
abbrev vid (m : Map Val) (d : Nat) : Nat := cellId m .vertex d
/-- the point index the exporter gives to the vertex of dart `d` -/
def ptD (m : Map Val) (d : Nat) : Nat := (pointOf m (iterVertices2 m) d).getD 0
/-- the darts listed for the face identifier `f`: the β1 walk from `f` -/
def walkOf (m : Map Val) (f : Nat) : List Nat := orb m (.custom [1]) f
def ptsE (m : Map Val) : List Val := (iterVertices2 m).map (fun v => flat ((m.att 0 v).getD default))
def lineE (m : Map Val) (e : Nat) : VCell := ⟨3, [ptD m e, ptD m (m.β 1 e)]⟩
def faceE (m : Map Val) (f : Nat) : VCell := ⟨cellTypeOfCount (walkOf m f).length, (walkOf m f).map (ptD m)⟩

/-- the meshes of the composition theorem -/
structure Exportable (m : Map Val) : Prop where
  wf : WF 3 m
  /-- every in-use face is closed … -/
  closed : ∀ d, C01.InUse m d → m.β 1 d ≠ 0
  /-- … with at least three sides -/
  big : ∀ f, f ∈ iterFaces2 m → 3 ≤ (walkOf m f).length
  /-- every vertex has coordinates -/
  vals : ∀ v, v ∈ iterVertices2 m → ∃ x y z, m.att 0 v = some (.pt x y z)
  /-- no two darts run between the same ordered pair of vertices -/
  uniq : ∀ d e, C01.InUse m d → C01.InUse m e → vid m d = vid m e →
    vid m (m.β 1 d) = vid m (m.β 1 e) → d = e
  /-- the two ends of a side have different coordinates in the plane -/
  ends : ∀ d, C01.InUse m d → ∀ x y z x' y' z', m.att 0 (vid m d) = some (.pt x y z) →
    m.att 0 (vid m (m.β 1 d)) = some (.pt x' y' z') → x ≠ x' ∨ y ≠ y'

theorem pointOf_inUse {m : Map Val} (hwf : WF 3 m) {d : Nat} (hd : C01.InUse m d) :
    pointOf m (iterVertices2 m) d = some (ptD m d) ∧ (iterVertices2 m)[ptD m d]? = some (vid m d) := by
  obtain ⟨k, hk, hk'⟩ := C11_export_pointOf hwf hd.1 hd.2.1 hd.2.2
  have : ptD m d = k := by unfold ptD; rw [hk]; rfl
  rw [this]; exact ⟨hk, hk'⟩

theorem inUse_of_boundary {m : Map Val} {e : Nat} (h : e ∈ boundaryEdges m) : C01.InUse m e ∧ m.β 2 e = 0 := by
  unfold boundaryEdges at h
  rw [List.mem_filter] at h
  have := (mem_iterCells m edgeId2 e).1 h.1
  exact ⟨⟨this.2.1, this.1, this.2.2.1⟩, by simpa using h.2⟩

/-- a face whose first three darts exist and are distinct has at least three sides -/
theorem three_sides {m : Map Val} (hwf : WF 3 m) {f : Nat} (hf : f ∈ iterFaces2 m) (c0 : m.β 1 f ≠ 0)
    (d0 : m.β 1 (m.β 1 f) ≠ 0) (c1 : m.β 1 f ≠ f) (c2 : m.β 1 (m.β 1 f) ≠ f)
    (d1 : m.β 1 (m.β 1 f) ≠ m.β 1 f) : 3 ≤ (walkOf m f).length := by
  have hu := mem_iterCells_inUse hf
  have hp : PolOK (.custom [1]) := by intro b hb; simp at hb; omega
  obtain ⟨_, _, _, _, hmem, _⟩ := C03_orbit2_spec hwf hp hu.1 hu.2.1
  have r1 : Reach (g2 m (.custom [1])) f (m.β 1 f) := Reach.single (by rw [g2_custom1]; simp)
  have r2 : Reach (g2 m (.custom [1])) f (m.β 1 (m.β 1 f)) := .tail r1 (by rw [g2_custom1]; simp)
  exact ListFacts.three_le_of_mem ((hmem f).2 ⟨hu.1, .refl _⟩) ((hmem _).2 ⟨c0, r1⟩) ((hmem _).2 ⟨d0, r2⟩)
    (fun e => c1 e.symm) (fun e => c2 e.symm) (fun e => d1 e.symm)

/-- the β1 walk from a face identifier of an exportable map -/
theorem walk_facts {m : Map Val} (hE : Exportable m) {f : Nat} (hf : f ∈ iterFaces2 m) :
    walk1 m f = some (walkOf m f) ∧ (walkOf m f).head? = some f ∧ (walkOf m f).Nodup ∧
    Walk (m.β 1) (walkOf m f) ∧ (∀ x, x ∈ walkOf m f → C01.InUse m x) ∧
    ∃ hne : walkOf m f ≠ [], m.β 1 ((walkOf m f).getLast hne) = f := by
  have hu := mem_iterCells_inUse hf
  have hp : PolOK (.custom [1]) := by intro b hb; simp at hb; omega
  obtain ⟨o, ho, hhead, hnd, hwalk, hmem⟩ := C11_export_walk hE.wf hu.1 hu.2.1
  have hoeq : o = walkOf m f := by
    have := (C03_orbit2_spec hE.wf hp hu.1 hu.2.1).1
    unfold walk1 at ho
    rw [this] at ho
    unfold walkOf
    simpa using ho.symm
  subst hoeq
  have hin : ∀ x, x ∈ walkOf m f → C01.InUse m x := fun x hx =>
    ⟨(hmem x hx).1, (hmem x hx).2.1, C03_orbit_of_in_use_is_in_use hE.wf hp hu.1 hu.2.1 hu.2.2 x hx⟩
  exact ⟨ho, hhead, hnd, hwalk, hin,
    C11_export_walk_closed hE.wf hu.1 hu.2.1 ho (fun x hx => hE.closed x (hin x hx))⟩

theorem optAll_map_some {α : Type} : ∀ (l : List α), optAll (l.map some) = some l := by
  intro l
  induction l with
  | nil => rfl
  | cons a l ih => simp only [List.map_cons, optAll, ih]

/-- **C11 (c1)**: the export of an exportable map does not panic, and its piece is: the coordinates
    (z = 0) of the `iter_vertices` identifiers; one `Line` per 2-free edge identifier; one cell per
    face identifier listing the points of the darts of its β1 walk -/
theorem C11_export_ok {m : Map Val} (hE : Exportable m) :
    exportPiece m = .ok (ptsE m, (boundaryEdges m).map (lineE m) ++ (iterFaces2 m).map (faceE m)) := by
  have hwf := hE.wf
  have h1 : (iterVertices2 m).map (fun v => m.att 0 v) =
      ((iterVertices2 m).map (fun v => (m.att 0 v).getD default)).map some := by
    rw [List.map_map]
    apply List.map_congr_left
    intro v hv
    obtain ⟨x, y, z, e⟩ := hE.vals v hv
    simp [e]
  have h2 : (boundaryEdges m).map (lineCell m (iterVertices2 m)) = ((boundaryEdges m).map (lineE m)).map some := by
    rw [List.map_map]
    apply List.map_congr_left
    intro e he
    obtain ⟨hu, _⟩ := inUse_of_boundary he
    have hu1 := C01.inUse_image hwf (by omega) (by omega) hu.2.1 (hE.closed e hu)
    unfold lineCell
    rw [(pointOf_inUse hwf hu).1, (pointOf_inUse hwf hu1).1]
    rfl
  have h3 : (iterFaces2 m).map (faceCell m (iterVertices2 m)) =
      ((iterFaces2 m).map (fun f => some (faceE m f))).map some := by
    rw [List.map_map]
    apply List.map_congr_left
    intro f hf
    obtain ⟨hw, _, _, _, hin, _⟩ := walk_facts hE hf
    have hpts : (walkOf m f).map (pointOf m (iterVertices2 m)) = ((walkOf m f).map (ptD m)).map some := by
      rw [List.map_map]
      apply List.map_congr_left
      intro x hx
      exact (pointOf_inUse hwf (hin x hx)).1
    have hbig := hE.big f hf
    unfold faceCell
    rw [hw]
    simp only
    rw [hpts, optAll_map_some]
    simp only [List.length_map]
    rw [if_neg (by omega)]
    rfl
  unfold exportPiece
  simp only
  rw [h1, optAll_map_some, h2, optAll_map_some, h3, optAll_map_some]
  simp only [ptsE, List.map_map]
  congr 2
  rw [List.filterMap_map]
  simp

/-! ## the exported piece is a conforming list -/

def cellsE (m : Map Val) : List VCell := (boundaryEdges m).map (lineE m) ++ (iterFaces2 m).map (faceE m)
/-- the walks of the face identifiers, in export order -/
def walks (m : Map Val) : List (List Nat) := (iterFaces2 m).map (walkOf m)
/-- the pair of point indices of the side leaving dart `d` -/
def sideD (m : Map Val) (d : Nat) : Nat × Nat := (ptD m d, ptD m (m.β 1 d))

theorem cellType_mem (k : Nat) : cellTypeOfCount k = 5 ∨ cellTypeOfCount k = 7 ∨ cellTypeOfCount k = 9 := by
  unfold cellTypeOfCount
  split
  · exact Or.inl rfl
  · split
    · exact Or.inr (Or.inr rfl)
    · exact Or.inr (Or.inl rfl)

theorem goodCell_cellsE {m : Map Val} (hE : Exportable m) : ∀ c, c ∈ cellsE m → GoodCell c := by
  intro c hc
  unfold cellsE at hc
  rcases List.mem_append.1 hc with h | h
  · obtain ⟨e, _, rfl⟩ := List.mem_map.1 h
    exact Or.inr (Or.inl ⟨rfl, rfl⟩)
  · obtain ⟨f, hf, rfl⟩ := List.mem_map.1 h
    have hb := hE.big f hf
    unfold GoodCell faceE cellTypeOfCount
    simp only [List.length_map]
    by_cases c3 : (walkOf m f).length = 3
    · simp [c3]
    · by_cases c4 : (walkOf m f).length = 4
      · simp [c4]
      · simp [c3, c4]

theorem faceLists_cellsE (m : Map Val) : faceLists (cellsE m) = (walks m).map (fun o => o.map (ptD m)) := by
  unfold faceLists cellsE walks
  rw [List.filterMap_append]
  have h1 : (List.map (lineE m) (boundaryEdges m)).filterMap
      (fun c => if c.ty = 5 ∨ c.ty = 7 ∨ c.ty = 9 then some c.vids else none) = [] := by
    rw [List.filterMap_map]
    apply List.filterMap_eq_nil_iff.2
    intro e _
    simp [lineE]
  rw [h1, List.nil_append, List.filterMap_map, List.map_map]
  rw [← List.filterMap_eq_map]
  apply List.filterMap_congr
  intro f _
  have := cellType_mem (walkOf m f).length
  simp [faceE, this]

theorem walk_getD {f : Nat → Nat} : ∀ (l : List Nat), Walk f l → ∀ i, i + 1 < l.length →
    l.getD (i + 1) 0 = f (l.getD i 0) := by
  intro l
  induction l with
  | nil => intro _ i hi; simp at hi
  | cons a l ih =>
      intro h i hi
      cases l with
      | nil => simp at hi
      | cons b l =>
          cases i with
          | zero => simp [h.1]
          | succ i =>
              have := ih h.2 i (by simpa using hi)
              simpa using this

/-- in a closed walk the cyclic successor is the β1 image -/
theorem walk_cyclic {m : Map Val} {o : List Nat} {f0 : Nat} (hw : Walk (m.β 1) o) (hh : o.head? = some f0)
    (hcl : ∃ hne : o ≠ [], m.β 1 (o.getLast hne) = f0) :
    ∀ i, i < o.length → o.getD ((i + 1) % o.length) 0 = m.β 1 (o.getD i 0) := by
  intro i hi
  obtain ⟨hne, hl⟩ := hcl
  by_cases c : i + 1 < o.length
  · rw [Nat.mod_eq_of_lt c]; exact walk_getD o hw i c
  · have e : i + 1 = o.length := by omega
    rw [e, Nat.mod_self]
    have h0 : o.getD 0 0 = f0 := by
      rw [List.head?_eq_getElem?] at hh
      rw [List.getD_eq_getElem?_getD, hh]; rfl
    have hlast : o.getLast hne = o.getD i 0 := by
      rw [List.getLast_eq_getElem, List.getD_eq_getElem?_getD]
      have : o.length - 1 = i := by omega
      simp [this, hi]
    rw [h0, ← hl, hlast]

theorem sidesOf_walk {m : Map Val} {o : List Nat} {f0 : Nat} (hw : Walk (m.β 1) o) (hh : o.head? = some f0)
    (hcl : ∃ hne : o ≠ [], m.β 1 (o.getLast hne) = f0) :
    sidesOf (o.map (ptD m)) = o.map (sideD m) := by
  have hc := walk_cyclic hw hh hcl
  apply List.ext_getElem
  · simp [sidesOf]
  · intro i h1 h2
    have hi : i < o.length := by simpa using h2
    have hmod : (i + 1) % o.length < o.length := Nat.mod_lt _ (by omega)
    have g : ∀ j, j < o.length → (o.map (ptD m)).getD j 0 = ptD m (o.getD j 0) := by
      intro j hj
      rw [List.getD_eq_getElem?_getD, List.getD_eq_getElem?_getD, List.getElem?_map]
      simp [hj]
    simp only [sidesOf, List.getElem_map, List.getElem_range, List.length_map]
    rw [g i hi, g _ hmod, hc i hi]
    unfold sideD
    have : o[i] = o.getD i 0 := by
      rw [List.getD_eq_getElem?_getD]; simp [hi]
    rw [this]

theorem allSides_cellsE {m : Map Val} (hE : Exportable m) :
    allSides (faceLists (cellsE m)) = ((walks m).flatten).map (sideD m) := by
  rw [faceLists_cellsE, List.map_flatten]
  unfold allSides
  rw [List.map_map]
  congr 1
  unfold walks
  rw [List.map_map, List.map_map]
  apply List.map_congr_left
  intro f hf
  obtain ⟨_, hh, _, hw, _, hcl⟩ := walk_facts hE hf
  exact sidesOf_walk hw hh hcl

theorem g2_custom1_eq (m : Map Val) : g2 m (.custom [1]) = g2 m .faceLinear := by
  funext x; simp [g2]

theorem walkOf_eq (m : Map Val) (f : Nat) : walkOf m f = orb m .faceLinear f := by
  unfold walkOf orb; rw [g2_custom1_eq]

theorem mem_walk_face {m : Map Val} (hE : Exportable m) {f x : Nat} (hf : f ∈ iterFaces2 m)
    (hx : x ∈ walkOf m f) : cellId m .face x = f := by
  have hwf := hE.wf
  have hu := mem_iterCells_inUse hf
  have hin : ∀ y, y ∈ orb m .face f → C01.InUse m y := fun y hy =>
    ⟨((mem_orb hwf (pol := .face) trivial hu.1 hu.2.1 y).1 hy).1,
     (C03_orbit2_spec hwf (pol := .face) trivial hu.1 hu.2.1).2.2.2.2.2 y hy,
     C03_orbit_of_in_use_is_in_use hwf (pol := .face) trivial hu.1 hu.2.1 hu.2.2 y hy⟩
  rw [walkOf_eq] at hx
  have hxf := (C03_faceLinear_closed hwf hu.1 hu.2.1 (fun y hy => hE.closed y (hin y hy)) x).1 hx
  have hxu := hin x hxf
  have hr := ((mem_orb hwf (pol := .face) trivial hu.1 hu.2.1 x).1 hxf).2
  have := ((C03_same_id_iff_same_cell hwf (pol := .face) trivial hu.1 hu.2.1 hxu.1 hxu.2.1).1).2 hr
  rw [← this, faceId_of_mem_iterFaces hwf hf]

theorem mem_walks {m : Map Val} {x : Nat} (h : x ∈ (walks m).flatten) :
    ∃ f, f ∈ iterFaces2 m ∧ x ∈ walkOf m f := by
  rw [List.mem_flatten] at h
  obtain ⟨o, ho, hx⟩ := h
  unfold walks at ho
  obtain ⟨f, hf, rfl⟩ := List.mem_map.1 ho
  exact ⟨f, hf, hx⟩

theorem inUse_of_walks {m : Map Val} (hE : Exportable m) {x : Nat} (h : x ∈ (walks m).flatten) :
    C01.InUse m x := by
  obtain ⟨f, hf, hx⟩ := mem_walks h
  exact (walk_facts hE hf).2.2.2.2.1 x hx

/-- every in-use dart is listed exactly once -/
theorem walks_nodup {m : Map Val} (hE : Exportable m) : ((walks m).flatten).Nodup := by
  rw [List.nodup_flatten]
  constructor
  · intro o ho
    unfold walks at ho
    obtain ⟨f, hf, rfl⟩ := List.mem_map.1 ho
    exact (walk_facts hE hf).2.2.1
  · unfold walks
    rw [List.pairwise_map]
    refine List.Pairwise.imp_of_mem ?_ (C03_iter_sorted m).2.2
    intro f g hf hg hlt x hx1 hx2
    have e1 := mem_walk_face hE hf hx1
    have e2 := mem_walk_face hE hg hx2
    omega

theorem ptD_inj {m : Map Val} (hwf : WF 3 m) {d e : Nat} (hd : C01.InUse m d) (he : C01.InUse m e)
    (h : ptD m d = ptD m e) : vid m d = vid m e := by
  have a := (pointOf_inUse hwf hd).2
  have b := (pointOf_inUse hwf he).2
  rw [h, b] at a
  simpa using a.symm

theorem sideD_inj {m : Map Val} (hE : Exportable m) {d e : Nat} (hd : C01.InUse m d) (he : C01.InUse m e)
    (h : sideD m d = sideD m e) : d = e := by
  unfold sideD at h
  simp only [Prod.mk.injEq] at h
  have hd1 := C01.inUse_image hE.wf (by omega) (by omega) hd.2.1 (hE.closed d hd)
  have he1 := C01.inUse_image hE.wf (by omega) (by omega) he.2.1 (hE.closed e he)
  exact hE.uniq d e hd he (ptD_inj hE.wf hd he h.1) (ptD_inj hE.wf hd1 he1 h.2)

theorem nodup_sides_cellsE {m : Map Val} (hE : Exportable m) : (allSides (faceLists (cellsE m))).Nodup := by
  rw [allSides_cellsE hE]
  exact List.Nodup.map_on (fun x hx y hy h => sideD_inj hE (inUse_of_walks hE hx) (inUse_of_walks hE hy) h)
    (walks_nodup hE)

theorem ptsE_at {m : Map Val} (hE : Exportable m) {d : Nat} (hd : C01.InUse m d) :
    ∃ x y z, m.att 0 (vid m d) = some (.pt x y z) ∧ ((ptsE m).map flat)[ptD m d]? = some (.pt x y 0) := by
  have hwf := hE.wf
  have hmem : vid m d ∈ iterVertices2 m := (C03_iterVertices2_mem hwf _).2 ⟨d, hd.1, hd.2.1, hd.2.2, rfl⟩
  obtain ⟨x, y, z, hv⟩ := hE.vals _ hmem
  refine ⟨x, y, z, hv, ?_⟩
  unfold ptsE
  rw [List.map_map, List.getElem?_map, (pointOf_inUse hwf hd).2]
  simp [hv, flat]

theorem sidesDistinct_cellsE {m : Map Val} (hE : Exportable m) :
    SidesDistinct ((ptsE m).map flat) (allSides (faceLists (cellsE m))) := by
  intro k hk
  rw [allSides_cellsE hE] at hk
  obtain ⟨d, hd, rfl⟩ := List.mem_map.1 hk
  have hu := inUse_of_walks hE hd
  have hu1 := C01.inUse_image hE.wf (by omega) (by omega) hu.2.1 (hE.closed d hu)
  obtain ⟨x, y, z, hv, hp⟩ := ptsE_at hE hu
  obtain ⟨x', y', z', hv', hp'⟩ := ptsE_at hE hu1
  exact ⟨x, y, x', y', hp, hp', hE.ends d hu x y z x' y' z' hv hv'⟩

/-! ## (c2) the per-face statement -/

/-- from dart `s` on, `m'` consists of copies of the walks: dart `s + i` is the copy of the i-th dart of
    the walk `o`: β1 of the copy is the copy of β1 (cyclically), and the vertex of the copy carries the
    coordinates of the vertex of the original, z dropped -/
def FaceCopied (m m' : Map Val) : Nat → List (List Nat) → Prop
  | _, [] => True
  | s, o :: os =>
      (∀ i, i < o.length → m'.β 1 (s + i) = s + (i + 1) % o.length ∧
        m.β 1 (o.getD i 0) = o.getD ((i + 1) % o.length) 0 ∧
        m'.att 0 (vid m' (s + i)) = (m.att 0 (vid m (o.getD i 0))).map flat) ∧
      FaceCopied m m' (s + o.length) os

theorem getD_map_ptD (m : Map Val) (o : List Nat) {j : Nat} (hj : j < o.length) :
    (o.map (ptD m)).getD j 0 = ptD m (o.getD j 0) := by
  rw [List.getD_eq_getElem?_getD, List.getD_eq_getElem?_getD, List.getElem?_map]
  simp [hj]

theorem faceCopied_of {m : Map Val} (hE : Exportable m) (m' : Map Val) :
    ∀ (ws : List (List Nat)) (s : Nat), (∀ o, o ∈ ws → ∃ f, f ∈ iterFaces2 m ∧ o = walkOf m f) →
      CornersAt ((ptsE m).map flat) m' s (ws.map (fun o => o.map (ptD m))) → FaceCopied m m' s ws := by
  intro ws
  induction ws with
  | nil => intro _ _ _; trivial
  | cons o os ih =>
      intro s hw hc
      obtain ⟨f, hf, rfl⟩ := hw _ List.mem_cons_self
      obtain ⟨_, hh, _, hwalk, hin, hcl⟩ := walk_facts hE hf
      simp only [List.map_cons] at hc
      refine ⟨fun i hi => ?_, ?_⟩
      · obtain ⟨hb, p, hp, ha⟩ := hc.1 i (by simpa using hi)
        simp only [List.length_map] at hb
        rw [getD_map_ptD m _ hi] at hp
        obtain ⟨x, y, z, hv, hq⟩ := ptsE_at hE (hin _ (getD_mem hi))
        rw [hq] at hp
        refine ⟨hb, (walk_cyclic hwalk hh hcl i hi).symm, ?_⟩
        rw [ha, hv, ← hp]
        rfl
      · have := hc.2
        simp only [List.length_map] at this
        exact ih _ (fun o' ho' => hw o' (List.mem_cons_of_mem _ ho')) this

/-- **C11 (c2), per-face statement of the composition**: for an exportable map, export followed by
    import returns `Ok m'`; `m'` is well formed, has one dart per in-use dart of `m`, and consists of one
    β1 cycle on consecutive darts per face identifier of `m` (in `iter_faces` order), copying the β1 walk
    from that identifier dart by dart together with the coordinates of the vertices -/
theorem C11_roundTrip_faces {m : Map Val} (hE : Exportable m) :
    ∃ m', roundTrip m = .ok m' ∧ WF 3 m' ∧ m'.n = 1 + ((walks m).map List.length).sum ∧
      FaceCopied m m' 1 (walks m) := by
  obtain ⟨m', himp, hwf', hn', hc⟩ := C11_import_conforming_ok (ptsE m) (cellsE m) 0 (goodCell_cellsE hE)
    (nodup_sides_cellsE hE) (sidesDistinct_cellsE hE)
  refine ⟨m', ?_, hwf', ?_, ?_⟩
  · unfold roundTrip
    rw [C11_export_ok hE]
    simp only
    exact (importLegacy_toLegacy _ _ 0).trans himp
  · rw [hn', faceLists_cellsE, List.map_map]
    congr 2
    apply List.map_congr_left
    intro o _
    simp
  · rw [faceLists_cellsE] at hc
    exact faceCopied_of hE m' _ 1 (fun o ho => by
      unfold walks at ho
      obtain ⟨f, hf, rfl⟩ := List.mem_map.1 ho
      exact ⟨f, hf, rfl⟩) hc

/-! ## (c3) the adjacency statement -/

/-- `d'` (a dart of the re-imported map) is the copy of `d` (a dart of the source map) -/
def DartOf : Nat → List (List Nat) → Nat → Nat → Prop
  | _, [], _, _ => False
  | s, o :: os, d', d => (∃ i, i < o.length ∧ d' = s + i ∧ d = o.getD i 0) ∨ DartOf (s + o.length) os d' d

/-- no crack: no two 2-free darts run between the same two vertices in opposite directions -/
def NoCrack (m : Map Val) : Prop :=
  ∀ d e, C01.InUse m d → C01.InUse m e → m.β 2 d = 0 → m.β 2 e = 0 →
    vid m d = vid m (m.β 1 e) → vid m (m.β 1 d) = vid m e → False

theorem dartOf_iff : ∀ (ws : List (List Nat)) (s d' d : Nat), DartOf s ws d' d ↔
    s ≤ d' ∧ ws.flatten[d' - s]? = some d := by
  intro ws
  induction ws with
  | nil => intro s d' d; simp [DartOf]
  | cons o os ih =>
      intro s d' d
      rw [DartOf, ih, List.flatten_cons]
      constructor
      · rintro (⟨i, hi, rfl, rfl⟩ | ⟨h1, h2⟩)
        · rw [Nat.add_sub_cancel_left, List.getElem?_append_left hi, List.getD_eq_getElem?_getD,
            List.getElem?_eq_getElem hi]
          exact ⟨by omega, rfl⟩
        · rw [List.getElem?_append_right (by omega), ← Nat.sub_add_eq]
          exact ⟨by omega, h2⟩
      · rintro ⟨h1, h2⟩
        by_cases c : d' - s < o.length
        · rw [List.getElem?_append_left c] at h2
          exact .inl ⟨d' - s, c, by omega, by rw [List.getD_eq_getElem?_getD, h2]; rfl⟩
        · rw [List.getElem?_append_right (by omega), ← Nat.sub_add_eq] at h2
          exact .inr ⟨by omega, h2⟩

theorem dartOf_ge : ∀ (ws : List (List Nat)) (s d' d : Nat), DartOf s ws d' d → s ≤ d' := by
  intro ws s d' d h
  exact ((dartOf_iff ws s d' d).1 h).1

theorem dartOf_fun : ∀ (ws : List (List Nat)) (s d' d1 d2 : Nat), DartOf s ws d' d1 → DartOf s ws d' d2 →
    d1 = d2 := by
  intro ws s d' d1 d2 h1 h2
  rw [dartOf_iff] at h1 h2
  exact Option.some.inj (h1.2.symm.trans h2.2)

theorem dartOf_mem : ∀ (ws : List (List Nat)) (s d' d : Nat), DartOf s ws d' d → d ∈ ws.flatten := by
  intro ws s d' d h
  exact List.mem_of_getElem? ((dartOf_iff ws s d' d).1 h).2

theorem side_at {m : Map Val} (hE : Exportable m) {f : Nat} (hf : f ∈ iterFaces2 m) {i : Nat}
    (hi : i < (walkOf m f).length) :
    (((walkOf m f).map (ptD m)).getD i 0,
      ((walkOf m f).map (ptD m)).getD ((i + 1) % ((walkOf m f).map (ptD m)).length) 0) =
      sideD m ((walkOf m f).getD i 0) := by
  obtain ⟨_, hh, _, hwalk, _, hcl⟩ := walk_facts hE hf
  have hmod : (i + 1) % (walkOf m f).length < (walkOf m f).length := Nat.mod_lt _ (by omega)
  simp only [List.length_map]
  rw [getD_map_ptD m _ hi, getD_map_ptD m _ hmod, walk_cyclic hwalk hh hcl i hi]
  rfl

theorem dartOf_sideOf {m : Map Val} (hE : Exportable m) :
    ∀ (ws : List (List Nat)) (s d' d : Nat), (∀ o, o ∈ ws → ∃ f, f ∈ iterFaces2 m ∧ o = walkOf m f) →
      DartOf s ws d' d → SideOf s (ws.map (fun o => o.map (ptD m))) d' (sideD m d) := by
  intro ws
  induction ws with
  | nil => intro s d' d _ h; exact h.elim
  | cons o os ih =>
      intro s d' d hw h
      obtain ⟨f, hf, rfl⟩ := hw _ List.mem_cons_self
      simp only [List.map_cons]
      rcases h with ⟨i, hi, rfl, rfl⟩ | h
      · exact Or.inl ⟨i, by simpa using hi, rfl, (side_at hE hf hi).symm⟩
      · refine Or.inr ?_
        simp only [List.length_map]
        exact ih _ d' d (fun o' ho' => hw o' (List.mem_cons_of_mem _ ho')) h

theorem sideOf_dartOf {m : Map Val} (hE : Exportable m) :
    ∀ (ws : List (List Nat)) (s d' : Nat) (k : Nat × Nat),
      (∀ o, o ∈ ws → ∃ f, f ∈ iterFaces2 m ∧ o = walkOf m f) →
      SideOf s (ws.map (fun o => o.map (ptD m))) d' k → ∃ d, DartOf s ws d' d ∧ k = sideD m d := by
  intro ws
  induction ws with
  | nil => intro s d' k _ h; exact h.elim
  | cons o os ih =>
      intro s d' k hw h
      obtain ⟨f, hf, rfl⟩ := hw _ List.mem_cons_self
      simp only [List.map_cons] at h
      rcases h with ⟨i, hi, rfl, rfl⟩ | h
      · have hi' : i < (walkOf m f).length := by simpa using hi
        exact ⟨_, Or.inl ⟨i, hi', rfl, rfl⟩, side_at hE hf hi'⟩
      · simp only [List.length_map] at h
        obtain ⟨d, hd, hk⟩ := ih _ d' k (fun o' ho' => hw o' (List.mem_cons_of_mem _ ho')) h
        exact ⟨d, Or.inr hd, hk⟩

theorem walks_good (m : Map Val) : ∀ o, o ∈ walks m → ∃ f, f ∈ iterFaces2 m ∧ o = walkOf m f := by
  intro o ho
  unfold walks at ho
  obtain ⟨f, hf, rfl⟩ := List.mem_map.1 ho
  exact ⟨f, hf, rfl⟩

theorem pointOf_eq {m : Map Val} (hwf : WF 3 m) {d : Nat} (hd : C01.InUse m d) :
    pointOf m (iterVertices2 m) d = indexIn (iterVertices2 m) (vid m d) := by
  unfold pointOf vidNT
  rw [(C03_vertexId2_min hwf hd.1 hd.2.1).1]

theorem ptD_of_vid {m : Map Val} (hwf : WF 3 m) {d e : Nat} (hd : C01.InUse m d) (he : C01.InUse m e)
    (h : vid m d = vid m e) : ptD m d = ptD m e := by
  unfold ptD
  rw [pointOf_eq hwf hd, pointOf_eq hwf he, h]

theorem vid_beta2 {m : Map Val} (hwf : WF 3 m) {d : Nat} (hd : C01.InUse m d)
    (h1 : m.β 1 (m.β 2 d) ≠ 0) : vid m d = vid m (m.β 1 (m.β 2 d)) := by
  have hx : m.β 2 d < m.n := hwf.range 2 (by omega) d hd.2.1
  have hy : m.β 1 (m.β 2 d) < m.n := hwf.range 1 (by omega) _ hx
  refine ((C03_same_id_iff_same_cell hwf (pol := .vertex) trivial hd.1 hd.2.1 h1 hy).1).2 ?_
  exact Reach.single (by simp [g2])

/-- the two darts of a 2-sewn pair run between the same two vertices in opposite directions -/
theorem opposite_of_beta2 {m : Map Val} (hE : Exportable m) {d : Nat} (hd : C01.InUse m d) (h2 : m.β 2 d ≠ 0) :
    vid m d = vid m (m.β 1 (m.β 2 d)) ∧ vid m (m.β 1 d) = vid m (m.β 2 d) := by
  have hwf := hE.wf
  have hx := C01.inUse_image hwf (by omega) (by omega) hd.2.1 h2
  have hinv := (hwf.invol 2 (by omega) (by omega) d hd.2.1 h2).1
  refine ⟨vid_beta2 hwf hd (hE.closed _ hx), ?_⟩
  have := vid_beta2 hwf hx (by rw [hinv]; exact hE.closed d hd)
  rw [hinv] at this
  exact this.symm

theorem ptD_ends_ne {m : Map Val} (hE : Exportable m) {d : Nat} (hd : C01.InUse m d) :
    ptD m d ≠ ptD m (m.β 1 d) := by
  intro h
  have hd1 := C01.inUse_image hE.wf (by omega) (by omega) hd.2.1 (hE.closed d hd)
  have e := ptD_inj hE.wf hd hd1 h
  obtain ⟨x, y, z, hv, _⟩ := ptsE_at hE hd
  have := hE.ends d hd x y z x y z hv (by rw [← e]; exact hv)
  rcases this with h1 | h1 <;> exact h1 rfl

/-- **C11 (c3), adjacency statement of the composition**: on an exportable map WITHOUT CRACK, export
    followed by import glues the copies of two darts exactly when the darts were 2-sewn.  (Without the
    hypothesis the statement is false: `C11_crack_is_sewn`.) -/
theorem C11_roundTrip_adjacency {m : Map Val} (hE : Exportable m) (hnc : NoCrack m) {m' : Map Val}
    (h : roundTrip m = .ok m') {d' d e' e : Nat} (hd : DartOf 1 (walks m) d' d)
    (he : DartOf 1 (walks m) e' e) : m'.β 2 d' = e' ↔ m.β 2 d = e := by
  have hwf := hE.wf
  have himp : importCells (ptsE m) (cellsE m) 0 = .ok m' := by
    unfold roundTrip at h
    rw [C11_export_ok hE] at h
    simp only at h
    rw [← importLegacy_toLegacy]; exact h
  have hdu := inUse_of_walks hE (dartOf_mem _ _ _ _ hd)
  have heu := inUse_of_walks hE (dartOf_mem _ _ _ _ he)
  have hd1 := C01.inUse_image hwf (by omega) (by omega) hdu.2.1 (hE.closed d hdu)
  have he1 := C01.inUse_image hwf (by omega) (by omega) heu.2.1 (hE.closed e heu)
  have sd := dartOf_sideOf hE _ 1 d' d (walks_good m) hd
  have se := dartOf_sideOf hE _ 1 e' e (walks_good m) he
  rw [← faceLists_cellsE] at sd se
  constructor
  · intro hb
    have he'0 : e' ≠ 0 := by have := dartOf_ge _ _ _ _ he; omega
    obtain ⟨_, _, _, _, _, hsound⟩ := C11_import_faces_and_gluing _ _ _ _ himp
    obtain ⟨a, b, s1, s2⟩ := hsound d' (by rw [hb]; exact he'0)
    rw [hb] at s2
    rw [faceLists_cellsE] at s1 s2
    obtain ⟨d1, hd1', k1⟩ := sideOf_dartOf hE _ 1 d' _ (walks_good m) s1
    obtain ⟨e1, he1', k2⟩ := sideOf_dartOf hE _ 1 e' _ (walks_good m) s2
    have := dartOf_fun _ _ _ _ _ hd1' hd
    subst this
    have := dartOf_fun _ _ _ _ _ he1' he
    subst this
    unfold sideD at k1 k2
    simp only [Prod.mk.injEq] at k1 k2
    -- d1 runs a → b, e1 runs b → a
    have v1 : vid m d1 = vid m (m.β 1 e1) := ptD_inj hwf hdu he1 (by rw [← k1.1, ← k2.2])
    have v2 : vid m (m.β 1 d1) = vid m e1 := ptD_inj hwf hd1 heu (by rw [← k1.2, ← k2.1])
    by_cases c : m.β 2 d1 = 0
    · exfalso
      by_cases c' : m.β 2 e1 = 0
      · exact hnc d1 e1 hdu heu c c' v1 v2
      · have hy := C01.inUse_image hwf (by omega) (by omega) heu.2.1 c'
        obtain ⟨o1, o2⟩ := opposite_of_beta2 hE heu c'
        have : m.β 2 e1 = d1 := hE.uniq _ _ hy hdu (o2.symm.trans v1.symm) (o1.symm.trans v2.symm)
        have hinv := (hwf.invol 2 (by omega) (by omega) e1 heu.2.1 c').1
        rw [this] at hinv
        rw [hinv] at c
        exact heu.1 c
    · have hx := C01.inUse_image hwf (by omega) (by omega) hdu.2.1 c
      obtain ⟨o1, o2⟩ := opposite_of_beta2 hE hdu c
      exact hE.uniq _ _ hx heu (o2.symm.trans v2) (o1.symm.trans v1)
  · intro hb
    have c : m.β 2 d ≠ 0 := by rw [hb]; exact heu.1
    obtain ⟨o1, o2⟩ := opposite_of_beta2 hE hdu c
    rw [hb] at o1 o2
    have hswap : sideD m e = ((sideD m d).2, (sideD m d).1) := by
      unfold sideD
      simp only [Prod.mk.injEq]
      exact ⟨ptD_of_vid hwf heu hd1 o2.symm, ptD_of_vid hwf he1 hdu o1.symm⟩
    rw [hswap] at se
    exact C11_import_gluing_complete _ _ _ _ himp (nodup_sides_cellsE hE) (a := (sideD m d).1)
      (b := (sideD m d).2) sd se (ptD_ends_ne hE hdu)

/-! ## the copy is a bijection between the in-use darts of `m` and the darts of `m'` -/

theorem dartOf_total : ∀ (ws : List (List Nat)) (s d' : Nat), s ≤ d' → d' < s + (ws.map List.length).sum →
    ∃ d, DartOf s ws d' d := by
  intro ws s d' h1 h2
  have hl : d' - s < ws.flatten.length := by rw [List.length_flatten]; omega
  exact ⟨_, (dartOf_iff ws s d' _).2 ⟨h1, List.getElem?_eq_getElem hl⟩⟩

theorem dartOf_of_mem : ∀ (ws : List (List Nat)) (s d : Nat), d ∈ ws.flatten → ∃ d', DartOf s ws d' d := by
  intro ws s d h
  obtain ⟨i, hi⟩ := List.mem_iff_getElem?.1 h
  exact ⟨s + i, (dartOf_iff ws s _ d).2 ⟨by omega, by rw [Nat.add_sub_cancel_left]; exact hi⟩⟩

theorem dartOf_inj : ∀ (ws : List (List Nat)) (s d1 d2 d : Nat), ws.flatten.Nodup → DartOf s ws d1 d →
    DartOf s ws d2 d → d1 = d2 := by
  intro ws s d1 d2 d hnd h1 h2
  rw [dartOf_iff] at h1 h2
  have hl := (List.getElem?_eq_some_iff.1 h1.2).1
  have := (List.getElem?_inj hl hnd).1 (h1.2.trans h2.2.symm)
  omega

/-- every in-use dart lies in the walk of its face identifier -/
theorem mem_walks_of_inUse {m : Map Val} (hE : Exportable m) {d : Nat} (hd : C01.InUse m d) :
    d ∈ (walks m).flatten := by
  have hwf := hE.wf
  have hfid : cellId m .face d ∈ iterFaces2 m := (C03_iterFaces2_mem hwf _).2 ⟨d, hd.1, hd.2.1, hd.2.2, rfl⟩
  have hu := mem_iterCells_inUse hfid
  rw [List.mem_flatten]
  refine ⟨walkOf m (cellId m .face d), List.mem_map_of_mem hfid, ?_⟩
  have hin : ∀ y, y ∈ orb m .face (cellId m .face d) → C01.InUse m y := fun y hy =>
    ⟨((mem_orb hwf (pol := .face) trivial hu.1 hu.2.1 y).1 hy).1,
     (C03_orbit2_spec hwf (pol := .face) trivial hu.1 hu.2.1).2.2.2.2.2 y hy,
     C03_orbit_of_in_use_is_in_use hwf (pol := .face) trivial hu.1 hu.2.1 hu.2.2 y hy⟩
  rw [walkOf_eq]
  refine (C03_faceLinear_closed hwf hu.1 hu.2.1 (fun y hy => hE.closed y (hin y hy)) d).2 ?_
  -- the identifier is in the face of `d`, hence `d` in the face of the identifier
  have h1 := (cellId_spec hwf (pol := .face) trivial hd.1 hd.2.1).1
  have hr := ((mem_orb hwf (pol := .face) trivial hd.1 hd.2.1 _).1 h1).2
  exact (mem_orb hwf (pol := .face) trivial hu.1 hu.2.1 d).2 ⟨hd.1, reach_symm hwf (pol := .face) trivial hd.2.1 hu.1 hr⟩

/-- **C11 (c4)**: "is the copy of" is a bijection between the darts `1 … n' - 1` of the re-imported map
    and the in-use darts of the source map.  With (c2) and (c3): an isomorphism for β1, β2 and the vertex
    coordinates. -/
theorem C11_roundTrip_bijection {m : Map Val} (hE : Exportable m) :
    (∀ d', 1 ≤ d' → d' < 1 + ((walks m).map List.length).sum → ∃ d, DartOf 1 (walks m) d' d) ∧
    (∀ d' d1 d2, DartOf 1 (walks m) d' d1 → DartOf 1 (walks m) d' d2 → d1 = d2) ∧
    (∀ d' d, DartOf 1 (walks m) d' d → C01.InUse m d) ∧
    (∀ d, C01.InUse m d → ∃ d', DartOf 1 (walks m) d' d) ∧
    (∀ d1 d2 d, DartOf 1 (walks m) d1 d → DartOf 1 (walks m) d2 d → d1 = d2) :=
  ⟨fun d' h1 h2 => dartOf_total _ 1 d' h1 h2,
   fun d' d1 d2 => dartOf_fun _ 1 d' d1 d2,
   fun _ _ h => inUse_of_walks hE (dartOf_mem _ _ _ _ h),
   fun d hd => dartOf_of_mem _ 1 d (mem_walks_of_inUse hE hd),
   fun d1 d2 d => dartOf_inj _ 1 d1 d2 d (walks_nodup hE)⟩

/-! ## non-vacuity: a decidable sufficient condition, and the mesh `exMap` -/

def isPt : Option Val → Bool
  | some (.pt _ _ _) => true
  | _ => false

def endsOK : Option Val → Option Val → Bool
  | some (.pt x y _), some (.pt x' y' _) => decide (x ≠ x' ∨ y ≠ y')
  | _, _ => true

theorem exists_of_isPt {o : Option Val} (h : isPt o = true) : ∃ x y z, o = some (.pt x y z) := by
  match o with
  | some (.pt x y z) => exact ⟨x, y, z, rfl⟩
  | some (.tm _) => simp [isPt] at h
  | none => simp [isPt] at h

theorem endsOK_pt {x y z x' y' z' : Rat} :
    endsOK (some (.pt x y z)) (some (.pt x' y' z')) = true ↔ x ≠ x' ∨ y ≠ y' := by
  simp [endsOK]

def ClosedB (m : Map Val) : Prop := ∀ d, d < m.n → C01.InUse m d → m.β 1 d ≠ 0
def BigB (m : Map Val) : Prop := ∀ f, f ∈ iterFaces2 m → 3 ≤ (walkOf m f).length
def ValsB (m : Map Val) : Prop := ∀ v, v ∈ iterVertices2 m → isPt (m.att 0 v) = true
def UniqB (m : Map Val) : Prop :=
  ∀ d, d < m.n → ∀ e, e < m.n → C01.InUse m d → C01.InUse m e → vid m d = vid m e →
    vid m (m.β 1 d) = vid m (m.β 1 e) → d = e
def EndsB (m : Map Val) : Prop :=
  ∀ d, d < m.n → C01.InUse m d → endsOK (m.att 0 (vid m d)) (m.att 0 (vid m (m.β 1 d))) = true

instance (m : Map Val) : Decidable (ClosedB m) := by unfold ClosedB; exact inferInstance
instance (m : Map Val) : Decidable (BigB m) := by unfold BigB; exact inferInstance
instance (m : Map Val) : Decidable (ValsB m) := by unfold ValsB; exact inferInstance
set_option synthInstance.maxSize 4096 in
set_option synthInstance.maxHeartbeats 400000 in
instance (m : Map Val) : Decidable (UniqB m) := by unfold UniqB; exact inferInstance
instance (m : Map Val) : Decidable (EndsB m) := by unfold EndsB; exact inferInstance

/-- the hypotheses of the composition theorem with bounded quantifiers -/
def ExportableB (m : Map Val) : Prop :=
  WF 3 m ∧ ClosedB m ∧ BigB m ∧ ValsB m ∧ UniqB m ∧ EndsB m

instance (m : Map Val) : Decidable (ExportableB m) := by unfold ExportableB; exact inferInstance

theorem exportable_of_B {m : Map Val} (h : ExportableB m) : Exportable m := by
  obtain ⟨h1, h2, h3, h4, h5, h6⟩ := h
  refine ⟨h1, fun d hd => h2 d hd.2.1 hd, h3, ?_, fun d e hd he => h5 d hd.2.1 e he.2.1 hd he, ?_⟩
  · exact fun v hv => exists_of_isPt (h4 v hv)
  · intro d hd x y z x' y' z' e1 e2
    have := h6 d hd.2.1 hd
    rw [e1, e2] at this
    exact endsOK_pt.1 this

def NoCrackB (m : Map Val) : Prop :=
  ∀ d, d < m.n → ∀ e, e < m.n → C01.InUse m d → C01.InUse m e → m.β 2 d = 0 → m.β 2 e = 0 →
    vid m d = vid m (m.β 1 e) → vid m (m.β 1 d) = vid m e → False

set_option synthInstance.maxSize 4096 in
set_option synthInstance.maxHeartbeats 400000 in
instance (m : Map Val) : Decidable (NoCrackB m) := by unfold NoCrackB; exact inferInstance

theorem noCrack_of_B {m : Map Val} (h : NoCrackB m) : NoCrack m :=
  fun d e hd he => h d hd.2.1 e he.2.1 hd he

/-- two triangles glued along a side: an exportable mesh without crack … -/
def twoTri : Map Val := okGet (importCells exPts [⟨5, [0, 1, 2]⟩, ⟨5, [0, 2, 3]⟩] 0)
theorem twoTri_eval : ExportableB twoTri ∧ NoCrackB twoTri ∧ walks twoTri = [[1, 2, 3], [4, 5, 6]] ∧
    twoTri.β 2 3 = 4 ∧
    exportPiece twoTri = .ok ([.pt 0 0 0, .pt 1 0 0, .pt 1 1 0, .pt 0 1 0],
      [⟨3, [0, 1]⟩, ⟨3, [1, 2]⟩, ⟨3, [2, 3]⟩, ⟨3, [3, 0]⟩, ⟨5, [0, 1, 2]⟩, ⟨5, [0, 2, 3]⟩]) := by
  decide +kernel
theorem twoTri_roundTrip : isOk (roundTrip twoTri) = true := by
  rw [roundTrip_of_export twoTri_eval.2.2.2.2]
  decide +kernel

theorem twoTri_exportable : Exportable twoTri := exportable_of_B twoTri_eval.1
theorem twoTri_noCrack : NoCrack twoTri := noCrack_of_B twoTri_eval.2.1
example : walks twoTri = [[1, 2, 3], [4, 5, 6]] := twoTri_eval.2.2.1
example : twoTri.β 2 3 = 4 := twoTri_eval.2.2.2.1
example : roundTrip twoTri = .ok (okGet (roundTrip twoTri)) := eq_ok_of_isOk twoTri_roundTrip
/-- … its darts 3 and 4 are copied to darts 3 and 4, which are glued again -/
example : (okGet (roundTrip twoTri)).β 2 3 = 4 :=
  (C11_roundTrip_adjacency twoTri_exportable twoTri_noCrack (eq_ok_of_isOk twoTri_roundTrip)
    (d' := 3) (d := 3) (e' := 4) (e := 4)
    (by rw [twoTri_eval.2.2.1]; exact Or.inl ⟨2, by decide, rfl, rfl⟩)
    (by rw [twoTri_eval.2.2.1]
        exact Or.inr (Or.inl ⟨0, by decide, rfl, rfl⟩))).2 twoTri_eval.2.2.2.1
/-- the cracked mesh of the known finding is exportable but HAS a crack -/
example : ¬ NoCrackB crackMap :=
  have h := crack_before.2.2
  have hb := C11_crack_is_sewn.2.2.2.2.2
  fun hn => hn 14 h.1.1 5 h.2.1.1 h.1.2 h.2.1.2 hb.1 hb.2.1 h.2.2.1 h.2.2.2

end HC.C11

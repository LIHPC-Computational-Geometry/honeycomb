/-
  C03 (2-D part) — orbits, cell identifiers and cell iterators agree with the orbit definition.

  For every 2-map `m` with `WF 3 m` and every non-null existing dart `d`:

  * `C03_orbit2_spec`            `orbit_transac` under every 2-D policy (incl. every `Custom` β list) returns,
                                 without touching the map, the dart first, then exactly the non-null darts
                                 reachable through the policy's images, each once; volume policies panic
  * `C03_images_inverse_closed`, `C03_orbit2_is_cell`
                                 for Vertex / Edge / Face the images are closed under inverse, so the orbit is
                                 the equivalence class under "images and their inverses" (`SameCell`)
  * `C03_vertexId2_min`, `C03_edgeId2_min`, `C03_faceId2_min`
                                 the identifiers are the minimum of the cell (the edge shortcut included)
  * `C03_same_id_iff_same_cell`  equal identifiers ⇔ same cell
  * `C03_iter_sorted`, `C03_iterVertices2_mem`, `C03_iterEdges2_mem`, `C03_iterFaces2_mem`
                                 the iterators are strictly increasing and yield exactly the identifiers of the
                                 in-use darts
  * `C03_faceLinear_closed`, `C03_vertexLinear_closed`
                                 one-directional policies give the whole cell on closed cells
  * `C03_transactional_eq_plain` the transactional variant (through `atomically`, and through the transaction
                                 log `atomicallyLog`) returns what the direct run returns and publishes nothing

  The 3-D clauses of C03 are in Props/C03b.lean.
-/
import Honeycomb.Lemmas.Bfs
import Honeycomb.Lemmas.WFLink
import Honeycomb.Lemmas.MapLawful
import Honeycomb.Model.Val
import Honeycomb.Props.C01


namespace HC.C03
open HC
variable {X : Type}

/-! ## the images of a dart under a 2-D policy, as a pure function of the map -/

/-- images examined for dart `x` (same order as `gen2`, i.e. as `orbit_transac`) -/
def g2 (m : Map X) : Policy → Nat → List Nat
  | .vertex, x => [m.β 1 (m.β 2 x), m.β 2 (m.β 0 x)]
  | .vertexLinear, x => [m.β 1 (m.β 2 x)]
  | .edge, x => [m.β 2 x]
  | .face, x => [m.β 1 x, m.β 0 x]
  | .faceLinear, x => [m.β 1 x]
  | .custom bs, x => bs.map (fun i => m.β i x)
  | .volume, _ => []
  | .volumeLinear, _ => []

/-- policies a 2-map accepts: no volume policy, custom β indices below 3 -/
def PolOK : Policy → Prop
  | .volume => False
  | .volumeLinear => False
  | .custom bs => ∀ b, b ∈ bs → b < 3
  | _ => True

instance : (pol : Policy) → Decidable (PolOK pol)
  | .volume => isFalse id
  | .volumeLinear => isFalse id
  | .custom bs => inferInstanceAs (Decidable (∀ b, b ∈ bs → b < 3))
  | .vertex => isTrue trivial
  | .vertexLinear => isTrue trivial
  | .edge => isTrue trivial
  | .face => isTrue trivial
  | .faceLinear => isTrue trivial

/-- the policies whose images are closed under inverse -/
def Sym : Policy → Prop
  | .vertex => True
  | .edge => True
  | .face => True
  | _ => False

theorem Sym.ok {pol : Policy} (h : Sym pol) : PolOK pol := by
  cases pol <;> first | trivial | exact h.elim

/-- the orbit as a pure function: the BFS of `Lemmas/Bfs.lean` over `g2` -/
def orb (m : Map X) (pol : Policy) (d : Nat) : List Nat :=
  bfsPure (g2 m pol) (m.n + 1) [d] [0, d] []

/-- the cell identifier as a pure function -/
def cellId (m : Map X) (pol : Policy) (d : Nat) : Nat := listMin (orb m pol d) d

/-! ## images, orbits and identifiers only depend on the topology -/

theorem g2_sameTopo {m m' : Map X} (st : SameTopo m m') (pol : Policy) : g2 m' pol = g2 m pol := by
  funext x
  cases pol <;> simp only [g2, st.β]

theorem orb_sameTopo {m m' : Map X} (st : SameTopo m m') (pol : Policy) (x : Nat) :
    orb m' pol x = orb m pol x := by
  unfold orb; rw [g2_sameTopo st, st.n]

theorem cellId_sameTopo {m m' : Map X} (st : SameTopo m m') (pol : Policy) (x : Nat) :
    cellId m' pol x = cellId m pol x := by
  unfold cellId; rw [orb_sameTopo st]

/-! ## `gen2` computes `g2` -/

/-- the `Custom` loop of `gen2` / `gen3`: β indices below `k` are read in turn, any other index is
    refused (`beta_rt_transac`: `assert!(i < k)`) -/
theorem run_customGo {k x : Nat} {m : Map X} {go : List Nat → List Nat → P X (List Nat)}
    (hnil : ∀ acc, go [] acc = pure acc)
    (hcons : ∀ i is acc, go (i :: is) acc =
      if i < k then (rB i x).bind fun im => go is (acc ++ [im]) else Prog.panic)
    (hok : ∀ i, i < k → m.okβ i x = true) (bs : List Nat) : ∀ acc : List Nat,
    ((∀ b, b ∈ bs → b < k) → run (go bs acc) m = (.ok (acc ++ bs.map (fun i => m.β i x)), m)) ∧
    ((∃ b, b ∈ bs ∧ k ≤ b) → run (go bs acc) m = (.panic, m)) := by
  induction bs with
  | nil =>
      intro acc
      refine ⟨fun _ => by rw [hnil]; simp, ?_⟩
      rintro ⟨b, hb, _⟩
      cases hb
  | cons i is ih =>
      intro acc
      rw [hcons]
      by_cases hi : i < k
      · rw [if_pos hi, run_rB, hok i hi, if_pos rfl]
        refine ⟨fun hb => ?_, ?_⟩
        · rw [(ih _).1 fun b hb' => hb b (List.mem_cons_of_mem _ hb')]
          simp
        · rintro ⟨b, hb1, hb2⟩
          rcases List.mem_cons.1 hb1 with rfl | hb1
          · omega
          · exact (ih _).2 ⟨b, hb1, hb2⟩
      · rw [if_neg hi, run_panic]
        exact ⟨fun hb => absurd (hb i List.mem_cons_self) hi, fun _ => rfl⟩

theorem run_gen2 {m : Map X} (h : WF 3 m) {pol : Policy} (hp : PolOK pol) {x : Nat} (hx : x < m.n) :
    run (gen2 (X := X) pol x) m = (.ok (g2 m pol x), m) := by
  have r : ∀ i, i < 3 → ∀ y, y < m.n → m.β i y < m.n := fun i hi y hy => h.range i hi y hy
  cases pol with
  | volume => exact hp.elim
  | volumeLinear => exact hp.elim
  | custom bs =>
      have := (run_customGo (go := gen2.go x) (fun _ => rfl) (fun _ _ _ => rfl)
        (fun i hi => h.okβ_of_lt hi hx) bs []).1 hp
      simpa [gen2, g2] using this
  | _ => simp only [gen2, g2, Prog.bind_eq, Prog.pure_eq, h.run_rB, run_ret, hx, r, Nat.reduceLT]

/-! ## facts about `g2` on well-formed maps -/

theorem g2_form {m : Map X} {pol : Policy} (hp : PolOK pol) {x y : Nat} (hy : y ∈ g2 m pol x) :
    (∃ i, i < 3 ∧ y = m.β i x) ∨ ∃ i j, i < 3 ∧ j < 3 ∧ y = m.β i (m.β j x) := by
  cases pol with
  | vertex =>
      simp only [g2, List.mem_cons, List.not_mem_nil, or_false] at hy
      rcases hy with rfl | rfl
      · exact Or.inr ⟨1, 2, by omega, by omega, rfl⟩
      · exact Or.inr ⟨2, 0, by omega, by omega, rfl⟩
  | vertexLinear =>
      simp only [g2, List.mem_singleton] at hy
      exact Or.inr ⟨1, 2, by omega, by omega, hy⟩
  | edge => simp only [g2, List.mem_singleton] at hy; exact Or.inl ⟨2, by omega, hy⟩
  | face =>
      simp only [g2, List.mem_cons, List.not_mem_nil, or_false] at hy
      rcases hy with rfl | rfl
      · exact Or.inl ⟨1, by omega, rfl⟩
      · exact Or.inl ⟨0, by omega, rfl⟩
  | faceLinear => simp only [g2, List.mem_singleton] at hy; exact Or.inl ⟨1, by omega, hy⟩
  | volume => exact hp.elim
  | volumeLinear => exact hp.elim
  | custom bs =>
      simp only [g2, List.mem_map] at hy
      obtain ⟨i, hi, e⟩ := hy
      exact Or.inl ⟨i, hp i hi, e.symm⟩

theorem g2_null {m : Map X} (h : WF 3 m) (pol : Policy) (hp : PolOK pol) :
    ∀ y, y ∈ g2 m pol 0 → y = 0 := by
  intro y hy
  rcases g2_form hp hy with ⟨i, hi, rfl⟩ | ⟨i, j, hi, hj, rfl⟩
  · exact h.null i hi
  · rw [h.null j hj]; exact h.null i hi

theorem g2_range {m : Map X} (h : WF 3 m) (pol : Policy) (hp : PolOK pol) :
    ∀ a, a < m.n → ∀ y, y ∈ g2 m pol a → y < m.n := by
  intro a ha y hy
  rcases g2_form hp hy with ⟨i, hi, rfl⟩ | ⟨i, j, hi, hj, rfl⟩
  · exact h.range i hi a ha
  · exact h.range i hi _ (h.range j hj a ha)

theorem g2_ok {m : Map X} (h : WF 3 m) (pol : Policy) (hp : PolOK pol) : GenOK (g2 m pol) m.n :=
  ⟨g2_null h pol hp, g2_range h pol hp⟩

theorem g2_image_inUse {m : Map X} (h : WF 3 m) {pol : Policy} (hp : PolOK pol) {b x : Nat} (hb : b < m.n)
    (hx : x ∈ g2 m pol b) (hx0 : x ≠ 0) : m.unused x = false := by
  cases hu : m.unused x with
  | false => rfl
  | true =>
      exfalso
      rcases g2_form hp hx with ⟨i, hi, rfl⟩ | ⟨i, j, hi, hj, rfl⟩
      · exact hx0 (C01.C01_unused_is_nobodys_image h i hi b hb hu)
      · exact hx0 (C01.C01_unused_is_nobodys_image h i hi _ (h.range j hj b hb) hu)

/-! ## orbits -/

/-- **C03, the generic BFS lemma** (DESIGN.md A2), restated from `Lemmas/Bfs.lean`: for *any* image
    generator `gen` that returns `g x` on every dart `x < n` without changing the map, with images
    `< n` and an inert null dart, `orbitWith n gen d` (the BFS shared by `orbit_transac`,
    `vertex_id_transac`, `face_id_transac`, with fuel `n + 1`) returns from a non-null start `d < n`:
    `d` first, no duplicates, never 0, exactly the non-null darts reachable from `d`, all `< n` -/
theorem C03_generic_bfs {g : Nat → List Nat} {n d : Nat} {gen : Nat → P X (List Nat)} {m : Map X}
    (hgen : ∀ x, x < n → run (gen x) m = (.ok (g x), m))
    (h0 : ∀ y, y ∈ g 0 → y = 0) (hr : ∀ a, a < n → ∀ y, y ∈ g a → y < n)
    (hd0 : d ≠ 0) (hd : d < n) :
    ∃ out, run (orbitWith n gen d) m = (.ok out, m) ∧
      out.head? = some d ∧ out.Nodup ∧ 0 ∉ out ∧ (∀ x, x ∈ out ↔ (x ≠ 0 ∧ Reach g d x)) ∧
      ∀ x, x ∈ out → x < n :=
  ⟨_, run_orbitWith hgen hr hd0 hd, bfsPure_spec h0 hr hd0 hd⟩

/-- **C03, orbits**: on a well-formed 2-map, for every admissible policy and every non-null existing
    dart `d`, `orbit_transac` succeeds, leaves the map unchanged and yields `d` first, then every
    non-null dart reachable through the policy's images exactly once; all yielded darts exist -/
theorem C03_orbit2_spec {m : Map X} (h : WF 3 m) {pol : Policy} (hp : PolOK pol) {d : Nat}
    (hd0 : d ≠ 0) (hd : d < m.n) :
    run (orbit2 (X := X) m.n pol d) m = (.ok (orb m pol d), m) ∧
    (orb m pol d).head? = some d ∧ (orb m pol d).Nodup ∧ 0 ∉ orb m pol d ∧
    (∀ x, x ∈ orb m pol d ↔ (x ≠ 0 ∧ Reach (g2 m pol) d x)) ∧
    ∀ x, x ∈ orb m pol d → x < m.n :=
  ⟨run_orbitWith (fun _ hx => run_gen2 h hp hx) (g2_range h pol hp) hd0 hd,
   orbG_spec (g2_ok h pol hp) hd0 hd⟩

theorem mem_orb {m : Map X} (h : WF 3 m) {pol : Policy} (hp : PolOK pol) {d : Nat}
    (hd0 : d ≠ 0) (hd : d < m.n) (x : Nat) :
    x ∈ orb m pol d ↔ (x ≠ 0 ∧ Reach (g2 m pol) d x) := mem_orbG (g2_ok h pol hp) hd0 hd x

theorem self_mem_orb {m : Map X} (h : WF 3 m) {pol : Policy} (hp : PolOK pol) {d : Nat}
    (hd0 : d ≠ 0) (hd : d < m.n) : d ∈ orb m pol d :=
  self_mem_orbG (g2_ok h pol hp) hd0 hd

/-- the volume policies are refused by a 2-map (`unreachable!`/panic), whatever the dart -/
theorem C03_orbit2_volume_panics (m : Map X) (d : Nat) :
    run (orbit2 (X := X) m.n .volume d) m = (.panic, m) ∧
    run (orbit2 (X := X) m.n .volumeLinear d) m = (.panic, m) := by
  constructor <;> rfl

/-- a `Custom` policy naming a β index `≥ 3` is refused as well -/
theorem C03_orbit2_custom_bad_panics {m : Map X} (h : WF 3 m) {bs : List Nat}
    (hb : ∃ b, b ∈ bs ∧ 3 ≤ b) {d : Nat} (hd : d < m.n) :
    run (orbit2 (X := X) m.n (.custom bs) d) m = (.panic, m) := by
  unfold orbit2 orbitWith bfs
  show run ((gen2 (.custom bs) d).bind _) m = _
  rw [run_bind]
  have : run (gen2 (X := X) (.custom bs) d) m = (.panic, m) := by
    simpa [gen2] using (run_customGo (go := gen2.go d) (fun _ => rfl) (fun _ _ _ => rfl)
      (fun i hi => h.okβ_of_lt hi hd) bs []).2 hb
  rw [this]

/-! ## Vertex / Edge / Face: images closed under inverse, the orbit is the cell -/

/-- **C03, inverse-closedness**: under the Vertex, Edge and Face policies every non-null image `y`
    of an existing dart `x` has `x` among its own images -/
theorem C03_images_inverse_closed {m : Map X} (h : WF 3 m) {pol : Policy} (hs : Sym pol) :
    InvClosed (g2 m pol) m.n := by
  intro x hx y hy hy0
  cases pol with
  | vertex =>
      simp only [g2, List.mem_cons, List.not_mem_nil, or_false] at hy ⊢
      rcases hy with hy | hy
      · exact Or.inr (h.toWFβ.back2 (i := 1) (j := 2) (by omega) (by omega) hx hy0 hy)
      · exact Or.inl (h.toWFβ.back2 (i := 2) (j := 0) (by omega) (by omega) hx hy0 hy)
  | edge =>
      simp only [g2, List.mem_singleton] at hy ⊢
      exact h.toWFβ.back1 (i := 2) (by omega) hx hy0 hy
  | face =>
      simp only [g2, List.mem_cons, List.not_mem_nil, or_false] at hy ⊢
      rcases hy with hy | hy
      · exact Or.inr (h.toWFβ.back1 (i := 1) (by omega) hx hy0 hy)
      · exact Or.inl (h.toWFβ.back1 (i := 0) (by omega) hx hy0 hy)
  | vertexLinear => exact hs.elim
  | faceLinear => exact hs.elim
  | volume => exact hs.elim
  | volumeLinear => exact hs.elim
  | custom bs => exact hs.elim

theorem reach_symm {m : Map X} (h : WF 3 m) {pol : Policy} (hs : Sym pol) {d e : Nat}
    (hd : d < m.n) (he0 : e ≠ 0) (hr : Reach (g2 m pol) d e) : Reach (g2 m pol) e d :=
  reach_symmG (g2_ok h pol hs.ok) (C03_images_inverse_closed h hs) hd he0 hr

/-- **C03, the orbit is the cell**: under Vertex / Edge / Face the orbit of `d` is exactly the
    equivalence class of `d` under "images and their inverses" (`SameCell` = equivalence closure of
    the image steps between non-null darts) -/
theorem C03_orbit2_is_cell {m : Map X} (h : WF 3 m) {pol : Policy} (hs : Sym pol) {d : Nat}
    (hd0 : d ≠ 0) (hd : d < m.n) (x : Nat) :
    x ∈ orb m pol d ↔ SameCell (g2 m pol) m.n d x :=
  mem_orbG_iff_sameCell (g2_ok h pol hs.ok) (C03_images_inverse_closed h hs) hd0 hd x

/-! ## identifiers -/

theorem cellId_spec {m : Map X} (h : WF 3 m) {pol : Policy} (hp : PolOK pol) {d : Nat}
    (hd0 : d ≠ 0) (hd : d < m.n) :
    cellId m pol d ∈ orb m pol d ∧ ∀ x, x ∈ orb m pol d → cellId m pol d ≤ x :=
  cidG_spec (g2_ok h pol hp) hd0 hd

theorem run_idWith {m : Map X} (h : WF 3 m) {pol : Policy} (hp : PolOK pol) {d : Nat}
    (hd0 : d ≠ 0) (hd : d < m.n) :
    run ((orbitWith m.n (gen2 (X := X) pol) d).bind fun o => pure (listMin o d)) m
      = (.ok (cellId m pol d), m) := by
  rw [run_bind]
  have := (C03_orbit2_spec h hp hd0 hd).1
  unfold orbit2 at this
  rw [this]; rfl

/-- **C03, vertex id**: `vertex_id_transac` returns the smallest dart of the vertex orbit -/
theorem C03_vertexId2_min {m : Map X} (h : WF 3 m) {d : Nat} (hd0 : d ≠ 0) (hd : d < m.n) :
    run (vertexId2 (X := X) m.n d) m = (.ok (cellId m .vertex d), m) ∧
    cellId m .vertex d ∈ orb m .vertex d ∧ ∀ x, x ∈ orb m .vertex d → cellId m .vertex d ≤ x :=
  ⟨run_idWith h (pol := .vertex) trivial hd0 hd, cellId_spec h (pol := .vertex) trivial hd0 hd⟩

/-- **C03, face id**: `face_id_transac` returns the smallest dart of the face orbit -/
theorem C03_faceId2_min {m : Map X} (h : WF 3 m) {d : Nat} (hd0 : d ≠ 0) (hd : d < m.n) :
    run (faceId2 (X := X) m.n d) m = (.ok (cellId m .face d), m) ∧
    cellId m .face d ∈ orb m .face d ∧ ∀ x, x ∈ orb m .face d → cellId m .face d ≤ x :=
  ⟨run_idWith h (pol := .face) trivial hd0 hd, cellId_spec h (pol := .face) trivial hd0 hd⟩

/-- the edge orbit of `d` is `{d}` or `{d, β2 d}` -/
theorem mem_orb_edge {m : Map X} (h : WF 3 m) {d : Nat} (hd0 : d ≠ 0) (hd : d < m.n) (x : Nat) :
    x ∈ orb m .edge d ↔ (x = d ∨ (x = m.β 2 d ∧ m.β 2 d ≠ 0)) := by
  rw [mem_orb h (pol := .edge) trivial hd0 hd]
  constructor
  · rintro ⟨hx0, hx⟩
    have key : x = d ∨ x = m.β 2 d := by
      clear hx0
      induction hx with
      | refl => exact Or.inl rfl
      | tail _ hc ih =>
          rename_i b c
          simp only [g2, List.mem_singleton] at hc
          rcases ih with ih | ih
          · right; rw [hc, ih]
          · by_cases h2 : m.β 2 d = 0
            · right; rw [hc, ih, h2, h.null 2 (by omega)]
            · left; rw [hc, ih]; exact (h.invol 2 (by omega) (by omega) d hd h2).1
    rcases key with k | k
    · exact Or.inl k
    · exact Or.inr ⟨k, by rw [← k]; exact hx0⟩
  · rintro (hx | ⟨hx, hne⟩)
    · subst hx; exact ⟨hd0, .refl _⟩
    · exact ⟨by rw [hx]; exact hne, Reach.single (by simp only [g2, List.mem_singleton]; exact hx)⟩

/-- **C03, edge id**: the shortcut `min d (β2 d)` of `edge_id_transac` is the smallest dart of the
    edge orbit (`{d}` or `{d, β2 d}`) -/
theorem C03_edgeId2_min {m : Map X} (h : WF 3 m) {d : Nat} (hd0 : d ≠ 0) (hd : d < m.n) :
    run (edgeId2 (X := X) d) m = (.ok (cellId m .edge d), m) ∧
    cellId m .edge d ∈ orb m .edge d ∧ (∀ x, x ∈ orb m .edge d → cellId m .edge d ≤ x) ∧
    cellId m .edge d = (if m.β 2 d = 0 then d else min (m.β 2 d) d) := by
  have sp := cellId_spec h (pol := .edge) trivial hd0 hd
  have key : cellId m .edge d = (if m.β 2 d = 0 then d else min (m.β 2 d) d) := by
    apply min_unique sp (l' := orb m .edge d) _ (fun _ => Iff.rfl)
    by_cases h2 : m.β 2 d = 0
    · simp only [h2, if_true]
      refine ⟨(mem_orb_edge h hd0 hd d).2 (Or.inl rfl), ?_⟩
      intro x hx
      rcases (mem_orb_edge h hd0 hd x).1 hx with e | ⟨_, e⟩
      · omega
      · exact absurd h2 e
    · simp only [h2, if_false]
      constructor
      · rcases Nat.le_total (m.β 2 d) d with hle | hle
        · rw [Nat.min_eq_left hle]; exact (mem_orb_edge h hd0 hd _).2 (Or.inr ⟨rfl, h2⟩)
        · rw [Nat.min_eq_right hle]; exact (mem_orb_edge h hd0 hd _).2 (Or.inl rfl)
      · intro x hx
        rcases (mem_orb_edge h hd0 hd x).1 hx with e | ⟨e, _⟩
        · rw [e]; exact Nat.min_le_right _ _
        · rw [e]; exact Nat.min_le_left _ _
  refine ⟨?_, sp.1, sp.2, key⟩
  rw [key]
  unfold edgeId2
  simp only [Prog.bind_eq, Prog.pure_eq, run_rB, h.okβ_of_lt (by omega : 2 < 3) hd, if_true]
  by_cases h2 : m.β 2 d = 0
  · simp only [h2, if_true, run_ret]
  · simp only [h2, if_false, run_ret]

/-- **C03, equal ids ⇔ same cell** (Vertex, Edge, Face): two non-null existing darts have the same
    identifier exactly when one is reachable from the other, i.e. when they lie in the same cell -/
theorem C03_same_id_iff_same_cell {m : Map X} (h : WF 3 m) {pol : Policy} (hs : Sym pol) {d e : Nat}
    (hd0 : d ≠ 0) (hd : d < m.n) (he0 : e ≠ 0) (he : e < m.n) :
    (cellId m pol d = cellId m pol e ↔ Reach (g2 m pol) d e) ∧
    (cellId m pol d = cellId m pol e ↔ SameCell (g2 m pol) m.n d e) :=
  cidG_eq_iff (g2_ok h pol hs.ok) (C03_images_inverse_closed h hs) hd0 hd he0 he

/-- the identifier of a dart is a dart of its cell, so it is its own identifier -/
theorem cellId_idem {m : Map X} (h : WF 3 m) {pol : Policy} (hs : Sym pol) {d : Nat}
    (hd0 : d ≠ 0) (hd : d < m.n) :
    cellId m pol d ≠ 0 ∧ cellId m pol d < m.n ∧ cellId m pol (cellId m pol d) = cellId m pol d :=
  cidG_idem (g2_ok h pol hs.ok) (C03_images_inverse_closed h hs) hd0 hd

/-! ## iterators -/

theorem orbG_in_use {m : Map X} {g : Nat → List Nat} (H : GenOK g m.n)
    (himg : ∀ b, b < m.n → ∀ x, x ∈ g b → x ≠ 0 → m.unused x = false) {d : Nat}
    (hd0 : d ≠ 0) (hd : d < m.n) (hu : m.unused d = false) :
    ∀ x, x ∈ orbG g m.n d → m.unused x = false := by
  intro x hx
  obtain ⟨hx0, hr⟩ := (mem_orbG H hd0 hd x).1 hx
  rcases hr.cases_tail with e | ⟨b, hb, hxb⟩
  · rw [e]; exact hu
  · exact himg b (hb.lt H.range hd) x hxb hx0

/-- the orbit of an in-use dart contains no removed dart (a removed dart is free and nobody's image) -/
theorem C03_orbit_of_in_use_is_in_use {m : Map X} (h : WF 3 m) {pol : Policy} (hp : PolOK pol) {d : Nat}
    (hd0 : d ≠ 0) (hd : d < m.n) (hu : m.unused d = false) :
    ∀ x, x ∈ orb m pol d → m.unused x = false :=
  orbG_in_use (g2_ok h pol hp) (fun _ hb _ hx hx0 => g2_image_inUse h hp hb hx hx0) hd0 hd hu

theorem okVal_ok {α : Type} (a dflt : α) (m : Map X) : okVal ((Out.ok a : Out Err α), m) dflt = a := rfl

theorem mem_iterCells (m : Map X) (idf : Nat → P X Nat) (x : Nat) :
    x ∈ iterCells m idf ↔
      (x < m.n ∧ x ≠ 0 ∧ m.unused x = false ∧ okVal (run (idf x) m) 0 = x) := by
  unfold iterCells
  rw [List.mem_filter, List.mem_range]
  simp only [decide_eq_true_eq, Bool.not_eq_true', ne_eq]

theorem mem_iterCells_inUse {m : Map X} {idf : Nat → P X Nat} {x : Nat} (h : x ∈ iterCells m idf) : C01.InUse m x := by
  obtain ⟨h1, h2, h3, _⟩ := (mem_iterCells m _ x).1 h
  exact ⟨h2, h1, h3⟩

theorem faceId_of_mem_iterFaces {m : Map X} (hwf : WF 3 m) {f : Nat} (hf : f ∈ iterFaces2 m) :
    cellId m .face f = f := by
  obtain ⟨h1, h2, _, h4⟩ := (mem_iterCells m _ f).1 hf
  rw [(C03_faceId2_min hwf h2 h1).1, okVal_ok] at h4
  exact h4

theorem g2_custom1 (m : Map X) : g2 m (.custom [1]) = fun x => [m.β 1 x] := by
  funext x
  rfl

/-- generic iterator lemma: if `idf` computes the cell minimum on the in-use darts and cells of in-use
    darts contain in-use darts only, `iterCells` yields exactly the identifiers of the in-use darts -/
theorem mem_iterCells_gen {m : Map X} {g : Nat → List Nat} (H : GenOK g m.n) (hi : InvClosed g m.n)
    {idf : Nat → P X Nat}
    (hid : ∀ d, d ≠ 0 → d < m.n → m.unused d = false → run (idf d) m = (.ok (cidG g m.n d), m))
    (huse : ∀ d, d ≠ 0 → d < m.n → m.unused d = false → ∀ x, x ∈ orbG g m.n d → m.unused x = false)
    (x : Nat) :
    x ∈ iterCells m idf ↔ ∃ d, d ≠ 0 ∧ d < m.n ∧ m.unused d = false ∧ cidG g m.n d = x := by
  rw [mem_iterCells]
  constructor
  · rintro ⟨hx, hx0, hu, e⟩
    rw [hid x hx0 hx hu, okVal_ok] at e
    exact ⟨x, hx0, hx, hu, e⟩
  · rintro ⟨d, hd0, hd, hu, e⟩
    obtain ⟨k0, klt, kid⟩ := cidG_idem H hi hd0 hd
    have ku := huse d hd0 hd hu _ (cidG_spec H hd0 hd).1
    rw [e] at k0 klt kid ku
    refine ⟨klt, k0, ku, ?_⟩
    rw [hid x k0 klt ku, okVal_ok]; exact kid

theorem mem_iterCells_sym {m : Map X} (h : WF 3 m) {pol : Policy} (hs : Sym pol) {idf : Nat → P X Nat}
    (hid : ∀ d, d ≠ 0 → d < m.n → run (idf d) m = (.ok (cellId m pol d), m)) (x : Nat) :
    x ∈ iterCells m idf ↔ ∃ d, d ≠ 0 ∧ d < m.n ∧ m.unused d = false ∧ cellId m pol d = x :=
  mem_iterCells_gen (g2_ok h pol hs.ok) (C03_images_inverse_closed h hs) (fun d hd0 hd _ => hid d hd0 hd)
    (fun _ hd0 hd hu => C03_orbit_of_in_use_is_in_use h hs.ok hd0 hd hu) x

theorem iterCells_sorted (m : Map X) (idf : Nat → P X Nat) :
    (iterCells m idf).Pairwise (fun a b => a < b) :=
  List.Pairwise.filter _ List.pairwise_lt_range

/-- **C03, iterators are strictly increasing** (hence duplicate-free) -/
theorem C03_iter_sorted (m : Map X) :
    (iterVertices2 m).Pairwise (fun a b => a < b) ∧ (iterEdges2 m).Pairwise (fun a b => a < b) ∧
    (iterFaces2 m).Pairwise (fun a b => a < b) :=
  ⟨iterCells_sorted _ _, iterCells_sorted _ _, iterCells_sorted _ _⟩

/-- **C03, `iter_vertices`** yields exactly the vertex identifiers of the in-use darts -/
theorem C03_iterVertices2_mem {m : Map X} (h : WF 3 m) (x : Nat) :
    x ∈ iterVertices2 m ↔ ∃ d, d ≠ 0 ∧ d < m.n ∧ m.unused d = false ∧ cellId m .vertex d = x :=
  mem_iterCells_sym h (pol := .vertex) trivial (fun _ hd0 hd => (C03_vertexId2_min h hd0 hd).1) x

/-- **C03, `iter_edges`** yields exactly the edge identifiers of the in-use darts -/
theorem C03_iterEdges2_mem {m : Map X} (h : WF 3 m) (x : Nat) :
    x ∈ iterEdges2 m ↔ ∃ d, d ≠ 0 ∧ d < m.n ∧ m.unused d = false ∧ cellId m .edge d = x :=
  mem_iterCells_sym h (pol := .edge) trivial (fun _ hd0 hd => (C03_edgeId2_min h hd0 hd).1) x

/-- **C03, `iter_faces`** yields exactly the face identifiers of the in-use darts -/
theorem C03_iterFaces2_mem {m : Map X} (h : WF 3 m) (x : Nat) :
    x ∈ iterFaces2 m ↔ ∃ d, d ≠ 0 ∧ d < m.n ∧ m.unused d = false ∧ cellId m .face d = x :=
  mem_iterCells_sym h (pol := .face) trivial (fun _ hd0 hd => (C03_faceId2_min h hd0 hd).1) x

/-! ## one-directional policies on closed cells -/

/-- **C03, FaceLinear on closed faces**: if no dart of the face of `d` is 1-free, the β1-only orbit
    has the same darts as the face orbit -/
theorem C03_faceLinear_closed {m : Map X} (h : WF 3 m) {d : Nat} (hd0 : d ≠ 0) (hd : d < m.n)
    (hcl : ∀ x, x ∈ orb m .face d → m.β 1 x ≠ 0) (x : Nat) :
    x ∈ orb m .faceLinear d ↔ x ∈ orb m .face d :=
  orbG_linear_cons (f := m.β 1) (f' := m.β 0) (rest := fun _ => []) (fun _ => rfl) (fun _ => rfl)
    (g2_ok h .face trivial) h.inv01 h.inv10 hd0 hd (Or.inl hcl) x

/-- **C03, VertexLinear on closed vertices**: if `β1 ∘ β2` has no null image on the vertex of `d`
    (the vertex is interior), the one-directional orbit has the same darts as the vertex orbit -/
theorem C03_vertexLinear_closed {m : Map X} (h : WF 3 m) {d : Nat} (hd0 : d ≠ 0) (hd : d < m.n)
    (hcl : ∀ x, x ∈ orb m .vertex d → m.β 1 (m.β 2 x) ≠ 0) (x : Nat) :
    x ∈ orb m .vertexLinear d ↔ x ∈ orb m .vertex d := by
  have z : ∀ i, i < 3 → m.β i 0 = 0 := h.null
  have r : ∀ i, i < 3 → ∀ y, y < m.n → m.β i y < m.n := fun i hi y hy => h.range i hi y hy
  have i2 : ∀ y, y < m.n → m.β 2 y ≠ 0 → m.β 2 (m.β 2 y) = y :=
    fun y hy hne => (h.invol 2 (by omega) (by omega) y hy hne).1
  have hinv : ∀ y, y < m.n → m.β 1 (m.β 2 y) ≠ 0 → m.β 2 (m.β 0 (m.β 1 (m.β 2 y))) = y := by
    intro y hy hne
    have hz0 : m.β 2 y ≠ 0 := by intro e; rw [e, z 1 (by omega)] at hne; exact hne rfl
    rw [h.inv01 _ (r 2 (by omega) y hy) hne]
    exact i2 y hy hz0
  have hinv' : ∀ y, y < m.n → m.β 2 (m.β 0 y) ≠ 0 → m.β 1 (m.β 2 (m.β 2 (m.β 0 y))) = y := by
    intro y hy hne
    have hz0 : m.β 0 y ≠ 0 := by intro e; rw [e, z 2 (by omega)] at hne; exact hne rfl
    rw [i2 _ (r 0 (by omega) y hy) hne]
    exact h.inv10 y hy hz0
  exact orbG_linear_cons (f := fun y => m.β 1 (m.β 2 y)) (f' := fun y => m.β 2 (m.β 0 y))
    (rest := fun _ => []) (fun _ => rfl) (fun _ => rfl) (g2_ok h .vertex trivial) hinv hinv' hd0 hd
    (Or.inl hcl) x

/-! ## transactional variants = plain variants

  In the Rust code `vertex_id(d)` is `atomically(|t| self.vertex_id_transac(t, d))` (same for the other
  identifiers), and `orbit` re-implements `orbit_transac` on committed values.  In the model both are
  the same `P X` program: the transactional one is run inside a caller's transaction (`run`), the plain
  one through `atomically` — by T1 (`T1_atomicallyLog_eq`) also through the transaction log.  The
  programs are read-only, so all three give the same answer and publish nothing.  (That the Rust
  `orbit` iterator really computes what `orbit_transac` computes is a fact about the code: it is
  checked by the correspondence run on `orbit` / `orbitnt` lines.) -/

theorem plain_eq {α : Type} {p : P X α} (hp : ReadOnly p) (m : Map X) :
    atomically p m = run p m ∧ atomicallyLog p m = run p m :=
  ⟨atomically_readOnly hp m, by rw [T1_atomicallyLog_eq]; exact atomically_readOnly hp m⟩

/-- **C03, transactional = plain** (model-level content, see the comment above): running an orbit or
    identifier query as its own transaction — sequentially or through the transaction log — returns
    exactly what the closure returns inside a transaction, and never changes the map -/
theorem C03_transactional_eq_plain (m : Map X) (pol : Policy) (d : Nat) :
    (atomically (orbit2 (X := X) m.n pol d) m = run (orbit2 (X := X) m.n pol d) m ∧
     atomicallyLog (orbit2 (X := X) m.n pol d) m = run (orbit2 (X := X) m.n pol d) m) ∧
    (atomically (vertexId2 (X := X) m.n d) m = run (vertexId2 (X := X) m.n d) m ∧
     atomicallyLog (vertexId2 (X := X) m.n d) m = run (vertexId2 (X := X) m.n d) m) ∧
    (atomically (edgeId2 (X := X) d) m = run (edgeId2 (X := X) d) m ∧
     atomicallyLog (edgeId2 (X := X) d) m = run (edgeId2 (X := X) d) m) ∧
    (atomically (faceId2 (X := X) m.n d) m = run (faceId2 (X := X) m.n d) m ∧
     atomicallyLog (faceId2 (X := X) m.n d) m = run (faceId2 (X := X) m.n d) m) :=
  ⟨plain_eq (readOnly_orbit2 _ _ _) m, plain_eq (readOnly_vertexId2 _ _) m, plain_eq (readOnly_edgeId2 _) m,
   plain_eq (readOnly_faceId2 _ _) m⟩

/-- … in particular on well-formed maps the plain identifiers are the cell minima, too -/
theorem C03_plain_ids {m : Map X} (h : WF 3 m) {d : Nat} (hd0 : d ≠ 0) (hd : d < m.n) :
    atomicallyLog (vertexId2 (X := X) m.n d) m = (.ok (cellId m .vertex d), m) ∧
    atomicallyLog (edgeId2 (X := X) d) m = (.ok (cellId m .edge d), m) ∧
    atomicallyLog (faceId2 (X := X) m.n d) m = (.ok (cellId m .face d), m) := by
  obtain ⟨_, ⟨_, hv⟩, ⟨_, he⟩, ⟨_, hf⟩⟩ := C03_transactional_eq_plain m .vertex d
  rw [hv, he, hf]
  exact ⟨(C03_vertexId2_min h hd0 hd).1, (C03_edgeId2_min h hd0 hd).1, (C03_faceId2_min h hd0 hd).1⟩

/-! ## non-vacuity: the hypotheses are satisfiable and the conclusions are not trivial -/

/-- two triangles 1-2-3 and 4-5-6 glued along the edge 2|4; dart 7 free, dart 8 removed -/
def exM : Map Val :=
  { C01.exMap with
    b := #[#[0, 3, 1, 2, 6, 4, 5, 0, 0], #[0, 2, 3, 1, 5, 6, 4, 0, 0], #[0, 0, 4, 0, 2, 0, 0, 0, 0]] }

/-- a sphere made of two 1-gons (β1 loops) glued along their edge: one interior vertex -/
def exS : Map Val :=
  { (Map.empty 3 1 3 : Map Val) with b := #[#[0, 1, 2], #[0, 1, 2], #[0, 2, 1]] }

theorem exM_wf : WF 3 exM := by decide +kernel
theorem exS_wf : WF 3 exS := by decide +kernel

-- orbits: the start first, inverse images found (5 reaches 2 only through β2∘β0), open cells handled
example : run (orbit2 exM.n .vertex 5) exM = (.ok (orb exM .vertex 5), exM) :=
  (C03_orbit2_spec exM_wf (pol := .vertex) trivial (by decide) (by decide)).1
example : orb exM .vertex 5 = [5, 2] := by decide +kernel
example : orb exM .vertex 1 = [1] := by decide +kernel
example : orb exM .edge 4 = [4, 2] := by decide +kernel
example : orb exM .face 5 = [5, 6, 4] := by decide +kernel
example : orb exM .faceLinear 5 = [5, 6, 4] := by decide +kernel
example : orb exM .vertexLinear 2 = [2, 5] := by decide +kernel
example : orb exM .vertexLinear 5 = [5] := by decide +kernel
example : orb exM (.custom [1, 2]) 1 = [1, 2, 3, 4, 5, 6] := by decide +kernel
example : orb exM (.custom []) 3 = [3] := by decide +kernel
example : PolOK (.custom [2, 1]) := by decide
example : run (orbit2 exM.n (.custom [2, 1]) 1) exM = (.ok (orb exM (.custom [2, 1]) 1), exM) :=
  (C03_orbit2_spec exM_wf (pol := .custom [2, 1]) (by decide) (by decide) (by decide)).1
example : run (orbit2 exM.n (.custom [3]) 1) exM = (.panic, exM) :=
  C03_orbit2_custom_bad_panics exM_wf ⟨3, by decide, by decide⟩ (by decide)

-- the orbit is the cell; reachability is symmetric
example : SameCell (g2 exM .vertex) exM.n 5 2 :=
  (C03_orbit2_is_cell exM_wf (pol := .vertex) trivial (by decide) (by decide) 2).1 (by decide +kernel)
example : InvClosed (g2 exM .face) exM.n := C03_images_inverse_closed exM_wf (pol := .face) trivial

-- identifiers
example : cellId exM .vertex 5 = 2 := by decide +kernel
example : cellId exM .edge 4 = 2 := by decide +kernel
example : cellId exM .face 6 = 4 := by decide +kernel
example : run (vertexId2 exM.n 5) exM = (.ok (cellId exM .vertex 5), exM) :=
  (C03_vertexId2_min exM_wf (by decide) (by decide)).1
example : run (edgeId2 4) exM = (.ok (cellId exM .edge 4), exM) :=
  (C03_edgeId2_min exM_wf (by decide) (by decide)).1
example : run (faceId2 exM.n 6) exM = (.ok (cellId exM .face 6), exM) :=
  (C03_faceId2_min exM_wf (by decide) (by decide)).1
example : Reach (g2 exM .vertex) 5 2 :=
  (C03_same_id_iff_same_cell exM_wf (pol := .vertex) trivial (by decide) (by decide) (by decide)
    (by decide)).1.1 (by decide +kernel)
example : ¬ Reach (g2 exM .vertex) 5 3 := fun hr =>
  absurd ((C03_same_id_iff_same_cell exM_wf (pol := .vertex) trivial (by decide) (by decide) (by decide)
    (by decide)).1.2 hr) (by decide +kernel)

-- iterators (dart 8 is removed, dart 7 is a free in-use dart)
theorem exM_iterVertices : iterVertices2 exM = [1, 2, 3, 6, 7] := by decide +kernel
example : iterVertices2 exM = [1, 2, 3, 6, 7] := exM_iterVertices
example : iterEdges2 exM = [1, 2, 3, 5, 6, 7] := by decide +kernel
example : iterFaces2 exM = [1, 4, 7] := by decide +kernel
example : ∃ d, d ≠ 0 ∧ d < exM.n ∧ exM.unused d = false ∧ cellId exM .vertex d = 2 :=
  (C03_iterVertices2_mem exM_wf 2).1 (by rw [exM_iterVertices]; decide)
example : 4 ∈ iterFaces2 exM :=
  (C03_iterFaces2_mem exM_wf 4).2 ⟨6, by decide, by decide, by decide, by decide +kernel⟩
example : ∀ x, x ∈ orb exM .face 7 → exM.unused x = false :=
  C03_orbit_of_in_use_is_in_use exM_wf (pol := .face) trivial (by decide) (by decide) (by decide)

-- linear policies on closed cells (the triangles are closed faces; `exS` has an interior vertex);
-- the boundary vertex {2, 5} of `exM` shows that the closedness hypothesis cannot be dropped
example : ∀ x, x ∈ orb exM .faceLinear 5 ↔ x ∈ orb exM .face 5 :=
  C03_faceLinear_closed exM_wf (by decide) (by decide) (by decide +kernel)
example : ∀ x, x ∈ orb exS .vertexLinear 1 ↔ x ∈ orb exS .vertex 1 :=
  C03_vertexLinear_closed exS_wf (by decide) (by decide) (by decide +kernel)
example : orb exS .vertex 1 = [1, 2] := by decide +kernel
example : 2 ∈ orb exM .vertex 5 ∧ 2 ∉ orb exM .vertexLinear 5 := by decide +kernel

-- transactional = plain
example : atomicallyLog (vertexId2 exM.n 5) exM = (.ok (cellId exM .vertex 5), exM) :=
  (C03_plain_ids exM_wf (by decide) (by decide)).1

end HC.C03

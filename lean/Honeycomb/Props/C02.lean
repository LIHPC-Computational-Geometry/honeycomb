/-
  C02 — 3-map structural integrity, mirrored 3-sewn faces, refusal of non-mirrorable 3-links.

  Proved here, for every attribute configuration `cfg` (any storages, any laws), on the model
  `Model/Ops3.lean` of `honeycomb-core/src/cmap/dim3/**` (state of /repo AFTER the `fix:` commits
  for D1/D1b — `three_link` re-checks the right-hand walk when the left one ends):

  (1) `C02_step_preserves_WF`, `C02_history_preserves_WF`: from a well-formed 3-map (`WF 4`),
      every public editing call (dart allocation / removal, link, unlink, sew, unsew in
      dimensions 1, 2, 3; transactional and `force_` forms share the closure) made with non-null
      in-use darts — distinct darts for 2- and 3-links/sews — leaves a well-formed 3-map, whether
      the call succeeds, returns an error or panics; hence so does every finite history.
      The lock-step walks of `three_link` / `three_unlink` are handled by ONE induction on their
      fuel (`Lemmas/Link3.lean`, `linkWalk_linked` / `unlinkWalk_unlinked`: the pairs linked / unlinked
      are those of the walks) and well-formedness is read off that description (`Linked3.wf`).  The only
      delicate point is the distinctness of the two darts handed to `three_link_core` inside the walk:
      when both faces are the same face the walk CAN call the core with `lside == rside` (it then
      writes a β3 fixed point) — but the very next round is then necessarily refused (its left dart is
      the right dart linked one round earlier), so no successful call ever publishes such a state.
      This is proved (no extra hypothesis), see `walk_no_fixed`.
  (2) `C02_step_preserves_Mirror`, `C02_history_preserves_WF_and_Mirror`: the mirror condition
      (`Model/WF.lean`, `Mirror`) is preserved by EVERY call, for closed and open faces alike
  (3) `C02_refusal`, `C02_refusal_sew`: if the β1-walk from `ld` and the β0-walk from `rd` do not
      have the same shape (`HasShape`: closed with `L` darts / open with `F` darts ahead and `B`
      behind, the argument dart included) the 3-link / 3-sew does not return `Ok` and the map is
      unchanged; conversely `C02_three_link_checks_shape`: a successful call has verified
      `SameShape`.
  (4) `C02_unused_is_nobodys_image`: removed darts are nobody's image (consequence of `WF 4`).

  NOT COVERED here: (i) the correspondence model ↔ Rust code (tools/props/c02.py), (ii) concurrency
  (C07), (iii) transactions composed of several calls (C08; the closures proved safe here compose:
  `Safe` is about `run`, and as of /repo f79acf8 (DESIGN.md §8-D4) `three_sew` / `three_unsew` walk the
  faces through the transaction, like the model).
-/
import Honeycomb.Lemmas.Sew3
import Honeycomb.Props.C01
import Honeycomb.Model.Val

namespace HC.C02
open HC
variable {X : Type}

/-- public editing calls of `CMap3` (the `force_` variants run the same closure through
    `atomically_with_err`, hence share the constructor) -/
inductive Op3 where
  | link (i l r : Nat)
  | unlink (i l : Nat)
  | sew (i l r : Nat)
  | unsew (i l : Nat)
  | addFreeDarts (k : Nat)
  | insertFreeDart
  | removeFreeDart (d : Nat)
  | removeFreeDartTx (d : Nat)
  deriving Repr, DecidableEq

/-- the transactional closure of a call (`assert!(I < 4); assert_ne!(I, 0)` ⇒ `panic`) -/
def prog (cfg : Cfg X) (n : Nat) : Op3 → P X Unit
  | .link 1 l r => oneLink3 l r
  | .link 2 l r => iLinkCore 2 l r
  | .link 3 l r => threeLink3 n l r
  | .unlink 1 l => oneUnlink3 l
  | .unlink 2 l => iUnlinkCore 2 l
  | .unlink 3 l => threeUnlink3 n l
  | .sew 1 l r => oneSew3 cfg n l r
  | .sew 2 l r => twoSew3 cfg n l r
  | .sew 3 l r => threeSew3 cfg n l r
  | .unsew 1 l => oneUnsew3 cfg n l
  | .unsew 2 l => twoUnsew3 cfg n l
  | .unsew 3 l => threeUnsew3 cfg n l
  | .removeFreeDartTx d => do let _ ← removeFreeDartTx d; pure ()
  | _ => Prog.panic

/-- one public call, as the user observes it (state after the call) -/
def step (cfg : Cfg X) (m : Map X) : Op3 → Map X
  | .addFreeDarts k => (m.addFreeDarts k).2
  | .insertFreeDart => m.insertFreeDart.2
  | .removeFreeDart d => (m.removeFreeDart 4 d).2
  | op => (atomically (prog cfg m.n op) m).2

/-- a non-null, existing, not removed dart -/
def InUse (m : Map X) (d : Nat) : Prop := d ≠ 0 ∧ d < m.n ∧ m.unused d = false

/-- the argument guard of the property -/
def ArgsOK (m : Map X) : Op3 → Prop
  | .link i l r => InUse m l ∧ InUse m r ∧ (i = 2 ∨ i = 3 → l ≠ r)
  | .sew i l r => InUse m l ∧ InUse m r ∧ (i = 2 ∨ i = 3 → l ≠ r)
  | .unlink _ l => InUse m l
  | .unsew _ l => InUse m l
  | .addFreeDarts _ => True
  | .insertFreeDart => True
  | .removeFreeDart d => InUse m d
  | .removeFreeDartTx d => InUse m d ∧ m.isFree 4 d = true

/-- every call of the history has admissible arguments in the state it is applied to -/
def HistoryOK (cfg : Cfg X) : Map X → List Op3 → Prop
  | _, [] => True
  | m, op :: ops => ArgsOK m op ∧ HistoryOK cfg (step cfg m op) ops

instance (m : Map X) (d : Nat) : Decidable (InUse m d) :=
  inferInstanceAs (Decidable (d ≠ 0 ∧ d < m.n ∧ m.unused d = false))

instance (m : Map X) : (op : Op3) → Decidable (ArgsOK m op)
  | .link i l r => inferInstanceAs (Decidable (InUse m l ∧ InUse m r ∧ (i = 2 ∨ i = 3 → l ≠ r)))
  | .sew i l r => inferInstanceAs (Decidable (InUse m l ∧ InUse m r ∧ (i = 2 ∨ i = 3 → l ≠ r)))
  | .unlink _ l => inferInstanceAs (Decidable (InUse m l))
  | .unsew _ l => inferInstanceAs (Decidable (InUse m l))
  | .addFreeDarts _ => isTrue trivial
  | .insertFreeDart => isTrue trivial
  | .removeFreeDart d => inferInstanceAs (Decidable (InUse m d))
  | .removeFreeDartTx d => inferInstanceAs (Decidable (InUse m d ∧ m.isFree 4 d = true))

instance instDecHistoryOK (cfg : Cfg X) : (m : Map X) → (ops : List Op3) → Decidable (HistoryOK cfg m ops)
  | _, [] => isTrue trivial
  | m, op :: ops =>
      @instDecidableAnd _ _ (inferInstanceAs (Decidable (ArgsOK m op))) (instDecHistoryOK cfg (step cfg m op) ops)

/-! ## successful closures preserve WF and the mirror condition -/

/-- `p` keeps the map well-formed — and mirrored if it was — whenever it returns `Ok`, from WF
    states satisfying `Q` -/
def Safe (Q : Map X → Prop) {α : Type} (p : P X α) : Prop :=
  ∀ (m m' : Map X) (a : α), WF 4 m → Q m → run p m = (.ok a, m') → WF 4 m' ∧ (Mirror m → Mirror m')

theorem Safe.mono {Q Q' : Map X → Prop} {α : Type} {p : P X α} (h : Safe Q p) (hq : ∀ m, Q' m → Q m) :
    Safe Q' p := fun m m' a hwf hq' hr => h m m' a hwf (hq m hq') hr

theorem Safe.panic {Q : Map X → Prop} {α : Type} : Safe Q (Prog.panic : P X α) := by
  intro m m' a _ _ h; simp at h

/-- a closure that does on the topology what `q` does (and otherwise only writes attribute
    values) is as safe as `q` -/
theorem Safe.of_topology {Q : Map X → Prop} {α : Type} {p : P X α} {q : P X Unit} (hq : Safe Q q)
    (ht : ∀ (m m' : Map X) (a : α), run p m = (.ok a, m') → ∃ m1, run q m = (.ok (), m1) ∧ SameTopo m1 m') :
    Safe Q p := by
  intro m m' a hwf hQ h
  obtain ⟨m1, h1, st⟩ := ht m m' a h
  obtain ⟨w1, hM⟩ := hq m m1 () hwf hQ h1
  exact ⟨w1.sameTopo st, fun hm => st.mirror (hM hm)⟩

theorem safe_oneLink3 (l r : Nat) :
    Safe (fun m : Map X => InUse m l ∧ InUse m r) (oneLink3 l r) := by
  intro m m' u hwf ⟨hl, hr⟩ h
  obtain ⟨w, _, hM⟩ := oneLink3_ok hwf hl.1 hr.1 hl.2.1 hr.2.1 hl.2.2 hr.2.2 h
  exact ⟨w, hM⟩

theorem safe_twoLinkCore (l r : Nat) :
    Safe (fun m : Map X => InUse m l ∧ InUse m r ∧ l ≠ r) (iLinkCore 2 l r) := by
  intro m m' u hwf ⟨hl, hr, hlr⟩ h
  obtain ⟨_, _, h1, h0, rfl⟩ := iLinkCore_ok h
  refine ⟨hwf.linkI (by omega) (by omega) hl.1 hr.1 hlr hl.2.1 hr.2.1 hl.2.2 hr.2.2 h1 h0, ?_⟩
  have eβ := hwf.toSized.β_linkI (i := 2) (by omega) hl.2.1 hr.2.1
  refine mirror_of_β13 rfl ?_ ?_
  · intro d; show (m.linkI 2 l r).β 1 d = _; rw [eβ]; simp
  · intro d; show (m.linkI 2 l r).β 3 d = _; rw [eβ]; simp

theorem safe_threeLink3 (n l r : Nat) :
    Safe (fun m : Map X => InUse m l ∧ InUse m r ∧ l ≠ r) (threeLink3 n l r) := by
  intro m m' u hwf ⟨hl, hr, hlr⟩ h
  obtain ⟨w, _, hM, _⟩ := threeLink3_ok hwf hl.1 hr.1 hl.2.1 hr.2.1 hl.2.2 hr.2.2 hlr h
  exact ⟨w, hM⟩

theorem safe_oneUnlink3 (l : Nat) : Safe (fun m : Map X => InUse m l) (oneUnlink3 l) := by
  intro m m' u hwf hl h
  obtain ⟨w, _, hM⟩ := oneUnlink3_ok hwf hl.2.1 h
  exact ⟨w, hM⟩

theorem safe_twoUnlinkCore (l : Nat) : Safe (fun m : Map X => InUse m l) (iUnlinkCore 2 l) := by
  intro m m' u hwf hl h
  obtain ⟨_, _, hne, rfl⟩ := iUnlinkCore_ok h
  refine ⟨hwf.unlinkI (by omega) (by omega) hl.2.1 hne, ?_⟩
  have eβ := hwf.toSized.β_unlinkI (i := 2) (by omega) hl.2.1 (hwf.range 2 (by omega) l hl.2.1)
  refine mirror_of_β13 rfl ?_ ?_
  · intro d; show (m.unlinkI 2 l).β 1 d = _; rw [eβ]; simp
  · intro d; show (m.unlinkI 2 l).β 3 d = _; rw [eβ]; simp

theorem safe_threeUnlink3 (n l : Nat) : Safe (fun m : Map X => InUse m l) (threeUnlink3 n l) := by
  intro m m' u hwf hl h
  obtain ⟨w, hs⟩ := threeUnlink3_ok hwf hl.2.1 h
  exact ⟨w, hs.mirror⟩

theorem safe_prog (cfg : Cfg X) (n : Nat) (op : Op3) :
    Safe (fun m : Map X => ArgsOK m op) (prog cfg n op) := by
  unfold prog
  split
  · exact (safe_oneLink3 _ _).mono fun m h => ⟨h.1, h.2.1⟩
  · exact (safe_twoLinkCore _ _).mono fun m h => ⟨h.1, h.2.1, h.2.2 (Or.inl rfl)⟩
  · exact (safe_threeLink3 _ _ _).mono fun m h => ⟨h.1, h.2.1, h.2.2 (Or.inr rfl)⟩
  · exact (safe_oneUnlink3 _).mono fun m h => h
  · exact (safe_twoUnlinkCore _).mono fun m h => h
  · exact (safe_threeUnlink3 _ _).mono fun m h => h
  · exact ((safe_oneLink3 _ _).of_topology (oneSew3_topology cfg n _ _)).mono fun m h => ⟨h.1, h.2.1⟩
  · exact ((safe_twoLinkCore _ _).of_topology (twoSew3_topology cfg n _ _)).mono
      fun m h => ⟨h.1, h.2.1, h.2.2 (Or.inl rfl)⟩
  · exact ((safe_threeLink3 _ _ _).of_topology (threeSew3_topology cfg n _ _)).mono
      fun m h => ⟨h.1, h.2.1, h.2.2 (Or.inr rfl)⟩
  · exact (safe_oneUnlink3 _).of_topology (oneUnsew3_topology cfg n _)
  · exact (safe_twoUnlinkCore _).of_topology (twoUnsew3_topology cfg n _)
  · exact (safe_threeUnlink3 _ _).of_topology (threeUnsew3_topology cfg n _)
  · rename_i d
    intro m m' a hwf hq h
    obtain ⟨b, m1, h1, h2⟩ := run_bind_ok h
    rw [run_removeFreeDartTx] at h1
    have hok : m.okU d = true := (hwf.toSized.okU d).2 hq.1.2.1
    simp only [hok, if_true, Prod.mk.injEq] at h1
    simp at h2
    rw [← h2, ← h1.2]
    exact ⟨hwf.setU_free hq.1.2.1 true ((isFree_iff m 4 d).1 hq.2), fun hM => hM⟩
  · exact Safe.panic

/-! ## one call -/

theorem safe_atomically {Q : Map X → Prop} {α : Type} {p : P X α} (hp : Safe Q p) {m : Map X}
    (hwf : WF 4 m) (hq : Q m) : WF 4 (atomically p m).2 ∧ (Mirror m → Mirror (atomically p m).2) := by
  unfold atomically
  match h : run p m with
  | (.ok a, m') => exact hp m m' a hwf hq h
  | (.err e, m') => exact ⟨hwf, id⟩
  | (.retry, m') => exact ⟨hwf, id⟩
  | (.panic, m') => exact ⟨hwf, id⟩

theorem mirror_addFreeDarts {m : Map X} (hwf : WF 4 m) (k : Nat) (hM : Mirror m) :
    Mirror (m.addFreeDarts k).2 := by
  have eβ := fun i d (hi : i < 4) => addFreeDarts_β hwf.toSized k i d hi
  intro d hd
  rw [eβ 1 d (by omega), eβ 3 d (by omega)]
  by_cases hdn : d < m.n
  · simp only [hdn, if_true]
    intro g1 g2
    rw [eβ 3 _ (by omega)]
    simp only [hwf.range 1 (by omega) d hdn, if_true]
    intro g3
    rw [eβ 1 _ (by omega)]
    simp only [hwf.range 3 (by omega) _ (hwf.range 1 (by omega) d hdn), if_true]
    exact hM d hdn g1 g2 g3
  · simp [hdn]

/-- **the allocation calls, for a predicate read off `n`, `β1`, `β3`**: such a `J` survives the
    insertion and the removal of a free dart as soon as it survives the allocation of darts -/
theorem alloc_keeps {J : Map X → Prop} (m : Map X) (hwf : WF 4 m) (hJ : J m)
    (h13 : ∀ m1 m2 : Map X, m2.n = m1.n → (∀ d, m2.β 1 d = m1.β 1 d) → (∀ d, m2.β 3 d = m1.β 3 d) → J m1 → J m2)
    (hadd : ∀ k, J (m.addFreeDarts k).2) : J m.insertFreeDart.2 ∧ ∀ d, J (m.removeFreeDart 4 d).2 := by
  constructor
  · unfold Map.insertFreeDart
    split
    · exact h13 m _ rfl (fun _ => rfl) (fun _ => rfl) hJ
    · exact hadd 1
  · intro d
    unfold Map.removeFreeDart
    split
    · rename_i hd
      split
      · unfold atomically
        rw [run_removeFreeDartTx]
        have : m.okU d = true := (hwf.toSized.okU d).2 hd
        simp only [this, if_true]
        cases m.unused d <;> exact h13 m _ rfl (fun _ => rfl) (fun _ => rfl) hJ
      · exact hJ
    · exact hJ

/-- **one call, for a predicate read off `n`, `β1`, `β3`**: `J` survives a public call with admissible
    arguments as soon as it survives the allocation of darts and the four closures that write β1 or
    β3 (a sew does on the topology what the link does; 2-links, removals and refused calls leave
    `n`, `β1`, `β3` alone) -/
theorem step_keeps (cfg : Cfg X) {J : Map X → Prop} (m : Map X) (op : Op3) (hwf : WF 4 m) (hJ : J m)
    (h13 : ∀ m1 m2 : Map X, m2.n = m1.n → (∀ d, m2.β 1 d = m1.β 1 d) → (∀ d, m2.β 3 d = m1.β 3 d) → J m1 → J m2)
    (hadd : ∀ k, J (m.addFreeDarts k).2)
    (l1 : ∀ l r m', InUse m l → InUse m r → (op = .link 1 l r ∨ op = .sew 1 l r) →
      run (oneLink3 (X := X) l r) m = (.ok (), m') → J m')
    (l3 : ∀ l r m', InUse m l → InUse m r → l ≠ r → run (threeLink3 (X := X) m.n l r) m = (.ok (), m') → J m')
    (u1 : ∀ l m', InUse m l → run (oneUnlink3 (X := X) l) m = (.ok (), m') → J m')
    (u3 : ∀ l m', InUse m l → run (threeUnlink3 (X := X) m.n l) m = (.ok (), m') → J m')
    (hargs : ArgsOK m op) : J (step cfg m op) := by
  have tx : ∀ {α : Type} (p : P X α), (∀ m' a, run p m = (.ok a, m') → J m') → J (atomically p m).2 := by
    intro α p hp
    unfold atomically
    match h : run p m with
    | (.ok a, m') => exact hp m' a h
    | (.err e, m') => exact hJ
    | (.retry, m') => exact hJ
    | (.panic, m') => exact hJ
  have l2 : ∀ l r m', InUse m l → InUse m r → run (iLinkCore (X := X) 2 l r) m = (.ok (), m') → J m' := by
    intro l r m' hl hr h
    obtain ⟨_, _, _, _, rfl⟩ := iLinkCore_ok h
    have eβ := hwf.toSized.β_linkI (i := 2) (by omega) hl.2.1 hr.2.1
    refine h13 m (m.linkI 2 l r) rfl ?_ ?_ hJ
    · intro d; rw [eβ]; simp
    · intro d; rw [eβ]; simp
  have u2 : ∀ l m', InUse m l → run (iUnlinkCore (X := X) 2 l) m = (.ok (), m') → J m' := by
    intro l m' hl h
    obtain ⟨_, _, _, rfl⟩ := iUnlinkCore_ok h
    have eβ := hwf.toSized.β_unlinkI (i := 2) (by omega) hl.2.1 (hwf.range 2 (by omega) l hl.2.1)
    refine h13 m (m.unlinkI 2 l) rfl ?_ ?_ hJ
    · intro d; rw [eβ]; simp
    · intro d; rw [eβ]; simp
  have topo : ∀ {m1 m' : Map X}, SameTopo m1 m' → J m1 → J m' := fun st => h13 _ _ st.n (st.β 1) (st.β 3)
  have hprog : ∀ m' a, run (prog cfg m.n op) m = (.ok a, m') → J m' := by
    revert hargs l1
    unfold prog
    split
    · exact fun l1 ha m' a h => l1 _ _ m' ha.1 ha.2.1 (Or.inl rfl) h
    · exact fun _ ha m' a h => l2 _ _ m' ha.1 ha.2.1 h
    · exact fun _ ha m' a h => l3 _ _ m' ha.1 ha.2.1 (ha.2.2 (Or.inr rfl)) h
    · exact fun _ ha m' a h => u1 _ m' ha h
    · exact fun _ ha m' a h => u2 _ m' ha h
    · exact fun _ ha m' a h => u3 _ m' ha h
    · intro l1 ha m' a h
      obtain ⟨m1, h1, st⟩ := oneSew3_topology cfg m.n _ _ m m' a h
      exact topo st (l1 _ _ m1 ha.1 ha.2.1 (Or.inr rfl) h1)
    · intro _ ha m' a h
      obtain ⟨m1, h1, st⟩ := twoSew3_topology cfg m.n _ _ m m' a h
      exact topo st (l2 _ _ m1 ha.1 ha.2.1 h1)
    · intro _ ha m' a h
      obtain ⟨m1, h1, st⟩ := threeSew3_topology cfg m.n _ _ m m' a h
      exact topo st (l3 _ _ m1 ha.1 ha.2.1 (ha.2.2 (Or.inr rfl)) h1)
    · intro _ ha m' a h
      obtain ⟨m1, h1, st⟩ := oneUnsew3_topology cfg m.n _ m m' a h
      exact topo st (u1 _ m1 ha h1)
    · intro _ ha m' a h
      obtain ⟨m1, h1, st⟩ := twoUnsew3_topology cfg m.n _ m m' a h
      exact topo st (u2 _ m1 ha h1)
    · intro _ ha m' a h
      obtain ⟨m1, h1, st⟩ := threeUnsew3_topology cfg m.n _ m m' a h
      exact topo st (u3 _ m1 ha h1)
    · rename_i d
      intro _ ha m' a h
      obtain ⟨b, m1, h1, h2⟩ := run_bind_ok h
      rw [run_removeFreeDartTx] at h1
      have hok : m.okU d = true := (hwf.toSized.okU d).2 ha.1.2.1
      simp only [hok, if_true, Prod.mk.injEq] at h1
      simp at h2
      rw [← h2, ← h1.2]
      exact h13 m _ rfl (fun _ => rfl) (fun _ => rfl) hJ
    · intro _ _ m' a h; simp at h
  cases op with
  | addFreeDarts k => exact hadd k
  | insertFreeDart => exact (alloc_keeps m hwf hJ h13 hadd).1
  | removeFreeDart d => exact (alloc_keeps m hwf hJ h13 hadd).2 d
  | link i l r => exact tx _ hprog
  | unlink i l => exact tx _ hprog
  | sew i l r => exact tx _ hprog
  | unsew i l => exact tx _ hprog
  | removeFreeDartTx d => exact tx _ hprog

theorem step_ok (cfg : Cfg X) (m : Map X) (op : Op3) (hwf : WF 4 m) (hargs : ArgsOK m op) :
    WF 4 (step cfg m op) ∧ (Mirror m → Mirror (step cfg m op)) := by
  have al := fun hM => alloc_keeps m hwf hM (fun _ _ => mirror_of_β13) (fun k => mirror_addFreeDarts hwf k hM)
  cases op with
  | addFreeDarts k => exact ⟨hwf.addFreeDarts (by omega) k, mirror_addFreeDarts hwf k⟩
  | insertFreeDart => exact ⟨hwf.insertFreeDart (by omega), fun hM => (al hM).1⟩
  | removeFreeDart d => exact ⟨hwf.removeFreeDart d, fun hM => (al hM).2 d⟩
  | link i l r => exact safe_atomically (safe_prog cfg m.n _) hwf hargs
  | unlink i l => exact safe_atomically (safe_prog cfg m.n _) hwf hargs
  | sew i l r => exact safe_atomically (safe_prog cfg m.n _) hwf hargs
  | unsew i l => exact safe_atomically (safe_prog cfg m.n _) hwf hargs
  | removeFreeDartTx d => exact safe_atomically (safe_prog cfg m.n _) hwf hargs

/-- **C02, one call**: every public editing call with admissible arguments keeps a well-formed
    3-map well-formed (success, error and panic branches alike) -/
theorem C02_step_preserves_WF (cfg : Cfg X) (m : Map X) (op : Op3)
    (hwf : WF 4 m) (hargs : ArgsOK m op) : WF 4 (step cfg m op) :=
  (step_ok cfg m op hwf hargs).1

/-- **C02, one call, mirror**: … and keeps 3-sewn faces mirrored -/
theorem C02_step_preserves_Mirror (cfg : Cfg X) (m : Map X) (op : Op3)
    (hwf : WF 4 m) (hM : Mirror m) (hargs : ArgsOK m op) : Mirror (step cfg m op) :=
  (step_ok cfg m op hwf hargs).2 hM

/-- **C02**: well-formedness survives every finite editing history -/
theorem C02_history_preserves_WF (cfg : Cfg X) (ops : List Op3) :
    ∀ m : Map X, WF 4 m → HistoryOK cfg m ops → WF 4 (ops.foldl (step cfg) m) := by
  induction ops with
  | nil => intro m h _; exact h
  | cons op ops ih =>
      intro m h hh
      exact ih _ (C02_step_preserves_WF cfg m op h hh.1) hh.2

/-- **C02**: well-formedness and mirrored faces survive every finite editing history -/
theorem C02_history_preserves_WF_and_Mirror (cfg : Cfg X) (ops : List Op3) :
    ∀ m : Map X, WF 4 m → Mirror m → HistoryOK cfg m ops →
      WF 4 (ops.foldl (step cfg) m) ∧ Mirror (ops.foldl (step cfg) m) := by
  induction ops with
  | nil => intro m h hM _; exact ⟨h, hM⟩
  | cons op ops ih =>
      intro m h hM hh
      exact ih _ (C02_step_preserves_WF cfg m op h hh.1) (C02_step_preserves_Mirror cfg m op h hM hh.1) hh.2

/-- an error (or panic) of any transactional call publishes nothing -/
theorem C02_failed_call_changes_nothing {α : Type} (p : P X α) (m : Map X)
    (h : ∀ a, (atomically p m).1 ≠ .ok a) : (atomically p m).2 = m :=
  C01.C01_failed_call_changes_nothing p m h

/-- removed darts are nobody's image on a well-formed 3-map -/
theorem C02_unused_is_nobodys_image {m : Map X} (h : WF 4 m) : NoImageOfUnused 4 m :=
  h.noImageOfUnused (by omega)


/-! ## refusal of faces that cannot be mirrored onto each other -/

/-- shape of the face of a dart, read along `β i` (forward) and `β j` (backward):
    closed with `len` darts, or open with `fwd` darts from the dart to the end of the face ahead
    (the dart included) and `bwd` darts to the end behind (the dart included) -/
inductive Shape where
  | closed (len : Nat)
  | opened (fwd bwd : Nat)
  deriving DecidableEq, Repr

/-- `s` is the shape of the face of `d`, read off explicit walks on the pure map (`it m i t d` is the
    `t`-th `β i` successor of `d`); closed: `L` is the least period -/
def HasShape (m : Map X) (i j d : Nat) : Shape → Prop
  | .closed L => 0 < L ∧ it m i L d = d ∧ ∀ t, t < L → 0 < t → it m i t d ≠ d
  | .opened F B => it m i F d = 0 ∧ (∀ t, t < F → it m i t d ≠ 0) ∧
      it m j B d = 0 ∧ (∀ t, t < B → it m j t d ≠ 0)

instance (m : Map X) (i j d : Nat) : (s : Shape) → Decidable (HasShape m i j d s)
  | .closed L => inferInstanceAs (Decidable (0 < L ∧ it m i L d = d ∧ ∀ t, t < L → 0 < t → it m i t d ≠ d))
  | .opened F B => inferInstanceAs (Decidable (it m i F d = 0 ∧ (∀ t, t < F → it m i t d ≠ 0) ∧
      it m j B d = 0 ∧ (∀ t, t < B → it m j t d ≠ 0)))

theorem first_null_unique {m : Map X} {i d F F' : Nat}
    (h1 : it m i F d = 0) (h2 : ∀ t, t < F → it m i t d ≠ 0)
    (h1' : it m i F' d = 0) (h2' : ∀ t, t < F' → it m i t d ≠ 0) : F = F' := by
  rcases Nat.lt_trichotomy F F' with h | h | h
  · exact absurd h1 (h2' F h)
  · exact h
  · exact absurd h1' (h2 F' h)

theorem shape_closed_unique {m : Map X} {i j d L : Nat} {s : Shape} (hnull : m.β i 0 = 0) (hd0 : d ≠ 0)
    (hL : 0 < L) (hp : it m i L d = d) (hmin : ∀ t, 0 < t → t < L → it m i t d ≠ d)
    (hs : HasShape m i j d s) : s = .closed L := by
  cases s with
  | closed L1 =>
      obtain ⟨hL1, hp1, hmin1⟩ := hs
      rcases Nat.lt_trichotomy L1 L with h | h | h
      · exact absurd hp1 (hmin L1 hL1 h)
      · rw [h]
      · exact absurd hp (hmin1 L h hL)
  | opened F1 B1 => exact absurd hs.1 (periodic_nz hnull hL hp hd0 F1)

theorem shape_opened_unique {m : Map X} {i j d F B : Nat} {s : Shape} (hnull : m.β i 0 = 0) (hd0 : d ≠ 0)
    (h1 : it m i F d = 0) (h2 : ∀ t, t < F → it m i t d ≠ 0) (h3 : it m j B d = 0)
    (h4 : ∀ t, t < B → it m j t d ≠ 0) (hs : HasShape m i j d s) : s = .opened F B := by
  cases s with
  | closed L1 => exact absurd h1 (periodic_nz hnull hs.1 hs.2.1 hd0 F)
  | opened F1 B1 =>
      obtain ⟨a1, a2, a3, a4⟩ := hs
      rw [first_null_unique a1 a2 h1 h2, first_null_unique a3 a4 h3 h4]

/-- two faces that passed the checks of `three_link` have the same shape -/
theorem sameShape_shapes {m : Map X} (hw : WF 4 m) {ld rd : Nat} (hl0 : ld ≠ 0) (hr0 : rd ≠ 0)
    (h : SameShape m ld rd) {s s' : Shape} (hs : HasShape m 1 0 ld s) (hs' : HasShape m 0 1 rd s') :
    s = s' := by
  have n1 : m.β 1 0 = 0 := hw.null 1 (by omega)
  have n0 : m.β 0 0 = 0 := hw.null 0 (by omega)
  rcases h with ⟨L, hL, hpl, hpr, hmin⟩ | ⟨F, B, h1, h2, h3, h4, hf, hb⟩
  · rw [shape_closed_unique n1 hl0 hL hpl (fun t h0 ht => (hmin t h0 ht).1) hs,
      shape_closed_unique n0 hr0 hL hpr (fun t h0 ht => (hmin t h0 ht).2.2.1) hs']
  · rw [shape_opened_unique n1 hl0 h1 (fun t ht => (hf t ht).1) h3 (fun t ht => (hb t ht).1) hs,
      shape_opened_unique n0 hr0 h2 (fun t ht => (hf t ht).2) h4 (fun t ht => (hb t ht).2) hs']

/-- **C02 (what a successful 3-link has checked)**: both faces closed with the same number of
    darts, or both open with the same numbers of darts ahead and behind -/
theorem C02_three_link_checks_shape (n : Nat) {m m' : Map X} {ld rd : Nat} {u : Unit} (hw : WF 4 m)
    (hl : InUse m ld) (hr : InUse m rd) (hne : ld ≠ rd)
    (h : run (threeLink3 (X := X) n ld rd) m = (.ok u, m')) : SameShape m ld rd :=
  (threeLink3_ok hw hl.1 hr.1 hl.2.1 hr.2.1 hl.2.2 hr.2.2 hne h).2.2.2

/-- **C02 (refusal)**: a 3-link of two faces of different shapes — closed faces with different
    numbers of sides, a closed and an open face, open faces with different numbers of darts ahead
    of or behind the two darts — does not return `Ok` (error or panic) -/
theorem C02_refusal (n : Nat) {m : Map X} {ld rd : Nat} {s s' : Shape} (hw : WF 4 m)
    (hl : InUse m ld) (hr : InUse m rd) (hne : ld ≠ rd)
    (hs : HasShape m 1 0 ld s) (hs' : HasShape m 0 1 rd s') (hdiff : s ≠ s') :
    ∀ u m', run (threeLink3 (X := X) n ld rd) m ≠ (.ok u, m') := by
  intro u m' h
  exact hdiff (sameShape_shapes hw hl.1 hr.1 (C02_three_link_checks_shape n hw hl hr hne h) hs hs')

/-- the same for `three_sew` -/
theorem C02_refusal_sew (cfg : Cfg X) (n : Nat) {m : Map X} {ld rd : Nat} {s s' : Shape} (hw : WF 4 m)
    (hl : InUse m ld) (hr : InUse m rd) (hne : ld ≠ rd)
    (hs : HasShape m 1 0 ld s) (hs' : HasShape m 0 1 rd s') (hdiff : s ≠ s') :
    ∀ u m', run (threeSew3 cfg n ld rd) m ≠ (.ok u, m') := by
  intro u m' h
  obtain ⟨m1, h1, _⟩ := threeSew3_topology cfg n ld rd m m' u h
  exact C02_refusal n hw hl hr hne hs hs' hdiff () m1 h1

/-- the refused call, as the user observes it: not `Ok`, map unchanged -/
theorem C02_refused_call_changes_nothing (cfg : Cfg X) {m : Map X} {ld rd : Nat} {s s' : Shape} (hw : WF 4 m)
    (hl : InUse m ld) (hr : InUse m rd) (hne : ld ≠ rd)
    (hs : HasShape m 1 0 ld s) (hs' : HasShape m 0 1 rd s') (hdiff : s ≠ s') (sew : Bool) :
    let op := if sew then Op3.sew 3 ld rd else Op3.link 3 ld rd
    (∀ a, (atomically (prog cfg m.n op) m).1 ≠ .ok a) ∧ step cfg m op = m := by
  have key : ∀ (p : P X Unit), (∀ u m', run p m ≠ (.ok u, m')) →
      (∀ a, (atomically p m).1 ≠ .ok a) ∧ (atomically p m).2 = m := by
    intro p hp
    have h1 : ∀ a, (atomically p m).1 ≠ .ok a := by
      intro a
      unfold atomically
      match hr : run p m with
      | (.ok b, m') => exact absurd hr (hp b m')
      | (.err e, m') => simp
      | (.retry, m') => simp
      | (.panic, m') => simp
    exact ⟨h1, C02_failed_call_changes_nothing p m h1⟩
  cases sew with
  | true => exact key _ (C02_refusal_sew cfg m.n hw hl hr hne hs hs' hdiff)
  | false => exact key _ (C02_refusal m.n hw hl hr hne hs hs' hdiff)


/-! ## non-vacuity: a concrete well-formed mirrored 3-map and an admissible history of every op kind -/

/-- two triangles 1-2-3 and 4-5-6 (geometrically mirror images: 3-sewable along `(1, 4)`), a
    square 7-8-9-10, an open chain 11-12-13, a free dart 14, dart 15 removed -/
def exMap : Map Val :=
  { (Map.empty 4 6 16 : Map Val) with
    b := #[#[0, 3, 1, 2, 6, 4, 5, 10, 7, 8, 9, 0, 11, 12, 0, 0],
           #[0, 2, 3, 1, 5, 6, 4, 8, 9, 10, 7, 12, 13, 0, 0, 0],
           Array.replicate 16 0, Array.replicate 16 0]
    u := #[false, false, false, false, false, false, false, false, false, false, false, false, false, false,
           false, true]
    a := #[#[none, some (.pt 0 0 0), some (.pt 1 0 0), some (.pt 0 1 0), some (.pt 1 0 0), some (.pt 0 0 0),
             some (.pt 0 1 0), some (.pt 0 0 1), some (.pt 1 0 1), some (.pt 1 1 1), some (.pt 0 1 1),
             some (.pt 1 0 1), some (.pt 0 0 1), some (.pt 0 (-1) 1), some (.pt 5 5 5), none],
           #[none, some (.tm (.leaf 1)), none, none, some (.tm (.leaf 4)), none, none, none, none, none, none,
             none, none, none, none, none, none],
           Array.replicate 17 none,
           #[none, some (.tm (.leaf 10)), none, none, none, none, none, none, none, none, none,
             none, none, none, none, none, none],
           Array.replicate 17 none, Array.replicate 17 none] }

/-- vertices, a vertex attribute (`VTerm`) and a face attribute (`FTerm`) -/
def exCfg : Cfg Val := stdCfg 4 5

/-- every op kind; outcomes, in order: four successes, three refusals (`NonFreeImage`: square on a
    triangle; `AsymmetricalFaces`: triangle on a square, open chain on a triangle), the same-face
    3-link (refused after a transient β3 fixed point), then successes -/
def exHistory : List Op3 :=
  [.sew 3 1 4, .unlink 1 2, .link 1 2 3, .unsew 3 2, .link 3 7 1, .link 3 1 7, .link 3 11 1, .link 3 7 9,
   .sew 2 7 11, .unsew 2 7, .link 2 1 4, .unlink 2 4, .sew 1 13 14, .unsew 1 13,
   .link 3 1 4, .unlink 3 6,
   .removeFreeDart 14, .insertFreeDart, .addFreeDarts 2, .link 3 16 17, .removeFreeDartTx 14]

theorem exMap_wf : WF 4 exMap := by decide +kernel
theorem exMap_mirror : Mirror exMap := by decide +kernel
theorem exMap_inUse : InUse exMap 1 ∧ InUse exMap 4 ∧ InUse exMap 7 ∧ InUse exMap 12 := by decide +kernel

/-- one evaluation of the history: the guard at every step, and what the examples below read off
    the states after one call, after two calls and at the end -/
theorem exHistory_run :
    HistoryOK exCfg exMap exHistory ∧
    (List.range 7).map (((exHistory.take 1).foldl (step exCfg) exMap).β 3) = [0, 4, 6, 5, 1, 3, 2] ∧
    (((exHistory.take 1).foldl (step exCfg) exMap).att 0 1 = some (.pt 0 0 0) ∧
      ((exHistory.take 1).foldl (step exCfg) exMap).att 0 5 = none ∧
      ((exHistory.take 1).foldl (step exCfg) exMap).att 1 2 = some (.tm (.minc (.leaf 4)))) ∧
    ((exHistory.take 2).foldl (step exCfg) exMap).β 1 5 = 0 ∧
    ((exHistory.foldl (step exCfg) exMap).n = 18 ∧ (exHistory.foldl (step exCfg) exMap).β 3 16 = 17) := by
  decide +kernel

theorem exHistory_ok : HistoryOK exCfg exMap exHistory := exHistory_run.1

example : WF 4 exMap := exMap_wf
example : Mirror exMap := exMap_mirror
example : HistoryOK exCfg exMap exHistory := exHistory_ok
/-- the history is not trivial: the 3-sew really glues the two triangles, mirrored -/
example : (List.range 7).map (((exHistory.take 1).foldl (step exCfg) exMap).β 3) = [0, 4, 6, 5, 1, 3, 2] :=
  exHistory_run.2.1
/-- … and merges the vertex data of `(β1 l, r)` pairs into the smaller id -/
example : ((exHistory.take 1).foldl (step exCfg) exMap).att 0 1 = some (.pt 0 0 0) ∧
    ((exHistory.take 1).foldl (step exCfg) exMap).att 0 5 = none ∧
    ((exHistory.take 1).foldl (step exCfg) exMap).att 1 2 = some (.tm (.minc (.leaf 4))) := exHistory_run.2.2.1
/-- the 3-D 1-unlink also unlinks the β3 images -/
example : ((exHistory.take 2).foldl (step exCfg) exMap).β 1 5 = 0 := exHistory_run.2.2.2.1
example : (exHistory.foldl (step exCfg) exMap).n = 18 ∧ (exHistory.foldl (step exCfg) exMap).β 3 16 = 17 :=
  exHistory_run.2.2.2.2
example : WF 4 (exHistory.foldl (step exCfg) exMap) ∧ Mirror (exHistory.foldl (step exCfg) exMap) :=
  C02_history_preserves_WF_and_Mirror _ _ _ exMap_wf exMap_mirror exHistory_ok
example : WF 4 (step exCfg exMap (.sew 3 1 4)) :=
  C02_step_preserves_WF _ _ _ exMap_wf exHistory_ok.1
example : Mirror (step exCfg exMap (.link 3 11 12)) :=
  C02_step_preserves_Mirror _ _ _ exMap_wf exMap_mirror (by decide +kernel)
example : NoImageOfUnused 4 exMap := C02_unused_is_nobodys_image exMap_wf

/-- refusal, closed faces of different lengths (triangle on the left, square on the right: the
    case of finding D1) -/
theorem exMap_shape_1_7 : HasShape exMap 1 0 1 (.closed 3) ∧ HasShape exMap 0 1 7 (.closed 4) := by
  decide +kernel
example : HasShape exMap 1 0 1 (.closed 3) ∧ HasShape exMap 0 1 7 (.closed 4) := exMap_shape_1_7
example : ∀ u m', run (threeLink3 16 1 7) exMap ≠ (.ok u, m') :=
  C02_refusal 16 exMap_wf exMap_inUse.1 exMap_inUse.2.2.1 (by decide) exMap_shape_1_7.1 exMap_shape_1_7.2
    (by decide)
example : (run (threeLink3 16 1 7) exMap).1 = .err (errAsym 1 7) := by decide +kernel
example : (run (threeLink3 16 7 1) exMap).1 = .err (errNonFreeImage 3 10 1) := by decide +kernel
/-- refusal, closed against open (dart 12 has one dart ahead, one behind) -/
theorem exMap_shape_12 : HasShape exMap 0 1 12 (.opened 2 2) ∧ HasShape exMap 1 0 12 (.opened 2 2) := by
  decide +kernel
example : HasShape exMap 0 1 12 (.opened 2 2) ∧ HasShape exMap 1 0 12 (.opened 2 2) := exMap_shape_12
example : ∀ u m', run (threeSew3 exCfg 16 1 12) exMap ≠ (.ok u, m') :=
  C02_refusal_sew exCfg 16 exMap_wf exMap_inUse.1 exMap_inUse.2.2.2 (by decide) exMap_shape_1_7.1
    exMap_shape_12.1 (by decide)
/-- two open chains 1-2-3 and 4-5-6 -/
def exOpen : Map Val :=
  { (Map.empty 4 1 7 : Map Val) with
    b := #[#[0, 0, 1, 2, 0, 4, 5], #[0, 2, 3, 0, 5, 6, 0], Array.replicate 7 0, Array.replicate 7 0] }

/-- refusal, open faces offset by one dart: `1` has 3 darts ahead and 1 behind; read as a right
    dart (β0 ahead, β1 behind) so has `6`, but `5` has 2 and 2 -/
theorem exOpen_shapes : HasShape exOpen 1 0 1 (.opened 3 1) ∧ HasShape exOpen 0 1 6 (.opened 3 1) ∧
    HasShape exOpen 0 1 5 (.opened 2 2) := by decide +kernel
example : HasShape exOpen 1 0 1 (.opened 3 1) ∧ HasShape exOpen 0 1 6 (.opened 3 1) ∧
    HasShape exOpen 0 1 5 (.opened 2 2) := exOpen_shapes
example : (run (threeLink3 7 1 6) exOpen).1 = .ok () := by decide +kernel
example : (run (threeLink3 7 1 5) exOpen).1 = .err (errAsym 1 5) := by decide +kernel
example : step exCfg exOpen (.link 3 1 5) = exOpen :=
  (C02_refused_call_changes_nothing exCfg (m := exOpen) (ld := 1) (rd := 5)
    (s := .opened 3 1) (s' := .opened 2 2) (by decide +kernel) (by decide +kernel) (by decide +kernel)
    (by decide) exOpen_shapes.1 exOpen_shapes.2.2 (by decide) false).2
example : (atomically (threeSew3 exCfg 16 1 7) exMap).2 = exMap :=
  C02_failed_call_changes_nothing _ _ (fun ⟨⟩ => by decide +kernel)
/-- a successful 3-link has checked the shapes -/
example : SameShape exMap 1 4 :=
  C02_three_link_checks_shape 16 (m' := (run (threeLink3 16 1 4) exMap).2) (u := ())
    exMap_wf exMap_inUse.1 exMap_inUse.2.1 (by decide)
    (Prod.ext (by decide +kernel : (run (threeLink3 16 1 4) exMap).1 = .ok ()) rfl)
/-- the same-face 3-link: the walk hands `(8, 8)` to the core, the next round `(9, 7)` is refused -/
example : (run (threeLink3 16 7 9) exMap).1 = .err (errNonFreeBase 3 9 7) := by decide +kernel
/-- `ArgsOK` is needed: a 3-link of a loop dart with itself "succeeds" with a β3 fixed point -/
example : ¬ WF 4 (atomically (threeLink3 2 1 1)
    ({ (Map.empty 4 1 2 : Map Val) with b := #[#[0, 1], #[0, 1], #[0, 0], #[0, 0]] })).2 := by decide +kernel

end HC.C02

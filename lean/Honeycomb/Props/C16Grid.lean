/-
  C16 / C17 — the origin-shift loop of `compute_overlapping_grid` (`Model/Grisubal.lean`: `shiftAfter`, `onLine`,
  `detectOverlaps`, `shiftLoop`, `overlappingGrid`; Rust: `routines/pre_processing.rs`), over exact rationals.

  * `C16_shift_lt_half`            the cumulated shift after `k` iterations is `1/2 - 1/2^(k+1) ∈ [0, 1/2)` — the hypothesis
                                   `s < 1/2` of `C16_grid_margins` / `C16_grid_tight` (every vertex keeps a full cell of margin)
  * `C16_on_line_for_one_shift`    a coordinate lies on a grid line for at most ONE of the successive origins
  * `C16_shift_loop_terminates`    hence the loop ends within `2·|V|` shifts: `overlappingGrid` never exhausts the fuel
                                   `2·|V| + 1` the model gives it (each of the `|V|` vertices blocks at most one origin per axis,
                                   and both loop conditions — vertex on a corner / line, reflection — need a vertex on a line)
  * `C16_shift_loop_exit`          when it answers `ok ox oy nx ny k`: `k ≤ 2·|V|`, the origin and the cell counts are
                                   `gridOrigin` / `gridCells` for the shift `shiftAfter k`, every earlier origin was rejected,
                                   and for the final origin the check is negative:
  * `C17_no_vertex_on_grid_line`   `capture_geometry` (`keep_all_poi = true`): no vertex lies on a grid line
  * `C16_no_vertex_on_grid_corner` `grisubal` (`keep_all_poi = false`): no vertex lies on a grid corner

  Tie: `ogridg` — the grid read off the map the real `grisubal` / `capture_geometry` return vs `overlappingGrid`, on polygons
  built to make the loop run 1 … 5 times (tools/props/c16.py: shift_grid_tie).  f64: the `%` of the kernel is exact, the
  subtraction before it is exact on the dyadic lattice of the stream; rounding is not modelled.  The kernel computes
  `2_i32.pow(i + 1)`: beyond 30 shifts it overflows — outside the model (it needs more than 15 vertices placed on purpose).
-/
import Mathlib.Algebra.Order.Field.Rat
import Mathlib.Data.List.Nodup
import Mathlib.Tactic.Linarith
import Mathlib.Tactic.Ring
import Mathlib.Tactic.Positivity
import Mathlib.Tactic.FieldSimp
import Honeycomb.Model.Grisubal

namespace HC.C16
open HC

/-! ## the shifts -/

theorem shiftAfter_lt (k : Nat) : 0 ≤ shiftAfter k ∧ shiftAfter k < 1 / 2 := by
  unfold shiftAfter
  have h2 : (2 : Rat) ≤ (2 : Rat) ^ (k + 1) := by
    rw [pow_succ]
    linarith [one_le_pow₀ (n := k) (show (1 : Rat) ≤ 2 by norm_num)]
  have h1 : 1 / (2 : Rat) ^ (k + 1) ≤ 1 / 2 := one_div_le_one_div_of_le (by norm_num) h2
  have h0 : 0 < 1 / (2 : Rat) ^ (k + 1) := one_div_pos.2 (by linarith)
  constructor <;> linarith

/-- **C16, grid — the cumulated shift stays below half a cell** -/
theorem C16_shift_lt_half (k : Nat) : shiftAfter k < 1 / 2 := (shiftAfter_lt k).2

theorem shiftAfter_inj {j k : Nat} (h : shiftAfter j = shiftAfter k) : j = k := by
  unfold shiftAfter at h
  have h1 : (1 : Rat) / (2 : Rat) ^ (j + 1) = 1 / (2 : Rat) ^ (k + 1) := by linarith
  have hj : (0 : Rat) < (2 : Rat) ^ (j + 1) := by positivity
  have hk : (0 : Rat) < (2 : Rat) ^ (k + 1) := by positivity
  have h2 : (2 : Rat) ^ (j + 1) = (2 : Rat) ^ (k + 1) := by
    have := congrArg (fun x : Rat => 1 / x) h1
    simpa using this
  have := pow_right_injective₀ (a := (2 : Rat)) (by norm_num) (by norm_num) h2
  omega

theorem isInt_iff (q : Rat) : q.isInt = true ↔ ∃ n : Int, q = n := by
  unfold Rat.isInt
  constructor
  · intro h
    exact ⟨q.num, ((Rat.den_eq_one_iff q).1 (by simpa using h)).symm⟩
  · rintro ⟨n, rfl⟩
    simp

/-- **C16, grid — a coordinate sits on a grid line for at most one of the successive origins** -/
theorem C16_on_line_for_one_shift {mn c v : Rat} (hc : 0 < c) {j k : Nat}
    (hj : onLine (gridOrigin mn c (shiftAfter j)) c v = true)
    (hk : onLine (gridOrigin mn c (shiftAfter k)) c v = true) : j = k := by
  unfold onLine at hj hk
  obtain ⟨a, ha⟩ := (isInt_iff _).1 hj
  obtain ⟨b, hb⟩ := (isInt_iff _).1 hk
  have e : ∀ s : Rat, (v - gridOrigin mn c s) / c = (v - mn) / c + 3 / 2 - s := by
    intro s; unfold gridOrigin; field_simp; ring
  rw [e] at ha hb
  -- two integers that differ by less than one cell
  have bj := shiftAfter_lt j
  have bk := shiftAfter_lt k
  have h1 : a < b + 1 := (Int.cast_lt (R := Rat)).1 (by push_cast; linarith [bj.1, bk.2])
  have h2 : b < a + 1 := (Int.cast_lt (R := Rat)).1 (by push_cast; linarith [bj.2, bk.1])
  have h5 : a = b := by omega
  rw [h5] at ha
  exact shiftAfter_inj (by linarith)

/-! ## both loop conditions need a vertex on a grid line -/

theorem badReflection_true {verts : List (Rat × Rat)} {segs : List (Nat × Nat)} {ox oy cx cy : Rat} :
    ∀ l : List ((Rat × Rat) × Nat), badReflection verts segs ox oy cx cy l = some true →
      ∃ p, p ∈ l ∧ (onLine ox cx p.1.1 = true ∨ onLine oy cy p.1.2 = true)
  | [], h => by simp [badReflection] at h
  | (v, id) :: rest, h => by
      unfold badReflection at h
      split at h
      · rename_i hc
        have hon : onLine ox cx v.1 = true ∨ onLine oy cy v.2 = true := by
          simp only [Bool.and_eq_true, Bool.or_eq_true] at hc; exact hc.1
        exact ⟨(v, id), List.mem_cons_self, hon⟩
      · obtain ⟨p, hp, h'⟩ := badReflection_true rest h
        exact ⟨p, List.mem_cons_of_mem _ hp, h'⟩

/-- the loop shifts again only if some vertex has a coordinate on a grid line of the current origin -/
theorem gridBad_true {verts : List (Rat × Rat)} {segs : List (Nat × Nat)} {cx cy mnx mny : Rat} {keep : Bool} {k : Nat}
    (h : gridBad verts segs cx cy mnx mny keep k = some true) :
    ∃ i, i < verts.length ∧
      (onLine (gridOrigin mnx cx (shiftAfter k)) cx (verts.getD i (0, 0)).1 = true ∨
       onLine (gridOrigin mny cy (shiftAfter k)) cy (verts.getD i (0, 0)).2 = true) := by
  unfold gridBad detectOverlaps at h
  simp only [Option.map_map] at h
  cases hb : badReflection verts segs (gridOrigin mnx cx (shiftAfter k)) (gridOrigin mny cy (shiftAfter k)) cx cy verts.zipIdx with
  | none => rw [hb] at h; cases h
  | some r =>
      rw [hb] at h
      simp only [Option.map_some, Function.comp, Option.some.injEq, Bool.or_eq_true] at h
      rcases h with h | h
      · obtain ⟨v, hv, hon⟩ := List.any_eq_true.1 h
        obtain ⟨i, hi⟩ := List.getElem?_of_mem hv
        refine ⟨i, (List.getElem?_eq_some_iff.1 hi).1, ?_⟩
        rw [List.getD_eq_getElem?_getD, hi]
        simp only [Option.getD_some]
        cases hk : (!keep) with
        | true => rw [hk] at hon; simp only [if_true, Bool.and_eq_true] at hon; exact Or.inl hon.1
        | false => rw [hk] at hon; simpa using hon
      · rw [h] at hb
        obtain ⟨p, hp, hon⟩ := badReflection_true _ hb
        have hp' : verts[p.2]? = some p.1 := List.mem_zipIdx_iff_getElem?.1 hp
        refine ⟨p.2, (List.getElem?_eq_some_iff.1 hp').1, ?_⟩
        rw [List.getD_eq_getElem?_getD, hp']
        exact hon

/-! ## pigeonhole -/

theorem pigeon {N : Nat} {P : Nat → Nat → Prop} (huniq : ∀ w j k, P j w → P k w → j = k)
    (H : ∀ k, k < N + 1 → ∃ w, w < N ∧ P k w) : False := by
  classical
  let f : Nat → Nat := fun k => if h : k < N + 1 then Classical.choose (H k h) else 0
  have hf : ∀ k (h : k < N + 1), f k < N ∧ P k (f k) := by
    intro k h
    have := Classical.choose_spec (H k h)
    simp only [f, dif_pos h]
    exact this
  have hnd : ((List.range (N + 1)).map f).Nodup := by
    refine List.Nodup.map_on ?_ List.nodup_range
    intro x hx y hy e
    have hx' := hf x (List.mem_range.1 hx)
    have hy' := hf y (List.mem_range.1 hy)
    rw [e] at hx'
    exact huniq _ _ _ hx'.2 hy'.2
  have hsub : (List.range (N + 1)).map f ⊆ List.range N := by
    intro w hw
    obtain ⟨k, hk, rfl⟩ := List.mem_map.1 hw
    exact List.mem_range.2 (hf k (List.mem_range.1 hk)).1
  have := hnd.length_le_of_subset hsub
  simp at this

/-- some origin among the first `2·|V| + 1` is accepted (or makes the check panic) -/
theorem exists_good_shift (verts : List (Rat × Rat)) (segs : List (Nat × Nat)) {cx cy : Rat} (hcx : 0 < cx) (hcy : 0 < cy)
    (mnx mny : Rat) (keep : Bool) :
    ∃ k, k < 2 * verts.length + 1 ∧ gridBad verts segs cx cy mnx mny keep k ≠ some true := by
  by_contra hcon
  have hall : ∀ k, k < 2 * verts.length + 1 → gridBad verts segs cx cy mnx mny keep k = some true := by
    intro k hk
    by_contra hne
    exact hcon ⟨k, hk, hne⟩
  -- the witness `2·i` (x axis) / `2·i + 1` (y axis)
  refine pigeon (N := 2 * verts.length)
    (P := fun k w => if w % 2 = 0 then onLine (gridOrigin mnx cx (shiftAfter k)) cx (verts.getD (w / 2) (0, 0)).1 = true
      else onLine (gridOrigin mny cy (shiftAfter k)) cy (verts.getD (w / 2) (0, 0)).2 = true) ?_ ?_
  · intro w j k hj hk
    by_cases hw : w % 2 = 0
    · rw [if_pos hw] at hj hk; exact C16_on_line_for_one_shift hcx hj hk
    · rw [if_neg hw] at hj hk; exact C16_on_line_for_one_shift hcy hj hk
  · intro k hk
    obtain ⟨i, hi, hon⟩ := gridBad_true (hall k hk)
    rcases hon with hon | hon
    · refine ⟨2 * i, by omega, ?_⟩
      rw [if_pos (by omega), show 2 * i / 2 = i by omega]; exact hon
    · refine ⟨2 * i + 1, by omega, ?_⟩
      rw [if_neg (by omega), show (2 * i + 1) / 2 = i by omega]; exact hon

/-! ## the loop -/

theorem shiftLoop_ne_none (bad : Nat → Option Bool) : ∀ (f k : Nat),
    (∃ j, k ≤ j ∧ j < k + f ∧ bad j ≠ some true) → shiftLoop bad f k ≠ none := by
  intro f
  induction f with
  | zero => rintro k ⟨j, h1, h2, _⟩; omega
  | succ f ih =>
      intro k ⟨j, h1, h2, h3⟩
      unfold shiftLoop
      cases hb : bad k with
      | none => simp
      | some b =>
          cases b with
          | false => simp
          | true =>
              simp only
              apply ih
              have hjk : j ≠ k := fun e => h3 (e ▸ hb)
              exact ⟨j, by omega, by omega, h3⟩

theorem shiftLoop_some (bad : Nat → Option Bool) : ∀ (f k r : Nat), shiftLoop bad f k = some (some r) →
    k ≤ r ∧ r < k + f ∧ bad r = some false ∧ ∀ j, k ≤ j → j < r → bad j = some true := by
  intro f
  induction f with
  | zero => intro k r h; simp [shiftLoop] at h
  | succ f ih =>
      intro k r h
      unfold shiftLoop at h
      cases hb : bad k with
      | none => rw [hb] at h; simp at h
      | some b =>
          rw [hb] at h
          cases b with
          | false =>
              simp only [Option.some.injEq] at h
              subst h
              exact ⟨Nat.le_refl _, by omega, hb, fun j h1 h2 => by omega⟩
          | true =>
              simp only at h
              obtain ⟨a, b', c, d⟩ := ih (k + 1) r h
              refine ⟨by omega, by omega, c, ?_⟩
              intro j h1 h2
              by_cases e : j = k
              · rw [e]; exact hb
              · exact d j (by omega) h2

/-- **C16 / C17, grid — what the loop returns**: the number of shifts is at most `2·|V|`, origin and cell counts are the
    sizing formulas for the cumulated shift `shiftAfter k < 1/2` (so `C16_grid_margins` / `C16_grid_tight` apply), every
    earlier origin was rejected and the final one passes the check -/
theorem C16_shift_loop_exit {verts : List (Rat × Rat)} {segs : List (Nat × Nat)} {cx cy : Rat} {keep : Bool}
    {ox oy : Rat} {nx ny k : Nat} (h : overlappingGrid verts segs cx cy keep = .ok ox oy nx ny k) :
    ∃ v0 rest, verts = v0 :: rest ∧
      let mnx := listMinR (verts.map (·.1)) v0.1
      let mxx := listMaxR (verts.map (·.1)) v0.1
      let mny := listMinR (verts.map (·.2)) v0.2
      let mxy := listMaxR (verts.map (·.2)) v0.2
      k ≤ 2 * verts.length ∧ shiftAfter k < 1 / 2 ∧
      ox = gridOrigin mnx cx (shiftAfter k) ∧ oy = gridOrigin mny cy (shiftAfter k) ∧
      nx = gridCells mnx mxx cx (shiftAfter k) ∧ ny = gridCells mny mxy cy (shiftAfter k) ∧
      gridBad verts segs cx cy mnx mny keep k = some false ∧
      ∀ j, j < k → gridBad verts segs cx cy mnx mny keep j = some true := by
  unfold overlappingGrid at h
  cases verts with
  | nil => simp at h
  | cons v0 rest =>
      refine ⟨v0, rest, rfl, ?_⟩
      simp only at h ⊢
      split at h
      · cases h
      · split at h
        · cases h
        · split at h
          · cases h
          · cases h
          · rename_i r hr
            obtain ⟨_, h2, h3, h4⟩ := shiftLoop_some _ _ _ _ hr
            injection h with e1 e2 e3 e4 e5
            subst e5
            exact ⟨by omega, C16_shift_lt_half _, e1.symm, e2.symm, e3.symm, e4.symm, h3,
              fun j hj => h4 j (Nat.zero_le _) hj⟩

/-- **C16 / C17, grid — the origin-shift loop terminates**: `compute_overlapping_grid` never needs more than `2·|V|`
    shifts (the model's fuel `2·|V| + 1` is never exhausted), for `grisubal` and for `capture_geometry` -/
theorem C16_shift_loop_terminates (verts : List (Rat × Rat)) (segs : List (Nat × Nat)) {cx cy : Rat} (hcx : 0 < cx)
    (hcy : 0 < cy) (keep : Bool) :
    (∀ ox oy nx ny k, overlappingGrid verts segs cx cy keep = .ok ox oy nx ny k → k ≤ 2 * verts.length) ∧
    overlappingGrid verts segs cx cy keep ≠ .diverges := by
  constructor
  · intro ox oy nx ny k h
    obtain ⟨v0, rest, _, hk, _⟩ := C16_shift_loop_exit h
    exact hk
  · intro h
    unfold overlappingGrid at h
    cases verts with
    | nil => simp at h
    | cons v0 rest =>
        simp only at h
        split at h
        · cases h
        · split at h
          · cases h
          · split at h
            · rename_i hn
              obtain ⟨k, hk, hg⟩ := exists_good_shift (v0 :: rest) segs hcx hcy
                (listMinR ((v0 :: rest).map (·.1)) v0.1) (listMinR ((v0 :: rest).map (·.2)) v0.2) keep
              exact shiftLoop_ne_none _ _ 0 ⟨k, Nat.zero_le _, by omega, hg⟩ hn
            · cases h
            · cases h

/-- the final check is negative: nothing on the grid (in the sense of the mode) -/
theorem gridBad_false {verts : List (Rat × Rat)} {segs : List (Nat × Nat)} {cx cy mnx mny : Rat} {keep : Bool} {k : Nat}
    (h : gridBad verts segs cx cy mnx mny keep k = some false) :
    ∀ v, v ∈ verts →
      if keep then onLine (gridOrigin mnx cx (shiftAfter k)) cx v.1 = false ∧
                   onLine (gridOrigin mny cy (shiftAfter k)) cy v.2 = false
      else ¬ (onLine (gridOrigin mnx cx (shiftAfter k)) cx v.1 = true ∧
              onLine (gridOrigin mny cy (shiftAfter k)) cy v.2 = true) := by
  unfold gridBad detectOverlaps at h
  simp only [Option.map_map] at h
  cases hb : badReflection verts segs (gridOrigin mnx cx (shiftAfter k)) (gridOrigin mny cy (shiftAfter k)) cx cy verts.zipIdx with
  | none => rw [hb] at h; cases h
  | some r =>
      rw [hb] at h
      simp only [Option.map_some, Function.comp, Option.some.injEq, Bool.or_eq_false_iff] at h
      intro v hv
      have hv' := (List.any_eq_false.1 h.1) v hv
      cases keep with
      | true => simpa using hv'
      | false => simpa using hv'

theorem no_vertex_on_grid {verts : List (Rat × Rat)} {segs : List (Nat × Nat)} {cx cy : Rat} {keep : Bool}
    {ox oy : Rat} {nx ny k : Nat} (h : overlappingGrid verts segs cx cy keep = .ok ox oy nx ny k) :
    ∀ v, v ∈ verts →
      if keep then onLine ox cx v.1 = false ∧ onLine oy cy v.2 = false
      else ¬ (onLine ox cx v.1 = true ∧ onLine oy cy v.2 = true) := by
  obtain ⟨v0, rest, _, hx⟩ := C16_shift_loop_exit h
  simp only at hx
  obtain ⟨_, _, e1, e2, _, _, hb, _⟩ := hx
  rw [e1, e2]
  exact gridBad_false hb

/-- **C17, grid — after the loop no vertex of the geometry lies on a grid line** (`capture_geometry`,
    `keep_all_poi = true`): every point of interest stays strictly inside a cell -/
theorem C17_no_vertex_on_grid_line {verts : List (Rat × Rat)} {segs : List (Nat × Nat)} {cx cy : Rat}
    {ox oy : Rat} {nx ny k : Nat} (h : overlappingGrid verts segs cx cy true = .ok ox oy nx ny k) :
    ∀ v, v ∈ verts → onLine ox cx v.1 = false ∧ onLine oy cy v.2 = false :=
  fun v hv => by simpa using no_vertex_on_grid h v hv

/-- **C16, grid — after the loop no vertex of the geometry lies on a grid corner** (`grisubal`,
    `keep_all_poi = false`) -/
theorem C16_no_vertex_on_grid_corner {verts : List (Rat × Rat)} {segs : List (Nat × Nat)} {cx cy : Rat}
    {ox oy : Rat} {nx ny k : Nat} (h : overlappingGrid verts segs cx cy false = .ok ox oy nx ny k) :
    ∀ v, v ∈ verts → ¬ (onLine ox cx v.1 = true ∧ onLine oy cy v.2 = true) :=
  fun v hv => by simpa using no_vertex_on_grid h v hv

/-! ## examples -/

-- the quadrilateral of the protocol example: vertex 1 on a vertical line of the first grid, vertex 2 on one of the
-- second: capture shifts twice (origin -3/2 + 1/4 + 1/8), grisubal not at all
def exVerts : List (Rat × Rat) := [(0, 0), (5/2, 1/4), (7/4, 19/8), (1/4, 17/8)]
def exSegs : List (Nat × Nat) := [(0, 1), (1, 2), (2, 3), (3, 0)]

example : (match overlappingGrid exVerts exSegs 1 1 true with | .ok ox oy nx ny k => (ox, oy, nx, ny, k) | _ => (0, 0, 0, 0, 0))
    = (-9/8, -9/8, 5, 5, 2) := by decide +kernel
example : (match overlappingGrid exVerts exSegs 1 1 false with | .ok ox oy nx ny k => (ox, oy, nx, ny, k) | _ => (0, 0, 0, 0, 0))
    = (-3/2, -3/2, 5, 5, 0) := by decide +kernel
example : ∀ v, v ∈ exVerts → onLine (-9/8) 1 v.1 = false ∧ onLine (-9/8) 1 v.2 = false := by decide +kernel

end HC.C16

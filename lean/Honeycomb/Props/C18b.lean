/-
  C18 — "removed darts are not reported by any orbit of a remaining dart", for 3-MAPS (the 2-D statement is
  `C18_orbit_excludes_removed` in Props/C18.lean).
  Consequence of the 3-D orbit specification (Props/C03b.lean) and of "a removed dart is nobody's image" on a
  well-formed 3-map (`C02_unused_is_nobodys_image`).
-/
import Honeycomb.Props.C03b

namespace HC.C18
open HC
variable {X : Type}

/-- **C18, orbits, 3-D**: on a well-formed 3-map, no orbit (any policy the 3-D code accepts, custom ones
    included) of a dart that is in use ever reports a removed dart, and the traversal leaves the map unchanged -/
theorem C18_orbit3_excludes_removed {m : Map X} (h : WF 4 m) {pol : Policy} (hp : C03.Pol3OK pol) {d : Nat}
    (hd0 : d ≠ 0) (hd : d < m.n) (hu : m.unused d = false) :
    ∃ out, run (orbit3 (X := X) m.n pol d) m = (.ok out, m) ∧ ∀ x, x ∈ out → m.unused x = false := by
  have hs := C03.C03_orbit3_spec h hp hd0 hd
  exact ⟨C03.orb3 m pol d, hs.1, C03.C03_orbit3_of_in_use_is_in_use h hp hd0 hd hu⟩

/-- the hypotheses are satisfiable: the well-formed example 3-map of Props/C03b.lean, its dart 1, the vertex policy -/
example : WF 4 C03.ex3 ∧ C03.Pol3OK Policy.vertex ∧ (1 : Nat) ≠ 0 ∧ 1 < C03.ex3.n ∧ C03.ex3.unused 1 = false :=
  ⟨C03.ex3_wf, trivial, by decide, by decide, by decide⟩

end HC.C18

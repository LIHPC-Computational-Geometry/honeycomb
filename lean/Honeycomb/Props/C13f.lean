/-
  C13, sixth part — the spare darts must be FRESH: what the kernels do with spare darts that carry links or a value.

  The kernels (`fan_cell`, `fan_convex_cell`, `earclip_cell_*`) check the NUMBER of spare darts only (`check_requirements`).

  * LINKS — no guard of their own, but every β image of every spare dart is tested by one of the link cores the loops go
    through (`one_link_core` / `two_link_core` refuse a non-free base or image).  Proved: a SUCCESSFUL call has found every
    spare dart free in the map it started from —
      `C13_earclip_ok_implies_spares_free`, `C13_fan_ok_implies_spares_free`, `C13_fan_convex_ok_implies_spares_free`
    (from `earclipLoop_free`, `fanLoop_free` / `fanFrom_free`: each tested image is traced back to the initial map through
    the β tables of the sews; in the fan the β0 image of the second dart of a pair is only tested one iteration later, or by
    the closing sew).  Contrapositive: a linked spare dart makes the call fail with the core's error, and nothing is published
    (C06); `example`s on `d7MapL` (`NonFreeBase`).
  * VALUE — no guard at all.  `C13_stale_spare_value_moves_a_corner_witness`: with a stale vertex value under one FREE spare
    dart all three kernels answer `Ok` and average that value into a corner of the polygon (the corner `(4,4)` becomes
    `(7,7)`); the result is not a triangulation of the polygon (areas no longer add up).  The real implementation does the
    same (checked through the harness).  Hence the hypothesis `hfresh` of C13d / C13e (free AND valueless) is necessary, and
    the property's precondition "the right number of spare darts" must mean fresh darts.
-/
import Honeycomb.Props.C06
import Honeycomb.Props.C13e


namespace HC.C13
open HC HC.PosCalc HC.C03 HC.CellCalc

variable {n : Nat} {u : Array Bool}

/-! ## ear clipping: a successful call has found every spare dart free -/

/-- the kernels have no freeness guard of their own, but every β image of every spare dart is tested by one of the link
    cores the loop goes through: a successful loop has found all of them null IN THE INITIAL MAP -/
theorem earclipLoop_free (cfg : Cfg Val) (inside : P2 → P2 → P2 → Bool) :
    ∀ (chunks : List (Nat × Nat)) (darts : List Nat) (vs : List P2) (m m' : Map Val) (d0 : Nat) (rest : List Nat),
      Inv n u m → darts = d0 :: rest → ClosedFace m d0 rest → darts.length = vs.length →
      vs.length = chunks.length + 3 → (sparesOf chunks).Nodup →
      (∀ x ∈ sparesOf chunks, Live n u x ∧ x ∉ darts) → EarsNotLast inside chunks.length vs →
      run (earclipLoop cfg n inside chunks darts vs) m = (.ok (), m') →
      ∀ x ∈ sparesOf chunks, ∀ i, i < 3 → m.β i x = 0 := by
  refine earclipLoop_induct cfg n inside ?_ ?_
  · intro a b c vs m _ _ _ x hx
    simp [sparesOf] at hx
  · intro nd1 nd2 cs vs m m7 m' A B Rt x y r0 _ _ _ _ hsnd hsp it _ ih z hz i hi3
    rw [sparesOf_cons] at hz hsnd hsp
    simp only [List.nodup_cons, List.mem_cons, not_or] at hsnd
    rw [List.mem_cons, List.mem_cons] at hz
    rcases hz with rfl | rfl | hz
    · exact (it.free i hi3).1
    · exact (it.free i hi3).2
    · rw [← it.β_other (fun c => (hsp z (by simp [hz])).2 (it.mem_face.1 c)) (fun c => hsnd.1.2 (c ▸ hz))
        (fun c => hsnd.2.1 (c ▸ hz)) i]
      exact ih z hz i hi3

theorem sparesOf_chunks2_even : ∀ (l : List Nat), l.length % 2 = 0 → sparesOf (chunks2 l) = l
  | [], _ => by simp [chunks2, sparesOf]
  | [_], h => by simp at h
  | a :: b :: rest, h => by
      simp only [chunks2, sparesOf_cons]
      rw [sparesOf_chunks2_even rest (by simp only [List.length_cons] at h; omega)]

/-- **C13, linked spare darts are refused (`earclip_cell_*`)**: the kernel has no guard of its own on the spare darts
    beyond their number, but a SUCCESSFUL call on a closed face (spare darts in use, distinct, outside the face;
    `EarsNotLast`) has found every β image of every spare dart null in the map it started from — each of them is tested by
    one of the link cores of the loop.  Contrapositive: with a spare dart that carries a link the call does not answer `Ok`
    (it fails with the link core's error, and by C06 publishes nothing). -/
theorem C13_earclip_ok_implies_spares_free (cfg : Cfg Val) (inside : P2 → P2 → P2 → Bool) (m m' : Map Val)
    (face : Nat) (nds rest : List Nat) (hwf : WF 3 m) (hc : ClosedFace m face rest)
    (hsp : ∀ d ∈ nds, C01.InUse m d ∧ d ∉ face :: rest) (hnd : nds.Nodup)
    (hears : ∀ vals, run (faceVertices m.n (face :: rest)) m = (.ok vals, m) →
      EarsNotLast inside (chunks2 nds).length (vals.map Val.p2))
    (h : run (earclipCell cfg m.n inside face nds) m = (.ok (), m')) :
    ∀ d ∈ nds, ∀ i, i < 3 → m.β i d = 0 := by
  obtain ⟨vals, h2, hvl, h4, hcl, heven⟩ := earclip_kernel_closed cfg inside m m' face nds rest hwf hc h
  have hse := sparesOf_chunks2_even nds heven
  have hfree := earclipLoop_free (n := m.n) (u := m.u) cfg inside (chunks2 nds) (face :: rest) (vals.map Val.p2)
    m m' face rest (Inv.of_wf hwf) rfl hc (by rw [List.length_map, hvl])
    (by rw [List.length_map, hvl]; exact hcl.symm) (by rw [hse]; exact hnd)
    (by rw [hse]; exact fun x hx => ⟨(hsp x hx).1, (hsp x hx).2⟩) (hears vals h2) h4
  rw [hse] at hfree
  exact hfree

/-! ## the fans: a successful call has found every spare dart free -/

/-- the fan loop: β1 and β2 of every spare dart, and β0 of every spare dart but the one the loop returns, are tested by a
    link core and found null in the initial map; the returned dart keeps its β0 image (tested by the closing sew) -/
theorem fanLoop_free (cfg : Cfg Val) :
    ∀ (cs : List (Nat × Nat)) (d0 : Nat) (L : List Nat) (m m' : Map Val) (r : Nat),
      Inv n u m → Live n u d0 → B1Chain m d0 L → L.length = cs.length + 2 → (d0 :: L).Nodup → (∀ x ∈ L, x ≠ 0) →
      (sparesOf cs).Nodup → (∀ x ∈ sparesOf cs, Live n u x ∧ x ∉ d0 :: L) →
      run (fanLoop cfg n d0 cs) m = (.ok r, m') →
      (∀ x ∈ sparesOf cs, m.β 1 x = 0 ∧ m.β 2 x = 0 ∧ (x ≠ loopEnd d0 cs → m.β 0 x = 0)) ∧
      m'.β 0 (loopEnd d0 cs) = m.β 0 (loopEnd d0 cs) ∧ (cs ≠ [] → m.β 0 d0 = 0) := by
  refine fanLoop_induct cfg n ?_ ?_
  · intro d0 L m _ _ _
    exact ⟨fun x hx => by simp [sparesOf] at hx, rfl, fun hh => absurd rfl hh⟩
  · intro d1 d2 cs d0 x1 x2 L' m m5 m' r _ _ hsnd hsp _ it _ ⟨jA, jB, jC⟩
    rw [sparesOf_cons] at hsnd hsp
    simp only [List.nodup_cons, List.mem_cons, not_or] at hsnd
    obtain ⟨g11, g12, g10, g21, g22, gC⟩ := it.tested
    have o2 := it.out2
    simp only [List.mem_cons, not_or] at o2
    have hne := it.spare.2.2
    -- β0 of a dart that is neither d0, d1 nor x2 is unchanged by the iteration
    have b0keep : ∀ y, y ≠ d0 → y ≠ d1 → y ≠ x2 → m5.β 0 y = m.β 0 y := by
      intro y h0 h1 h2
      rw [it.β0, if_neg (Ne.symm h0), if_neg (Ne.symm h1), if_neg (Ne.symm h2), if_neg (Ne.symm h2)]
    have hsepS : ∀ z ∈ sparesOf cs, z ≠ d0 ∧ z ≠ x1 ∧ z ≠ x2 ∧ z ≠ d1 ∧ z ≠ d2 := by
      intro z hz
      obtain ⟨_, b⟩ := hsp z (by simp [hz])
      simp only [List.mem_cons, not_or] at b
      exact ⟨b.1, b.2.1, b.2.2.1, fun hh => hsnd.1.2 (hh ▸ hz), fun hh => hsnd.2.1 (hh ▸ hz)⟩
    have hrne : loopEnd d2 cs ≠ d0 ∧ loopEnd d2 cs ≠ d1 ∧ loopEnd d2 cs ≠ x2 := by
      rcases loopEnd_mem cs d2 with e | e
      · rw [e]; exact ⟨o2.1, Ne.symm hne, o2.2.2.1⟩
      · obtain ⟨a0, _, a2, a3, _⟩ := hsepS _ e
        exact ⟨a0, a3, a2⟩
    refine ⟨?_, ?_, fun _ => gC⟩
    · intro z hz
      rw [sparesOf_cons] at hz
      simp only [List.mem_cons] at hz
      rcases hz with rfl | rfl | hz
      · exact ⟨g11, g12, fun _ => g10⟩
      · refine ⟨g21, g22, fun hneq => ?_⟩
        simp only [loopEnd] at hneq
        cases cs with
        | nil => exact absurd rfl hneq
        | cons c' cs' =>
            have := jC (by simp)
            rw [b0keep _ o2.1 (Ne.symm hne) o2.2.2.1] at this
            exact this
      · obtain ⟨a0, a1, a2, a3, a4⟩ := hsepS z hz
        obtain ⟨k1, k2, k0⟩ := jA z hz
        rw [it.β1, if_neg (Ne.symm a3), if_neg (Ne.symm a1), if_neg (Ne.symm a4), if_neg (Ne.symm a1)] at k1
        rw [it.β2, if_neg (Ne.symm a4), if_neg (Ne.symm a3)] at k2
        refine ⟨k1, k2, fun hneq => ?_⟩
        have := k0 (by simpa [loopEnd] using hneq)
        rw [b0keep z a0 a3 a2] at this
        exact this
    · simp only [loopEnd]
      rw [jB, b0keep _ hrne.1 hrne.2.1 hrne.2.2]

theorem fanFrom_free (cfg : Cfg Val) (s : Nat) (nds : List Nat) (L : List Nat) (m m' : Map Val)
    (hi : Inv n u m) (hc : ClosedFace m s L) (hlen : L.length = (chunks2 nds).length + 2)
    (hsnd : (sparesOf (chunks2 nds)).Nodup) (hsp : ∀ x ∈ sparesOf (chunks2 nds), Live n u x ∧ x ∉ s :: L)
    (h : run (fanFrom cfg n s nds) m = (.ok (), m')) :
    ∀ x ∈ sparesOf (chunks2 nds), ∀ i, i < 3 → m.β i x = 0 := by
  obtain ⟨_, _, m1, m2, _, r, x1, x2, _, _, hLne, _, _, ls, hb0, _, i1, e1, hch1, s2, i2, lr, hr, _, _, lx2, s3, _, _⟩ :=
    fanFrom_elim cfg n s nds L m m' hi hc hlen hsnd hsp h
  have hp : FacePath m s L := hc.facePath
  have hzL : L.getLast hLne ∈ L := List.getLast_mem hLne
  obtain ⟨fA, fB, _⟩ := fanLoop_free cfg _ s L m1 m2 r i1 ls hch1 hlen hp.nodup hp.nz hsnd hsp s2
  rw [← hr] at fA fB
  -- the closing sew tests the β0 image of the returned dart
  obtain ⟨_, _, f0r, _⟩ := oneSew2_eff cfg n i2 lx2 lr s3
  have hr1 : m1.β 0 r = 0 := by rw [← fB]; exact f0r
  intro x hx i hi3
  have hxs : x ≠ s := fun hh => (hsp x hx).2 (by rw [hh]; simp)
  have hxb : x ≠ m.β 0 s := fun hh => (hsp x hx).2 (by rw [hh, hb0]; exact List.mem_cons_of_mem _ hzL)
  have tr : m1.β i x = m.β i x := by
    rw [e1, if_neg (fun hh => hxs hh.2.symm), if_neg (fun hh => hxb hh.2.symm)]
  obtain ⟨k1, k2, k0⟩ := fA x hx
  rw [← tr]
  have hi' : i = 0 ∨ i = 1 ∨ i = 2 := by omega
  rcases hi' with rfl | rfl | rfl
  · by_cases hxr : x = r
    · rw [hxr]; exact hr1
    · exact k0 hxr
  · exact k1
  · exact k2

/-- **C13, linked spare darts are refused (`fan_cell`)**: a successful call on a closed face (spare darts in use, distinct,
    outside the face) has found every β image of every spare dart null in the map it started from -/
theorem C13_fan_ok_implies_spares_free (cfg : Cfg Val) (m m' : Map Val) (face : Nat) (nds rest : List Nat)
    (hwf : WF 3 m) (hc : ClosedFace m face rest) (hsp : ∀ d ∈ nds, C01.InUse m d ∧ d ∉ face :: rest) (hnd : nds.Nodup)
    (h : run (fanCell cfg m.n face nds) m = (.ok (), m')) :
    ∀ d ∈ nds, ∀ i, i < 3 → m.β i d = 0 := by
  obtain ⟨vals, id, L, h2, h4, hn, hs, hfrom, hrot, hcs, hLlen, hmem⟩ := fan_kernel_closed cfg m m' face nds rest hwf hc h
  have hk := chunks2_length nds
  simp only [List.length_cons] at h4 hn
  have hse := sparesOf_chunks2_even nds (by omega)
  have := fanFrom_free (n := m.n) (u := m.u) cfg _ nds L m m' (Inv.of_wf hwf) hcs (by omega)
    (by rw [hse]; exact hnd) (by rw [hse]; exact fun x hx => ⟨(hsp x hx).1, fun hh => (hsp x hx).2 (hmem x hh)⟩) hfrom
  rw [hse] at this
  exact this

/-- the same for `fan_convex_cell` -/
theorem C13_fan_convex_ok_implies_spares_free (cfg : Cfg Val) (m m' : Map Val) (face : Nat) (nds rest : List Nat)
    (hwf : WF 3 m) (hc : ClosedFace m face rest) (hsp : ∀ d ∈ nds, C01.InUse m d ∧ d ∉ face :: rest) (hnd : nds.Nodup)
    (h : run (fanConvexCell cfg m.n face nds) m = (.ok (), m')) :
    ∀ d ∈ nds, ∀ i, i < 3 → m.β i d = 0 := by
  obtain ⟨darts, h1, h3, hreq⟩ := C13_fanConvex_kernel cfg m.n face nds m m' h
  have hk := chunks2_length nds
  have hd : darts = face :: rest := by
    have := closedFace_orbit_eq hwf hc
    rw [h1] at this
    exact Out.ok.inj (Prod.mk.inj this).1
  rw [hd] at hreq
  simp only [List.length_cons] at hreq
  have hse := sparesOf_chunks2_even nds (by omega)
  have := fanFrom_free (n := m.n) (u := m.u) cfg face nds rest m m' (Inv.of_wf hwf) hc (by omega)
    (by rw [hse]; exact hnd) (by rw [hse]; exact fun x hx => ⟨(hsp x hx).1, (hsp x hx).2⟩) h3
  rw [hse] at this
  exact this

/-! ## non-vacuity and counterexamples -/

/-- the theorem applies to the pentagon: the call is `Ok`, the spare darts were free -/
example : ∀ d ∈ [6, 7, 8, 9], ∀ i, i < 3 → d7Map.β i d = 0 :=
  C13_earclip_ok_implies_spares_free (stdCfg 3 0) insideCCW d7Map _ 1 [6, 7, 8, 9] [2, 3, 4, 5] d7_wf d7_closed
    d7_spares (by decide) d7_ears (run_eq_of_fst (congrArg Prod.fst d7_earclip_run))

example : ∀ d ∈ [6, 7, 8, 9], ∀ i, i < 3 → d7Map.β i d = 0 :=
  C13_fan_ok_implies_spares_free (stdCfg 3 0) d7Map _ 1 [6, 7, 8, 9] [2, 3, 4, 5] d7_wf d7_closed d7_spares (by decide)
    (run_eq_of_fst (congrArg Prod.fst d7_fan_run))

example : ∀ d ∈ [6, 7, 8, 9], ∀ i, i < 3 → d7Map.β i d = 0 :=
  C13_fan_convex_ok_implies_spares_free (stdCfg 3 0) d7Map _ 1 [6, 7, 8, 9] [2, 3, 4, 5] d7_wf d7_closed d7_spares
    (by decide) (run_eq_of_fst (congrArg Prod.fst d7_fanConvex_run))

/-- the pentagon with the spare darts 8 and 9 already 2-linked to each other -/
def d7MapL : Map Val :=
  { d7Map with b := #[#[0, 5, 1, 2, 3, 4, 0, 0, 0, 0], #[0, 2, 3, 4, 5, 1, 0, 0, 0, 0], #[0, 0, 0, 0, 0, 0, 0, 0, 9, 8]] }

theorem d7L_refused : WF 3 d7MapL ∧
    (run (fanCell (stdCfg 3 0) d7MapL.n 1 [6, 7, 8, 9]) d7MapL).1 = .err (errNonFreeBase 2 8 9) ∧
    (run (fanConvexCell (stdCfg 3 0) d7MapL.n 1 [6, 7, 8, 9]) d7MapL).1 = .err (errNonFreeBase 2 8 9) ∧
    (run (earclipCell (stdCfg 3 0) d7MapL.n insideCCW 1 [6, 7, 8, 9]) d7MapL).1 = .err (errNonFreeBase 2 8 9) := by
  decide +kernel

/-- a LINKED spare dart is refused by the link core that tests it (`NonFreeBase`), by all three kernels, and nothing is
    published -/
example : WF 3 d7MapL ∧
    (run (fanCell (stdCfg 3 0) d7MapL.n 1 [6, 7, 8, 9]) d7MapL).1 = .err (errNonFreeBase 2 8 9) ∧
    (run (fanConvexCell (stdCfg 3 0) d7MapL.n 1 [6, 7, 8, 9]) d7MapL).1 = .err (errNonFreeBase 2 8 9) ∧
    (run (earclipCell (stdCfg 3 0) d7MapL.n insideCCW 1 [6, 7, 8, 9]) d7MapL).1 = .err (errNonFreeBase 2 8 9) :=
  d7L_refused

theorem atomically_fst_err {α : Type} {p : P Val α} {m : Map Val} {e : Err} (h : (run p m).1 = .err e) :
    (atomically p m).1 = .err e := by
  unfold atomically
  revert h
  generalize run p m = r
  obtain ⟨o, s⟩ := r
  rintro rfl
  rfl

example : (atomically (earclipCell (stdCfg 3 0) d7MapL.n insideCCW 1 [6, 7, 8, 9]) d7MapL).2 = d7MapL :=
  C06.C06_error_leaves_map_unchanged _ d7MapL (errNonFreeBase 2 8 9) (atomically_fst_err d7L_refused.2.2.2)

/-- the pentagon with a STALE VERTEX VALUE `(10, 10)` under the free spare dart 6 -/
def d7MapV : Map Val :=
  { d7Map with
    a := #[#[none, some (.pt 0 0 0), some (.pt 2 1 0), some (.pt 4 0 0), some (.pt 4 4 0), some (.pt 0 4 0),
             some (.pt 10 10 0), none, none, none],
           Array.replicate 11 none, Array.replicate 11 none, Array.replicate 11 none,
           Array.replicate 11 none, Array.replicate 11 none] }

/-- **a free spare dart that carries a vertex value is NOT refused, and the result is not a triangulation of the polygon**:
    there is no guard, the sew that makes the spare dart a corner merges its stale value into the vertex it joins
    (`Vertex2::merge` = average).  All three kernels answer `Ok`; `fan_cell` and `earclip_cell_countercw` move the corner
    `(4,4)` of dart 4 to `(7,7)`, `fan_convex_cell` moves the corner `(4,0)` of dart 3 to `(7,5)`; the doubled areas of the
    triangles of the result no longer add up to the pentagon's 28.  So the precondition "the right number of spare darts"
    of the property must read "of FRESH spare darts": free AND without vertex value (`hfresh` in C13d / C13e). -/
theorem C13_stale_spare_value_moves_a_corner_witness :
    WF 3 d7MapV ∧ (∀ d ∈ [6, 7, 8, 9], ∀ i, i < 3 → d7MapV.β i d = 0) ∧
    (run (fanCell (stdCfg 3 0) d7MapV.n 1 [6, 7, 8, 9]) d7MapV).1 = .ok () ∧
    pos (run (fanCell (stdCfg 3 0) d7MapV.n 1 [6, 7, 8, 9]) d7MapV).2 4 = some (.pt 7 7 0) ∧
    (run (earclipCell (stdCfg 3 0) d7MapV.n insideCCW 1 [6, 7, 8, 9]) d7MapV).1 = .ok () ∧
    pos (run (earclipCell (stdCfg 3 0) d7MapV.n insideCCW 1 [6, 7, 8, 9]) d7MapV).2 4 = some (.pt 7 7 0) ∧
    (run (fanConvexCell (stdCfg 3 0) d7MapV.n 1 [6, 7, 8, 9]) d7MapV).1 = .ok () ∧
    pos (run (fanConvexCell (stdCfg 3 0) d7MapV.n 1 [6, 7, 8, 9]) d7MapV).2 3 = some (.pt 7 5 0) ∧
    pos d7MapV 4 = some (.pt 4 4 0) ∧ pos d7MapV 3 = some (.pt 4 0 0) ∧
    (mapTris (run (fanCell (stdCfg 3 0) d7MapV.n 1 [6, 7, 8, 9]) d7MapV).2
      (fanFaces 2 [3, 4, 5, 1] (chunks2 [6, 7, 8, 9]))).map tri2 = [17, 27, 8] ∧
    (mapTris (run (earclipCell (stdCfg 3 0) d7MapV.n insideCCW 1 [6, 7, 8, 9]) d7MapV).2
      [(2, 3, 6), (1, 7, 8), (9, 4, 5)]).map tri2 = [17, 7, 28] := by decide +kernel

end HC.C13

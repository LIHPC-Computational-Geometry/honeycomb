/-
  C16 — steps 2 and 3 of grisubal as discrete functions (`Model/Grisubal.lean`: `slotsOf`, `hitsOf`, `groupOf`,
  `slicesFrom`, `idAssignments`, `intersectionIds`, `intersectionDarts`; Rust:
  `routines/process_intersecs_data.rs`: `group_intersections_per_edge`, `compute_intersection_ids`).

  * `C16_slots_genpos`              for a segment in general position every preallocated slot of
                                    `intersection_metadata` is written: the slots are the crossings of
                                    `C16_metadata_spec`, no `(0, NaN)` is left
  * `C16_hits_slot_numbers`         `enumerate().filter(!nan)` (/repo 2e893a8): the hits are exactly the written slots,
                                    each under its own SLOT number; unwritten slots contribute nothing, shift nothing
  * `C16_group_sorted`              per edge, the hits are all the hits of that edge, each once, by non-decreasing `t`
  * `C16_intersection_ids_spec`     for EVERY iteration order of the `HashMap`: the hit of rank `k`, `i`-th of its edge
                                    `e` in the order of `t`, receives the dart `fh[i]` of the edge's block of new darts
                                    when it hit the identifier dart of the edge, `sh[len - 1 - i]` when it hit the
                                    opposite dart; the block of the `j`-th edge in iteration order is
                                    `base + 2·(hits of the earlier edges) ..+ 2·len`.
                                    With `C14_insertVertices_beta_structure` / `C14_new_vertex_position_full`
                                    (`insert_vertices_on_edge(e, block, ts)`: `e → fh[0] → … → fh[len-1]`, the `i`-th new
                                    point at `t_i` is the vertex `{fh[i], sh[len-1-i]}`), this is: every crossing gets
                                    exactly one new dart pair on its edge, in the order of `t`, and its entry of
                                    `intersection_darts` is the dart of that vertex on the side that was hit.
  * `C16_intersection_ids_distinct` distinct hits receive distinct darts, all inside the allocated block
  * `C16_intersection_darts_spec`   steps 1 + 2 on a slot vector: the written slot `k` gets its dart at `res[k]` — also with
    `C16_intersection_darts_distinct`  unwritten slots (corner crossings) before it: the positive form of finding D16c
    `C16_unwritten_slot_null`       an unwritten slot keeps 0
  * `C16_insert_edge_spec`          the MAP after step 3 on one edge (C14's `insertVerticesOnEdge` on the block of the
                                    edge with its sorted positions): well formed, C14's `InsertResult` chain, the `i`-th
                                    hit reads `fh[i]` / `sh[len-1-i]` with `β1 (β2 sh[len-1-i]) = fh[i]`, and the vertex of
                                    `fh[i]` carries the point at position `t_i`; read off `insert_block` (`BlockEff`: what one
                                    insertion on a block `off ..+ 2·len` does, with `block_pairs`, `block_frame`,
                                    `block_mirror`: used again by step 5 and by the chain).  The induction over all edges is
                                    `insertIntersections_eff` (Props/C16Chain.lean)

  Tie: `slotsOf` is compared with the real step 1 through the hook `verif::intersection_data` (`gcrossd`, also on segments
  through grid corners / ending on grid lines); steps 2 + 3 (`stepsTwoThree`, `Model/GrisubalInsert.lean`) are compared with
  the hook `verif::intersection_darts` (`gids`: the vector of darts, `wf` and the full snapshot of the map after insertion
  as identical text, the iteration order of the real `HashMap` being read off the implementation's result and handed to
  the model, which is parametric in it — the theorems hold for every order), on random slot vectors and on the real slot
  vectors of corner / on-line geometries.
-/
import Mathlib.Data.List.Nodup
import Honeycomb.Props.C16Cross
import Honeycomb.Props.C14c

namespace HC.C16
open HC

/-! ## step 1 leaves no empty slot in general position -/

theorem C16_slots_genpos {g : GGrid} {eps : Rat} {a b : Pt} (H : GenPos g eps a b) :
    slotsOf g eps a b = (crossingsMeta g eps a b).map (fun c => some (c.dart, c.t)) := by
  obtain ⟨h1, _, h3⟩ := C16_metadata_spec H
  unfold slotsOf
  simp only
  have e : ∀ (P : Prop) [Decidable P], (crossingsMeta g eps a b).map
      (fun c => if P ∧ c.t = 0 then (none : Slot) else some (c.dart, c.t)) =
      (crossingsMeta g eps a b).map (fun c => some (c.dart, c.t)) := by
    intro P _
    apply List.map_congr_left
    intro c hc
    have := (h1 c hc).2.1
    rw [if_neg]
    intro hh
    rw [hh.2] at this
    exact lt_irrefl _ this
  have e' := e ((((gridCellOf g b).1 : Int) - ((gridCellOf g a).1 : Int)) ≠ 0 ∧ (((gridCellOf g b).2 : Int) - ((gridCellOf g a).2 : Int)) ≠ 0)
  simp only [and_assoc] at e'
  rw [e', List.length_map, h3, Nat.sub_self]
  simp

/-! ## `enumerate().filter(!nan)` -/

theorem getElem_idx_lt {α : Type} {l : List α} {i : Nat} {a : α} (h : l[i]? = some a) : i < l.length :=
  (List.getElem?_eq_some_iff.1 h).1

theorem filterMap_sublist_map {α β : Type} {f : α → Option β} {g : α → β} (h : ∀ x y, f x = some y → y = g x) :
    ∀ l : List α, (l.filterMap f).Sublist (l.map g)
  | [] => List.Sublist.slnil
  | x :: l => by
      rw [List.filterMap_cons, List.map_cons]
      cases hf : f x with
      | none => exact (filterMap_sublist_map h l).cons _
      | some y => rw [h x y hf]; exact (filterMap_sublist_map h l).cons_cons _

/-- **C16, step 2 — identifiers are slot numbers**: the hits are exactly the written slots, each under its own slot
    number `k` (the `k` of `GeometryVertex::Intersec(k)`), with its edge and its position measured from the edge's
    identifier dart; unwritten slots contribute nothing and shift nothing -/
theorem C16_hits_slot_numbers (b2 : Nat → Nat) (slots : List Slot) (x : Nat × Hit) :
    x ∈ hitsOf b2 slots ↔ ∃ k d t, slots[k]? = some (some (d, t)) ∧
      x = (edgeOf b2 d, { idx := k, t := if edgeOf b2 d ≠ d then 1 - t else t, dart := d }) := by
  unfold hitsOf
  rw [List.mem_filterMap]
  constructor
  · rintro ⟨⟨sl, k⟩, hm, hx⟩
    rw [List.mem_zipIdx_iff_getElem?] at hm
    cases sl with
    | none => simp at hx
    | some dt =>
        simp only [Option.map_some, Option.some.injEq] at hx
        exact ⟨k, dt.1, dt.2, by simpa using hm, hx.symm⟩
  · rintro ⟨k, d, t, hk, rfl⟩
    exact ⟨(some (d, t), k), List.mem_zipIdx_iff_getElem?.2 hk, rfl⟩

theorem hits_idx_nodup (b2 : Nat → Nat) (slots : List Slot) : ((hitsOf b2 slots).map (fun x => x.2.idx)).Nodup := by
  unfold hitsOf
  rw [List.map_filterMap]
  have hsub := filterMap_sublist_map (g := fun x : Slot × Nat => x.2)
    (f := fun x : Slot × Nat => Option.map (fun y : Nat × Hit => y.2.idx) (x.1.map fun dt =>
      (edgeOf b2 dt.1, ({ idx := x.2, t := if edgeOf b2 dt.1 ≠ dt.1 then 1 - dt.2 else dt.2, dart := dt.1 } : Hit))))
    (by
      intro x y hy
      cases hx : x.1 with
      | none => rw [hx] at hy; simp at hy
      | some dt => rw [hx] at hy; simp at hy; exact hy.symm) slots.zipIdx
  refine List.Nodup.sublist hsub ?_
  rw [List.zipIdx_map_snd]
  exact List.nodup_range'

theorem hits_idx_lt (b2 : Nat → Nat) (slots : List Slot) {x : Nat × Hit} (hx : x ∈ hitsOf b2 slots) :
    x.2.idx < slots.length := by
  obtain ⟨k, d, t, hk, rfl⟩ := (C16_hits_slot_numbers b2 slots x).1 hx
  exact getElem_idx_lt hk

/-! ## the stable sort by `t` -/

theorem insertHit_eq (c : Hit) (l : List Hit) : insertHit c l = Cross.insertBy (·.t) c l := by
  induction l with
  | nil => rfl
  | cons d ds ih => simp only [insertHit, Cross.insertBy, ih]

theorem sortHits_eq (l : List Hit) : sortHits l = Cross.sortBy (·.t) l := by
  unfold sortHits Cross.sortBy
  simp only [insertHit_eq]

theorem sortHits_perm (l : List Hit) : (sortHits l).Perm l := by
  rw [sortHits_eq]; exact Cross.sortBy_perm _ l

theorem sortHits_sorted (l : List Hit) : (sortHits l).Pairwise (fun a b => a.t ≤ b.t) := by
  rw [sortHits_eq]; exact Cross.sortBy_sorted _ l

theorem mem_groupOf {hs : List (Nat × Hit)} {e : Nat} {h : Hit} : h ∈ groupOf hs e ↔ (e, h) ∈ hs := by
  unfold groupOf
  rw [(sortHits_perm _).mem_iff, List.mem_map]
  constructor
  · rintro ⟨x, hx, rfl⟩
    rw [List.mem_filter] at hx
    have : x.1 = e := by simpa using hx.2
    rw [← this]; exact hx.1
  · intro hx
    exact ⟨(e, h), List.mem_filter.2 ⟨hx, by simp⟩, rfl⟩

/-- **C16, step 2 — one sorted list per edge**: under the key `e` the map holds exactly the hits of the edge `e`,
    each as often as it was found, by non-decreasing position `t` along the edge -/
theorem C16_group_sorted (hs : List (Nat × Hit)) (e : Nat) :
    (groupOf hs e).Perm ((hs.filter (fun x => x.1 = e)).map (·.2)) ∧
    (groupOf hs e).Pairwise (fun a b => a.t ≤ b.t) ∧
    ∀ h, h ∈ groupOf hs e ↔ (e, h) ∈ hs :=
  ⟨sortHits_perm _, sortHits_sorted _, fun _ => mem_groupOf⟩

theorem groupOf_idx_nodup {hs : List (Nat × Hit)} (hnd : (hs.map (fun x => x.2.idx)).Nodup) (e : Nat) :
    ((groupOf hs e).map (·.idx)).Nodup := by
  have hp : ((groupOf hs e).map (·.idx)).Perm (((hs.filter (fun x => x.1 = e)).map (·.2)).map (·.idx)) :=
    (sortHits_perm _).map _
  rw [hp.nodup_iff, List.map_map]
  exact hnd.sublist (List.filter_sublist.map _)

/-! ## the blocks of new darts -/

theorem slicesFrom_length : ∀ (ks : List Nat) (base : Nat), (slicesFrom base ks).length = ks.length
  | [], _ => rfl
  | k :: ks, base => by simp [slicesFrom, slicesFrom_length ks]

theorem slicesFrom_get : ∀ (ks : List Nat) (base j : Nat) (nd : List Nat), (slicesFrom base ks)[j]? = some nd →
    ∃ k, ks[j]? = some k ∧ nd = List.range' (base + 2 * (ks.take j).sum) (2 * k)
  | [], _, j, nd, h => by simp [slicesFrom] at h
  | k :: ks, base, 0, nd, h => by
      simp only [slicesFrom, List.getElem?_cons_zero, Option.some.injEq] at h
      exact ⟨k, rfl, by simp [← h]⟩
  | k :: ks, base, j + 1, nd, h => by
      simp only [slicesFrom, List.getElem?_cons_succ] at h
      obtain ⟨k', h1, h2⟩ := slicesFrom_get ks _ j nd h
      refine ⟨k', by simpa using h1, ?_⟩
      rw [h2, List.take_succ_cons, List.sum_cons]
      congr 1
      omega

/-! ## `res[id] = …` -/

theorem foldl_set_length (as : List (Nat × Nat)) : ∀ (r : List Nat),
    (as.foldl (fun r a => r.set a.1 a.2) r).length = r.length := by
  induction as with
  | nil => intro r; rfl
  | cons x xs ih => intro r; simp only [List.foldl_cons]; rw [ih, List.length_set]

theorem foldl_set_other (as : List (Nat × Nat)) (i : Nat) (hi : i ∉ as.map (·.1)) : ∀ (r : List Nat),
    (as.foldl (fun r a => r.set a.1 a.2) r)[i]? = r[i]? := by
  induction as with
  | nil => intro r; rfl
  | cons x xs ih =>
      intro r
      simp only [List.map_cons, List.mem_cons, not_or] at hi
      simp only [List.foldl_cons]
      rw [ih hi.2, List.getElem?_set_ne (Ne.symm hi.1)]

theorem foldl_set_get (as : List (Nat × Nat)) (hnd : (as.map (·.1)).Nodup) : ∀ (r : List Nat) (a : Nat × Nat),
    a ∈ as → a.1 < r.length → (as.foldl (fun r a => r.set a.1 a.2) r)[a.1]? = some a.2 := by
  induction as with
  | nil => intro r a ha; cases ha
  | cons x xs ih =>
      intro r a ha hlt
      simp only [List.map_cons, List.nodup_cons] at hnd
      simp only [List.foldl_cons]
      rcases List.mem_cons.1 ha with rfl | ha
      · rw [foldl_set_other xs _ hnd.1, List.getElem?_set_self hlt]
      · exact ih hnd.2 _ a ha (by rw [List.length_set]; exact hlt)

/-! ## the assignments -/

section
variable {hs : List (Nat × Hit)} {keys : List Nat} {base : Nat}

/-- groups and blocks, zipped, at the position `j` of the iteration order -/
theorem zip_get {j e : Nat} (hj : keys[j]? = some e) :
    ∃ nd, (slicesFrom base ((groupsOf hs keys).map (·.2.length)))[j]? = some nd ∧
      ((groupsOf hs keys).zip (slicesFrom base ((groupsOf hs keys).map (·.2.length))))[j]? =
        some ((e, groupOf hs e), nd) ∧
      nd = List.range' (base + 2 * (((groupsOf hs keys).map (·.2.length)).take j).sum) (2 * (groupOf hs e).length) := by
  have hlt : j < keys.length := getElem_idx_lt hj
  have hg : (groupsOf hs keys)[j]? = some (e, groupOf hs e) := by
    unfold groupsOf; rw [List.getElem?_map, hj]; rfl
  have hl : j < (slicesFrom base ((groupsOf hs keys).map (·.2.length))).length := by
    rw [slicesFrom_length, List.length_map]; unfold groupsOf; rw [List.length_map]; exact hlt
  obtain ⟨nd, hnd⟩ : ∃ nd, (slicesFrom base ((groupsOf hs keys).map (·.2.length)))[j]? = some nd :=
    ⟨_, List.getElem?_eq_getElem hl⟩
  refine ⟨nd, hnd, ?_, ?_⟩
  · rw [List.getElem?_zip_eq_some]; exact ⟨hg, hnd⟩
  · obtain ⟨k, h1, h2⟩ := slicesFrom_get _ _ _ _ hnd
    rw [List.getElem?_map, hg] at h1
    simp only [Option.map_some, Option.some.injEq] at h1
    rw [h2, ← h1]

/-- the indices written by `compute_intersection_ids` are the ranks of the hits, each once -/
theorem assign_idx (hnd : (hs.map (fun x => x.2.idx)).Nodup) (hk : keys.Nodup) :
    ((idAssignments (groupsOf hs keys) (slicesFrom base ((groupsOf hs keys).map (·.2.length)))).map (·.1)).Nodup ∧
    ∀ a, a ∈ idAssignments (groupsOf hs keys) (slicesFrom base ((groupsOf hs keys).map (·.2.length))) →
      ∃ x, x ∈ hs ∧ a.1 = x.2.idx := by
  have hlen : (groupsOf hs keys).length = (slicesFrom base ((groupsOf hs keys).map (·.2.length))).length := by
    rw [slicesFrom_length, List.length_map]
  -- the indices written, in order: key by key, the slot numbers of the hits of that key (the darts assigned play no part)
  have hfst : (idAssignments (groupsOf hs keys) (slicesFrom base ((groupsOf hs keys).map (·.2.length)))).map (·.1) =
      keys.flatMap (fun e => (groupOf hs e).map (·.idx)) := by
    unfold idAssignments
    rw [List.map_flatMap]
    have : ∀ x : (Nat × List Hit) × List Nat,
        (x.1.2.zipIdx.map fun hi : Hit × Nat =>
          (hi.1.idx, if hi.1.dart = x.1.1 then x.2.getD hi.2 0 else x.2.getD (x.2.length / 2 + (x.2.length / 2 - 1 - hi.2)) 0)).map (·.1) =
        (fun y : (Nat × List Hit) × List Nat => y.1.2.map (·.idx)) x := by
      intro x
      rw [List.map_map]
      have : ((fun a : Nat × Nat => a.1) ∘ fun hi : Hit × Nat =>
          (hi.1.idx, if hi.1.dart = x.1.1 then x.2.getD hi.2 0 else x.2.getD (x.2.length / 2 + (x.2.length / 2 - 1 - hi.2)) 0)) =
          (fun h : Hit => h.idx) ∘ Prod.fst := by funext hi; rfl
      rw [this, ← List.map_map, List.zipIdx_map_fst]
    simp only [this]
    have h2 : ((groupsOf hs keys).zip (slicesFrom base ((groupsOf hs keys).map (·.2.length)))).flatMap
        (fun y : (Nat × List Hit) × List Nat => y.1.2.map (·.idx)) =
        (((groupsOf hs keys).zip (slicesFrom base ((groupsOf hs keys).map (·.2.length)))).map (·.1)).flatMap
          (fun g : Nat × List Hit => g.2.map (·.idx)) := by
      rw [List.flatMap_map]
    rw [h2, List.map_fst_zip (Nat.le_of_eq hlen)]
    unfold groupsOf
    rw [List.flatMap_map]
  constructor
  · -- no repetition inside a key (`groupOf_idx_nodup`), none across two keys: a slot number determines its hit, hence its edge
    rw [hfst, List.nodup_flatMap]
    refine ⟨fun e _ => groupOf_idx_nodup hnd e, ?_⟩
    refine hk.imp ?_
    intro e e' hne
    show List.Disjoint _ _
    intro v hv hv'
    obtain ⟨h, hh, rfl⟩ := List.mem_map.1 hv
    obtain ⟨h', hh', e2⟩ := List.mem_map.1 hv'
    have m1 := mem_groupOf.1 hh
    have m2 := mem_groupOf.1 hh'
    have := List.inj_on_of_nodup_map hnd m1 m2 (by simpa using e2.symm)
    exact hne (by injection this)
  · intro a ha
    have : a.1 ∈ keys.flatMap (fun e => (groupOf hs e).map (·.idx)) := by
      rw [← hfst]; exact List.mem_map.2 ⟨a, ha, rfl⟩
    obtain ⟨e, _, hv⟩ := List.mem_flatMap.1 this
    obtain ⟨h, hh, e2⟩ := List.mem_map.1 hv
    exact ⟨(e, h), mem_groupOf.1 hh, e2.symm⟩

/-- the value of `res[h.idx]` for given positions `j` (of the edge among the keys) and `i` (of the hit among the sorted
    hits of the edge) -/
theorem intersection_ids_at (hnd : (hs.map (fun x => x.2.idx)).Nodup) (hk : keys.Nodup)
    (n : Nat) (hn : ∀ x, x ∈ hs → x.2.idx < n)
    {e : Nat} {h : Hit} (hx : (e, h) ∈ hs) {j i : Nat} (hj : keys[j]? = some e) (hi : (groupOf hs e)[i]? = some h) :
      (intersectionIds n (groupsOf hs keys) (slicesFrom base ((groupsOf hs keys).map (·.2.length))))[h.idx]? =
        some (if h.dart = e then base + 2 * (((groupsOf hs keys).map (·.2.length)).take j).sum + i
              else base + 2 * (((groupsOf hs keys).map (·.2.length)).take j).sum +
                ((groupOf hs e).length + ((groupOf hs e).length - 1 - i))) := by
  obtain ⟨nd, _, hz, hnd'⟩ := zip_get (hs := hs) (base := base) hj
  have hilt : i < (groupOf hs e).length := getElem_idx_lt hi
  have hndl : nd.length = 2 * (groupOf hs e).length := by rw [hnd', List.length_range']
  have hhl : nd.length / 2 = (groupOf hs e).length := by omega
  have hget : ∀ p, p < 2 * (groupOf hs e).length → nd.getD p 0 =
      base + 2 * (((groupsOf hs keys).map (·.2.length)).take j).sum + p := by
    intro p hp
    rw [List.getD_eq_getElem?_getD, hnd', List.getElem?_range' (by omega)]
    simp
  have hmem : (h.idx, if h.dart = e then nd.getD i 0 else nd.getD (nd.length / 2 + (nd.length / 2 - 1 - i)) 0) ∈
      idAssignments (groupsOf hs keys) (slicesFrom base ((groupsOf hs keys).map (·.2.length))) := by
    unfold idAssignments
    rw [List.mem_flatMap]
    refine ⟨((e, groupOf hs e), nd), List.mem_of_getElem? hz, ?_⟩
    rw [List.mem_map]
    exact ⟨(h, i), List.mem_zipIdx_iff_getElem?.2 hi, rfl⟩
  have := foldl_set_get _ (assign_idx (base := base) hnd hk).1 (List.replicate n 0) _ hmem
    (by rw [List.length_replicate]; exact hn _ hx)
  simp only at this ⊢
  unfold intersectionIds
  rw [this]
  congr 1
  by_cases hd : h.dart = e
  · rw [if_pos hd, if_pos hd, hget i (by omega)]
  · rw [if_neg hd, if_neg hd, hhl, hget _ (by omega)]

/-- **C16, step 2 — the dart of every hit, for every iteration order of the `HashMap`**: let `keys` be the order in
    which the map yields its keys (each key once, every edge that was hit among them).  The hit `h` of the edge `e`,
    `e` being the `j`-th key and `h` the `i`-th hit of `e` in the order of `t`, receives
    `res[h.idx] = fh[i]` when it hit the identifier dart of the edge and `sh[len - 1 - i]` when it hit the opposite dart,
    where `fh ++ sh` is the block `base + 2·(number of hits of the keys before e) ..+ 2·len` of `len = #hits of e`
    pairs of new darts -/
theorem C16_intersection_ids_spec (hnd : (hs.map (fun x => x.2.idx)).Nodup) (hk : keys.Nodup)
    (hall : ∀ x, x ∈ hs → x.1 ∈ keys) (n : Nat) (hn : ∀ x, x ∈ hs → x.2.idx < n)
    {e : Nat} {h : Hit} (hx : (e, h) ∈ hs) :
    ∃ j i, keys[j]? = some e ∧ (groupOf hs e)[i]? = some h ∧
      let len := (groupOf hs e).length
      let off := base + 2 * (((groupsOf hs keys).map (·.2.length)).take j).sum
      (intersectionIds n (groupsOf hs keys) (slicesFrom base ((groupsOf hs keys).map (·.2.length))))[h.idx]? =
        some (if h.dart = e then off + i else off + (len + (len - 1 - i))) := by
  obtain ⟨j, hj⟩ := List.getElem?_of_mem (hall _ hx)
  obtain ⟨i, hi⟩ := List.getElem?_of_mem (mem_groupOf.2 hx)
  exact ⟨j, i, hj, hi, intersection_ids_at (base := base) hnd hk n hn hx hj hi⟩

theorem prefix_lt : ∀ {L : List Nat} {j j' k : Nat}, L[j]? = some k → j < j' → (L.take j).sum + k ≤ (L.take j').sum
  | [], j, _, _, hj, _ => by simp at hj
  | a :: as, 0, j' + 1, k, hj, _ => by
      simp only [List.getElem?_cons_zero, Option.some.injEq] at hj
      simp only [List.take_zero, List.sum_nil, List.take_succ_cons, List.sum_cons]
      omega
  | a :: as, j + 1, j' + 1, k, hj, hlt => by
      simp only [List.getElem?_cons_succ] at hj
      have := prefix_lt hj (Nat.lt_of_succ_lt_succ hlt)
      simp only [List.take_succ_cons, List.sum_cons]
      omega

theorem prefix_le_total {L : List Nat} {j k : Nat} (hj : L[j]? = some k) : (L.take j).sum + k ≤ L.sum := by
  have := prefix_lt hj (getElem_idx_lt hj)
  rwa [List.take_length] at this

/-- the place of the `i`-th hit in the block `off ..+ 2·len` of its edge (first half in order, second half
    backwards) lies in the block, and different `i` have different places -/
theorem block_place {off len i : Nat} (c : Prop) [Decidable c] (hi : i < len) :
    off ≤ (if c then off + i else off + (len + (len - 1 - i))) ∧
    (if c then off + i else off + (len + (len - 1 - i))) < off + 2 * len := by
  split <;> omega

theorem block_place_inj {off len i i' : Nat} (c c' : Prop) [Decidable c] [Decidable c'] (hi : i < len)
    (hi' : i' < len) (hne : i ≠ i') :
    (if c then off + i else off + (len + (len - 1 - i))) ≠
      (if c' then off + i' else off + (len + (len - 1 - i'))) := by
  split <;> split <;> omega

/-- **C16, step 2 — one dart per hit**: distinct hits receive distinct darts, all of them among the
    `n_tot = 2·Σ len` darts allocated by `add_free_darts(n_tot)` (first one: `base`) -/
theorem C16_intersection_ids_distinct (hnd : (hs.map (fun x => x.2.idx)).Nodup) (hk : keys.Nodup)
    (hall : ∀ x, x ∈ hs → x.1 ∈ keys) (n : Nat) (hn : ∀ x, x ∈ hs → x.2.idx < n)
    {x y : Nat × Hit} (hx : x ∈ hs) (hy : y ∈ hs) (hne : x ≠ y) :
    ∃ dx dy,
      (intersectionIds n (groupsOf hs keys) (slicesFrom base ((groupsOf hs keys).map (·.2.length))))[x.2.idx]? = some dx ∧
      (intersectionIds n (groupsOf hs keys) (slicesFrom base ((groupsOf hs keys).map (·.2.length))))[y.2.idx]? = some dy ∧
      dx ≠ dy ∧ base ≤ dx ∧ dx < base + 2 * ((groupsOf hs keys).map (·.2.length)).sum := by
  obtain ⟨e, h⟩ := x
  obtain ⟨e', h'⟩ := y
  obtain ⟨j, i, hj, hi, hv⟩ := C16_intersection_ids_spec (base := base) hnd hk hall n hn hx
  obtain ⟨j', i', hj', hi', hv'⟩ := C16_intersection_ids_spec (base := base) hnd hk hall n hn hy
  simp only at hv hv'
  have hL : ∀ {j e : Nat}, keys[j]? = some e → ((groupsOf hs keys).map (·.2.length))[j]? = some (groupOf hs e).length := by
    intro j e hj
    unfold groupsOf
    rw [List.map_map, List.getElem?_map, hj]; rfl
  have tot := prefix_le_total (hL hj)
  -- each value lies in the block of its edge; the blocks of different keys are disjoint
  obtain ⟨b1, b2⟩ := block_place (off := base + 2 * (((groupsOf hs keys).map (·.2.length)).take j).sum)
    (h.dart = e) (getElem_idx_lt hi)
  obtain ⟨b1', b2'⟩ := block_place (off := base + 2 * (((groupsOf hs keys).map (·.2.length)).take j').sum)
    (h'.dart = e') (getElem_idx_lt hi')
  refine ⟨_, _, hv, hv', ?_, by omega, by omega⟩
  rcases Nat.lt_trichotomy j j' with hlt | heq | hgt
  · have := prefix_lt (hL hj) hlt
    omega
  · -- the same edge: different positions
    rw [heq, hj'] at hj
    injection hj with hj
    subst hj
    rw [heq]
    refine block_place_inj _ _ (getElem_idx_lt hi) (getElem_idx_lt hi') (fun e2 => ?_)
    rw [e2, hi'] at hi
    injection hi with hi
    exact hne (by rw [hi])
  · have := prefix_lt (hL hj') hgt
    omega

/-- **C16, step 2 — the entries that are never written stay `NULL_DART_ID`** -/
theorem ids_unwritten (hnd : (hs.map (fun x => x.2.idx)).Nodup) (hk : keys.Nodup) (n k : Nat) (hk' : k < n)
    (hno : ∀ x, x ∈ hs → x.2.idx ≠ k) :
    (intersectionIds n (groupsOf hs keys) (slicesFrom base ((groupsOf hs keys).map (·.2.length))))[k]? = some 0 := by
  unfold intersectionIds
  rw [foldl_set_other]
  · rw [List.getElem?_replicate, if_pos hk']
  · intro hmem
    obtain ⟨a, ha, e⟩ := List.mem_map.1 hmem
    obtain ⟨x, hx, e2⟩ := (assign_idx (base := base) hnd hk).2 a ha
    exact hno x hx (by rw [← e2, e])

end

/-- **C16, steps 1 + 2 — every written slot gets its dart under its own number** (the positive form of the repaired
    D16c), for every iteration order `keys` of the `HashMap`: the slot `k` holding `(d, t)` receives at `res[k]` a dart of
    the block of its edge `e = edge_id(d)` (the `j`-th key): the `i`-th of the first half when `d` is the identifier dart
    of the edge, the `i`-th from the end of the second half otherwise, `i` being the position of the hit among the hits of
    that edge in the order of `t` (measured from the identifier dart).  Unwritten slots in between change nothing. -/
theorem C16_intersection_darts_spec (b2 : Nat → Nat) (base : Nat) (slots : List Slot) (keys : List Nat)
    (hk : keys.Nodup) (hall : ∀ (k d : Nat) (t : Rat), slots[k]? = some (some (d, t)) → edgeOf b2 d ∈ keys) {k d : Nat} {t : Rat}
    (hkd : slots[k]? = some (some (d, t))) :
    let hs := hitsOf b2 slots
    let e := edgeOf b2 d
    let h : Hit := { idx := k, t := if e ≠ d then 1 - t else t, dart := d }
    ∃ j i, keys[j]? = some e ∧ (groupOf hs e)[i]? = some h ∧
      (intersectionDarts b2 base slots keys)[k]? =
        some (if d = e then base + 2 * (((groupsOf hs keys).map (·.2.length)).take j).sum + i
              else base + 2 * (((groupsOf hs keys).map (·.2.length)).take j).sum +
                ((groupOf hs e).length + ((groupOf hs e).length - 1 - i))) := by
  intro hs e h
  have hx : (e, h) ∈ hs := (C16_hits_slot_numbers b2 slots _).2 ⟨k, d, t, hkd, rfl⟩
  have hall' : ∀ x, x ∈ hs → x.1 ∈ keys := by
    intro x hx'
    obtain ⟨k', d', t', hk', rfl⟩ := (C16_hits_slot_numbers b2 slots x).1 hx'
    exact hall k' d' t' hk'
  have hn : ∀ x, x ∈ hs → x.2.idx < slots.length := fun x hx' => hits_idx_lt b2 slots hx'
  obtain ⟨j, i, h1, h2, h3⟩ := C16_intersection_ids_spec (base := base) (hits_idx_nodup b2 slots) hk hall' _ hn hx
  exact ⟨j, i, h1, h2, h3⟩

/-- **C16, steps 1 + 2 — an unwritten slot keeps `NULL_DART_ID`** (and nothing reads it: its vertex is a
    `GeometryVertex::IntersecCorner`, resolved from its dart, not from `intersection_darts`) -/
theorem C16_unwritten_slot_null (b2 : Nat → Nat) (base : Nat) (slots : List Slot) (keys : List Nat) (hk : keys.Nodup)
    {k : Nat} (hkn : slots[k]? = some none) :
    (intersectionDarts b2 base slots keys)[k]? = some 0 := by
  have hlt : k < slots.length := getElem_idx_lt hkn
  unfold intersectionDarts
  refine ids_unwritten (base := base) (hits_idx_nodup b2 slots) hk _ k hlt ?_
  intro x hx e
  obtain ⟨k', d, t, hk', rfl⟩ := (C16_hits_slot_numbers b2 slots x).1 hx
  simp only at e
  rw [e, hkn] at hk'
  cases hk'

/-- distinct written slots receive distinct darts, inside the allocated block -/
theorem C16_intersection_darts_distinct (b2 : Nat → Nat) (base : Nat) (slots : List Slot) (keys : List Nat)
    (hk : keys.Nodup) (hall : ∀ (k d : Nat) (t : Rat), slots[k]? = some (some (d, t)) → edgeOf b2 d ∈ keys) {k k' : Nat}
    {dt dt' : Nat × Rat} (hkd : slots[k]? = some (some dt)) (hkd' : slots[k']? = some (some dt')) (hne : k ≠ k') :
    ∃ x y, (intersectionDarts b2 base slots keys)[k]? = some x ∧ (intersectionDarts b2 base slots keys)[k']? = some y ∧
      x ≠ y ∧ base ≤ x ∧
      x < base + 2 * ((groupsOf (hitsOf b2 slots) keys).map (·.2.length)).sum := by
  have hall' : ∀ x, x ∈ hitsOf b2 slots → x.1 ∈ keys := by
    intro x hx'
    obtain ⟨k', d', t', hk', rfl⟩ := (C16_hits_slot_numbers b2 slots x).1 hx'
    exact hall k' d' t' hk'
  have m1 := (C16_hits_slot_numbers b2 slots _).2 ⟨k, dt.1, dt.2, hkd, rfl⟩
  have m2 := (C16_hits_slot_numbers b2 slots _).2 ⟨k', dt'.1, dt'.2, hkd', rfl⟩
  exact C16_intersection_ids_distinct (base := base) (hits_idx_nodup b2 slots) hk hall' _
    (fun x hx' => hits_idx_lt b2 slots hx') m1 m2 (by intro e; injection e with _ e2; injection e2 with e3; exact hne e3)

/-! ## step 3 on one edge: the map -/

theorem range'_getD {a n i : Nat} (h : i < n) : (List.range' a n).getD i 0 = a + i := by
  rw [List.getD_eq_getElem?_getD, List.getElem?_range' h]; simp

theorem range'_halves (off len : Nat) :
    List.range' off (2 * len) = List.range' off len ++ List.range' (off + len) len := by
  rw [show 2 * len = len + len by omega, ← List.range'_append, Nat.one_mul]

theorem range'_take_half (off len : Nat) : (List.range' off (2 * len)).take len = List.range' off len := by
  rw [range'_halves, List.take_left' (by rw [List.length_range'])]

theorem range'_drop_half (off len : Nat) : (List.range' off (2 * len)).drop len = List.range' (off + len) len := by
  rw [range'_halves, List.drop_left' (by rw [List.length_range'])]

/-- what a successful `insert_vertices_on_edge` on the block `off ..+ 2·len` has done: C14's `InsHyp` with the two halves
    as ranges, the flags and every storage but the coordinates untouched, the new vertices distinct, and the new vertex of
    `off + i` at position `ts[i]` between the values read at the two ends of the edge -/
structure BlockEff (m m' : Map Val) (e off len : Nat) (ts : List Rat) : Prop where
  hyp : C14.InsHyp m m' e (List.range' off len) (List.range' (off + len) len)
  u : m'.u = m.u
  att : ∀ s d, s ≠ 0 → m'.att s d = m.att s d
  dist : ((List.range' off len).map fun x => (run (vertexId2 m.n x) m').1).Nodup
  pos : ∃ vid1 vid2 v1 v2, run (vertexId2 m.n e) m = (.ok vid1, m) ∧
    run (vertexId2 m.n (if m.β 1 e ≠ 0 then m.β 1 e else m.β 2 e)) m = (.ok vid2, m) ∧
    m.att 0 vid1 = some v1 ∧ m.att 0 vid2 = some v2 ∧
    ∀ x, x ∈ ts.zip (List.range' off len) → ∀ vid, (run (vertexId2 m.n x.2) m').1 = .ok vid →
      m'.att 0 vid = some (placeVal v1 v2 (some x.1))

theorem insert_block {m m' : Map Val} {e off len : Nat} {ts : List Rat} (hlen : ts.length = len) (hwf : WF 3 m)
    (he : C01.InUse m e) (hlive : ∀ d, d ∈ List.range' off (2 * len) → m.unused d = false)
    (hr : run (insertVerticesOnEdge m.n e (List.range' off (2 * len)) ts) m = (.ok (), m')) :
    BlockEff m m' e off len ts := by
  have hfhnd : ((List.range' off (2 * len)).take ts.length).Nodup := (List.nodup_range').sublist (List.take_sublist _ _)
  have H := C14.insHyp_insertVertices m m' e _ _ hwf he hlive hfhnd (fun _ => List.nodup_range') hr
  have inv := C14.insertVertices_inv m m' e _ _ hwf he hlive (fun _ => List.nodup_range') hr
  have hdist := C14.C14_new_darts_distinct_vertices m m' e _ _ hwf he hlive hfhnd (fun _ => List.nodup_range') hr
  obtain ⟨vid1, vid2, v1, v2, r1, r2, g1, g2, hpos, hatt⟩ := C14.C14_new_vertex_position_full m m' e _ _ hwf he hlive hfhnd
    (fun _ => List.nodup_range') hr
  rw [hlen, range'_take_half, range'_drop_half] at H
  rw [hlen, range'_take_half] at hdist hpos
  refine ⟨H, inv.u_eq, fun s d hs => hatt s d (Or.inl hs), ?_, ⟨vid1, vid2, v1, v2, r1, r2, g1, g2, hpos⟩⟩
  have : (fun x : Rat × Nat => (run (vertexId2 m.n x.2) m').1) =
      (fun x : Nat => (run (vertexId2 m.n x) m').1) ∘ Prod.snd := rfl
  rw [this, ← List.map_map, List.map_snd_zip (by rw [hlen, List.length_range'])] at hdist
  exact hdist

/-- β2 across a block, in index form: the `i`-th dart of the first half faces the entry `len - 1 - i` of
    `β2 e :: second half`, and the mirror dart `off + len + (len - 1 - i)` faces the entry `i` of `e :: first half` -/
theorem block_pairs {m m' : Map Val} {e off len : Nat}
    (H : C14.InsHyp m m' e (List.range' off len) (List.range' (off + len) len)) (he2 : m.β 2 e ≠ 0) {i : Nat}
    (hi : i < len) :
    m'.β 2 (off + i) = (m.β 2 e :: List.range' (off + len) len).getD (len - 1 - i) 0 ∧
    m'.β 2 (off + (len + (len - 1 - i))) = (e :: List.range' off len).getD i 0 := by
  have p1 := (H.pairs_index he2 (len - 1 - i) (by rw [List.length_range']; omega)).2
  have p2 := (H.pairs_index he2 (len - i) (by rw [List.length_range']; omega)).1
  rw [List.length_range', show len - (len - 1 - i) = i + 1 by omega, List.getD_cons_succ, range'_getD hi] at p1
  rw [List.length_range', show len - (len - i) = i by omega, show len - i = (len - 1 - i) + 1 by omega,
    List.getD_cons_succ, range'_getD (by omega), Nat.add_assoc] at p2
  exact ⟨p1, p2⟩

theorem block_frame {m m' : Map Val} {e off len : Nat}
    (H : C14.InsHyp m m' e (List.range' off len) (List.range' (off + len) len)) {y : Nat} (h1 : y ≠ e)
    (h2 : y ≠ m.β 2 e) (hy : y < off ∨ off + 2 * len ≤ y) :
    m'.β 1 y = m.β 1 y ∧ m'.β 2 y = m.β 2 y ∧ (y ≠ m.β 1 e → y ≠ m.β 1 (m.β 2 e) → m'.β 0 y = m.β 0 y) := by
  have nF : y ∉ List.range' off len := fun h => by have := List.mem_range'_1.1 h; omega
  have nS : y ∉ List.range' (off + len) len := fun h => by have := List.mem_range'_1.1 h; omega
  have o1 : y ∉ e :: List.range' off len := fun h => (List.mem_cons.1 h).elim h1 nF
  have o2 : y ∉ m.β 2 e :: List.range' (off + len) len := fun h => (List.mem_cons.1 h).elim h2 nS
  exact ⟨H.res.frame1 y o1 (fun _ => o2), H.res.frame2 y (fun _ => ⟨o1, o2⟩),
    fun h3 h4 => H.res.frame0 y nF h3 (fun _ => ⟨nS, h4⟩)⟩

/-- the mirror dart of `off + i` on the second side starts at the same vertex: its β2 image is the dart before `off + i` -/
theorem block_mirror {m m' : Map Val} {e off len : Nat}
    (H : C14.InsHyp m m' e (List.range' off len) (List.range' (off + len) len)) (he2 : m.β 2 e ≠ 0) {i : Nat}
    (hi : i < len) : m'.β 1 (m'.β 2 (off + (len + (len - 1 - i)))) = off + i := by
  have hchain := C14.B1Chain.index (List.range' off len) e i H.res.side1.1 (by rw [List.length_range']; exact hi)
  rw [List.getD_cons_succ, range'_getD hi] at hchain
  rw [(block_pairs H he2 hi).2, hchain]

/-- **C16, steps 2 + 3 on one edge — the map after `insert_vertices_on_edge(e, block of e, sorted positions of e)`**
    (`insert_intersections` does this for every key; `insertVerticesOnEdge` is the model of C14, tied there and, through
    the hook `intersection_darts`, here).  On a well-formed map, `e` the `j`-th key, `len` hits on it, `off` the start of
    its block, `fh = off ..+ len`, `sh = off + len ..+ len`: if the call succeeds then
    * the result is well formed and has C14's `InsertResult` shape: `e → fh[0] → … → fh[len-1] → old successor`, the
      mirrored chain `β2 e → sh[0] → …` on a two-dart edge, β2 pairing the two sides in reverse, all else unchanged;
    * the `i`-th hit `h` of the edge in the order of `t` reads `intersection_darts[h.idx] = fh[i]` if it hit the identifier
      dart, and `sh[len-1-i]` otherwise — a dart with `β1 (β2 ·) = fh[i]`, i.e. of the same vertex as `fh[i]`;
    * that vertex carries the point at position `h.t` of the edge: `v1 + (v2 - v1)·h.t`.
    Hence: every crossing gets exactly one new dart pair on its edge, in the order of `t`, and its entry in
    `intersection_darts` is the dart of its vertex on the side that was hit. -/
theorem C16_insert_edge_spec {m m' : Map Val} {hs : List (Nat × Hit)} {keys : List Nat} {base n j e : Nat}
    (hnd : (hs.map (fun x => x.2.idx)).Nodup) (hk : keys.Nodup) (hn : ∀ x, x ∈ hs → x.2.idx < n)
    (hj : keys[j]? = some e) (hwf : WF 3 m) (he : C01.InUse m e)
    (hlive : ∀ d, d ∈ List.range' (base + 2 * (((groupsOf hs keys).map (·.2.length)).take j).sum)
      (2 * (groupOf hs e).length) → m.unused d = false)
    (hr : run (insertVerticesOnEdge m.n e
      (List.range' (base + 2 * (((groupsOf hs keys).map (·.2.length)).take j).sum) (2 * (groupOf hs e).length))
      ((groupOf hs e).map (·.t))) m = (.ok (), m')) :
    WF 3 m' ∧
    C14.InsertResult m m' e
      (List.range' (base + 2 * (((groupsOf hs keys).map (·.2.length)).take j).sum) (groupOf hs e).length)
      (List.range' (base + 2 * (((groupsOf hs keys).map (·.2.length)).take j).sum + (groupOf hs e).length)
        (groupOf hs e).length) ∧
    ∃ v1 v2 : Val, ∀ (i : Nat) (h : Hit), (groupOf hs e)[i]? = some h →
      ∃ x, (intersectionIds n (groupsOf hs keys) (slicesFrom base ((groupsOf hs keys).map (·.2.length))))[h.idx]? = some x ∧
        (h.dart = e → x = base + 2 * (((groupsOf hs keys).map (·.2.length)).take j).sum + i) ∧
        (h.dart ≠ e → x = base + 2 * (((groupsOf hs keys).map (·.2.length)).take j).sum +
            ((groupOf hs e).length + ((groupOf hs e).length - 1 - i)) ∧
          (m.β 2 e ≠ 0 → m'.β 1 (m'.β 2 x) = base + 2 * (((groupsOf hs keys).map (·.2.length)).take j).sum + i)) ∧
        ∀ vid, (run (vertexId2 m.n (base + 2 * (((groupsOf hs keys).map (·.2.length)).take j).sum + i)) m').1 = .ok vid →
          m'.att 0 vid = some (placeVal v1 v2 (some h.t)) := by
  generalize hoff : base + 2 * (((groupsOf hs keys).map (·.2.length)).take j).sum = off at *
  generalize hlen : (groupOf hs e).length = len at *
  have B := insert_block (by rw [List.length_map, hlen]) hwf he hlive hr
  have H := B.hyp
  obtain ⟨_, _, v1, v2, _, _, _, _, hpos⟩ := B.pos
  refine ⟨H.wf', H.res, v1, v2, ?_⟩
  intro i h hi
  have hilt : i < len := hlen ▸ getElem_idx_lt hi
  have hx : (e, h) ∈ hs := mem_groupOf.1 (List.mem_of_getElem? hi)
  have hval := intersection_ids_at (base := base) hnd hk n hn hx hj hi
  rw [hoff, hlen] at hval
  refine ⟨_, hval, ?_, ?_, ?_⟩
  · intro hd
    rw [if_pos hd]
  · intro hd
    rw [if_neg hd]
    exact ⟨rfl, fun he2 => block_mirror H he2 hilt⟩
  · intro vid hv
    refine hpos (h.t, off + i) ?_ vid hv
    have : (((groupOf hs e).map (·.t)).zip (List.range' off len))[i]? = some (h.t, off + i) := by
      rw [List.getElem?_zip_eq_some]
      exact ⟨by rw [List.getElem?_map, hi]; rfl, by rw [List.getElem?_range' hilt]; simp⟩
    exact List.mem_of_getElem? this

/-! ## examples -/

/-- a 2 × 1 grid: β2 pairs dart 2 (right side of cell 0) with dart 8 (left side of cell 1) -/
def exB2 : Nat → Nat := fun d => if d = 2 then 8 else if d = 8 then 2 else 0

-- two crossings of the inner edge {2, 8}, one from each side, and one of the outer edge {3}.
-- Edge 2 gets the block 9 10 | 11 12: 2 → 9 → 10 with 9 at t = 1/2 and 10 at t = 3/4, 8 → 11 → 12 on the other side;
-- slot 2 (dart 2, t = 1/2) reads 9; slot 0 (dart 8, t = 1/4 from its own origin = 3/4) reads 11, the dart of the
-- vertex {10, 11} on the side of dart 8
example : intersectionDarts exB2 9 [some (8, 1/4), some (3, 1/2), some (2, 1/2)] [2, 3] = [11, 13, 9] := by decide +kernel
-- the other iteration order of the map: other darts, same structure
example : intersectionDarts exB2 9 [some (8, 1/4), some (3, 1/2), some (2, 1/2)] [3, 2] = [13, 9, 11] := by decide +kernel
-- hypotheses of `C16_intersection_darts_spec` on this example
example : ([2, 3] : List Nat).Nodup ∧ ∀ x, x ∈ [((8 : Nat), (1/4 : Rat)), (3, 1/2), (2, 1/2)] → edgeOf exB2 x.1 ∈ [2, 3] := by
  decide +kernel
-- unwritten slots (corner crossings) in front and in between: every written slot keeps its own number (finding D16c)
example : intersectionDarts exB2 9 [none, some (8, 1/4), none, some (3, 1/2), some (2, 1/2)] [2, 3] = [0, 11, 0, 13, 9] := by
  decide +kernel
example := C16_intersection_darts_spec exB2 9 [none, some (8, 1/4), none, some (3, 1/2), some (2, 1/2)] [2, 3] (by decide)
  (by
    intro k d t hk
    have : k < 5 := getElem_idx_lt hk
    rcases (by omega : k = 0 ∨ k = 1 ∨ k = 2 ∨ k = 3 ∨ k = 4) with rfl | rfl | rfl | rfl | rfl <;>
      simp at hk <;> (obtain ⟨rfl, _⟩ := hk; decide))
  (k := 4) (d := 2) (t := 1/2) (by decide +kernel)
example : (intersectionDarts exB2 9 [none, some (8, 1/4), none, some (3, 1/2), some (2, 1/2)] [2, 3])[2]? = some 0 :=
  C16_unwritten_slot_null exB2 9 _ _ (by decide) (by decide)

/-- the 2 × 1 grid of the examples above with the six darts `add_free_darts(6)` allocated (9 … 14) -/
def exGridMap : Map Val :=
  { (Map.empty 3 6 15 : Map Val) with
    b := #[#[0, 4, 1, 2, 3, 8, 5, 6, 7, 0, 0, 0, 0, 0, 0], #[0, 2, 3, 4, 1, 6, 7, 8, 5, 0, 0, 0, 0, 0, 0],
           #[0, 0, 8, 0, 0, 0, 0, 0, 2, 0, 0, 0, 0, 0, 0]]
    a := #[#[none, some (.pt 0 0 0), some (.pt 1 0 0), some (.pt 1 1 0), some (.pt 0 1 0), none, some (.pt 2 0 0),
             some (.pt 2 1 0), none, none, none, none, none, none, none, none],
           Array.replicate 16 none, Array.replicate 16 none, Array.replicate 16 none,
           Array.replicate 16 none, Array.replicate 16 none] }

def exSlots : List Slot := [none, some (8, 1/4), none, some (3, 1/2), some (2, 1/2)]

/-- the insertion on the inner edge 2 (first key, block 9 10 | 11 12) and what the examples read off its result,
    in one evaluation of the run -/
theorem exGridMap_insert :
    (run (insertVerticesOnEdge exGridMap.n 2 [9, 10, 11, 12] [1/2, 3/4]) exGridMap).1 = .ok () ∧
    (let m' := (run (insertVerticesOnEdge exGridMap.n 2 [9, 10, 11, 12] [1/2, 3/4]) exGridMap).2
     (m'.β 1 2, m'.β 1 9, m'.β 1 10, m'.β 1 (m'.β 2 11), m'.att 0 9, m'.att 0 10) =
       (9, 10, 3, 10, some (.pt 1 (1/2) 0), some (.pt 1 (3/4) 0))) := by decide +kernel

-- every hypothesis of `C16_insert_edge_spec` holds on the inner edge 2 of the grid (first key, block 9 10 | 11 12)
example := C16_insert_edge_spec (m := exGridMap) (hs := hitsOf (exGridMap.β 2) exSlots) (keys := [2, 3]) (base := 9) (n := 5)
  (j := 0) (e := 2) (hits_idx_nodup _ _) (by decide) (fun x hx => hits_idx_lt _ exSlots hx) (by decide)
  (by decide +kernel) (by decide +kernel) (by decide +kernel) (C14.ok_of_fst (by
    have e : List.range' (9 + 2 * (((groupsOf (hitsOf (exGridMap.β 2) exSlots) [2, 3]).map (·.2.length)).take 0).sum)
        (2 * (groupOf (hitsOf (exGridMap.β 2) exSlots) 2).length) = [9, 10, 11, 12] ∧
        (groupOf (hitsOf (exGridMap.β 2) exSlots) 2).map (·.t) = [1/2, 3/4] := by decide +kernel
    rw [e.1, e.2]
    exact exGridMap_insert.1))
-- … and the result: 2 → 9 → 10 → 3 with 9 at (1, 1/2) and 10 at (1, 3/4); slot 1 (dart 8) reads 11 with β1 (β2 11) = 10
example : let m' := (run (insertVerticesOnEdge exGridMap.n 2 [9, 10, 11, 12] [1/2, 3/4]) exGridMap).2
    (m'.β 1 2, m'.β 1 9, m'.β 1 10, m'.β 1 (m'.β 2 11), m'.att 0 9, m'.att 0 10) =
      (9, 10, 3, 10, some (.pt 1 (1/2) 0), some (.pt 1 (3/4) 0)) := exGridMap_insert.2

end HC.C16

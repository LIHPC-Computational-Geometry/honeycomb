/-
  C02 — `CMap3::three_link` / `CMap3::three_unlink` of dim3/links/three.rs (the lock-step walks that glue /
  unglue two faces dart by dart and refuse faces that do not mirror each other), TRANSLATED from the source on
  every run (`Gen/Links3Loops.lean`, written by tools/gen_lean.py) — straight-line code, the mutable pair
  `(lside, rside)`, both `while` loops, every guard and its error payload — interpreted in the model's
  transaction monad, are EQUAL as programs to the hand-written `threeLink3` / `threeUnlink3` of Model/Ops3.lean,
  which the refusal and Mirror clauses of C02 are proved about.  A `while` is interpreted by the generic
  `whileL` below with the same fuel `n + 1` the model uses (every round 3-links / 3-unlinks a dart that was
  3-free / 3-linked, so a dart is visited at most once; with less fuel both sides panic alike).
-/
import Honeycomb.Gen.Links3Loops
import Honeycomb.Model.Ops3
import Honeycomb.Props.C02Gen

namespace HC.GenTie
open HC HC.C02
variable {X : Type}

/-- operand of a generated instruction: parameters, the null dart, the two mutable variables, bound variables -/
def l3Arg (l r : Nat) (env : List Nat) (ls rs : Nat) : Nat → Nat
  | 0 => l
  | 1 => r
  | 2 => 0
  | 10 => ls
  | 11 => rs
  | n => env.getD (n - 20) 0

/-- `while lside != stop && lside != NULL_DART_ID { (lside, rside) = body }`, at most `k` rounds -/
def whileL (body : Nat → Nat → P X (Nat × Nat)) (stop : Nat) : Nat → Nat → Nat → P X (Nat × Nat)
  | 0, _, _ => Prog.panic
  | k + 1, ls, rs =>
      if ls ≠ stop ∧ ls ≠ 0 then (body ls rs).bind (fun p => whileL body stop k p.1 p.2)
      else pure (ls, rs)

/-- the meaning of a generated instruction list (see the header of Gen/Links3Loops.lean); returns the final
    values of the two mutable variables; the first fuel only makes the recursion structural -/
def interpL (n l r : Nat) : Nat → List Nat → Nat → Nat → List (Nat × List Nat) → P X (Nat × Nat)
  | 0, _, _, _, _ => Prog.panic
  | _ + 1, _, ls, rs, [] => pure (ls, rs)
  | f + 1, env, ls, rs, (0, [c, a, b]) :: rest =>
      match coreCall c (l3Arg l r env ls rs a) (l3Arg l r env ls rs b) with
      | some p => do p; interpL n l r f env ls rs rest
      | none => Prog.panic
  | f + 1, env, ls, rs, (1, [i, a]) :: rest => do
      let v ← rB i (l3Arg l r env ls rs a)
      interpL n l r f (env ++ [v]) ls rs rest
  | f + 1, env, ls, rs, (30, [i, a, j, b]) :: rest => do
      let x ← rB i (l3Arg l r env ls rs a)
      let y ← rB j (l3Arg l r env ls rs b)
      interpL n l r f env x y rest
  | f + 1, env, ls, rs, (31, [s, k]) :: rest => do
      let p ← whileL (fun ls' rs' => interpL n l r f env ls' rs' (rest.take k)) (l3Arg l r env ls rs s) (n + 1) ls rs
      interpL n l r f env p.1 p.2 (rest.drop k)
  | f + 1, env, ls, rs, (32, a :: b :: k :: es) :: rest =>
      if l3Arg l r env ls rs a = l3Arg l r env ls rs b then abort ⟨linkErr k, es.map (l3Arg l r env ls rs)⟩
      else interpL n l r f env ls rs rest
  | f + 1, env, ls, rs, (33, a :: b :: k :: es) :: rest =>
      if l3Arg l r env ls rs a ≠ l3Arg l r env ls rs b then abort ⟨linkErr k, es.map (l3Arg l r env ls rs)⟩
      else interpL n l r f env ls rs rest
  | f + 1, env, ls, rs, (34, a :: i :: b :: k :: es) :: rest => do
      let x ← rB i (l3Arg l r env ls rs b)
      if l3Arg l r env ls rs a ≠ x then abort ⟨linkErr k, es.map (l3Arg l r env ls rs)⟩
      else interpL n l r f env ls rs rest
  | f + 1, env, ls, rs, (35, [a, i, b]) :: rest => do
      let y ← rB i (l3Arg l r env ls rs b)
      if l3Arg l r env ls rs a ≠ y then Prog.panic
      else interpL n l r f env ls rs rest
  | f + 1, env, ls, rs, (36, [a, k, j]) :: rest =>
      if l3Arg l r env ls rs a = 0 then interpL n l r f env ls rs (rest.take k ++ rest.drop (k + j))
      else interpL n l r f env ls rs (rest.drop k)
  | _, _, _, _, _ => Prog.panic

/-- the body of the two loops of `three_link`, as the model's `threeLinkWalk` runs it -/
def linkBody (ld rd i j ls rs : Nat) : P X (Nat × Nat) :=
  if rs = 0 then abort (errAsym ld rd) else
  (iLinkCore 3 ls rs).bind fun _ => (rB i ls).bind fun a => (rB j rs).bind fun b => Prog.ret (a, b)

theorem whileL_linkBody (ld rd stop i j : Nat) : ∀ k ls rs,
    whileL (X := X) (linkBody ld rd i j) stop k ls rs = threeLinkWalk ld rd stop i j k ls rs := by
  intro k
  induction k with
  | zero => intro ls rs; rfl
  | succ k ih =>
    intro ls rs
    simp only [whileL, threeLinkWalk, linkBody, Prog.bind_eq, Prog.pure_eq]
    by_cases hc : ls ≠ stop ∧ ls ≠ 0
    · rw [if_pos hc, if_pos hc]
      by_cases h0 : rs = 0
      · rw [if_pos h0, if_pos h0]; rfl
      · rw [if_neg h0, if_neg h0]
        simp only [Prog.bind_assoc, Prog.ret_bind, ih]
    · rw [if_neg hc, if_neg hc]

/-- the body of the two loops of `three_unlink` (`again`: the backward loop re-reads `β3 rside` for its
    `assert_eq!`) -/
def unlinkBody (ld rd i j : Nat) (again : Bool) (ls rs : Nat) : P X (Nat × Nat) :=
  (rB 3 rs).bind fun x =>
  if ls ≠ x then abort (errAsym ld rd) else
  (if again then rB 3 rs else Prog.ret ls).bind fun y =>
  if ls ≠ y then Prog.panic else
  (iUnlinkCore 3 ls).bind fun _ => (rB i ls).bind fun a => (rB j rs).bind fun b => Prog.ret (a, b)

theorem whileL_unlinkBody (ld rd stop i j : Nat) (again : Bool) : ∀ k ls rs,
    whileL (X := X) (unlinkBody ld rd i j again) stop k ls rs = threeUnlinkWalk ld rd stop i j again k ls rs := by
  intro k
  induction k with
  | zero => intro ls rs; rfl
  | succ k ih =>
    intro ls rs
    simp only [whileL, threeUnlinkWalk, unlinkBody, Prog.bind_eq, Prog.pure_eq]
    by_cases hc : ls ≠ stop ∧ ls ≠ 0
    · rw [if_pos hc, if_pos hc]
      simp only [Prog.bind_assoc]
      congr 1; funext x
      by_cases h0 : ls ≠ x
      · rw [if_pos h0, if_pos h0]; rfl
      · rw [if_neg h0, if_neg h0]
        cases again
        · simp only [Bool.false_eq_true, if_false, Prog.ret_bind, ne_eq, not_true_eq_false, Prog.bind_assoc, ih]
        · simp only [if_true, Prog.bind_assoc]
          congr 1; funext y
          by_cases h1 : ls ≠ y
          · rw [if_pos h1, if_pos h1]; rfl
          · rw [if_neg h1, if_neg h1]
            simp only [Prog.bind_assoc, Prog.ret_bind, ih]
    · rw [if_neg hc, if_neg hc]

theorem bind_unitL (p : P X Unit) : p.bind (fun _ => Prog.ret ()) = p := Prog.bind_unit p

/-- **tie of `CMap3::three_link`** (both loops, every guard) -/
theorem C02_gen_threeLink3 (n l r : Nat) :
    (interpL (X := X) n l r 32 [] 0 0 Gen.threeLink3).bind (fun _ => Prog.ret ()) = threeLink3 n l r := by
  have hb : ∀ i j, (fun ls' rs' =>
      if rs' = 0 then abort (X := X) { tag := linkErr 3, args := List.map (l3Arg l r [] ls' rs') [0, 1] }
      else Prog.bind (iLinkCore 3 ls' rs') fun _ => Prog.bind (rB i ls') fun x => Prog.bind (rB j rs') fun y => Prog.ret (x, y))
      = linkBody l r i j := by
    intro i j; funext ls rs; rfl
  simp only [Gen.threeLink3, interpL, coreCall, l3Arg, threeLink3, List.drop, List.take,
    List.append_nil, Prog.bind_eq, Prog.pure_eq, Prog.bind_assoc, hb, whileL_linkBody, Prog.ite_bind,
    Prog.ret_bind]
  rfl

/-- **tie of `CMap3::three_unlink`** (both loops, the `assert_eq!` of the backward loop included) -/
theorem C02_gen_threeUnlink3 (n l : Nat) :
    (interpL (X := X) n l 0 32 [] 0 0 Gen.threeUnlink3).bind (fun _ => Prog.ret ()) = threeUnlink3 n l := by
  have hb1 : ∀ (a i j : Nat), (fun ls' rs' =>
      Prog.bind (rB 3 rs') fun x =>
        if ls' ≠ x then abort (X := X) { tag := linkErr 3, args := List.map (l3Arg l 0 [a] ls' rs') [0, 20] }
        else Prog.bind (iUnlinkCore 3 ls') fun _ => Prog.bind (rB i ls') fun x => Prog.bind (rB j rs') fun y => Prog.ret (x, y))
      = unlinkBody l a i j false := by
    intro a i j; funext ls rs
    simp only [unlinkBody, Bool.false_eq_true, if_false, Prog.ret_bind, ne_eq, not_true_eq_false]
    rfl
  have hb2 : ∀ (a i j : Nat), (fun ls' rs' =>
      Prog.bind (rB 3 rs') fun x =>
        if ls' ≠ x then abort (X := X) { tag := linkErr 3, args := List.map (l3Arg l 0 [a] ls' rs') [0, 20] }
        else Prog.bind (rB 3 rs') fun y => if ls' ≠ y then Prog.panic else
          Prog.bind (iUnlinkCore 3 ls') fun _ => Prog.bind (rB i ls') fun x => Prog.bind (rB j rs') fun y => Prog.ret (x, y))
      = unlinkBody l a i j true := by
    intro a i j; funext ls rs; rfl
  simp only [Gen.threeUnlink3, interpL, coreCall, l3Arg, threeUnlink3, List.drop, List.take,
    List.append_nil, List.nil_append, Prog.bind_eq, Prog.pure_eq, Prog.bind_assoc, Prog.ite_bind,
    Prog.ret_bind, hb1, hb2, whileL_unlinkBody]
  rfl

/-- **C02 stated on the translated code**: every successful run of the translated `CMap3::three_link` /
    `three_unlink` on a well-formed 3-map with in-use (for the link: distinct) arguments ends in a well-formed map -/
theorem C02_gen_three_links_preserve_WF (n l r : Nat) :
    Safe (fun m : Map X => InUse m l ∧ InUse m r ∧ l ≠ r)
      ((interpL (X := X) n l r 32 [] 0 0 Gen.threeLink3).bind (fun _ => Prog.ret ())) ∧
    Safe (fun m : Map X => InUse m l)
      ((interpL (X := X) n l 0 32 [] 0 0 Gen.threeUnlink3).bind (fun _ => Prog.ret ())) := by
  rw [C02_gen_threeLink3, C02_gen_threeUnlink3]
  exact ⟨safe_threeLink3 n l r, safe_threeUnlink3 n l⟩

/-- **C02, refusal, stated on the translated code**: the translated `CMap3::three_link`, run on two in-use distinct
    darts of a well-formed 3-map whose faces do NOT have mirrored shapes (left face read along β1/β0, right face
    along β0/β1), never answers `Ok` -/
theorem C02_gen_refusal (n : Nat) {m : Map X} {ld rd : Nat} {s s' : Shape} (hw : WF 4 m)
    (hl : InUse m ld) (hr : InUse m rd) (hne : ld ≠ rd)
    (hs : HasShape m 1 0 ld s) (hs' : HasShape m 0 1 rd s') (hdiff : s ≠ s') :
    ∀ u m', run ((interpL (X := X) n ld rd 32 [] 0 0 Gen.threeLink3).bind (fun _ => Prog.ret ())) m ≠ (.ok u, m') := by
  rw [C02_gen_threeLink3]
  exact C02_refusal n hw hl hr hne hs hs' hdiff

/-- a list the interpreter does not understand is a panic, not a silent success -/
example (n l r : Nat) : interpL (X := X) n l r 4 [] 0 0 [(9, [])] = Prog.panic := rfl

end HC.GenTie

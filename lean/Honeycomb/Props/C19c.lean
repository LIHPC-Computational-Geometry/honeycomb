/-
  C19, third part — "moderate magnitude" made explicit: the C19 operators in BOUNDED-exponent arithmetic.

  `rndB p emin emax` (Model/Rounding.lean) is IEEE round-to-nearest-even with the exponent range of a real
  format (binary64: `rndB 53 (-1022) 1023`, binary32: `rndB 24 (-126) 127`): gradual underflow below `2^emin`,
  `none` (an infinity) above the largest finite number.  The evaluators `…B` below run the expressions of the
  Rust operators with it, operation by operation, in the `Option` monad.

  THEOREMS (`C19c_*`).  If the coordinates are multiples of `2^g` of absolute value at most `2^h`
  (`G g h`, Lemmas/RoundingRange.lean — e.g. every `p`-bit float with `2^lo ≤ |x| ≤ 2^h`, or zero, for
  `g = lo − p`: `G.of_representable`), and `g`, `h` satisfy the explicit inequalities of each theorem, then no
  operation overflows or underflows: every intermediate result is zero or in the normal range, the bounded
  evaluator returns `some v`, and `v` is exactly the value of the model operator in the UNBOUNDED arithmetic
  `FlR (rnd p)` — so every `C19b_*` theorem (sign band, bounds, …) holds for the bounded arithmetic as well.
  For binary64 all conditions hold with `g = −340`, `h = 340` (floats with `2^−287 ≤ |x| ≤ 2^340`, or 0), for
  binary32 with `g = −42`, `h = 41` (`2^−18 ≤ |x| ≤ 2^41`); the two-level operators (dot, cross, orientation)
  alone allow `g = −511, h = 510` resp. `g = −63, h = 62` (`C19c_orient_f64`, `C19c_orient_f32`).

  PARTIAL: scalar division `v / k` is covered for quotients (`C19c_div`), whose results are not on a grid —
  it cannot be chained further by these lemmas; `unit_dir`/`normal_dir` (sqrt / hypot) are not covered here
  (see Props/C20c.lean for a normalisation under an explicit assumption on sqrt).
-/
import Honeycomb.Props.C19b
import Honeycomb.Lemmas.RoundingRange

namespace HC.C19
open HC.Geo HC.Rounding

variable (p : ℕ) (emin emax : ℤ)

/-! ## bounded evaluators (the Rust expressions, operation by operation) -/

/-- `x - y`, `x + y`, `x * y`, `x / y` -/
def subB (x y : ℚ) : Option ℚ := rndB p emin emax (x - y)
def addB (x y : ℚ) : Option ℚ := rndB p emin emax (x + y)
def mulB (x y : ℚ) : Option ℚ := rndB p emin emax (x * y)
def divB (x y : ℚ) : Option ℚ := rndB p emin emax (x / y)

/-- `Vector2::dot`: `x0*y0 + x1*y1` -/
def dot2B (x0 x1 y0 y1 : ℚ) : Option ℚ := do
  let a ← mulB p emin emax x0 y0
  let b ← mulB p emin emax x1 y1
  addB p emin emax a b

/-- `Vector3::dot`: `x0*y0 + x1*y1 + x2*y2` -/
def dot3B (x0 x1 x2 y0 y1 y2 : ℚ) : Option ℚ := do
  let a ← mulB p emin emax x0 y0
  let b ← mulB p emin emax x1 y1
  let s ← addB p emin emax a b
  let c ← mulB p emin emax x2 y2
  addB p emin emax s c

/-- one component of `Vector3::cross`: `x*y - z*w` -/
def crossB (x y z w : ℚ) : Option ℚ := do
  let a ← mulB p emin emax x y
  let b ← mulB p emin emax z w
  subB p emin emax a b

/-- `Vertex2::cross_product_from_vertices` -/
def orientB (a b c : P2 ℚ) : Option ℚ := do
  let A ← subB p emin emax b.x a.x
  let B ← subB p emin emax c.y b.y
  let C ← subB p emin emax b.y a.y
  let D ← subB p emin emax c.x b.x
  let P ← mulB p emin emax A B
  let Q ← mulB p emin emax C D
  subB p emin emax P Q

/-- `(v + u) - v`, one component -/
def addsubB (v u : ℚ) : Option ℚ := do
  let s ← addB p emin emax v u
  subB p emin emax s v

/-- `Vertex::average`, one component: `(a + b) / two` -/
def avgB (a b : ℚ) : Option ℚ := do
  let s ← addB p emin emax a b
  divB p emin emax s 2

/-- `(a × b)·w` with the cross product given by its three computed components -/
def crossDotB (a b w : V3 ℚ) : Option ℚ := do
  let c0 ← crossB p emin emax a.y b.z a.z b.y
  let c1 ← crossB p emin emax a.z b.x a.x b.z
  let c2 ← crossB p emin emax a.x b.y a.y b.x
  dot3B p emin emax c0 c1 c2 w.x w.y w.z

/-- the same inputs as numbers of the unbounded arithmetic -/
def lift2 (a : P2 ℚ) : P2 (FlR (rnd p)) := ⟨⟨a.x⟩, ⟨a.y⟩⟩
def liftV2 (a : V2 ℚ) : V2 (FlR (rnd p)) := ⟨⟨a.x⟩, ⟨a.y⟩⟩
def liftV3 (a : V3 ℚ) : V3 (FlR (rnd p)) := ⟨⟨a.x⟩, ⟨a.y⟩, ⟨a.z⟩⟩
def liftP3 (a : P3 ℚ) : P3 (FlR (rnd p)) := ⟨⟨a.x⟩, ⟨a.y⟩, ⟨a.z⟩⟩

variable {p emin emax} (hp : 0 < p)
include hp

/-! ## one operation -/

theorem C19c_sub {g h : ℤ} {x y : ℚ} (hx : G g h x) (hy : G g h y) (hg : emin ≤ g) (hh : h + 1 ≤ emax) :
    subB p emin emax x y = some (rnd p (x - y)) ∧ G g (h + 1) (rnd p (x - y)) :=
  ⟨rndB_of_G hp (hx.sub hy) hg hh, (hx.sub hy).rnd hp⟩

theorem C19c_add {g h : ℤ} {x y : ℚ} (hx : G g h x) (hy : G g h y) (hg : emin ≤ g) (hh : h + 1 ≤ emax) :
    addB p emin emax x y = some (rnd p (x + y)) ∧ G g (h + 1) (rnd p (x + y)) :=
  ⟨rndB_of_G hp (hx.add hy) hg hh, (hx.add hy).rnd hp⟩

theorem C19c_mul {gr1 h1 g2 h2 : ℤ} {x y : ℚ} (hx : G gr1 h1 x) (hy : G g2 h2 y) (hg : emin ≤ gr1 + g2)
    (hh : h1 + h2 ≤ emax) :
    mulB p emin emax x y = some (rnd p (x * y)) ∧ G (gr1 + g2) (h1 + h2) (rnd p (x * y)) :=
  ⟨rndB_of_G hp (hx.mul hy) hg hh, (hx.mul hy).rnd hp⟩

/-- quotient of two nonzero grid numbers (PARTIAL: the result is in range but on no grid) -/
theorem C19c_div {g h : ℤ} {x y : ℚ} (hx : G g h x) (hy : G g h y) (hy0 : y ≠ 0)
    (hg : emin ≤ g - h) (hh : h - g ≤ emax) :
    divB p emin emax x y = some (rnd p (x / y)) := by
  apply rndB_eq_rnd hp
  · by_cases hx0 : x = 0
    · left; simp [hx0]
    · right
      have hyp : 0 < |y| := abs_pos.mpr hy0
      rw [abs_div, le_div_iff₀ hyp]
      calc (2 : ℚ) ^ emin * |y| ≤ 2 ^ (g - h) * 2 ^ h :=
            mul_le_mul (two_zpow_le hg) hy.2 (abs_nonneg _) (two_zpow_pos _).le
        _ = 2 ^ g := by rw [← two_zpow_add]; congr 1; ring
        _ ≤ |x| := hx.lower hx0
  · have hyp : 0 < |y| := abs_pos.mpr hy0
    rw [abs_div, div_le_iff₀ hyp]
    calc |x| ≤ (2 : ℚ) ^ h := hx.2
      _ = 2 ^ (h - g) * 2 ^ g := by rw [← two_zpow_add]; congr 1; ring
      _ ≤ 2 ^ emax * |y| := mul_le_mul (two_zpow_le hh) (hy.lower hy0) (two_zpow_pos _).le (two_zpow_pos _).le

/-! ## the operators -/

/-- **(v + u) − v**, componentwise: no overflow, no underflow, and the value of the unbounded model -/
theorem C19c_addsub {g h : ℤ} {v u : ℚ} (hv : G g h v) (hu : G g h u) (hg : emin ≤ g) (hh : h + 2 ≤ emax) :
    addsubB p emin emax v u = some (rnd p (rnd p (v + u) - v)) := by
  obtain ⟨e1, gr1⟩ := C19c_add (emin := emin) (emax := emax) hp hv hu hg (by omega)
  have := (C19c_sub (emin := emin) (emax := emax) hp gr1 (hv.mono le_rfl (by omega : h ≤ h + 1)) hg (by omega)).1
  simp only [addsubB, e1, Option.bind_eq_bind, Option.bind_some, this]

/-- **dot product (2-D)** -/
theorem C19c_dot2 {g h : ℤ} {x0 x1 y0 y1 : ℚ} (h0 : G g h x0) (h1 : G g h x1) (k0 : G g h y0) (k1 : G g h y1)
    (hg : emin ≤ g + g) (hh : h + h + 1 ≤ emax) :
    dot2B p emin emax x0 x1 y0 y1 = some (V2.dot (liftV2 p ⟨x0, x1⟩) (liftV2 p ⟨y0, y1⟩)).val := by
  obtain ⟨e1, gr1⟩ := C19c_mul (emin := emin) (emax := emax) hp h0 k0 hg (by omega)
  obtain ⟨e2, g2⟩ := C19c_mul (emin := emin) (emax := emax) hp h1 k1 hg (by omega)
  have e3 := (C19c_add (emin := emin) (emax := emax) hp gr1 g2 hg hh).1
  simp only [dot2B, e1, e2, e3, Option.bind_eq_bind, Option.bind_some, V2.dot, liftV2, FlR.add_val, FlR.mul_val]

/-- **dot product (3-D)** -/
theorem C19c_dot3 {g h : ℤ} {x0 x1 x2 y0 y1 y2 : ℚ} (h0 : G g h x0) (h1 : G g h x1) (h2 : G g h x2)
    (k0 : G g h y0) (k1 : G g h y1) (k2 : G g h y2) (hg : emin ≤ g + g) (hh : h + h + 2 ≤ emax) :
    dot3B p emin emax x0 x1 x2 y0 y1 y2
      = some (V3.dot (liftV3 p ⟨x0, x1, x2⟩) (liftV3 p ⟨y0, y1, y2⟩)).val := by
  obtain ⟨e1, gr1⟩ := C19c_mul (emin := emin) (emax := emax) hp h0 k0 hg (by omega)
  obtain ⟨e2, g2⟩ := C19c_mul (emin := emin) (emax := emax) hp h1 k1 hg (by omega)
  obtain ⟨e3, g3⟩ := C19c_add (emin := emin) (emax := emax) hp gr1 g2 hg (by omega)
  obtain ⟨e4, g4⟩ := C19c_mul (emin := emin) (emax := emax) hp h2 k2 hg (by omega)
  have e5 := (C19c_add (emin := emin) (emax := emax) hp g3 (g4.mono le_rfl (by omega : h + h ≤ h + h + 1)) hg (by omega)).1
  simp only [dot3B, e1, e2, e3, e4, e5, Option.bind_eq_bind, Option.bind_some, V3.dot, liftV3, FlR.add_val,
    FlR.mul_val]

/-- one component of the cross product -/
theorem C19c_crossB {g h : ℤ} {x y z w : ℚ} (hx : G g h x) (hy : G g h y) (hz : G g h z) (hw : G g h w)
    (hg : emin ≤ g + g) (hh : h + h + 1 ≤ emax) :
    crossB p emin emax x y z w = some (rnd p (rnd p (x * y) - rnd p (z * w))) ∧
      G (g + g) (h + h + 1) (rnd p (rnd p (x * y) - rnd p (z * w))) := by
  obtain ⟨e1, gr1⟩ := C19c_mul (emin := emin) (emax := emax) hp hx hy hg (by omega)
  obtain ⟨e2, g2⟩ := C19c_mul (emin := emin) (emax := emax) hp hz hw hg (by omega)
  obtain ⟨e3, g3⟩ := C19c_sub (emin := emin) (emax := emax) hp gr1 g2 hg hh
  exact ⟨by simp only [crossB, e1, e2, e3, Option.bind_eq_bind, Option.bind_some], g3⟩

/-- **cross product**: the three bounded components are those of the unbounded model -/
theorem C19c_cross {g h : ℤ} {a b : V3 ℚ} (hax : G g h a.x) (hay : G g h a.y) (haz : G g h a.z)
    (hbx : G g h b.x) (hby : G g h b.y) (hbz : G g h b.z) (hg : emin ≤ g + g) (hh : h + h + 1 ≤ emax) :
    crossB p emin emax a.y b.z a.z b.y = some (V3.cross (liftV3 p a) (liftV3 p b)).x.val ∧
    crossB p emin emax a.z b.x a.x b.z = some (V3.cross (liftV3 p a) (liftV3 p b)).y.val ∧
    crossB p emin emax a.x b.y a.y b.x = some (V3.cross (liftV3 p a) (liftV3 p b)).z.val := by
  refine ⟨?_, ?_, ?_⟩
  · exact (C19c_crossB (emin := emin) (emax := emax) hp hay hbz haz hby hg hh).1
  · exact (C19c_crossB (emin := emin) (emax := emax) hp haz hbx hax hbz hg hh).1
  · exact (C19c_crossB (emin := emin) (emax := emax) hp hax hby hay hbx hg hh).1

/-- **orientation product**: under `emin ≤ 2g` and `2h + 3 ≤ emax` none of the 7 operations of
    `cross_product_from_vertices` overflows or underflows, and the result is that of the unbounded model —
    so `C19b_orient_sign` (computed sign = exact sign outside the rounding band) holds for it
    (`0 ≤ h`: the cap is at least 1) -/
theorem C19c_orient {g h : ℤ} {a b c : P2 ℚ} (hax : G g h a.x) (hay : G g h a.y) (hbx : G g h b.x)
    (hby : G g h b.y) (hcx : G g h c.x) (hcy : G g h c.y) (hg1 : emin ≤ g) (hg : emin ≤ g + g)
    (h0 : 0 ≤ h) (hh : h + h + 3 ≤ emax) :
    orientB p emin emax a b c = some (P2.orient (lift2 p a) (lift2 p b) (lift2 p c)).val := by
  obtain ⟨e1, gr1⟩ := C19c_sub (emin := emin) (emax := emax) hp hbx hax hg1 (by omega)
  obtain ⟨e2, g2⟩ := C19c_sub (emin := emin) (emax := emax) hp hcy hby hg1 (by omega)
  obtain ⟨e3, g3⟩ := C19c_sub (emin := emin) (emax := emax) hp hby hay hg1 (by omega)
  obtain ⟨e4, g4⟩ := C19c_sub (emin := emin) (emax := emax) hp hcx hbx hg1 (by omega)
  obtain ⟨e5, g5⟩ := C19c_mul (emin := emin) (emax := emax) hp gr1 g2 hg (by omega)
  obtain ⟨e6, g6⟩ := C19c_mul (emin := emin) (emax := emax) hp g3 g4 hg (by omega)
  have e7 := (C19c_sub (emin := emin) (emax := emax) hp g5 g6 hg (by omega)).1
  simp only [orientB, e1, e2, e3, e4, e5, e6, e7, Option.bind_eq_bind, Option.bind_some, P2.orient, lift2,
    FlR.sub_val, FlR.mul_val]

/-- **average**, one component -/
theorem C19c_avg {g h : ℤ} {a b : ℚ} (ha : G g h a) (hb : G g h b) (hg : emin ≤ g - 1) (hh : h + 1 ≤ emax) :
    avgB p emin emax a b = some (rnd p (rnd p (a + b) / 2)) := by
  obtain ⟨e1, gr1⟩ := C19c_add (emin := emin) (emax := emax) hp ha hb (by omega) hh
  have e2 : divB p emin emax (rnd p (a + b)) 2 = some (rnd p (rnd p (a + b) / 2)) :=
    rndB_of_G hp gr1.half hg (by omega)
  simp only [avgB, e1, e2, Option.bind_eq_bind, Option.bind_some]

/-- **(a × b)·w**: three levels of products; needs `emin ≤ 3g`, `3h + 3 ≤ emax` -/
theorem C19c_crossDot {g h : ℤ} {a b w : V3 ℚ} (hax : G g h a.x) (hay : G g h a.y) (haz : G g h a.z)
    (hbx : G g h b.x) (hby : G g h b.y) (hbz : G g h b.z) (hwx : G g h w.x) (hwy : G g h w.y)
    (hwz : G g h w.z) (hg2 : emin ≤ g + g) (hg : emin ≤ g + g + g) (h0 : 0 ≤ h)
    (hh : h + h + 1 + h + 2 ≤ emax) :
    crossDotB p emin emax a b w
      = some (V3.dot (V3.cross (liftV3 p a) (liftV3 p b)) (liftV3 p w)).val := by
  obtain ⟨c0, k0⟩ := C19c_crossB (emin := emin) (emax := emax) hp hay hbz haz hby hg2 (by omega)
  obtain ⟨c1, k1⟩ := C19c_crossB (emin := emin) (emax := emax) hp haz hbx hax hbz hg2 (by omega)
  obtain ⟨c2, k2⟩ := C19c_crossB (emin := emin) (emax := emax) hp hax hby hay hbx hg2 (by omega)
  obtain ⟨e1, gr1⟩ := C19c_mul (emin := emin) (emax := emax) hp k0 hwx hg (by omega)
  obtain ⟨e2, g2⟩ := C19c_mul (emin := emin) (emax := emax) hp k1 hwy hg (by omega)
  obtain ⟨e3, g3⟩ := C19c_add (emin := emin) (emax := emax) hp gr1 g2 hg (by omega)
  obtain ⟨e4, g4⟩ := C19c_mul (emin := emin) (emax := emax) hp k2 hwz hg (by omega)
  have e5 := (C19c_add (emin := emin) (emax := emax) hp g3 (g4.mono le_rfl (by omega : h + h + 1 + h ≤ h + h + 1 + h + 1)) hg (by omega)).1
  simp only [crossDotB, dot3B, c0, c1, c2, e1, e2, e3, e4, e5, Option.bind_eq_bind, Option.bind_some, V3.dot,
    V3.cross, liftV3, FlR.add_val, FlR.mul_val, FlR.sub_val]

omit hp in
/-- integers are on every grid `2^g`, `g ≤ 0` -/
theorem G_intCast {g h : ℤ} (n : ℤ) (hg : g ≤ 0) (hn : |(n : ℚ)| ≤ (2 : ℚ) ^ h) : G g h (n : ℚ) :=
  G.mono (g := 0) ⟨⟨n, by simp⟩, hn⟩ hg le_rfl

/-! ## the real formats -/

omit hp in
/-- **binary64**: coordinates that are multiples of `2^-511` of absolute value at most `2^510` (every binary64
    number with `2^-458 ≤ |x| ≤ 2^510`, and zero): the orientation product neither overflows nor underflows
    and is the value of the idealised arithmetic -/
theorem C19c_orient_f64 {a b c : P2 ℚ} (hax : G (-511) 510 a.x) (hay : G (-511) 510 a.y)
    (hbx : G (-511) 510 b.x) (hby : G (-511) 510 b.y) (hcx : G (-511) 510 c.x) (hcy : G (-511) 510 c.y) :
    orientB 53 (-1022) 1023 a b c = some (P2.orient (lift2 53 a) (lift2 53 b) (lift2 53 c)).val :=
  C19c_orient (p := 53) (by norm_num) hax hay hbx hby hcx hcy (by norm_num) (by norm_num) (by norm_num)
    (by norm_num)

omit hp in
/-- **binary32**: multiples of `2^-63` of absolute value at most `2^62` (binary32 numbers with
    `2^-39 ≤ |x| ≤ 2^62`, and zero) -/
theorem C19c_orient_f32 {a b c : P2 ℚ} (hax : G (-63) 62 a.x) (hay : G (-63) 62 a.y)
    (hbx : G (-63) 62 b.x) (hby : G (-63) 62 b.y) (hcx : G (-63) 62 c.x) (hcy : G (-63) 62 c.y) :
    orientB 24 (-126) 127 a b c = some (P2.orient (lift2 24 a) (lift2 24 b) (lift2 24 c)).val :=
  C19c_orient (p := 24) (by norm_num) hax hay hbx hby hcx hcy (by norm_num) (by norm_num) (by norm_num)
    (by norm_num)

omit hp in
/-- every binary64 number with `2^-458 ≤ |x| ≤ 2^510`, or zero, satisfies the hypothesis of `C19c_orient_f64` -/
theorem C19c_f64_on_grid {x : ℚ} (hr : Representable 53 x) (hlo : x = 0 ∨ (2 : ℚ) ^ (-458 : ℤ) ≤ |x|)
    (hhi : |x| ≤ (2 : ℚ) ^ (510 : ℤ)) : G (-511) 510 x := by
  have := G.of_representable hr hlo hhi
  norm_num at this
  exact this

omit hp in
theorem C19c_f32_on_grid {x : ℚ} (hr : Representable 24 x) (hlo : x = 0 ∨ (2 : ℚ) ^ (-39 : ℤ) ≤ |x|)
    (hhi : |x| ≤ (2 : ℚ) ^ (62 : ℤ)) : G (-63) 62 x := by
  have := G.of_representable hr hlo hhi
  norm_num at this
  exact this

/-! ## Non-vacuity -/
section Examples
omit hp

theorem G_one {g h : ℤ} (hg : g ≤ 0) (hh : 0 ≤ h) : G g h (1 : ℚ) := by
  have := G_intCast (g := g) (h := h) 1 hg (by
    have : (2 : ℚ) ^ (0 : ℤ) ≤ 2 ^ h := two_zpow_le hh
    simpa using this)
  simpa using this
theorem G_f64_zero : G (-511) 510 (0 : ℚ) := G.zero _ _
theorem G_f64_one : G (-511) 510 (1 : ℚ) := G_one (by norm_num) (by norm_num)

/-- the standard frame in binary64: no overflow, no underflow, value of the idealised arithmetic -/
example : orientB 53 (-1022) 1023 ⟨0, 0⟩ ⟨1, 0⟩ ⟨0, 1⟩
    = some (P2.orient (lift2 53 ⟨0, 0⟩) (lift2 53 ⟨1, 0⟩) (lift2 53 ⟨0, 1⟩)).val :=
  C19c_orient_f64 G_f64_zero G_f64_zero G_f64_one G_f64_zero G_f64_zero G_f64_one
/-- … and the bounded evaluator really computes: the orientation product of the standard frame is 1 -/
example : orientB 53 (-1022) 1023 ⟨0, 0⟩ ⟨1, 0⟩ ⟨0, 1⟩ = some 1 := by decide +kernel
/-- outside the range the bounded arithmetic differs: `2^600 · 2^600` overflows binary64 -/
example : mulB 53 (-1022) 1023 (2 ^ 600) (2 ^ 600) = none := by decide +kernel
/-- … and `2^-600 · 2^-600` underflows to zero, whereas the unbounded rounding keeps `2^-1200` -/
example : mulB 53 (-1022) 1023 (1 / 2 ^ 600) (1 / 2 ^ 600) = some 0 ∧ rnd 53 (1 / 2 ^ 600 * (1 / 2 ^ 600)) ≠ 0 := by
  decide +kernel
example : subB 53 (-1022) 1023 1 0 = some (rnd 53 (1 - 0)) := (C19c_sub (p := 53) (by norm_num) G_f64_one G_f64_zero (by norm_num) (by norm_num)).1
example : addB 53 (-1022) 1023 1 1 = some (rnd 53 (1 + 1)) := (C19c_add (p := 53) (by norm_num) G_f64_one G_f64_one (by norm_num) (by norm_num)).1
example : mulB 53 (-1022) 1023 1 1 = some (rnd 53 (1 * 1)) := (C19c_mul (p := 53) (by norm_num) G_f64_one G_f64_one (by norm_num) (by norm_num)).1
example : divB 53 (-1022) 1023 0 1 = some (rnd 53 (0 / 1)) :=
  C19c_div (p := 53) (g := -500) (h := 500) (by norm_num) (G.zero _ _)
    (G_one (by norm_num) (by norm_num)) (by norm_num) (by norm_num) (by norm_num)
example : addsubB 53 (-1022) 1023 1 1 = some (rnd 53 (rnd 53 (1 + 1) - 1)) :=
  C19c_addsub (p := 53) (by norm_num) G_f64_one G_f64_one (by norm_num) (by norm_num)
example := C19c_dot2 (p := 53) (emin := -1022) (emax := 1023) (by norm_num) G_f64_one G_f64_zero G_f64_zero G_f64_one (by norm_num) (by norm_num)
example := C19c_dot3 (p := 53) (emin := -1022) (emax := 1023) (by norm_num) G_f64_one G_f64_zero G_f64_zero G_f64_zero G_f64_one G_f64_zero (by norm_num) (by norm_num)
example := C19c_crossB (p := 53) (emin := -1022) (emax := 1023) (by norm_num) G_f64_one G_f64_zero G_f64_zero G_f64_one (by norm_num) (by norm_num)
example := C19c_cross (p := 53) (emin := -1022) (emax := 1023) (a := ⟨1, 0, 0⟩) (b := ⟨0, 1, 0⟩) (by norm_num)
  G_f64_one G_f64_zero G_f64_zero G_f64_zero G_f64_one G_f64_zero (by norm_num) (by norm_num)
example : avgB 53 (-1022) 1023 1 0 = some (rnd 53 (rnd 53 (1 + 0) / 2)) :=
  C19c_avg (p := 53) (by norm_num) G_f64_one G_f64_zero (by norm_num) (by norm_num)
example := C19c_crossDot (p := 53) (emin := -1022) (emax := 1023) (a := ⟨1, 0, 0⟩) (b := ⟨0, 1, 0⟩) (w := ⟨1, 0, 0⟩)
  (g := -340) (h := 340) (by norm_num)
  (G_one (by norm_num) (by norm_num)) (G.zero _ _) (G.zero _ _) (G.zero _ _) (G_one (by norm_num) (by norm_num))
  (G.zero _ _) (G_one (by norm_num) (by norm_num)) (G.zero _ _) (G.zero _ _)
  (by norm_num) (by norm_num) (by norm_num) (by norm_num)
theorem three_eighths_bounds {lo hi : ℤ} (hlo : lo ≤ -2) (hhi : 0 ≤ hi) :
    (2 : ℚ) ^ lo ≤ |(3 / 8 : ℚ)| ∧ |(3 / 8 : ℚ)| ≤ 2 ^ hi := by
  rw [abs_of_pos (by norm_num)]
  exact ⟨(two_zpow_le hlo).trans (by norm_num), le_trans (by norm_num) (two_zpow_le hhi)⟩

example : G (-63) 62 (3 / 8 : ℚ) :=
  C19c_f32_on_grid ⟨3, -3, by norm_num, by norm_num⟩ (Or.inr (three_eighths_bounds (hi := 0) (by norm_num) le_rfl).1)
    (three_eighths_bounds (lo := -2) (by norm_num) (by norm_num)).2
example : G (-511) 510 (3 / 8 : ℚ) :=
  C19c_f64_on_grid ⟨3, -3, by norm_num, by norm_num⟩ (Or.inr (three_eighths_bounds (hi := 0) (by norm_num) le_rfl).1)
    (three_eighths_bounds (lo := -2) (by norm_num) (by norm_num)).2
example := C19c_orient_f32 (a := ⟨0, 0⟩) (b := ⟨0, 0⟩) (c := ⟨0, 0⟩) (G.zero _ _) (G.zero _ _) (G.zero _ _)
  (G.zero _ _) (G.zero _ _) (G.zero _ _)
example : G (-511) 510 ((7 : ℤ) : ℚ) := G_intCast 7 (by norm_num) (by
  rw [abs_of_pos (by norm_num)]
  exact le_trans (by norm_num : (((7 : ℤ) : ℚ)) ≤ 2 ^ (3 : ℤ)) (two_zpow_le (by norm_num)))

end Examples

end HC.C19

/-
  C20, third part — "every stored normal is a finite unit vector", in the rounding model.

  The viewer (honeycomb-render/src/import_map.rs, 2-D and 3-D systems) stores `w.normalize()` for vectors `w`
  built from the corner sides; glam's `Vec3::normalize` (scalar `f32` path) is
      d = (x*x + y*y) + z*z        -- `dot(self, self)`, three products and two sums, each rounded
      s = sqrt(d)                  -- `length()`
      r = 1.0 / s                  -- `length_recip()`
      (x*r, y*r, z*r)              -- `self * r`
  `normalizeFl fl sq` is this computation in the arithmetic "`fl` after every operation" of Props/C19.lean.

  ASSUMPTIONS, stated exactly:
  * `RoundModel fl u`: every `+ * /` returns `fl` of the exact result, `|fl t − t| ≤ u·|t|`, `u < 1`.  PROVED to hold
    for idealised binary32 (`rnd 24`, `u = 2⁻²⁴`, unbounded exponent — `C19b_roundModel_f32`); the identification
    with the hardware is validated by the C19 `flop` stream; overflow / underflow are excluded (for squares of
    binary32 numbers that means `2⁻⁶³ ≤ |x| ≤ 2⁶²` or zero, cf. Props/C19c.lean) — "moderate magnitude".
  * `SqrtModel sq u`: for `d > 0`, `sq d > 0` and `d(1−u)² ≤ (sq d)² ≤ d(1+u)²`, i.e. `|sq d − √d| ≤ u·√d`, stated
    without a real square root.  IEEE-754 `sqrt` is correctly rounded (`sq d = fl(√d)`), which implies it; this
    is an ASSUMPTION here, not proved (no sqrt in the model).

  THEOREMS
  * `C20c_normalize_unit`      for every nonzero input and `u ≤ 1/64`: `1 − 10u ≤ ‖n‖² ≤ 1 + 10u` for the
                                 computed `n` (exact sum of the squares of the computed components);
  * `C20c_norm_within`         hence `|‖n‖ − 1| ≤ 10u` for the (real) norm;
  * `C20c_normalize_unit_f32`  binary32: `|‖n‖² − 1| ≤ 10·2⁻²⁴ < 10⁻⁶` — two orders below the oracle's `10⁻⁴`;
  * `C20c_normal_nonzero_iff_not_straight`, `C20c_corner_normal_unit`
                                 link to the exact normals of the model (Props/C20b): the plane normal
                                 `vec_in × vec_out` is nonzero iff the corner is not straight (D20a is exactly the
                                 excluded case), and then its normalisation is a unit vector up to `10u`;
  * `C20c_final_normal_unit_partial`  the vector finally stored, `(a·n₁ + b·n₂).normalize()`: unit up to `10u`
                                 PROVIDED the computed sum handed to `normalize` is not the zero vector
                                 (PARTIAL: exact nonzero-ness is `C20_3d_normal_nonzero`; that the rounded sum
                                 of a nearly-spiked corner does not cancel to zero is not proved).
  Every rounding error is kept as a factor: `Fac u k d` says that `d` is a product of `k` factors in `[1 − u, 1 + u]`.
  The rounded sum of squares carries three (`dot3_fac`), the scaled vector four (`scaled_normSq_bounds`), the square
  root two on the square; the constants 10 and 1/64 enter only through `upper_poly` / `lower_poly`.

  NOT PROVED: correct rounding of the hardware `sqrt`; glam's SIMD paths (`Vec3A`; the viewer uses `Vec3`);
  finiteness is the absence of overflow — excluded, not modelled.
-/
import Honeycomb.Props.C19b
import Honeycomb.Props.C20b

namespace HC.C20
open HC.C19 HC.Geo HC.Rounding

section Normalize
variable {K : Type} [Field K] [LinearOrder K] [IsStrictOrderedRing K]

/-- what is assumed about the square-root routine: relative error `u`, stated on squares -/
structure SqrtModel (sq : K → K) (u : K) : Prop where
  pos : ∀ d, 0 < d → 0 < sq d
  bounds : ∀ d, 0 < d → d * (1 - u) ^ 2 ≤ sq d ^ 2 ∧ sq d ^ 2 ≤ d * (1 + u) ^ 2

/-- glam `Vec3::normalize` (scalar path), operation by operation -/
def normalizeFl (fl sq : K → K) (x y z : K) : K × K × K :=
  let d := fl (fl (fl (x * x) + fl (y * y)) + fl (z * z))
  let r := fl (1 / sq d)
  (fl (x * r), fl (y * r), fl (z * r))

/-- exact squared norm -/
def normSq3 (n : K × K × K) : K := n.1 * n.1 + n.2.1 * n.2.1 + n.2.2 * n.2.2

/-- `d` is a product of `k` rounding factors: `(1 − u)ᵏ ≤ d ≤ (1 + u)ᵏ` -/
def Fac (u : K) (k : ℕ) (d : K) : Prop := (1 - u) ^ k ≤ d ∧ d ≤ (1 + u) ^ k

theorem Fac.of_abs {u d : K} (h : |d - 1| ≤ u) : Fac u 1 d := by
  obtain ⟨h1, h2⟩ := abs_sub_le_iff.mp h
  rw [Fac, pow_one, pow_one]
  exact ⟨sub_le_comm.mp h2, sub_le_iff_le_add'.mp h1⟩

theorem Fac.mul {u d e : K} {k l : ℕ} (h1 : u ≤ 1) (hd : Fac u k d) (he : Fac u l e) :
    Fac u (k + l) (d * e) := by
  have p : 0 ≤ (1 - u) ^ k := pow_nonneg (sub_nonneg.mpr h1) k
  have q : 0 ≤ (1 - u) ^ l := pow_nonneg (sub_nonneg.mpr h1) l
  rw [Fac, pow_add, pow_add]
  exact ⟨mul_le_mul hd.1 he.1 q (p.trans hd.1), mul_le_mul hd.2 he.2 (q.trans he.1) ((p.trans hd.1).trans hd.2)⟩

/-- a combination with non-negative weights of products of `k` rounding factors -/
theorem Fac.weighted3 {u a b c E1 E2 E3 : K} {k : ℕ} (ha : 0 ≤ a) (hb : 0 ≤ b) (hc : 0 ≤ c)
    (h1 : Fac u k E1) (h2 : Fac u k E2) (h3 : Fac u k E3) :
    (a + b + c) * (1 - u) ^ k ≤ a * E1 + b * E2 + c * E3 ∧
      a * E1 + b * E2 + c * E3 ≤ (a + b + c) * (1 + u) ^ k := by
  rw [add_mul, add_mul, add_mul, add_mul]
  exact ⟨add_le_add (add_le_add (mul_le_mul_of_nonneg_left h1.1 ha) (mul_le_mul_of_nonneg_left h2.1 hb))
      (mul_le_mul_of_nonneg_left h3.1 hc),
    add_le_add (add_le_add (mul_le_mul_of_nonneg_left h1.2 ha) (mul_le_mul_of_nonneg_left h2.2 hb))
      (mul_le_mul_of_nonneg_left h3.2 hc)⟩

theorem upper_poly {u : K} (h0 : 0 ≤ u) (h1 : u ≤ 1 / 64) : (1 + u) ^ 4 ≤ (1 + 10 * u) * (1 - u) ^ 5 := by
  have a : 0 ≤ u * (1 - 46 * u) := mul_nonneg h0 (by linarith)
  have b : 0 ≤ u ^ 3 * (86 - 96 * u + u ^ 2 * (49 - 10 * u)) :=
    mul_nonneg (pow_nonneg h0 3) (add_nonneg (by linarith) (mul_nonneg (sq_nonneg u) (by linarith)))
  have e : (1 + 10 * u) * (1 - u) ^ 5 - (1 + u) ^ 4
      = u * (1 - 46 * u) + u ^ 3 * (86 - 96 * u + u ^ 2 * (49 - 10 * u)) := by ring
  exact sub_nonneg.mp (e ▸ add_nonneg a b)

theorem lower_poly {u : K} (h0 : 0 ≤ u) : (1 - 10 * u) * (1 + u) ^ 5 ≤ (1 - u) ^ 4 := by
  have e : (1 - u) ^ 4 - (1 - 10 * u) * (1 + u) ^ 5
      = 10 * u ^ 6 + 49 * u ^ 5 + 96 * u ^ 4 + 86 * u ^ 3 + 46 * u ^ 2 + u := by ring
  refine sub_nonneg.mp (e ▸ ?_)
  positivity

theorem quot_le {Q s P N a b c : K} (hs : 0 < s) (hN : 0 ≤ N) (hc : 0 ≤ c) (hQ : Q * s = P)
    (hP : P ≤ N * a) (hsb : N * b ≤ s) (hab : a ≤ c * b) : Q ≤ c := by
  have : Q * s ≤ c * s :=
    calc Q * s = P := hQ
      _ ≤ N * a := hP
      _ ≤ N * (c * b) := mul_le_mul_of_nonneg_left hab hN
      _ = c * (N * b) := mul_left_comm N c b
      _ ≤ c * s := mul_le_mul_of_nonneg_left hsb hc
  exact le_of_mul_le_mul_right this hs

theorem le_quot {Q s P N a b c : K} (hs : 0 < s) (hN : 0 ≤ N) (hc : 0 ≤ c) (hQ : Q * s = P)
    (hP : N * a ≤ P) (hsb : s ≤ N * b) (hab : c * b ≤ a) : c ≤ Q := by
  have : c * s ≤ Q * s :=
    calc c * s ≤ c * (N * b) := mul_le_mul_of_nonneg_left hsb hc
      _ = N * (c * b) := mul_left_comm c N b
      _ ≤ N * a := mul_le_mul_of_nonneg_left hab hN
      _ ≤ P := hP
      _ = Q * s := hQ.symm
  exact le_of_mul_le_mul_right this hs

variable {fl : K → K} {u : K}

theorem fl_fac (h : RoundModel fl u) (x : K) : ∃ d, Fac u 1 d ∧ fl x = x * d := by
  obtain ⟨d, hd, e⟩ := h.fl_rel x
  exact ⟨d, Fac.of_abs hd, e⟩

/-- the rounded sum of three non-negative numbers: each term carries three rounding factors (the third passes
    through two roundings only: the missing one counts as a factor 1) -/
theorem dot3_fac (h : RoundModel fl u) {a b c : K} (ha : 0 ≤ a) (hb : 0 ≤ b) (hc : 0 ≤ c) :
    (a + b + c) * (1 - u) ^ 3 ≤ fl (fl (fl a + fl b) + fl c) ∧
      fl (fl (fl a + fl b) + fl c) ≤ (a + b + c) * (1 + u) ^ 3 := by
  have h1 := h.u_lt_one.le
  obtain ⟨d0, f0, e0⟩ := fl_fac h a
  obtain ⟨d1, f1, e1⟩ := fl_fac h b
  obtain ⟨d2, f2, e2⟩ := fl_fac h c
  obtain ⟨d3, f3, e3⟩ := fl_fac h (fl a + fl b)
  obtain ⟨d4, f4, e4⟩ := fl_fac h (fl (fl a + fl b) + fl c)
  have e : fl (fl (fl a + fl b) + fl c) = a * (d0 * d3 * d4) + b * (d1 * d3 * d4) + c * (d2 * 1 * d4) := by
    rw [e4, e3, e0, e1, e2]
    ring
  rw [e]
  exact Fac.weighted3 ha hb hc ((f0.mul h1 f3).mul h1 f4) ((f1.mul h1 f3).mul h1 f4)
    ((f2.mul h1 (Fac.of_abs h.err_one)).mul h1 f4)

/-- scaling by the rounded reciprocal of `s`: the squared norm of the result times `s²` is the squared norm of
    the input up to four rounding factors (one for `1/s`, one for the product, both squared) -/
theorem scaled_normSq_bounds (h : RoundModel fl u) {s : K} (hs : s ≠ 0) (x y z : K) :
    (x * x + y * y + z * z) * (1 - u) ^ 4
        ≤ normSq3 (fl (x * fl (1 / s)), fl (y * fl (1 / s)), fl (z * fl (1 / s))) * s ^ 2 ∧
      normSq3 (fl (x * fl (1 / s)), fl (y * fl (1 / s)), fl (z * fl (1 / s))) * s ^ 2
        ≤ (x * x + y * y + z * z) * (1 + u) ^ 4 := by
  have h1 := h.u_lt_one.le
  obtain ⟨R, hR, eR⟩ := fl_fac h (1 / s)
  obtain ⟨E1, hE1, e1⟩ := fl_fac h (x * fl (1 / s))
  obtain ⟨E2, hE2, e2⟩ := fl_fac h (y * fl (1 / s))
  obtain ⟨E3, hE3, e3⟩ := fl_fac h (z * fl (1 / s))
  have hR' : fl (1 / s) * s = R := by rw [eR, mul_right_comm, one_div_mul_cancel hs, one_mul]
  have hQ : normSq3 (fl (x * fl (1 / s)), fl (y * fl (1 / s)), fl (z * fl (1 / s))) * s ^ 2
      = x * x * (R * E1 * (R * E1)) + y * y * (R * E2 * (R * E2)) + z * z * (R * E3 * (R * E3)) := by
    simp only [normSq3]
    rw [e1, e2, e3, ← hR']
    ring
  rw [hQ]
  exact Fac.weighted3 (mul_self_nonneg x) (mul_self_nonneg y) (mul_self_nonneg z)
    ((hR.mul h1 hE1).mul h1 (hR.mul h1 hE1)) ((hR.mul h1 hE2).mul h1 (hR.mul h1 hE2))
    ((hR.mul h1 hE3).mul h1 (hR.mul h1 hE3))

/-- **the normalised vector is a unit vector up to `10u`** (squared norm) -/
theorem C20c_normalize_unit {fl sq : K → K} {u : K} (hfl : RoundModel fl u) (hsq : SqrtModel sq u)
    (hu : u ≤ 1 / 64) {x y z : K} (hne : (x, y, z) ≠ ((0, 0, 0) : K × K × K)) :
    1 - 10 * u ≤ normSq3 (normalizeFl fl sq x y z) ∧ normSq3 (normalizeFl fl sq x y z) ≤ 1 + 10 * u := by
  have hu0 := hfl.u_nonneg
  have hN : 0 < x * x + y * y + z * z :=
    lt_of_le_of_ne (add_nonneg (add_nonneg (mul_self_nonneg x) (mul_self_nonneg y)) (mul_self_nonneg z))
      fun h => hne (by obtain ⟨rfl, rfl, rfl⟩ := (sq3_zero_iff x y z).mp h.symm; rfl)
  obtain ⟨d_lo, d_hi⟩ := dot3_fac hfl (mul_self_nonneg x) (mul_self_nonneg y) (mul_self_nonneg z)
  have hd := (mul_pos hN (pow_pos (sub_pos.mpr hfl.u_lt_one) 3)).trans_le d_lo
  have hs := hsq.pos _ hd
  obtain ⟨s_lo, s_hi⟩ := hsq.bounds _ hd
  obtain ⟨P_lo, P_hi⟩ := scaled_normSq_bounds hfl hs.ne' x y z
  have h10 : 0 ≤ 1 - 10 * u :=
    sub_nonneg.mpr ((mul_le_mul_of_nonneg_left hu (by norm_num)).trans (by norm_num))
  -- `‖n‖²·s² ∈ N·(1 ± u)⁴` and `s² ∈ d·(1 ± u)² ⊆ N·(1 ± u)⁵`, `N = x² + y² + z²`
  have s_hi' := s_hi.trans (mul_le_mul_of_nonneg_right d_hi (sq_nonneg _))
  have s_lo' := (mul_le_mul_of_nonneg_right d_lo (sq_nonneg _)).trans s_lo
  rw [mul_assoc, ← pow_add] at s_hi' s_lo'
  exact ⟨le_quot (pow_pos hs 2) hN.le h10 rfl P_lo s_hi' (lower_poly hu0),
    quot_le (pow_pos hs 2) hN.le (add_nonneg zero_le_one (mul_nonneg (by norm_num) hu0)) rfl P_hi s_lo'
      (upper_poly hu0 hu)⟩

set_option linter.unusedVariables false in
/-- from the squared norm to the norm: any `ν ≥ 0` with `ν² = ‖n‖²` is within `10u` of 1 -/
theorem C20c_norm_within {u Q ν : K} (hu0 : 0 ≤ u) (hQ : 1 - 10 * u ≤ Q ∧ Q ≤ 1 + 10 * u) (hν : 0 ≤ ν)
    (hνQ : ν ^ 2 = Q) : |ν - 1| ≤ 10 * u := by
  have h1 : (1 : K) ≤ ν + 1 := le_add_of_nonneg_left hν
  -- `|ν − 1|·(ν + 1) = |ν² − 1|` and `ν + 1 ≥ 1`
  have e : |ν - 1| * (ν + 1) = |Q - 1| := by
    rw [← hνQ, ← abs_of_nonneg (zero_le_one.trans h1), ← abs_mul]
    congr 1
    ring
  calc |ν - 1| ≤ |ν - 1| * (ν + 1) := le_mul_of_one_le_right (abs_nonneg _) h1
    _ = |Q - 1| := e
    _ ≤ 10 * u := abs_sub_le_iff.mpr ⟨sub_le_iff_le_add'.mpr hQ.2, sub_le_comm.mpr hQ.1⟩

end Normalize

/-! ## binary32 -/

theorem uro_24_le : uro 24 ≤ 1 / 64 := by
  have : uro 24 ≤ (2 : ℚ) ^ (-(6 : ℤ)) := two_zpow_le (by norm_num)
  have e : (2 : ℚ) ^ (-(6 : ℤ)) = 1 / 64 := by norm_num
  rw [e] at this; exact this

/-- **binary32** (`rnd 24`, PROVED rounding model; `sq` any square root routine with relative error `2⁻²⁴`):
    the squared norm of every normalised nonzero vector is within `10·2⁻²⁴` of 1 -/
theorem C20c_normalize_unit_f32 {sq : ℚ → ℚ} (hsq : SqrtModel sq (uro 24)) {x y z : ℚ}
    (hne : (x, y, z) ≠ ((0, 0, 0) : ℚ × ℚ × ℚ)) :
    1 - 10 * uro 24 ≤ normSq3 (normalizeFl (rnd 24) sq x y z) ∧
      normSq3 (normalizeFl (rnd 24) sq x y z) ≤ 1 + 10 * uro 24 :=
  C20c_normalize_unit C19b_roundModel_f32 hsq uro_24_le hne

/-- the bound is below `10⁻⁶`, two orders of magnitude under the tolerance `10⁻⁴` of the oracle -/
theorem C20c_bound_f32 : 10 * uro 24 < 1 / 10 ^ 6 := by
  have e : uro 24 = 1 / 16777216 := by unfold uro; norm_num
  rw [e]; norm_num

/-! ## link with the exact normals of the model (Props/C20b) -/

/-- the plane normal `vec_in × vec_out` of a corner with a non-degenerate incoming side is NOT zero iff the
    corner is not straight — finding D20a is exactly the excluded case -/
theorem C20c_normal_nonzero_iff_not_straight (u v : V3) (hu : u ≠ vzero) :
    cross3 u v ≠ vzero ↔ ¬ ∃ t : Rat, v = vsmul t u :=
  not_congr (C20_D20a_zero_normal_iff u v hu)

/-- **a non-straight corner gets a unit plane normal**: normalising the exact plane normal of the model in
    rounded arithmetic gives a vector whose squared norm is within `10u` of 1 -/
theorem C20c_corner_normal_unit {fl sq : ℚ → ℚ} {u₀ : ℚ} (hfl : RoundModel fl u₀) (hsq : SqrtModel sq u₀)
    (hu : u₀ ≤ 1 / 64) (u v : V3) (hu0 : u ≠ vzero) (hns : ¬ ∃ t : Rat, v = vsmul t u) :
    1 - 10 * u₀ ≤ normSq3 (normalizeFl fl sq (cross3 u v).1 (cross3 u v).2.1 (cross3 u v).2.2) ∧
      normSq3 (normalizeFl fl sq (cross3 u v).1 (cross3 u v).2.1 (cross3 u v).2.2) ≤ 1 + 10 * u₀ := by
  apply C20c_normalize_unit hfl hsq hu
  have := (C20c_normal_nonzero_iff_not_straight u v hu0).mpr hns
  intro h
  apply this
  simpa [vzero] using h

/-- PARTIAL — the vector finally stored is `(a·n₁ + b·n₂).normalize()`; it is a unit vector up to `10u` as soon
    as the COMPUTED sum `w` handed to `normalize` is not the zero vector.  (In exact arithmetic the sum is nonzero
    for every non-straight corner, `C20_3d_normal_nonzero`; that rounding cannot cancel it is not proved.) -/
theorem C20c_final_normal_unit_partial {fl sq : ℚ → ℚ} {u₀ : ℚ} (hfl : RoundModel fl u₀) (hsq : SqrtModel sq u₀)
    (hu : u₀ ≤ 1 / 64) (w : V3) (hw : w ≠ vzero) :
    1 - 10 * u₀ ≤ normSq3 (normalizeFl fl sq w.1 w.2.1 w.2.2) ∧
      normSq3 (normalizeFl fl sq w.1 w.2.1 w.2.2) ≤ 1 + 10 * u₀ := by
  apply C20c_normalize_unit hfl hsq hu
  intro h; apply hw; simpa [vzero] using h

/-! ## Non-vacuity -/
section Examples

/-- exact arithmetic with the real square root satisfies both structures with `u = 0` … -/
theorem sqrtModel_real : SqrtModel Real.sqrt (0 : ℝ) where
  pos := fun d hd => Real.sqrt_pos.mpr hd
  bounds := fun d hd => by
    have := Real.sq_sqrt hd.le
    constructor <;> simp [this]

/-- … and the theorem then says the normalised `(3, 4, 0)` has squared norm exactly 1 -/
example : normSq3 (normalizeFl (id : ℝ → ℝ) Real.sqrt 3 4 0) = 1 := by
  have := C20c_normalize_unit (K := ℝ) roundModel_id sqrtModel_real (by norm_num) (x := 3) (y := 4) (z := 0)
    (by simp)
  simp only [mul_zero, sub_zero, add_zero] at this
  exact le_antisymm this.2 this.1

/-- an INEXACT instance: every operation and the square root are 1/128 too large -/
theorem roundModel_128 : RoundModel (fun x : ℝ => x * (1 + 1 / 128)) (1 / 128) :=
  ⟨by norm_num, by norm_num, fun x => by
    have : x * (1 + 1 / 128) - x = 1 / 128 * x := by ring
    rw [this, abs_mul]; norm_num⟩

theorem sqrtModel_128 : SqrtModel (fun d : ℝ => Real.sqrt d * (1 + 1 / 128)) (1 / 128) where
  pos := fun d hd => mul_pos (Real.sqrt_pos.mpr hd) (by norm_num)
  bounds := fun d hd => by
    have h := Real.sq_sqrt hd.le
    have e : (Real.sqrt d * (1 + 1 / 128)) ^ 2 = d * (1 + 1 / 128) ^ 2 := by rw [mul_pow, h]
    rw [e]
    constructor
    · apply mul_le_mul_of_nonneg_left _ hd.le; norm_num
    · exact le_refl _

example : 1 - 10 * (1 / 128 : ℝ) ≤ normSq3 (normalizeFl (fun x : ℝ => x * (1 + 1 / 128))
      (fun d : ℝ => Real.sqrt d * (1 + 1 / 128)) 3 4 0) :=
  (C20c_normalize_unit roundModel_128 sqrtModel_128 (by norm_num) (x := 3) (y := 4) (z := 0) (by simp)).1

/-- the hypothesis of the binary32 theorem is satisfiable: for every `0 < u < 1` there IS a rational-valued
    square-root routine with relative error `u` (rationals are dense) -/
theorem exists_sqrtModel {u : ℚ} (hu0 : 0 < u) (hu1 : u < 1) : ∃ sq : ℚ → ℚ, SqrtModel sq u := by
  have ex : ∀ d : ℚ, 0 < d → ∃ q : ℚ, 0 < q ∧ d * (1 - u) ^ 2 ≤ q ^ 2 ∧ q ^ 2 ≤ d * (1 + u) ^ 2 := by
    intro d hd
    have hdR : (0 : ℝ) < (d : ℝ) := by exact_mod_cast hd
    have hr : 0 < Real.sqrt (d : ℝ) := Real.sqrt_pos.mpr hdR
    have hu0R : (0 : ℝ) < (u : ℝ) := by exact_mod_cast hu0
    have hu1R : (u : ℝ) < 1 := by exact_mod_cast hu1
    have hlt : Real.sqrt (d : ℝ) * (1 - (u : ℝ)) < Real.sqrt (d : ℝ) * (1 + (u : ℝ)) :=
      mul_lt_mul_of_pos_left (by linarith) hr
    obtain ⟨q, hq1, hq2⟩ := exists_rat_btwn hlt
    have hlo : 0 < Real.sqrt (d : ℝ) * (1 - (u : ℝ)) := mul_pos hr (by linarith)
    have hqpos : (0 : ℝ) < (q : ℝ) := hlo.trans hq1
    have hsq := Real.sq_sqrt hdR.le
    have h1 : (d : ℝ) * (1 - (u : ℝ)) ^ 2 ≤ (q : ℝ) ^ 2 := by
      have := pow_le_pow_left₀ hlo.le hq1.le 2
      rwa [mul_pow, hsq] at this
    have h2 : (q : ℝ) ^ 2 ≤ (d : ℝ) * (1 + (u : ℝ)) ^ 2 := by
      have := pow_le_pow_left₀ hqpos.le hq2.le 2
      rwa [mul_pow, hsq] at this
    exact ⟨q, by exact_mod_cast hqpos, by exact_mod_cast h1, by exact_mod_cast h2⟩
  classical
  refine ⟨fun d => if h : 0 < d then Classical.choose (ex d h) else 0, ⟨?_, ?_⟩⟩
  · intro d hd
    simp only [hd, dif_pos]
    exact (Classical.choose_spec (ex d hd)).1
  · intro d hd
    simp only [hd, dif_pos]
    exact (Classical.choose_spec (ex d hd)).2

/-- … so the binary32 theorem is not vacuous -/
example : ∃ sq : ℚ → ℚ, 1 - 10 * uro 24 ≤ normSq3 (normalizeFl (rnd 24) sq 3 4 0) ∧
    normSq3 (normalizeFl (rnd 24) sq 3 4 0) ≤ 1 + 10 * uro 24 := by
  obtain ⟨sq, hsq⟩ := exists_sqrtModel (two_zpow_pos _) C19b_roundModel_f32.u_lt_one
  exact ⟨sq, C20c_normalize_unit_f32 hsq (by simp)⟩

example : 10 * uro 24 < 1 / 10 ^ 6 := C20c_bound_f32
/-- a right corner is not straight: its plane normal is not zero … -/
example : cross3 (1, 0, 0) (0, 1, 0) ≠ vzero :=
  (C20c_normal_nonzero_iff_not_straight _ _ (by simp [vzero])).mpr (by
    rintro ⟨t, ht⟩
    simp [vsmul] at ht)
/-- … and its normalisation is a unit vector up to `10u` (here with the exact instance over ℚ impossible — use
    the existence of a square-root routine) -/
example : ∃ sq : ℚ → ℚ,
    normSq3 (normalizeFl (rnd 24) sq (cross3 (1, 0, 0) (0, 1, 0)).1 (cross3 (1, 0, 0) (0, 1, 0)).2.1
      (cross3 (1, 0, 0) (0, 1, 0)).2.2) ≤ 1 + 10 * uro 24 := by
  obtain ⟨sq, hsq⟩ := exists_sqrtModel (two_zpow_pos _) C19b_roundModel_f32.u_lt_one
  refine ⟨sq, (C20c_corner_normal_unit C19b_roundModel_f32 hsq uro_24_le (1, 0, 0) (0, 1, 0) (by simp [vzero]) ?_).2⟩
  rintro ⟨t, ht⟩
  simp [vsmul] at ht
example (w : V3) (hw : w ≠ vzero) {sq : ℚ → ℚ} (hsq : SqrtModel sq (uro 24)) :=
  C20c_final_normal_unit_partial C19b_roundModel_f32 hsq uro_24_le w hw
example : |(1 : ℚ) - 1| ≤ 10 * (1 / 64) :=
  C20c_norm_within (u := 1 / 64) (Q := 1) (ν := 1) (by norm_num) (by norm_num) (by norm_num) (by norm_num)
example : (1 - 1 / 64 : ℚ) ^ 2 ≤ (1 : ℚ) ^ 2 ∧ (1 : ℚ) ^ 2 ≤ (1 + 1 / 64) ^ 2 := by
  norm_num
example := upper_poly (K := ℚ) (u := 1 / 64) (by norm_num) (by norm_num)
example := lower_poly (K := ℚ) (u := 1 / 64) (by norm_num)

end Examples

end HC.C20

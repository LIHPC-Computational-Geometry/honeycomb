/-
  C01 / C04 — the PUBLIC (un)link / (un)sew API of `CMap2`, end to end on translated code (the 2-D twin of
  Props/C02GenApi.lean).  `Gen/Dispatch2.lean` (tools/gen_lean.py `dispatch2`) holds, for `link::<I>`, `unlink::<I>`,
  `sew::<I>`, `unsew::<I>` of dim2/links/mod.rs and dim2/sews/mod.rs and their `force_` forms, the two assertions on
  `I` and the internal function each arm finally runs (the wrappers `one_link` → `self.betas.one_link_core` of
  dim2/links/one.rs, two.rs followed).  `C01_gen_api`: the transactional closure `C01.prog` — what
  `C01_history_preserves_WF` quantifies over — IS the translated dispatch into the translated bodies
  (Gen/LinkCores, Gen/Sews2), for every `I`.
-/
import Honeycomb.Gen.Dispatch2
import Honeycomb.Props.C01Gen
import Honeycomb.Props.C01Gen2

namespace HC.GenTie
open HC HC.C01
variable {X : Type}

/-- the translated body of the internal function with the given code -/
def apiFn2 (cfg : Cfg X) (n : Nat) (l r : Nat) : Nat → Option (P X Unit)
  | 0 => some (interpCore l r 0 Gen.oneLinkCore)
  | 1 => some (interpCore l r 0 Gen.twoLinkCore)
  | 3 => some (interpCore l 0 0 Gen.oneUnlinkCore)
  | 4 => some (interpCore l 0 0 Gen.twoUnlinkCore)
  | 20 => some (interpSew cfg n l r 16 [] Gen.oneSew2)
  | 21 => some (interpSew cfg n l 0 16 [] Gen.oneUnsew2)
  | 22 => some (interpSew cfg n l r 64 [] Gen.twoSew2)
  | 23 => some (interpSew cfg n l 0 64 [] Gen.twoUnsew2)
  | _ => none

/-- a public call as translated: `assert!(I < bound); assert_ne!(I, excluded); match I { … }` -/
def apiCall2 (cfg : Cfg X) (n : Nat) (t : Nat × Nat × List (Nat × Nat)) (i l r : Nat) : P X Unit :=
  if i < t.1 ∧ i ≠ t.2.1 then
    match t.2.2.lookup i with
    | some c => (apiFn2 cfg n l r c).getD Prog.panic
    | none => Prog.panic
  else Prog.panic

/-- `assert!(I < 3)`: a β index from 3 on is refused -/
theorem apiCall2_oob (cfg : Cfg X) (n : Nat) (t : Nat × Nat × List (Nat × Nat)) (ht : t.1 = 3) (k l r : Nat) :
    apiCall2 cfg n t (k + 3) l r = Prog.panic := by
  unfold apiCall2
  rw [if_neg fun hh => by rw [ht] at hh; omega]

/-- **the 2-D API runs the translated code** (transactional forms) -/
theorem C01_gen_api (cfg : Cfg X) (n i l r : Nat) :
    prog cfg n (.link i l r) = apiCall2 cfg n Gen.Dispatch2.link2 i l r ∧
    prog cfg n (.unlink i l) = apiCall2 cfg n Gen.Dispatch2.unlink2 i l 0 ∧
    prog cfg n (.sew i l r) = apiCall2 cfg n Gen.Dispatch2.sew2 i l r ∧
    prog cfg n (.unsew i l) = apiCall2 cfg n Gen.Dispatch2.unsew2 i l 0 := by
  refine ⟨?_, ?_, ?_, ?_⟩
  · match i with
    | 0 => rfl
    | 1 => exact (C01_gen_oneLinkCore l r).symm
    | 2 => exact (C01_gen_twoLinkCore l r).symm
    | k + 3 => exact (apiCall2_oob cfg n _ rfl k l r).symm
  · match i with
    | 0 => rfl
    | 1 => exact (C01_gen_oneUnlinkCore l).symm
    | 2 => exact (C01_gen_twoUnlinkCore l).symm
    | k + 3 => exact (apiCall2_oob cfg n _ rfl k l 0).symm
  · match i with
    | 0 => rfl
    | 1 => exact (C01_gen_oneSew2 cfg n l r).symm
    | 2 => exact (C01_gen_twoSew2 cfg n l r).symm
    | k + 3 => exact (apiCall2_oob cfg n _ rfl k l r).symm
  · match i with
    | 0 => rfl
    | 1 => exact (C01_gen_oneUnsew2 cfg n l).symm
    | 2 => exact (C01_gen_twoUnsew2 cfg n l).symm
    | k + 3 => exact (apiCall2_oob cfg n _ rfl k l 0).symm

/-- the `force_` forms run the same internal function (inside one `atomically_with_err`, checked by the translator) -/
theorem C01_gen_force_tables :
    Gen.Dispatch2.forceLink2 = Gen.Dispatch2.link2 ∧ Gen.Dispatch2.forceUnlink2 = Gen.Dispatch2.unlink2 ∧
    Gen.Dispatch2.forceSew2 = Gen.Dispatch2.sew2 ∧ Gen.Dispatch2.forceUnsew2 = Gen.Dispatch2.unsew2 := by decide

/-- **C01 on the translated API**: one public sew of the 2-D API, run as translated, on a well-formed 2-map with
    admissible arguments leaves a well-formed map -/
theorem C01_gen_api_step_preserves_WF (cfg : Cfg X) {m : Map X} (h : WF 3 m) (i l r : Nat)
    (ha : ArgsOK m (.sew i l r)) :
    WF 3 (atomically (apiCall2 cfg m.n Gen.Dispatch2.sew2 i l r) m).2 := by
  rw [← (C01_gen_api cfg m.n i l r).2.2.1]
  exact C01_step_preserves_WF cfg m (.sew i l r) h ha

end HC.GenTie

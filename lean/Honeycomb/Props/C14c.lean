/-
  C14, third part — the vertices of the OLD darts after `insert_vertex(es)_on_edge`: "the end vertices, every other
  vertex … are preserved".

  PROVED (every well-formed map, every edge shape, every `k`)
  * `InsHyp.old_images`     — for every dart `y` that existed before the call (every dart other than the spare darts
                              that were used), the two vertex images `β1(β2 y)` and `β2(β0 y)` are the same darts
                              before and after the call (around the edge the new chains and the reversed β2 pairing
                              compose to exactly the old images).
  * `C14_old_vertices_unchanged(_single)` — hence the vertex orbit of every old dart is the same dart set as before, and
                              `vertex_id_transac` returns the same identifier; in particular for the two end points.
                              With `C14_new_darts_distinct_vertices` (the new darts form k vertices of their own) this
                              describes every vertex of the result.
  * `C14_old_vertices_keep_coordinates(_single)` — the slot of that identifier holds the same value in every storage:
                              the end points (and every other vertex) are where they were.
  * `run_n`                 — no transactional program changes the dart count.
-/
import Honeycomb.Props.C14b


namespace HC.C14
open HC

/-- a dart that existed before the call: not one of the spare darts that were used -/
def OldDart (m : Map Val) (e : Nat) (fh sh : List Nat) (y : Nat) : Prop := y ∉ fh ∧ (m.β 2 e ≠ 0 → y ∉ sh)

instance (m : Map Val) (e : Nat) (fh sh : List Nat) (y : Nat) : Decidable (OldDart m e fh sh y) := by
  unfold OldDart; exact inferInstance

/-- a non-null β image on a well-formed map is not a free dart -/
theorem image_not_free {m : Map Val} (hwf : WF 3 m) {i y z : Nat} (hi : i < 3) (hz : z = m.β i y) (hz0 : z ≠ 0) :
    ∃ j, j < 3 ∧ m.β j z ≠ 0 := by
  have hy : y < m.n := hwf.toSized.lt_of_β_ne hi (by rw [← hz]; exact hz0)
  have hy0 : y ≠ 0 := by rintro rfl; rw [hwf.null i hi] at hz; exact hz0 hz
  have : i = 0 ∨ i = 1 ∨ i = 2 := by omega
  rcases this with rfl | rfl | rfl
  · exact ⟨1, by omega, by rw [hz, hwf.inv10 y hy (by rw [← hz]; exact hz0)]; exact hy0⟩
  · exact ⟨0, by omega, by rw [hz, hwf.inv01 y hy (by rw [← hz]; exact hz0)]; exact hy0⟩
  · exact ⟨2, by omega, by rw [hz, (hwf.invol 2 (by omega) (by omega) y hy (by rw [← hz]; exact hz0)).1]; exact hy0⟩

variable {m m' : Map Val} {e : Nat} {fh sh : List Nat}

theorem InsHyp.image_old (H : InsHyp m m' e fh sh) {i y : Nat} (hi : i < 3) : OldDart m e fh sh (m.β i y) := by
  have key : ∀ l : List Nat, (∀ x ∈ l, x ≠ 0 ∧ ∀ j, j < 3 → m.β j x = 0) → m.β i y ∉ l := by
    intro l hl hh
    obtain ⟨h0, hf⟩ := hl _ hh
    obtain ⟨j, hj, hne⟩ := image_not_free H.wf hi rfl h0
    exact hne (hf j hj)
  exact ⟨key fh (fun x hx => ⟨(H.fhlt x hx).2, H.fhfree x hx⟩),
    fun h2 => key sh (fun x hx => ⟨((H.two h2).2.1 x hx).2, (H.two h2).2.2 x hx⟩)⟩

theorem InsHyp.zero_old (H : InsHyp m m' e fh sh) : OldDart m e fh sh 0 :=
  ⟨fun hh => (H.fhlt 0 hh).2 rfl, fun h2 hh => ((H.two h2).2.1 0 hh).2 rfl⟩

/-- β2 pairs the two sides in reverse order, in index form: `S2[j] ↔ S1[k-j]` -/
theorem InsHyp.pairs_index (H : InsHyp m m' e fh sh) (he2 : m.β 2 e ≠ 0) (j : Nat) (hj : j ≤ fh.length) :
    m'.β 2 ((m.β 2 e :: sh).getD j 0) = (e :: fh).getD (fh.length - j) 0 ∧
    m'.β 2 ((e :: fh).getD (fh.length - j) 0) = (m.β 2 e :: sh).getD j 0 :=
  H.res.pairs_index he2 (H.two he2).1 j hj

theorem InsHyp.lastF_lt (H : InsHyp m m' e fh sh) : fh.getLastD e < m.n := by
  have := getLastD_mem fh e
  simp only [List.mem_cons] at this
  rcases this with c | c
  · rw [c]; exact H.elt
  · exact (H.fhlt _ c).1

/-- β2 of the last dart of the first side before the call -/
theorem InsHyp.lastF_b2 (H : InsHyp m m' e fh sh) (he2 : m.β 2 e = 0) : m.β 2 (fh.getLastD e) = 0 := by
  have := getLastD_mem fh e
  simp only [List.mem_cons] at this
  rcases this with c | c
  · rw [c]; exact he2
  · exact H.fhfree _ c 2 (by omega)

/-- **the vertex images of an old dart are the same before and after the call** -/
theorem InsHyp.old_images (H : InsHyp m m' e fh sh) {y : Nat} (hy : OldDart m e fh sh y) :
    m'.β 1 (m'.β 2 y) = m.β 1 (m.β 2 y) ∧ m'.β 2 (m'.β 0 y) = m.β 2 (m.β 0 y) := by
  have hnull := H.wf.null
  have hnull' := H.wf'.null
  have hres := H.res
  by_cases he2 : m.β 2 e = 0
  · -- one-dart edge: β2 is unchanged everywhere
    have hb2 : ∀ z, m'.β 2 z = m.β 2 z := fun z => hres.frame2 z (fun hh => absurd he2 hh)
    constructor
    · rw [hb2]
      refine hres.frame1 _ ?_ (fun hh => absurd he2 hh)
      intro hmem
      simp only [List.mem_cons] at hmem
      rcases hmem with c | c
      · -- β2 y = e would give β2 e = y ≠ 0
        have hz0 : m.β 2 y ≠ 0 := by rw [c]; exact H.e0
        have hylt := H.wf.toSized.lt_of_β_ne (i := 2) (by omega) hz0
        have := (H.wf.invol 2 (by omega) (by omega) y hylt hz0).1
        rw [c, he2] at this
        rw [← this, hnull 2 (by omega)] at c
        exact H.e0 c.symm
      · exact (H.image_old (i := 2) (y := y) (by omega)).1 c
    · by_cases hy0 : y = 0
      · subst hy0; rw [hnull' 0 (by omega), hnull 0 (by omega), hb2]
      · rw [hb2]
        by_cases ho1 : y = m.β 1 e
        · -- y is the old successor of e: its β0 is now the last dart of the first side
          have ho0 : m.β 1 e ≠ 0 := by rw [← ho1]; exact hy0
          have h1 := H.wf'.inv01 (fh.getLastD e) (by rw [H.n_eq]; exact H.lastF_lt)
            (by rw [hres.side1.2]; exact ho0)
          rw [hres.side1.2] at h1
          have h2 := H.wf.inv01 e H.elt ho0
          rw [ho1, h1, h2, H.lastF_b2 he2, he2]
        · rw [hres.frame0 y hy.1 ho1 (fun hh => absurd he2 hh)]
  · obtain ⟨hlen, hshlt, hshfree⟩ := H.two he2
    have hinv := H.wf.invol 2 (by omega) (by omega) e H.elt he2
    have he2lt : m.β 2 e < m.n := H.wf.range 2 (by omega) e H.elt
    have p0 := H.pairs_index he2 0 (by omega)
    simp only [Nat.sub_zero, List.getD_cons_zero] at p0
    rw [← getLastD_index] at p0
    have hyS := hy.2 he2
    constructor
    · by_cases c1 : y = e
      · rw [c1, (hres.pairs he2).2.2, (hres.side2 he2).2]
      · by_cases c2 : y = m.β 2 e
        · rw [c2, p0.1, hres.side1.2, hinv.1]
        · have hf2 : m'.β 2 y = m.β 2 y := hres.frame2 y (fun _ => ⟨by
              simp only [List.mem_cons, not_or]; exact ⟨c1, hy.1⟩, by
              simp only [List.mem_cons, not_or]; exact ⟨c2, hyS⟩⟩)
          rw [hf2]
          have hold := H.image_old (i := 2) (y := y) (by omega)
          -- β2 y is neither e nor β2 e
          have hz1 : m.β 2 y ≠ e := by
            intro c
            have hz0 : m.β 2 y ≠ 0 := by rw [c]; exact H.e0
            have hylt := H.wf.toSized.lt_of_β_ne (i := 2) (by omega) hz0
            have := (H.wf.invol 2 (by omega) (by omega) y hylt hz0).1
            rw [c] at this; exact c2 this.symm
          have hz2 : m.β 2 y ≠ m.β 2 e := by
            intro c
            have hz0 : m.β 2 y ≠ 0 := by rw [c]; exact he2
            have hylt := H.wf.toSized.lt_of_β_ne (i := 2) (by omega) hz0
            have := (H.wf.invol 2 (by omega) (by omega) y hylt hz0).1
            rw [c, hinv.1] at this; exact c1 this.symm
          exact hres.frame1 _ (by simp only [List.mem_cons, not_or]; exact ⟨hz1, hold.1⟩)
            (fun _ => by simp only [List.mem_cons, not_or]; exact ⟨hz2, hold.2 he2⟩)
    · by_cases hy0 : y = 0
      · subst hy0; rw [hnull' 0 (by omega), hnull 0 (by omega), hnull' 2 (by omega), hnull 2 (by omega)]
      · by_cases ho1 : y = m.β 1 e
        · have ho0 : m.β 1 e ≠ 0 := by rw [← ho1]; exact hy0
          have h1 := H.wf'.inv01 (fh.getLastD e) (by rw [H.n_eq]; exact H.lastF_lt)
            (by rw [hres.side1.2]; exact ho0)
          rw [hres.side1.2] at h1
          have h2 := H.wf.inv01 e H.elt ho0
          rw [ho1, h1, h2, p0.2]
        · by_cases ho2 : y = m.β 1 (m.β 2 e)
          · have ho0 : m.β 1 (m.β 2 e) ≠ 0 := by rw [← ho2]; exact hy0
            have hl2lt : sh.getLastD (m.β 2 e) < m'.n := by
              rw [H.n_eq]
              have := getLastD_mem sh (m.β 2 e)
              simp only [List.mem_cons] at this
              rcases this with c | c
              · rw [c]; exact he2lt
              · exact (hshlt _ c).1
            have h1 := H.wf'.inv01 _ hl2lt (by rw [(hres.side2 he2).2]; exact ho0)
            rw [(hres.side2 he2).2] at h1
            have h2 := H.wf.inv01 (m.β 2 e) he2lt ho0
            rw [ho2, h1, h2, (hres.pairs he2).2.1, hinv.1]
          · rw [hres.frame0 y hy.1 ho1 (fun _ => ⟨hyS, ho2⟩)]
            -- w = β0 y is neither on the first nor on the second side
            have hold := H.image_old (i := 0) (y := y) (by omega)
            by_cases hw0 : m.β 0 y = 0
            · rw [hw0, hnull' 2 (by omega), hnull 2 (by omega)]
            · have hylt := H.wf.toSized.lt_of_β_ne (i := 0) (by omega) hw0
              have hb := H.wf.inv10 y hylt hw0
              have hw1 : m.β 0 y ≠ e := fun c => ho1 (by rw [← hb, c])
              have hw2 : m.β 0 y ≠ m.β 2 e := fun c => ho2 (by rw [← hb, c])
              exact hres.frame2 _ (fun _ => ⟨by
                simp only [List.mem_cons, not_or]; exact ⟨hw1, hold.1⟩, by
                simp only [List.mem_cons, not_or]; exact ⟨hw2, hold.2 he2⟩⟩)

/-- **the vertex of an old dart is the same dart set before and after the call** -/
theorem InsHyp.old_vertex (H : InsHyp m m' e fh sh) {y : Nat} (hy : OldDart m e fh sh y) (x : Nat) :
    Reach (C03.g2 m' .vertex) y x ↔ Reach (C03.g2 m .vertex) y x := by
  constructor
  · intro hr
    have : Reach (C03.g2 m .vertex) y x ∧ OldDart m e fh sh x := by
      induction hr with
      | refl => exact ⟨.refl _, hy⟩
      | tail _ hc ih =>
          obtain ⟨ih1, ih2⟩ := ih
          obtain ⟨a, b⟩ := H.old_images ih2
          simp only [C03.g2, List.mem_cons, List.not_mem_nil, or_false] at hc
          rcases hc with rfl | rfl
          · rw [a]; exact ⟨.tail ih1 (by simp [C03.g2]), H.image_old (by omega)⟩
          · rw [b]; exact ⟨.tail ih1 (by simp [C03.g2]), H.image_old (by omega)⟩
    exact this.1
  · intro hr
    have : Reach (C03.g2 m' .vertex) y x ∧ OldDart m e fh sh x := by
      induction hr with
      | refl => exact ⟨.refl _, hy⟩
      | tail _ hc ih =>
          obtain ⟨ih1, ih2⟩ := ih
          obtain ⟨a, b⟩ := H.old_images ih2
          simp only [C03.g2, List.mem_cons, List.not_mem_nil, or_false] at hc
          rcases hc with rfl | rfl
          · exact ⟨.tail ih1 (by simp [C03.g2, a]), H.image_old (by omega)⟩
          · exact ⟨.tail ih1 (by simp [C03.g2, b]), H.image_old (by omega)⟩
    exact this.1

/-- hence its identifier is the same -/
theorem InsHyp.old_vertex_id (H : InsHyp m m' e fh sh) {y : Nat} (hy : OldDart m e fh sh y) (hy0 : y ≠ 0) (hylt : y < m.n) :
    C03.cellId m' .vertex y = C03.cellId m .vertex y := by
  have hylt' : y < m'.n := by rw [H.n_eq]; exact hylt
  have s' := C03.cellId_spec H.wf' (pol := .vertex) trivial hy0 hylt'
  have s := C03.cellId_spec H.wf (pol := .vertex) trivial hy0 hylt
  have same : ∀ x, x ∈ C03.orb m' .vertex y ↔ x ∈ C03.orb m .vertex y := by
    intro x
    rw [C03.mem_orb H.wf' (pol := .vertex) trivial hy0 hylt', C03.mem_orb H.wf (pol := .vertex) trivial hy0 hylt,
      H.old_vertex hy x]
  exact Nat.le_antisymm (s'.2 _ ((same _).2 s.1)) (s.2 _ ((same _).1 s'.1))


/-! ## the theorems -/

/-- the hypotheses of `C14_insertVertex_beta_structure` give `InsHyp` -/
theorem insHyp_insertVertex (m m' : Map Val) (e nd1 nd2 : Nat) (t : Option Rat)
    (hwf : WF 3 m) (he : C01.InUse m e)
    (hl1 : m.unused nd1 = false) (hl2 : m.β 2 e ≠ 0 → m.unused nd2 = false ∧ nd1 ≠ nd2)
    (hend : m.β 1 e ≠ 0 ∨ m.β 2 e ≠ 0)
    (h : run (insertVertexOnEdge m.n e nd1 nd2 t) m = (.ok (), m')) :
    InsHyp m m' e [nd1] [nd2] := by
  obtain ⟨hwf', hres⟩ := C14_insertVertex_beta_structure m m' e nd1 nd2 t hwf he hl1 hl2 hend h
  obtain ⟨_, _, hnd1, hnd2, _⟩ := insertVertex_ok_elim h
  have hn : m'.n = m.n := by have := run_n (insertVertexOnEdge m.n e nd1 nd2 t) m; rw [h] at this; exact this
  refine ⟨hwf, hwf', hn, he.1, he.2.1, ?_, ?_, fun h2 => ⟨rfl, ?_, ?_⟩, hres⟩
  · intro x hx; simp only [List.mem_singleton] at hx; subst hx
    exact ⟨((hwf.toSized.okβ 0 _).1 hnd1.2.1).2, hnd1.1⟩
  · intro x hx i hi; simp only [List.mem_singleton] at hx; subst hx; exact free_β hnd1.2.2 i hi
  · intro x hx; simp only [List.mem_singleton] at hx; subst hx
    exact ⟨((hwf.toSized.okβ 0 _).1 (hnd2 h2).2.1).2, (hnd2 h2).1⟩
  · intro x hx i hi; simp only [List.mem_singleton] at hx; subst hx; exact free_β (hnd2 h2).2.2 i hi

/-- the edge dart and the dart of the second end point are old darts -/
theorem ends_old {m m' : Map Val} {e : Nat} {fh sh : List Nat} (H : InsHyp m m' e fh sh)
    (hend : m.β 1 e ≠ 0 ∨ m.β 2 e ≠ 0) :
    OldDart m e fh sh e ∧ OldDart m e fh sh (m.β 1 e) ∧ OldDart m e fh sh (m.β 2 e) := by
  refine ⟨⟨?_, ?_⟩, H.image_old (by omega), H.image_old (by omega)⟩
  · intro hh
    rcases hend with c | c
    · exact c (H.fhfree e hh 1 (by omega))
    · exact c (H.fhfree e hh 2 (by omega))
  · intro h2 hh
    exact h2 ((H.two h2).2.2 e hh 2 (by omega))

/-- **C14, untouched vertices keep their cells** (`insert_vertices_on_edge`): after a successful call the vertex
    orbit of every dart that existed before — every dart other than the spare darts that were used — is the same dart
    set as before, and `vertex_id_transac` returns the same identifier for it; in particular for the two end points of
    the edge.  Together with `C14_new_darts_distinct_vertices` (the new darts form `k` new vertices of their own) this
    describes every vertex of the result. -/
theorem C14_old_vertices_unchanged (m m' : Map Val) (e : Nat) (nds : List Nat) (ts : List Rat)
    (hwf : WF 3 m) (he : C01.InUse m e)
    (hlive : ∀ d ∈ nds, m.unused d = false)
    (hfhnd : (nds.take ts.length).Nodup) (hnodup : m.β 2 e ≠ 0 → nds.Nodup)
    (h : run (insertVerticesOnEdge m.n e nds ts) m = (.ok (), m'))
    (y : Nat) (hy : OldDart m e (nds.take ts.length) (nds.drop ts.length) y) :
    (∀ x, Reach (C03.g2 m' .vertex) y x ↔ Reach (C03.g2 m .vertex) y x) ∧
    (y ≠ 0 → y < m.n → ∃ vid, run (vertexId2 m.n y) m = (.ok vid, m) ∧ run (vertexId2 m.n y) m' = (.ok vid, m')) := by
  have H := insHyp_insertVertices m m' e nds ts hwf he hlive hfhnd hnodup h
  refine ⟨H.old_vertex hy, fun hy0 hylt => ⟨C03.cellId m .vertex y, (C03.C03_vertexId2_min hwf hy0 hylt).1, ?_⟩⟩
  have := (C03.C03_vertexId2_min H.wf' hy0 (by rw [H.n_eq]; exact hylt)).1
  rw [H.n_eq, H.old_vertex_id hy hy0 hylt] at this
  exact this

/-- the same for `insert_vertex_on_edge` -/
theorem C14_old_vertices_unchanged_single (m m' : Map Val) (e nd1 nd2 : Nat) (t : Option Rat)
    (hwf : WF 3 m) (he : C01.InUse m e)
    (hl1 : m.unused nd1 = false) (hl2 : m.β 2 e ≠ 0 → m.unused nd2 = false ∧ nd1 ≠ nd2)
    (hend : m.β 1 e ≠ 0 ∨ m.β 2 e ≠ 0)
    (h : run (insertVertexOnEdge m.n e nd1 nd2 t) m = (.ok (), m'))
    (y : Nat) (hy : OldDart m e [nd1] [nd2] y) :
    (∀ x, Reach (C03.g2 m' .vertex) y x ↔ Reach (C03.g2 m .vertex) y x) ∧
    (y ≠ 0 → y < m.n → ∃ vid, run (vertexId2 m.n y) m = (.ok vid, m) ∧ run (vertexId2 m.n y) m' = (.ok vid, m')) := by
  have H := insHyp_insertVertex m m' e nd1 nd2 t hwf he hl1 hl2 hend h
  refine ⟨H.old_vertex hy, fun hy0 hylt => ⟨C03.cellId m .vertex y, (C03.C03_vertexId2_min hwf hy0 hylt).1, ?_⟩⟩
  have := (C03.C03_vertexId2_min H.wf' hy0 (by rw [H.n_eq]; exact hylt)).1
  rw [H.n_eq, H.old_vertex_id hy hy0 hylt] at this
  exact this

/-- **C14, the old vertices keep their coordinates**: after a successful `insert_vertices_on_edge`, for every dart
    `y` that existed before, the slot of its vertex identifier (the same identifier as before) holds the same value in
    every storage; in particular the two end points of the edge are where they were -/
theorem C14_old_vertices_keep_coordinates (m m' : Map Val) (e : Nat) (nds : List Nat) (ts : List Rat)
    (hwf : WF 3 m) (he : C01.InUse m e)
    (hlive : ∀ d ∈ nds, m.unused d = false)
    (hfhnd : (nds.take ts.length).Nodup) (hnodup : m.β 2 e ≠ 0 → nds.Nodup)
    (h : run (insertVerticesOnEdge m.n e nds ts) m = (.ok (), m'))
    (y : Nat) (hy : OldDart m e (nds.take ts.length) (nds.drop ts.length) y) (hy0 : y ≠ 0) (hylt : y < m.n) (s : Nat) :
    m'.att s (C03.cellId m' .vertex y) = m.att s (C03.cellId m .vertex y) := by
  have H := insHyp_insertVertices m m' e nds ts hwf he hlive hfhnd hnodup h
  obtain ⟨_, _, _, _, _, _, _, _, _, hframe⟩ :=
    C14_new_vertex_position_full m m' e nds ts hwf he hlive hfhnd hnodup h
  rw [H.old_vertex_id hy hy0 hylt]
  refine hframe s _ (Or.inr ?_)
  intro x hx hrun
  -- the identifier of a new dart is a new dart, the identifier of an old dart is an old dart
  have hxF : x.2 ∈ nds.take ts.length := mem_zip_snd hx
  obtain ⟨xlt, x0⟩ := H.fhlt _ hxF
  have hylt' : y < m'.n := by rw [H.n_eq]; exact hylt
  have rx := (C03.C03_vertexId2_min H.wf' x0 (by rw [H.n_eq]; exact xlt)).1
  rw [H.n_eq] at rx
  rw [rx] at hrun
  simp only [Out.ok.injEq] at hrun
  rw [← H.old_vertex_id hy hy0 hylt] at hrun
  have hreach := (C03.C03_same_id_iff_same_cell H.wf' (pol := .vertex) trivial x0 (by rw [H.n_eq]; exact xlt) hy0
    hylt').1.1 hrun
  obtain ⟨t, ht, hxt⟩ := List.getElem_of_mem hxF
  have hgd : (nds.take ts.length).getD t 0 = x.2 := by
    rw [List.getD_eq_getElem?_getD, List.getElem?_eq_getElem ht, hxt]; rfl
  rw [← hgd] at hreach
  rcases H.new_vertex_darts t ht y hreach with c | c | ⟨he2, c⟩
  · exact hy.1 (by rw [c]; exact getD_mem_of_lt ht)
  · exact hy0 c
  · have hl := (H.two he2).1
    have hj : (nds.take ts.length).length - t = ((nds.take ts.length).length - t - 1) + 1 := by omega
    rw [hj] at c
    simp only [List.getD_cons_succ] at c
    exact hy.2 he2 (by rw [c]; exact getD_mem_of_lt (by omega))

/-- the single write of `insert_vertex_on_edge`: the slot of the vertex identifier of the new dart -/
theorem vid_write_att (k nd : Nat) (v : Val) {m m' : Map Val} {a : Unit}
    (h : run (do let vnew ← vertexId2 k nd; let _ ← writeVtx vnew v; pure ()) m = (.ok a, m')) :
    ∃ vnew, (run (vertexId2 k nd) m').1 = .ok vnew ∧ ∀ s d, (s ≠ 0 ∨ d ≠ vnew) → m'.att s d = m.att s d := by
  obtain ⟨vnew, hv, h1⟩ := run_ro_bind_ok (readOnly_vertexId2 k nd) h
  obtain ⟨_, m1, h2, h3⟩ := run_bind_ok h1
  simp at h3
  subst h3
  unfold writeVtx at h2
  simp only [bind] at h2
  rw [run_rA] at h2
  by_cases hok : m.okA 0 vnew = true
  · simp only [hok, if_true, run_wA, Prog.pure_eq, run_ret, Prod.mk.injEq] at h2
    obtain ⟨_, rfl⟩ := h2
    refine ⟨vnew, ?_, fun s d hsd => ?_⟩
    · rw [(bOnly_vertexId2 k nd).2 m (m.setA 0 vnew (some v)) rfl, hv]
    · rw [Map.att_setA]
      have : ¬ (0 = s ∧ vnew = d ∧ m.okA 0 vnew = true) := by
        rintro ⟨rfl, rfl, _⟩
        rcases hsd with c | c
        · exact c rfl
        · exact c rfl
      simp [this]
  · simp [hok] at h2

theorem insertVertex_att {n : Nat} {m m' : Map Val} {e nd1 nd2 : Nat} {t : Option Rat}
    (h : run (insertVertexOnEdge n e nd1 nd2 t) m = (.ok (), m')) :
    ∃ vnew, (run (vertexId2 n nd1) m').1 = .ok vnew ∧ ∀ s d, (s ≠ 0 ∨ d ≠ vnew) → m'.att s d = m.att s d := by
  obtain ⟨_, _, _, _, vid1, vid2, v1, v2, _, _, _, _, hB1, hB2⟩ := insertVertex_ok_elim h
  by_cases b2 : m.β 2 e = 0
  · have hb := hB1 b2
    unfold insertVertexBody1 at hb
    obtain ⟨_, ma, ha, k1⟩ := run_bind_ok hb
    have ea := (topoOnly_whenP (topoOnly_oneUnlinkCore e)).att ha
    obtain ⟨_, mb, hb', k2⟩ := run_bind_ok k1
    have eb := (topoOnly_oneLinkCore e nd1).att hb'
    obtain ⟨_, mc, hc, k3⟩ := run_bind_ok k2
    have ec := (topoOnly_oneLinkCore nd1 (m.β 1 e)).att hc
    obtain ⟨vnew, hv, hf⟩ := vid_write_att n nd1 _ k3
    exact ⟨vnew, hv, fun s d hsd => by rw [hf s d hsd, ec, eb, ea]⟩
  · have hb := hB2 b2
    unfold insertVertexBody2 at hb
    obtain ⟨_, m1, h1, k1⟩ := run_bind_ok hb
    have e1 := (topoOnly_whenP (topoOnly_oneUnlinkCore e)).att h1
    obtain ⟨_, m2, h2, k2⟩ := run_bind_ok k1
    have e2 := (topoOnly_whenP (topoOnly_oneUnlinkCore (m.β 2 e))).att h2
    obtain ⟨_, m3, h3, k3⟩ := run_bind_ok k2
    have e3 := (topoOnly_iUnlinkCore 2 e).att h3
    obtain ⟨_, m4, h4, k4⟩ := run_bind_ok k3
    have e4 := (topoOnly_oneLinkCore e nd1).att h4
    obtain ⟨_, m5, h5, k5⟩ := run_bind_ok k4
    have e5 := (topoOnly_whenP (topoOnly_oneLinkCore nd1 (m.β 1 e))).att h5
    obtain ⟨_, m6, h6, k6⟩ := run_bind_ok k5
    have e6 := (topoOnly_oneLinkCore (m.β 2 e) nd2).att h6
    obtain ⟨_, m7, h7, k7⟩ := run_bind_ok k6
    have e7 := (topoOnly_whenP (topoOnly_oneLinkCore nd2 (m.β 1 (m.β 2 e)))).att h7
    obtain ⟨_, m8, h8, k8⟩ := run_bind_ok k7
    have e8 := (topoOnly_iLinkCore 2 e nd2).att h8
    obtain ⟨_, m9, h9, k9⟩ := run_bind_ok k8
    have e9 := (topoOnly_iLinkCore 2 (m.β 2 e) nd1).att h9
    obtain ⟨vnew, hv, hf⟩ := vid_write_att n nd1 _ k9
    exact ⟨vnew, hv, fun s d hsd => by rw [hf s d hsd, e9, e8, e7, e6, e5, e4, e3, e2, e1]⟩

/-- the same for `insert_vertex_on_edge` -/
theorem C14_old_vertices_keep_coordinates_single (m m' : Map Val) (e nd1 nd2 : Nat) (t : Option Rat)
    (hwf : WF 3 m) (he : C01.InUse m e)
    (hl1 : m.unused nd1 = false) (hl2 : m.β 2 e ≠ 0 → m.unused nd2 = false ∧ nd1 ≠ nd2)
    (hend : m.β 1 e ≠ 0 ∨ m.β 2 e ≠ 0)
    (h : run (insertVertexOnEdge m.n e nd1 nd2 t) m = (.ok (), m'))
    (y : Nat) (hy : OldDart m e [nd1] [nd2] y) (hy0 : y ≠ 0) (hylt : y < m.n) (s : Nat) :
    m'.att s (C03.cellId m' .vertex y) = m.att s (C03.cellId m .vertex y) := by
  have H := insHyp_insertVertex m m' e nd1 nd2 t hwf he hl1 hl2 hend h
  obtain ⟨vnew, hv, hframe⟩ := insertVertex_att h
  rw [H.old_vertex_id hy hy0 hylt]
  refine hframe s _ (Or.inr ?_)
  intro hEq
  obtain ⟨xlt, x0⟩ := H.fhlt nd1 (by simp)
  have hylt' : y < m'.n := by rw [H.n_eq]; exact hylt
  have rx := (C03.C03_vertexId2_min H.wf' x0 (by rw [H.n_eq]; exact xlt)).1
  rw [H.n_eq] at rx
  rw [rx] at hv
  simp only [Out.ok.injEq] at hv
  rw [← hEq, ← H.old_vertex_id hy hy0 hylt] at hv
  have hreach := (C03.C03_same_id_iff_same_cell H.wf' (pol := .vertex) trivial x0 (by rw [H.n_eq]; exact xlt) hy0
    hylt').1.1 hv
  rcases H.new_vertex_darts 0 (by simp) y hreach with c | c | ⟨he2, c⟩
  · exact hy.1 (by rw [c]; simp)
  · exact hy0 c
  · simp at c
    exact hy.2 he2 (by rw [c]; simp)

/-! ## non-vacuity -/

/-- on `exMap2` (edge 1 ↔ 4, two new vertices): the end points are the vertices of darts 1 and 2; their orbits, ids and
    coordinates are unchanged -/
example : OldDart exMap2 1 [5, 6] [7, 8] 1 ∧ OldDart exMap2 1 [5, 6] [7, 8] 2 := by decide +kernel

example : ∃ vid, run (vertexId2 exMap2.n 2) exMap2 = (.ok vid, exMap2) ∧
    run (vertexId2 exMap2.n 2) exRes2 = (.ok vid, exRes2) :=
  (C14_old_vertices_unchanged exMap2 _ 1 [5, 6, 7, 8] [1/4, 1/2] exMap2_wf exMap2_spares.1 exMap2_spares.2.1
    (by decide) exMap2_spares.2.2 exRes2_run 2 (by decide +kernel)).2
    (by decide) (by decide)

example : exRes2.att 0 (C03.cellId exRes2 .vertex 2) = exMap2.att 0 (C03.cellId exMap2 .vertex 2) :=
  C14_old_vertices_keep_coordinates exMap2 _ 1 [5, 6, 7, 8] [1/4, 1/2] exMap2_wf exMap2_spares.1 exMap2_spares.2.1
    (by decide) exMap2_spares.2.2 exRes2_run 2 (by decide +kernel)
    (by decide) (by decide) 0

example : (C03.cellId exRes2 .vertex 2, exRes2.att 0 2, C03.cellId exRes2 .vertex 1, exRes2.att 0 1)
    = (2, some (.pt 4 0 0), 1, some (.pt 0 0 0)) := by
  rw [exRes2_eq]
  decide +kernel

end HC.C14

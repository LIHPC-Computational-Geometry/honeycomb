/-
  C01, "whether they succeed or fail" INSIDE a user transaction.

  `atomically` discards everything a failing call wrote (C01_failed_call_changes_nothing).  But a
  user transaction may handle the refusal of one of its calls itself — swallow the
  `Err(TransactionError::Abort(e))` instead of propagating it with `?` — and still commit.  What
  the refused call wrote BEFORE aborting then stays in the log and is published (`Prog.attempt`,
  Model/Stm.lean; protocol `txi … endtx`).  The theorems below show that this is harmless for
  well-formedness: whatever the outcome of a transactional editing call of the property (ok,
  refusal, retry, panic), the state it leaves behind is well formed — the cores validate before
  they write anything that matters (a `replace` of an already-null image writes the value that was
  there), and an attribute failure happens after a complete link (`SafeA`, `safeA_prog` of Props/C01.lean).
-/
import Honeycomb.Props.C01


namespace HC.C01
open HC
variable {X : Type}

/-! ## `attempt` -/

/-! ## the property -/

/-- the transactional link / unlink / sew / unsew calls of the property -/
def Transactional : Op2 → Prop
  | .link _ _ _ | .unlink _ _ | .sew _ _ _ | .unsew _ _ => True
  | _ => False

instance (op : Op2) : Decidable (Transactional op) := by
  cases op <;> unfold Transactional <;> exact inferInstance

/-- **C01, a refused call inside a transaction that goes on**: whatever the outcome of a
    transactional link / unlink / sew / unsew made with arguments inside the guard — success,
    refusal (swallowed by the caller: `attempt`), attribute failure — the state it leaves in the
    transaction is well formed -/
theorem C01_any_outcome_preserves_WF (cfg : Cfg X) (m m' : Map X) (op : Op2)
    (hwf : WF 3 m) (hargs : ArgsOK m op) (o : Out Err Unit)
    (h : run (prog cfg m.n op) m = (o, m')) : WF 3 m' :=
  safeA_prog cfg m.n op m m' o hwf hargs h

/-- the same through `attempt`: the caller swallows the refusal and the transaction continues -/
theorem C01_swallowed_abort_preserves_WF (cfg : Cfg X) (m m' : Map X) (op : Op2)
    (hwf : WF 3 m) (hargs : ArgsOK m op) (r : Except Err Unit)
    (h : run (prog cfg m.n op).attempt m = (.ok r, m')) : WF 3 m' := by
  rw [run_attempt] at h
  match hr : run (prog cfg m.n op) m with
  | (.ok a, m1) =>
      rw [hr] at h; simp only [Prod.mk.injEq] at h; rw [← h.2]
      exact C01_any_outcome_preserves_WF cfg m m1 op hwf hargs _ hr
  | (.err e, m1) =>
      rw [hr] at h; simp only [Prod.mk.injEq] at h; rw [← h.2]
      exact C01_any_outcome_preserves_WF cfg m m1 op hwf hargs _ hr
  | (.retry, m1) => rw [hr] at h; simp at h
  | (.panic, m1) => rw [hr] at h; simp at h

/-- non-vacuity: on the two triangles of `exMap` a refused 1-link (dart 1 already has a successor)
    is swallowed and the state is the same well-formed map -/
example : C01.ArgsOK exMap (.link 1 1 5) ∧ Transactional (.link 1 1 5) ∧
    (run (prog (stdCfg 3 7) exMap.n (.link 1 1 5)) exMap).1 = .err (errNonFreeBase 1 1 5) := by decide +kernel
example : WF 3 (run (prog (stdCfg 3 7) exMap.n (.link 1 1 5)).attempt exMap).2 := by decide +kernel

end HC.C01

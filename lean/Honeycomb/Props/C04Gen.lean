/-
  C04 / C05 / C06 — `AttrSparseVec::merge` and `AttrSparseVec::split` of attributes/collections.rs, the
  only code that moves attribute values when cells merge or split, TRANSLATED from the source on every run
  (`Gen/AttrMoves.lean`, written by tools/gen_lean.py: same-cell guard and branch, reads, law dispatch table,
  writes in order), interpreted in the model's transaction monad, are EQUAL as programs to the hand-written
  `mergeS` / `splitS` of Model/Ops.lean, on which every placement theorem (C04, C05) and the positions of the
  fault countdown (C06) rest.  A changed guard, read, dispatch arm, written cell, written value or order of the
  writes in collections.rs changes the generated data and breaks a theorem of this file.
-/
import Honeycomb.Gen.AttrMoves
import Honeycomb.Model.Ops
import Honeycomb.Lemmas.Attr

namespace HC.GenTie
open HC
variable {X : Type}

/-- cell operand: the three identifier parameters, in the order of the Rust signature -/
def cellOf (c0 c1 c2 : Nat) : Nat → Nat
  | 0 => c0
  | 1 => c1
  | _ => c2

/-- the same-cell branch: reads bind `v`, writes store `None` or `v` -/
def interpSame (s c0 c1 c2 : Nat) : Option X → List (Nat × List Nat) → P X Unit
  | _, [] => pure ()
  | _, (0, [c]) :: rest => do
      let v ← rA s (cellOf c0 c1 c2 c)
      interpSame s c0 c1 c2 v rest
  | v, (1, [c, 0]) :: rest => do
      wA s (cellOf c0 c1 c2 c) none
      interpSame s c0 c1 c2 v rest
  | v, (1, [c, 1]) :: rest => do
      wA s (cellOf c0 c1 c2 c) v
      interpSame s c0 c1 c2 v rest
  | _, _ => Prog.panic

/-- the writes after an `Ok` law result `(a, b)` (`merge` has one result: `a`) -/
def interpWrites (s c0 c1 c2 : Nat) (a b : X) : List (Nat × List Nat) → P X Unit
  | [] => pure ()
  | (1, [c, 0]) :: rest => do
      wA s (cellOf c0 c1 c2 c) none
      interpWrites s c0 c1 c2 a b rest
  | (1, [c, 2]) :: rest => do
      wA s (cellOf c0 c1 c2 c) (some a)
      interpWrites s c0 c1 c2 a b rest
  | (1, [c, 3]) :: rest => do
      wA s (cellOf c0 c1 c2 c) (some b)
      interpWrites s c0 c1 c2 a b rest
  | _ => Prog.panic

def pickVal (a b : Option X) : Nat → Option X
  | 0 => a
  | _ => b

/-- law call of a `merge` arm -/
def mergeArmVal (L : Law X) : Nat → List X → Option (Except Err X)
  | 0, [x, y] => some (L.merge x y)
  | 1, [x] => some (L.mergeInc x)
  | 2, [] => some L.mergeNone
  | _, _ => none

/-- law call of a `split` arm -/
def splitArmVal (L : Law X) : Nat → List X → Option (Except Err (X × X))
  | 0, [x] => some (L.split x)
  | 1, [] => some L.splitNone
  | _, _ => none

/-- first arm whose `Some` / `None` pattern matches the values read -/
def dispatchArms {R : Type} (armVal : Nat → List X → Option R) :
    List (Nat × Nat × Nat × List Nat) → Option X → Option X → Option R
  | [], _, _ => none
  | (p0, p1, law, args) :: rest, a, b =>
      if (a.isSome == (p0 == 1)) && (b.isSome == (p1 == 1)) then
        (args.mapM (pickVal a b)).bind (armVal law)
      else dispatchArms armVal rest a b

/-- the dispatch table of `merge`, as translated, is `mergeVal` -/
theorem C04_gen_merge_dispatch (L : Law X) (a b : Option X) :
    dispatchArms (mergeArmVal L) Gen.mergeArms a b = some (mergeVal L a b) := by
  cases a <;> cases b <;> rfl

/-- the dispatch table of `split`, as translated, is `splitVal` (the second position is unused) -/
theorem C04_gen_split_dispatch (L : Law X) (a : Option X) :
    dispatchArms (splitArmVal L) Gen.splitArms a none = some (splitVal L a) := by
  cases a <;> rfl

/-- `AttrSparseVec::merge` as translated -/
def interpMerge (cfg : Cfg X) (s out l r : Nat) : P X Unit :=
  if cellOf out l r Gen.mergeGuard.1 = cellOf out l r Gen.mergeGuard.2 then
    interpSame s out l r none Gen.mergeSame
  else
    match Gen.mergeReads with
    | [c1, c2] => do
        let vl ← rA s (cellOf out l r c1)
        let vr ← rA s (cellOf out l r c2)
        let L := cfg.law s
        match dispatchArms (mergeArmVal L) Gen.mergeArms vl vr with
        | some e => do
            let v ← lawCall L.ticks errFailedMerge e
            interpWrites s out l r v v Gen.mergeWrites
        | none => Prog.panic
    | _ => Prog.panic

/-- `AttrSparseVec::split` as translated -/
def interpSplit (cfg : Cfg X) (s lout rout inp : Nat) : P X Unit :=
  if cellOf lout rout inp Gen.splitGuard.1 = cellOf lout rout inp Gen.splitGuard.2 then
    interpSame s lout rout inp none Gen.splitSame
  else
    match Gen.splitReads with
    | [c1] => do
        let v ← rA s (cellOf lout rout inp c1)
        let L := cfg.law s
        match dispatchArms (splitArmVal L) Gen.splitArms v none with
        | some e => do
            let (a, b) ← lawCall L.ticks errFailedSplit e
            interpWrites s lout rout inp a b Gen.splitWrites
        | none => Prog.panic
    | _ => Prog.panic

/-- **tie of `AttrSparseVec::merge`**: the translated function is the model's `mergeS` -/
theorem C04_gen_mergeS (cfg : Cfg X) (s out l r : Nat) : interpMerge cfg s out l r = mergeS cfg s out l r := by
  unfold interpMerge mergeS
  simp only [C04_gen_merge_dispatch]
  rfl

/-- **tie of `AttrSparseVec::split`**: the translated function is the model's `splitS` -/
theorem C04_gen_splitS (cfg : Cfg X) (s lout rout inp : Nat) :
    interpSplit cfg s lout rout inp = splitS cfg s lout rout inp := by
  unfold interpSplit splitS
  simp only [C04_gen_split_dispatch]
  rfl

/-- **the translated `merge`, run**: without a pending fault, on two different input cells, the translated
    code either stores the merged value under `out` and clears both inputs, or returns the law's error and
    leaves the map alone (the statement `mergeS_run` all placement theorems start from, here about the
    translated code) -/
theorem C04_gen_merge_run (cfg : Cfg X) (s out l r : Nat) (m : Map X) (hfc : m.fc = 0) (hlr : l ≠ r)
    (hl : m.okA s l = true) (hr : m.okA s r = true) (ho : m.okA s out = true) :
    run (interpMerge cfg s out l r) m =
      match mergeVal (cfg.law s) (m.att s l) (m.att s r) with
      | .ok v => (.ok (), m.mergeAt s out l r v)
      | .error e => (.err e, m) := by
  rw [C04_gen_mergeS]; exact mergeS_run cfg s out l r m hfc hlr hl hr ho

/-- **the translated `split`, run** -/
theorem C04_gen_split_run (cfg : Cfg X) (s lo ro inp : Nat) (m : Map X) (hfc : m.fc = 0) (hlr : lo ≠ ro)
    (hi : m.okA s inp = true) (hl : m.okA s lo = true) (hr : m.okA s ro = true) :
    run (interpSplit cfg s lo ro inp) m =
      match splitVal (cfg.law s) (m.att s inp) with
      | .ok (a, b) => (.ok (), m.splitAt s lo ro inp a b)
      | .error e => (.err e, m) := by
  rw [C04_gen_splitS]; exact splitS_run cfg s lo ro inp m hfc hlr hi hl hr

/-- the interpreters reject what they do not understand -/
example (s : Nat) : interpWrites (X := X) s 0 0 0 (a := x) (b := x) [(9, [])] = Prog.panic := rfl

end HC.GenTie

/-
  C13 — triangulation kernels (`honeycomb-kernels/src/triangulation/{mod,fan,ear_clipping}.rs`,
  model `Honeycomb/Model/Kernels/{Geom2,Fan,EarClip}.lean`).

  PROVED (every polygon size, every vertex list over ℚ; no bound)
  (a) `check_requirements`: `C13_check_requirements_ok_iff` (`Ok ↔ n ≥ 4 ∧ n_darts = 2(n-3)`) and the error kinds
      `_small`, `_triangle`, `_not_enough`, `_too_many` with their payloads.
  (b) shoelace: `C13_shoelace_step` (A6, a `ring` identity), `cyc_append_comm` (rotation invariance),
      `cyc_eraseIdx` (removing the vertex of index `j` changes the cyclic sum by the three pairs around it).
  (c) ear test: `C13_ear_test_sound` (an accepted index has the announced orientation and every other vertex —
      compared by value, as the code does — is strictly outside the candidate triangle).
  (d) areas / orientation on the vertex-list computations shared with the kernel programs:
      `C13_earclip_area_sum` (Σ signed areas of the k+1 triangles = area of the (k+3)-gon, by induction on the
      loop), `C13_earclip_ears_oriented` (every cut ear passed the test of the announced orientation),
      `C13_fan_area_sum` (fan from ANY apex: areas add up).
      Tie to the programs: `C13_earclip_kernel_triangles`, `C13_fan_kernel_star` — a successful run of
      `earclip_cell_*` / `fan_cell` read an n-gon (n ≥ 4), had 2(n-3) spare darts, and performed exactly the
      vertex-list computation (`earclipLoop_ok`).
  (e) fan (state of /repo 00af791: the search examines every side, the closing one included, minus the two
      incident to the candidate): `C13_fan_star_sees_every_side` — if the star test accepts apex k then
      cross(v_k, v_i, v_{(i+1) mod n}) has one sign for EVERY side not incident to v_k, strictly (magnitude ≥ ε) for
      all of them except the first examined side (smallest index), which the code only sign-tests: weak sign there;
      `C13_fan_apex_sees_all` — with no side collinear with the apex, all fan triangles have one strict
      orientation: the apex sees the whole polygon; `fanTest_true` states exactly what the search establishes;
      `C13_fan_accepts_convex_ccw` — positively oriented triangles of magnitude ≥ ε from apex 0 ⇒ apex 0 is returned
      (no `NonFannable` on such convex polygons).  The pentagon of finding D7 is fanned from its reflex vertex, a genuine
      star point, not from apex 0 (`example`s); a simple hexagon without star vertex is refused with `NonFannable`.

  NOT PROVED (validated on every case by the oracle of tools/props/c13.py)
  * "ear clipping succeeds on every simple polygon in general position" (two-ears theorem; not in Mathlib);
  * the orientation of the LAST triangle left by ear clipping (the code does not test it).

  ELSEWHERE: WF and exact face structure in C13b.lean / C13c.lean; that the triangles of the result map carry the
  coordinates of `fanTriangles` / `earclipTriangles` and that all other coordinates are unchanged in C13d.lean / C13e.lean;
  the clockwise twin `C13_fan_accepts_convex_cw` of `C13_fan_accepts_convex_ccw` in C13e.lean.
-/
import Honeycomb.Model.Kernels.EarClip
import Honeycomb.Lemmas.KernelWF
import Mathlib.Tactic.Ring
import Mathlib.Tactic.Linarith


namespace HC.C13
open HC
/-! ## (a) `check_requirements` -/

theorem C13_check_requirements_ok_iff (nf na : Nat) :
    checkRequirements nf na = .ok () ↔ 4 ≤ nf ∧ na = 2 * (nf - 3) := by
  unfold checkRequirements
  constructor
  · intro h
    split at h
    · simp at h
    · split at h
      · simp at h
      · simp only at h
        split at h
        · simp at h
        · split at h
          · rename_i h1 h2 h3 h4; omega
          · simp at h
  · intro ⟨h1, h2⟩
    rw [if_neg (by omega), if_neg (by omega)]
    simp only
    rw [if_neg (by omega), if_pos (by omega)]

theorem C13_check_requirements_small (nf na : Nat) (h : nf = 1 ∨ nf = 2) :
    checkRequirements nf na = .error (errUndefinedFace "less-than-3-vertices") := by
  unfold checkRequirements; rw [if_pos h]

theorem C13_check_requirements_triangle (na : Nat) :
    checkRequirements 3 na = .error errAlreadyTriangulated := by
  unfold checkRequirements; simp

theorem C13_check_requirements_not_enough (nf na : Nat) (h : 4 ≤ nf) (h2 : na < 2 * (nf - 3)) :
    checkRequirements nf na = .error (errNotEnoughDarts (2 * (nf - 3) - na)) := by
  unfold checkRequirements
  rw [if_neg (by omega), if_neg (by omega)]
  simp only
  rw [if_pos (by omega)]
  congr 2
  omega

theorem C13_check_requirements_too_many (nf na : Nat) (h : 4 ≤ nf) (h2 : 2 * (nf - 3) < na) :
    checkRequirements nf na = .error (errTooManyDarts (na - 2 * (nf - 3))) := by
  unfold checkRequirements
  rw [if_neg (by omega), if_neg (by omega)]
  simp only
  rw [if_neg (by omega), if_neg (by omega)]
  congr 2
  omega

/-! ## (b) shoelace -/

/-- `x₁y₂ − x₂y₁` -/
def det2 (p q : P2) : Rat := p.x * q.y - q.x * p.y

/-- **A6, the shoelace step**: the cross product tested by the kernels is the signed area (×2) that removing
    `B` from `… A, B, C …` takes away -/
theorem C13_shoelace_step (A B C : P2) : cross A B C = det2 A B + det2 B C - det2 A C := by
  unfold cross det2; ring

/-- sum of `f` over the consecutive pairs of an open path -/
def pathSum (f : P2 → P2 → Rat) : List P2 → Rat
  | [] => 0
  | [_] => 0
  | a :: b :: l => f a b + pathSum f (b :: l)

/-- the closing pair (last, first) -/
def closing (f : P2 → P2 → Rat) (l : List P2) : Rat :=
  match l.getLast?, l.head? with
  | some z, some a => f z a
  | _, _ => 0

/-- sum of `f` over the cyclically consecutive pairs -/
def cyc (f : P2 → P2 → Rat) (l : List P2) : Rat := pathSum f l + closing f l

/-- twice the signed area of the polygon with vertex list `vs` (shoelace formula) -/
def area2 (vs : List P2) : Rat := cyc det2 vs

theorem pathSum_cons_cons (f : P2 → P2 → Rat) (a b : P2) (l : List P2) :
    pathSum f (a :: b :: l) = f a b + pathSum f (b :: l) := rfl

theorem pathSum_append (f : P2 → P2 → Rat) : ∀ (l1 l2 : List P2) (a b : P2),
    pathSum f ((l1 ++ [a]) ++ (b :: l2)) = pathSum f (l1 ++ [a]) + f a b + pathSum f (b :: l2) := by
  intro l1
  induction l1 with
  | nil => intro l2 a b; simp [pathSum]
  | cons x rest ih =>
      intro l2 a b
      cases rest with
      | nil => simp [pathSum]; ring
      | cons y rest' =>
          have := ih l2 a b
          simp only [List.cons_append] at this ⊢
          rw [pathSum_cons_cons, pathSum_cons_cons, this]; ring

theorem getLast?_snoc (l : List P2) (a : P2) : (l ++ [a]).getLast? = some a := by simp
theorem getLast?_cons_snoc (l : List P2) (z1 z2 : P2) : (z1 :: (l ++ [z2])).getLast? = some z2 := by
  have : z1 :: (l ++ [z2]) = (z1 :: l) ++ [z2] := rfl
  rw [this, List.getLast?_append]; simp
theorem head?_cons' (l : List P2) (a : P2) : (a :: l).head? = some a := rfl

theorem exists_snoc {l : List P2} (h : l ≠ []) : ∃ l' z, l = l' ++ [z] :=
  ⟨l.dropLast, l.getLast h, (List.dropLast_concat_getLast h).symm⟩

/-- rotation invariance of cyclic sums -/
theorem cyc_append_comm (f : P2 → P2 → Rat) (l1 l2 : List P2) : cyc f (l1 ++ l2) = cyc f (l2 ++ l1) := by
  by_cases h1 : l1 = []
  · subst h1; simp
  by_cases h2 : l2 = []
  · subst h2; simp
  obtain ⟨p1, z1, rfl⟩ := exists_snoc h1
  obtain ⟨p2, z2, rfl⟩ := exists_snoc h2
  cases hp1 : p1 ++ [z1] with
  | nil => simp at hp1
  | cons a1 t1 =>
    cases hp2 : p2 ++ [z2] with
    | nil => simp at hp2
    | cons a2 t2 =>
      have e1 : cyc f ((p1 ++ [z1]) ++ (a2 :: t2)) =
          pathSum f (p1 ++ [z1]) + f z1 a2 + pathSum f (a2 :: t2) + f z2 a1 := by
        unfold cyc closing
        rw [pathSum_append]
        have : ((p1 ++ [z1]) ++ (a2 :: t2)).getLast? = some z2 := by
          rw [← hp2, ← List.append_assoc]; simp [getLast?_cons_snoc]
        rw [this]
        have : ((p1 ++ [z1]) ++ (a2 :: t2)).head? = some a1 := by rw [hp1]; rfl
        rw [this]
      have e2 : cyc f ((p2 ++ [z2]) ++ (a1 :: t1)) =
          pathSum f (p2 ++ [z2]) + f z2 a1 + pathSum f (a1 :: t1) + f z1 a2 := by
        unfold cyc closing
        rw [pathSum_append]
        have : ((p2 ++ [z2]) ++ (a1 :: t1)).getLast? = some z1 := by
          rw [← hp1, ← List.append_assoc]; simp [getLast?_cons_snoc]
        rw [this]
        have : ((p2 ++ [z2]) ++ (a2 :: t2) = (p2 ++ [z2]) ++ (a2 :: t2)) := rfl
        have : ((p2 ++ [z2]) ++ (a1 :: t1)).head? = some a2 := by rw [hp2]; rfl
        rw [this]
      rw [← hp2] at e1
      rw [← hp1] at e2
      rw [hp1, hp2] at *
      rw [e1, e2]; ring

/-- cyclic sum with an explicit head: `f a b₁ + … + f b_m a` -/
theorem cyc_cons (f : P2 → P2 → Rat) (B : P2) (l : List P2) (hl : l ≠ []) :
    cyc f (B :: l) = f B (l.head hl) + pathSum f l + f (l.getLast hl) B := by
  unfold cyc closing
  cases l with
  | nil => exact absurd rfl hl
  | cons c l' =>
      rw [pathSum_cons_cons]
      have : (B :: c :: l').getLast? = some ((c :: l').getLast hl) := by
        rw [List.getLast?_cons_cons, List.getLast?_eq_some_getLast hl]
      rw [this]
      simp only [List.head?_cons, List.head_cons]

/-- removing one vertex `B` from a cyclic list: only the three pairs around it change.
    `P`, `N` are its cyclic predecessor and successor (last and first of the rest, read from `B` on). -/
theorem cyc_remove (f : P2 → P2 → Rat) (L R : List P2) (B : P2) (h : R ++ L ≠ []) :
    cyc f (L ++ B :: R) = cyc f (L ++ R) + f ((R ++ L).getLast h) B + f B ((R ++ L).head h)
      - f ((R ++ L).getLast h) ((R ++ L).head h) := by
  have e1 : cyc f (L ++ B :: R) = cyc f (B :: (R ++ L)) := by
    rw [cyc_append_comm]; rfl
  rw [e1, cyc_append_comm f L R, cyc_cons f B (R ++ L) h]
  unfold cyc closing
  rw [List.getLast?_eq_some_getLast h, List.head?_eq_some_head h]
  ring

/-- cyclic neighbours of position `j`, in index form -/
theorem cyclic_neighbours (vs : List P2) (j : Nat) (hj : j < vs.length) (hn : 2 ≤ vs.length) :
    (vs.drop (j + 1) ++ vs.take j).head? = some (vs.getD ((j + 1) % vs.length) default) ∧
    (vs.drop (j + 1) ++ vs.take j).getLast? = some (vs.getD ((j + vs.length - 1) % vs.length) default) := by
  constructor
  · rw [List.head?_append, List.head?_drop, List.head?_take, List.getD_eq_getElem?_getD]
    by_cases h1 : j + 1 < vs.length
    · rw [Nat.mod_eq_of_lt h1]
      rw [List.getElem?_eq_getElem h1]; simp
    · have h2 : j + 1 = vs.length := by omega
      rw [h2, Nat.mod_self]
      have : vs[vs.length]? = none := by simp
      rw [this]
      have hj0 : j ≠ 0 := by omega
      simp only [hj0, if_false, Option.none_or]
      rw [List.head?_eq_getElem?, List.getElem?_eq_getElem (by omega)]; simp
  · rw [List.getLast?_append, List.getLast?_take, List.getLast?_drop, List.getD_eq_getElem?_getD]
    by_cases h0 : j = 0
    · subst h0
      simp only [if_true, Nat.zero_add]
      rw [if_neg (by omega)]
      rw [Nat.mod_eq_of_lt (by omega), List.getLast?_eq_getElem?, List.getElem?_eq_getElem (by omega)]
      simp
    · simp only [h0, if_false]
      have : (j + vs.length - 1) % vs.length = j - 1 := by
        have : j + vs.length - 1 = (j - 1) + vs.length := by omega
        rw [this, Nat.add_mod_right, Nat.mod_eq_of_lt (by omega)]
      rw [this, List.getElem?_eq_getElem (by omega : j - 1 < vs.length)]
      simp

/-- removing the vertex at index `j` of a polygon with at least two vertices, in index form -/
theorem cyc_eraseIdx (f : P2 → P2 → Rat) (vs : List P2) (j : Nat) (hj : j < vs.length) (hn : 2 ≤ vs.length) :
    cyc f vs = cyc f (vs.eraseIdx j)
      + f (vs.getD ((j + vs.length - 1) % vs.length) default) (vs.getD j default)
      + f (vs.getD j default) (vs.getD ((j + 1) % vs.length) default)
      - f (vs.getD ((j + vs.length - 1) % vs.length) default) (vs.getD ((j + 1) % vs.length) default) := by
  have hne : vs.drop (j + 1) ++ vs.take j ≠ [] := by
    intro h
    have := congrArg List.length h
    rw [List.length_append, List.length_drop, List.length_take, List.length_nil] at this
    omega
  obtain ⟨h1, h2⟩ := cyclic_neighbours vs j hj hn
  rw [List.head?_eq_some_head hne] at h1
  rw [List.getLast?_eq_some_getLast hne] at h2
  simp only [Option.some.injEq] at h1 h2
  have hdec : vs = vs.take j ++ vs[j] :: vs.drop (j + 1) := by
    rw [List.getElem_cons_drop]; exact (List.take_append_drop j vs).symm
  have hB : vs.getD j default = vs[j] := by
    rw [List.getD_eq_getElem?_getD, List.getElem?_eq_getElem hj]; rfl
  have := cyc_remove f (vs.take j) (vs.drop (j + 1)) vs[j] hne
  rw [← hdec, h1, h2, ← List.eraseIdx_eq_take_drop_succ] at this
  rw [hB]; exact this

/-! ## ear clipping on the vertex list -/

abbrev Tri := P2 × P2 × P2

/-- twice the signed area of a triangle, as the kernels compute it -/
def tri2 (t : Tri) : Rat := cross t.1 t.2.1 t.2.2

/-- the triangles cut by the ear-clipping loop, computed on the vertex list alone: the same ear search
    (`findEar`), the same index arithmetic (`(ear+1) % n`, `(ear+2) % n`) and the same list surgery
    (`vertices.remove((ear + 1) % n)`) as `earclipLoop`; `k` = number of spare dart pairs; after the loop the
    `assert_eq!(n, 3)` leaves the last triangle -/
def earclipTriangles (inside : P2 → P2 → P2 → Bool) : Nat → List P2 → Option (List Tri)
  | 0, vs =>
      match vs with
      | [a, b, c] => some [(a, b, c)]
      | _ => none
  | k + 1, vs =>
      match findEar inside vs with
      | none => none
      | some ear =>
          match earclipTriangles inside k (vs.eraseIdx ((ear + 1) % vs.length)) with
          | none => none
          | some r =>
              some ((vs.getD ear default, vs.getD ((ear + 1) % vs.length) default,
                     vs.getD ((ear + 2) % vs.length) default) :: r)

theorem findEar_spec {inside : P2 → P2 → P2 → Bool} {vs : List P2} {ear : Nat} (h : findEar inside vs = some ear) :
    ear < vs.length ∧ earTest inside vs ear = true := by
  unfold findEar at h
  have h1 := List.find?_some h
  have h2 := List.mem_of_find?_eq_some h
  exact ⟨by simpa using h2, h1⟩

theorem area2_triangle (a b c : P2) : area2 [a, b, c] = cross a b c := by
  unfold area2 cyc closing pathSum pathSum pathSum
  simp only [List.getLast?, List.head?, List.getLast]
  unfold cross det2; ring

/-- **C13 (d), area**: for every successful run of the ear-clipping loop on an `n = k + 3`-gon, the signed areas
    of the `k + 1` triangles add up to the signed area of the polygon -/
theorem C13_earclip_area_sum (inside : P2 → P2 → P2 → Bool) : ∀ (k : Nat) (vs : List P2) (tris : List Tri),
    vs.length = k + 3 → earclipTriangles inside k vs = some tris → (tris.map tri2).sum = area2 vs := by
  intro k
  induction k with
  | zero =>
      intro vs tris hlen h
      unfold earclipTriangles at h
      match vs, hlen with
      | [a, b, c], _ =>
          simp only [Option.some.injEq] at h
          subst h
          simp [tri2, area2_triangle]
  | succ k ih =>
      intro vs tris hlen h
      unfold earclipTriangles at h
      cases hf : findEar inside vs with
      | none => simp [hf] at h
      | some ear =>
          obtain ⟨hear, _⟩ := findEar_spec hf
          simp only [hf] at h
          cases hr : earclipTriangles inside k (vs.eraseIdx ((ear + 1) % vs.length)) with
          | none => simp [hr] at h
          | some r =>
              simp only [hr, Option.some.injEq] at h
              subst h
              have hj : (ear + 1) % vs.length < vs.length := Nat.mod_lt _ (by omega)
              have hlen' : (vs.eraseIdx ((ear + 1) % vs.length)).length = k + 3 := by
                rw [List.length_eraseIdx, if_pos hj]; omega
              have := ih _ r hlen' hr
              simp only [List.map_cons, List.sum_cons, this]
              have hstep := cyc_eraseIdx det2 vs ((ear + 1) % vs.length) hj (by omega)
              have e1 : ((ear + 1) % vs.length + vs.length - 1) % vs.length = ear := by
                by_cases hc : ear + 1 < vs.length
                · rw [Nat.mod_eq_of_lt hc]
                  have : ear + 1 + vs.length - 1 = ear + vs.length := by omega
                  rw [this, Nat.add_mod_right, Nat.mod_eq_of_lt hear]
                · have : ear + 1 = vs.length := by omega
                  rw [this, Nat.mod_self, Nat.zero_add, Nat.mod_eq_of_lt (by omega)]; omega
              have e2 : ((ear + 1) % vs.length + 1) % vs.length = (ear + 2) % vs.length := by
                rw [Nat.add_mod, Nat.mod_mod, ← Nat.add_mod]
              rw [e1, e2] at hstep
              unfold area2
              rw [hstep]
              unfold tri2
              simp only
              rw [C13_shoelace_step]
              ring

/-- **C13 (c)/(d), orientation**: every ear cut by the loop passed the orientation test of the announced
    orientation (all triangles but the last remaining one, which the code does not test) -/
theorem C13_earclip_ears_oriented (inside : P2 → P2 → P2 → Bool) : ∀ (k : Nat) (vs : List P2) (tris : List Tri),
    earclipTriangles inside k vs = some tris → ∀ t ∈ tris.dropLast, inside t.1 t.2.1 t.2.2 = true := by
  intro k
  induction k with
  | zero =>
      intro vs tris h
      unfold earclipTriangles at h
      split at h
      · simp only [Option.some.injEq] at h; subst h; simp
      · simp at h
  | succ k ih =>
      intro vs tris h
      unfold earclipTriangles at h
      cases hf : findEar inside vs with
      | none => simp [hf] at h
      | some ear =>
          obtain ⟨hear, htest⟩ := findEar_spec hf
          simp only [hf] at h
          cases hr : earclipTriangles inside k (vs.eraseIdx ((ear + 1) % vs.length)) with
          | none => simp [hr] at h
          | some r =>
              simp only [hr, Option.some.injEq] at h
              subst h
              intro t ht
              have hrne : r ≠ [] := by
                intro h0; subst h0
                cases k with
                | zero => unfold earclipTriangles at hr; split at hr <;> simp at hr
                | succ k' =>
                    unfold earclipTriangles at hr
                    split at hr
                    · simp at hr
                    · split at hr <;> simp at hr
              rw [List.dropLast_cons_of_ne_nil hrne] at ht
              simp only [List.mem_cons] at ht
              rcases ht with rfl | ht
              · unfold earTest at htest
                simp only [Bool.and_eq_true] at htest
                exact htest.1
              · exact ih _ r hr t ht

/-- **C13 (c), ear test soundness**: an index accepted by the ear test has the announced orientation and every
    vertex of the polygon other than the three corners (compared by value, as the code does) is strictly outside
    the candidate triangle -/
theorem C13_ear_test_sound (inside : P2 → P2 → P2 → Bool) (vs : List P2) (idx : Nat)
    (h : earTest inside vs idx = true) :
    inside (vs.getD idx default) (vs.getD ((idx + 1) % vs.length) default) (vs.getD ((idx + 2) % vs.length) default) = true ∧
    ∀ v ∈ vs, v ≠ vs.getD idx default → v ≠ vs.getD ((idx + 1) % vs.length) default →
      v ≠ vs.getD ((idx + 2) % vs.length) default →
      strictlyOutside (vs.getD idx default) (vs.getD ((idx + 1) % vs.length) default)
        (vs.getD ((idx + 2) % vs.length) default) v = true := by
  unfold earTest at h
  simp only [Bool.and_eq_true, List.all_eq_true, List.mem_filter, ne_eq,
    decide_not, Bool.not_eq_true', decide_eq_false_iff_not, and_imp] at h
  exact ⟨h.1, fun v hv h1 h2 h3 => h.2 v hv h1 h2 h3⟩

/-- strictly outside means: not in the closed triangle — some edge function is positive and some negative -/
theorem strictlyOutside_iff (a b c v : P2) :
    strictlyOutside a b c v = true ↔
      (cross a b v > 0 ∨ cross b c v > 0 ∨ cross c a v > 0) ∧ (cross a b v < 0 ∨ cross b c v < 0 ∨ cross c a v < 0) := by
  unfold strictlyOutside
  simp only [Bool.and_eq_true, Bool.or_eq_true, decide_eq_true_eq, or_assoc]

/-! ## tie between the kernel programs and the vertex-list computations -/

/-- a successful run of the kernel's loop performed exactly the vertex-list computation `earclipTriangles` -/
theorem earclipLoop_ok (cfg : Cfg Val) (nn : Nat) (inside : P2 → P2 → P2 → Bool) :
    ∀ (chunks : List (Nat × Nat)) (darts : List Nat) (vs : List P2) (m m' : Map Val),
      run (earclipLoop cfg nn inside chunks darts vs) m = (.ok (), m') →
      ∃ tris, earclipTriangles inside chunks.length vs = some tris := by
  intro chunks
  induction chunks with
  | nil =>
      intro darts vs m m' h
      unfold earclipLoop at h
      by_cases h3 : vs.length = 3
      · match vs, h3 with
        | [a, b, c], _ => exact ⟨[(a, b, c)], rfl⟩
      · simp [h3] at h
  | cons x rest ih =>
      intro darts vs m m' h
      obtain ⟨nd1, nd2⟩ := x
      unfold earclipLoop at h
      cases hf : findEar inside vs with
      | none => simp [hf] at h
      | some ear =>
          simp only [hf] at h
          obtain ⟨_, _, _, h⟩ := run_bind_ok h
          obtain ⟨_, _, _, h⟩ := run_bind_ok h
          obtain ⟨_, _, _, h⟩ := run_bind_ok h
          obtain ⟨_, _, _, h⟩ := run_bind_ok h
          obtain ⟨_, _, _, h⟩ := run_bind_ok h
          obtain ⟨_, _, _, h⟩ := run_bind_ok h
          obtain ⟨_, _, _, h⟩ := run_bind_ok h
          obtain ⟨_, _, _, h⟩ := run_bind_ok h
          obtain ⟨_, _, _, h⟩ := run_bind_ok h
          obtain ⟨r, hr⟩ := ih _ _ _ _ h
          refine ⟨(vs.getD ear default, vs.getD ((ear + 1) % vs.length) default,
                     vs.getD ((ear + 2) % vs.length) default) :: r, ?_⟩
          simp only [List.length_cons]
          unfold earclipTriangles
          simp only [hf, hr]

theorem chunks2_length : ∀ (l : List Nat), 2 * (chunks2 l).length + l.length % 2 = l.length
  | [] => rfl
  | [_] => rfl
  | a :: b :: rest => by
      have := chunks2_length rest
      simp only [chunks2, List.length_cons]
      omega

/-- the vertex list read by the kernels has one entry per face dart -/
theorem faceVertices_length (n : Nat) : ∀ (ds : List Nat) (m m' : Map Val) (vs : List Val),
    run (faceVertices n ds) m = (.ok vs, m') → vs.length = ds.length ∧ m' = m := by
  intro ds
  induction ds with
  | nil => intro m m' vs h; simp [faceVertices] at h; obtain ⟨rfl, rfl⟩ := h; exact ⟨rfl, rfl⟩
  | cons d rest ih =>
      intro m m' vs h
      unfold faceVertices at h
      obtain ⟨vid, h1, h⟩ := run_ro_bind_ok (readOnly_vertexId2 n d) h
      obtain ⟨v, hv, h⟩ := run_ro_bind_ok (ReadOnly.rA 0 vid) h
      cases v with
      | none => simp at h
      | some v =>
          simp only at h
          obtain ⟨r, m2, h2, h⟩ := run_bind_ok h
          obtain ⟨e1, e2⟩ := ih _ _ _ h2
          simp at h
          obtain ⟨rfl, rfl⟩ := h
          exact ⟨by simp [e1], e2⟩

theorem faceVertices_of_fst {n : Nat} {ds : List Nat} {m : Map Val} {vals : List Val}
    (h : (run (faceVertices n ds) m).1 = .ok vals) : run (faceVertices n ds) m = (.ok vals, m) := by
  have h2 : run (faceVertices n ds) m = (.ok vals, (run (faceVertices n ds) m).2) := Prod.ext h rfl
  rw [(faceVertices_length _ _ _ _ _ h2).2] at h2
  exact h2

theorem run_ok_elim {α : Type} {p : P Val α} {m m' : Map Val} {a : α} (h : run p m = (.ok a, m')) {Q : α → Prop}
    (hq : Q a) : ∀ b, run p m = (.ok b, m') → Q b := by
  intro b hb
  rw [h] at hb
  cases hb
  exact hq

theorem C13_earclip_kernel_loop (cfg : Cfg Val) (n : Nat) (inside : P2 → P2 → P2 → Bool) (face : Nat)
    (nds : List Nat) (m m' : Map Val) (h : run (earclipCell cfg n inside face nds) m = (.ok (), m')) :
    ∃ (darts : List Nat) (vals : List Val),
      run (orbit2 n .faceLinear face) m = (.ok darts, m) ∧ run (faceVertices n darts) m = (.ok vals, m) ∧
      run (earclipLoop cfg n inside (chunks2 nds) darts (vals.map Val.p2)) m = (.ok (), m') ∧
      4 ≤ darts.length ∧ nds.length = 2 * (darts.length - 3) := by
  unfold earclipCell at h
  obtain ⟨darts, h1, h3⟩ := run_ro_bind_ok (readOnly_orbit2 n .faceLinear face) h
  obtain ⟨vals, m2, h2, h4⟩ := run_bind_ok h3
  obtain ⟨_, hm2⟩ := faceVertices_length n _ _ _ _ h2
  subst hm2
  cases hc : checkRequirements darts.length nds.length with
  | error e => simp [hc] at h4
  | ok u =>
      simp only [hc] at h4
      cases u
      exact ⟨darts, vals, h1, h2, h4, (C13_check_requirements_ok_iff _ _).1 hc⟩

/-- **C13, tie for ear clipping**: every successful run of `earclip_cell_*` read an `n`-gon (`n ≥ 4`, one vertex
    per face dart), was given `2(n-3)` spare darts, and its triangles are those of `earclipTriangles`; hence
    (`C13_earclip_area_sum`, `C13_earclip_ears_oriented`) their areas add up to the polygon's and every cut ear
    has the announced orientation -/
theorem C13_earclip_kernel_triangles (cfg : Cfg Val) (n : Nat) (inside : P2 → P2 → P2 → Bool) (face : Nat)
    (nds : List Nat) (m m' : Map Val) (h : run (earclipCell cfg n inside face nds) m = (.ok (), m')) :
    ∃ (darts : List Nat) (vals : List Val) (tris : List Tri),
      run (orbit2 n .faceLinear face) m = (.ok darts, m) ∧
      run (faceVertices n darts) m = (.ok vals, m) ∧
      4 ≤ darts.length ∧ nds.length = 2 * (darts.length - 3) ∧
      earclipTriangles inside (darts.length - 3) (vals.map Val.p2) = some tris ∧
      (tris.map tri2).sum = area2 (vals.map Val.p2) ∧
      (∀ t ∈ tris.dropLast, inside t.1 t.2.1 t.2.2 = true) := by
  obtain ⟨darts, vals, h1, h2, h4, hreq⟩ := C13_earclip_kernel_loop cfg n inside face nds m m' h
  obtain ⟨hvl, _⟩ := faceVertices_length n _ _ _ _ h2
  obtain ⟨tris, ht⟩ := earclipLoop_ok cfg n inside _ _ _ _ _ h4
  have hk : (chunks2 nds).length = darts.length - 3 := by
    have := chunks2_length nds
    omega
  rw [hk] at ht
  refine ⟨darts, vals, tris, h1, h2, hreq.1, hreq.2, ht, ?_, ?_⟩
  · exact C13_earclip_area_sum inside _ _ _ (by simp [hvl]; omega) ht
  · exact C13_earclip_ears_oriented inside _ _ _ ht

/-! ## fan -/

/-- the face's vertex list read from the apex on -/
def rotL (vs : List P2) (id : Nat) : List P2 := vs.drop id ++ vs.take id

/-- the triangles of the fan from the vertex of index `id`: `(apex, w_i, w_{i+1})` over the consecutive vertices
    `w_1 … w_{n-1}` that follow the apex in face order (what `fanFrom` builds by walking β1 from the apex dart) -/
def fanTriangles (vs : List P2) (id : Nat) : List Tri :=
  match rotL vs id with
  | [] => []
  | a :: rest => (rest.zip rest.tail).map (fun bc => (a, bc.1, bc.2))

theorem fan_sum (a : P2) : ∀ (b : P2) (l : List P2),
    ((((b :: l).zip l).map (fun bc => ((a, bc.1, bc.2) : Tri))).map tri2).sum
      = det2 a b + pathSum det2 (b :: l) + det2 ((b :: l).getLast (by simp)) a := by
  intro b l
  induction l generalizing b with
  | nil => simp [pathSum, det2]
  | cons c l' ih =>
      have := ih c
      simp only [List.zip_cons_cons, List.map_cons, List.sum_cons, this, pathSum_cons_cons, tri2,
        C13_shoelace_step, List.getLast_cons_cons]
      ring

/-- **C13 (d), area for the fan**: the signed areas of the fan triangles from ANY apex add up to the signed area
    of the polygon (whether or not the apex sees the polygon) -/
theorem C13_fan_area_sum (vs : List P2) (id : Nat) : ((fanTriangles vs id).map tri2).sum = area2 vs := by
  have hrot : area2 vs = area2 (rotL vs id) := by
    unfold area2 rotL
    rw [← cyc_append_comm, List.take_append_drop]
  rw [hrot]
  unfold fanTriangles
  cases hr : rotL vs id with
  | nil => simp [area2, cyc, pathSum, closing]
  | cons a rest =>
      cases rest with
      | nil => simp [area2, cyc, pathSum, closing, det2]
      | cons b l =>
          simp only [List.tail_cons]
          rw [fan_sum]
          unfold area2
          rw [cyc_cons det2 a (b :: l) (by simp)]
          simp

/-! ### what the star search establishes -/

theorem signumF_cases (c : Rat) (z : Bool) : signumF c z = 1 ∨ signumF c z = -1 := by
  unfold signumF; split
  · exact Or.inl rfl
  · split
    · exact Or.inr rfl
    · split
      · exact Or.inr rfl
      · exact Or.inl rfl

theorem eps_pos : (0 : Rat) < eps := by unfold eps; norm_num

/-- `signum` alone gives the weak sign (a vanishing cross product has `signum = ±1` by the sign of its zero) -/
theorem weak_of_signum (c : Rat) (z : Bool) : (signumF c z = 1 → 0 ≤ c) ∧ (signumF c z = -1 → c ≤ 0) := by
  unfold signumF
  constructor
  · intro h
    by_cases h1 : c > 0
    · exact le_of_lt h1
    · rw [if_neg h1] at h
      by_cases h2 : c < 0
      · rw [if_pos h2] at h; simp at h
      · exact not_lt.1 h2
  · intro h
    by_cases h1 : c > 0
    · rw [if_pos h1] at h; simp at h
    · exact not_lt.1 h1

/-- a cross product with `signum = s` that passed the `abs < epsilon` test has the strict sign `s` -/
theorem strict_of_signum {c : Rat} {z : Bool} (habs : ¬ ratAbs c < eps) :
    (signumF c z = 1 → 0 < c) ∧ (signumF c z = -1 → c < 0) := by
  have hne : c ≠ 0 := by
    intro h0; apply habs; subst h0; unfold ratAbs; simp; exact eps_pos
  obtain ⟨w1, w2⟩ := weak_of_signum c z
  exact ⟨fun h => lt_of_le_of_ne (w1 h) (Ne.symm hne), fun h => lt_of_le_of_ne (w2 h) hne⟩

/-- the cross product the search computes for candidate apex `id` and side `i = (v_i, v_{(i+1) % n})` -/
def sideCross (vs : List P2) (id i : Nat) : Rat :=
  cross (vs.getD id default) (vs.getD i default) (vs.getD ((i + 1) % vs.length) default)

/-- its `signum` (sign bit of the f64 value) -/
def sideSignum (vs : List P2) (id i : Nat) : Int :=
  signumF (sideCross vs id i)
    (crossNegZero (vs.getD id default) (vs.getD i default) (vs.getD ((i + 1) % vs.length) default))

/-- the sides examined for candidate `id`: exactly the sides of the polygon that are not incident to `v_id` -/
theorem mem_fanSegs {n id i : Nat} : i ∈ fanSegs n id ↔ i < n ∧ i ≠ id ∧ (i + 1) % n ≠ id := by
  unfold fanSegs
  rw [List.mem_filter, List.mem_range]
  simp only [Bool.not_eq_true', Bool.or_eq_false_iff, decide_eq_false_iff_not, ne_eq]

/-- the content of an accepted star test: all examined sides but the first have the first one's `signum` and a
    cross product of magnitude `≥ ε`; the first examined side is the one of smallest index -/
theorem fanTest_true {vs : List P2} {id : Nat} (h : fanTest vs id = some true) :
    ∃ i0 rest, fanSegs vs.length id = i0 :: rest ∧ (∀ i ∈ rest, i0 < i) ∧
      ∀ i ∈ rest, sideSignum vs id i = sideSignum vs id i0 ∧ ¬ ratAbs (sideCross vs id i) < eps := by
  unfold fanTest at h
  simp only at h
  cases hs : fanSegs vs.length id with
  | nil => simp [hs] at h
  | cons i0 rest =>
      refine ⟨i0, rest, rfl, ?_, ?_⟩
      · have hp : (fanSegs vs.length id).Pairwise (· < ·) := by
          unfold fanSegs
          exact List.Pairwise.sublist List.filter_sublist List.pairwise_lt_range
        rw [hs, List.pairwise_cons] at hp
        exact hp.1
      · simp only [hs, List.map_cons, Option.some.injEq, List.all_eq_true, List.mem_map, Bool.and_eq_true,
          decide_eq_true_eq, Bool.not_eq_true', decide_eq_false_iff_not, forall_exists_index, and_imp] at h
        intro i hi
        have := h _ i hi rfl
        exact ⟨this.1, this.2⟩

/-- **C13 (e)**: if the star test accepts apex `k`, then `cross(v_k, v_i, v_{(i+1) mod n})` has one sign for EVERY
    side `i` of the polygon not incident to `v_k` (the closing side included; /repo 00af791, finding D7).  Exactly as the code tests it: the sign is STRICT (magnitude `≥ ε`) for every such
    side except the first examined one `i0` (the non-incident side of smallest index), for which the code only takes
    `signum` — its cross product has the common sign weakly (it may vanish). -/
theorem C13_fan_star_sees_every_side {vs : List P2} {k : Nat} (h : fanTest vs k = some true) :
    ∃ i0, (i0 < vs.length ∧ i0 ≠ k ∧ (i0 + 1) % vs.length ≠ k) ∧
      (∀ i, i < vs.length → i ≠ k → (i + 1) % vs.length ≠ k → i0 ≤ i) ∧
      (((∀ i, i < vs.length → i ≠ k → (i + 1) % vs.length ≠ k → i ≠ i0 → eps ≤ sideCross vs k i) ∧
          0 ≤ sideCross vs k i0) ∨
       ((∀ i, i < vs.length → i ≠ k → (i + 1) % vs.length ≠ k → i ≠ i0 → sideCross vs k i ≤ -eps) ∧
          sideCross vs k i0 ≤ 0)) := by
  obtain ⟨i0, rest, hsegs, hlt, hall⟩ := fanTest_true h
  have hmem : ∀ i, i < vs.length → i ≠ k → (i + 1) % vs.length ≠ k → i = i0 ∨ i ∈ rest := by
    intro i h1 h2 h3
    have : i ∈ fanSegs vs.length k := mem_fanSegs.2 ⟨h1, h2, h3⟩
    rw [hsegs] at this
    simpa using this
  have hi0 : i0 ∈ fanSegs vs.length k := by rw [hsegs]; simp
  refine ⟨i0, mem_fanSegs.1 hi0, ?_, ?_⟩
  · intro i h1 h2 h3
    rcases hmem i h1 h2 h3 with rfl | hr
    · exact le_refl _
    · exact le_of_lt (hlt i hr)
  · have habs : ∀ c : Rat, ¬ ratAbs c < eps → (0 < c → eps ≤ c) ∧ (c < 0 → c ≤ -eps) := by
      intro c hc
      unfold ratAbs at hc
      constructor
      · intro hp; rw [if_neg (by linarith)] at hc; exact not_lt.1 hc
      · intro hn; rw [if_pos hn] at hc; linarith [not_lt.1 hc]
    rcases signumF_cases (sideCross vs k i0) (crossNegZero (vs.getD k default) (vs.getD i0 default)
        (vs.getD ((i0 + 1) % vs.length) default)) with hs | hs
    · left
      refine ⟨fun i h1 h2 h3 h4 => ?_, (weak_of_signum _ _).1 hs⟩
      rcases hmem i h1 h2 h3 with rfl | hr
      · exact absurd rfl h4
      · obtain ⟨a, b⟩ := hall i hr
        have : 0 < sideCross vs k i := (strict_of_signum b).1 (by unfold sideSignum at a; rw [a]; exact hs)
        exact (habs _ b).1 this
    · right
      refine ⟨fun i h1 h2 h3 h4 => ?_, (weak_of_signum _ _).2 hs⟩
      rcases hmem i h1 h2 h3 with rfl | hr
      · exact absurd rfl h4
      · obtain ⟨a, b⟩ := hall i hr
        have : sideCross vs k i < 0 := (strict_of_signum b).2 (by unfold sideSignum at a; rw [a]; exact hs)
        exact (habs _ b).2 this

theorem fanStarFrom_some (vs : List P2) : ∀ (ids : List Nat) (k : Nat),
    fanStarFrom vs ids = some (some k) → k ∈ ids ∧ fanTest vs k = some true := by
  intro ids
  induction ids with
  | nil => intro k h; simp [fanStarFrom] at h
  | cons id rest ih =>
      intro k h
      unfold fanStarFrom at h
      cases ht : fanTest vs id with
      | none => simp [ht] at h
      | some b =>
          cases b with
          | true =>
              simp only [ht, Option.some.injEq] at h
              subst h
              exact ⟨by simp, ht⟩
          | false =>
              simp only [ht] at h
              obtain ⟨a, b⟩ := ih k h
              exact ⟨by simp [a], b⟩

/-- **C13 (e), "whenever the fan kernel succeeds the chosen apex sees the whole polygon"**: if the star search
    returns apex `k` and no side is collinear with the apex (general position; this is what makes the first
    examined side, which the code only sign-tests, strict as well), then every triangle
    `(v_k, v_i, v_{(i+1) mod n})` over the sides not incident to `v_k` has the same strict orientation. -/
theorem C13_fan_apex_sees_all (vs : List P2) (k : Nat) (h : fanStar vs = some (some k))
    (hgp : ∀ i, i < vs.length → i ≠ k → (i + 1) % vs.length ≠ k → sideCross vs k i ≠ 0) :
    k < vs.length ∧
    ((∀ i, i < vs.length → i ≠ k → (i + 1) % vs.length ≠ k → 0 < sideCross vs k i) ∨
     (∀ i, i < vs.length → i ≠ k → (i + 1) % vs.length ≠ k → sideCross vs k i < 0)) := by
  obtain ⟨hk, ht⟩ := fanStarFrom_some vs _ k h
  refine ⟨by simpa using hk, ?_⟩
  obtain ⟨i0, hi0, _, hsign⟩ := C13_fan_star_sees_every_side ht
  have hne0 := hgp i0 hi0.1 hi0.2.1 hi0.2.2
  rcases hsign with ⟨a, b⟩ | ⟨a, b⟩
  · left
    intro i h1 h2 h3
    by_cases e : i = i0
    · subst e; exact lt_of_le_of_ne b (Ne.symm hne0)
    · exact lt_of_lt_of_le eps_pos (a i h1 h2 h3 e)
  · right
    intro i h1 h2 h3
    by_cases e : i = i0
    · subst e; exact lt_of_le_of_ne b hne0
    · linarith [a i h1 h2 h3 e, eps_pos]

/-! ### strictly convex polygons are accepted, and the tie for the fan kernel -/

theorem fanStar_zero_of_signs (vs : List P2) (hn : 3 ≤ vs.length) (σ : Int)
    (hsig : ∀ i, i ∈ fanSegs vs.length 0 → sideSignum vs 0 i = σ ∧ ¬ ratAbs (sideCross vs 0 i) < eps) :
    fanStar vs = some (some 0) := by
  have h1mem : 1 ∈ fanSegs vs.length 0 :=
    mem_fanSegs.2 ⟨by omega, by omega, by rw [Nat.mod_eq_of_lt (by omega)]; omega⟩
  have htest : fanTest vs 0 = some true := by
    unfold fanTest
    simp only
    cases hs : fanSegs vs.length 0 with
    | nil => rw [hs] at h1mem; simp at h1mem
    | cons i0 rest =>
        simp only [List.map_cons, Option.some.injEq, List.all_eq_true, List.mem_map, Bool.and_eq_true,
          decide_eq_true_eq, Bool.not_eq_true', decide_eq_false_iff_not, forall_exists_index, and_imp]
        intro cz i hi hcz
        subst hcz
        obtain ⟨s1, s2⟩ := hsig i (by rw [hs]; simp [hi])
        obtain ⟨t1, _⟩ := hsig i0 (by rw [hs]; simp)
        unfold sideSignum sideCross at s1 t1
        unfold sideCross at s2
        exact ⟨by rw [s1, t1], s2⟩
  unfold fanStar
  have : List.range vs.length = 0 :: List.range' 1 (vs.length - 1) := by
    rw [List.range_eq_range']
    have : vs.length = (vs.length - 1) + 1 := by omega
    rw [this, List.range'_succ]; simp
  rw [this]
  unfold fanStarFrom
  rw [htest]

/-- **C13, fan on convex polygons**: if every triangle `(v0, v_i, v_{i+1})`, `1 ≤ i ≤ n-2`, is positively oriented
    with cross product `≥ ε` (in particular on a strictly convex counter-clockwise polygon with coordinates on a
    lattice coarser than `√ε`), the star search returns apex 0: the kernel does not answer `NonFannable` -/
theorem C13_fan_accepts_convex_ccw (vs : List P2) (hn : 3 ≤ vs.length)
    (hpos : ∀ i, i < vs.length → i ≠ 0 → (i + 1) % vs.length ≠ 0 → eps ≤ sideCross vs 0 i) :
    fanStar vs = some (some 0) := by
  refine fanStar_zero_of_signs vs hn 1 fun i hi => ?_
  obtain ⟨h1, h2, h3⟩ := mem_fanSegs.1 hi
  have := hpos i h1 h2 h3
  have hp : 0 < sideCross vs 0 i := lt_of_lt_of_le eps_pos this
  constructor
  · unfold sideSignum signumF; rw [if_pos hp]
  · unfold ratAbs; rw [if_neg (by linarith)]; linarith

/-- **C13, tie for the fan kernel**: a successful `fan_cell` read an `n ≥ 4`-gon with `2(n-3)` spare darts and
    its star search accepted the index `id` from whose dart the fan is built; the fan triangles' signed areas add
    up to the polygon's (`C13_fan_area_sum`) -/
theorem C13_fan_kernel_star (cfg : Cfg Val) (n : Nat) (face : Nat) (nds : List Nat) (m m' : Map Val)
    (h : run (fanCell cfg n face nds) m = (.ok (), m')) :
    ∃ (darts : List Nat) (vals : List Val) (id : Nat),
      run (orbit2 n .faceLinear face) m = (.ok darts, m) ∧
      run (faceVertices n darts) m = (.ok vals, m) ∧
      4 ≤ darts.length ∧ nds.length = 2 * (darts.length - 3) ∧
      fanStar (vals.map Val.p2) = some (some id) ∧
      run (fanFrom cfg n (darts.getD id 0) nds) m = (.ok (), m') ∧
      ((fanTriangles (vals.map Val.p2) id).map tri2).sum = area2 (vals.map Val.p2) := by
  unfold fanCell at h
  obtain ⟨darts, h1, h3⟩ := run_ro_bind_ok (readOnly_orbit2 n .faceLinear face) h
  obtain ⟨vals, m2, h2, h4⟩ := run_bind_ok h3
  obtain ⟨hvl, hm2⟩ := faceVertices_length n _ _ _ _ h2
  subst hm2
  clear h h3
  cases hc : checkRequirements darts.length nds.length with
  | error e => simp [hc] at h4
  | ok u =>
      simp only [hc] at h4
      cases u
      have hreq := (C13_check_requirements_ok_iff _ _).1 hc
      cases hs : fanStar (vals.map Val.p2) with
      | none => simp [hs] at h4
      | some o =>
          cases o with
          | none => simp [hs] at h4
          | some id =>
              simp only [hs] at h4
              exact ⟨darts, vals, id, h1, h2, hreq.1, hreq.2, hs, h4, C13_fan_area_sum _ _⟩

theorem C13_fanConvex_kernel (cfg : Cfg Val) (n : Nat) (face : Nat) (nds : List Nat) (m m' : Map Val)
    (h : run (fanConvexCell cfg n face nds) m = (.ok (), m')) :
    ∃ darts : List Nat, run (orbit2 n .faceLinear face) m = (.ok darts, m) ∧
      run (fanFrom cfg n face nds) m = (.ok (), m') ∧ 4 ≤ darts.length ∧ nds.length = 2 * (darts.length - 3) := by
  unfold fanConvexCell at h
  obtain ⟨darts, h1, h3⟩ := run_ro_bind_ok (readOnly_orbit2 n .faceLinear face) h
  cases hc : checkRequirements darts.length nds.length with
  | error e => simp [hc] at h3
  | ok v =>
      simp only [hc] at h3
      cases v
      exact ⟨darts, h1, h3, (C13_check_requirements_ok_iff _ _).1 hc⟩

/-! ## non-vacuity -/

/-- a CCW pentagon with a reflex vertex at index 1 (the witness of finding D7) -/
def d7Pentagon : List P2 := [⟨0, 0⟩, ⟨2, 1⟩, ⟨4, 0⟩, ⟨4, 4⟩, ⟨0, 4⟩]

/-- the pentagon as an isolated face (darts 1–5) with four spare darts -/
def d7Map : Map Val :=
  { (Map.empty 3 6 10 : Map Val) with
    b := #[#[0, 5, 1, 2, 3, 4, 0, 0, 0, 0], #[0, 2, 3, 4, 5, 1, 0, 0, 0, 0], #[0, 0, 0, 0, 0, 0, 0, 0, 0, 0]]
    a := #[#[none, some (.pt 0 0 0), some (.pt 2 1 0), some (.pt 4 0 0), some (.pt 4 4 0), some (.pt 0 4 0),
             none, none, none, none],
           Array.replicate 11 none, Array.replicate 11 none, Array.replicate 11 none,
           Array.replicate 11 none, Array.replicate 11 none] }

theorem d7_wf : WF 3 d7Map := by decide +kernel

/-- what `earclip_cell_countercw`, `fan_cell` and `fan_convex_cell` with the spare darts 6–9 leave of `d7Map`: only the
    β tables change -/
def d7Earclipped : Map Val :=
  { d7Map with b := #[#[0, 8, 6, 2, 9, 4, 3, 1, 7, 5], #[0, 7, 3, 6, 5, 9, 2, 8, 1, 4], #[0, 0, 0, 0, 0, 0, 7, 6, 9, 8]] }

def d7Fanned : Map Val :=
  { d7Map with b := #[#[0, 5, 6, 2, 7, 9, 3, 8, 4, 1], #[0, 9, 3, 6, 8, 1, 2, 4, 7, 5], #[0, 0, 0, 0, 0, 0, 7, 6, 9, 8]] }

def d7FannedConvex : Map Val :=
  { d7Map with b := #[#[0, 6, 1, 7, 9, 4, 2, 8, 3, 5], #[0, 2, 6, 8, 5, 9, 1, 3, 7, 4], #[0, 0, 0, 0, 0, 0, 7, 6, 9, 8]] }

theorem d7_earclip_run :
    run (earclipCell (stdCfg 3 0) d7Map.n insideCCW 1 [6, 7, 8, 9]) d7Map = (.ok (), d7Earclipped) := by
  apply eq_of_runIs
  decide +kernel

theorem d7_fan_run : run (fanCell (stdCfg 3 0) d7Map.n 1 [6, 7, 8, 9]) d7Map = (.ok (), d7Fanned) := by
  apply eq_of_runIs
  decide +kernel

theorem d7_fanConvex_run :
    run (fanConvexCell (stdCfg 3 0) d7Map.n 1 [6, 7, 8, 9]) d7Map = (.ok (), d7FannedConvex) := by
  apply eq_of_runIs
  decide +kernel

/-- apex 0 fails on side (v1, v2); the search finds apex 1 — the reflex vertex (2,1), a genuine star point — and
    the fan from it is a correct triangulation (cross products 8 + 12 + 8 = 28 = 2 × 14, all positive) -/
example : fanTest d7Pentagon 0 = some false := by decide +kernel
example : fanStar d7Pentagon = some (some 1) := by decide +kernel
example : (run (fanCell (stdCfg 3 0) 10 1 [6, 7, 8, 9]) d7Map).1 = .ok () := congrArg Prod.fst d7_fan_run
example : ((fanTriangles d7Pentagon 1).map tri2) = [8, 12, 8] := by decide +kernel
/-- the fan from apex 0 contains a clockwise triangle -/
example : ((fanTriangles d7Pentagon 0).map tri2) = [-4, 16, 16] := by decide +kernel
/-- ear clipping triangulates it as well (cross products 8 + 4 + 16 = 28) -/
example : (run (earclipCellCCW (stdCfg 3 0) 10 1 [6, 7, 8, 9]) d7Map).1 = .ok () :=
  congrArg Prod.fst d7_earclip_run
example : (earclipTriangles insideCCW 2 d7Pentagon).map (fun l => l.map tri2) = some [8, 4, 16] := by decide +kernel
example : area2 d7Pentagon = 28 := by decide +kernel

/-- a simple counter-clockwise hexagon without any star vertex is refused: `NonFannable` -/
def noStarHexagon : List P2 := [⟨-4, 2⟩, ⟨-5, -2⟩, ⟨5, -5⟩, ⟨-2, -2⟩, ⟨-4, 1⟩, ⟨0, 0⟩]

def noStarMap : Map Val :=
  { (Map.empty 3 6 13 : Map Val) with
    b := #[#[0, 6, 1, 2, 3, 4, 5, 0, 0, 0, 0, 0, 0], #[0, 2, 3, 4, 5, 6, 1, 0, 0, 0, 0, 0, 0],
           #[0, 0, 0, 0, 0, 0, 0, 0, 0, 0, 0, 0, 0]]
    a := #[#[none, some (.pt (-4) 2 0), some (.pt (-5) (-2) 0), some (.pt 5 (-5) 0), some (.pt (-2) (-2) 0),
             some (.pt (-4) 1 0), some (.pt 0 0 0), none, none, none, none, none, none],
           Array.replicate 14 none, Array.replicate 14 none, Array.replicate 14 none,
           Array.replicate 14 none, Array.replicate 14 none] }

example : 0 < area2 noStarHexagon := by decide +kernel
example : fanStar noStarHexagon = some none := by decide +kernel
example : (run (fanCell (stdCfg 3 0) 13 1 [7, 8, 9, 10, 11, 12]) noStarMap).1 = .err errNonFannable := by
  decide +kernel

/-- hypotheses of the star theorems are satisfiable: a convex pentagon, and a star-shaped hexagon whose only star
    vertex is at index 3 -/
def convexPentagon : List P2 := [⟨0, 0⟩, ⟨4, 0⟩, ⟨6, 3⟩, ⟨3, 6⟩, ⟨0, 4⟩]

example : fanStar convexPentagon = some (some 0) :=
  C13_fan_accepts_convex_ccw convexPentagon (by decide) (by decide +kernel)

example : 0 < convexPentagon.length ∧
    ((∀ i, i < convexPentagon.length → i ≠ 0 → (i + 1) % convexPentagon.length ≠ 0 → 0 < sideCross convexPentagon 0 i) ∨
     (∀ i, i < convexPentagon.length → i ≠ 0 → (i + 1) % convexPentagon.length ≠ 0 → sideCross convexPentagon 0 i < 0)) :=
  C13_fan_apex_sees_all convexPentagon 0 (by decide +kernel) (by decide +kernel)

def starAt3 : List P2 := [⟨4, 0⟩, ⟨2, 1⟩, ⟨4, 4⟩, ⟨0, 0⟩, ⟨4, -4⟩, ⟨2, -1⟩]

example : fanStar starAt3 = some (some 3) := by decide +kernel
example : fanTest starAt3 3 = some true := by decide +kernel

example : checkRequirements 5 4 = .ok () := (C13_check_requirements_ok_iff 5 4).2 (by omega)
example : checkRequirements 5 3 = .error (errNotEnoughDarts 1) := C13_check_requirements_not_enough 5 3 (by omega) (by omega)
example : checkRequirements 5 7 = .error (errTooManyDarts 3) := C13_check_requirements_too_many 5 7 (by omega) (by omega)

end HC.C13

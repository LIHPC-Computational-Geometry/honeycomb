/-
  C16 — grisubal (`honeycomb-kernels/src/grisubal`): entry point of the property.  This file holds the two checks that need
  nothing but the geometry; the pipeline is in the sibling files below.

  HERE
  * `C16_orientation_rejection_iff`   `detect_orientation_issue` returns the error **iff** some vertex starts
                                      two segments or some vertex ends two segments — for every geometry
                                      given as a list of index pairs (no bound, no assumption on the indices)
  * `C16_orientation_accepts_iff_nodup` the same rule as "origins pairwise distinct and end points pairwise
                                      distinct"
  * `C16_closed_loop_accepted`,       a closed loop through pairwise distinct vertices passes the check, and so do
    `C16_disjoint_boundaries_accepted` several accepted boundaries on disjoint vertex sets
  * `C16_repeated_origin_rejected`,   two segments with the same origin (a loop of ≥ 3 vertices with one reversed
    `C16_repeated_endpoint_rejected`  segment) or the same end point are rejected, wherever they stand in the list
  * `C16_grid_margins`, `C16_grid_tight`  sizing formulas of `compute_overlapping_grid` over an exact field, one axis: every
                                      geometry coordinate lies inside the grid with at least one full cell of
                                      margin on both sides (origin shift `< 1/2` cell), and the grid ends less than
                                      two cells above the maximum

  THE SIBLING FILES (model: Model/Grisubal.lean, GrisubalInsert.lean, Clip.lean)
  * `C16Grid`         pre-processing: the origin-shift loop of `compute_overlapping_grid` terminates; after it no vertex lies
                      on a grid corner (grisubal) / grid line (capture)
  * `C16Cross`        step 1 for one segment (`generate_intersection_data`): sound, complete, sorted, counted, over ONE axis
                      (`Lemmas/GrisubalCross.lean`: floors, ranges, the stable sort, the four macros); `C16Gen`: the translated
                      routine IS `crossingsOf`
  * `C16Insert`       steps 2–3 as functions: slots, hits, blocks of new darts, `intersection_darts`; what one
                      `insert_vertices_on_edge` on a block does (`insert_block`, `C16_insert_edge_spec`)
  * `C16Edges`        step 4 (`generate_edge_data`): the walk from an intersection to the next, one edge per key
  * `C16Clip`         the clip (`mark_faces`, `delete_darts`, `clip_left` / `clip_right`): the marked set is a closure, the
                      result does not depend on the `HashSet` order, `C16_clip_WF`
  * `C16EdgeInsert`   step 5 (`insert_edges_in_map`): `build_base_edge`, `mark_boundary`, the phases of one iteration and
                      what they do (`BaseEff`, `InsEff`, `MidEff`), the loop invariant `EInv`, the shape of an inserted edge
  * `C16Step5Total`   when `build_base_edge` succeeds (an iff); step 5 succeeds for edges without point of interest
  * `C16Chain`        the chain: every crossing and every retained point of interest is a vertex of the map the pipeline
                      returns (`Carries`, the all-edges induction of step 3, vertex stability through step 5)
  * `C16InsertTotal`  `insert_vertices_on_edge` answers `Ok` (forwards); step 5 succeeds for independent edges with points
  * `C16Steps23Total` steps 2–3 succeed
  * `C16ChainGrid`    the chain on the grid of the model's builder: `SideCoords`, `HitDartsOK` are theorems there
  * `C16Step5Pipe`    success of the whole modelled pipeline from a decidable condition on the map after step 3
  Import order: C17 → C17Surf → C16Clip → C16EdgeInsert → {C16Step5Total, C16Chain} → C16InsertTotal → C16Steps23Total →
  C16ChainGrid → C16Step5Pipe (C16, C16Grid, C16Edges, C16Cross → C16Insert stand before; C17 comes first because the clip
  follows its face orbits with the frame lemmas of the classification).

  NOT PROVED (validated by the exact oracle of tools/props/c16.py on the real implementation, see SPEC["not_proved"]): the
  end-to-end geometric clauses of the property (the result fully embedded, no negatively oriented face, the faces tile
  the grid rectangle, exactly one side kept, kept area = region area, every new edge inside one cell), f64 rounding,
  totality of `delete_darts`.
-/
import Mathlib.Algebra.Order.Field.Rat
import Mathlib.Tactic.Linarith
import Mathlib.Tactic.Ring
import Honeycomb.Model.Grisubal

namespace HC.C16
open HC

/-- vertex `v` starts two segments: two distinct positions of the list have origin `v` -/
def StartsTwo (segs : List (Nat × Nat)) (v : Nat) : Prop :=
  ∃ i j, i < j ∧ j < segs.length ∧ (segs.getD i (0, 0)).1 = v ∧ (segs.getD j (0, 0)).1 = v

/-- vertex `v` ends two segments -/
def EndsTwo (segs : List (Nat × Nat)) (v : Nat) : Prop :=
  ∃ i j, i < j ∧ j < segs.length ∧ (segs.getD i (0, 0)).2 = v ∧ (segs.getD j (0, 0)).2 = v

/-- the loop invariant: with `origins` / `endpoints` already seen, the remaining scan fails iff a
    remaining segment repeats a seen origin / end point or the remaining segments repeat one among
    themselves -/
theorem detect_from_iff (segs : List (Nat × Nat)) : ∀ (os es : List Nat),
    detectOrientationIssueFrom segs os es = true ↔
      ((∃ s, s ∈ segs ∧ s.1 ∈ os) ∨ (∃ s, s ∈ segs ∧ s.2 ∈ es) ∨
        ¬ (segs.map Prod.fst).Nodup ∨ ¬ (segs.map Prod.snd).Nodup) := by
  induction segs with
  | nil => intro os es; simp [detectOrientationIssueFrom]
  | cons hd rest ih =>
      intro os es
      obtain ⟨o, e⟩ := hd
      unfold detectOrientationIssueFrom
      by_cases h1 : os.contains o = true
      · rw [if_pos h1]
        exact ⟨fun _ => Or.inl ⟨(o, e), List.mem_cons_self, List.contains_iff_mem.1 h1⟩, fun _ => rfl⟩
      · by_cases h2 : es.contains e = true
        · rw [if_neg h1, if_pos h2]
          exact ⟨fun _ => Or.inr (Or.inl ⟨(o, e), List.mem_cons_self, List.contains_iff_mem.1 h2⟩), fun _ => rfl⟩
        · have h1' : o ∉ os := fun h => h1 (List.contains_iff_mem.2 h)
          have h2' : e ∉ es := fun h => h2 (List.contains_iff_mem.2 h)
          rw [if_neg h1, if_neg h2]
          rw [ih (o :: os) (e :: es)]
          simp only [List.map_cons, List.nodup_cons, List.mem_cons, List.mem_map]
          constructor
          · rintro (⟨s, hs, hs1⟩ | ⟨s, hs, hs2⟩ | h | h)
            · rcases hs1 with hs1 | hs1
              · exact Or.inr (Or.inr (Or.inl (fun hh => hh.1 ⟨s, hs, hs1⟩)))
              · exact Or.inl ⟨s, Or.inr hs, hs1⟩
            · rcases hs2 with hs2 | hs2
              · exact Or.inr (Or.inr (Or.inr (fun hh => hh.1 ⟨s, hs, hs2⟩)))
              · exact Or.inr (Or.inl ⟨s, Or.inr hs, hs2⟩)
            · exact Or.inr (Or.inr (Or.inl (fun hh => h hh.2)))
            · exact Or.inr (Or.inr (Or.inr (fun hh => h hh.2)))
          · rintro (⟨s, hs, hs1⟩ | ⟨s, hs, hs2⟩ | h | h)
            · rcases hs with hs | hs
              · subst hs; exact absurd hs1 h1'
              · exact Or.inl ⟨s, hs, Or.inr hs1⟩
            · rcases hs with hs | hs
              · subst hs; exact absurd hs2 h2'
              · exact Or.inr (Or.inl ⟨s, hs, Or.inr hs2⟩)
            · by_cases hm : ∃ a, a ∈ rest ∧ a.1 = o
              · obtain ⟨a, ha, ha1⟩ := hm
                exact Or.inl ⟨a, ha, Or.inl ha1⟩
              · exact Or.inr (Or.inr (Or.inl (fun hn => h ⟨hm, hn⟩)))
            · by_cases hm : ∃ a, a ∈ rest ∧ a.2 = e
              · obtain ⟨a, ha, ha2⟩ := hm
                exact Or.inr (Or.inl ⟨a, ha, Or.inl ha2⟩)
              · exact Or.inr (Or.inr (Or.inr (fun hn => h ⟨hm, hn⟩)))

theorem not_nodup_iff (l : List Nat) :
    ¬ l.Nodup ↔ ∃ i j, i < j ∧ j < l.length ∧ l.getD i 0 = l.getD j 0 := by
  induction l with
  | nil => simp
  | cons a t ih =>
      rw [List.nodup_cons]
      constructor
      · intro h
        by_cases ha : a ∈ t
        · obtain ⟨k, hk, hk2⟩ := List.getElem_of_mem ha
          refine ⟨0, k + 1, by omega, by simp; omega, ?_⟩
          simp [List.getD, hk, hk2]
        · have : ¬ t.Nodup := fun hn => h ⟨ha, hn⟩
          obtain ⟨i, j, hij, hj, e⟩ := ih.1 this
          refine ⟨i + 1, j + 1, by omega, by simp; omega, ?_⟩
          simpa [List.getD] using e
      · rintro ⟨i, j, hij, hj, e⟩ ⟨ha, hn⟩
        cases i with
        | zero =>
            cases j with
            | zero => omega
            | succ j =>
                simp only [List.length_cons] at hj
                have hj' : j < t.length := by omega
                apply ha
                have : a = t[j] := by simpa [List.getD, hj'] using e
                rw [this]; exact List.getElem_mem hj'
        | succ i =>
            cases j with
            | zero => omega
            | succ j =>
                simp only [List.length_cons] at hj
                exact ih.2 ⟨i, j, by omega, by omega, by simpa [List.getD] using e⟩ hn

theorem getD_map_fst (segs : List (Nat × Nat)) (i : Nat) :
    (segs.map Prod.fst).getD i 0 = (segs.getD i (0, 0)).1 := by
  simp only [List.getD, List.getElem?_map]
  cases segs[i]? <;> rfl

theorem getD_map_snd (segs : List (Nat × Nat)) (i : Nat) :
    (segs.map Prod.snd).getD i 0 = (segs.getD i (0, 0)).2 := by
  simp only [List.getD, List.getElem?_map]
  cases segs[i]? <;> rfl

theorem C16_orientation_rejects_iff_dup (segs : List (Nat × Nat)) :
    detectOrientationIssue segs = true ↔ ¬ (segs.map Prod.fst).Nodup ∨ ¬ (segs.map Prod.snd).Nodup := by
  unfold detectOrientationIssue
  rw [detect_from_iff]
  simp only [List.not_mem_nil, and_false, exists_false, false_or]

/-- **C16, rejection rule (exact)**: for every geometry given as a list of index pairs,
    `detect_orientation_issue` returns `Err(InconsistentOrientation)` iff some vertex starts two
    segments or some vertex ends two segments -/
theorem C16_orientation_rejection_iff (segs : List (Nat × Nat)) :
    detectOrientationIssue segs = true ↔ ∃ v, StartsTwo segs v ∨ EndsTwo segs v := by
  rw [C16_orientation_rejects_iff_dup, not_nodup_iff, not_nodup_iff]
  simp only [List.length_map, getD_map_fst, getD_map_snd]
  constructor
  · rintro (⟨i, j, hij, hj, e⟩ | ⟨i, j, hij, hj, e⟩)
    · exact ⟨_, Or.inl ⟨i, j, hij, hj, e, rfl⟩⟩
    · exact ⟨_, Or.inr ⟨i, j, hij, hj, e, rfl⟩⟩
  · rintro ⟨v, ⟨i, j, hij, hj, e1, e2⟩ | ⟨i, j, hij, hj, e1, e2⟩⟩
    · exact Or.inl ⟨i, j, hij, hj, e1.trans e2.symm⟩
    · exact Or.inr ⟨i, j, hij, hj, e1.trans e2.symm⟩

/-- the same rule: the check passes iff the origins are pairwise distinct and the end points are
    pairwise distinct -/
theorem C16_orientation_accepts_iff_nodup (segs : List (Nat × Nat)) :
    detectOrientationIssue segs = false ↔
      (segs.map Prod.fst).Nodup ∧ (segs.map Prod.snd).Nodup := by
  rw [← Bool.not_eq_true, C16_orientation_rejects_iff_dup, not_or, not_not, not_not]

/-- the segments of a closed loop `v₀ → v₁ → … → v_{k-1} → v₀` -/
def loopSegs (vs : List Nat) : List (Nat × Nat) := vs.zip (vs.drop 1 ++ vs.take 1)

/-- **C16**: a closed loop through pairwise distinct vertices passes the check … -/
theorem C16_closed_loop_accepted (vs : List Nat) (hn : vs.Nodup) :
    detectOrientationIssue (loopSegs vs) = false := by
  rw [C16_orientation_accepts_iff_nodup]
  unfold loopSegs
  have hl : (vs.drop 1 ++ vs.take 1).length = vs.length := by
    simp only [List.length_append, List.length_drop, List.length_take]; omega
  have hsplit : vs.take 1 ++ vs.drop 1 = vs := List.take_append_drop 1 vs
  have hn' : (vs.take 1 ++ vs.drop 1).Nodup := by rw [hsplit]; exact hn
  rw [List.nodup_append] at hn'
  constructor
  · rw [List.map_fst_zip (by omega)]; exact hn
  · rw [List.map_snd_zip (by omega)]
    exact List.nodup_append.2 ⟨hn'.2.1, hn'.1, fun a ha b hb e => hn'.2.2 b hb a ha e.symm⟩

/-- … and so do several loops on pairwise disjoint vertex sets (induction step: appending an
    accepted boundary whose origins / end points are new) -/
theorem C16_disjoint_boundaries_accepted (s t : List (Nat × Nat))
    (hs : detectOrientationIssue s = false) (ht : detectOrientationIssue t = false)
    (h1 : ∀ a, a ∈ s.map Prod.fst → a ∉ t.map Prod.fst)
    (h2 : ∀ a, a ∈ s.map Prod.snd → a ∉ t.map Prod.snd) :
    detectOrientationIssue (s ++ t) = false := by
  rw [C16_orientation_accepts_iff_nodup] at *
  simp only [List.map_append]
  exact ⟨List.nodup_append.2 ⟨hs.1, ht.1, fun a ha b hb e => h1 a ha (e ▸ hb)⟩,
         List.nodup_append.2 ⟨hs.2, ht.2, fun a ha b hb e => h2 a ha (e ▸ hb)⟩⟩

theorem not_nodup_twice (l1 l2 l3 : List Nat) (v : Nat) : ¬ (l1 ++ v :: l2 ++ v :: l3).Nodup := fun h =>
  (List.nodup_append.1 h).2.2 v (List.mem_append_right _ List.mem_cons_self) v List.mem_cons_self rfl

/-- **C16**: a boundary containing two segments with the same origin (e.g. a loop of ≥ 3 vertices
    with one reversed segment: the reversed segment and its successor start at the same vertex) is
    rejected, wherever the two segments stand in the list -/
theorem C16_repeated_origin_rejected (pre mid post : List (Nat × Nat)) (v a b : Nat) :
    detectOrientationIssue (pre ++ (v, a) :: mid ++ (v, b) :: post) = true := by
  rw [C16_orientation_rejects_iff_dup]
  simp only [List.map_append, List.map_cons]
  exact Or.inl (not_nodup_twice _ _ _ v)

theorem C16_repeated_endpoint_rejected (pre mid post : List (Nat × Nat)) (v a b : Nat) :
    detectOrientationIssue (pre ++ (a, v) :: mid ++ (b, v) :: post) = true := by
  rw [C16_orientation_rejects_iff_dup]
  simp only [List.map_append, List.map_cons]
  exact Or.inr (not_nodup_twice _ _ _ v)

/-! ## sizing of the overlapping grid (one axis, exact arithmetic) -/

theorem toNat_cast_ge (z : Int) : (z : Rat) ≤ ((z.toNat : Nat) : Rat) := by
  have h : z ≤ (z.toNat : Int) := Int.self_le_toNat z
  have h2 : (z : Rat) ≤ ((z.toNat : Int) : Rat) := Int.cast_le.2 h
  rwa [Int.cast_natCast] at h2

/-- **C16, grid sizing**: with cell length `c > 0` and a cumulated origin shift `s < 1/2` cell (0 in
    general position), every coordinate `v` of the geometry (`min ≤ v ≤ max`) lies inside the grid with
    more than one full cell of margin below and at least one full cell above -/
theorem C16_grid_margins {mn mx c s v : Rat} (hc : 0 < c) (hs : s < 1 / 2) (h1 : mn ≤ v) (h2 : v ≤ mx) :
    gridOrigin mn c s + c < v ∧ v + c ≤ gridOrigin mn c s + (gridCells mn mx c s : Rat) * c := by
  have hcs : c * s < c * (1 / 2) := mul_lt_mul_of_pos_left hs hc
  constructor
  · unfold gridOrigin
    linarith
  · unfold gridCells
    have hq : (mx - gridOrigin mn c s) / c ≤ (((mx - gridOrigin mn c s) / c).ceil : Rat) := Rat.le_ceil
    have hq2 := toNat_cast_ge ((mx - gridOrigin mn c s) / c).ceil
    have hq3 : (mx - gridOrigin mn c s) / c * c = mx - gridOrigin mn c s := div_mul_cancel₀ _ (ne_of_gt hc)
    have := mul_le_mul_of_nonneg_right (le_trans hq hq2) (le_of_lt hc)
    push_cast
    linarith

/-- … and the grid is not larger than needed: fewer than two cells above the maximum -/
theorem C16_grid_tight {mn mx c s : Rat} (hc : 0 < c) (hs : s < 1 / 2) (h : mn ≤ mx) :
    gridOrigin mn c s + (gridCells mn mx c s : Rat) * c < mx + 2 * c := by
  unfold gridCells
  have hcs : c * s < c * (1 / 2) := mul_lt_mul_of_pos_left hs hc
  have hq3 : (mx - gridOrigin mn c s) / c * c = mx - gridOrigin mn c s := div_mul_cancel₀ _ (ne_of_gt hc)
  have hpos : 0 ≤ (mx - gridOrigin mn c s) / c := by
    apply div_nonneg _ (le_of_lt hc)
    unfold gridOrigin; linarith
  have hc0 : (0 : Int) ≤ ((mx - gridOrigin mn c s) / c).ceil :=
    Int.cast_le.1 (le_trans (by simpa using hpos) Rat.le_ceil)
  have hlt : (((mx - gridOrigin mn c s) / c).ceil : Rat) < (mx - gridOrigin mn c s) / c + 1 := Rat.ceil_lt
  have htn : ((((mx - gridOrigin mn c s) / c).ceil.toNat : Nat) : Rat) = (((mx - gridOrigin mn c s) / c).ceil : Rat) := by
    rw [← Int.cast_natCast, Int.toNat_of_nonneg hc0]
  have := mul_lt_mul_of_pos_right hlt hc
  push_cast
  rw [htn]
  linarith

/-! ## non-vacuity -/

example : gridOrigin 0 1 0 = -3 / 2 ∧ gridCells 0 2 1 0 = 5 := by decide +kernel
example : gridOrigin (-1 / 2) (3 / 4) 0 = -13 / 8 ∧ gridCells (-1 / 2) (5 / 2) (3 / 4) 0 = 7 := by decide +kernel

-- a square loop is accepted; reversing its second segment makes vertex 2 start two segments
example : detectOrientationIssue [(0, 1), (1, 2), (2, 3), (3, 0)] = false := by decide
example : detectOrientationIssue [(0, 1), (2, 1), (2, 3), (3, 0)] = true := by decide
example : StartsTwo [(0, 1), (2, 1), (2, 3), (3, 0)] 2 := ⟨1, 2, by decide, by decide, rfl, rfl⟩
example : EndsTwo [(0, 1), (2, 1), (2, 3), (3, 0)] 1 := ⟨0, 1, by decide, by decide, rfl, rfl⟩
example : loopSegs [4, 7, 9] = [(4, 7), (7, 9), (9, 4)] := by decide
-- an outer loop and a hole on other vertices
example : detectOrientationIssue (loopSegs [0, 1, 2, 3] ++ loopSegs [6, 5, 4]) = false := by decide

end HC.C16

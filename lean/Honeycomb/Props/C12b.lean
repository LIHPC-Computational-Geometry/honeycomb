/-
  C12, second part — for ALL sizes (`nx, ny, nz ≥ 1`; over `Rat`):

    C12_hex3_vertices / C12_hex3_corners / C12_hex3_slots
        3-D hex grid: `vertex_id` ↔ lattice points (bijection with the (nx+1)(ny+1)(nz+1) points),
        every vertex carries exactly origin + (i·lx, j·ly, k·lz); the corner of each local dart is the one
        the GENERATED arms of `generate_hex_offset` give; no other slot holds a value
    C12_hex3_volumes    `volume_id` of a dart is the first dart of its cell (volumes ↔ cells)
    C12_grid2_counts / C12_split2_counts / C12_hex3_counts
        what the iterators yield: (nx+1)(ny+1) vertices, nx(ny+1)+ny(nx+1) (+nx·ny) edges and nx·ny (2·nx·ny)
        faces in 2-D,
        (nx+1)(ny+1)(nz+1) vertices and nx·ny·nz volumes in 3-D
    C12_build2_split_ok / C12_build3_ok / C12_build2_split_total_wf / C12_build3_total
        `build()` on valid descriptors returns Ok with exactly these maps (the mirrored debug
        assertions on the face / volume count hold), zero counts included: never a panic
    C12_ceil_count_rounding / C12_ceil_count_exact
        the third descriptor form under ANY monotone rounding of the quotient that fixes the two integers
        ⌈L/l⌉ and ⌈L/l⌉ − 1 (binary64 round-to-nearest for counts up to 2^53: Props/C12c.lean): the computed count is ⌈L/l⌉ or ⌈L/l⌉ − 1, and it is
        ⌈L/l⌉ exactly when the rounded quotient stays above ⌈L/l⌉ − 1 (in particular whenever the
        quotient is representable)
-/
import Honeycomb.Props.C12
import Honeycomb.Lemmas.Grid3Vertex
import Honeycomb.Lemmas.Grid3Count
import Honeycomb.Lemmas.GridSplit

namespace HC.C12
open HC HC.Gen

/-! ## 3-D hex grid: vertices -/

open Grid3Vertex in
/-- Vertices ↔ lattice points in the map of `build_3d_grid`: two darts have the same `vertex_id` iff
    they start at the same lattice point; the lattice points of darts are exactly the
    `(nx+1)·(ny+1)·(nz+1)` points `(i, j, k)`, `i ≤ nx`, `j ≤ ny`, `k ≤ nz`; and the vertex of a dart
    carries exactly `origin + (i·lx, j·ly, k·lz)`. -/
theorem C12_hex3_vertices (ox oy oz lx ly lz : Rat) {nx ny nz : Nat} (hnx : 0 < nx) (hny : 0 < ny)
    (hnz : 0 < nz) :
    let m := buildHex3 ox oy oz nx ny nz lx ly lz
    (∀ d e, IsD3 nx ny nz d → IsD3 nx ny nz e → (vid3 m d = vid3 m e ↔ pt3 nx ny d = pt3 nx ny e)) ∧
    (∀ d, IsD3 nx ny nz d →
      (pt3 nx ny d).1 ≤ nx ∧ (pt3 nx ny d).2.1 ≤ ny ∧ (pt3 nx ny d).2.2 ≤ nz ∧
      m.att 0 (vid3 m d) = some (.pt (ox + ((pt3 nx ny d).1 : Rat) * lx)
        (oy + ((pt3 nx ny d).2.1 : Rat) * ly) (oz + ((pt3 nx ny d).2.2 : Rat) * lz))) ∧
    (∀ i j k, i ≤ nx → j ≤ ny → k ≤ nz → ∃ d, IsD3 nx ny nz d ∧ pt3 nx ny d = (i, j, k)) ∧
    (∀ d, 1 ≤ d → d ≤ 24 * nx * ny * nz → IsD3 nx ny nz d) := by
  intro m
  have st : SameTopo (H3 nx ny nz) m := sameTopo_hex3 ox oy oz nx ny nz lx ly lz
  refine ⟨?_, ?_, ?_, ?_⟩
  · intro d e hd he
    constructor
    · intro h
      rw [← (vid3_pt hnx hny st hd).1, ← (vid3_pt hnx hny st he).1]
      exact congrArg (pt3 nx ny) h
    · intro h
      exact vid3_same hnx hny st st hd he h
  · intro d hd
    obtain ⟨h1, h2, h3⟩ := Grid3Count.pt3_le hd
    exact ⟨h1, h2, h3, hex3_att ox oy oz lx ly lz hnx hny hd⟩
  · intro i j k hi hj hk
    exact Grid3Count.pt3_surj hnx hny hnz hi hj hk
  · intro d h1 h2
    exact isD3_of_range hnx hny h1 h2

open Grid3Vertex in
/-- Corners of cell `(ix, iy, iz)`: the vertex at the origin of local dart `o` (0-based) carries
    `origin + ((ix+ax)·lx, (iy+ay)·ly, (iz+az)·lz)` where `(ax, ay, az) = kap o` is the corner the
    GENERATED arms of `generate_hex_offset` assign to `p = o + 1 (mod 24)` — also for local dart 24,
    whose own arm decodes a wrong cell but is never evaluated. -/
theorem C12_hex3_corners (ox oy oz lx ly lz : Rat) {nx ny nz ix iy iz o : Nat} (hnx : 0 < nx)
    (hny : 0 < ny) (hx : ix < nx) (hy : iy < ny) (hz : iz < nz) (ho : o < 24) :
    let m := buildHex3 ox oy oz nx ny nz lx ly lz
    m.att 0 (vid3 m (dartOf 24 nx ny ix iy iz o)) =
      some (.pt (ox + ((ix + (kap o).1 : Nat) : Rat) * lx) (oy + ((iy + (kap o).2.1 : Nat) : Rat) * ly)
        (oz + ((iz + (kap o).2.2 : Nat) : Rat) * lz)) := by
  intro m
  have hd : IsD3 nx ny nz (D3 nx ny ix iy iz o) := ⟨ix, iy, iz, o, hx, hy, hz, ho, rfl⟩
  have := hex3_att ox oy oz lx ly lz hnx hny hd
  rw [pt3_D hx hy ho] at this
  exact this

open Grid3Vertex in
/-- Exactly the vertex identifiers hold a value after `build_3d_grid` (no stale copy under any
    other dart, none under the null dart) -/
theorem C12_hex3_slots (ox oy oz lx ly lz : Rat) {nx ny nz : Nat} (hnx : 0 < nx) (hny : 0 < ny) (s : Nat) :
    let m := buildHex3 ox oy oz nx ny nz lx ly lz
    (m.att 0 s ≠ none ↔ (1 ≤ s ∧ s ≤ 24 * nx * ny * nz) ∧ vid3 m s = s) := by
  intro m
  have st : SameTopo (H3 nx ny nz) m := sameTopo_hex3 ox oy oz nx ny nz lx ly lz
  show (buildHex3 ox oy oz nx ny nz lx ly lz).att 0 s ≠ none ↔ _
  rw [hex3_att_slot ox oy oz lx ly lz hnx hny s]
  by_cases hr : 1 ≤ s ∧ s ≤ 24 * nx * ny * nz
  · have hd : IsD3 nx ny nz s := isD3_of_range hnx hny hr.1 hr.2
    have e : vid3 m s = vid3 (H3 nx ny nz) s := vid3_same hnx hny st (SameTopo.refl _) hd hd rfl
    rw [e]
    by_cases hv : vid3 (H3 nx ny nz) s = s <;> simp [hr, hv]
  · simp [hr]

example : ∃ v, (buildHex3 0 0 0 2 1 1 1 1 1).att 0 (vid3 (buildHex3 0 0 0 2 1 1 1 1 1) (dartOf 24 2 1 1 0 0 23)) = some v :=
  ⟨_, C12_hex3_corners 0 0 0 1 1 1 (nx := 2) (ny := 1) (nz := 1) (ix := 1) (iy := 0) (iz := 0) (o := 23)
    (by decide) (by decide) (by decide) (by decide) (by decide) (by decide)⟩

/-! ## 3-D hex grid: volumes -/

open Grid3Vertex in
/-- `volume_id` of any of the 24 darts of cell `(ix, iy, iz)` is the cell's first dart: two darts
    have the same volume iff they belong to the same cell (volumes ↔ the `nx·ny·nz` cells). -/
theorem C12_hex3_volumes (ox oy oz lx ly lz : Rat) {nx ny nz ix iy iz o : Nat} (hnx : 0 < nx)
    (hny : 0 < ny) (hx : ix < nx) (hy : iy < ny) (hz : iz < nz) (ho : o < 24) :
    let m := buildHex3 ox oy oz nx ny nz lx ly lz
    okVal (run (volumeId3 m.n (dartOf 24 nx ny ix iy iz o)) m) 0 = dartOf 24 nx ny ix iy iz 0 ∧
    (∀ ix' iy' iz' o', ix' < nx → iy' < ny → iz' < nz → o' < 24 →
      (okVal (run (volumeId3 m.n (dartOf 24 nx ny ix' iy' iz' o')) m) 0 =
        okVal (run (volumeId3 m.n (dartOf 24 nx ny ix iy iz o)) m) 0 ↔ ix' = ix ∧ iy' = iy ∧ iz' = iz)) := by
  intro m
  have st : SameTopo (H3 nx ny nz) m := sameTopo_hex3 ox oy oz nx ny nz lx ly lz
  have h := Grid3Count.volid_spec hnx hny st hx hy hz ho
  refine ⟨h, ?_⟩
  intro ix' iy' iz' o' hx' hy' hz' ho'
  have h' := Grid3Count.volid_spec hnx hny st hx' hy' hz' ho'
  show okVal (run (volumeId3 m.n (D3 nx ny ix' iy' iz' o')) m) 0 =
    okVal (run (volumeId3 m.n (D3 nx ny ix iy iz o)) m) 0 ↔ _
  rw [h, h']
  constructor
  · intro e
    obtain ⟨a, b, c, _⟩ := dartOf_inj hx' hy' (by decide : 0 < 24) hx hy (by decide : 0 < 24) e
    exact ⟨a, b, c⟩
  · rintro ⟨rfl, rfl, rfl⟩; rfl

/-! ## counts -/

/-- plain 2-D grid, what the iterators yield: `(nx+1)(ny+1)` vertices, `nx·(ny+1) + ny·(nx+1)`
    edges (horizontal + vertical sides), `nx·ny` faces — Euler: V − E + F = 1 -/
theorem C12_grid2_counts (ox oy lx ly : Rat) {nx ny : Nat} (hnx : 0 < nx) (hny : 0 < ny) :
    let m := buildGrid2 ox oy nx ny lx ly
    (iterVertices2 m).length = (nx + 1) * (ny + 1) ∧
    (iterEdges2 m).length = nx * (ny + 1) + ny * (nx + 1) ∧
    (iterFaces2 m).length = nx * ny := by
  intro m
  refine ⟨GridVertex.iterVertices_length hnx hny (sameTopo_grid2 ox oy nx ny lx ly), ?_,
    GridFace.iterFaces_length hnx hny (sameTopo_grid2 ox oy nx ny lx ly)⟩
  rw [GridEdge.iterEdges_length hnx hny (sameTopo_grid2 ox oy nx ny lx ly)]
  ring

/-- split 2-D grid: `(nx+1)(ny+1)` vertices, `nx·(ny+1) + ny·(nx+1) + nx·ny` edges (sides +
    diagonals), `2·nx·ny` faces -/
theorem C12_split2_counts (ox oy lx ly : Rat) {nx ny : Nat} (hnx : 0 < nx) (hny : 0 < ny) :
    let m := buildSplit2 ox oy nx ny lx ly
    (iterVertices2 m).length = (nx + 1) * (ny + 1) ∧
    (iterEdges2 m).length = nx * (ny + 1) + ny * (nx + 1) + nx * ny ∧
    (iterFaces2 m).length = 2 * nx * ny := by
  intro m
  refine ⟨GridVertexSplit.iterVertices_length hnx hny (sameTopo_split2 ox oy nx ny lx ly), ?_,
    GridFaceSplit.iterFaces_length hnx hny (sameTopo_split2 ox oy nx ny lx ly)⟩
  rw [GridEdgeSplit.iterEdges_length hnx hny (sameTopo_split2 ox oy nx ny lx ly)]
  ring

/-- 3-D hex grid: `(nx+1)(ny+1)(nz+1)` vertices, `nx·ny·nz` volumes -/
theorem C12_hex3_counts (ox oy oz lx ly lz : Rat) {nx ny nz : Nat} (hnx : 0 < nx) (hny : 0 < ny)
    (hnz : 0 < nz) :
    let m := buildHex3 ox oy oz nx ny nz lx ly lz
    (iterVertices3 m).length = (nx + 1) * (ny + 1) * (nz + 1) ∧ (iterVolumes3 m).length = nx * ny * nz :=
  ⟨Grid3Count.iterVertices_length hnx hny hnz (sameTopo_hex3 ox oy oz nx ny nz lx ly lz),
   Grid3Count.iterVolumes_length hnx hny (sameTopo_hex3 ox oy oz nx ny nz lx ly lz)⟩

example : (iterVertices2 (buildGrid2 0 0 3 2 1 1)).length = 12 :=
  (C12_grid2_counts 0 0 1 1 (nx := 3) (ny := 2) (by decide) (by decide)).1
example : (iterFaces2 (buildSplit2 0 0 3 2 1 1)).length = 12 :=
  (C12_split2_counts 0 0 1 1 (nx := 3) (ny := 2) (by decide) (by decide)).2.2
example : (iterEdges2 (buildGrid2 0 0 3 2 1 1)).length = 17 :=
  (C12_grid2_counts 0 0 1 1 (nx := 3) (ny := 2) (by decide) (by decide)).2.1
example : (iterVolumes3 (buildHex3 0 0 0 2 3 1 1 1 1)).length = 6 :=
  (C12_hex3_counts 0 0 0 1 1 1 (nx := 2) (ny := 3) (nz := 1) (by decide) (by decide) (by decide)).2

/-! ## `build()` returns these maps -/

/-- split grid, valid descriptor: `Ok` with `buildSplit2` (the face-count assertion holds) -/
theorem C12_build2_split_ok (o : Rat × Rat) {nx ny : Nat} {lpx lpy : Rat} (hnx : 0 < nx) (hny : 0 < ny)
    (hx : 0 < lpx) (hy : 0 < lpy) (lens : Option (Rat × Rat)) :
    build2 true o (some (nx, ny)) (some (lpx, lpy)) lens = .ok (buildSplit2 o.1 o.2 nx ny lpx lpy) := by
  have a1 := badLen_pos hx
  have a2 := badLen_pos hy
  have hf := GridFaceSplit.iterFaces_length hnx hny (sameTopo_split2 o.1 o.2 nx ny lpx lpy)
  have h0 : ¬ (nx = 0 ∨ ny = 0) := by omega
  unfold build2
  rcases lens with _ | ⟨lx, ly⟩ <;> simp [parse2, a1, a2, h0, hf]

/-- split grid, every `nx, ny`: never a panic, never an error; a well-formed map with `2·nx·ny` faces -/
theorem C12_build2_split_total_wf (o : Rat × Rat) (nx ny : Nat) {lpx lpy : Rat} (hx : 0 < lpx) (hy : 0 < lpy)
    (lens : Option (Rat × Rat)) :
    ∃ m, build2 true o (some (nx, ny)) (some (lpx, lpy)) lens = .ok m ∧ WF 3 m ∧
      (iterFaces2 m).length = 2 * nx * ny ∧
      m = (if nx = 0 ∨ ny = 0 then emptyMap2 else buildSplit2 o.1 o.2 nx ny lpx lpy) := by
  by_cases h0 : nx = 0 ∨ ny = 0
  · refine ⟨emptyMap2, (C12_build2_zero_count_forms true o h0 hx hy lens).1, emptyMap2_facts.2.1, ?_, by simp [h0]⟩
    rw [emptyMap2_facts.2.2.1]
    rcases h0 with h | h <;> subst h <;> simp
  · have hnx : 0 < nx := by omega
    have hny : 0 < ny := by omega
    exact ⟨_, C12_build2_split_ok o hnx hny hx hy lens, C12_split2_WF o.1 o.2 lpx lpy hnx hny,
      GridFaceSplit.iterFaces_length hnx hny (sameTopo_split2 o.1 o.2 nx ny lpx lpy), by simp [h0]⟩

/-- hex grid, valid descriptor: `Ok` with `buildHex3` (the volume-count assertion holds) -/
theorem C12_build3_ok (o : Rat × Rat × Rat) {nx ny nz : Nat} {lx ly lz : Rat} (hnx : 0 < nx) (hny : 0 < ny)
    (hx : 0 < lx) (hy : 0 < ly) (hz : 0 < lz) (lens : Option (Rat × Rat × Rat)) :
    build3 false o (some (nx, ny, nz)) (some (lx, ly, lz)) lens =
      .ok (buildHex3 o.1 o.2.1 o.2.2 nx ny nz lx ly lz) := by
  have a1 := badLen_pos hx
  have a2 := badLen_pos hy
  have a3 := badLen_pos hz
  have hf := Grid3Count.iterVolumes_length (nz := nz) hnx hny
    (sameTopo_hex3 o.1 o.2.1 o.2.2 nx ny nz lx ly lz)
  unfold build3
  rcases lens with _ | ⟨tx, ty, tz⟩ <;> simp [parse3, a1, a2, a3, hf]

/-- hex grid, every `nx, ny, nz` (zero included) with positive lengths: `Ok`, never a panic; the map has
    `24·nx·ny·nz` darts and is well-formed when the counts are positive -/
theorem C12_build3_total (o : Rat × Rat × Rat) (nx ny nz : Nat) {lx ly lz : Rat} (hx : 0 < lx)
    (hy : 0 < ly) (hz : 0 < lz) (lens : Option (Rat × Rat × Rat)) :
    ∃ m, build3 false o (some (nx, ny, nz)) (some (lx, ly, lz)) lens = .ok m ∧
      m.n = 24 * nx * ny * nz + 1 ∧ (0 < nx → 0 < ny → 0 < nz → WF 4 m) := by
  by_cases h0 : nx = 0 ∨ ny = 0 ∨ nz = 0
  · obtain ⟨m, h1, h2⟩ := C12_build3_zero_count_empty o h0 hx hy hz lens
    refine ⟨m, h1, ?_, ?_⟩
    · rw [h2]; rcases h0 with h | h | h <;> subst h <;> simp
    · intro a b c; omega
  · have hnx : 0 < nx := by omega
    have hny : 0 < ny := by omega
    refine ⟨_, C12_build3_ok o hnx hny hx hy hz lens, hex3_n _ _ _ _ _ _ _ _ _, ?_⟩
    intro _ _ _
    exact C12_hex3_WF o.1 o.2.1 o.2.2 lx ly lz hnx hny

example : build3 false (0, 0, 0) (some (2, 1, 3)) (some (2, 2, 2)) none = .ok (buildHex3 0 0 0 2 1 3 2 2 2) :=
  C12_build3_ok (0, 0, 0) (by decide) (by decide) two_pos two_pos two_pos none
example : build2 true (0, 0) (some (2, 1)) (some (2, 2)) none = .ok (buildSplit2 0 0 2 1 2 2) :=
  C12_build2_split_ok (0, 0) (by decide) (by decide) two_pos two_pos none

/-! ## the third descriptor form under rounding -/

theorem ceil_eq_iff (x : Rat) (n : Int) : x.ceil = n ↔ ((n - 1 : Int) : Rat) < x ∧ x ≤ (n : Rat) := by
  have a := Rat.lt_ceil_iff (x := x) (y := n - 1)
  have b := Rat.ceil_le_iff (x := x) (y := n)
  constructor
  · intro h
    exact ⟨a.mp (by omega), b.mp (by omega)⟩
  · rintro ⟨h1, h2⟩
    have := a.mpr h1
    have := b.mpr h2
    omega

/-- core of the rounding argument: a value `r` between `⌈q⌉ − 1` and `⌈q⌉` has ceiling `⌈q⌉` or
    `⌈q⌉ − 1`, the first iff `r > ⌈q⌉ − 1`, the second iff `r = ⌈q⌉ − 1` -/
theorem C12_ceil_count_of_bounds (r q : Rat) (lo : ((q.ceil - 1 : Int) : Rat) ≤ r)
    (hi : r ≤ (q.ceil : Rat)) :
    (r.ceil = q.ceil ∨ r.ceil = q.ceil - 1) ∧
    (r.ceil = q.ceil ↔ ((q.ceil - 1 : Int) : Rat) < r) ∧
    (r.ceil = q.ceil - 1 ↔ r = ((q.ceil - 1 : Int) : Rat)) := by
  have iff1 : r.ceil = q.ceil ↔ ((q.ceil - 1 : Int) : Rat) < r := by
    rw [ceil_eq_iff]
    exact ⟨fun h => h.1, fun h => ⟨h, hi⟩⟩
  have iff2 : r.ceil = q.ceil - 1 ↔ r = ((q.ceil - 1 : Int) : Rat) := by
    rw [ceil_eq_iff]
    constructor
    · intro h
      exact Rat.le_antisymm h.2 lo
    · intro h
      rw [h]
      exact ⟨Rat.intCast_lt_intCast.mpr (by omega), Rat.le_refl⟩
  refine ⟨?_, iff1, iff2⟩
  by_cases h : ((q.ceil - 1 : Int) : Rat) < r
  · exact Or.inl (iff1.mpr h)
  · exact Or.inr (iff2.mpr (Rat.le_antisymm (Rat.not_lt.mp h) lo))

/-- The count of the form `len_per_cell + lens` is `ceil(rnd(L / l))` where `rnd` is the rounding of
    the division in the coordinate type (`Rat`: the identity; `f64`: IEEE round-to-nearest).  For
    **any** monotone `rnd` that fixes the two integers `⌈q⌉` and `⌈q⌉ − 1` (all the proof uses; an IEEE
    rounding fixes the integers up to `2^p` only, see `Props/C12c.lean` for the binary64 instance) the
    computed count is `⌈q⌉` or `⌈q⌉ − 1`, and it is `⌈q⌉` **iff** the rounded quotient stays strictly
    above `⌈q⌉ − 1`; i.e. the only possible error is one cell too few, when `L/l` exceeds an integer
    by so little that the quotient rounds down onto it. -/
theorem C12_ceil_count_rounding (rnd : Rat → Rat) (mono : ∀ a b : Rat, a ≤ b → rnd a ≤ rnd b) (q : Rat)
    (fixHi : rnd (q.ceil : Rat) = (q.ceil : Rat))
    (fixLo : rnd ((q.ceil - 1 : Int) : Rat) = ((q.ceil - 1 : Int) : Rat)) :
    ((rnd q).ceil = q.ceil ∨ (rnd q).ceil = q.ceil - 1) ∧
    ((rnd q).ceil = q.ceil ↔ ((q.ceil - 1 : Int) : Rat) < rnd q) ∧
    ((rnd q).ceil = q.ceil - 1 ↔ rnd q = ((q.ceil - 1 : Int) : Rat)) := by
  obtain ⟨h1, h2⟩ := (ceil_eq_iff q q.ceil).mp rfl
  have lo : ((q.ceil - 1 : Int) : Rat) ≤ rnd q := by
    have := mono _ _ (Rat.le_of_lt h1)
    rwa [fixLo] at this
  have hi : rnd q ≤ (q.ceil : Rat) := by
    have := mono _ _ h2
    rwa [fixHi] at this
  exact C12_ceil_count_of_bounds (rnd q) q lo hi

/-- corollary for roundings that fix every integer (exact arithmetic; NOT satisfiable by a
    finite-precision rounding, which moves `2^p + 1`) -/
theorem C12_ceil_count_rounding_all (rnd : Rat → Rat) (mono : ∀ a b : Rat, a ≤ b → rnd a ≤ rnd b)
    (fixInt : ∀ n : Int, rnd (n : Rat) = (n : Rat)) (q : Rat) :
    ((rnd q).ceil = q.ceil ∨ (rnd q).ceil = q.ceil - 1) ∧
    ((rnd q).ceil = q.ceil ↔ ((q.ceil - 1 : Int) : Rat) < rnd q) ∧
    ((rnd q).ceil = q.ceil - 1 ↔ rnd q = ((q.ceil - 1 : Int) : Rat)) :=
  C12_ceil_count_rounding rnd mono q (fixInt _) (fixInt _)

/-- in particular the count is exact whenever the quotient is represented exactly (`rnd q = q`):
    cell length a power of two, total length an exact multiple of the cell length, … -/
theorem C12_ceil_count_exact (rnd : Rat → Rat) {l lp : Rat} (h : rnd (l / lp) = l / lp) :
    (rnd (l / lp)).ceil.toNat = ceilCount l lp := by
  unfold ceilCount
  rw [h]

example : ((fun q : Rat => q) (7 / 2)).ceil = (7 / 2 : Rat).ceil :=
  ((C12_ceil_count_rounding (fun q => q) (fun _ _ h => h) (7 / 2) rfl rfl).2.1).mpr
    ((ceil_eq_iff _ _).mp rfl).1

end HC.C12

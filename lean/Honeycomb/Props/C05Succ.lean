/-
  C05 — the "unsew succeeds on a fully embedded mesh" clause, and the remaining cell-level arms.

  Setting of the success theorems: configurations WITHOUT user storages bound to vertices, edges or
  faces and whose built-in vertex `split` is total on defined values (`PlainCfg`: e.g.
  `stdCfg 4 0`, the `Vertex3` law), no fault injection (`fc = 0`), the vertex storage present.
  `Embedded m`: the vertex identifier (= smallest dart of the vertex cell, Props/C05Cells.lean) of
  every in-use dart has coordinates.

  * `oneUnsew3_keeps_ready`, `twoUnsew3_keeps_ready`, `threeUnsew3_keeps_ready`: a SUCCESSFUL unsew of a
    well-formed, mirrored, embedded 3-map (2- and 3-unsew: closed faces, the property's proviso) leaves a
    well-formed, mirrored, embedded map — for every configuration.
  * `C05_oneUnsew3_succeeds`, `C05_twoUnsew3_succeeds`: on a well-formed, mirrored, embedded 3-map,
    a 1-unsew of a 1-sewn dart that is not 3-linked to its own successor (C02b: `NoAdj`), resp. a
    2-unsew of a 2-sewn dart whose two darts have successors (closed faces) and whose end points
    are four different vertices afterwards (the property's proviso) RETURNS `Ok` — the instance of
    `C05_oneUnsew3_succeeds_law` / `C05_twoUnsew3_succeeds_law` (Props/C05SuccLaw.lean) where the
    only law is the built-in vertex `split` and `Embedded` provides a value at the identifier the
    code reads, which is the cell minimum — and the result is again
    well-formed, mirrored and `Embedded`: the new vertex values are the halves of `split` of the old
    one, at the cell minima (`SplitIn`, through `C05_oneUnsew3_cells` / `C05_twoUnsew3_cells`;
    `embP_split` is the one step of this argument, on abstract partitions).
  * `C05_threeUnsew3_succeeds`: on a well-formed, mirrored, embedded 3-map
    whose faces are 3-linked as a whole and not to themselves (`Sided3`, `hnsg`; C02b), a 3-unsew of
    a 3-sewn dart of a closed face: `three_unlink` RETURNS `Ok`, and under the property's proviso (no
    vertex of the unlinked map takes part in two of the splits `(β1 l_t, r_t)`) the call returns `Ok`
    (`threeUnsew3_succeeds_gen`, Props/C05SuccLaw.lean: without edge storages no proviso on the edges
    is needed), the result is well-formed, mirrored and `Embedded` (`unsewnPairs_embP`: the invariant
    `EmbP` along the chain of partitions `Glue (cells of the unlinked map) (pairs still to be
    split)`, read off the description `UnsewnPairs` of the run).
    For sews the property claims no success (geometry / orientation may refuse): nothing here.
  * `C05_threeSew3_vertices_far`: the cell-level proviso of a 3-sew implies the
    identifier-level one, so the data theorem `C05_threeSew3_vertices` holds under the cell-level
    hypothesis alone.
  * `C05_twoSew3_cells_free/_left/_right`, `C05_twoUnsew3_cells_free/_left/_right`: the open-face
    arms of the 2-sew / 2-unsew at cell level (outside the property's scope: closed faces).
  * non-vacuity: two 3-sewn tetrahedra (`exTets`) — 1-, 2- and 3-unsew succeed, the 3-sew of the
    unsewn pair satisfies the proviso — and `C02.exMap` for the open arms.
-/
import Honeycomb.Props.C05SuccLaw

namespace HC.C05
open HC HC.CellCalc HC.Cell3
open HC.C04 (vStores eStores)
variable {X : Type}

/-! ## embedded meshes -/

/-- no user storage is bound to vertices, edges or faces; the built-in vertex `split` never fails on
    a defined value (`Vertex3`: the value is copied) -/
structure PlainCfg (cfg : Cfg X) : Prop where
  noUser : ∀ k, k < 3 → storagesOf cfg k = []
  split : ∀ x, ∃ a b, (cfg.law 0).split x = .ok (a, b)

/-- the vertex identifier of every in-use dart has coordinates -/
def Embedded (m : Map X) : Prop :=
  ∀ d v, d ≠ 0 → d < m.n → m.unused d = false → IsVid3 m d v → (m.att 0 v).isSome = true

/-- `Embedded` from its computable form (C03b: `cellId3` is the identifier) -/
theorem embedded_of_cellId3 {m : Map X} (h : WF 4 m)
    (hall : ∀ d, d < m.n → d ≠ 0 → m.unused d = false → (m.att 0 (C03.cellId3 m .vertex d)).isSome = true) :
    Embedded m := by
  intro d v hd0 hd hu hv
  obtain ⟨w, hr, hs, hw0, _⟩ := vid_run h rfl hd0 hd
  have : w = C03.cellId3 m .vertex d := by
    have := (C03.C03_vertexId3_min h hd0 hd).1
    rw [this] at hr; simp at hr; exact hr.symm
  rw [hv.unique hs (hv.ne_zero h hd0 hd) hw0, this]
  exact hall d hd hd0 hu

/-- the standing hypotheses of the success theorems -/
structure Ready (m : Map X) : Prop where
  wf : WF 4 m
  mir : Mirror m
  fc : m.fc = 0
  st0 : 0 < m.a.size
  emb : Embedded m

theorem vStores_plain {cfg : Cfg X} (hc : PlainCfg cfg) : vStores cfg = [0] := by
  unfold vStores; rw [hc.noUser 0 (by decide)]

theorem united_far {g : Nat → List Nat} {n p q d : Nat} (h1 : ¬ SameCell g n d p) (h2 : ¬ SameCell g n d q)
    (e : Nat) : United g n p q d e ↔ SameCell g n d e := by
  constructor
  · rintro (h | ⟨h, _⟩ | ⟨h, _⟩)
    · exact h
    · exact absurd h h1
    · exact absurd h h2
  · exact Or.inl

theorem united_same {g : Nat → List Nat} {n p q : Nat} (hpq : SameCell g n p q) (d e : Nat) :
    United g n p q d e ↔ SameCell g n d e :=
  unitedR_same (sameCell_equiv g n) hpq d e

/-! ## one split of a chain, abstractly -/

/-- every class of an in-use dart has a value at its smallest dart -/
def EmbP (P : Nat → Nat → Prop) (inuse : Nat → Prop) (att : Nat → Option X) : Prop :=
  ∀ d v, inuse d → IsMinOf P d v → (att v).isSome = true

/-- **one split keeps the mesh embedded**: the class of `p` under `P` is the union of the classes of
    `p` and `q` under the finer `P'`, every other class is unchanged; the value at the old smallest
    dart `min a b` is split into the two new smallest darts `a`, `b` -/
theorem embP_split {P P' : Nat → Nat → Prop} (hP' : Equivalence P') {inuse : Nat → Prop}
    {att att' : Nat → Option X} {p q a b : Nat}
    (hother : ∀ d, ¬ P' d p → ¬ P' d q → ∀ e, P d e ↔ P' d e)
    (ha : IsMinOf P' p a) (hb : IsMinOf P' q b) (ha0 : a ≠ 0) (hb0 : b ≠ 0)
    (hnz : ∀ d v, inuse d → IsMinOf P' d v → v ≠ 0)
    (hatta : (att' a).isSome = true) (hattb : (att' b).isSome = true)
    (hframe : ∀ e, e ≠ a → e ≠ b → att' e = att e)
    (hE : EmbP P inuse att) : EmbP P' inuse att' := by
  intro d v hu hv
  have hv0 := hnz d v hu hv
  by_cases c1 : P' d p
  · have := (ha.congr hP' (hP'.symm c1))
    rw [hv.unique this hv0 ha0]; exact hatta
  · by_cases c2 : P' d q
    · have := (hb.congr hP' (hP'.symm c2))
      rw [hv.unique this hv0 hb0]; exact hattb
    · have hvP : IsMinOf P d v :=
        ⟨(hother d c1 c2 v).2 hv.1, fun e he he0 => hv.2 e ((hother d c1 c2 e).1 he) he0⟩
      have e1 : v ≠ a := by
        intro hh; apply c1
        exact hP'.trans hv.1 (by rw [hh]; exact hP'.symm ha.1)
      have e2 : v ≠ b := by
        intro hh; apply c2
        exact hP'.trans hv.1 (by rw [hh]; exact hP'.symm hb.1)
      rw [hframe v e1 e2]
      exact hE d v hu hvP

/-- the old value, at the old smallest dart -/
theorem embP_old {P P' : Nat → Nat → Prop} {inuse : Nat → Prop} {att : Nat → Option X} {p q a b : Nat}
    (hunion : ∀ e, P p e ↔ (P' p e ∨ P' q e)) (ha : IsMinOf P' p a) (hb : IsMinOf P' q b) (hp : inuse p)
    (hE : EmbP P inuse att) : (att (min a b)).isSome = true :=
  hE p _ hp (isMinOf_union hunion ha hb)

/-- peeling the first pair off a separated list -/
theorem glue_cons_sep {R : Nat → Nat → Prop} (hR : Equivalence R) {p q : Nat} {rest : List (Nat × Nat)}
    (hsep : ((p, q) :: rest).Pairwise (Far R)) :
    (∀ e, Glue R ((p, q) :: rest) p e ↔ (Glue R rest p e ∨ Glue R rest q e)) ∧
    (∀ d, ¬ Glue R rest d p → ¬ Glue R rest d q → ∀ e, Glue R ((p, q) :: rest) d e ↔ Glue R rest d e) ∧
    (∀ e, Glue R rest p e ↔ R p e) ∧ (∀ e, Glue R rest q e ↔ R q e) := by
  have hc := List.pairwise_cons.1 hsep
  have farp : ∀ pq, pq ∈ rest → ¬ R p pq.1 ∧ ¬ R p pq.2 := fun pq hm => ⟨(hc.1 pq hm).1, (hc.1 pq hm).2.1⟩
  have farq : ∀ pq, pq ∈ rest → ¬ R q pq.1 ∧ ¬ R q pq.2 := fun pq hm => ⟨(hc.1 pq hm).2.2.1, (hc.1 pq hm).2.2.2⟩
  have gp := glue_sep_other hR hc.2 farp
  have gq := glue_sep_other hR hc.2 farq
  refine ⟨?_, ?_, gp, gq⟩
  · intro e
    rw [gp, gq]
    exact glue_sep_pair hR hsep (pq := (p, q)) (by simp) e
  · intro d h1 h2 e
    constructor
    · intro h
      rcases (glue_sep hR hsep d e).1 h with k | ⟨pq, hm, k⟩
      · exact .base k
      · rcases List.mem_cons.1 hm with rfl | hm'
        · exfalso
          rcases k with ⟨k1, _⟩ | ⟨k1, _⟩
          · exact h1 (.base k1)
          · exact h2 (.base k1)
        · exact (glue_sep hR hc.2 d e).2 (Or.inr ⟨pq, hm', k⟩)
    · exact Glue.mono fun x hx => List.mem_cons_of_mem _ hx


theorem embedded_iff (m : Map X) :
    Embedded m ↔ EmbP (SameCell (g3v m) m.n) (C02.InUse m) (fun v => m.att 0 v) :=
  ⟨fun h d v hu hv => h d v hu.1 hu.2.1 hu.2.2 hv, fun h d v h0 hd hu hv => h d v ⟨h0, hd, hu⟩ hv⟩

theorem embP_congr {P P' : Nat → Nat → Prop} {inuse : Nat → Prop} {att : Nat → Option X}
    (h : ∀ d e, P d e ↔ P' d e) (hE : EmbP P inuse att) : EmbP P' inuse att :=
  fun d v hu hv => hE d v hu ⟨(h d v).2 hv.1, fun e he he0 => hv.2 e ((h d e).1 he) he0⟩

theorem splitOK_embedded {cfg : Cfg X} (hc : PlainCfg cfg) {m : Map X} (R : Ready m) {d : Nat} (hd0 : d ≠ 0)
    (hd : d < m.n) (hu : m.unused d = false) : ∀ v, IsVid3 m d v → SplitOK cfg (vStores cfg) v m := by
  intro v hv s hs
  rw [vStores_plain hc, List.mem_singleton] at hs
  subst hs
  obtain ⟨x, hx⟩ := Option.isSome_iff_exists.1 (R.emb d v hd0 hd hu hv)
  rw [hx]
  exact hc.split x

theorem stores_lt_plain {cfg : Cfg X} (hc : PlainCfg cfg) {m : Map X} (R : Ready m) {k : Nat} (hk : k < 3) :
    (∀ t, t ∈ vStores cfg → t < m.a.size) ∧ (∀ t, t ∈ storagesOf cfg k → t < m.a.size) := by
  rw [vStores_plain hc, hc.noUser k hk]
  exact ⟨fun t ht => by rw [List.mem_singleton.1 ht]; exact R.st0, fun t ht => absurd ht (by simp)⟩

theorem splitIn_attr_step {cfg : Cfg X} {ss : List Nat} (h0 : 0 ∈ ss) {a b : Nat} {s s' : Map X}
    (h : SplitIn cfg ss a b (min a b) s s') (hval : (s.att 0 (min a b)).isSome = true) :
    (s'.att 0 a).isSome = true ∧ (s'.att 0 b).isSome = true ∧ ∀ e, e ≠ a → e ≠ b → s'.att 0 e = s.att 0 e := by
  refine ⟨?_, ?_, fun e h1 h2 => h.frame 0 e h0 h1 h2 (by omega)⟩
  · by_cases hab : a = b
    · rw [h.moved hab 0 h0]; exact hval
    · obtain ⟨x, y, _, _, hx⟩ := h.split hab 0 h0
      rw [hx]; rfl
  · by_cases hab : a = b
    · subst hab
      rw [h.moved rfl 0 h0]; exact hval
    · obtain ⟨x, y, _, hy, _⟩ := h.split hab 0 h0
      rw [hy]; rfl

/-- stated once: at each use the unifier would compare `(m.unlinkI i l).n` with `m.n` by unfolding the two maps -/
theorem isVid3_unlinkI {m : Map X} {i l x v : Nat} :
    IsVid3 (m.unlinkI i l) x v ↔ IsMinOf (SameCell (g3v (m.unlinkI i l)) m.n) x v := Iff.rfl

/-- **a successful 1-unsew keeps an embedded mesh embedded**, whatever the configuration: the split halves sit at
    the identifiers — cell minima — of the two new vertices (`C05_oneUnsew3_cells`) -/
theorem oneUnsew3_keeps_ready (cfg : Cfg X) {m m' : Map X} {l : Nat} (R : Ready m) (hl : C02.InUse m l)
    (hrun : run (oneUnsew3 cfg m.n l) m = (.ok (), m')) : Ready m' := by
  have hw := R.wf
  obtain ⟨m1, vold, hunl, hw1, st, ha, hsewn, svold, hcase⟩ := C05_oneUnsew3_cells cfg m.n m m' l () hw hl R.fc hrun
  have ir := hw.image_inUse (i := 1) (by omega) hl.2.1 hsewn
  obtain ⟨hl0, hln, hlu⟩ := hl
  obtain ⟨_, ho, hM1⟩ := oneUnlink3_ok hw hln hunl
  have hn1 : m1.n = m.n := ho.n
  have att1 : ∀ v, m1.att 0 v = m.att 0 v := fun v => by unfold Map.att; rw [ha]
  have E0 : EmbP (SameCell (g3v m) m.n) (C02.InUse m) (fun v => m1.att 0 v) := by
    simp only [att1]; exact (embedded_iff m).1 R.emb
  -- it suffices to keep the invariant on the vertex partition of the unlinked map
  suffices h : m'.fc = 0 ∧ EmbP (SameCell (g3v m1) m.n) (C02.InUse m) (fun v => m'.att 0 v) by
    refine ⟨hw1.sameTopo st, st.mirror (hM1 R.mir), h.1, by rw [st.asz, ha]; exact R.st0, ?_⟩
    intro d v hd0 hd hu hv
    have hv1 : IsVid3 m1 d v := (isVid3_sameTopo st d v).1 hv
    unfold IsVid3 at hv1
    rw [hn1] at hv1
    exact h.2 d v ⟨hd0, by rw [← hn1, ← st.n]; exact hd, by rw [← ho.unused, ← st.unused]; exact hu⟩ hv1
  have same : (∀ d e, SameCell (g3v m) m.n d e ↔ SameCell (g3v m1) m.n d e) → m' = m1 →
      m'.fc = 0 ∧ EmbP (SameCell (g3v m1) m.n) (C02.InUse m) (fun v => m'.att 0 v) := by
    intro hcells e
    subst e
    exact ⟨by rw [ho.fc]; exact R.fc, embP_congr hcells E0⟩
  rcases hcase with ⟨_, e, hcells⟩ | ⟨hh, vl, vr, svl, svr, hcells, hold, hcase⟩
  · exact same hcells e
  · have hhn : headOf m l < m1.n := by rw [hn1]; exact headOf_lt hw hln
    have vl0 := svl.ne_zero hw1 hh hhn
    have vr0 := svr.ne_zero hw1 hsewn (by rw [hn1]; exact ir.1)
    unfold IsVid3 at svl svr
    rw [hn1] at svl svr
    rcases hcase with ⟨hv, e⟩ | ⟨hv, hs⟩
    · -- the vertex does not split: the head and `β1 l` stay in one cell
      refine same (fun d e => ?_) e
      rw [hcells]
      exact united_same (.trans svl.1 (by rw [hv]; exact .symm svr.1)) d e
    · -- a genuine split of the value at the old identifier `min vl vr`
      rw [hold, Nat.min_comm] at hs
      have hval : (m1.att 0 (min vl vr)).isSome = true := by
        rw [att1, Nat.min_comm, ← hold]; exact R.emb _ vold hsewn ir.1 ir.2 svold
      obtain ⟨va, vb, fr⟩ := splitIn_attr_step (List.mem_cons_self ..) hs hval
      refine ⟨by rw [hs.fc, ho.fc]; exact R.fc, ?_⟩
      refine embP_split (sameCell_equiv (g3v m1) m.n) (p := headOf m l) (q := m.β 1 l)
        (fun d h1 h2 e => by rw [hcells]; exact united_far h1 h2 e) svl svr vl0 vr0 (fun d v hu hv' => ?_) va vb fr E0
      · have hv1 : IsVid3 m1 d v := by unfold IsVid3; rw [hn1]; exact hv'
        exact hv1.ne_zero hw1 hu.1 (by rw [hn1]; exact hu.2.1)

/-- **C05, 1-unsew succeeds on an embedded mesh**: on a well-formed, mirrored, embedded 3-map the
    1-unsew of a 1-sewn in-use dart that is not 3-linked to its own successor returns `Ok`, and the
    result is again well-formed, mirrored and embedded (the split halves sit at the identifiers —
    cell minima — of the two new vertices: `C05_oneUnsew3_cells` applies to this run) -/
theorem C05_oneUnsew3_succeeds (cfg : Cfg X) (hc : PlainCfg cfg) (m : Map X) (l : Nat) (R : Ready m)
    (hl : C02.InUse m l) (hsewn : m.β 1 l ≠ 0) (hadj : m.β 3 l ≠ m.β 1 l) :
    ∃ m', run (oneUnsew3 cfg m.n l) m = (.ok (), m') ∧ Ready m' := by
  have hw := R.wf
  have ir := hw.image_inUse (i := 1) (by omega) hl.2.1 hsewn
  -- the call returns `Ok`: the only law called is the built-in one, on a value that `Embedded` provides
  obtain ⟨m', hrun⟩ := C05_oneUnsew3_succeeds_law cfg m l hw R.mir R.fc
    (stores_lt_plain hc R (k := 0) (by decide)).1 hl hsewn hadj (splitOK_embedded hc R hsewn ir.1 ir.2)
  exact ⟨m', hrun, oneUnsew3_keeps_ready cfg R hl hrun⟩

/-- **a successful 2-unsew keeps an embedded mesh embedded** (closed faces, the property's proviso), whatever the
    configuration: each of the two old vertex values is split between the identifiers (cell minima) of the two
    vertices it falls into (`C05_twoUnsew3_cells`) -/
theorem twoUnsew3_keeps_ready (cfg : Cfg X) {m m' : Map X} {l : Nat} (R : Ready m) (hl : C02.InUse m l)
    (hbl : m.β 1 l ≠ 0) (hbr : m.β 1 (m.β 2 l) ≠ 0)
    (hfar : Far (SameCell (g3v (m.unlinkI 2 l)) m.n) (l, m.β 1 (m.β 2 l)) (m.β 2 l, m.β 1 l))
    (hrun : run (twoUnsew3 cfg m.n l) m = (.ok (), m')) : Ready m' := by
  have hw := R.wf
  obtain ⟨hsewn, hw1, st, hv, _, eold, enl, enr, lvold, rvold, a, b, c, d, _, _, _, _, slv, srv, sa, sb, sc, sd, hmin,
    me, ma, mb, mc, sE, sA, sB, sC, sD⟩ := C05_twoUnsew3_cells cfg m.n m m' l () hw hl R.fc hbl hbr hrun
  have ir := hw.image_inUse (i := 2) (by omega) hl.2.1 hsewn
  obtain ⟨hl0, hln, hlu⟩ := hl
  obtain ⟨elv, erv⟩ := hmin hfar
  subst elv erv
  rw [isVid3_unlinkI] at sa sb sc sd
  have hM1 : Mirror (m.unlinkI 2 l) := by
    have eβ := hw.toSized.β_unlinkI (i := 2) (by omega) hln ir.1
    refine mirror_of_β13 (m := m) rfl ?_ ?_ R.mir
    · intro x; rw [eβ]; simp
    · intro x; rw [eβ]; simp
  have fc' : m'.fc = 0 := by rw [sD.fc, sC.fc, sB.fc, sA.fc, sE.fc, (unlinkI_frame m 2 l).2.1]; exact R.fc
  refine ⟨hw1.sameTopo st, st.mirror hM1, fc', by rw [st.asz]; exact R.st0, ?_⟩
  -- the vertex values: only the two built-in splits touch them
  have h0 : (0 : Nat) ∈ [0] := List.mem_singleton.2 rfl
  have attE : ∀ e, me.att 0 e = m.att 0 e := fun e => by
    rw [sE.other 0 e (C04.zero_notin_storagesOf _ _), (unlinkI_frame m 2 l).2.2]
  have attD : ∀ e, m'.att 0 e = mb.att 0 e := fun e => by rw [sD.other 0 e (C04.zero_notin_storagesOf _ _), sC.other 0 e (C04.zero_notin_storagesOf _ _)]
  -- the chain of partitions: both pairs united, the second pair united, none
  have eqV := sameCell_equiv (g3v (m.unlinkI 2 l)) m.n
  have hsep : [(l, m.β 1 (m.β 2 l)), (m.β 2 l, m.β 1 l)].Pairwise (Far (SameCell (g3v (m.unlinkI 2 l)) m.n)) :=
    pairwise_two hfar
  obtain ⟨u1, o1, p1, q1⟩ := glue_cons_sep eqV hsep
  obtain ⟨u2, o2, p2, q2⟩ := glue_cons_sep eqV (List.pairwise_singleton _ (m.β 2 l, m.β 1 l))
  have sa' : IsMinOf (Glue (SameCell (g3v (m.unlinkI 2 l)) m.n) [(m.β 2 l, m.β 1 l)]) l a :=
    ⟨(p1 a).2 sa.1, fun e he he0 => sa.2 e ((p1 e).1 he) he0⟩
  have sb' : IsMinOf (Glue (SameCell (g3v (m.unlinkI 2 l)) m.n) [(m.β 2 l, m.β 1 l)]) (m.β 1 (m.β 2 l)) b :=
    ⟨(q1 b).2 sb.1, fun e he he0 => sb.2 e ((q1 e).1 he) he0⟩
  have sd' : IsMinOf (Glue (SameCell (g3v (m.unlinkI 2 l)) m.n) []) (m.β 2 l) d :=
    ⟨(p2 d).2 sd.1, fun e he he0 => sd.2 e ((p2 e).1 he) he0⟩
  have sc' : IsMinOf (Glue (SameCell (g3v (m.unlinkI 2 l)) m.n) []) (m.β 1 l) c :=
    ⟨(q2 c).2 sc.1, fun e he he0 => sc.2 e ((q2 e).1 he) he0⟩
  have nz : ∀ (ps : List (Nat × Nat)), (∀ x, x ∈ ps → x ∈ [(l, m.β 1 (m.β 2 l)), (m.β 2 l, m.β 1 l)]) →
      ∀ d' v, C02.InUse m d' → IsMinOf (Glue (SameCell (g3v (m.unlinkI 2 l)) m.n) ps) d' v → v ≠ 0 := by
    intro ps hsub d' v hu hmin
    have := (hv d' v).2 (Glue.mono hsub hmin.1)
    exact (sameCell_ne_zero hw hu.1 hu.2.1 this).1
  have a0 := nz _ (fun x hx => List.mem_cons_of_mem _ hx) l a ⟨hl0, hln, hlu⟩ sa'
  have b0 := nz _ (fun x hx => List.mem_cons_of_mem _ hx) _ b
    ⟨hbr, hw.range 1 (by omega) _ ir.1, (hw.image_inUse (i := 1) (by omega) ir.1 hbr).2⟩ sb'
  have d0 := nz [] (fun x hx => absurd hx (by simp)) _ d ⟨hsewn, ir.1, ir.2⟩ sd'
  have c0 := nz [] (fun x hx => absurd hx (by simp)) _ c
    ⟨hbl, hw.range 1 (by omega) l hln, (hw.image_inUse (i := 1) (by omega) hln hbl).2⟩ sc'
  -- the embedded invariant along the chain
  have E0 : EmbP (Glue (SameCell (g3v (m.unlinkI 2 l)) m.n) [(l, m.β 1 (m.β 2 l)), (m.β 2 l, m.β 1 l)])
      (C02.InUse m) (fun v => me.att 0 v) := by
    simp only [attE]
    exact embP_congr hv ((embedded_iff m).1 R.emb)
  obtain ⟨va, vb, fr1⟩ := splitIn_attr_step h0 sA (embP_old (fun e => u1 e) sa' sb' ⟨hl0, hln, hlu⟩ E0)
  have E1 : EmbP (Glue (SameCell (g3v (m.unlinkI 2 l)) m.n) [(m.β 2 l, m.β 1 l)]) (C02.InUse m)
      (fun v => ma.att 0 v) :=
    embP_split (glue_equiv _ eqV _) (fun d' h1 h2 e => o1 d' h1 h2 e) sa' sb' a0 b0
      (nz _ (fun x hx => List.mem_cons_of_mem _ hx)) va vb fr1 E0
  have val2 : (ma.att 0 (min c d)).isSome = true := by
    rw [Nat.min_comm]; exact embP_old (fun e => u2 e) sd' sc' ⟨hsewn, ir.1, ir.2⟩ E1
  rw [Nat.min_comm d c] at sB
  obtain ⟨vc, vd, fr2⟩ := splitIn_attr_step h0 sB val2
  have E2 : EmbP (Glue (SameCell (g3v (m.unlinkI 2 l)) m.n) []) (C02.InUse m) (fun v => mb.att 0 v) :=
    embP_split (glue_equiv _ eqV _) (fun d' h1 h2 e => o2 d' h1 h2 e) sd' sc' d0 c0
      (nz _ (fun x hx => absurd hx (by simp))) vd vc (fun e h1 h2 => fr2 e h2 h1) E1
  -- embedded: the final partition is that of the unlinked map
  intro d' v hd0 hd hu hvv
  have hvv1 := isVid3_unlinkI.1 ((isVid3_sameTopo st d' v).1 hvv)
  rw [attD]
  have hd1 : d' < (m.unlinkI 2 l).n := by rw [← st.n]; exact hd
  have hu1 : (m.unlinkI 2 l).unused d' = false := by rw [← st.unused]; exact hu
  refine E2 d' v ⟨hd0, hd1, hu1⟩ ?_
  exact ⟨.base hvv1.1, fun e he he0 => hvv1.2 e ((glue_nil eqV _ _).1 he) he0⟩

/-- **C05, 2-unsew succeeds on an embedded mesh** (closed faces: both darts have a successor; the
    property's proviso: the end points of the edge are four different vertices afterwards): the call
    returns `Ok` and the result is again well-formed, mirrored and embedded — each of the two old
    vertex values is split between the identifiers (cell minima) of the two vertices it falls
    into (`C05_twoUnsew3_cells` applies to this run) -/
theorem C05_twoUnsew3_succeeds (cfg : Cfg X) (hc : PlainCfg cfg) (m : Map X) (l : Nat) (R : Ready m)
    (hl : C02.InUse m l) (hsewn : m.β 2 l ≠ 0) (hbl : m.β 1 l ≠ 0) (hbr : m.β 1 (m.β 2 l) ≠ 0)
    (hfar : Far (SameCell (g3v (m.unlinkI 2 l)) m.n) (l, m.β 1 (m.β 2 l)) (m.β 2 l, m.β 1 l)) :
    ∃ m', run (twoUnsew3 cfg m.n l) m = (.ok (), m') ∧ Ready m' := by
  have hw := R.wf
  have ir := hw.image_inUse (i := 2) (by omega) hl.2.1 hsewn
  -- the call returns `Ok`: the only law called is the built-in one, on values that `Embedded` provides
  obtain ⟨m', hrun⟩ := C05_twoUnsew3_succeeds_law cfg m l hw R.fc (stores_lt_plain hc R (k := 1) (by decide)).1
    (stores_lt_plain hc R (k := 1) (by decide)).2 hl hsewn hbl hbr hfar
    (fun e _ => splitOK_nil (hc.noUser 1 (by decide)) e m)
    (splitOK_embedded hc R hl.1 hl.2.1 hl.2.2) (splitOK_embedded hc R hsewn ir.1 ir.2)
  exact ⟨m', hrun, twoUnsew3_keeps_ready cfg R hl hbl hbr hfar hrun⟩


/-! ## 3-sew: the cell-level proviso implies the identifier-level one -/

theorem pairIds_det {n : Nat} {m : Map X} {l r : Nat} {es vs es' vs' : List (Nat × Nat)}
    (h : PairIds n m l r es vs) (h' : PairIds n m l r es' vs') : es = es' ∧ vs = vs' := by
  obtain ⟨el, er, a1, a2, hel, her, ha1, ha2, rfl, hvs⟩ := h
  obtain ⟨el', er', b1, b2, hel', her', hb1, hb2, rfl, hvs'⟩ := h'
  obtain rfl := run_ok_inj hel hel'
  obtain rfl := run_ok_inj her her'
  obtain rfl := run_ok_inj ha1 hb1
  obtain rfl := run_ok_inj ha2 hb2
  refine ⟨rfl, ?_⟩
  rcases hvs with ⟨k, rfl⟩ | ⟨k, a3, a4, ha3, ha4, rfl⟩ <;>
    rcases hvs' with ⟨k', rfl⟩ | ⟨k', b3, b4, hb3, hb4, rfl⟩
  · rfl
  · exact absurd k' k
  · exact absurd k k'
  · obtain rfl := run_ok_inj ha3 hb3
    obtain rfl := run_ok_inj ha4 hb4
    rfl

/-- the collected lists are determined by the zipped walks -/
theorem collected_det {n : Nat} {m : Map X} : ∀ {zs es vs es' vs' : List (Nat × Nat)},
    Collected n m zs es vs → Collected n m zs es' vs' → es = es' ∧ vs = vs' := by
  intro zs es vs es' vs' h1
  induction h1 generalizing es' vs' with
  | nil => intro h2; cases h2; exact ⟨rfl, rfl⟩
  | cons hP _ ih =>
      intro h2
      cases h2 with
      | cons hP2 hC2 =>
          obtain ⟨rfl, rfl⟩ := pairIds_det hP hP2
          obtain ⟨rfl, rfl⟩ := ih hC2
          exact ⟨rfl, rfl⟩

/-- on closed faces, from the alignment of the collected vertex pairs with the zipped walks -/
theorem collected_pairwise {m : Map X} (hwf : WF 4 m) {Pz : Nat × Nat → Nat × Nat → Prop}
    (hdisj : ∀ lr lr' p p', Pz lr lr' → IsVid3 m (m.β 1 lr.1) p.1 → IsVid3 m lr.2 p.2 →
      IsVid3 m (m.β 1 lr'.1) p'.1 → IsVid3 m lr'.2 p'.2 → Disj p p') :
    ∀ {zs es vs : List (Nat × Nat)}, Collected m.n m zs es vs →
      (∀ lr, lr ∈ zs → lr.1 ≠ 0 ∧ lr.1 < m.n ∧ lr.2 ≠ 0 ∧ lr.2 < m.n ∧ m.β 1 lr.1 ≠ 0 ∧ m.β 0 lr.1 ≠ 0) →
      zs.Pairwise Pz → vs.Pairwise Disj := by
  intro zs es vs hC
  induction hC with
  | nil => intro _ _; exact List.Pairwise.nil
  | @cons l r rest es vs es' vs' hP hC' ih =>
      intro hz hp
      have hpc := List.pairwise_cons.1 hp
      have hz' := fun lr hm => hz lr (List.mem_cons_of_mem _ hm)
      have ihv := ih hz' hpc.2
      obtain ⟨_, _, i3, _⟩ := collected_ids hwf hC' hz'
      obtain ⟨hl0, hln, hr0, hrn, h1, h0⟩ := hz (l, r) (by simp)
      obtain ⟨el, er, v1, v2, hel, her, hv1, hv2, hes, hvs⟩ := hP
      rw [if_neg h1] at hv1
      have s3 := (vertexId3_spec hwf h1 (hwf.range 1 (by omega) l hln) hv1).2
      have s4 := (vertexId3_spec hwf hr0 hrn hv2).2
      have hvs' : vs = [(v1, v2)] := by
        rcases hvs with ⟨_, k⟩ | ⟨k, _⟩
        · exact k
        · exact absurd k h0
      subst hvs'
      refine List.pairwise_append.2 ⟨by simp, ihv, ?_⟩
      intro p hp' p' hp''
      have : p = (v1, v2) := by simpa using hp'
      subst this
      obtain ⟨lr', hm', k1, k2⟩ := i3 p' hp''
      exact hdisj (l, r) lr' _ p' (hpc.1 lr' hm') s3 s4 k1 k2

/-- **C05 (3-sew, vertices) under the cell-level proviso alone**: if no old vertex cell takes part
    in two of the unions `β1 l — r` of the 3-link (`Far` on the pairs of the walk), then the
    identifier-level proviso of `C05_threeSew3_vertices` holds, hence every kept pair of collected
    vertex identifiers ends with `merge*` of the two values held before the call at the smaller
    identifier — the smallest dart of the united cell — and nothing at the other; vertex
    identifiers in no kept pair keep their value -/
theorem C05_threeSew3_vertices_far (cfg : Cfg X) (m m' : Map X) (ld rd : Nat) (u : Unit)
    (hwf : WF 4 m) (hl : C02.InUse m ld) (hr : C02.InUse m rd) (hne : ld ≠ rd) (hfc : m.fc = 0)
    (hclosed : ∀ t, it m 1 t ld ≠ 0)
    (h : run (threeSew3 cfg m.n ld rd) m = (.ok u, m')) :
    ∃ (L : Nat) (m1 : Map X) (vs : List (Nat × Nat)),
      run (threeLink3 (X := X) m.n ld rd) m = (.ok (), m1) ∧
      ((pairsA m (walkPairs m 1 0 L ld rd)).Pairwise (Far (SameCell (g3v m) m.n)) →
        (vs.filter keepPair).Pairwise Disj ∧
        (∀ p, p ∈ vs.filter keepPair → ∀ t, t ∈ vStores cfg →
          ∃ v, mergeVal (cfg.law t) (m.att t p.1) (m.att t p.2) = .ok v ∧
            m'.att t (min p.1 p.2) = some v ∧ m'.att t (max p.1 p.2) = none) ∧
        (∀ t e, t ∈ vStores cfg → (∀ p, p ∈ vs.filter keepPair → e ≠ p.1 ∧ e ≠ p.2) →
          m'.att t e = m.att t e) ∧
        (∀ p, p ∈ vs → ∃ lr, lr ∈ walkPairs m 1 0 L ld rd ∧ IsVid3 m (m.β 1 lr.1) p.1 ∧ IsVid3 m lr.2 p.2 ∧
          IsVid3 m1 (m.β 1 lr.1) (min p.1 p.2))) := by
  obtain ⟨lo, ro, es, vs, hfo, hC, hdata⟩ := C05_threeSew3_vertices cfg m.n ld rd m m' u hfc h
  obtain ⟨_, _, _, _, m1, _, _, _, _, hlink, _, _, _, _⟩ := C05_threeSew3_effect cfg m.n ld rd m m' u hfc h
  obtain ⟨L, lo', ro', hw1, hL, cl, cr, hfo', hlond, hzip, hps, _, _, _, _, _, hverts⟩ :=
    threeLink3_cells hwf hl hr hne hclosed hlink
  obtain ⟨rfl, rfl⟩ := Prod.mk.inj (run_ok_inj hfo hfo')
  have hz : ∀ lr, lr ∈ lo.zip ro →
      lr.1 ≠ 0 ∧ lr.1 < m.n ∧ lr.2 ≠ 0 ∧ lr.2 < m.n ∧ m.β 1 lr.1 ≠ 0 ∧ m.β 0 lr.1 ≠ 0 := by
    intro lr hm
    obtain ⟨a1, a2, a3, a4, a5, a6, _⟩ := hps lr ((hzip lr).1 hm)
    exact ⟨a1, a2, a3, a4, a5, a6⟩
  obtain ⟨_, _, c3, _⟩ := collected_ids hwf hC hz
  refine ⟨L, m1, vs, hlink, fun hfar => ?_⟩
  -- the zipped walks are pairwise far, in their own order
  have eqV := sameCell_equiv (g3v m) m.n
  have hPz : (lo.zip ro).Pairwise (fun x y =>
      Far (SameCell (g3v m) m.n) (m.β 1 x.1, x.2) (m.β 1 y.1, y.2)) :=
    List.pairwise_map.1 (zip_pairwise_far hwf eqV hlond (fun pq => (hzip pq).1)
      (fun lr hm => ⟨(hps lr hm).2.1, (hps lr hm).2.2.2.2.1⟩) hfar)
  have hD : vs.Pairwise Disj :=
    collected_pairwise hwf (fun lr lr' p p' hP a1 a2 a3 a4 => far_to_disj hP a1 a2 a3 a4) hC hz hPz
  have hDf : (vs.filter keepPair).Pairwise Disj := hD.filter _
  obtain ⟨d1, d2⟩ := hdata hDf
  refine ⟨hDf, d1, d2, ?_⟩
  intro p hp
  obtain ⟨lr, hm, k1, k2⟩ := c3 p hp
  have hm' := (hzip lr).1 hm
  refine ⟨lr, hm', k1, k2, ?_⟩
  have hmem : (m.β 1 lr.1, lr.2) ∈ pairsA m (walkPairs m 1 0 L ld rd) := List.mem_map.2 ⟨lr, hm', rfl⟩
  unfold IsVid3; rw [hL.n]
  exact min_of_far eqV hverts hfar hmem k1 k2


/-! ## 3-unsew on an embedded mesh -/

/-- the splitting loop of `three_unsew` keeps an embedded mesh embedded (closed faces; the property's
    proviso on the listed pairs): every step splits the value at the smallest dart of the class still
    to be split between the two new smallest darts -/
theorem unsewnPairs_embP {cfg : Cfg X} {m1 : Map X} (hw1 : WF 4 m1) :
    ∀ (zs : List (Nat × Nat)) (s s' : Map X), SameTopo m1 s → s.fc = 0 →
      (∀ lr, lr ∈ zs → lr.1 ≠ 0 ∧ lr.1 < m1.n ∧ lr.2 ≠ 0 ∧ lr.2 < m1.n ∧ m1.β 1 lr.1 ≠ 0 ∧ m1.β 0 lr.1 ≠ 0 ∧
        m1.unused (m1.β 1 lr.1) = false) →
      (pairsA m1 zs).Pairwise (Far (SameCell (g3v m1) m1.n)) →
      (∀ d v, C02.InUse m1 d → Glue (SameCell (g3v m1) m1.n) (pairsA m1 zs) d v → v ≠ 0) →
      EmbP (Glue (SameCell (g3v m1) m1.n) (pairsA m1 zs)) (C02.InUse m1) (fun v => s.att 0 v) →
      UnsewnPairs cfg m1.n zs s s' →
      SameTopo m1 s' ∧ s'.fc = 0 ∧ EmbP (Glue (SameCell (g3v m1) m1.n) []) (C02.InUse m1) (fun v => s'.att 0 v) := by
  intro zs
  induction zs with
  | nil =>
      intro s s' st hfc _ _ _ hE hU
      cases hU
      exact ⟨st, hfc, hE⟩
  | cons p rest ih =>
      intro s s' st hfc hz hsep hnz hE hU
      cases hU with
      | @cons l r el er v1 v2 _ _ ma mb mc _ hel her sA hv1 hv2 sB hC hU' =>
      obtain ⟨hl0, hln, hr0, hrn, hb1, hb0, hbu⟩ := hz (l, r) (by simp)
      simp only at hl0 hln hr0 hrn hb1 hb0 hbu
      have sta : SameTopo m1 ma := st.trans sA.topo
      have stb : SameTopo m1 mb := sta.trans sB.topo
      have wa : WF 4 ma := hw1.sameTopo sta
      have hbn : m1.β 1 l < m1.n := hw1.range 1 (by omega) l hln
      -- the two identifiers of the vertex split are the smallest darts of the cells of `β1 l`, `r`
      rw [sta.β, if_neg hb1] at hv1
      have sv1 := (isVid3_sameTopo sta _ _).1 (vertexId3_spec wa hb1 (by rw [sta.n]; exact hbn) hv1).2
      have sv2 := (isVid3_sameTopo sta _ _).1 (vertexId3_spec wa hr0 (by rw [sta.n]; exact hrn) hv2).2
      have v10 := sv1.ne_zero hw1 hb1 hbn
      have v20 := sv2.ne_zero hw1 hr0 hrn
      have eqV := sameCell_equiv (g3v m1) m1.n
      have hpa : pairsA m1 ((l, r) :: rest) = (m1.β 1 l, r) :: pairsA m1 rest := rfl
      rw [hpa] at hsep hnz hE
      obtain ⟨u1, o1, p1, q1⟩ := glue_cons_sep eqV hsep
      have sa' : IsMinOf (Glue (SameCell (g3v m1) m1.n) (pairsA m1 rest)) (m1.β 1 l) v1 :=
        ⟨(p1 v1).2 sv1.1, fun e he he0 => sv1.2 e ((p1 e).1 he) he0⟩
      have sb' : IsMinOf (Glue (SameCell (g3v m1) m1.n) (pairsA m1 rest)) r v2 :=
        ⟨(q1 v2).2 sv2.1, fun e he he0 => sv2.2 e ((q1 e).1 he) he0⟩
      -- the edge split does not touch the vertex values
      have h0 : (0 : Nat) ∈ vStores cfg := List.mem_cons_self ..
      have EA : EmbP (Glue (SameCell (g3v m1) m1.n) ((m1.β 1 l, r) :: pairsA m1 rest)) (C02.InUse m1)
          (fun v => ma.att 0 v) := by
        simp only [sA.other 0 _ (vStores_sep cfg h0).2]; exact hE
      obtain ⟨va, vb, fr⟩ := splitIn_attr_step h0 sB (embP_old (fun e => u1 e) sa' sb' ⟨hb1, hbn, hbu⟩ EA)
      have hnz' : ∀ d v, C02.InUse m1 d → Glue (SameCell (g3v m1) m1.n) (pairsA m1 rest) d v → v ≠ 0 :=
        fun d v hu hg => hnz d v hu (Glue.mono (fun x hx => List.mem_cons_of_mem _ hx) hg)
      have E1 : EmbP (Glue (SameCell (g3v m1) m1.n) (pairsA m1 rest)) (C02.InUse m1) (fun v => mb.att 0 v) :=
        embP_split (glue_equiv _ eqV _) (fun d' h1 h2 e => o1 d' h1 h2 e) sa' sb' v10 v20
          (fun d v hu hm => hnz' d v hu hm.1) va vb fr EA
      -- closed faces: `l` has a predecessor, there is no third split
      have hcb : mc = mb := by
        rcases hC with ⟨_, e⟩ | ⟨e, _⟩
        · exact e
        · rw [stb.β] at e; exact absurd e hb0
      subst hcb
      exact ih mc s' stb (by rw [sB.fc, sA.fc]; exact hfc) (fun lr hm => hz lr (List.mem_cons_of_mem _ hm))
        (List.pairwise_cons.1 hsep).2 hnz' E1 hU'


theorem cyc_heads {m : Map X} (hwf : WF 4 m) {ld L : Nat} (hln : ld < m.n) (cl : Cyc m 1 ld L) (rd : Nat) :
    ∀ lr, lr ∈ walkPairs m 1 0 L ld rd → lr.1 < m.n ∧ m.β 1 lr.1 ≠ 0 ∧ m.β 0 lr.1 ≠ 0 := by
  intro lr hm
  obtain ⟨t, ht, rfl⟩ := (mem_walkPairs L ld _ lr).1 hm
  exact ⟨it_lt hwf (i := 1) (by omega) t ld hln, by rw [← it_succ']; exact cl.nz _,
    by rw [cl.pred hwf (Or.inl ⟨rfl, rfl⟩) hln t]; exact cl.nz _⟩

/-- **a successful 3-unsew keeps an embedded mesh embedded** (closed face of least period `L`, the property's proviso
    on the vertices of the unlinked map `m1`), whatever the configuration: every step of the splitting loop splits the
    value under the smallest dart of the class still to be split between the two new smallest darts
    (`UnsewnPairs`, `unsewnPairs_embP`) -/
theorem threeUnsew3_keeps_ready (cfg : Cfg X) {m m1 m' : Map X} {ld L : Nat} (R : Ready m) (hl : C02.InUse m ld)
    (cl : Cyc m 1 ld L) (hmin : ∀ t, 0 < t → t < L → it m 1 t ld ≠ ld)
    (hunl : run (threeUnlink3 (X := X) m.n ld) m = (.ok (), m1))
    (hfar : (pairsA m (walkPairs m 1 0 L ld (m.β 3 ld))).Pairwise (Far (SameCell (g3v m1) m.n)))
    (hrun : run (threeUnsew3 cfg m.n ld) m = (.ok (), m')) : Ready m' := by
  have hwf := R.wf
  have hM := R.mir
  obtain ⟨hl0, hln, hlu⟩ := hl
  have hhead := cyc_heads hwf hln cl (m.β 3 ld)
  obtain ⟨m1', lo, ro, mf, hunl', hfo, sF, hU, st⟩ := C05_threeUnsew3_effect cfg m.n ld m m' () R.fc hrun
  have e : m1' = m1 := by rw [hunl] at hunl'; simp at hunl'; exact hunl'.symm
  subst e
  obtain ⟨lo', ro', hw1, hne, hL, hn1, e1, e0, hfo', hlond, hzip, hps0, _, _, hverts, _, _, _, cr⟩ :=
    threeUnlink3_cells_at hwf hM hl0 hln cl hmin hunl
  obtain ⟨rfl, rfl⟩ := Prod.mk.inj (run_ok_inj hfo hfo')
  have hsh := (threeUnlink3_ok hwf hln hunl).2
  have hu1 : ∀ x, m1'.unused x = m.unused x := fun x => by unfold Map.unused; rw [hsh.u]
  have hps : ∀ lr, lr ∈ lo.zip ro → lr.1 ≠ 0 ∧ lr.1 < m1'.n ∧ lr.2 ≠ 0 ∧ lr.2 < m1'.n ∧ m1'.β 1 lr.1 ≠ 0 ∧
      m1'.β 0 lr.1 ≠ 0 ∧ m1'.unused (m1'.β 1 lr.1) = false := by
    intro lr hm
    have hm' := (hzip lr).1 hm
    obtain ⟨a1, a2, a3, a4, a5, a6, _⟩ := hps0 lr hm'
    obtain ⟨b1, b2, _⟩ := hhead lr hm'
    refine ⟨a1, a2, a3, a4, a5, a6, ?_⟩
    rw [hu1, e1]
    exact (hwf.image_inUse (i := 1) (by omega) b1 b2).2
  -- the vertex partition of `m`: that of the unlinked map with the pairs of the loop united
  have pa : ∀ ps, pairsA m1' ps = pairsA m ps := by
    intro ps; unfold pairsA; simp only [e1]
  have hmemA : ∀ x, x ∈ pairsA m (walkPairs m 1 0 L ld (m.β 3 ld)) ↔ x ∈ pairsA m1' (lo.zip ro) := by
    intro x
    rw [pa]
    unfold pairsA
    simp only [List.mem_map]
    constructor
    · rintro ⟨y, hy, rfl⟩; exact ⟨y, (hzip y).2 hy, rfl⟩
    · rintro ⟨y, hy, rfl⟩; exact ⟨y, (hzip y).1 hy, rfl⟩
  have hverts' : ∀ d e, SameCell (g3v m) m1'.n d e ↔
      Glue (SameCell (g3v m1') m1'.n) (pairsA m1' (lo.zip ro)) d e := by
    intro d e
    rw [hn1, hverts]
    constructor
    · exact Glue.mono fun x hx => (hmemA x).1 hx
    · exact Glue.mono fun x hx => (hmemA x).2 hx
  -- the proviso, in the order of the zipped walks
  have eqV := sameCell_equiv (g3v m1') m1'.n
  rw [← hn1] at hfar hU
  have hsep : (pairsA m1' (lo.zip ro)).Pairwise (Far (SameCell (g3v m1') m1'.n)) := by
    rw [pa]
    exact zip_pairwise_far hwf eqV hlond (fun pq => (hzip pq).1) (fun lr hm => ⟨(hhead lr hm).1, (hhead lr hm).2.1⟩) hfar
  have inu : ∀ d, C02.InUse m1' d → d ≠ 0 ∧ d < m.n ∧ m.unused d = false :=
    fun d hu => ⟨hu.1, by rw [← hn1]; exact hu.2.1, by rw [← hu1]; exact hu.2.2⟩
  have hnz : ∀ d v, C02.InUse m1' d → Glue (SameCell (g3v m1') m1'.n) (pairsA m1' (lo.zip ro)) d v → v ≠ 0 := by
    intro d v hu hg
    have := (hverts' d v).2 hg
    rw [hn1] at this
    exact (sameCell_ne_zero hwf (inu d hu).1 (inu d hu).2.1 this).1
  -- the face split does not touch the vertex values
  have hatt : ∀ v, mf.att 0 v = m.att 0 v := fun v => by
    rw [sF.other 0 v (C04.zero_notin_storagesOf _ _)]; unfold Map.att; rw [hsh.a]
  have hE : EmbP (Glue (SameCell (g3v m1') m1'.n) (pairsA m1' (lo.zip ro))) (C02.InUse m1') (fun v => mf.att 0 v) := by
    intro d v hu hmin
    show (mf.att 0 v).isSome = true
    rw [hatt]
    refine R.emb d v (inu d hu).1 (inu d hu).2.1 (inu d hu).2.2 ?_
    unfold IsVid3
    rw [← hn1]
    exact ⟨(hverts' d v).2 hmin.1, fun e he he0 => hmin.2 e ((hverts' d e).1 he) he0⟩
  obtain ⟨st', fc', E'⟩ := unsewnPairs_embP hw1 (lo.zip ro) mf m' sF.topo (by rw [sF.fc, hsh.fc]; exact R.fc)
    hps hsep hnz hE hU
  refine ⟨hw1.sameTopo st', st'.mirror (hsh.mirror hM), fc', by rw [st'.asz, hsh.a]; exact R.st0, ?_⟩
  intro d' v hd0 hd hu hvv
  have hvv1 : IsVid3 m1' d' v := (isVid3_sameTopo st' d' v).1 hvv
  refine E' d' v ⟨hd0, by rw [← st'.n]; exact hd, by rw [← st'.unused]; exact hu⟩ ?_
  unfold IsVid3 at hvv1
  exact ⟨.base hvv1.1, fun e he he0 => hvv1.2 e ((glue_nil eqV _ _).1 he) he0⟩

/-- **C05, 3-unsew succeeds on an embedded mesh**.  `ld` is 3-sewn, its face is closed (`Cyc`, of
    least period `L`), the map is well-formed, mirrored, its faces are 3-linked as a whole and not
    to themselves (`Sided3`, `hnsg`: C02b shows the guarded editing API keeps both), and embedded.
    Then `three_unlink` returns `Ok`; and under the property's proviso — no vertex of the unlinked
    map takes part in two of the `L` splits `(β1 l_t, r_t)` — the whole call returns `Ok` and the
    result is again well-formed, mirrored and embedded: every step of the splitting loop finds a
    value under the identifier it splits from (`min` of the two new identifiers = the smallest dart
    of the class still to be split) and leaves the two halves under the two new smallest darts
    (`UnsewnPairs` / `C05_threeUnsew3_cells` describe this run) -/
theorem C05_threeUnsew3_succeeds (cfg : Cfg X) (hc : PlainCfg cfg) (m : Map X) (ld L : Nat) (R : Ready m)
    (hS : Sided3 m) (hl : C02.InUse m ld) (hsewn : m.β 3 ld ≠ 0) (cl : Cyc m 1 ld L)
    (hmin : ∀ t, 0 < t → t < L → it m 1 t ld ≠ ld) (hnsg : ∀ t, it m 1 t ld ≠ m.β 3 ld) :
    ∃ m1, run (threeUnlink3 (X := X) m.n ld) m = (.ok (), m1) ∧
      ((pairsA m (walkPairs m 1 0 L ld (m.β 3 ld))).Pairwise (Far (SameCell (g3v m1) m.n)) →
        ∃ m', run (threeUnsew3 cfg m.n ld) m = (.ok (), m') ∧ Ready m') := by
  have hwf := R.wf
  have hhead := cyc_heads hwf hl.2.1 cl (m.β 3 ld)
  -- the call returns `Ok`: the only law called is the built-in one, on values that `Embedded` provides
  obtain ⟨m1, hunl, himp⟩ := threeUnsew3_succeeds_gen cfg m ld L hwf R.mir hS R.fc
    (fun t ht => by
      rcases ht with h | h | h
      · exact (stores_lt_plain hc R (k := 1) (by decide)).1 t h
      · exact (stores_lt_plain hc R (k := 1) (by decide)).2 t h
      · exact (stores_lt_plain hc R (k := 2) (by decide)).2 t h)
    hl hsewn cl hmin hnsg (fun f _ => splitOK_nil (hc.noUser 2 (by decide)) f m)
    (fun lr _ e _ => splitOK_nil (hc.noUser 1 (by decide)) e m)
    (fun x hx => by
      obtain ⟨lr, hm, rfl⟩ := List.mem_map.1 hx
      obtain ⟨a1, a2, _⟩ := hhead lr hm
      exact splitOK_embedded hc R a2 (hwf.range 1 (by omega) _ a1) (hwf.image_inUse (i := 1) (by omega) a1 a2).2)
  refine ⟨m1, hunl, fun hfar => ?_⟩
  obtain ⟨m', hrun⟩ := himp (fun h => absurd (hc.noUser 1 (by decide)) h) hfar
  exact ⟨m', hrun, threeUnsew3_keeps_ready cfg R hl cl hmin hunl hfar hrun⟩


/-! ## the open-face arms of the 2-sew / 2-unsew at cell level

  Outside the property's scope (closed faces), for completeness, mirroring Props/C04Cells2.lean.
  The general vertex partition is `Glue … (pairsV2 m l r)` (`vertex_cells_link2`): a dart without a
  successor contributes the pair with its β3 image instead (`headV`).  When the open dart is also
  3-free the pair disappears and the code's merges are exactly the unions of cells.  (When an open
  dart IS 3-linked, the 2-link unites two vertex cells more than the code merges: stated in the
  partition, no claim on the data.) -/

theorem pairsV2_free {m : Map X} {l r : Nat} (hbl : m.β 1 l = 0) (hbr : m.β 1 r = 0) (h3l : m.β 3 l = 0)
    (h3r : m.β 3 r = 0) : pairsV2 m l r = [] := by
  unfold pairsV2 headV; simp [hbl, hbr, h3l, h3r]

theorem pairsV2_left {m : Map X} {l r : Nat} (hbl : m.β 1 l = 0) (hbr : m.β 1 r ≠ 0) (h3l : m.β 3 l = 0) :
    pairsV2 m l r = [(l, m.β 1 r)] := by
  unfold pairsV2 headV; simp [hbl, hbr, h3l]

theorem pairsV2_right {m : Map X} {l r : Nat} (hbl : m.β 1 l ≠ 0) (hbr : m.β 1 r = 0) (h3r : m.β 3 r = 0) :
    pairsV2 m l r = [(r, m.β 1 l)] := by
  unfold pairsV2 headV; simp [hbl, hbr, h3r]

/-- the identifier of the edge made by a 2-link is the smaller of the two old identifiers -/
theorem eid_link2_min {m : Map X} (hwf : WF 4 m) {l r el er en : Nat} (hl0 : l ≠ 0) (hr0 : r ≠ 0) (hlr : l ≠ r)
    (hln : l < m.n) (hrn : r < m.n) (hlu : m.unused l = false) (hru : m.unused r = false)
    (h2l : m.β 2 l = 0) (h2r : m.β 2 r = 0)
    (s_el : IsEid3 m l el) (s_er : IsEid3 m r er) (s_en : IsEid3 (m.linkI 2 l r) l en) : en = min el er := by
  have hwf1 : WF 4 (m.linkI 2 l r) := hwf.linkI (by omega) (by omega) hl0 hr0 hlr hln hrn hlu hru h2l h2r
  have hn1 : (m.linkI 2 l r).n = m.n := rfl
  have he := edge_cells_link2 hwf hl0 hr0 hlr hln hrn h2l h2r
  exact id_of_union (sameCell_equiv (g3e m) m.n) he (List.pairwise_singleton _ _) (List.mem_singleton.2 rfl) s_el s_er
    s_en (sameCellE_ne_zero hwf1 hl0 (by rw [hn1]; exact hln) s_en.1) (sameCellE_ne_zero hwf hl0 hln s_el.1)
    (sameCellE_ne_zero hwf hr0 hrn s_er.1)

/-- **C05, 2-sew at cell level, neither dart has a successor**: only the edge storages merge
    `(el, er)` into `min el er`, the identifier of the new edge; no vertex value moves.  The vertex
    partition is unchanged when both darts are 3-free -/
theorem C05_twoSew3_cells_free (cfg : Cfg X) (n : Nat) (m m' : Map X) (l r : Nat) (u : Unit)
    (hwf : WF 4 m) (hl : C02.InUse m l) (hr : C02.InUse m r) (hlr : l ≠ r) (hfc : m.fc = 0)
    (hbl : m.β 1 l = 0) (hbr : m.β 1 r = 0)
    (h : run (twoSew3 cfg n l r) m = (.ok u, m')) :
    WF 4 (m.linkI 2 l r) ∧ SameTopo (m.linkI 2 l r) m' ∧
    (∀ d e, SameCell (g3v (m.linkI 2 l r)) m.n d e ↔ Glue (SameCell (g3v m) m.n) (pairsV2 m l r) d e) ∧
    (m.β 3 l = 0 → m.β 3 r = 0 →
      ∀ d e, SameCell (g3v (m.linkI 2 l r)) m.n d e ↔ SameCell (g3v m) m.n d e) ∧
    (∀ d e, SameCell (g3e (m.linkI 2 l r)) m.n d e ↔ Glue (SameCell (g3e m) m.n) [(l, r)] d e) ∧
    ∃ el er en, IsEid3 m l el ∧ IsEid3 m r er ∧ IsEid3 (m.linkI 2 l r) l en ∧ en = min el er ∧
      MergedIn cfg (eStores cfg) en el er (m.linkI 2 l r) m' := by
  obtain ⟨hl0, hln, hlu⟩ := hl
  obtain ⟨hr0, hrn, hru⟩ := hr
  obtain ⟨el, er, m1, en, hel, her, hlink, hen, hE⟩ := C05_twoSew3_free cfg n l r m m' u hfc hbl hbr h
  obtain ⟨_, _, h2l, h2r, hm1⟩ := iLinkCore_ok hlink
  have hm1' : m1 = m.linkI 2 l r := hm1
  subst hm1'
  have hwf1 : WF 4 (m.linkI 2 l r) := hwf.linkI (by omega) (by omega) hl0 hr0 hlr hln hrn hlu hru h2l h2r
  have hn1 : (m.linkI 2 l r).n = m.n := rfl
  have hv := vertex_cells_link2 hwf hl0 hr0 hlr hln hrn h2l h2r
  have s_el := (edgeId3_spec hwf hl0 hln hel).2
  have s_er := (edgeId3_spec hwf hr0 hrn her).2
  have s_en := (edgeId3_spec hwf1 hl0 (by rw [hn1]; exact hln) hen).2
  refine ⟨hwf1, hE.topo, hv, ?_, edge_cells_link2 hwf hl0 hr0 hlr hln hrn h2l h2r, el, er, en, s_el, s_er, s_en,
    eid_link2_min hwf hl0 hr0 hlr hln hrn hlu hru h2l h2r s_el s_er s_en, hE⟩
  intro h3l h3r d e
  rw [hv, pairsV2_free hbl hbr h3l h3r]
  exact glue_nil (sameCell_equiv (g3v m) m.n) d e

/-- **C05, 2-sew at cell level, only `r` has a successor**: the vertex values of `l` and `β1 r`
    are merged under the new vertex identifier of `l`; when `l` is 3-free the cells of `l` and
    `β1 r` are united, nothing else changes, and that identifier is the smaller of the two old ones -/
theorem C05_twoSew3_cells_left (cfg : Cfg X) (n : Nat) (m m' : Map X) (l r : Nat) (u : Unit)
    (hwf : WF 4 m) (hl : C02.InUse m l) (hr : C02.InUse m r) (hlr : l ≠ r) (hfc : m.fc = 0)
    (hbl : m.β 1 l = 0) (hbr : m.β 1 r ≠ 0)
    (h : run (twoSew3 cfg n l r) m = (.ok u, m')) :
    WF 4 (m.linkI 2 l r) ∧ SameTopo (m.linkI 2 l r) m' ∧
    (∀ d e, SameCell (g3v (m.linkI 2 l r)) m.n d e ↔ Glue (SameCell (g3v m) m.n) (pairsV2 m l r) d e) ∧
    (∀ d e, SameCell (g3e (m.linkI 2 l r)) m.n d e ↔ Glue (SameCell (g3e m) m.n) [(l, r)] d e) ∧
    ∃ el er lv b1rv lvn en ma, IsEid3 m l el ∧ IsEid3 m r er ∧ IsVid3 m l lv ∧ IsVid3 m (m.β 1 r) b1rv ∧
      IsVid3 (m.linkI 2 l r) l lvn ∧ IsEid3 (m.linkI 2 l r) l en ∧ en = min el er ∧
      (m.β 3 l = 0 →
        (∀ d e, SameCell (g3v (m.linkI 2 l r)) m.n d e ↔ Glue (SameCell (g3v m) m.n) [(l, m.β 1 r)] d e) ∧
        lvn = min lv b1rv) ∧
      MergedIn cfg (vStores cfg) lvn lv b1rv (m.linkI 2 l r) ma ∧ MergedIn cfg (eStores cfg) en el er ma m' := by
  obtain ⟨hl0, hln, hlu⟩ := hl
  obtain ⟨hr0, hrn, hru⟩ := hr
  have han : m.β 1 r < m.n := hwf.range 1 (by omega) r hrn
  obtain ⟨el, er, lv, b1rv, m1, lvn, en, ma, hel, her, hlv, hb1rv, hlink, hlvn, hen, hV, hE⟩ :=
    C05_twoSew3_left cfg n l r m m' u hfc hbl hbr h
  obtain ⟨_, _, h2l, h2r, hm1⟩ := iLinkCore_ok hlink
  have hm1' : m1 = m.linkI 2 l r := hm1
  subst hm1'
  have hwf1 : WF 4 (m.linkI 2 l r) := hwf.linkI (by omega) (by omega) hl0 hr0 hlr hln hrn hlu hru h2l h2r
  have hn1 : (m.linkI 2 l r).n = m.n := rfl
  have hv := vertex_cells_link2 hwf hl0 hr0 hlr hln hrn h2l h2r
  have s_el := (edgeId3_spec hwf hl0 hln hel).2
  have s_er := (edgeId3_spec hwf hr0 hrn her).2
  have s_en := (edgeId3_spec hwf1 hl0 (by rw [hn1]; exact hln) hen).2
  have s_lv := (vertexId3_spec hwf hl0 hln hlv).2
  have s_b1rv := (vertexId3_spec hwf hbr han hb1rv).2
  have s_lvn := (vertexId3_spec hwf1 hl0 (by rw [hn1]; exact hln) hlvn).2
  refine ⟨hwf1, hV.topo.trans hE.topo, hv, edge_cells_link2 hwf hl0 hr0 hlr hln hrn h2l h2r, el, er, lv, b1rv, lvn, en,
    ma, s_el, s_er, s_lv, s_b1rv, s_lvn, s_en,
    eid_link2_min hwf hl0 hr0 hlr hln hrn hlu hru h2l h2r s_el s_er s_en, ?_, hV, hE⟩
  intro h3l
  have hv' : ∀ d e, SameCell (g3v (m.linkI 2 l r)) m.n d e ↔ Glue (SameCell (g3v m) m.n) [(l, m.β 1 r)] d e := by
    intro d e; rw [hv, pairsV2_left hbl hbr h3l]
  exact ⟨hv', id_of_union (sameCell_equiv (g3v m) m.n) hv' (List.pairwise_singleton _ _) (List.mem_singleton.2 rfl)
    s_lv s_b1rv s_lvn (s_lvn.ne_zero hwf1 hl0 (by rw [hn1]; exact hln)) (s_lv.ne_zero hwf hl0 hln)
    (s_b1rv.ne_zero hwf hbr han)⟩

/-- **C05, 2-sew at cell level, only `l` has a successor** (mirror case) -/
theorem C05_twoSew3_cells_right (cfg : Cfg X) (n : Nat) (m m' : Map X) (l r : Nat) (u : Unit)
    (hwf : WF 4 m) (hl : C02.InUse m l) (hr : C02.InUse m r) (hlr : l ≠ r) (hfc : m.fc = 0)
    (hbl : m.β 1 l ≠ 0) (hbr : m.β 1 r = 0)
    (h : run (twoSew3 cfg n l r) m = (.ok u, m')) :
    WF 4 (m.linkI 2 l r) ∧ SameTopo (m.linkI 2 l r) m' ∧
    (∀ d e, SameCell (g3v (m.linkI 2 l r)) m.n d e ↔ Glue (SameCell (g3v m) m.n) (pairsV2 m l r) d e) ∧
    (∀ d e, SameCell (g3e (m.linkI 2 l r)) m.n d e ↔ Glue (SameCell (g3e m) m.n) [(l, r)] d e) ∧
    ∃ el er b1lv rv rvn en ma, IsEid3 m l el ∧ IsEid3 m r er ∧ IsVid3 m (m.β 1 l) b1lv ∧ IsVid3 m r rv ∧
      IsVid3 (m.linkI 2 l r) r rvn ∧ IsEid3 (m.linkI 2 l r) l en ∧ en = min el er ∧
      (m.β 3 r = 0 →
        (∀ d e, SameCell (g3v (m.linkI 2 l r)) m.n d e ↔ Glue (SameCell (g3v m) m.n) [(r, m.β 1 l)] d e) ∧
        rvn = min b1lv rv) ∧
      MergedIn cfg (vStores cfg) rvn b1lv rv (m.linkI 2 l r) ma ∧ MergedIn cfg (eStores cfg) en el er ma m' := by
  obtain ⟨hl0, hln, hlu⟩ := hl
  obtain ⟨hr0, hrn, hru⟩ := hr
  have hbn : m.β 1 l < m.n := hwf.range 1 (by omega) l hln
  obtain ⟨el, er, b1lv, rv, m1, rvn, en, ma, hel, her, hb1lv, hrv, hlink, hrvn, hen, hV, hE⟩ :=
    C05_twoSew3_right cfg n l r m m' u hfc hbl hbr h
  obtain ⟨_, _, h2l, h2r, hm1⟩ := iLinkCore_ok hlink
  have hm1' : m1 = m.linkI 2 l r := hm1
  subst hm1'
  have hwf1 : WF 4 (m.linkI 2 l r) := hwf.linkI (by omega) (by omega) hl0 hr0 hlr hln hrn hlu hru h2l h2r
  have hn1 : (m.linkI 2 l r).n = m.n := rfl
  have hv := vertex_cells_link2 hwf hl0 hr0 hlr hln hrn h2l h2r
  have s_el := (edgeId3_spec hwf hl0 hln hel).2
  have s_er := (edgeId3_spec hwf hr0 hrn her).2
  have s_en := (edgeId3_spec hwf1 hl0 (by rw [hn1]; exact hln) hen).2
  have s_b1lv := (vertexId3_spec hwf hbl hbn hb1lv).2
  have s_rv := (vertexId3_spec hwf hr0 hrn hrv).2
  have s_rvn := (vertexId3_spec hwf1 hr0 (by rw [hn1]; exact hrn) hrvn).2
  refine ⟨hwf1, hV.topo.trans hE.topo, hv, edge_cells_link2 hwf hl0 hr0 hlr hln hrn h2l h2r, el, er, b1lv, rv, rvn, en,
    ma, s_el, s_er, s_b1lv, s_rv, s_rvn, s_en,
    eid_link2_min hwf hl0 hr0 hlr hln hrn hlu hru h2l h2r s_el s_er s_en, ?_, hV, hE⟩
  intro h3r
  have hv' : ∀ d e, SameCell (g3v (m.linkI 2 l r)) m.n d e ↔ Glue (SameCell (g3v m) m.n) [(r, m.β 1 l)] d e := by
    intro d e; rw [hv, pairsV2_right hbl hbr h3r]
  refine ⟨hv', ?_⟩
  rw [Nat.min_comm]
  exact id_of_union (sameCell_equiv (g3v m) m.n) hv' (List.pairwise_singleton _ _) (List.mem_singleton.2 rfl)
    s_rv s_b1lv s_rvn (s_rvn.ne_zero hwf1 hr0 (by rw [hn1]; exact hrn)) (s_rv.ne_zero hwf hr0 hrn)
    (s_b1lv.ne_zero hwf hbl hbn)


/-- what every arm of the 2-unsew shares: the 2-unlink, the partitions read backwards, the edge split -/
theorem twoUnsew3_common (cfg : Cfg X) (n : Nat) (m m' : Map X) (l : Nat) (u : Unit)
    (hwf : WF 4 m) (hl : C02.InUse m l) (hfc : m.fc = 0)
    (h : run (twoUnsew3 cfg n l) m = (.ok u, m')) :
    m.β 2 l ≠ 0 ∧ WF 4 (m.unlinkI 2 l) ∧ SameTopo (m.unlinkI 2 l) m' ∧
    (∀ d e, SameCell (g3v m) m.n d e ↔
      Glue (SameCell (g3v (m.unlinkI 2 l)) m.n) (pairsV2 (m.unlinkI 2 l) l (m.β 2 l)) d e) ∧
    (∀ d e, SameCell (g3e m) m.n d e ↔ Glue (SameCell (g3e (m.unlinkI 2 l)) m.n) [(l, m.β 2 l)] d e) ∧
    ∃ eold enl enr me, IsEid3 m l eold ∧ IsEid3 (m.unlinkI 2 l) l enl ∧ IsEid3 (m.unlinkI 2 l) (m.β 2 l) enr ∧
      eold = min enl enr ∧ SplitIn cfg (eStores cfg) enl enr eold (m.unlinkI 2 l) me ∧
      ((m.β 1 l = 0 ∧ m.β 1 (m.β 2 l) = 0 ∧ m' = me) ∨
       (m.β 1 l = 0 ∧ m.β 1 (m.β 2 l) ≠ 0 ∧ ∃ lvold a b,
          IsVid3 m l lvold ∧ IsVid3 (m.unlinkI 2 l) l a ∧ IsVid3 (m.unlinkI 2 l) (m.β 1 (m.β 2 l)) b ∧
          SplitIn cfg (vStores cfg) a b lvold me m') ∨
       (m.β 1 l ≠ 0 ∧ m.β 1 (m.β 2 l) = 0 ∧ ∃ rvold a b,
          IsVid3 m (m.β 2 l) rvold ∧ IsVid3 (m.unlinkI 2 l) (m.β 1 l) a ∧ IsVid3 (m.unlinkI 2 l) (m.β 2 l) b ∧
          SplitIn cfg (vStores cfg) a b rvold me m') ∨
       (m.β 1 l ≠ 0 ∧ m.β 1 (m.β 2 l) ≠ 0)) := by
  obtain ⟨hl0, hln, hlu⟩ := hl
  obtain ⟨eold, m1, enl, enr, me, he, hunl, henl, henr, hE, htopo, hcase⟩ :=
    C05_twoUnsew3_effect cfg n l m m' u hfc h
  obtain ⟨_, _, hne, hm1⟩ := iUnlinkCore_ok hunl
  have hm1' : m1 = m.unlinkI 2 l := hm1
  subst hm1'
  have ir := hwf.image_inUse (i := 2) (by omega) hln hne
  have hrn := ir.1
  have hwf1 : WF 4 (m.unlinkI 2 l) := hwf.unlinkI (by omega) (by omega) hln hne
  have hn1 : (m.unlinkI 2 l).n = m.n := rfl
  have han : m.β 1 (m.β 2 l) < m.n := hwf.range 1 (by omega) _ hrn
  have hbn : m.β 1 l < m.n := hwf.range 1 (by omega) l hln
  obtain ⟨hv, hee⟩ := cells_unlink2 hwf hl0 hln hne
  have ste : SameTopo (m.unlinkI 2 l) me := hE.topo
  have hwfe : WF 4 me := hwf1.sameTopo ste
  have hne' : me.n = m.n := ste.n
  have s_eold := (edgeId3_spec hwf hl0 hln he).2
  have s_enl := (edgeId3_spec hwf1 hl0 (by rw [hn1]; exact hln) henl).2
  have s_enr := (edgeId3_spec hwf1 hne (by rw [hn1]; exact hrn) henr).2
  have hold : eold = min enl enr :=
    id_of_union (sameCell_equiv (g3e (m.unlinkI 2 l)) m.n) hee (List.pairwise_singleton _ _)
      (List.mem_singleton.2 rfl) s_enl s_enr s_eold (sameCellE_ne_zero hwf hl0 hln s_eold.1)
      (sameCellE_ne_zero hwf1 hl0 (by rw [hn1]; exact hln) s_enl.1)
      (sameCellE_ne_zero hwf1 hne (by rw [hn1]; exact hrn) s_enr.1)
  refine ⟨hne, hwf1, htopo, hv, hee, eold, enl, enr, me, s_eold, s_enl, s_enr, hold, hE, ?_⟩
  rcases hcase with ⟨c1, c2, c3⟩ | ⟨c1, c2, lvold, a, b, hlv, ha, hb, hS⟩ | ⟨c1, c2, rvold, a, b, hrv, ha, hb, hS⟩ |
      ⟨c1, c2, _⟩
  · exact Or.inl ⟨c1, c2, c3⟩
  · refine Or.inr (Or.inl ⟨c1, c2, lvold, a, b, (vertexId3_spec hwf hl0 hln hlv).2, ?_, ?_, hS⟩)
    · exact (isVid3_sameTopo ste _ _).1 (vertexId3_spec hwfe hl0 (by rw [hne']; exact hln) ha).2
    · exact (isVid3_sameTopo ste _ _).1 (vertexId3_spec hwfe c2 (by rw [hne']; exact han) hb).2
  · refine Or.inr (Or.inr (Or.inl ⟨c1, c2, rvold, a, b, (vertexId3_spec hwf hne hrn hrv).2, ?_, ?_, hS⟩))
    · exact (isVid3_sameTopo ste _ _).1 (vertexId3_spec hwfe c1 (by rw [hne']; exact hbn) ha).2
    · exact (isVid3_sameTopo ste _ _).1 (vertexId3_spec hwfe hne (by rw [hne']; exact hrn) hb).2
  · exact Or.inr (Or.inr (Or.inr ⟨c1, c2⟩))

/-- **C05, 2-unsew at cell level, neither dart has a successor**: only the edge storages split
    `min enl enr` — the old edge identifier — between the two new edge identifiers; the vertex
    partition is unchanged when both darts are 3-free -/
theorem C05_twoUnsew3_cells_free (cfg : Cfg X) (n : Nat) (m m' : Map X) (l : Nat) (u : Unit)
    (hwf : WF 4 m) (hl : C02.InUse m l) (hfc : m.fc = 0)
    (hbl : m.β 1 l = 0) (hbr : m.β 1 (m.β 2 l) = 0)
    (h : run (twoUnsew3 cfg n l) m = (.ok u, m')) :
    m.β 2 l ≠ 0 ∧ WF 4 (m.unlinkI 2 l) ∧ SameTopo (m.unlinkI 2 l) m' ∧
    (m.β 3 l = 0 → m.β 3 (m.β 2 l) = 0 →
      ∀ d e, SameCell (g3v m) m.n d e ↔ SameCell (g3v (m.unlinkI 2 l)) m.n d e) ∧
    (∀ d e, SameCell (g3e m) m.n d e ↔ Glue (SameCell (g3e (m.unlinkI 2 l)) m.n) [(l, m.β 2 l)] d e) ∧
    ∃ eold enl enr, IsEid3 m l eold ∧ IsEid3 (m.unlinkI 2 l) l enl ∧ IsEid3 (m.unlinkI 2 l) (m.β 2 l) enr ∧
      eold = min enl enr ∧ SplitIn cfg (eStores cfg) enl enr eold (m.unlinkI 2 l) m' := by
  obtain ⟨hne, hwf1, htopo, hv, hee, eold, enl, enr, me, s1, s2, s3, hold, hE, hcase⟩ :=
    twoUnsew3_common cfg n m m' l u hwf hl hfc h
  have hrn := hwf.range 2 (by omega) l hl.2.1
  have eβ := hwf.toSized.β_unlinkI (i := 2) (by omega) hl.2.1 hrn
  have h1 : ∀ e, (m.unlinkI 2 l).β 1 e = m.β 1 e := by intro e; rw [eβ]; simp
  have h3 : ∀ e, (m.unlinkI 2 l).β 3 e = m.β 3 e := by intro e; rw [eβ]; simp
  have hme : m' = me := by
    rcases hcase with ⟨_, _, c⟩ | ⟨_, c, _⟩ | ⟨c, _⟩ | ⟨c, _⟩
    · exact c
    · exact absurd hbr c
    · exact absurd hbl c
    · exact absurd hbl c
  subst hme
  refine ⟨hne, hwf1, htopo, ?_, hee, eold, enl, enr, s1, s2, s3, hold, hE⟩
  intro h3l h3r d e
  rw [hv, pairsV2_free (by rw [h1]; exact hbl) (by rw [h1]; exact hbr) (by rw [h3]; exact h3l)
    (by rw [h3]; exact h3r)]
  exact glue_nil (sameCell_equiv (g3v (m.unlinkI 2 l)) m.n) d e

/-- **C05, 2-unsew at cell level, only `r = β2 l` has a successor**: the old vertex value of `l`
    is split between the new identifiers of `l` and of `β1 r`; when `l` is 3-free the old cell of
    `l` is the union of these two cells and its identifier the smaller of the two -/
theorem C05_twoUnsew3_cells_left (cfg : Cfg X) (n : Nat) (m m' : Map X) (l : Nat) (u : Unit)
    (hwf : WF 4 m) (hl : C02.InUse m l) (hfc : m.fc = 0)
    (hbl : m.β 1 l = 0) (hbr : m.β 1 (m.β 2 l) ≠ 0)
    (h : run (twoUnsew3 cfg n l) m = (.ok u, m')) :
    m.β 2 l ≠ 0 ∧ WF 4 (m.unlinkI 2 l) ∧ SameTopo (m.unlinkI 2 l) m' ∧
    (∀ d e, SameCell (g3e m) m.n d e ↔ Glue (SameCell (g3e (m.unlinkI 2 l)) m.n) [(l, m.β 2 l)] d e) ∧
    ∃ eold enl enr lvold a b me, IsEid3 m l eold ∧ IsEid3 (m.unlinkI 2 l) l enl ∧
      IsEid3 (m.unlinkI 2 l) (m.β 2 l) enr ∧ eold = min enl enr ∧
      IsVid3 m l lvold ∧ IsVid3 (m.unlinkI 2 l) l a ∧ IsVid3 (m.unlinkI 2 l) (m.β 1 (m.β 2 l)) b ∧
      (m.β 3 l = 0 →
        (∀ d e, SameCell (g3v m) m.n d e ↔
          Glue (SameCell (g3v (m.unlinkI 2 l)) m.n) [(l, m.β 1 (m.β 2 l))] d e) ∧ lvold = min a b) ∧
      SplitIn cfg (eStores cfg) enl enr eold (m.unlinkI 2 l) me ∧ SplitIn cfg (vStores cfg) a b lvold me m' := by
  obtain ⟨hne, hwf1, htopo, hv, hee, eold, enl, enr, me, s1, s2, s3, hold, hE, hcase⟩ :=
    twoUnsew3_common cfg n m m' l u hwf hl hfc h
  obtain ⟨hl0, hln, hlu⟩ := hl
  have hrn := hwf.range 2 (by omega) l hln
  have han : m.β 1 (m.β 2 l) < m.n := hwf.range 1 (by omega) _ hrn
  have hn1 : (m.unlinkI 2 l).n = m.n := rfl
  have eβ := hwf.toSized.β_unlinkI (i := 2) (by omega) hln hrn
  have h1 : ∀ e, (m.unlinkI 2 l).β 1 e = m.β 1 e := by intro e; rw [eβ]; simp
  have h3 : ∀ e, (m.unlinkI 2 l).β 3 e = m.β 3 e := by intro e; rw [eβ]; simp
  rcases hcase with ⟨_, c, _⟩ | ⟨_, _, lvold, a, b, sl, sa, sb, hS⟩ | ⟨c, _⟩ | ⟨c, _⟩
  · exact absurd c hbr
  · refine ⟨hne, hwf1, htopo, hee, eold, enl, enr, lvold, a, b, me, s1, s2, s3, hold, sl, sa, sb, ?_, hE, hS⟩
    intro h3l
    have hv' : ∀ d e, SameCell (g3v m) m.n d e ↔
        Glue (SameCell (g3v (m.unlinkI 2 l)) m.n) [(l, m.β 1 (m.β 2 l))] d e := by
      intro d e
      rw [hv, pairsV2_left (by rw [h1]; exact hbl) (by rw [h1]; exact hbr) (by rw [h3]; exact h3l), h1]
    exact ⟨hv', id_of_union (sameCell_equiv (g3v (m.unlinkI 2 l)) m.n) hv' (List.pairwise_singleton _ _)
      (List.mem_singleton.2 rfl) sa sb sl (sl.ne_zero hwf hl0 hln) (sa.ne_zero hwf1 hl0 (by rw [hn1]; exact hln))
      (sb.ne_zero hwf1 hbr (by rw [hn1]; exact han))⟩
  · exact absurd hbl c
  · exact absurd hbl c

/-- **C05, 2-unsew at cell level, only `l` has a successor** (mirror case) -/
theorem C05_twoUnsew3_cells_right (cfg : Cfg X) (n : Nat) (m m' : Map X) (l : Nat) (u : Unit)
    (hwf : WF 4 m) (hl : C02.InUse m l) (hfc : m.fc = 0)
    (hbl : m.β 1 l ≠ 0) (hbr : m.β 1 (m.β 2 l) = 0)
    (h : run (twoUnsew3 cfg n l) m = (.ok u, m')) :
    m.β 2 l ≠ 0 ∧ WF 4 (m.unlinkI 2 l) ∧ SameTopo (m.unlinkI 2 l) m' ∧
    (∀ d e, SameCell (g3e m) m.n d e ↔ Glue (SameCell (g3e (m.unlinkI 2 l)) m.n) [(l, m.β 2 l)] d e) ∧
    ∃ eold enl enr rvold a b me, IsEid3 m l eold ∧ IsEid3 (m.unlinkI 2 l) l enl ∧
      IsEid3 (m.unlinkI 2 l) (m.β 2 l) enr ∧ eold = min enl enr ∧
      IsVid3 m (m.β 2 l) rvold ∧ IsVid3 (m.unlinkI 2 l) (m.β 1 l) a ∧ IsVid3 (m.unlinkI 2 l) (m.β 2 l) b ∧
      (m.β 3 (m.β 2 l) = 0 →
        (∀ d e, SameCell (g3v m) m.n d e ↔
          Glue (SameCell (g3v (m.unlinkI 2 l)) m.n) [(m.β 2 l, m.β 1 l)] d e) ∧ rvold = min a b) ∧
      SplitIn cfg (eStores cfg) enl enr eold (m.unlinkI 2 l) me ∧ SplitIn cfg (vStores cfg) a b rvold me m' := by
  obtain ⟨hne, hwf1, htopo, hv, hee, eold, enl, enr, me, s1, s2, s3, hold, hE, hcase⟩ :=
    twoUnsew3_common cfg n m m' l u hwf hl hfc h
  obtain ⟨hl0, hln, hlu⟩ := hl
  have hrn := hwf.range 2 (by omega) l hln
  have hbn : m.β 1 l < m.n := hwf.range 1 (by omega) l hln
  have hn1 : (m.unlinkI 2 l).n = m.n := rfl
  have eβ := hwf.toSized.β_unlinkI (i := 2) (by omega) hln hrn
  have h1 : ∀ e, (m.unlinkI 2 l).β 1 e = m.β 1 e := by intro e; rw [eβ]; simp
  have h3 : ∀ e, (m.unlinkI 2 l).β 3 e = m.β 3 e := by intro e; rw [eβ]; simp
  rcases hcase with ⟨c, _⟩ | ⟨c, _⟩ | ⟨_, _, rvold, a, b, sr, sa, sb, hS⟩ | ⟨_, c⟩
  · exact absurd c hbl
  · exact absurd c hbl
  · refine ⟨hne, hwf1, htopo, hee, eold, enl, enr, rvold, a, b, me, s1, s2, s3, hold, sr, sa, sb, ?_, hE, hS⟩
    intro h3r
    have hv' : ∀ d e, SameCell (g3v m) m.n d e ↔
        Glue (SameCell (g3v (m.unlinkI 2 l)) m.n) [(m.β 2 l, m.β 1 l)] d e := by
      intro d e
      rw [hv, pairsV2_right (by rw [h1]; exact hbl) (by rw [h1]; exact hbr) (by rw [h3]; exact h3r), h1]
    refine ⟨hv', ?_⟩
    rw [Nat.min_comm]
    exact id_of_union (sameCell_equiv (g3v (m.unlinkI 2 l)) m.n) hv' (List.pairwise_singleton _ _)
      (List.mem_singleton.2 rfl) sb sa sr (sr.ne_zero hwf hne hrn) (sb.ne_zero hwf1 hne (by rw [hn1]; exact hrn))
      (sa.ne_zero hwf1 hbl (by rw [hn1]; exact hbn))
  · exact absurd hbr c


/-! ## non-vacuity -/

/-- no user storages, the `Vertex3` law on the built-in vertices -/
def plainCfg : Cfg Val := stdCfg 4 0

theorem plainCfg_plain : PlainCfg plainCfg := ⟨by decide, fun x => ⟨x, x, rfl⟩⟩

/-- two tetrahedra (darts 1–12 and 13–24, faces of three darts) 3-sewn along the faces
    `(1, 2, 3)` / `(14, 13, 15)`; the five vertices carry coordinates at their identifiers -/
def exTets : Map Val :=
  { (Map.empty 4 1 25 : Map Val) with
    b := #[#[0, 3, 1, 2, 6, 4, 5, 9, 7, 8, 12, 10, 11, 15, 13, 14, 18, 16, 17, 21, 19, 20, 24, 22, 23],
           #[0, 2, 3, 1, 5, 6, 4, 8, 9, 7, 11, 12, 10, 14, 15, 13, 17, 18, 16, 20, 21, 19, 23, 24, 22],
           #[0, 10, 7, 4, 3, 9, 11, 2, 12, 5, 1, 6, 8, 20, 23, 17, 21, 15, 22, 24, 13, 16, 18, 14, 19],
           #[0, 14, 13, 15, 0, 0, 0, 0, 0, 0, 0, 0, 0, 2, 1, 3, 0, 0, 0, 0, 0, 0, 0, 0, 0]]
    a := #[#[none, some (.pt 0 0 0), some (.pt 0 1 0), some (.pt 1 0 0), none, none, some (.pt 0 0 1), none, none,
             none, none, none, none, none, none, none, some (.pt 0 0 (-1)), none, none, none, none, none, none,
             none, none]] }

theorem exTets_wf : WF 4 exTets := by decide +kernel

theorem exTets_ready : Ready exTets :=
  ⟨exTets_wf, by decide +kernel, rfl, by decide, embedded_of_cellId3 exTets_wf (by decide +kernel)⟩

theorem exTets_sided : Sided3 exTets := by decide +kernel

example : Sided3 exTets := exTets_sided

/-- 1-unsew of a dart of a free face of the first tetrahedron -/
example : ∃ m', run (oneUnsew3 plainCfg exTets.n 4) exTets = (.ok (), m') ∧ Ready m' :=
  have ⟨u, sewn, adj⟩ : C02.InUse exTets 4 ∧ exTets.β 1 4 ≠ 0 ∧ exTets.β 3 4 ≠ exTets.β 1 4 := by decide +kernel
  C05_oneUnsew3_succeeds plainCfg plainCfg_plain exTets 4 exTets_ready u sewn adj

/-- 2-unsew of an edge between two free faces of the first tetrahedron: its end points stay two
    different vertices -/
example : ∃ m', run (twoUnsew3 plainCfg exTets.n 4) exTets = (.ok (), m') ∧ Ready m' :=
  have ⟨u, sewn, bl, br⟩ : C02.InUse exTets 4 ∧ exTets.β 2 4 ≠ 0 ∧ exTets.β 1 4 ≠ 0 ∧
      exTets.β 1 (exTets.β 2 4) ≠ 0 := by decide +kernel
  have ⟨vl, vr, far⟩ : ValidPair (exTets.unlinkI 2 4) (4, exTets.β 1 (exTets.β 2 4)) ∧
      ValidPair (exTets.unlinkI 2 4) (exTets.β 2 4, exTets.β 1 4) ∧
      CidFar (exTets.unlinkI 2 4) (4, exTets.β 1 (exTets.β 2 4)) (exTets.β 2 4, exTets.β 1 4) := by decide +kernel
  C05_twoUnsew3_succeeds plainCfg plainCfg_plain exTets 4 exTets_ready u sewn bl br
    (far_of_cellId3 (exTets_wf.unlinkI (by decide) (by decide) u.2.1 sewn) rfl vl vr far)

/-- 3-unsew of the two tetrahedra: the glued face has three darts, its three vertices split into six -/
example : ∃ m', run (threeUnsew3 plainCfg exTets.n 1) exTets = (.ok (), m') ∧ Ready m' := by
  have ⟨per, u, sewn, hmin, hnsg⟩ : it exTets 1 3 1 = 1 ∧ C02.InUse exTets 1 ∧ exTets.β 3 1 ≠ 0 ∧
      (∀ t, t < 3 → 0 < t → it exTets 1 t 1 ≠ 1) ∧ (∀ t, t < 3 → it exTets 1 t 1 ≠ exTets.β 3 1) := by
    decide +kernel
  have cl : Cyc exTets 1 1 3 := cyc_of_period exTets_wf (by decide) per (by decide)
  obtain ⟨m1, h1, himp⟩ := C05_threeUnsew3_succeeds plainCfg plainCfg_plain exTets 1 3 exTets_ready
    exTets_sided u sewn cl (fun t h0 ht => hmin t ht h0) (cyc_all_of_lt cl hnsg)
  obtain ⟨_, _, hL, _, _, _, _, wf⟩ := threeUnlink3_unlinked_closed exTets_wf exTets_ready.mir u.2.1 cl.nz h1
  have e : m1 = (run (threeUnlink3 (X := Val) exTets.n 1) exTets).2 := by rw [h1]
  subst e
  have ⟨vp, far⟩ : (∀ p, p ∈ pairsA exTets (walkPairs exTets 1 0 3 1 (exTets.β 3 1)) →
        ValidPair (run (threeUnlink3 (X := Val) exTets.n 1) exTets).2 p) ∧
      (pairsA exTets (walkPairs exTets 1 0 3 1 (exTets.β 3 1))).Pairwise
        (CidFar (run (threeUnlink3 (X := Val) exTets.n 1) exTets).2) := by decide +kernel
  exact himp (pairwise_far_of_cellId3 wf hL.n vp far)

/-- the two tetrahedra, 3-unsewn: six vertices on the two free faces; sewing them again satisfies
    the cell-level proviso (three pairs of six different vertices) -/
def exTetsOpen : Map Val := (run (threeUnsew3 plainCfg exTets.n 1) exTets).2

theorem exTetsOpen_facts : (run (threeUnsew3 plainCfg exTets.n 1) exTets).1 = .ok () ∧
    WF 4 exTetsOpen ∧ C02.InUse exTetsOpen 1 ∧ C02.InUse exTetsOpen 14 ∧ exTetsOpen.fc = 0 ∧
    it exTetsOpen 1 3 1 = 1 ∧ (run (threeSew3 plainCfg exTetsOpen.n 1 14) exTetsOpen).1 = .ok () ∧
    (∀ p, p ∈ pairsA exTetsOpen (walkPairs exTetsOpen 1 0 3 1 14) → ValidPair exTetsOpen p) ∧
    (pairsA exTetsOpen (walkPairs exTetsOpen 1 0 3 1 14)).Pairwise (CidFar exTetsOpen) := by decide +kernel

example : (run (threeUnsew3 plainCfg exTets.n 1) exTets).1 = .ok () ∧
    (run (threeSew3 plainCfg exTetsOpen.n 1 14) exTetsOpen).1 = .ok () :=
  ⟨exTetsOpen_facts.1, exTetsOpen_facts.2.2.2.2.2.2.1⟩
example :=
  have ⟨_, wf, l, r, fc, per, ok, _⟩ := exTetsOpen_facts
  C05_threeSew3_vertices_far plainCfg exTetsOpen (run (threeSew3 plainCfg exTetsOpen.n 1 14) exTetsOpen).2
    1 14 () wf l r (by decide) fc
    (periodic_nz (L := 3) (wf.null 1 (by decide)) (by decide) per (by decide)) (run_of_fst ok)
example : (pairsA exTetsOpen (walkPairs exTetsOpen 1 0 3 1 14)).Pairwise
    (Far (SameCell (g3v exTetsOpen) exTetsOpen.n)) :=
  have ⟨_, wf, _, _, _, _, _, vp, far⟩ := exTetsOpen_facts
  pairwise_far_of_cellId3 wf rfl vp far

theorem exMap_sew2_open_facts : C02.InUse C02.exMap 14 ∧ C02.InUse C02.exMap 13 ∧
    C02.InUse C02.exMap 11 ∧ C02.exMap.β 1 14 = 0 ∧ C02.exMap.β 1 13 = 0 ∧ C02.exMap.β 1 11 ≠ 0 ∧
    (run (twoSew3 C02.exCfg 16 14 13) C02.exMap).1 = .ok () ∧
    (run (twoSew3 C02.exCfg 16 14 11) C02.exMap).1 = .ok () ∧
    (run (twoSew3 C02.exCfg 16 11 14) C02.exMap).1 = .ok () := by decide +kernel

open HC.C02 (exMap exCfg) in
/-- `C02.exMap`: the free dart 14 and the open chain 11-12-13 (13 has no successor) -/
example : (run (twoSew3 exCfg 16 14 13) exMap).1 = .ok () ∧ (run (twoSew3 exCfg 16 14 11) exMap).1 = .ok () ∧
    (run (twoSew3 exCfg 16 11 14) exMap).1 = .ok () := exMap_sew2_open_facts.2.2.2.2.2.2
open HC.C02 (exMap exCfg) in
example :=
  have ⟨u14, u13, _, b14, b13, _, ok, _⟩ := exMap_sew2_open_facts
  C05_twoSew3_cells_free exCfg 16 exMap (run (twoSew3 exCfg 16 14 13) exMap).2 14 13 ()
    exMap_sew2_facts.1 u14 u13 (by decide) rfl b14 b13 (run_of_fst ok)
open HC.C02 (exMap exCfg) in
example :=
  have ⟨u14, _, u11, b14, _, b11, _, ok, _⟩ := exMap_sew2_open_facts
  C05_twoSew3_cells_left exCfg 16 exMap (run (twoSew3 exCfg 16 14 11) exMap).2 14 11 ()
    exMap_sew2_facts.1 u14 u11 (by decide) rfl b14 b11 (run_of_fst ok)
open HC.C02 (exMap exCfg) in
example :=
  have ⟨u14, _, u11, b14, _, b11, _, _, ok⟩ := exMap_sew2_open_facts
  C05_twoSew3_cells_right exCfg 16 exMap (run (twoSew3 exCfg 16 11 14) exMap).2 11 14 ()
    exMap_sew2_facts.1 u11 u14 (by decide) rfl b11 b14 (run_of_fst ok)

/-- dart 14 2-sewn to the end of the chain, resp. to its first dart -/
def exOpenF : Map Val := (run (twoSew3 C02.exCfg 16 14 13) C02.exMap).2
def exOpenL : Map Val := (run (twoSew3 C02.exCfg 16 14 11) C02.exMap).2

theorem exOpenF_facts : WF 4 exOpenF ∧ C02.InUse exOpenF 14 ∧ exOpenF.fc = 0 ∧ exOpenF.β 1 14 = 0 ∧
    exOpenF.β 1 (exOpenF.β 2 14) = 0 ∧ (run (twoUnsew3 C02.exCfg 16 14) exOpenF).1 = .ok () := by decide +kernel

theorem exOpenL_facts : WF 4 exOpenL ∧ C02.InUse exOpenL 14 ∧ C02.InUse exOpenL 11 ∧ exOpenL.fc = 0 ∧
    exOpenL.β 1 14 = 0 ∧ exOpenL.β 1 (exOpenL.β 2 14) ≠ 0 ∧ exOpenL.β 1 11 ≠ 0 ∧
    exOpenL.β 1 (exOpenL.β 2 11) = 0 ∧ (run (twoUnsew3 C02.exCfg 16 14) exOpenL).1 = .ok () ∧
    (run (twoUnsew3 C02.exCfg 16 11) exOpenL).1 = .ok () := by decide +kernel

open HC.C02 (exCfg) in
example : (run (twoUnsew3 exCfg 16 14) exOpenF).1 = .ok () ∧ (run (twoUnsew3 exCfg 16 14) exOpenL).1 = .ok () ∧
    (run (twoUnsew3 exCfg 16 11) exOpenL).1 = .ok () :=
  ⟨exOpenF_facts.2.2.2.2.2, exOpenL_facts.2.2.2.2.2.2.2.2⟩
open HC.C02 (exCfg) in
example :=
  have ⟨wf, u, fc, bl, br, ok⟩ := exOpenF_facts
  C05_twoUnsew3_cells_free exCfg 16 exOpenF (run (twoUnsew3 exCfg 16 14) exOpenF).2 14 () wf u fc bl br (run_of_fst ok)
open HC.C02 (exCfg) in
example :=
  have ⟨wf, u, _, fc, bl, br, _, _, ok, _⟩ := exOpenL_facts
  C05_twoUnsew3_cells_left exCfg 16 exOpenL (run (twoUnsew3 exCfg 16 14) exOpenL).2 14 () wf u fc bl br (run_of_fst ok)
open HC.C02 (exCfg) in
example :=
  have ⟨wf, _, u, fc, _, _, bl, br, _, ok⟩ := exOpenL_facts
  C05_twoUnsew3_cells_right exCfg 16 exOpenL (run (twoUnsew3 exCfg 16 11) exOpenL).2 11 () wf u fc bl br (run_of_fst ok)

end HC.C05

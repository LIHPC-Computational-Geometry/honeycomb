/-
  C11 — VTK export and import preserve the mesh.

  Model: `Honeycomb/Model/Vtk.lean` (`exportPiece`, `importCells` / `importLegacy`, `roundTrip`), on the
  DATA of the legacy piece; `vtkio` is outside.

  PROVED here
  (a1) `C11_import_ok_WF`, `C11_importLegacy_ok_WF`, `C11_roundTrip_ok_WF`: for EVERY point list and
       EVERY cell list (conforming or not, any types, any indices), a map returned by the import is
       `WF 3`: the pre-sew map is a well-formed union of β1-cycles on consecutive darts, every dart of
       the sew buffer is a non-null in-use dart, two distinct keys hold distinct darts, and each
       `force_sew::<2>` is an instance of `C01.safe_twoSew2`.  The cell phase is walked once: `Built`
       (through `CornerSt`, `FaceAdded`) holds all that is known of its state; the sew loop by
       `sewLoop_induct`.
  (a2) `C11_buildCells_structure`: the map before the sew phase: `1 + Σ kⱼ` darts; the j-th polygonal
       cell occupies `kⱼ` consecutive darts in a β1 cycle, all 2-free, and dart `d0ⱼ + i` carries the
       coordinates of the cell's i-th point (z dropped).
  (a4) `C11_import_spec`: for EVERY input, a returned map has the darts, β0 and β1 of the pre-sew map (one
       face per polygonal cell) and `β2 d = e ≠ 0` exactly when the sew buffer left by the cell phase — in
       closed form `fileAll (entries 1 (faceLists cells)) []` — files `d` and `e` under opposite keys.
       `C11_import_faces_and_gluing`: hence its 2-links only join corners whose sides run between the
       same two point indices in opposite directions (soundness of the gluing).
  (a5) `C11_import_gluing_complete`: if no directed side (pair of point indices) is used twice, a returned
       map glues EVERY pair of sides traversed in opposite directions between different point indices:
       with (a4), `β2 d = e` exactly for such pairs.
  (a3) `C11_sew_keeps_equal_coordinates`: one `force_sew::<2>` whose two vertex merges average EQUAL
       coordinates leaves exactly these coordinates at the two new vertex ids (over `Rat`
       `(a + a) / 2 = a`; the float version is an assumption of the tie).
  (b)  `C11_export_points`, `C11_export_cells`, `C11_export_walk`: the exported points are the values of
       the `iter_vertices` ids in order (z = 0); the cells are the Lines of the 2-free edge ids followed by
       one cell per face id with at least three darts in its β1-only orbit, listing the point indices
       of the vertex ids of these darts, with the type chosen by the count; on a well-formed map that
       orbit is a duplicate-free β1-walk starting at the face id.
  (d)  `C11_crack_is_sewn`: the witness of the known finding C11-crack (two 2-free sides running
       between the same two vertices in opposite directions are sewn by export + import).

  CONTINUED in Props/C11b.lean ((a6) `C11_import_conforming_ok`: the import of a conforming list is total and
  keeps every coordinate through all the sews), Props/C11c.lean ((c1)–(c4): export in closed form, and the
  composition export → import on meshes without cracks: per-face copy, adjacency, bijection), Props/C11d.lean
  (the grids satisfy the hypotheses of (c1)–(c4)), Props/C11e.lean (what is left of these hypotheses after a
  triangulation or a vertex insertion) and Props/C11f.lean (the legacy ASCII text, at token level).

  NOT PROVED: see SPEC["not_proved"] of tools/props/c11.py (vtkio and float rounding are outside the model).
-/
import Honeycomb.Model.Vtk
import Honeycomb.Props.C01
import Honeycomb.Props.C03
import Honeycomb.Props.C04
import Honeycomb.Lemmas.Walk1


namespace HC.C11
open HC HC.Vtk

/-! ## generic helpers -/

theorem atomically_ok {α : Type} {p : P Val α} {m m' : Map Val} {a : α}
    (h : atomically p m = (.ok a, m')) : run p m = (.ok a, m') := by
  unfold atomically at h
  match hr : run p m with
  | (.ok b, m1) => rw [hr] at h; exact h
  | (.err e, m1) => rw [hr] at h; simp at h
  | (.retry, m1) => rw [hr] at h; simp at h
  | (.panic, m1) => rw [hr] at h; simp at h

theorem foldOut_cons_ok {α σ : Type} {f : α → σ → Out Err σ} {x : α} {xs : List α} {s s' : σ}
    (h : foldOut f (x :: xs) s = .ok s') : ∃ s1, f x s = .ok s1 ∧ foldOut f xs s1 = .ok s' := by
  unfold foldOut at h
  match hx : f x s with
  | .ok s1 => rw [hx] at h; exact ⟨s1, rfl, h⟩
  | .err e => rw [hx] at h; simp at h
  | .retry => rw [hx] at h; simp at h
  | .panic => rw [hx] at h; simp at h

theorem foldOut_range'_inv {σ : Type} {f : Nat → σ → Out Err σ} {Q : Nat → σ → Prop} {n : Nat}
    (hf : ∀ i s s', i < n → Q i s → f i s = .ok s' → Q (i + 1) s') :
    ∀ (len a : Nat) (s s' : σ), a + len = n → Q a s → foldOut f (List.range' a len) s = .ok s' → Q n s' := by
  intro len
  induction len with
  | zero =>
      intro a s s' ha hq h
      simp [foldOut] at h
      subst h
      have : a = n := by omega
      subst this
      exact hq
  | succ len ih =>
      intro a s s' ha hq h
      rw [List.range'_succ] at h
      obtain ⟨s1, hx, h⟩ := foldOut_cons_ok h
      exact ih (a + 1) s1 s' (by omega) (hf a s s1 (by omega) hq hx) h

/-- a fold over `range'` whose steps keep an indexed invariant and cannot fail under it -/
theorem foldOut_range'_ok {σ : Type} {f : Nat → σ → Out Err σ} {Q : Nat → σ → Prop} {n : Nat}
    (step : ∀ i s s', i < n → Q i s → f i s = .ok s' → Q (i + 1) s')
    (prog : ∀ i s, i < n → Q i s → ∃ s', f i s = .ok s') :
    ∀ (len a : Nat) (s : σ), a + len = n → Q a s → ∃ s', foldOut f (List.range' a len) s = .ok s' ∧ Q n s'
  | 0, a, s, ha, hq => by
    have : a = n := by omega
    subst this
    exact ⟨s, by simp [foldOut], hq⟩
  | len + 1, a, s, ha, hq => by
    obtain ⟨s1, hx⟩ := prog a s (by omega) hq
    obtain ⟨s', hs', hq'⟩ :=
      foldOut_range'_ok step prog len (a + 1) s1 (by omega) (step a s s1 (by omega) hq hx)
    refine ⟨s', ?_, hq'⟩
    rw [List.range'_succ]
    unfold foldOut
    rw [hx]
    exact hs'

/-- a fold whose steps keep an invariant and cannot fail on the items satisfying `G` -/
theorem foldOut_ok {α σ : Type} {f : α → σ → Out Err σ} {Q : σ → Prop} {G : α → Prop}
    (step : ∀ x s s', Q s → f x s = .ok s' → Q s')
    (prog : ∀ x s, G x → Q s → ∃ s', f x s = .ok s') :
    ∀ (l : List α) (s : σ), (∀ x, x ∈ l → G x) → Q s → ∃ s', foldOut f l s = .ok s' ∧ Q s'
  | [], s, _, hq => ⟨s, by simp [foldOut], hq⟩
  | x :: xs, s, hg, hq => by
    obtain ⟨s1, hx⟩ := prog x s (hg x List.mem_cons_self) hq
    obtain ⟨s', hs', hq'⟩ :=
      foldOut_ok step prog xs s1 (fun y hy => hg y (List.mem_cons_of_mem _ hy)) (step x s s1 hq hx)
    refine ⟨s', ?_, hq'⟩
    unfold foldOut
    rw [hx]
    exact hs'

/-! ## the invariant of the import -/

/-- invariant of the cell phase and of the sew phase: a well-formed map without removed darts, and a
    buffer of non-null darts below `bound`, two entries with the same dart having the same key -/
structure Inv (bound : Nat) (st : Map Val × Buf) : Prop where
  wf : WF 3 st.1
  used : ∀ d, st.1.unused d = false
  le : bound ≤ st.1.n
  pos : ∀ e, e ∈ st.2 → e.2 ≠ 0
  lt : ∀ e, e ∈ st.2 → e.2 < bound
  inj : ∀ a, a ∈ st.2 → ∀ b, b ∈ st.2 → a.2 = b.2 → a.1 = b.1

theorem inv_empty : Inv 1 (emptyMap, ([] : Buf)) where
  wf := by decide
  used := by
    intro d
    show rd emptyMap.u d = false
    by_cases h : d < 1
    · have : d = 0 := by omega
      subst this; decide
    · exact rd_oob _ _ (by simp [emptyMap, Map.empty]; omega)
  le := by decide
  pos := by intro e he; simp at he
  lt := by intro e he; simp at he
  inj := by intro a ha; simp at ha

theorem mem_bufErase {b : Buf} {k : Nat × Nat} {e : (Nat × Nat) × Nat} (h : e ∈ bufErase b k) :
    e ∈ b ∧ e.1 ≠ k := by
  unfold bufErase at h
  rw [List.mem_filter] at h
  exact ⟨h.1, by simpa using h.2⟩

theorem mem_bufInsert {b : Buf} {k : Nat × Nat} {d : Nat} {e : (Nat × Nat) × Nat}
    (h : e ∈ bufInsert b k d) : (e ∈ b ∧ e.1 ≠ k) ∨ e = (k, d) := by
  unfold bufInsert at h
  rw [List.mem_append] at h
  rcases h with h | h
  · rw [List.mem_filter] at h
    exact Or.inl ⟨h.1, by simpa using h.2⟩
  · exact Or.inr (by simpa using h)

theorem bufMin_mem : ∀ {b : Buf} {e : (Nat × Nat) × Nat}, bufMin b = some e → e ∈ b := by
  intro b
  induction b with
  | nil => intro e h; simp [bufMin] at h
  | cons x xs ih =>
      intro e h
      unfold bufMin at h
      match hm : bufMin xs with
      | none => rw [hm] at h; simp at h; subst h; exact List.mem_cons_self
      | some f =>
          rw [hm] at h
          simp only at h
          split at h
          · simp at h; subst h; exact List.mem_cons_of_mem _ (ih hm)
          · simp at h; subst h; exact List.mem_cons_self

theorem bufFind_mem {b : Buf} {k : Nat × Nat} {d : Nat} (h : bufFind b k = some d) :
    ∃ e, e ∈ b ∧ e.1 = k ∧ e.2 = d := by
  unfold bufFind at h
  match hf : b.find? (fun e => e.1 = k) with
  | some e =>
      rw [hf] at h
      simp at h
      exact ⟨e, List.mem_of_find?_eq_some hf, by simpa using List.find?_some hf, h⟩
  | none => rw [hf] at h; simp at h

def SameDarts (m m' : Map Val) : Prop := m'.n = m.n ∧ m'.u = m.u

theorem SameDarts.unused {m m' : Map Val} (h : SameDarts m m') (d : Nat) : m'.unused d = m.unused d := by
  unfold Map.unused; rw [h.2]

theorem sameDarts_of_sameTopo {m m' : Map Val} (h : SameTopo m m') : SameDarts m m' := ⟨h.n, h.u⟩

theorem readOnly_rA' (s d : Nat) : ReadOnly (rA s d : P Val (Option Val)) := ReadOnly.rA s d

theorem attrOnly_writeVtx (id : Nat) (v : Val) : AttrOnly (writeVtx id v) := by
  unfold writeVtx
  refine AttrOnly.bind (AttrOnly.of_readOnly (ReadOnly.rA _ _)) fun old => ?_
  exact AttrOnly.bind (AttrOnly.wA _ _ _) fun _ => AttrOnly.pure _

theorem inUse_of {bound : Nat} {st : Map Val × Buf} (h : Inv bound st) {d : Nat} (h0 : d ≠ 0)
    (hd : d < st.1.n) : C01.InUse st.1 d := ⟨h0, hd, h.used d⟩

theorem link1_step {m m' : Map Val} {l r : Nat} {u : Unit} (hwf : WF 3 m) (hl : C01.InUse m l)
    (hr : C01.InUse m r) (h : atomically (oneLinkCore (X := Val) l r) m = (.ok u, m')) :
    WF 3 m' ∧ SameDarts m m' := by
  have hrun := atomically_ok h
  refine ⟨C01.safe_oneLinkCore l r m m' u hwf ⟨hl, hr⟩ hrun, ?_⟩
  obtain ⟨_, _, _, _, rfl⟩ := oneLinkCore_ok hrun
  exact ⟨rfl, rfl⟩

theorem sew2_step {cfg : Cfg Val} {m m' : Map Val} {l r : Nat} {u : Unit} (hwf : WF 3 m)
    (hl : C01.InUse m l) (hr : C01.InUse m r) (hne : l ≠ r)
    (h : atomically (twoSew2 cfg m.n l r) m = (.ok u, m')) : WF 3 m' ∧ SameDarts m m' := by
  have hrun := atomically_ok h
  refine ⟨C01.safe_twoSew2 cfg m.n l r m m' u hwf ⟨hl, hr, hne⟩ hrun, ?_⟩
  obtain ⟨m1, h1, st⟩ := C04.C04_twoSew2_topology cfg m.n l r m m' u hrun
  obtain ⟨_, _, _, _, rfl⟩ := iLinkCore_ok h1
  exact ⟨st.n, st.u⟩

theorem vtx_step {m m' : Map Val} {id : Nat} {v : Val} {o : Option Val} (hwf : WF 3 m)
    (h : atomically (writeVtx id v) m = (.ok o, m')) : WF 3 m' ∧ SameDarts m m' := by
  have hrun := atomically_ok h
  have st := AttrOnly.run_ok (attrOnly_writeVtx id v) hrun
  exact ⟨hwf.sameTopo st, sameDarts_of_sameTopo st⟩

/-! ## the sew buffer of the cell phase, in closed form -/

/-- the buffer is a map: one entry per key (always true of a `BTreeMap`) -/
def UniqueKeys (buf : Buf) : Prop := ∀ a, a ∈ buf → ∀ b, b ∈ buf → a.1 = b.1 → a = b

theorem uniqueKeys_insert {buf : Buf} (h : UniqueKeys buf) (k : Nat × Nat) (d : Nat) :
    UniqueKeys (bufInsert buf k d) := by
  intro a ha b hb hab
  rcases mem_bufInsert ha with ⟨h1, n1⟩ | rfl
  · rcases mem_bufInsert hb with ⟨h2, n2⟩ | rfl
    · exact h a h1 b h2 hab
    · exact absurd hab n1
  · rcases mem_bufInsert hb with ⟨h2, n2⟩ | rfl
    · exact absurd hab.symm n2
    · rfl

theorem mem_bufErase_of {b : Buf} {k : Nat × Nat} {e : (Nat × Nat) × Nat} (h : e ∈ b) (hk : e.1 ≠ k) :
    e ∈ bufErase b k := by
  unfold bufErase
  rw [List.mem_filter]
  exact ⟨h, by simpa using hk⟩

theorem mem_bufInsert_self (b : Buf) (k : Nat × Nat) (d : Nat) : (k, d) ∈ bufInsert b k d := by
  unfold bufInsert; simp

theorem mem_bufInsert_of {b : Buf} {k : Nat × Nat} {d : Nat} {e : (Nat × Nat) × Nat} (h : e ∈ b)
    (hk : e.1 ≠ k) : e ∈ bufInsert b k d := by
  unfold bufInsert
  rw [List.mem_append]
  left
  rw [List.mem_filter]
  exact ⟨h, by simpa using hk⟩

/-- the directed sides of a cell, as pairs of point indices -/
def sidesOf (v : List Nat) : List (Nat × Nat) :=
  (List.range v.length).map (fun i => (v.getD i 0, v.getD ((i + 1) % v.length) 0))
def allSides (vs : List (List Nat)) : List (Nat × Nat) := (vs.map sidesOf).flatten

theorem mem_sidesOf {v : List Nat} {k : Nat × Nat} :
    k ∈ sidesOf v ↔ ∃ i, i < v.length ∧ k = (v.getD i 0, v.getD ((i + 1) % v.length) 0) := by
  unfold sidesOf
  rw [List.mem_map]
  constructor
  · rintro ⟨i, hi, rfl⟩; exact ⟨i, List.mem_range.1 hi, rfl⟩
  · rintro ⟨i, hi, rfl⟩; exact ⟨i, List.mem_range.2 hi, rfl⟩

theorem allSides_cons (v : List Nat) (vs : List (List Nat)) : allSides (v :: vs) = sidesOf v ++ allSides vs := by
  simp [allSides]

/-- dart `d` is corner `i` of one of the cells laid out from dart `s` on, and `k` is the pair of point
    indices of the side leaving that corner -/
def SideOf : Nat → List (List Nat) → Nat → Nat × Nat → Prop
  | _, [], _, _ => False
  | s, v :: vs, d, k =>
      (∃ i, i < v.length ∧ d = s + i ∧ k = (v.getD i 0, v.getD ((i + 1) % v.length) 0)) ∨
      SideOf (s + v.length) vs d k

/-- the directed side leaving corner `i` of the cell `v` -/
def side (v : List Nat) (i : Nat) : Nat × Nat := (v.getD i 0, v.getD ((i + 1) % v.length) 0)

/-- the sides of the corners `a … a + len - 1` of a cell whose first dart is `s`, each with its dart -/
def cornerEntries (v : List Nat) (s a len : Nat) : Buf :=
  (List.range' a len).map fun i => (side v i, s + i)

/-- the sides of the cells laid out from dart `s` on, each with its dart, in the order the cell phase
    files them -/
def entries : Nat → List (List Nat) → Buf
  | _, [] => []
  | s, v :: vs => cornerEntries v s 0 v.length ++ entries (s + v.length) vs

/-- `BTreeMap::insert` of a list of entries, in order: what the cell phase leaves in the sew buffer -/
def fileAll (es b : Buf) : Buf := es.foldl (fun b e => bufInsert b e.1 e.2) b

theorem fileAll_append (es es' b : Buf) : fileAll (es ++ es') b = fileAll es' (fileAll es b) :=
  List.foldl_append ..

theorem fileAll_cornerEntries_succ (v : List Nat) (d0 s : Nat) (b : Buf) :
    fileAll (cornerEntries v d0 0 (s + 1)) b =
      bufInsert (fileAll (cornerEntries v d0 0 s) b) (side v s) (d0 + s) := by
  simp [cornerEntries, fileAll, List.range'_concat]

theorem mem_entries : ∀ (vs : List (List Nat)) (s : Nat) (e : (Nat × Nat) × Nat),
    e ∈ entries s vs ↔ SideOf s vs e.2 e.1
  | [], s, e => by simp [entries, SideOf]
  | v :: vs, s, e => by
    rw [entries, List.mem_append, SideOf, mem_entries vs]
    refine or_congr_left ?_
    simp only [cornerEntries, List.mem_map, List.mem_range'_1, side]
    constructor
    · rintro ⟨i, hi, rfl⟩
      exact ⟨i, by omega, rfl, rfl⟩
    · rintro ⟨i, hi, h1, h2⟩
      exact ⟨i, by omega, by rw [← h1, ← h2]⟩

theorem entries_keys : ∀ (vs : List (List Nat)) (s : Nat), (entries s vs).map (·.1) = allSides vs
  | [], s => rfl
  | v :: vs, s => by
    rw [entries, List.map_append, entries_keys vs, allSides_cons]
    simp [cornerEntries, sidesOf, side, List.range_eq_range']

theorem mem_fileAll : ∀ (es b : Buf) (e : (Nat × Nat) × Nat), e ∈ fileAll es b → e ∈ b ∨ e ∈ es
  | [], b, e, h => .inl h
  | x :: xs, b, e, h => by
    rcases mem_fileAll xs _ e h with h | h
    · rcases mem_bufInsert h with ⟨h, _⟩ | rfl
      · exact .inl h
      · exact .inr List.mem_cons_self
    · exact .inr (List.mem_cons_of_mem _ h)

theorem uniqueKeys_fileAll : ∀ (es b : Buf), UniqueKeys b → UniqueKeys (fileAll es b)
  | [], _, h => h
  | _ :: xs, _, h => uniqueKeys_fileAll xs _ (uniqueKeys_insert h _ _)

/-- entries with pairwise distinct, new keys displace nothing -/
theorem fileAll_complete : ∀ (es b : Buf), (es.map (·.1)).Nodup → (∀ e, e ∈ b → e.1 ∉ es.map (·.1)) →
    ∀ e, e ∈ b ∨ e ∈ es → e ∈ fileAll es b
  | [], b, _, _, e, h => h.elim id (fun h => by simp at h)
  | x :: xs, b, hnd, hnew, e, h => by
    rw [List.map_cons, List.nodup_cons] at hnd
    refine fileAll_complete xs _ hnd.2 (fun z hz => ?_) e ?_
    · rcases mem_bufInsert hz with ⟨hz, _⟩ | rfl
      · exact fun hm => hnew z hz (List.mem_cons_of_mem _ hm)
      · exact hnd.1
    · rcases h with h | h
      · exact .inl (mem_bufInsert_of h fun hk => hnew e h (by rw [hk]; exact List.mem_cons_self))
      · rcases List.mem_cons.1 h with rfl | h
        · exact .inl (mem_bufInsert_self _ _ _)
        · exact .inr h

/-! ## (a2) the cell phase: one invariant per loop, one walk -/

theorem corner_elim {pts : List Val} {vids : List Nat} {d0 i : Nat} {st st' : Map Val × Buf}
    (hc : corner pts vids d0 i st = .ok st') :
    ∃ p o m1 u m2, pts[vids.getD i 0]? = some p ∧
      atomically (writeVtx (d0 + i) p) st.1 = (.ok o, m1) ∧
      atomically (oneLinkCore (d0 + i) (if i = vids.length - 1 then d0 else d0 + i + 1)) m1 = (.ok u, m2) ∧
      st' = (m2, bufInsert st.2 (vids.getD i 0, vids.getD ((i + 1) % vids.length) 0) (d0 + i)) := by
  unfold corner at hc
  simp only at hc
  split at hc
  · simp at hc
  · rename_i p hp
    split at hc
    · rename_i o m1 hw
      split at hc
      · rename_i u m2 hl
        simp only [Out.ok.injEq] at hc
        exact ⟨p, o, m1, u, m2, hp, hw, hl, hc.symm⟩
      · simp at hc
    · simp at hc

theorem corner_buf {fp : List Val} {vids : List Nat} {d0 i : Nat} {st st' : Map Val × Buf}
    (hc : corner fp vids d0 i st = .ok st') :
    st'.2 = bufInsert st.2 (vids.getD i 0, vids.getD ((i + 1) % vids.length) 0) (d0 + i) := by
  obtain ⟨_, _, _, _, _, _, _, _, rfl⟩ := corner_elim hc
  rfl

/-- one corner: the new dart `d0 + i` enters the buffer -/
theorem corner_inv {pts : List Val} {vids : List Nat} {d0 i : Nat} {st st' : Map Val × Buf}
    (hd0 : d0 ≠ 0) (hi : i < vids.length) (hn : d0 + vids.length ≤ st.1.n)
    (h : Inv (d0 + i) st) (hc : corner pts vids d0 i st = .ok st') : Inv (d0 + (i + 1)) st' := by
  obtain ⟨p, o, m1, u, m2, hp, hw, hl, rfl⟩ := corner_elim hc
  obtain ⟨wf1, sd1⟩ := vtx_step h.wf hw
  have used1 : ∀ d, m1.unused d = false := fun d => by rw [sd1.unused]; exact h.used d
  have hdi : C01.InUse m1 (d0 + i) := ⟨by omega, by rw [sd1.1]; omega, used1 _⟩
  have hdn : C01.InUse m1 (if i = vids.length - 1 then d0 else d0 + i + 1) := by
    refine ⟨?_, ?_, used1 _⟩
    · split <;> omega
    · rw [sd1.1]; split <;> omega
  obtain ⟨wf2, sd2⟩ := link1_step wf1 hdi hdn hl
  have hn2 : m2.n = st.1.n := by rw [sd2.1, sd1.1]
  refine ⟨wf2, fun d => by rw [sd2.unused]; exact used1 d, by rw [hn2]; omega, ?_, ?_, ?_⟩
  · intro e he
    rcases mem_bufInsert he with ⟨h1, _⟩ | rfl
    · exact h.pos e h1
    · show d0 + i ≠ 0; omega
  · intro e he
    rcases mem_bufInsert he with ⟨h1, _⟩ | rfl
    · have := h.lt e h1; omega
    · show d0 + i < d0 + (i + 1); omega
  · intro a ha b hb hab
    rcases mem_bufInsert ha with ⟨h1, _⟩ | rfl
    · rcases mem_bufInsert hb with ⟨h2, _⟩ | rfl
      · exact h.inj a h1 b h2 hab
      · exfalso; have := h.lt a h1; simp only at hab; omega
    · rcases mem_bufInsert hb with ⟨h2, _⟩ | rfl
      · exfalso; have := h.lt b h2; simp only at hab; omega
      · rfl

theorem addFreeDarts_used {m : Map Val} (hwf : WF 3 m) (hu : ∀ d, m.unused d = false) (k : Nat) :
    ∀ d, (m.addFreeDarts k).2.unused d = false := by
  intro d
  by_cases hd : d < m.n + k
  · rw [addFreeDarts_unused hwf.toSized k d]
    split
    · exact hu d
    · rfl
  · show rd (m.addFreeDarts k).2.u d = false
    refine rd_oob _ _ ?_
    have := (hwf.toSized.addFreeDarts k).usz
    rw [this, addFreeDarts_n]; omega

theorem cellStep_cases {fp : List Val} {c : VCell} {st s1 : Map Val × Buf}
    (hc : cellStep fp c st = .ok s1) :
    (¬ (c.ty = 5 ∨ c.ty = 7 ∨ c.ty = 9) ∧ s1 = st) ∨
    ((c.ty = 5 ∨ c.ty = 7 ∨ c.ty = 9) ∧ buildFace fp c.vids st = .ok s1) := by
  unfold cellStep at hc
  split at hc
  all_goals first
    | (simp at hc; done)
    | (rename_i hty
       split at hc
       · simp at hc
       · first
         | (simp only [Out.ok.injEq] at hc; subst hc; left; exact ⟨by omega, rfl⟩)
         | (right; exact ⟨by omega, hc⟩))
    | (rename_i hty; right; exact ⟨by omega, hc⟩)

theorem buildFace_eq (fp : List Val) (vids : List Nat) (st : Map Val × Buf) :
    buildFace fp vids st = foldOut (corner fp vids (st.1.addFreeDarts vids.length).1)
      (List.range' 0 vids.length) ((st.1.addFreeDarts vids.length).2, st.2) := by
  unfold buildFace
  simp only [List.range_eq_range']

theorem run_writeVtx_ok {id : Nat} {v : Val} {o : Option Val} {m m' : Map Val}
    (h : run (writeVtx id v) m = (.ok o, m')) : m.okA 0 id = true ∧ m' = m.setA 0 id (some v) := by
  unfold writeVtx at h
  simp only [bind, run_rA] at h
  by_cases h1 : m.okA 0 id = true
  · simp only [h1, if_true, run_wA, Prog.pure_eq, run_ret, Prod.mk.injEq] at h
    exact ⟨h1, h.2.symm⟩
  · simp [h1] at h

/-- the successor of corner `i` in a cell of `k` corners starting at `d0` -/
theorem next_eq (d0 i k : Nat) (hi : i < k) :
    (if i = k - 1 then d0 else d0 + i + 1) = d0 + (i + 1) % k := by
  split
  · rename_i h
    have : i + 1 = k := by omega
    rw [this, Nat.mod_self]; rfl
  · rename_i h
    rw [Nat.mod_eq_of_lt (by omega)]; omega

theorem corner_effect {fp : List Val} {vids : List Nat} {d0 i : Nat} {st st' : Map Val × Buf}
    (hc : corner fp vids d0 i st = .ok st') :
    ∃ p, fp[vids.getD i 0]? = some p ∧ st'.1.n = st.1.n ∧
      (∀ j d, st'.1.β j d =
        if j = 0 ∧ d = (if i = vids.length - 1 then d0 else d0 + i + 1) then d0 + i
        else if j = 1 ∧ d = d0 + i then (if i = vids.length - 1 then d0 else d0 + i + 1)
        else st.1.β j d) ∧
      (∀ d, st'.1.att 0 d = if d = d0 + i then some p else st.1.att 0 d) := by
  obtain ⟨p, o, m1, u, m2, hp, hw, hl, rfl⟩ := corner_elim hc
  obtain ⟨ok1, rfl⟩ := run_writeVtx_ok (atomically_ok hw)
  obtain ⟨ob1, ob0, _, _, rfl⟩ := oneLinkCore_ok (atomically_ok hl)
  refine ⟨p, hp, rfl, ?_, ?_⟩
  · intro j d
    simp only [Map.link1, Map.β_setβ, Map.okβ_setβ, ob1, ob0, Map.β_setA, and_true]
    by_cases c1 : j = 0 ∧ d = (if i = vids.length - 1 then d0 else d0 + i + 1)
    · obtain ⟨rfl, rfl⟩ := c1
      simp
    · have c1' : ¬ (0 = j ∧ (if i = vids.length - 1 then d0 else d0 + i + 1) = d) := by
        intro hh; exact c1 ⟨hh.1.symm, hh.2.symm⟩
      rw [if_neg c1', if_neg c1]
      by_cases c2 : j = 1 ∧ d = d0 + i
      · obtain ⟨rfl, rfl⟩ := c2
        simp
      · have c2' : ¬ (1 = j ∧ d0 + i = d) := by
          intro hh; exact c2 ⟨hh.1.symm, hh.2.symm⟩
        rw [if_neg c2', if_neg c2]
  · intro d
    show ((st.1.setA 0 (d0 + i) (some p)).att 0 d) = _
    rw [Map.att_setA]
    by_cases c : d = d0 + i
    · subst c; simp [ok1]
    · have c' : ¬ (0 = 0 ∧ d0 + i = d ∧ st.1.okA 0 (d0 + i) = true) := by
        intro hh; exact c hh.2.1.symm
      rw [if_neg c', if_neg c]

theorem atomically_of_run {α : Type} {p : P Val α} {m m' : Map Val} {a : α}
    (h : run p m = (.ok a, m')) : atomically p m = (.ok a, m') := by
  unfold atomically; rw [h]

theorem run_writeVtx {id : Nat} {v : Val} {m : Map Val} (o : m.okA 0 id = true) :
    run (writeVtx id v) m = (.ok (m.att 0 id), m.setA 0 id (some v)) := by
  unfold writeVtx
  simp only [bind, run_rA, o, if_true, run_wA, Prog.pure_eq, run_ret]

/-- storage 0 covers every dart -/
def HasV (m : Map Val) : Prop := ∀ d, d < m.n → m.okA 0 d = true

theorem corner_form {fp : List Val} {vids : List Nat} {d0 i : Nat} {st st' : Map Val × Buf}
    (hc : corner fp vids d0 i st = .ok st') :
    ∃ p, st'.1 = ((st.1.setA 0 (d0 + i) (some p)).setβ 1 (d0 + i)
        (if i = vids.length - 1 then d0 else d0 + i + 1)).setβ 0
        (if i = vids.length - 1 then d0 else d0 + i + 1) (d0 + i) := by
  obtain ⟨p, o, m1, u, m2, hp, hw, hl, rfl⟩ := corner_elim hc
  obtain ⟨ok1, rfl⟩ := run_writeVtx_ok (atomically_ok hw)
  obtain ⟨_, _, _, _, rfl⟩ := oneLinkCore_ok (atomically_ok hl)
  exact ⟨p, rfl⟩

theorem corner_misc {fp : List Val} {vids : List Nat} {d0 i : Nat} {st st' : Map Val × Buf}
    (hc : corner fp vids d0 i st = .ok st') :
    (∀ s d, st'.1.okA s d = st.1.okA s d) ∧ st'.1.fc = st.1.fc := by
  obtain ⟨p, hp⟩ := corner_form hc
  rw [hp]
  refine ⟨fun s d => ?_, rfl⟩
  simp only [Map.okA_setβ, Map.okA_setA]

theorem corner_ok {fp : List Val} {vids : List Nat} {d0 i : Nat} {st : Map Val × Buf} (hwf : WF 3 st.1)
    (hi : i < vids.length) (hn : d0 + vids.length ≤ st.1.n) (hasV : HasV st.1) {p : Val}
    (hp : fp[vids.getD i 0]? = some p) (h1 : st.1.β 1 (d0 + i) = 0)
    (h0 : st.1.β 0 (if i = vids.length - 1 then d0 else d0 + i + 1) = 0) :
    ∃ st', corner fp vids d0 i st = .ok st' := by
  have sz := hwf.toSized
  have hdn : (if i = vids.length - 1 then d0 else d0 + i + 1) < st.1.n := by split <;> omega
  have hw := atomically_of_run (run_writeVtx (v := p) (hasV (d0 + i) (by omega)))
  have o1 : (st.1.setA 0 (d0 + i) (some p)).okβ 1 (d0 + i) = true := (sz.okβ 1 _).2 ⟨by omega, by omega⟩
  have o0 : (st.1.setA 0 (d0 + i) (some p)).okβ 0 (if i = vids.length - 1 then d0 else d0 + i + 1) = true :=
    (sz.okβ 0 _).2 ⟨by omega, hdn⟩
  have hl := atomically_of_run (oneLinkCore_run (m := st.1.setA 0 (d0 + i) (some p)) o1 o0 h1 h0)
  refine ⟨((st.1.setA 0 (d0 + i) (some p)).link1 (d0 + i) (if i = vids.length - 1 then d0 else d0 + i + 1),
      bufInsert st.2 (vids.getD i 0, vids.getD ((i + 1) % vids.length) 0) (d0 + i)), ?_⟩
  unfold corner
  simp only [hp, hw, hl]

/-- state of a cell under construction: corners `< s` done, nothing below `d0` touched, no β2 -/
structure Partial (fp : List Val) (vids : List Nat) (d0 s : Nat) (m0 m : Map Val) : Prop where
  n : m.n = m0.n
  frame : ∀ d, d < d0 → (∀ j, m.β j d = m0.β j d) ∧ m.att 0 d = m0.att 0 d
  b2 : (∀ d, m0.β 2 d = 0) → ∀ d, m.β 2 d = 0
  done : ∀ i, i < s → m.β 1 (d0 + i) = d0 + (i + 1) % vids.length ∧
    ∃ p, fp[vids.getD i 0]? = some p ∧ m.att 0 (d0 + i) = some p

/-- darts of the cell under construction that are still free -/
structure Fresh (vids : List Nat) (d0 s : Nat) (m : Map Val) : Prop where
  b1 : ∀ i, s ≤ i → i < vids.length → m.β 1 (d0 + i) = 0
  b0 : ∀ j, s < j → j < vids.length → m.β 0 (d0 + j) = 0
  b00 : s < vids.length → m.β 0 d0 = 0

theorem hasV_addFreeDarts {m : Map Val} (hwf : WF 3 m) (h : HasV m) (k : Nat) : HasV (m.addFreeDarts k).2 := by
  intro d hd
  have h0 := h 0 hwf.npos
  have ha : 0 < m.a.size := by
    unfold Map.okA at h0
    simp only [Bool.and_eq_true, decide_eq_true_eq] at h0
    exact h0.1
  have sz := hwf.toSized.addFreeDarts k
  have ha' : 0 < (m.addFreeDarts k).2.a.size := by simp [Map.addFreeDarts]; exact ha
  have := sz.asz 0 ha'
  unfold Map.okA
  simp only [Bool.and_eq_true, decide_eq_true_eq]
  exact ⟨ha', by omega⟩

theorem addFreeDarts_att {m : Map Val} (h : Sized 3 m) (k s d : Nat) (hd : d < m.n) :
    (m.addFreeDarts k).2.att s d = m.att s d := by
  unfold Map.addFreeDarts Map.att
  simp only
  by_cases hs : s < m.a.size
  · rw [rd_map _ _ _ hs]
    exact rd_ext_lt _ _ _ _ (by have := h.asz s hs; omega)
  · rw [rd_oob (m.a.map _) s (by simp; omega), rd_oob m.a s (by omega)]

/-- ALL that is known of a cell under construction after its corners `< s` (`st0` is the state after
    `add_free_darts`): the invariant of the import, the finished part of the β1 cycle with its points,
    the darts still free, the buffer -/
structure CornerSt (fp : List Val) (vids : List Nat) (d0 s : Nat) (st0 st : Map Val × Buf) : Prop where
  inv : Inv (d0 + s) st
  part : Partial fp vids d0 s st0.1 st.1
  fresh : Fresh vids d0 s st.1
  okA : ∀ t d, st.1.okA t d = st0.1.okA t d
  fc : st.1.fc = st0.1.fc
  buf : st.2 = fileAll (cornerEntries vids d0 0 s) st0.2

theorem corner_step {fp : List Val} {vids : List Nat} {d0 s : Nat} {st0 st st' : Map Val × Buf}
    (hd0 : d0 ≠ 0) (hs : s < vids.length) (hn : d0 + vids.length ≤ st0.1.n)
    (h : CornerSt fp vids d0 s st0 st) (hx : corner fp vids d0 s st = .ok st') :
    CornerSt fp vids d0 (s + 1) st0 st' := by
  have hn' : d0 + vids.length ≤ st.1.n := by rw [h.part.n]; exact hn
  obtain ⟨p, hp, hn1, hβ, hatt⟩ := corner_effect hx
  obtain ⟨oka, fc⟩ := corner_misc hx
  rw [next_eq d0 s vids.length hs] at hβ
  -- the successor corner, as a case distinction `omega` can use
  have hr : (s + 1 < vids.length ∧ (s + 1) % vids.length = s + 1) ∨
      (s + 1 = vids.length ∧ (s + 1) % vids.length = 0) := by
    by_cases c : s + 1 < vids.length
    · exact .inl ⟨c, Nat.mod_eq_of_lt c⟩
    · have : s + 1 = vids.length := by omega
      exact .inr ⟨this, by rw [this, Nat.mod_self]⟩
  have keep : ∀ j d, ¬ (j = 0 ∧ d = d0 + (s + 1) % vids.length) → ¬ (j = 1 ∧ d = d0 + s) →
      st'.1.β j d = st.1.β j d :=
    fun j d c1 c2 => by rw [hβ, if_neg c1, if_neg c2]
  refine ⟨corner_inv hd0 hs hn' h.inv hx,
    ⟨hn1.trans h.part.n, fun d hd => ⟨fun j => ?_, ?_⟩, fun h0 d => ?_, fun i hi => ?_⟩,
    ⟨fun i h1 h2 => ?_, fun j h1 h2 => ?_, fun h1 => ?_⟩,
    fun t d => by rw [oka, h.okA], by rw [fc, h.fc], ?_⟩
  · rw [keep j d (by omega) (by omega)]
    exact (h.part.frame d hd).1 j
  · rw [hatt, if_neg (by omega)]
    exact (h.part.frame d hd).2
  · rw [keep 2 d (by omega) (by omega)]
    exact h.part.b2 h0 d
  · by_cases c : i = s
    · subst c
      exact ⟨by rw [hβ, if_neg (by omega), if_pos ⟨rfl, rfl⟩], p, hp, by rw [hatt, if_pos rfl]⟩
    · obtain ⟨hb, q, hq, ha⟩ := h.part.done i (by omega)
      refine ⟨?_, q, hq, ?_⟩
      · rw [keep 1 _ (by omega) (by omega)]
        exact hb
      · rw [hatt, if_neg (by omega)]
        exact ha
  · rw [keep 1 _ (by omega) (by omega)]
    exact h.fresh.b1 i (by omega) h2
  · rw [keep 0 _ (by omega) (by omega)]
    exact h.fresh.b0 j (by omega) h2
  · rw [keep 0 _ (by omega) (by omega)]
    exact h.fresh.b00 hs
  · rw [corner_buf hx, h.buf, fileAll_cornerEntries_succ]
    rfl

/-- under the invariant `corner` can only fail on a point index out of range -/
theorem corner_prog {fp : List Val} {vids : List Nat} {d0 s : Nat} {st0 st : Map Val × Buf}
    (hs : s < vids.length) (hn : d0 + vids.length ≤ st0.1.n) (hasV : HasV st0.1)
    (hr : ∃ p, fp[vids.getD s 0]? = some p) (h : CornerSt fp vids d0 s st0 st) :
    ∃ st', corner fp vids d0 s st = .ok st' := by
  obtain ⟨p, hp⟩ := hr
  have hn' : d0 + vids.length ≤ st.1.n := by rw [h.part.n]; exact hn
  refine corner_ok h.inv.wf hs hn'
    (fun d hd => by rw [h.okA]; exact hasV d (by rw [← h.part.n]; exact hd)) hp
    (h.fresh.b1 s (Nat.le_refl _) hs) ?_
  split
  · exact h.fresh.b00 hs
  · exact h.fresh.b0 (s + 1) (by omega) (by omega)

theorem cornerSt_init {fp : List Val} {vids : List Nat} {st : Map Val × Buf} (h : Inv st.1.n st) :
    CornerSt fp vids st.1.n 0 ((st.1.addFreeDarts vids.length).2, st.2)
      ((st.1.addFreeDarts vids.length).2, st.2) := by
  have sz := h.wf.toSized
  refine ⟨?_, ⟨rfl, fun d _ => ⟨fun _ => rfl, rfl⟩, fun h => h, fun i hi => absurd hi (by omega)⟩,
    ⟨fun i _ _ => ?_, fun j _ _ => ?_, fun _ => ?_⟩, fun _ _ => rfl, rfl, rfl⟩
  · exact
      { wf := h.wf.addFreeDarts (by omega) _
        used := addFreeDarts_used h.wf h.used _
        le := by show st.1.n + 0 ≤ st.1.n + vids.length; omega
        pos := h.pos
        lt := fun e he => by have := h.lt e he; omega
        inj := h.inj }
  · rw [addFreeDarts_β sz _ 1 _ (by omega), if_neg (by omega)]
  · rw [addFreeDarts_β sz _ 0 _ (by omega), if_neg (by omega)]
  · rw [addFreeDarts_β sz _ 0 _ (by omega), if_neg (by omega)]

/-- all that `buildFace` does: `k` new darts in a β1 cycle carrying the cell's points, their sides
    filed in the buffer; nothing else moves -/
structure FaceAdded (fp : List Val) (vids : List Nat) (st st' : Map Val × Buf) : Prop where
  inv : Inv st'.1.n st'
  n : st'.1.n = st.1.n + vids.length
  old : ∀ d, d < st.1.n → (∀ j, j < 3 → st'.1.β j d = st.1.β j d) ∧ st'.1.att 0 d = st.1.att 0 d
  b2 : (∀ d, st.1.β 2 d = 0) → ∀ d, st'.1.β 2 d = 0
  cyc : ∀ i, i < vids.length → st'.1.β 1 (st.1.n + i) = st.1.n + (i + 1) % vids.length ∧
    ∃ p, fp[vids.getD i 0]? = some p ∧ st'.1.att 0 (st.1.n + i) = some p
  hasV : HasV st.1 → HasV st'.1
  fc : st'.1.fc = st.1.fc
  buf : st'.2 = fileAll (cornerEntries vids st.1.n 0 vids.length) st.2

theorem faceAdded_of {fp : List Val} {vids : List Nat} {st st' : Map Val × Buf} (h : Inv st.1.n st)
    (c : CornerSt fp vids st.1.n vids.length ((st.1.addFreeDarts vids.length).2, st.2) st') :
    FaceAdded fp vids st st' := by
  have sz := h.wf.toSized
  have hn : st'.1.n = st.1.n + vids.length := c.part.n
  refine ⟨by rw [hn]; exact c.inv, hn, fun d hd => ⟨fun j hj => ?_, ?_⟩,
    fun h0 d => c.part.b2 (fun e => ?_) d, c.part.done, fun hv d hd => ?_, c.fc, c.buf⟩
  · rw [(c.part.frame d hd).1 j, addFreeDarts_β sz _ j d hj, if_pos hd]
  · rw [(c.part.frame d hd).2, addFreeDarts_att sz _ 0 d hd]
  · rw [addFreeDarts_β sz _ 2 e (by omega)]
    split
    · exact h0 e
    · rfl
  · rw [c.okA]
    exact hasV_addFreeDarts h.wf hv _ d (by rw [addFreeDarts_n, ← hn]; exact hd)

/-- one polygonal cell: what a successful `buildFace` does, and that it succeeds when the point
    indices are in range -/
theorem buildFace_run {fp : List Val} {vids : List Nat} {st : Map Val × Buf} (h : Inv st.1.n st) :
    (∀ st', buildFace fp vids st = .ok st' → FaceAdded fp vids st st') ∧
    (HasV st.1 → (∀ i, i < vids.length → ∃ p, fp[vids.getD i 0]? = some p) →
      ∃ st', buildFace fp vids st = .ok st') := by
  have hpos : st.1.n ≠ 0 := by have := h.wf.npos; omega
  have hle : st.1.n + vids.length ≤ (st.1.addFreeDarts vids.length).2.n := by
    rw [addFreeDarts_n]
    exact Nat.le_refl _
  have step := fun i s s' (hi : i < vids.length) =>
    corner_step (fp := fp) (vids := vids) (d0 := st.1.n)
      (st0 := ((st.1.addFreeDarts vids.length).2, st.2)) (s := i) (st := s) (st' := s') hpos hi hle
  rw [buildFace_eq]
  refine ⟨fun st' hb => faceAdded_of h ?_, fun hv hr => ?_⟩
  · exact foldOut_range'_inv (Q := fun i s => CornerSt fp vids st.1.n i _ s) step
      vids.length 0 _ st' (by omega) (cornerSt_init h) hb
  · obtain ⟨st', hb, _⟩ := foldOut_range'_ok (Q := fun i s => CornerSt fp vids st.1.n i _ s) step
      (fun i s hi q => corner_prog hi hle (hasV_addFreeDarts h.wf hv _) (hr i hi) q)
      vids.length 0 _ (by omega) (cornerSt_init h)
    exact ⟨st', hb⟩

/-- the polygonal cells of a list (Triangle, Polygon, Quad), in order -/
def faceLists (cells : List VCell) : List (List Nat) :=
  cells.filterMap (fun c => if c.ty = 5 ∨ c.ty = 7 ∨ c.ty = 9 then some c.vids else none)

/-- from dart `s` on, the map consists of the given cells one after the other: the cell `v` occupies
    the darts `s … s + |v| - 1`, in a β1 cycle, 2-free, dart `s + i` carrying the point `v[i]` -/
def FacesAt (fp : List Val) (m : Map Val) : Nat → List (List Nat) → Prop
  | _, [] => True
  | s, v :: vs =>
      (∀ i, i < v.length → m.β 1 (s + i) = s + (i + 1) % v.length ∧ m.β 2 (s + i) = 0 ∧
        ∃ p, fp[v.getD i 0]? = some p ∧ m.att 0 (s + i) = some p) ∧
      FacesAt fp m (s + v.length) vs

theorem cells_cons_cases {fp : List Val} {c : VCell} {cs : List VCell} {st st' : Map Val × Buf}
    (hf : foldOut (cellStep fp) (c :: cs) st = .ok st') :
    (faceLists (c :: cs) = faceLists cs ∧ foldOut (cellStep fp) cs st = .ok st') ∨
    (∃ s1, faceLists (c :: cs) = c.vids :: faceLists cs ∧ cellStep fp c st = .ok s1 ∧
      buildFace fp c.vids st = .ok s1 ∧ foldOut (cellStep fp) cs s1 = .ok st') := by
  obtain ⟨s1, hx, hr⟩ := foldOut_cons_ok hf
  rcases cellStep_cases hx with ⟨hty, rfl⟩ | ⟨hty, hb⟩
  · exact .inl ⟨by simp [faceLists, hty], hr⟩
  · exact .inr ⟨s1, by simp [faceLists, hty], hx, hb, hr⟩

/-- all that the cell phase does from `st` on, `vs` being the polygonal cells met -/
structure Built (fp : List Val) (vs : List (List Nat)) (st st' : Map Val × Buf) : Prop where
  inv : Inv st'.1.n st'
  n : st'.1.n = st.1.n + (vs.map List.length).sum
  old : ∀ d, d < st.1.n → (∀ j, j < 3 → st'.1.β j d = st.1.β j d) ∧ st'.1.att 0 d = st.1.att 0 d
  b2 : (∀ d, st.1.β 2 d = 0) → ∀ d, st'.1.β 2 d = 0
  faces : (∀ d, st.1.β 2 d = 0) → FacesAt fp st'.1 st.1.n vs
  hasV : HasV st.1 → HasV st'.1
  fc : st'.1.fc = st.1.fc
  buf : st'.2 = fileAll (entries st.1.n vs) st.2

theorem Built.cons {fp : List Val} {v : List Nat} {vs : List (List Nat)} {st s1 st' : Map Val × Buf}
    (a : FaceAdded fp v st s1) (b : Built fp vs s1 st') : Built fp (v :: vs) st st' where
  inv := b.inv
  n := by
    rw [b.n, a.n]
    simp [List.sum_cons]
    omega
  old := fun d hd => by
    have hd1 : d < s1.1.n := by rw [a.n]; omega
    exact ⟨fun j hj => by rw [(b.old d hd1).1 j hj, (a.old d hd).1 j hj],
      by rw [(b.old d hd1).2, (a.old d hd).2]⟩
  b2 := fun h0 => b.b2 (a.b2 h0)
  faces := fun h0 => by
    refine ⟨fun i hi => ?_, by rw [← a.n]; exact b.faces (a.b2 h0)⟩
    have hd1 : st.1.n + i < s1.1.n := by rw [a.n]; omega
    obtain ⟨hb1, p, hp, ha⟩ := a.cyc i hi
    exact ⟨by rw [(b.old _ hd1).1 1 (by omega), hb1], b.b2 (a.b2 h0) _, p, hp,
      by rw [(b.old _ hd1).2, ha]⟩
  hasV := fun hv => b.hasV (a.hasV hv)
  fc := by rw [b.fc, a.fc]
  buf := by rw [b.buf, a.buf, a.n, entries, fileAll_append]

/-- the cell phase, once: every successful run is described by `Built` -/
theorem cells_run {fp : List Val} : ∀ (cells : List VCell) (st st' : Map Val × Buf), Inv st.1.n st →
    foldOut (cellStep fp) cells st = .ok st' → Built fp (faceLists cells) st st'
  | [], st, st', hinv, hf => by
    simp [foldOut] at hf
    subst hf
    exact ⟨hinv, by simp [faceLists], fun d _ => ⟨fun _ _ => rfl, rfl⟩, id, fun _ => trivial, id, rfl, rfl⟩
  | c :: cs, st, st', hinv, hf => by
    rcases cells_cons_cases hf with ⟨hfl, hf⟩ | ⟨s1, hfl, _, hb, hf⟩ <;> rw [hfl]
    · exact cells_run cs st st' hinv hf
    · have a := (buildFace_run hinv).1 s1 hb
      exact Built.cons a (cells_run cs s1 st' a.inv hf)

theorem emptyMap_b2 : ∀ d, emptyMap.β 2 d = 0 := by
  intro d
  by_cases h : d < 1
  · have : d = 0 := by omega
    subst this; decide
  · unfold Map.β
    exact rd_oob _ _ (by
      have : (rd emptyMap.b 2).size = 1 := by decide
      omega)

theorem buildCells_built {pts : List Val} {cells : List VCell} {m : Map Val} {buf : Buf}
    (h : buildCells pts cells = .ok (m, buf)) :
    Built (pts.map flat) (faceLists cells) (emptyMap, []) (m, buf) :=
  cells_run cells _ _ inv_empty h

theorem buildCells_inv {pts : List Val} {cells : List VCell} {st : Map Val × Buf}
    (h : buildCells pts cells = .ok st) : Inv st.1.n st :=
  (buildCells_built (m := st.1) (buf := st.2) h).inv

/-- **C11 (a2)**: the map handed to the sew phase.  It has one dart per corner of the polygonal cells
    (`Vertex` / `Line` cells allocate nothing); the j-th polygonal cell occupies consecutive darts in a
    β1 cycle; dart `d0ⱼ + i` carries the coordinates of the cell's i-th point (z dropped); no dart is
    2-sewn yet. -/
theorem C11_buildCells_structure (pts : List Val) (cells : List VCell) (m : Map Val) (buf : Buf)
    (h : buildCells pts cells = .ok (m, buf)) :
    m.n = 1 + ((faceLists cells).map List.length).sum ∧ (∀ d, m.β 2 d = 0) ∧
      FacesAt (pts.map flat) m 1 (faceLists cells) :=
  have b := buildCells_built h
  ⟨b.n, b.b2 emptyMap_b2, b.faces emptyMap_b2⟩

/-! ## (a1) the sew loop; every imported map is well formed -/

theorem Inv.erase {n : Nat} {m : Map Val} {buf : Buf} (h : Inv n (m, buf)) (k : Nat × Nat) :
    Inv n (m, bufErase buf k) :=
  { wf := h.wf, used := h.used, le := h.le
    pos := fun x hx => h.pos x (mem_bufErase hx).1
    lt := fun x hx => h.lt x (mem_bufErase hx).1
    inj := fun a ha b hb => h.inj a (mem_bufErase ha).1 b (mem_bufErase hb).1 }

theorem Inv.found {m : Map Val} {buf : Buf} {e : (Nat × Nat) × Nat} {d1 : Nat} (h : Inv m.n (m, buf))
    (hem : e ∈ buf) (hf : bufFind (bufErase buf e.1) (e.1.2, e.1.1) = some d1) :
    e.2 ≠ d1 ∧ C01.InUse m e.2 ∧ C01.InUse m d1 ∧
    ∀ z, z ∈ bufErase (bufErase buf e.1) (e.1.2, e.1.1) → z ∈ buf ∧ z.2 ≠ e.2 ∧ z.2 ≠ d1 := by
  obtain ⟨e1, he1, hk1, hd1⟩ := bufFind_mem hf
  obtain ⟨he1b, hne1⟩ := mem_bufErase he1
  refine ⟨fun heq => hne1 (h.inj e1 he1b e hem (by rw [hd1, heq])), ⟨h.pos e hem, h.lt e hem, h.used _⟩,
    by rw [← hd1]; exact ⟨h.pos e1 he1b, h.lt e1 he1b, h.used _⟩, fun z hz => ?_⟩
  obtain ⟨hz1, zk2⟩ := mem_bufErase hz
  obtain ⟨zb, zk1⟩ := mem_bufErase hz1
  refine ⟨zb, fun hh => zk1 (h.inj z zb e hem hh), fun hh => zk2 ?_⟩
  rw [← hk1]
  exact h.inj z zb e1 he1b (by rw [hh, hd1])

theorem Inv.sew {m m2 : Map Val} {buf : Buf} {e : (Nat × Nat) × Nat} {d1 : Nat} {u : Unit}
    (h : Inv m.n (m, buf)) (hem : e ∈ buf) (hf : bufFind (bufErase buf e.1) (e.1.2, e.1.1) = some d1)
    (hsew : atomically (twoSew2 cfg0 m.n e.2 d1) m = (.ok u, m2)) :
    SameDarts m m2 ∧ Inv m2.n (m2, bufErase (bufErase buf e.1) (e.1.2, e.1.1)) := by
  obtain ⟨hne, hl, hr, _⟩ := h.found hem hf
  obtain ⟨wf2, sd2⟩ := sew2_step h.wf hl hr hne hsew
  have h2 := (h.erase e.1).erase (e.1.2, e.1.1)
  exact ⟨sd2,
    { wf := wf2, used := fun d => by rw [sd2.unused]; exact h.used d, le := Nat.le_refl _
      pos := h2.pos
      lt := fun x hx => by rw [sd2.1]; exact h2.lt x hx
      inj := h2.inj }⟩

theorem bufMin_none {b : Buf} (h : bufMin b = none) : b = [] := by
  cases b with
  | nil => rfl
  | cons x xs =>
      exfalso
      unfold bufMin at h
      split at h
      · simp at h
      · split at h <;> simp at h

/-- induction along the sew loop: what a dropped entry and a performed sew keep holds at the end -/
theorem sewLoop_induct {Q : Buf → Map Val → Prop}
    (skip : ∀ {buf m e}, Q buf m → bufMin buf = some e →
      bufFind (bufErase buf e.1) (e.1.2, e.1.1) = none → Q (bufErase buf e.1) m)
    (sew : ∀ {buf m e d1 u m2}, Q buf m → bufMin buf = some e →
      bufFind (bufErase buf e.1) (e.1.2, e.1.1) = some d1 →
      atomically (twoSew2 cfg0 m.n e.2 d1) m = (.ok u, m2) →
      Q (bufErase (bufErase buf e.1) (e.1.2, e.1.1)) m2) :
    ∀ (fuel : Nat) (buf : Buf) (m m' : Map Val), Q buf m → sewLoop fuel buf m = .ok m' → Q [] m' := by
  intro fuel
  induction fuel with
  | zero => intro buf m m' _ h; simp [sewLoop] at h
  | succ f ih =>
      intro buf m m' h hs
      unfold sewLoop at hs
      split at hs
      · rename_i hnone
        simp at hs
        subst hs
        rw [← bufMin_none hnone]
        exact h
      · rename_i e he
        simp only at hs
        split at hs
        · rename_i hf
          exact ih _ m m' (skip h he hf) hs
        · rename_i d1 hf
          split at hs
          · rename_i u m2 hsew
            exact ih _ m2 m' (sew h he hf hsew) hs
          · simp at hs

/-- the sew phase keeps the invariant, whatever the keys -/
theorem sewLoop_inv (fuel : Nat) (buf : Buf) (m m' : Map Val) (h : Inv m.n (m, buf))
    (hs : sewLoop fuel buf m = .ok m') : WF 3 m' :=
  (sewLoop_induct (Q := fun buf m => Inv m.n (m, buf)) (fun h _ _ => h.erase _)
    (fun h he hf hsew => (h.sew (bufMin_mem he) hf hsew).2) fuel buf m m' h hs).wf

theorem importCells_elim {pts : List Val} {cells : List VCell} {mask : Nat} {m : Map Val}
    (h : importCells pts cells mask = .ok m) :
    ∃ m0 buf, buildCells pts cells = .ok (m0, buf) ∧ sewLoop (buf.length + 1) buf m0 = .ok m := by
  unfold importCells at h
  match hb : buildCells pts cells with
  | .ok (m0, buf) => rw [hb] at h; exact ⟨m0, buf, rfl, h⟩
  | .err e => rw [hb] at h; simp at h
  | .retry => rw [hb] at h; simp at h
  | .panic => rw [hb] at h; simp at h

/-- **C11 (a1)**: whatever the points, the cells (conforming or not) and the requested attributes, a
    map returned by `build_2d_from_vtk` is well formed -/
theorem C11_import_ok_WF (pts : List Val) (cells : List VCell) (mask : Nat) (m : Map Val)
    (h : importCells pts cells mask = .ok m) : WF 3 m := by
  obtain ⟨m0, buf, hb, h⟩ := importCells_elim h
  exact sewLoop_inv _ buf m0 m (buildCells_inv hb) h

/-- the same on the raw legacy description (any `num_cells`, flat list and type list) -/
theorem C11_importLegacy_ok_WF (pts : List Val) (nc : Nat) (verts types : List Nat) (mask : Nat)
    (m : Map Val) (h : importLegacy pts nc verts types mask = .ok m) : WF 3 m := by
  unfold importLegacy at h
  split at h
  · simp at h
  · simp only at h
    split at h
    · simp at h
    · exact C11_import_ok_WF _ _ _ _ h

/-- export followed by import never yields a malformed map (for ANY source map, well formed or not) -/
theorem C11_roundTrip_ok_WF (m m' : Map Val) (h : roundTrip m = .ok m') : WF 3 m' := by
  unfold roundTrip at h
  split at h
  · exact C11_importLegacy_ok_WF _ _ _ _ _ _ h
  all_goals simp at h

/-! ## the legacy encoding is read back as the same cells -/

theorem compLoop_cell (vs rest : List Nat) : ∀ (c : List Nat) (acc : List (List Nat)),
    compLoop (vs ++ rest) vs.length (c :: acc) = compLoop rest 0 ((vs.reverse ++ c) :: acc) := by
  induction vs with
  | nil => intro c acc; simp
  | cons v vs ih =>
      intro c acc
      simp only [List.cons_append, List.length_cons]
      conv => lhs; unfold compLoop
      rw [ih]
      simp

theorem compLoop_cells : ∀ (cells : List VCell) (acc : List (List Nat)),
    compLoop ((cells.map (fun c => c.vids.length :: c.vids)).flatten) 0 acc =
      (acc.map List.reverse).reverse ++ cells.map (·.vids) := by
  intro cells
  induction cells with
  | nil => intro acc; simp [compLoop]
  | cons c cs ih =>
      intro acc
      simp only [List.map_cons, List.flatten_cons, List.cons_append]
      conv => lhs; unfold compLoop
      rw [compLoop_cell, ih]
      simp

theorem zip_rebuild : ∀ (cells : List VCell),
    ((cells.map (·.ty)).zip (cells.map (·.vids))).map (fun tc => (⟨tc.1, tc.2⟩ : VCell)) = cells := by
  intro cells
  induction cells with
  | nil => rfl
  | cons c cs ih => simp only [List.map_cons, List.zip_cons_cons, ih]

theorem importLegacy_toLegacy (pts : List Val) (cells : List VCell) (mask : Nat) :
    importLegacy pts (toLegacy cells).1 (toLegacy cells).2.1 (toLegacy cells).2.2 mask =
      importCells pts cells mask := by
  unfold importLegacy toLegacy
  simp only [List.length_map, ne_eq, not_true_eq_false, if_false]
  rw [compLoop_cells]
  simp only [List.map_nil, List.reverse_nil, List.nil_append, List.length_map, not_true_eq_false, if_false]
  rw [zip_rebuild]

/-- non-vacuity: two triangles and a quad (plus an ignored `Line`) over six points -/
def exPts : List Val := [.pt 0 0 5, .pt 1 0 0, .pt 1 1 0, .pt 0 1 0, .pt 2 0 0, .pt 2 1 0]
def exCells : List VCell := [⟨5, [0, 1, 2]⟩, ⟨3, [0, 1]⟩, ⟨5, [0, 2, 3]⟩, ⟨9, [1, 4, 5, 2]⟩]

/-- result of a computation, for the non-vacuity examples -/
def okGet {α : Type} [Inhabited α] : Out Err α → α
  | .ok a => a
  | _ => default
def isOk {α : Type} : Out Err α → Bool
  | .ok _ => true
  | _ => false
theorem eq_ok_of_isOk {α : Type} [Inhabited α] {o : Out Err α} (h : isOk o = true) : o = .ok (okGet o) := by
  cases o <;> simp_all [isOk, okGet]

instance : Inhabited (Map Val) := ⟨emptyMap⟩

theorem exCells_build : isOk (buildCells exPts exCells) = true ∧
    (okGet (buildCells exPts exCells)).1.n = 11 ∧ (okGet (buildCells exPts exCells)).2.length = 10 := by
  decide +kernel

example : buildCells exPts exCells = .ok (okGet (buildCells exPts exCells)) :=
  eq_ok_of_isOk exCells_build.1
example : (okGet (buildCells exPts exCells)).1.n = 11 ∧ (okGet (buildCells exPts exCells)).2.length = 10 :=
  exCells_build.2

theorem importCells_mask (pts : List Val) (cells : List VCell) (k : Nat) :
    importCells pts cells k = importCells pts cells := rfl

theorem exCells_import : isOk (importCells exPts exCells) = true ∧
    (okGet (importCells exPts exCells)).β 2 3 = 4 ∧ (okGet (importCells exPts exCells)).β 2 2 = 10 ∧
    (okGet (importCells exPts exCells)).att 0 1 = some (.pt 0 0 0) := by
  decide +kernel

example : importCells exPts exCells 7 = .ok (okGet (importCells exPts exCells 7)) :=
  eq_ok_of_isOk exCells_import.1
/-- the two triangles are glued along (0,2)/(2,0), the second triangle… and the quad along (1,2)/(2,1);
    the z of point 0 is dropped -/
example : (okGet (importCells exPts exCells 7)).β 2 3 = 4 ∧ (okGet (importCells exPts exCells 7)).β 2 2 = 10 ∧
    (okGet (importCells exPts exCells 7)).att 0 1 = some (.pt 0 0 0) := exCells_import.2
example : WF 3 (okGet (importCells exPts exCells 7)) :=
  C11_import_ok_WF _ _ _ _ (eq_ok_of_isOk exCells_import.1)
/-- the same cells as raw legacy data (`CELLS 4 17`, `CELL_TYPES 4`) -/
example : WF 3 (okGet (importLegacy exPts 4 [3, 0, 1, 2, 2, 0, 1, 3, 0, 2, 3, 4, 1, 4, 5, 2] [5, 3, 5, 9])) :=
  C11_importLegacy_ok_WF _ _ _ _ _ _
    (eq_ok_of_isOk ((congrArg isOk (importLegacy_toLegacy exPts exCells 0)).trans exCells_import.1))
/-- a wrong `num_cells` is an error, a wrong component count a panic, an unsupported type an error -/
example : (match importLegacy exPts 3 [3, 0, 1, 2] [5] with | .err e => e = errBadVtk 1 | _ => False) ∧
    (match importLegacy exPts 2 [3, 0, 1, 2] [5, 5] with | .panic => True | _ => False) ∧
    (match importLegacy exPts 1 [4, 0, 1, 2, 3] [10] with | .err e => e = errUnsupported 7 | _ => False) :=
  ⟨rfl, trivial, rfl⟩
example : faceLists exCells = [[0, 1, 2], [0, 2, 3], [1, 4, 5, 2]] := by decide

/-! ## (a4) the sew phase only adds 2-links, between darts filed under opposite keys -/

/-- what the sew phase may do to a map: same darts, same β0 / β1, and every new 2-link joins two darts
    that the buffer files under opposite keys -/
structure SewnFrom (buf : Buf) (m m' : Map Val) : Prop where
  n : m'.n = m.n
  b01 : ∀ j d, j ≠ 2 → m'.β j d = m.β j d
  b2 : ∀ d, m'.β 2 d ≠ m.β 2 d →
    ∃ a b, ((a, b), d) ∈ buf ∧ ((b, a), m'.β 2 d) ∈ buf

theorem sew2_topo {m m' : Map Val} {l r : Nat} {u : Unit}
    (h : atomically (twoSew2 cfg0 m.n l r) m = (.ok u, m')) :
    m'.n = m.n ∧ (∀ j d, j ≠ 2 → m'.β j d = m.β j d) ∧
    (∀ d, m'.β 2 d ≠ m.β 2 d → (d = l ∧ m'.β 2 d = r) ∨ (d = r ∧ m'.β 2 d = l)) := by
  have hrun := atomically_ok h
  obtain ⟨m1, h1, st⟩ := C04.C04_twoSew2_topology cfg0 m.n l r m m' u hrun
  obtain ⟨o1, o2, _, _, rfl⟩ := iLinkCore_ok h1
  have hβ : ∀ j d, m'.β j d = ((m.setβ 2 l r).setβ 2 r l).β j d := fun j d => st.β j d
  refine ⟨st.n, ?_, ?_⟩
  · intro j d hj
    rw [hβ, Map.β_setβ, Map.β_setβ]
    have c1 : ¬ (2 = j ∧ r = d ∧ (m.setβ 2 l r).okβ 2 r = true) := fun hh => hj hh.1.symm
    have c2 : ¬ (2 = j ∧ l = d ∧ m.okβ 2 l = true) := fun hh => hj hh.1.symm
    rw [if_neg c1, if_neg c2]
  · intro d hd
    rw [hβ] at hd ⊢
    rw [Map.β_setβ, Map.β_setβ] at hd ⊢
    simp only [Map.okβ_setβ, o1, o2, and_true, true_and] at hd ⊢
    by_cases c1 : r = d
    · subst c1; simp
    · rw [if_neg c1] at hd ⊢
      by_cases c2 : l = d
      · subst c2; simp
      · rw [if_neg c2] at hd; exact absurd rfl hd

theorem sewLoop_sewn (fuel : Nat) (buf0 : Buf) (m0 m' : Map Val)
    (hs : sewLoop fuel buf0 m0 = .ok m') : SewnFrom buf0 m0 m' := by
  -- forward: the entries still to come are entries of the first buffer
  refine (sewLoop_induct (Q := fun buf m => (∀ x, x ∈ buf → x ∈ buf0) ∧ SewnFrom buf0 m0 m) ?_ ?_
    fuel buf0 m0 m' ⟨fun _ h => h, rfl, fun _ _ _ => rfl, fun d hd => absurd rfl hd⟩ hs).2
  · exact fun h _ _ => ⟨fun x hx => h.1 x (mem_bufErase hx).1, h.2⟩
  · intro buf m e d1 u m2 ⟨hsub, r⟩ he hf hsew
    obtain ⟨e1, he1, hk1, hd1⟩ := bufFind_mem hf
    obtain ⟨n2, b012, b22⟩ := sew2_topo hsew
    refine ⟨fun x hx => hsub x (mem_bufErase (mem_bufErase hx).1).1, by rw [n2, r.n],
      fun j d hj => by rw [b012 j d hj, r.b01 j d hj], fun d hd => ?_⟩
    by_cases c : m2.β 2 d = m.β 2 d
    · rw [c] at hd ⊢
      exact r.b2 d hd
    · have hE1 : e1 = ((e.1.2, e.1.1), d1) := by rw [← hk1, ← hd1]
      have m1 := hsub e (bufMin_mem he)
      have m2' := hsub e1 (mem_bufErase he1).1
      rw [hE1] at m2'
      rcases b22 d c with ⟨rfl, hr⟩ | ⟨rfl, hr⟩ <;> rw [hr]
      · exact ⟨e.1.1, e.1.2, m1, m2'⟩
      · exact ⟨e.1.2, e.1.1, m2', m1⟩

/-! ## (a5) the gluing, exactly -/

theorem bufFind_none {b : Buf} {k : Nat × Nat} (h : bufFind b k = none) : ∀ x, x ∈ b → x.1 ≠ k := by
  unfold bufFind at h
  match hf : b.find? (fun e => e.1 = k) with
  | some e => rw [hf] at h; simp at h
  | none =>
      intro x hx hk
      have := List.find?_eq_none.1 hf x hx
      simp [hk] at this

theorem sew2_links {m m' : Map Val} {l r : Nat} {u : Unit} (hne : l ≠ r)
    (h : atomically (twoSew2 cfg0 m.n l r) m = (.ok u, m')) :
    m'.β 2 l = r ∧ m'.β 2 r = l ∧ ∀ d, d ≠ l → d ≠ r → m'.β 2 d = m.β 2 d := by
  have hrun := atomically_ok h
  obtain ⟨m1, h1, st⟩ := C04.C04_twoSew2_topology cfg0 m.n l r m m' u hrun
  obtain ⟨o1, o2, _, _, rfl⟩ := iLinkCore_ok h1
  have hβ : ∀ j d, m'.β j d = ((m.setβ 2 l r).setβ 2 r l).β j d := fun j d => st.β j d
  refine ⟨?_, ?_, ?_⟩
  · rw [hβ, Map.β_setβ, Map.β_setβ]
    simp only [Map.okβ_setβ, o1, o2, and_true, true_and]
    rw [if_neg (fun e => hne e.symm)]; simp
  · rw [hβ, Map.β_setβ]
    simp only [Map.okβ_setβ, o2, and_true]; simp
  · intro d h1 h2
    rw [hβ, Map.β_setβ, Map.β_setβ]
    simp only [Map.okβ_setβ, o1, o2, and_true, true_and]
    rw [if_neg (fun e => h2 e.symm), if_neg (fun e => h1 e.symm)]

theorem swap_ne {k : Nat × Nat} (h : k.1 ≠ k.2) : (k.2, k.1) ≠ k := by
  intro e
  have := congrArg Prod.fst e
  simp at this
  exact h this.symm

/-- the sew phase glues EVERY pair of entries filed under opposite keys: such a pair is either still to
    come or already glued -/
theorem sewLoop_complete (fuel : Nat) (buf0 : Buf) (m0 m' : Map Val) (hinv : Inv m0.n (m0, buf0))
    (huq : UniqueKeys buf0) (hfree : ∀ e, e ∈ buf0 → m0.β 2 e.2 = 0) (hs : sewLoop fuel buf0 m0 = .ok m')
    {e1 e2 : (Nat × Nat) × Nat} (he1 : e1 ∈ buf0) (he2 : e2 ∈ buf0) (hk : e2.1 = (e1.1.2, e1.1.1))
    (hab : e1.1.1 ≠ e1.1.2) : m'.β 2 e1.2 = e2.2 := by
  have hk' : e1.1 = (e2.1.2, e2.1.1) := by rw [hk]
  have key := sewLoop_induct (Q := fun buf m => Inv m.n (m, buf) ∧ (∀ x, x ∈ buf → x ∈ buf0) ∧
      (∀ x, x ∈ buf → m.β 2 x.2 = 0) ∧
      ((e1 ∈ buf ∧ e2 ∈ buf) ∨ (m.β 2 e1.2 = e2.2 ∧ m.β 2 e2.2 = e1.2)))
    ?_ ?_ fuel buf0 m0 m' ⟨hinv, fun _ h => h, hfree, .inl ⟨he1, he2⟩⟩ hs
  · rcases key.2.2.2 with ⟨h, _⟩ | h
    · simp at h
    · exact h.1
  · -- an entry without partner is dropped: it is neither `e1` nor `e2`
    intro buf m e ⟨inv, sub, free, g⟩ he hf
    have hno := bufFind_none hf
    refine ⟨inv.erase _, fun x hx => sub x (mem_bufErase hx).1, fun x hx => free x (mem_bufErase hx).1, ?_⟩
    rcases g with ⟨i1, i2⟩ | g
    · by_cases c1 : e1.1 = e.1
      · exact absurd (by rw [hk, c1])
          (hno e2 (mem_bufErase_of i2 (by rw [hk, ← c1]; exact swap_ne hab)))
      · by_cases c2 : e2.1 = e.1
        · exact absurd (by rw [hk', c2]) (hno e1 (mem_bufErase_of i1 c1))
        · exact .inl ⟨mem_bufErase_of i1 c1, mem_bufErase_of i2 c2⟩
    · exact .inr g
  · intro buf m e d1 u m2 ⟨inv, sub, free, g⟩ he hf hsew
    have hem := bufMin_mem he
    obtain ⟨x1, hx1, hxk, hxd⟩ := bufFind_mem hf
    obtain ⟨hx1b, _⟩ := mem_bufErase hx1
    obtain ⟨hne, hl, hr, rest⟩ := inv.found hem hf
    obtain ⟨l1, l2, l3⟩ := sew2_links hne hsew
    have huq' : UniqueKeys buf := fun a ha b hb => huq a (sub a ha) b (sub b hb)
    refine ⟨(inv.sew hem hf hsew).2, fun x hx => sub x (rest x hx).1,
      fun x hx => by rw [l3 _ (rest x hx).2.1 (rest x hx).2.2]; exact free x (rest x hx).1, ?_⟩
    rcases g with ⟨i1, i2⟩ | ⟨g1, g2⟩
    · by_cases c1 : e1.1 = e.1
      · have E1 : e1 = e := huq' e1 i1 e hem c1
        have E2 : e2 = x1 := huq' e2 i2 x1 hx1b (by rw [hk, c1, hxk])
        exact .inr ⟨by rw [E1, E2, hxd, l1], by rw [E1, E2, hxd, l2]⟩
      · by_cases c2 : e2.1 = e.1
        · have E2 : e2 = e := huq' e2 i2 e hem c2
          have E1 : e1 = x1 := huq' e1 i1 x1 hx1b (by rw [hk', c2, hxk])
          exact .inr ⟨by rw [E1, E2, hxd, l2], by rw [E1, E2, hxd, l1]⟩
        · have c3 : e1.1 ≠ (e.1.2, e.1.1) := fun hh => c2 (by rw [hk, hh])
          have c4 : e2.1 ≠ (e.1.2, e.1.1) := fun hh => c1 (by rw [hk', hh])
          exact .inl ⟨mem_bufErase_of (mem_bufErase_of i1 c1) c3,
            mem_bufErase_of (mem_bufErase_of i2 c2) c4⟩
    · -- already glued: not 2-free, hence not a dart of this round
      have p1 : e1.2 ≠ 0 := hinv.pos e1 he1
      have p2 : e2.2 ≠ 0 := hinv.pos e2 he2
      have fl : m.β 2 e.2 = 0 := free e hem
      have fr : m.β 2 d1 = 0 := by rw [← hxd]; exact free x1 hx1b
      refine .inr ⟨?_, ?_⟩
      · rw [l3 _ (fun h => p2 (by rw [← g1, h, fl])) (fun h => p2 (by rw [← g1, h, fr]))]
        exact g1
      · rw [l3 _ (fun h => p1 (by rw [← g2, h, fl])) (fun h => p1 (by rw [← g2, h, fr]))]
        exact g2

/-- **C11 (a4)+(a5), for EVERY input**: the pre-sew map `m0` is the one `Built` describes; a returned map
    has its darts, its β0 and its β1 — ONE FACE PER polygonal CELL — and `β2 d = e ≠ 0` EXACTLY when the
    sew buffer left by the cell phase files `d` and `e` under opposite keys with different ends.  A side
    used twice in the same direction is filed once (the later dart replaces the earlier one). -/
theorem C11_import_spec (pts : List Val) (cells : List VCell) (mask : Nat) (m : Map Val)
    (h : importCells pts cells mask = .ok m) :
    ∃ m0, buildCells pts cells = .ok (m0, fileAll (entries 1 (faceLists cells)) []) ∧ WF 3 m ∧
      m.n = m0.n ∧ (∀ j d, j ≠ 2 → m.β j d = m0.β j d) ∧
      ∀ d e, e ≠ 0 → (m.β 2 d = e ↔ ∃ a b, a ≠ b ∧
        ((a, b), d) ∈ fileAll (entries 1 (faceLists cells)) [] ∧
        ((b, a), e) ∈ fileAll (entries 1 (faceLists cells)) []) := by
  obtain ⟨m0, buf, hb, h⟩ := importCells_elim h
  have b := buildCells_built hb
  have hbuf : buf = fileAll (entries 1 (faceLists cells)) [] := b.buf
  subst hbuf
  have r := sewLoop_sewn _ _ m0 m h
  have hwf := sewLoop_inv _ _ m0 m b.inv h
  have huq : UniqueKeys (fileAll (entries 1 (faceLists cells)) []) :=
    uniqueKeys_fileAll _ _ (by intro a ha; simp at ha)
  have hb2 := b.b2 emptyMap_b2
  refine ⟨m0, hb, hwf, r.n, r.b01, fun d e he0 => ⟨fun hde => ?_, fun ⟨a, c, hac, h1, h2⟩ => ?_⟩⟩
  · obtain ⟨a, c, h1, h2⟩ := r.b2 d (by rw [hb2, hde]; exact he0)
    rw [hde] at h2
    refine ⟨a, c, fun hac => ?_, h1, h2⟩
    -- one key `(a, a)` for both: `d = e`, a fixed point of β2
    subst hac
    have hd : d < m.n := Classical.byContradiction fun hn =>
      he0 (by rw [← hde]; exact rd_oob _ _ (by rw [hwf.toSized.row 2 (by omega)]; omega))
    have := congrArg Prod.snd (huq _ h1 _ h2 rfl)
    simp only at this
    exact (hwf.invol 2 (by omega) (by omega) d hd (by rw [hde]; exact he0)).2 (by rw [hde, this])
  · exact sewLoop_complete _ _ m0 m b.inv huq (fun x _ => hb2 x.2) h h1 h2 rfl hac

theorem mem_buf_side {cells : List VCell} {e : (Nat × Nat) × Nat}
    (he : e ∈ fileAll (entries 1 (faceLists cells)) []) : SideOf 1 (faceLists cells) e.2 e.1 :=
  (mem_entries _ _ _).1 ((mem_fileAll _ _ _ he).resolve_left (by simp))

/-- **C11 (a4)**, for EVERY input: a map returned by the import has exactly the darts, the β0 and the β1
    of the pre-sew map — so, with `C11_buildCells_structure`, ONE FACE PER polygonal CELL, on
    consecutive darts in the order of the cell's points — and its 2-links are SOUND: `β2 d = e ≠ 0` only
    if `d` is a corner whose side runs from point `a` to point `b` and `e` a corner whose side runs from
    `b` to `a` (sides traversed in opposite directions).  Completeness (every such pair is glued when no
    directed side is repeated) is `C11_import_gluing_complete`. -/
theorem C11_import_faces_and_gluing (pts : List Val) (cells : List VCell) (mask : Nat) (m : Map Val)
    (h : importCells pts cells mask = .ok m) :
    ∃ m0 buf, buildCells pts cells = .ok (m0, buf) ∧ m.n = m0.n ∧
      (∀ j d, j ≠ 2 → m.β j d = m0.β j d) ∧
      ∀ d, m.β 2 d ≠ 0 → ∃ a b, SideOf 1 (faceLists cells) d (a, b) ∧
        SideOf 1 (faceLists cells) (m.β 2 d) (b, a) := by
  obtain ⟨m0, hb, _, hn, h01, h2⟩ := C11_import_spec pts cells mask m h
  refine ⟨m0, _, hb, hn, h01, fun d hd => ?_⟩
  obtain ⟨a, b, _, s1, s2⟩ := (h2 d _ hd).1 rfl
  exact ⟨a, b, mem_buf_side s1, mem_buf_side s2⟩

/-- non-vacuity: in the import of `exCells`, dart 3 (side 2 → 0 of the first triangle) is glued with
    dart 4 (side 0 → 2 of the second one) -/
example : SideOf 1 (faceLists exCells) 3 (2, 0) ∧ SideOf 1 (faceLists exCells) 4 (0, 2) := by
  constructor
  · exact Or.inl ⟨2, by decide, rfl, rfl⟩
  · exact Or.inr (Or.inl ⟨0, by decide, rfl, rfl⟩)


/-- **C11 (a5)**: if no directed side (pair of point indices) is used twice by the polygonal cells —
    half of the property's notion of a conforming list — then a map returned by the import glues EVERY
    pair of sides traversed in opposite directions between two different point indices: with
    `C11_import_faces_and_gluing`, `β2 d = e` EXACTLY when `d` and `e` are such a pair.  (That the import
    of a conforming list does return a map is `C11_import_conforming_ok`, Props/C11b.lean.) -/
theorem C11_import_gluing_complete (pts : List Val) (cells : List VCell) (mask : Nat) (m : Map Val)
    (h : importCells pts cells mask = .ok m) (hnd : (allSides (faceLists cells)).Nodup)
    {d e a b : Nat} (hd : SideOf 1 (faceLists cells) d (a, b)) (he : SideOf 1 (faceLists cells) e (b, a))
    (hab : a ≠ b) : m.β 2 d = e := by
  obtain ⟨m0, hb, _, _, _, h2⟩ := C11_import_spec pts cells mask m h
  -- no side is repeated: every side is in the buffer
  have hall : ∀ d k, SideOf 1 (faceLists cells) d k → (k, d) ∈ fileAll (entries 1 (faceLists cells)) [] :=
    fun d k hs => fileAll_complete _ _ (by rw [entries_keys]; exact hnd) (by simp) _
      (.inr ((mem_entries _ _ _).2 hs))
  exact (h2 d e ((buildCells_inv hb).pos _ (hall e _ he))).2 ⟨a, b, hab, hall d _ hd, hall e _ he⟩

/-- non-vacuity: the sides of `exCells` are pairwise distinct; darts 3 and 4 are glued -/
example : (allSides (faceLists exCells)).Nodup := by decide
example : (okGet (importCells exPts exCells 0)).β 2 3 = 4 :=
  C11_import_gluing_complete exPts exCells 0 _ (eq_ok_of_isOk exCells_import.1) (by decide)
    (a := 2) (b := 0) (Or.inl ⟨2, by decide, rfl, rfl⟩) (Or.inr (Or.inl ⟨0, by decide, rfl, rfl⟩)) (by decide)


/-! ## (a3) a 2-sew that merges equal coordinates keeps them -/

theorem avg_self (x y z : Rat) : avgLaw.merge (.pt x y z) (.pt x y z) = .ok (.pt x y z) := by
  have e : ∀ a : Rat, (a + a) / 2 = a := fun a => by grind
  simp [avgLaw, e]

theorem mergedIn_same {out a b : Nat} {m0 m1 : Map Val} (r : MergedIn cfg0 [0] out a b m0 m1)
    {x y z : Rat} (va : m0.att 0 a = some (.pt x y z)) (vb : m0.att 0 b = some (.pt x y z)) :
    m1.att 0 out = some (.pt x y z) := by
  have mem0 : (0 : Nat) ∈ [0] := by simp
  by_cases e : a = b
  · rw [r.moved e 0 mem0, va]
  · obtain ⟨v, hv, hv'⟩ := r.merged e 0 mem0
    rw [va, vb] at hv
    have : (cfg0.law 0) = avgLaw := rfl
    rw [this] at hv
    simp only [mergeVal] at hv
    rw [avg_self] at hv
    cases hv
    exact hv'

/-- **C11 (a3)**: one `force_sew::<2>(l, r)` of the sew phase, both darts having a successor (always
    the case after the cell phase).  `lv, b1rv` are the identifiers of the two old vertices merged at
    the origin of `l`, `b1lv, rv` those merged at its end; `lvn, rvn` the identifiers after the link.
    If the merged vertices carry EQUAL coordinates `p` (resp. `q`) — the situation of a conforming
    list, where both darts run between the same two points — and the two ends are different vertices,
    the new vertices carry exactly `p` and `q`: averaging is invisible. -/
theorem C11_sew_keeps_equal_coordinates (n l r : Nat) (m m' : Map Val) (u : Unit) (hfc : m.fc = 0)
    (hl0 : m.β 1 l ≠ 0) (hr0 : m.β 1 r ≠ 0) (h : run (twoSew2 cfg0 n l r) m = (.ok u, m')) :
    ∃ lv b1rv b1lv rv m1 lvn rvn,
      run (vertexId2 n l) m = (.ok lv, m) ∧ run (vertexId2 n (m.β 1 r)) m = (.ok b1rv, m) ∧
      run (vertexId2 n (m.β 1 l)) m = (.ok b1lv, m) ∧ run (vertexId2 n r) m = (.ok rv, m) ∧
      run (iLinkCore (X := Val) 2 l r) m = (.ok (), m1) ∧
      run (vertexId2 n l) m1 = (.ok lvn, m1) ∧ run (vertexId2 n r) m1 = (.ok rvn, m1) ∧
      ∀ (x y z x' y' z' : Rat),
        m.att 0 lv = some (.pt x y z) → m.att 0 b1rv = some (.pt x y z) →
        m.att 0 b1lv = some (.pt x' y' z') → m.att 0 rv = some (.pt x' y' z') →
        (∀ a, a ∈ [lvn, lv, b1rv] → ∀ b, b ∈ [rvn, b1lv, rv] → a ≠ b) →
        m'.att 0 lvn = some (.pt x y z) ∧ m'.att 0 rvn = some (.pt x' y' z') := by
  obtain ⟨lv, b1rv, b1lv, rv, m1, lvn, rvn, eid, ma, mb, mc, md, h1, h2, h3, h4, _, hlk, h5, h6, _,
    mA, mB, mC, mD, mE⟩ := C04.C04_twoSew2_both cfg0 n l r m m' u hfc hl0 hr0 h
  refine ⟨lv, b1rv, b1lv, rv, m1, lvn, rvn, h1, h2, h3, h4, hlk, h5, h6, ?_⟩
  intro x y z x' y' z' a1 a2 a3 a4 hd
  obtain ⟨_, _, _, _, rfl⟩ := iLinkCore_ok hlk
  have att1 : ∀ e, (m.linkI 2 l r).att 0 e = m.att 0 e := fun _ => rfl
  have mem0 : (0 : Nat) ∈ [0] := by simp
  have n0v : (0 : Nat) ∉ storagesOf cfg0 0 := C04.zero_notin_storagesOf cfg0 0
  have n0e : (0 : Nat) ∉ C04.eStores cfg0 := C04.zero_notin_storagesOf cfg0 1
  have ne := fun a ha b hb => hd a ha b hb
  -- first merge: the origin of `l`
  have hA : ma.att 0 lvn = some (.pt x y z) := mergedIn_same mA a1 a2
  have fA : ∀ e, e ≠ lvn → e ≠ lv → e ≠ b1rv → ma.att 0 e = m.att 0 e := fun e c1 c2 c3 => by
    rw [mA.frame 0 e mem0 c1 c2 c3, att1]
  -- second merge: the end of `l`
  have b3 : ma.att 0 b1lv = some (.pt x' y' z') := by
    rw [fA b1lv (fun e => ne lvn (by simp) b1lv (by simp) e.symm)
      (fun e => ne lv (by simp) b1lv (by simp) e.symm) (fun e => ne b1rv (by simp) b1lv (by simp) e.symm), a3]
  have b4 : ma.att 0 rv = some (.pt x' y' z') := by
    rw [fA rv (fun e => ne lvn (by simp) rv (by simp) e.symm)
      (fun e => ne lv (by simp) rv (by simp) e.symm) (fun e => ne b1rv (by simp) rv (by simp) e.symm), a4]
  have hB : mb.att 0 rvn = some (.pt x' y' z') := mergedIn_same mB b3 b4
  have hB' : mb.att 0 lvn = some (.pt x y z) := by
    rw [mB.frame 0 lvn mem0 (ne lvn (by simp) rvn (by simp)) (ne lvn (by simp) b1lv (by simp))
      (ne lvn (by simp) rv (by simp)), hA]
  constructor
  · rw [mE.other 0 lvn n0e, mD.other 0 lvn n0v, mC.other 0 lvn n0v, hB']
  · rw [mE.other 0 rvn n0e, mD.other 0 rvn n0v, mC.other 0 rvn n0v, hB]

/-- non-vacuity: the first sew of the import of `exCells`: darts 3 (side 2→0 of the first triangle) and
    4 (side 0→2 of the second).  Both new vertices keep their coordinates. -/
def exPre : Map Val := (okGet (buildCells exPts exCells)).1
theorem exPre_sew : (run (twoSew2 cfg0 exPre.n 3 4) exPre).1 = .ok () ∧
    (exPre.fc = 0 ∧ exPre.β 1 3 ≠ 0 ∧ exPre.β 1 4 ≠ 0) ∧
    exPre.att 0 3 = some (.pt 1 1 0) ∧ exPre.att 0 5 = some (.pt 1 1 0) ∧
    ((run (twoSew2 cfg0 exPre.n 3 4) exPre).2).att 0 3 = some (.pt 1 1 0) ∧
    ((run (twoSew2 cfg0 exPre.n 3 4) exPre).2).att 0 5 = none := by decide +kernel

example : (run (twoSew2 cfg0 exPre.n 3 4) exPre).1 = .ok () := exPre_sew.1
example : exPre.fc = 0 ∧ exPre.β 1 3 ≠ 0 ∧ exPre.β 1 4 ≠ 0 := exPre_sew.2.1
example : exPre.att 0 3 = some (.pt 1 1 0) ∧ exPre.att 0 5 = some (.pt 1 1 0) ∧
    ((run (twoSew2 cfg0 exPre.n 3 4) exPre).2).att 0 3 = some (.pt 1 1 0) ∧
    ((run (twoSew2 cfg0 exPre.n 3 4) exPre).2).att 0 5 = none := exPre_sew.2.2

/-! ## (b) export -/

theorem optAll_eq_some {α : Type} : ∀ {l : List (Option α)} {r : List α}, optAll l = some r → l = r.map some := by
  intro l
  induction l with
  | nil => intro r h; simp [optAll] at h; subst h; rfl
  | cons x xs ih =>
      intro r h
      cases x with
      | none => simp [optAll] at h
      | some a =>
          unfold optAll at h
          match hx : optAll xs with
          | none => rw [hx] at h; simp at h
          | some as =>
              rw [hx] at h
              simp at h
              subst h
              rw [List.map_cons, ← ih hx]

/-- **C11 (b), points**: the exported point `k` is the value stored at the k-th identifier of
    `iter_vertices` (every identifier has a value, else the export panics), with `z = 0` -/
theorem C11_export_points (m : Map Val) (pts : List Val) (cells : List VCell)
    (h : exportPiece m = .ok (pts, cells)) :
    ∃ raw : List Val, (iterVertices2 m).map (fun v => m.att 0 v) = raw.map some ∧ pts = raw.map flat := by
  unfold exportPiece at h
  simp only at h
  split at h
  · simp at h
  · rename_i raw hraw
    split at h
    · simp at h
    · split at h
      · simp at h
      · simp only [Out.ok.injEq, Prod.mk.injEq] at h
        exact ⟨raw, optAll_eq_some hraw, h.1.symm⟩

theorem lineCell_some {m : Map Val} {vids : List Nat} {e : Nat} {c : VCell} (h : lineCell m vids e = some c) :
    ∃ a b, pointOf m vids e = some a ∧ pointOf m vids (m.β 1 e) = some b ∧ c = ⟨3, [a, b]⟩ := by
  unfold lineCell at h
  split at h
  · simp at h
  · rename_i a ha
    split at h
    · simp at h
    · rename_i b hb
      simp at h
      exact ⟨a, b, ha, hb, h.symm⟩

theorem faceCell_some {m : Map Val} {vids : List Nat} {f : Nat} {c : Option VCell}
    (h : faceCell m vids f = some c) :
    ∃ o ix, walk1 m f = some o ∧ o.map (pointOf m vids) = ix.map some ∧
      ((ix.length ≤ 2 ∧ c = none) ∨ (3 ≤ ix.length ∧ c = some ⟨cellTypeOfCount ix.length, ix⟩)) := by
  unfold faceCell at h
  split at h
  · simp at h
  · rename_i o ho
    split at h
    · simp at h
    · rename_i ix hix
      refine ⟨o, ix, ho, optAll_eq_some hix, ?_⟩
      split at h
      · rename_i hle; simp at h; exact Or.inl ⟨hle, h.symm⟩
      · rename_i hle; simp at h; exact Or.inr ⟨by omega, h.symm⟩

/-- **C11 (b), cells**: the exported cells are, in this order, one `Line` per 2-free edge identifier
    (`iter_edges` order) joining the point of the dart's vertex to the point of its successor's vertex,
    then one cell per face identifier (`iter_faces` order) whose β1-only orbit `o` has at least three
    darts: Triangle / Quad / Polygon by the count, listing the points of the vertices of `o`'s darts in
    order.  Faces with at most two darts are dropped. -/
theorem C11_export_cells (m : Map Val) (pts : List Val) (cells : List VCell)
    (h : exportPiece m = .ok (pts, cells)) :
    ∃ (lines : List VCell) (fcs : List (Option VCell)),
      (boundaryEdges m).map (lineCell m (iterVertices2 m)) = lines.map some ∧
      (iterFaces2 m).map (faceCell m (iterVertices2 m)) = fcs.map some ∧
      cells = lines ++ fcs.filterMap id ∧
      (∀ c, c ∈ lines → ∃ e a b, e ∈ boundaryEdges m ∧ pointOf m (iterVertices2 m) e = some a ∧
        pointOf m (iterVertices2 m) (m.β 1 e) = some b ∧ c = ⟨3, [a, b]⟩) ∧
      (∀ c, c ∈ fcs.filterMap id → ∃ f o, f ∈ iterFaces2 m ∧ walk1 m f = some o ∧ 3 ≤ o.length ∧
        o.map (pointOf m (iterVertices2 m)) = c.vids.map some ∧ c.ty = cellTypeOfCount o.length) := by
  unfold exportPiece at h
  simp only at h
  split at h
  · simp at h
  · split at h
    · simp at h
    · rename_i lines hlines
      split at h
      · simp at h
      · rename_i fcs hfcs
        simp only [Out.ok.injEq, Prod.mk.injEq] at h
        have hl := optAll_eq_some hlines
        have hf := optAll_eq_some hfcs
        refine ⟨lines, fcs, hl, hf, h.2.symm, ?_, ?_⟩
        · intro c hc
          have : some c ∈ (boundaryEdges m).map (lineCell m (iterVertices2 m)) := by
            rw [hl]; exact List.mem_map_of_mem hc
          obtain ⟨e, he, hce⟩ := List.mem_map.1 this
          obtain ⟨a, b, ha, hb, rfl⟩ := lineCell_some hce
          exact ⟨e, a, b, he, ha, hb, rfl⟩
        · intro c hc
          rw [List.mem_filterMap] at hc
          obtain ⟨oc, hoc, hid⟩ := hc
          simp only [id] at hid
          subst hid
          have : some (some c) ∈ (iterFaces2 m).map (faceCell m (iterVertices2 m)) := by
            rw [hf]; exact List.mem_map_of_mem hoc
          obtain ⟨f, hfm, hcf⟩ := List.mem_map.1 this
          obtain ⟨o, ix, ho, hix, hcase⟩ := faceCell_some hcf
          have hlen : o.length = ix.length := by
            have := congrArg List.length hix
            simpa using this
          rcases hcase with ⟨_, hn⟩ | ⟨h3, hs⟩
          · simp at hn
          · simp only [Option.some.injEq] at hs
            subst hs
            exact ⟨f, o, hfm, ho, by omega, hix, by rw [hlen]⟩


/-- **C11 (b), walk**: on a well-formed map the darts listed for the face identifier `f` are a
    duplicate-free β1-walk of existing non-null darts starting at `f` (`o[i+1] = β1 o[i]`) -/
theorem C11_export_walk {m : Map Val} (hwf : WF 3 m) {f : Nat} (hf0 : f ≠ 0) (hf : f < m.n) :
    ∃ o, walk1 m f = some o ∧ o.head? = some f ∧ o.Nodup ∧ Walk (m.β 1) o ∧
      ∀ x, x ∈ o → x ≠ 0 ∧ x < m.n ∧ Reach (fun y => [m.β 1 y]) f x := by
  have hp : C03.PolOK (.custom [1]) := by intro b hb; simp at hb; omega
  have hrun := (C03.C03_orbit2_spec hwf hp hf0 hf).1
  obtain ⟨hhead, hnd, hwalk, hmem, hlt, _⟩ :=
    b1walk_spec hwf (by omega) hf0 hf (congrArg (bfsPure · (m.n + 1) [f] [0, f] []) (C03.g2_custom1 m))
  exact ⟨C03.orb m (.custom [1]) f, by unfold walk1; rw [hrun], hhead, hnd, hwalk,
    fun x hx => ⟨((hmem x).1 hx).1, hlt x hx, ((hmem x).1 hx).2⟩⟩

/-- **C11 (b), closed faces**: if no dart of the walk is 1-free (the face is closed), the successor of
    the last listed dart is the face identifier: the exported polygon is the whole closed β1 cycle -/
theorem C11_export_walk_closed {m : Map Val} (hwf : WF 3 m) {f : Nat} (hf0 : f ≠ 0) (hf : f < m.n)
    {o : List Nat} (ho : walk1 m f = some o) (hcl : ∀ x, x ∈ o → m.β 1 x ≠ 0) :
    ∃ hne : o ≠ [], m.β 1 (o.getLast hne) = f := by
  have hp : C03.PolOK (.custom [1]) := by intro b hb; simp at hb; omega
  have hoeq : o = C03.orb m (.custom [1]) f := by
    have := (C03.C03_orbit2_spec hwf hp hf0 hf).1
    unfold walk1 at ho
    rw [this] at ho
    simpa using ho.symm
  exact (b1walk_spec hwf (by omega) hf0 hf
    (hoeq.trans (congrArg (bfsPure · (m.n + 1) [f] [0, f] []) (C03.g2_custom1 m)))).2.2.2.2.2 hcl

theorem indexIn_spec : ∀ (l : List Nat) (v : Nat), v ∈ l → ∃ k, indexIn l v = some k ∧ l[k]? = some v := by
  intro l
  induction l with
  | nil => intro v h; simp at h
  | cons x xs ih =>
      intro v h
      unfold indexIn
      by_cases e : x = v
      · subst e; exact ⟨0, by simp, by simp⟩
      · rcases List.mem_cons.1 h with h | h
        · exact absurd h.symm e
        · obtain ⟨k, hk, hk'⟩ := ih v h
          exact ⟨k + 1, by simp [e, hk], by simpa using hk'⟩

/-- **C11 (b), point indices**: the index listed for an in-use dart `d` is the position, in
    `iter_vertices`, of the vertex identifier of `d` (the smallest dart of its vertex orbit, C03) -/
theorem C11_export_pointOf {m : Map Val} (hwf : WF 3 m) {d : Nat} (hd0 : d ≠ 0) (hd : d < m.n)
    (hu : m.unused d = false) :
    ∃ k, pointOf m (iterVertices2 m) d = some k ∧
      (iterVertices2 m)[k]? = some (C03.cellId m .vertex d) := by
  have hv := (C03.C03_vertexId2_min hwf hd0 hd).1
  have hmem : C03.cellId m .vertex d ∈ iterVertices2 m :=
    (C03.C03_iterVertices2_mem hwf _).2 ⟨d, hd0, hd, hu, rfl⟩
  obtain ⟨k, hk, hk'⟩ := indexIn_spec _ _ hmem
  refine ⟨k, ?_, hk'⟩
  unfold pointOf vidNT
  rw [hv]
  exact hk

/-- non-vacuity of (b): the map imported from `exCells` is exported again -/
def exMap : Map Val := okGet (importCells exPts exCells 0)
instance : Inhabited (List Val × List VCell) := ⟨([], [])⟩
theorem exMap_export :
    exportPiece exMap = .ok (exPts.map flat,
      [⟨3, [0, 1]⟩, ⟨3, [2, 3]⟩, ⟨3, [3, 0]⟩, ⟨3, [1, 4]⟩, ⟨3, [4, 5]⟩, ⟨3, [5, 2]⟩,
       ⟨5, [0, 1, 2]⟩, ⟨5, [0, 2, 3]⟩, ⟨9, [1, 4, 5, 2]⟩]) ∧
    (walk1 exMap 7 = some [7, 8, 9, 10] ∧ ∀ x, x ∈ [7, 8, 9, 10] → exMap.β 1 x ≠ 0) ∧
    exMap.unused 7 = false ∧ pointOf exMap (iterVertices2 exMap) 7 = some 1 := by decide +kernel

example : exportPiece exMap = .ok (okGet (exportPiece exMap)) := by
  rw [exMap_export.1]
  rfl
example : (okGet (exportPiece exMap)).1.length = 6 ∧ (okGet (exportPiece exMap)).2.length = 9 ∧
    (okGet (exportPiece exMap)).2.getLast? = some ⟨9, [1, 4, 5, 2]⟩ := by
  rw [exMap_export.1]
  decide
example : WF 3 exMap := C11_import_ok_WF _ _ _ _ (eq_ok_of_isOk exCells_import.1)
example : walk1 exMap 7 = some [7, 8, 9, 10] ∧ ∀ x, x ∈ [7, 8, 9, 10] → exMap.β 1 x ≠ 0 := exMap_export.2.1
example : exMap.unused 7 = false ∧ pointOf exMap (iterVertices2 exMap) 7 = some 1 := exMap_export.2.2

theorem roundTrip_of_export {m : Map Val} {pts : List Val} {cells : List VCell}
    (h : exportPiece m = .ok (pts, cells)) : roundTrip m = importCells pts cells := by
  unfold roundTrip
  rw [h]
  exact importLegacy_toLegacy pts cells 0

theorem exMap_roundTrip : isOk (roundTrip exMap) = true := by
  rw [roundTrip_of_export exMap_export.1]
  decide +kernel

/-- the round trip of this mesh gives the same map up to the numbering of the darts -/
example : roundTrip exMap = .ok (okGet (roundTrip exMap)) := eq_ok_of_isOk exMap_roundTrip
example : WF 3 (okGet (roundTrip exMap)) := C11_roundTrip_ok_WF _ _ (eq_ok_of_isOk exMap_roundTrip)

/-! ## (d) the known finding C11-crack: free opposite sides are sewn by the import -/

/-- number of 2-free in-use darts (boundary sides) -/
def nFree2 (m : Map Val) : Nat :=
  ((List.range m.n).filter (fun d => d ≠ 0 ∧ m.unused d = false ∧ m.β 2 d = 0)).length

/-- the square A B C D with two interior vertices u, v, cut into six counter-clockwise triangles -/
def crackPts : List Val := [.pt 0 0 0, .pt 4 0 0, .pt 4 4 0, .pt 0 4 0, .pt 1 2 0, .pt 3 2 0]
def crackCells : List VCell :=
  [⟨5, [0, 1, 4]⟩, ⟨5, [1, 5, 4]⟩, ⟨5, [1, 2, 5]⟩, ⟨5, [2, 3, 5]⟩, ⟨5, [3, 4, 5]⟩, ⟨5, [3, 0, 4]⟩]
/-- … in which the interior edge u–v (dart 14 runs u → v) has been 2-unsewn: a crack.  Both end
    vertices are interior, so they stay whole: the two sides of the crack run between the same two
    vertices in opposite directions. -/
def crackMap : Map Val :=
  (atomically (twoUnsew2 cfg0 19 14) (okGet (importCells crackPts crackCells 0))).2

/-- the checks are bundled so that the kernel evaluates each map once -/
def checkBefore (m : Map Val) : Bool :=
  decide (WF 3 m) && decide (∀ d, d < m.n → d ≠ 0 → m.β 1 (m.β 1 (m.β 1 d)) = d) &&
  decide ((iterFaces2 m).length = 6) && decide ((iterVertices2 m).length = 6) && decide (nFree2 m = 6) &&
  decide (m.β 2 14 = 0) && decide (m.β 2 5 = 0)
def checkAfter (m' : Map Val) : Bool :=
  decide ((iterFaces2 m').length = 6) && decide ((iterVertices2 m').length = 6) && decide (nFree2 m' = 4)

/-- the exported piece: the six boundary sides (the two sides of the crack are the `Line`s 2–3 and
    3–2), then the six triangles -/
def crackPiece : List Val × List VCell :=
  ([.pt 0 0 0, .pt 4 0 0, .pt 1 2 0, .pt 3 2 0, .pt 4 4 0, .pt 0 4 0],
   [⟨3, [0, 1]⟩, ⟨3, [3, 2]⟩, ⟨3, [1, 4]⟩, ⟨3, [4, 5]⟩, ⟨3, [2, 3]⟩, ⟨3, [5, 0]⟩,
    ⟨5, [0, 1, 2]⟩, ⟨5, [1, 3, 2]⟩, ⟨5, [1, 4, 3]⟩, ⟨5, [4, 5, 3]⟩, ⟨5, [5, 2, 3]⟩, ⟨5, [5, 0, 2]⟩])

theorem crack_before : checkBefore crackMap = true ∧ exportPiece crackMap = .ok crackPiece ∧
    (14 < crackMap.n ∧ C01.InUse crackMap 14) ∧ (5 < crackMap.n ∧ C01.InUse crackMap 5) ∧
    C03.cellId crackMap .vertex 14 = C03.cellId crackMap .vertex (crackMap.β 1 5) ∧
    C03.cellId crackMap .vertex (crackMap.β 1 14) = C03.cellId crackMap .vertex 5 := by
  decide +kernel
theorem crack_roundTrip : roundTrip crackMap = importCells crackPiece.1 crackPiece.2 :=
  roundTrip_of_export crack_before.2.1
theorem crack_after : (isOk (importCells crackPiece.1 crackPiece.2) &&
    checkAfter (okGet (importCells crackPiece.1 crackPiece.2))) = true := by
  decide +kernel

/-- **C11 (d)**, witness of the known finding: `crackMap` is a well-formed planar mesh of six closed
    triangles with six vertices and six boundary sides (four of the square, two of the crack: darts 14
    and 5); export followed by import succeeds and yields a mesh with six triangles and six vertices
    again but only FOUR boundary sides: the crack has been sewn.  Hence "two faces share a side exactly
    when they did / same boundary" fails for this input, and the hypothesis of DESIGN §7 (c) ("no two
    darts share the same (origin, target) vertex pair") does not exclude it. -/
theorem C11_crack_is_sewn :
    WF 3 crackMap ∧ (∀ d, d < crackMap.n → d ≠ 0 → crackMap.β 1 (crackMap.β 1 (crackMap.β 1 d)) = d) ∧
    (iterFaces2 crackMap).length = 6 ∧ (iterVertices2 crackMap).length = 6 ∧ nFree2 crackMap = 6 ∧
    crackMap.β 2 14 = 0 ∧ crackMap.β 2 5 = 0 ∧
    roundTrip crackMap = .ok (okGet (roundTrip crackMap)) ∧
    (iterFaces2 (okGet (roundTrip crackMap))).length = 6 ∧
    (iterVertices2 (okGet (roundTrip crackMap))).length = 6 ∧
    nFree2 (okGet (roundTrip crackMap)) = 4 := by
  have hb := crack_before.1
  have ha := crack_after
  rw [crack_roundTrip]
  simp only [checkBefore, checkAfter, Bool.and_eq_true, decide_eq_true_eq] at hb ha
  obtain ⟨⟨⟨⟨⟨⟨b1, b2⟩, b3⟩, b4⟩, b5⟩, b6⟩, b7⟩ := hb
  obtain ⟨a0, ⟨a1, a2⟩, a3⟩ := ha
  exact ⟨b1, b2, b3, b4, b5, b6, b7, eq_ok_of_isOk a0, a1, a2, a3⟩

end HC.C11

/-
  C17 — capture and classification: the discrete core.

  Model: `Honeycomb/Model/Capture.lean` (`classify_capture`, `mark_curve` of
  `honeycomb-kernels/src/remeshing/capture.rs`), generated anchor table `Gen/Anchors.lean`.

  Proved here, for every map `m` with `WF 3 m` carrying the three anchor storages (no bound on the size):

  * anchor algebra, from the generated `match` arms, for all identifiers
      `C17_vertex_merge_comm/_idem/_assoc/_lower_dim/_fails_iff` (and `edge_`, `face_`)
  * `C17_classify_frame`          whatever its outcome, `classify_capture` never touches β, the removal flags or
                                  the sizes, and never removes an anchor; `C17_classify_WF`: the map stays well-formed
  * `C17_classify_ok_all_anchored`  after `classify_capture = Ok` (debug build: the three `debug_assert!`s are
                                  part of the function) every vertex, edge and face identifier of an in-use dart
                                  has an anchor
  * `C17_markCurve_terminates`    `mark_curve` terminates (never exhausts the fuel `n_darts + 1`, never panics)
                                  from every start dart, with `Ok` or `UnsupportedGeometry`; every slot it changes
                                  holds `Curve(curve_id)` afterwards (one curve id), vertices that were anchored
                                  keep their anchor (the walk stops at the next anchored vertex), the start edge
                                  is anchored to the curve
  * `C17_markCurve_ok_of_closed`  on a closed boundary (the end vertex of every 2-free dart has a 2-free dart) the
                                  walk from a 2-free dart succeeds
  * `C17_markCurve_err_leaves_boundary`  an error is returned only when the walk reaches a vertex without 2-free dart

  * `C17_core_faces_and_boundary_edges_anchored`  without the assertions, for every input anchoring: when the
                                  three loops end without error every face of an in-use dart and every boundary
                                  edge (edge of an in-use 2-free dart) is anchored
  * `C17_boundary_loop_terminates` the loop over boundaries without anchored vertex terminates (fuel never exhausted)
  * `C17_classify_terminates`     `classify_capture` is total: it terminates on every well-formed map with the anchor
                                  storages, whatever anchors it carries; outcome `Ok`, `UnsupportedGeometry`, or the
                                  panic of a final assertion after the three loops ended with `Ok` (no index panic)
  * `C17_classify_assertion_can_fire`  `C17_classify_ok_all_anchored` without the assertions is FALSE on arbitrary well-formed maps
                                  (dangling edge: vertex left unanchored, the debug assertion panics)

  Method: the frame theorems follow every program of the classification once, for any `Frame` (a reflexive,
  transitive relation between the map before and after that is kept by the values written; `Keeps R p`: the
  program `p` stays inside it whatever its outcome); `Grow` (same β, flags and sizes, no anchor removed) is the
  instance used here, `OnlyVals` the one of Props/C17Surf.lean.  The loops of the colouring are evaluated one step at a time
  by equations (`run_colourDarts_cons`, `run_colourSurface_cons`, and `run_classifySurfaces_cons` with the test `SkipFace`,
  valid on every well-formed map) which the statements about an `Ok` and the termination proofs both read.

  NOT PROVED (see SPEC["not_proved"] of tools/props/c17.py): that the assertions cannot fire on capture
  outputs; one surface id per connected component; the geometric part of capture.
-/
import Honeycomb.Model.Capture
import Honeycomb.Lemmas.Run
import Honeycomb.Lemmas.WFLink
import Honeycomb.Lemmas.Attr
import Honeycomb.Props.C03
import Honeycomb.Lemmas.AnchorMerge


namespace HC.C17
open HC HC.C03
open HC.Gen.Anchors

/-! ## the anchor merge algebra (generated table)

The fifteen merge laws are instances of `HC.C15.DimMerge` (`Lemmas/AnchorMerge.lean`), as are the same statements
`HC.C15.C15_{v,e,f}anchor_merge_*` of `Props/C15.lean`; `C17_vertex_code_ofCode` is proved by cases. -/

section Algebra

theorem C17_vertex_merge_comm (a b : VertexAnchor) : a.merge b = b.merge a :=
  HC.C15.vanchor_dimMerge.comm a b

theorem C17_vertex_merge_idem (a : VertexAnchor) : a.merge a = some a :=
  HC.C15.vanchor_dimMerge.idem a

theorem C17_vertex_merge_lower_dim (a b c : VertexAnchor) (h : a.merge b = some c) :
    c.dim = min a.dim b.dim ∧ (c = a ∨ c = b) :=
  HC.C15.vanchor_dimMerge.lower_dim h

theorem C17_vertex_merge_fails_iff (a b : VertexAnchor) :
    a.merge b = none ↔ a.dim = b.dim ∧ a.id ≠ b.id :=
  HC.C15.vanchor_dimMerge.fails_iff a b

theorem C17_vertex_merge_assoc (a b c x y : VertexAnchor) (h1 : a.merge b = some x)
    (h2 : b.merge c = some y) : x.merge c = a.merge y :=
  HC.C15.vanchor_dimMerge.assoc h1 h2

theorem C17_edge_merge_comm (a b : EdgeAnchor) : a.merge b = b.merge a :=
  HC.C15.eanchor_dimMerge.comm a b

theorem C17_edge_merge_idem (a : EdgeAnchor) : a.merge a = some a :=
  HC.C15.eanchor_dimMerge.idem a

theorem C17_edge_merge_lower_dim (a b c : EdgeAnchor) (h : a.merge b = some c) :
    c.dim = min a.dim b.dim ∧ (c = a ∨ c = b) :=
  HC.C15.eanchor_dimMerge.lower_dim h

theorem C17_edge_merge_fails_iff (a b : EdgeAnchor) :
    a.merge b = none ↔ a.dim = b.dim ∧ a.id ≠ b.id :=
  HC.C15.eanchor_dimMerge.fails_iff a b

theorem C17_edge_merge_assoc (a b c x y : EdgeAnchor) (h1 : a.merge b = some x)
    (h2 : b.merge c = some y) : x.merge c = a.merge y :=
  HC.C15.eanchor_dimMerge.assoc h1 h2

theorem C17_face_merge_comm (a b : FaceAnchor) : a.merge b = b.merge a :=
  HC.C15.fanchor_dimMerge.comm a b

theorem C17_face_merge_idem (a : FaceAnchor) : a.merge a = some a :=
  HC.C15.fanchor_dimMerge.idem a

theorem C17_face_merge_lower_dim (a b c : FaceAnchor) (h : a.merge b = some c) :
    c.dim = min a.dim b.dim ∧ (c = a ∨ c = b) :=
  HC.C15.fanchor_dimMerge.lower_dim h

theorem C17_face_merge_fails_iff (a b : FaceAnchor) :
    a.merge b = none ↔ a.dim = b.dim ∧ a.id ≠ b.id :=
  HC.C15.fanchor_dimMerge.fails_iff a b

theorem C17_face_merge_assoc (a b c x y : FaceAnchor) (h1 : a.merge b = some x)
    (h2 : b.merge c = some y) : x.merge c = a.merge y :=
  HC.C15.fanchor_dimMerge.assoc h1 h2

/-- the codes used by the drivers are injective and decode back -/
theorem C17_vertex_code_ofCode (a : VertexAnchor) : VertexAnchor.ofCode a.code = some a := by
  cases a <;> simp [VertexAnchor.ofCode, VertexAnchor.code, VertexAnchor.id, VertexAnchor.dim] <;> omega

end Algebra

/-! ## frame: only anchors are written, and only added -/

/-- same β, flags, sizes; every slot that held a value still holds one -/
structure Grow (m m' : Map Val) : Prop where
  topo : SameTopo m m'
  mono : ∀ s d, (m.att s d).isSome = true → (m'.att s d).isSome = true

theorem Grow.refl (m : Map Val) : Grow m m := ⟨SameTopo.refl m, fun _ _ h => h⟩

theorem Grow.trans {m m' m'' : Map Val} (h1 : Grow m m') (h2 : Grow m' m'') : Grow m m'' :=
  ⟨h1.topo.trans h2.topo, fun s d h => h2.mono s d (h1.mono s d h)⟩

theorem Grow.setA (m : Map Val) (s d : Nat) (v : Val) : Grow m (m.setA s d (some v)) := by
  refine ⟨SameTopo.setA m s d _, fun t e h => ?_⟩
  rw [Map.att_setA]
  split
  · rfl
  · exact h

/-- the program only adds anchors / attribute values (whatever its outcome) -/
def Anch {α : Type} (p : P Val α) : Prop := ∀ m : Map Val, Grow m (run p m).2

theorem Anch.ret {α : Type} (a : α) : Anch (Prog.ret a : P Val α) := fun m => Grow.refl m

/-! ### following a program inside a frame (`Pre R` of Lemmas/Run, kept by writing `v` to `s` when `W s v`) -/

structure Frame (R : Map Val → Map Val → Prop) (W : Nat → Val → Prop) : Prop extends Pre R where
  setA : ∀ m s d v, W s v → R m (m.setA s d (some v))

/-- the program stays inside the frame, whatever its outcome -/
abbrev Keeps {α : Type} (R : Map Val → Map Val → Prop) (p : P Val α) : Prop := Rel R p

theorem Keeps.of_run {α : Type} {R : Map Val → Map Val → Prop} {p : P Val α} (hk : Keeps R p) {m m' : Map Val}
    {o : Out Err α} (hr : run p m = (o, m')) : R m m' :=
  Rel.run hk hr

theorem Keeps.ite {α : Type} {R : Map Val → Map Val → Prop} {c : Prop} [Decidable c] {p q : P Val α}
    (hp : Keeps R p) (hq : Keeps R q) : Keeps R (if c then p else q) :=
  Rel.ite hp hq

theorem readOnly_firstFree : ∀ l : List Nat, ReadOnly (firstFree l) := by
  intro l
  induction l with
  | nil => exact ReadOnly.pure _
  | cons d ds ih =>
      unfold firstFree
      exact ReadOnly.bind (ReadOnly.rB _ _) fun b => ReadOnly.ite (ReadOnly.pure _) ih

theorem readOnly_freeDartOfVertex (n d : Nat) : ReadOnly (freeDartOfVertex n d) :=
  ReadOnly.bind (readOnly_orbit2 n .vertex d) fun o => readOnly_firstFree o

theorem readOnly_findUnmarkedBoundary (n : Nat) : ∀ ds, ReadOnly (findUnmarkedBoundary n ds) := by
  intro ds
  induction ds with
  | nil => exact ReadOnly.pure _
  | cons d ds ih =>
      unfold findUnmarkedBoundary
      refine ReadOnly.bind (ReadOnly.rU _) fun un => ReadOnly.ite ih ?_
      refine ReadOnly.bind (readOnly_freeDartOfVertex _ _) fun fd => ?_
      cases fd with
      | none => exact ih
      | some dd =>
          refine ReadOnly.bind (readOnly_edgeId2 _) fun e => ReadOnly.bind (ReadOnly.rA _ _) fun a => ?_
          exact ReadOnly.ite (ReadOnly.pure _) ih

theorem readOnly_allAnchored (s : Nat) (idf : Nat → P Val Nat) (hid : ∀ d, ReadOnly (idf d)) :
    ∀ ds, ReadOnly (allAnchored s idf ds) := by
  intro ds
  induction ds with
  | nil => exact ReadOnly.pure _
  | cons d ds ih =>
      unfold allAnchored
      refine ReadOnly.bind (ReadOnly.rU _) fun un => ReadOnly.ite ih ?_
      refine ReadOnly.bind (hid d) fun c => ReadOnly.ite ih ?_
      exact ReadOnly.bind (ReadOnly.rA _ _) fun a => ReadOnly.ite (ReadOnly.pure _) ih

section
variable {R : Map Val → Map Val → Prop} {W : Nat → Val → Prop} (F : Frame R W)
include F

theorem Frame.wA {s : Nat} {v : Val} (h : W s v) (d : Nat) : Keeps R (wA s d (some v) : P Val Unit) :=
  F.toPre.wA fun m => F.setA m s d v h

def CurveW (W : Nat → Val → Prop) : Prop := ∀ c, W sVA (vCurve c) ∧ W sEA (vCurve c)

def SurfW (W : Nat → Val → Prop) : Prop := ∀ k, W sVA (vSurface k) ∧ W sEA (vSurface k) ∧ W sFA (vSurface k)

theorem Frame.markCurveLoop (hC : CurveW W) (n c : Nat) : ∀ f next, Keeps R (markCurveLoop n c f next) := by
  intro f
  induction f with
  | zero => intro next; exact F.retry
  | succ f ih =>
      intro next
      unfold HC.markCurveLoop
      refine F.bind (F.ro (readOnly_vertexId2 _ _)) fun v => F.bind (F.ro (ReadOnly.rA _ _)) fun a => ?_
      refine Keeps.ite (F.pure _) ?_
      refine F.bind (F.ro (readOnly_freeDartOfVertex _ _)) fun fd => ?_
      cases fd with
      | none => exact F.abort _
      | some crt =>
          refine F.bind (F.ro (readOnly_vertexId2 _ _)) fun vc => F.bind (F.wA (hC c).1 _) fun _ => ?_
          refine F.bind (F.ro (readOnly_edgeId2 _)) fun ec => F.bind (F.wA (hC c).2 _) fun _ => ?_
          exact F.bind (F.ro (ReadOnly.rB _ _)) fun nx => ih nx

theorem Frame.markCurve (hC : CurveW W) (n start c : Nat) : Keeps R (markCurve n start c) := by
  unfold HC.markCurve
  refine F.bind (F.ro (readOnly_edgeId2 _)) fun e => F.bind (F.wA (hC c).2 _) fun _ => ?_
  exact F.bind (F.ro (ReadOnly.rB _ _)) fun nx => F.markCurveLoop hC _ _ _ _

theorem Frame.classifyNodes (hC : CurveW W) (n : Nat) : ∀ ds i cid, Keeps R (classifyNodes n ds i cid) := by
  intro ds
  induction ds with
  | nil => intro i cid; exact F.pure _
  | cons d ds ih =>
      intro i cid
      unfold HC.classifyNodes
      refine F.bind (F.ro (ReadOnly.rU _)) fun un => Keeps.ite (ih _ _) ?_
      refine F.bind (F.ro (readOnly_vertexId2 _ _)) fun vid => Keeps.ite (ih _ _) ?_
      refine F.bind (F.ro (ReadOnly.rA _ _)) fun a => Keeps.ite (ih _ _) ?_
      refine F.bind (F.ro (readOnly_freeDartOfVertex _ _)) fun fd => ?_
      cases fd with
      | none => exact ih _ _
      | some dart => exact F.bind (F.markCurve hC _ _ _) fun _ => ih _ _

theorem Frame.classifyLoops (hC : CurveW W) (n : Nat) : ∀ f cid, Keeps R (classifyLoops n f cid) := by
  intro f
  induction f with
  | zero => intro cid; exact F.retry
  | succ f ih =>
      intro cid
      unfold HC.classifyLoops
      refine F.bind (F.ro (readOnly_findUnmarkedBoundary _ _)) fun r => ?_
      cases r with
      | none => exact F.pure _
      | some dart =>
          refine F.bind (F.ro (readOnly_vertexId2 _ _)) fun v => F.bind (F.wA (hC _).1 _) fun _ => ?_
          exact F.bind (F.markCurve hC _ _ _) fun _ => ih _

theorem Frame.colourDarts (hS : SurfW W) (n sid : Nat) : ∀ ds q mk, Keeps R (colourDarts n sid ds q mk) := by
  intro ds
  induction ds with
  | nil => intro q mk; exact F.pure _
  | cons d ds ih =>
      intro q mk
      unfold HC.colourDarts
      refine F.bind (F.ro (readOnly_edgeId2 _)) fun e => F.bind (F.ro (ReadOnly.rA _ _)) fun a =>
        Keeps.ite (ih _ _) ?_
      refine F.bind (F.ro (readOnly_edgeId2 _)) fun e' => F.bind (F.wA (hS sid).2.1 _) fun _ => ?_
      refine F.bind (F.ro (readOnly_vertexId2 _ _)) fun v => F.bind (F.ro (ReadOnly.rA _ _)) fun av => ?_
      refine F.bind (Keeps.ite (F.bind (F.ro (readOnly_vertexId2 _ _)) fun v' => F.wA (hS sid).1 _)
        (F.pure _)) fun _ => ?_
      refine F.bind (F.ro (ReadOnly.rB _ _)) fun b2 => F.bind (F.ro (readOnly_faceId2 _ _)) fun nf => ?_
      exact Keeps.ite (ih _ _) (ih _ _)

theorem Frame.colourSurface (hS : SurfW W) (n sid : Nat) : ∀ f q mk, Keeps R (colourSurface n sid f q mk) := by
  intro f
  induction f with
  | zero => intro q mk; exact F.retry
  | succ f ih =>
      intro q mk
      cases q with
      | nil => unfold HC.colourSurface; exact F.pure _
      | cons crt q =>
          unfold HC.colourSurface
          refine F.bind (F.wA (hS sid).2.2 _) fun _ => F.bind (F.ro (readOnly_orbit2 _ _ _)) fun o => ?_
          exact F.bind (F.colourDarts hS _ _ _ _ _) fun r => ih _ _

theorem Frame.classifySurfaces (hS : SurfW W) (n : Nat) : ∀ ds sid mk, Keeps R (classifySurfaces n ds sid mk) := by
  intro ds
  induction ds with
  | nil => intro sid mk; exact F.pure _
  | cons d ds ih =>
      intro sid mk
      unfold HC.classifySurfaces
      refine F.bind (F.ro (ReadOnly.rU _)) fun un => Keeps.ite (ih _ _) ?_
      refine F.bind (F.ro (readOnly_faceId2 _ _)) fun f => Keeps.ite (ih _ _) ?_
      refine F.bind (F.ro (ReadOnly.rA _ _)) fun a => Keeps.ite (ih _ _) ?_
      exact F.bind (F.colourSurface hS _ _ _ _ _) fun mk' => ih _ _

theorem Frame.classifyCore (hC : CurveW W) (hS : SurfW W) (n : Nat) : Keeps R (classifyCore n) := by
  unfold HC.classifyCore
  refine F.bind (F.classifyNodes hC _ _ _ _) fun cid => ?_
  exact F.bind (F.classifyLoops hC _ _ _) fun _ => F.classifySurfaces hS _ _ _ _

theorem Frame.classifyCapture (hC : CurveW W) (hS : SurfW W) (n : Nat) : Keeps R (classifyCapture n) := by
  unfold HC.classifyCapture
  refine F.bind (F.classifyCore hC hS n) fun _ => ?_
  refine F.bind (F.ro (readOnly_allAnchored _ _ (readOnly_vertexId2 n) _)) fun av => ?_
  refine Keeps.ite F.panic ?_
  refine F.bind (F.ro (readOnly_allAnchored _ _ readOnly_edgeId2 _)) fun ae => ?_
  refine Keeps.ite F.panic ?_
  refine F.bind (F.ro (readOnly_allAnchored _ _ (readOnly_faceId2 n) _)) fun af => ?_
  exact Keeps.ite F.panic (F.pure _)

end

theorem growFrame : Frame Grow (fun _ _ => True) :=
  ⟨⟨Grow.refl, Grow.trans⟩, fun m s d v _ => Grow.setA m s d v⟩

theorem anch_markCurve (n start c : Nat) : Anch (markCurve n start c) :=
  growFrame.markCurve (fun _ => ⟨trivial, trivial⟩) n start c

theorem anch_classifyNodes (n : Nat) (ds : List Nat) (i cid : Nat) : Anch (classifyNodes n ds i cid) :=
  growFrame.classifyNodes (fun _ => ⟨trivial, trivial⟩) n ds i cid

theorem anch_classifyLoops (n f cid : Nat) : Anch (classifyLoops n f cid) :=
  growFrame.classifyLoops (fun _ => ⟨trivial, trivial⟩) n f cid

theorem anch_colourDarts (n sid : Nat) (ds q mk : List Nat) : Anch (colourDarts n sid ds q mk) :=
  growFrame.colourDarts (fun _ => ⟨trivial, trivial, trivial⟩) n sid ds q mk

theorem anch_colourSurface (n sid f : Nat) (q mk : List Nat) : Anch (colourSurface n sid f q mk) :=
  growFrame.colourSurface (fun _ => ⟨trivial, trivial, trivial⟩) n sid f q mk

theorem anch_classifySurfaces (n : Nat) (ds : List Nat) (sid : Nat) (mk : List Nat) :
    Anch (classifySurfaces n ds sid mk) :=
  growFrame.classifySurfaces (fun _ => ⟨trivial, trivial, trivial⟩) n ds sid mk

theorem anch_classifyCore (n : Nat) : Anch (classifyCore n) :=
  growFrame.classifyCore (fun _ => ⟨trivial, trivial⟩) (fun _ => ⟨trivial, trivial, trivial⟩) n

theorem anch_classifyCapture (n : Nat) : Anch (classifyCapture n) :=
  growFrame.classifyCapture (fun _ => ⟨trivial, trivial⟩) (fun _ => ⟨trivial, trivial, trivial⟩) n

/-- **C17, frame**: whatever its outcome (`Ok`, `UnsupportedGeometry`, a failed assertion), and on every
    map, `classify_capture` leaves the β functions, the removal flags, the dart count and the storage
    sizes untouched and never removes a value: every vertex / edge / face that had an anchor still has
    one -/
theorem C17_classify_frame (m : Map Val) :
    let m' := (run (classifyCapture m.n) m).2
    m'.n = m.n ∧ (∀ i d, m'.β i d = m.β i d) ∧ (∀ d, m'.unused d = m.unused d) ∧
    (∀ s d, m'.okA s d = m.okA s d) ∧ ∀ s d, (m.att s d).isSome = true → (m'.att s d).isSome = true := by
  intro m'
  have g := anch_classifyCapture m.n m
  exact ⟨g.topo.n, g.topo.β, g.topo.unused, g.topo.okA, g.mono⟩

/-- **C17**: the classified map is still a well-formed 2-map -/
theorem C17_classify_WF {m : Map Val} (h : WF 3 m) : WF 3 (run (classifyCapture m.n) m).2 :=
  h.sameTopo (anch_classifyCapture m.n m).topo

/-! ## after `Ok`, every cell of an in-use dart is anchored -/

/-- the `.all(..)` of a final assertion, when it answers `true` -/
theorem allAnchored_spec {m : Map Val} (h : WF 3 m) {pol : Policy} (s : Nat) {idf : Nat → P Val Nat}
    (hid : ∀ d, d ≠ 0 → d < m.n → run (idf d) m = (.ok (cellId m pol d), m)) :
    ∀ ds, (∀ d, d ∈ ds → d ≠ 0 ∧ d < m.n) → ∀ m', run (allAnchored s idf ds) m = (.ok true, m') →
      ∀ d, d ∈ ds → m.unused d = false → cellId m pol d = d → (m.att s d).isSome = true := by
  intro ds
  induction ds with
  | nil => intro _ _ _ d hd; cases hd
  | cons x xs ih =>
      intro hds m' hr d hd hu hc
      have hx := hds x List.mem_cons_self
      have ih' := ih (fun d hd => hds d (List.mem_cons_of_mem _ hd)) m'
      unfold allAnchored at hr
      simp only [Prog.bind_eq, run_rU, (h.toSized.okU x).2 hx.2, if_true] at hr
      by_cases hux : m.unused x = true
      · simp only [hux, if_true] at hr
        rcases List.mem_cons.1 hd with e | e
        · subst e; rw [hux] at hu; cases hu
        · exact ih' hr d e hu hc
      · simp only [hux, if_false, Bool.false_eq_true] at hr
        rw [run_bind, hid x hx.1 hx.2] at hr
        simp only at hr
        by_cases hcx : cellId m pol x ≠ x
        · simp only [hcx, if_true, ne_eq, not_false_eq_true] at hr
          rcases List.mem_cons.1 hd with e | e
          · subst e; exact absurd hc hcx
          · exact ih' hr d e hu hc
        · simp only [hcx, if_false] at hr
          simp only [run_rA] at hr
          by_cases hok : m.okA s x = true
          · simp only [hok, if_true] at hr
            cases hax : m.att s x with
            | none => simp [hax] at hr
            | some v =>
                simp only [hax, Option.isNone_some, Bool.false_eq_true, if_false] at hr
                rcases List.mem_cons.1 hd with e | e
                · subst e; rw [hax]; rfl
                · exact ih' hr d e hu hc
          · simp [hok] at hr

theorem mem_darts {n d : Nat} : d ∈ List.range' 1 (n - 1) ↔ d ≠ 0 ∧ d < n := by
  rw [List.mem_range'_1]; omega

theorem cell_rep {m : Map Val} (h : WF 3 m) {pol : Policy} (hs : Sym pol) {d : Nat}
    (hd0 : d ≠ 0) (hd : d < m.n) (hu : m.unused d = false) :
    cellId m pol d ≠ 0 ∧ cellId m pol d < m.n ∧ m.unused (cellId m pol d) = false ∧
      cellId m pol (cellId m pol d) = cellId m pol d := by
  obtain ⟨k0, klt, kid⟩ := cellId_idem h hs hd0 hd
  exact ⟨k0, klt, C03_orbit_of_in_use_is_in_use h hs.ok hd0 hd hu _ (cellId_spec h hs.ok hd0 hd).1, kid⟩

theorem allAnchored_readOnly_run {m m' : Map Val} {s : Nat} {idf : Nat → P Val Nat}
    (hid : ∀ d, ReadOnly (idf d)) {ds : List Nat} {r : Bool}
    (hr : run (allAnchored s idf ds) m = (.ok r, m')) : m' = m :=
  (readOnly_allAnchored s idf hid ds).run_ok hr

/-- `classify_capture = Ok` is `Ok` of the three loops followed by the three read-only assertions, each
    answering `true` -/
theorem classifyCapture_ok_parts {n : Nat} {m m' : Map Val} (hr : run (classifyCapture n) m = (.ok (), m')) :
    run (classifyCore n) m = (.ok (), m') ∧
    run (allAnchored sVA (vertexId2 n) (List.range' 1 (n - 1))) m' = (.ok true, m') ∧
    run (allAnchored sEA edgeId2 (List.range' 1 (n - 1))) m' = (.ok true, m') ∧
    run (allAnchored sFA (faceId2 n) (List.range' 1 (n - 1))) m' = (.ok true, m') := by
  unfold classifyCapture at hr
  simp only [Prog.bind_eq] at hr
  obtain ⟨_, m1, h1, hr⟩ := run_bind_ok hr
  obtain ⟨av, m2, h2, hr⟩ := run_bind_ok hr
  have e2 : m2 = m1 := allAnchored_readOnly_run (readOnly_vertexId2 _) h2
  subst e2
  cases av with
  | false => simp at hr
  | true =>
  simp only [Bool.not_true, Bool.false_eq_true, if_false] at hr
  obtain ⟨ae, m3, h3, hr⟩ := run_bind_ok hr
  have e3 : m3 = m2 := allAnchored_readOnly_run readOnly_edgeId2 h3
  subst e3
  cases ae with
  | false => simp at hr
  | true =>
  simp only [Bool.not_true, Bool.false_eq_true, if_false] at hr
  obtain ⟨af, m4, h4, hr⟩ := run_bind_ok hr
  have e4 : m4 = m3 := allAnchored_readOnly_run (readOnly_faceId2 _) h4
  subst e4
  cases af with
  | false => simp at hr
  | true =>
  simp only [Bool.not_true, Bool.false_eq_true, if_false, Prog.pure_eq, run_ret, Prod.mk.injEq,
    true_and] at hr
  subst hr
  exact ⟨h1, h2, h3, h4⟩

/-- **C17, all cells anchored**: when `classify_capture` returns `Ok(())` (debug build, i.e. with its three
    `debug_assert!`s) on a well-formed 2-map, the map is still well-formed and every vertex, edge and
    face identifier of an in-use dart has an anchor -/
theorem C17_classify_ok_all_anchored {m m' : Map Val} (h : WF 3 m)
    (hr : run (classifyCapture m.n) m = (.ok (), m')) :
    WF 3 m' ∧ ∀ d, d ≠ 0 → d < m'.n → m'.unused d = false →
      (m'.att sVA (cellId m' .vertex d)).isSome = true ∧
      (m'.att sEA (cellId m' .edge d)).isSome = true ∧
      (m'.att sFA (cellId m' .face d)).isSome = true := by
  obtain ⟨h1, h2, h3, h4⟩ := classifyCapture_ok_parts hr
  have g1 := anch_classifyCore m.n m
  rw [h1] at g1
  have hw1 : WF 3 m' := h.sameTopo g1.topo
  have hn1 : m'.n = m.n := g1.topo.n
  rw [← hn1] at h2 h3 h4
  refine ⟨hw1, fun d hd0 hd hu => ?_⟩
  have hds : ∀ d, d ∈ List.range' 1 (m'.n - 1) → d ≠ 0 ∧ d < m'.n := fun d hd => mem_darts.1 hd
  have hv := allAnchored_spec hw1 (pol := .vertex) sVA
    (fun d hd0 hd => (C03_vertexId2_min hw1 hd0 hd).1) _ hds _ h2
  have he := allAnchored_spec hw1 (pol := .edge) sEA
    (fun d hd0 hd => (C03_edgeId2_min hw1 hd0 hd).1) _ hds _ h3
  have hf := allAnchored_spec hw1 (pol := .face) sFA
    (fun d hd0 hd => (C03_faceId2_min hw1 hd0 hd).1) _ hds _ h4
  obtain ⟨v0, vlt, vu, vid⟩ := cell_rep hw1 (pol := .vertex) trivial hd0 hd hu
  obtain ⟨e0, elt, eu, eid⟩ := cell_rep hw1 (pol := .edge) trivial hd0 hd hu
  obtain ⟨f0, flt, fu, fid⟩ := cell_rep hw1 (pol := .face) trivial hd0 hd hu
  exact ⟨hv _ (mem_darts.2 ⟨v0, vlt⟩) vu vid, he _ (mem_darts.2 ⟨e0, elt⟩) eu eid,
    hf _ (mem_darts.2 ⟨f0, flt⟩) fu fid⟩

/-! ## `mark_curve` -/

/-- well-formed 2-map carrying the storages 0 … 8 -/
structure Ok9 (m : Map Val) : Prop where
  wf : WF 3 m
  st : 8 < m.a.size

theorem Ok9.sameTopo {m m' : Map Val} (h : Ok9 m) (t : SameTopo m m') : Ok9 m' :=
  ⟨h.wf.sameTopo t, by rw [t.asz]; exact h.st⟩

theorem Ok9.okA {m : Map Val} (h : Ok9 m) {s d : Nat} (hs : s ≤ 8) (hd : d < m.n) : m.okA s d = true :=
  h.wf.okA_of_lt (by have := h.st; omega) hd

/-! ### the null dart -/

theorem foldl_bfsCheck_null (l : List Nat) (hl : ∀ y, y ∈ l → y = 0) (st : List Nat × List Nat)
    (h0 : st.2.contains 0 = true) : l.foldl bfsCheck st = st := by
  induction l generalizing st with
  | nil => rfl
  | cons y ys ih =>
      have hy : y = 0 := hl y List.mem_cons_self
      subst hy
      simp only [List.foldl_cons]
      have : bfsCheck st 0 = st := by
        unfold bfsCheck; rw [if_pos h0]
      rw [this]
      exact ih (fun y hy => hl y (List.mem_cons_of_mem _ hy)) st h0

theorem orb_zero {m : Map Val} (h : WF 3 m) {pol : Policy} (hp : PolOK pol) : orb m pol 0 = [0] := by
  unfold orb
  show bfsPure (g2 m pol) (m.n + 1) [0] [0, 0] [] = [0]
  unfold bfsPure
  rw [foldl_bfsCheck_null _ (g2_null h pol hp) _ (by simp)]
  simp only [List.nil_append]
  cases m.n <;> rfl

theorem cellId_zero {m : Map Val} (h : WF 3 m) {pol : Policy} (hp : PolOK pol) : cellId m pol 0 = 0 := by
  unfold cellId; rw [orb_zero h hp]; simp [listMin]

theorem run_orbit2_zero {m : Map Val} (h : WF 3 m) {pol : Policy} (hp : PolOK pol) :
    run (orbit2 (X := Val) m.n pol 0) m = (.ok [0], m) := by
  unfold orbit2 orbitWith
  unfold bfs
  show run ((gen2 pol 0).bind _) m = _
  rw [run_bind, run_gen2 h hp h.toSized.npos]
  simp only
  rw [foldl_bfsCheck_null _ (g2_null h pol hp) _ (by simp)]
  simp only [List.nil_append]
  cases m.n <;> rfl

/-! ### identifiers and orbits of every dart below `n_darts` (null dart included) -/

theorem run_orbit2' {m : Map Val} (h : WF 3 m) {pol : Policy} (hp : PolOK pol) {x : Nat} (hx : x < m.n) :
    run (orbit2 (X := Val) m.n pol x) m = (.ok (orb m pol x), m) := by
  by_cases h0 : x = 0
  · subst h0; rw [run_orbit2_zero h hp, orb_zero h hp]
  · exact (C03_orbit2_spec h hp h0 hx).1

theorem run_vid' {m : Map Val} (h : WF 3 m) {x : Nat} (hx : x < m.n) :
    run (vertexId2 (X := Val) m.n x) m = (.ok (cellId m .vertex x), m) := by
  by_cases h0 : x = 0
  · subst h0
    unfold vertexId2
    have := run_orbit2_zero h (pol := .vertex) trivial
    unfold orbit2 at this
    simp only [Prog.bind_eq]
    rw [run_bind, this, cellId_zero h (pol := .vertex) trivial]
    simp [listMin]
  · exact (C03_vertexId2_min h h0 hx).1

theorem vid_lt {m : Map Val} (h : WF 3 m) {x : Nat} (hx : x < m.n) : cellId m .vertex x < m.n := by
  by_cases h0 : x = 0
  · subst h0; rw [cellId_zero h (pol := .vertex) trivial]; exact hx
  · exact (cellId_idem h (pol := .vertex) trivial h0 hx).2.1

theorem mem_vorb {m : Map Val} (h : WF 3 m) {x y : Nat} (hx : x < m.n) (hy : y ∈ orb m .vertex x) :
    y < m.n ∧ cellId m .vertex y = cellId m .vertex x := by
  by_cases h0 : x = 0
  · subst h0
    rw [orb_zero h (pol := .vertex) trivial, List.mem_singleton] at hy
    subst hy; exact ⟨hx, rfl⟩
  · have sp := C03_orbit2_spec h (pol := .vertex) trivial h0 hx
    have hylt := sp.2.2.2.2.2 y hy
    obtain ⟨hy0, hr⟩ := (mem_orb h (pol := .vertex) trivial h0 hx y).1 hy
    exact ⟨hylt, ((C03_same_id_iff_same_cell h (pol := .vertex) trivial h0 hx hy0 hylt).1.2 hr).symm⟩

/-- the first 2-free dart of the vertex orbit, as a pure function of the map -/
def freeOf (m : Map Val) (x : Nat) : Option Nat :=
  (orb m .vertex x).find? (fun d => decide (m.β 2 d = 0))

theorem run_firstFree {m : Map Val} (h : WF 3 m) : ∀ l : List Nat, (∀ y, y ∈ l → y < m.n) →
    run (firstFree l) m = (.ok (l.find? (fun d => decide (m.β 2 d = 0))), m) := by
  intro l
  induction l with
  | nil => intro _; rfl
  | cons d ds ih =>
      intro hl
      unfold firstFree
      simp only [Prog.bind_eq, run_rB, h.okβ_of_lt (by omega : 2 < 3) (hl d List.mem_cons_self), if_true]
      by_cases hb : m.β 2 d = 0
      · simp [hb]
      · simp only [hb, if_false, List.find?_cons, decide_false]
        exact ih fun y hy => hl y (List.mem_cons_of_mem _ hy)

theorem run_freeDart {m : Map Val} (h : WF 3 m) {x : Nat} (hx : x < m.n) :
    run (freeDartOfVertex m.n x) m = (.ok (freeOf m x), m) := by
  unfold freeDartOfVertex
  simp only [Prog.bind_eq]
  rw [run_bind, run_orbit2' h (pol := .vertex) trivial hx]
  exact run_firstFree h _ fun y hy => (mem_vorb h hx hy).1

theorem freeOf_some {m : Map Val} {x crt : Nat} (hf : freeOf m x = some crt) :
    crt ∈ orb m .vertex x ∧ m.β 2 crt = 0 := by
  unfold freeOf at hf
  exact ⟨List.mem_of_find?_eq_some hf, by simpa using List.find?_some hf⟩

theorem freeOf_none {m : Map Val} {x : Nat} (hf : freeOf m x = none) :
    ∀ z, z ∈ orb m .vertex x → m.β 2 z ≠ 0 := by
  unfold freeOf at hf
  intro z hz
  simpa using List.find?_eq_none.1 hf z hz

/-! ### transport along `SameTopo` -/

theorem freeOf_sameTopo {m m' : Map Val} (t : SameTopo m m') (x : Nat) : freeOf m' x = freeOf m x := by
  unfold freeOf; rw [orb_sameTopo t]; simp [t.β]

/-! ### the measure of the two `while` loops: empty slots of an anchor storage -/

/-- empty slots of the storage `s`: of `sVA` for `mark_curve`, of `sEA` for the second loop -/
def cntS (s : Nat) (m : Map Val) : Nat := ((List.range m.n).filter (fun x => (m.att s x).isNone)).length

theorem filter_len_le (l : List Nat) {p q : Nat → Bool} (hpq : ∀ x, q x = true → p x = true) :
    (l.filter q).length ≤ (l.filter p).length := by
  induction l with
  | nil => simp
  | cons a t ih =>
      simp only [List.filter_cons]
      cases hqa : q a with
      | true => rw [hpq a hqa]; simp only [if_true, List.length_cons]; omega
      | false =>
          cases hpa : p a with
          | true => simp only [if_true, List.length_cons, Bool.false_eq_true, if_false]; omega
          | false => simpa using ih

theorem filter_len_lt (l : List Nat) {p q : Nat → Bool} (hpq : ∀ x, q x = true → p x = true)
    {v : Nat} (hv : v ∈ l) (hp : p v = true) (hq : q v = false) :
    (l.filter q).length < (l.filter p).length := by
  induction l with
  | nil => cases hv
  | cons a t ih =>
      simp only [List.filter_cons]
      rcases List.mem_cons.1 hv with e | e
      · subst e
        simp only [hp, hq, if_true, List.length_cons, Bool.false_eq_true, if_false]
        have := filter_len_le t hpq
        omega
      · have := ih e
        cases hqa : q a with
        | true => rw [hpq a hqa]; simp only [if_true, List.length_cons]; omega
        | false =>
            cases hpa : p a with
            | true => simp only [if_true, List.length_cons, Bool.false_eq_true, if_false]; omega
            | false => simpa using this

theorem cntS_le (s : Nat) (m : Map Val) : cntS s m ≤ m.n := by
  unfold cntS
  have := List.length_filter_le (fun x => (m.att s x).isNone) (List.range m.n)
  simpa using this

/-- anchors are only added and the slot `e` went from empty to anchored: fewer empty slots -/
theorem cntS_lt {s : Nat} {m m' : Map Val} (g : Grow m m') {e : Nat} (he : e < m.n) (h0 : m.att s e = none)
    (h1 : (m'.att s e).isSome = true) : cntS s m' < cntS s m := by
  unfold cntS
  rw [g.topo.n]
  apply filter_len_lt (v := e)
  · intro x hx
    cases hm : m.att s x with
    | none => rfl
    | some v =>
        have := g.mono s x (by rw [hm]; rfl)
        cases hm' : m'.att s x with
        | none => rw [hm'] at this; cases this
        | some w => rw [hm'] at hx; cases hx
  · exact List.mem_range.2 he
  · rw [h0]; rfl
  · cases hm' : m'.att s e with
    | none => rw [hm'] at h1; cases h1
    | some w => rfl

theorem cnt_setV {m : Map Val} {v : Nat} (a : Val) (hv : v < m.n) (hok : m.okA sVA v = true)
    (hnone : m.att sVA v = none) : cntS sVA (m.setA sVA v (some a)) < cntS sVA m :=
  cntS_lt (Grow.setA m sVA v a) hv hnone (by rw [Map.att_setA, if_pos ⟨rfl, rfl, hok⟩]; rfl)

theorem cnt_setE (m : Map Val) (e : Nat) (a : Option Val) : cntS sVA (m.setA sEA e a) = cntS sVA m := by
  have : ∀ x, (m.setA sEA e a).att sVA x = m.att sVA x := fun x => by
    rw [Map.att_setA, if_neg (fun hh => absurd hh.1 (by decide))]
  simp only [cntS, Map.n_setA, this]

/-! ### one iteration of the `while` loop -/

theorem run_edgeId_free {m : Map Val} (h : WF 3 m) {d : Nat} (hd : d < m.n) (hb : m.β 2 d = 0) :
    run (edgeId2 (X := Val) d) m = (.ok d, m) := by
  unfold edgeId2
  simp only [Prog.bind_eq, Prog.pure_eq, run_rB, h.okβ_of_lt (by omega : 2 < 3) hd, if_true, hb, run_ret]

theorem run_markCurveLoop_succ {m : Map Val} (h : Ok9 m) {next : Nat} (hn : next < m.n) (c f : Nat) :
    run (markCurveLoop m.n c (f + 1) next) m =
      if (m.att sVA (cellId m .vertex next)).isSome = true then (.ok (), m) else
      match freeOf m next with
      | some crt => run (markCurveLoop m.n c f (m.β 1 crt))
            ((m.setA sVA (cellId m .vertex next) (some (vCurve c))).setA sEA crt (some (vCurve c)))
      | none => (.err errUnsupportedGeometry, m) := by
  have hv := vid_lt h.wf hn
  conv => lhs; unfold markCurveLoop
  simp only [Prog.bind_eq]
  rw [run_bind, run_vid' h.wf hn]
  simp only [run_rA, h.okA (by decide : sVA ≤ 8) hv, if_true]
  by_cases ha : (m.att sVA (cellId m .vertex next)).isSome = true
  · simp only [ha, if_true, Prog.pure_eq, run_ret]
  · simp only [ha, if_false, Bool.false_eq_true]
    rw [run_bind, run_freeDart h.wf hn]
    cases hfo : freeOf m next with
    | none => simp only [run_abort]
    | some crt =>
        obtain ⟨hmem, hb2⟩ := freeOf_some hfo
        obtain ⟨hclt, hcid⟩ := mem_vorb h.wf hn hmem
        simp only
        rw [run_bind, run_vid' h.wf hclt, hcid]
        simp only [run_wA, h.okA (by decide : sVA ≤ 8) hv, if_true]
        have t1 : SameTopo m (m.setA sVA (cellId m .vertex next) (some (vCurve c))) := SameTopo.setA _ _ _ _
        have h1 := h.sameTopo t1
        have hclt1 : crt < (m.setA sVA (cellId m .vertex next) (some (vCurve c))).n := hclt
        rw [run_bind, run_edgeId_free h1.wf hclt1 (by rw [t1.β]; exact hb2)]
        simp only [run_wA, h1.okA (by decide : sEA ≤ 8) hclt1, if_true]
        have t2 : SameTopo (m.setA sVA (cellId m .vertex next) (some (vCurve c)))
            ((m.setA sVA (cellId m .vertex next) (some (vCurve c))).setA sEA crt (some (vCurve c))) :=
          SameTopo.setA _ _ _ _
        have h2 := h1.sameTopo t2
        have hclt2 : crt < ((m.setA sVA (cellId m .vertex next) (some (vCurve c))).setA sEA crt
            (some (vCurve c))).n := hclt
        simp only [run_rB, h2.wf.okβ_of_lt (by omega : 1 < 3) hclt2, if_true]
        rfl

/-! ### what `mark_curve` does to the map -/

/-- every slot that changed holds `Curve(c)` afterwards, in the vertex or the edge anchor storage -/
def OnlyCurve (c : Nat) (m m' : Map Val) : Prop :=
  ∀ s d, m'.att s d ≠ m.att s d → (s = sVA ∨ s = sEA) ∧ m'.att s d = some (vCurve c)

/-- vertices that had an anchor keep it -/
def KeepV (m m' : Map Val) : Prop :=
  ∀ d, (m.att sVA d).isSome = true → m'.att sVA d = m.att sVA d

structure Post (c : Nat) (m m' : Map Val) : Prop where
  grow : Grow m m'
  only : OnlyCurve c m m'
  keep : KeepV m m'

theorem Post.refl (c : Nat) (m : Map Val) : Post c m m :=
  ⟨Grow.refl m, fun _ _ h => absurd rfl h, fun _ _ => rfl⟩

theorem Post.trans {c : Nat} {m m' m'' : Map Val} (h1 : Post c m m') (h2 : Post c m' m'') : Post c m m'' := by
  refine ⟨h1.grow.trans h2.grow, ?_, ?_⟩
  · intro s d hne
    by_cases e : m''.att s d = m'.att s d
    · rw [e] at hne ⊢; exact h1.only s d hne
    · exact h2.only s d e
  · intro d hd
    rw [h2.keep d (by rw [h1.keep d hd]; exact hd), h1.keep d hd]

/-- one write of `Curve(c)` on an edge -/
theorem Post.setE (c : Nat) (m : Map Val) (e : Nat) : Post c m (m.setA sEA e (some (vCurve c))) := by
  refine ⟨Grow.setA _ _ _ _, ?_, ?_⟩
  · intro s d hne
    rw [Map.att_setA] at hne ⊢
    by_cases hc : sEA = s ∧ e = d ∧ m.okA sEA e = true
    · rw [if_pos hc]; exact ⟨Or.inr hc.1.symm, rfl⟩
    · rw [if_neg hc] at hne; exact absurd rfl hne
  · intro d _
    rw [Map.att_setA, if_neg]
    intro hh; exact absurd hh.1 (by decide)

/-- one write of `Curve(c)` on an unanchored vertex -/
theorem Post.setV (c : Nat) (m : Map Val) (v : Nat) (hnone : ¬ (m.att sVA v).isSome = true) :
    Post c m (m.setA sVA v (some (vCurve c))) := by
  refine ⟨Grow.setA _ _ _ _, ?_, ?_⟩
  · intro s d hne
    rw [Map.att_setA] at hne ⊢
    by_cases hc : sVA = s ∧ v = d ∧ m.okA sVA v = true
    · rw [if_pos hc]; exact ⟨Or.inl hc.1.symm, rfl⟩
    · rw [if_neg hc] at hne; exact absurd rfl hne
  · intro d hd
    rw [Map.att_setA, if_neg]
    intro hh; rw [hh.2.1] at hnone; exact hnone hd

/-- the walk left the boundary: `x` is the successor of the start or of a 2-free dart and its vertex
    has no 2-free dart -/
def LeftAt (m : Map Val) (next : Nat) : Prop :=
  ∃ x, x < m.n ∧ (x = next ∨ ∃ y, y < m.n ∧ m.β 2 y = 0 ∧ x = m.β 1 y) ∧ freeOf m x = none

theorem LeftAt.sameTopo {m m' : Map Val} (t : SameTopo m m') {x : Nat} (h : LeftAt m' x) : LeftAt m x := by
  obtain ⟨z, hz, hor, hf⟩ := h
  refine ⟨z, by rw [← t.n]; exact hz, ?_, by rw [← freeOf_sameTopo t]; exact hf⟩
  rcases hor with e | ⟨y, hy, hb, e⟩
  · exact Or.inl e
  · exact Or.inr ⟨y, by rw [← t.n]; exact hy, by rw [← t.β]; exact hb, by rw [← t.β]; exact e⟩

/-- the `while` loop of `mark_curve`, by induction on the fuel: with more fuel than unanchored vertex
    slots it ends with `Ok` or `UnsupportedGeometry` -/
theorem markCurveLoop_spec (c : Nat) : ∀ (f : Nat) (m : Map Val) (next : Nat), Ok9 m → next < m.n →
    cntS sVA m < f →
    ∃ m', Post c m m' ∧ (run (markCurveLoop m.n c f next) m = (.ok (), m') ∨
      (run (markCurveLoop m.n c f next) m = (.err errUnsupportedGeometry, m') ∧ LeftAt m next)) := by
  intro f
  induction f with
  | zero => intro m next _ _ hc; omega
  | succ f ih =>
      intro m next h hn hc
      rw [run_markCurveLoop_succ h hn]
      by_cases ha : (m.att sVA (cellId m .vertex next)).isSome = true
      · rw [if_pos ha]; exact ⟨m, Post.refl c m, Or.inl rfl⟩
      · rw [if_neg ha]
        cases hfo : freeOf m next with
        | none => exact ⟨m, Post.refl c m, Or.inr ⟨rfl, next, hn, Or.inl rfl, hfo⟩⟩
        | some crt =>
            simp only
            obtain ⟨hmem, hb2⟩ := freeOf_some hfo
            obtain ⟨hclt, hcid⟩ := mem_vorb h.wf hn hmem
            have hv := vid_lt h.wf hn
            have hnone : m.att sVA (cellId m .vertex next) = none := by
              cases hx : m.att sVA (cellId m .vertex next) with
              | none => rfl
              | some v => rw [hx] at ha; exact absurd rfl ha
            have p1 := Post.setV c m _ ha
            have p2 := Post.setE c (m.setA sVA (cellId m .vertex next) (some (vCurve c))) crt
            have p12 := p1.trans p2
            have t12 := p12.grow.topo
            have h2 := h.sameTopo t12
            have hn2 : m.β 1 crt < ((m.setA sVA (cellId m .vertex next) (some (vCurve c))).setA sEA crt
                (some (vCurve c))).n := h.wf.range 1 (by omega) crt hclt
            have hc2 : cntS sVA ((m.setA sVA (cellId m .vertex next) (some (vCurve c))).setA sEA crt
                (some (vCurve c))) < f := by
              rw [cnt_setE]
              have := cnt_setV (vCurve c) hv (h.okA (by decide : sVA ≤ 8) hv) hnone
              omega
            obtain ⟨m', pm, hres⟩ := ih _ _ h2 hn2 hc2
            have hnn : ((m.setA sVA (cellId m .vertex next) (some (vCurve c))).setA sEA crt
                (some (vCurve c))).n = m.n := rfl
            rw [hnn] at hres
            refine ⟨m', p12.trans pm, ?_⟩
            rcases hres with hr | ⟨hr, hl⟩
            · exact Or.inl hr
            · refine Or.inr ⟨hr, ?_⟩
              obtain ⟨z, hz, hor, hf⟩ := LeftAt.sameTopo t12 hl
              refine ⟨z, hz, Or.inr ?_, hf⟩
              rcases hor with e | hy
              · exact ⟨crt, hclt, hb2, e⟩
              · exact hy

/-- **C17, `mark_curve` terminates with one curve id**: on a well-formed 2-map with the anchor
    storages, from every dart `start`, `mark_curve(cmap, start, c)` never exhausts its fuel (the Rust
    loop terminates) and never panics: it returns `Ok` or `UnsupportedGeometry`.  In both cases the
    map keeps its β functions, flags and anchors (`Grow`); every slot it changed holds `Curve(c)`
    (one curve id for all the vertices and edges of the walk); vertices that were anchored keep
    their anchor (the walk stops at the next anchored vertex); the edge of `start` is anchored to
    the curve. -/
theorem C17_markCurve_terminates {m : Map Val} (h : WF 3 m) (hst : 8 < m.a.size) {start : Nat}
    (hs0 : start ≠ 0) (hs : start < m.n) (c : Nat) :
    ∃ m', (run (markCurve m.n start c) m = (.ok (), m') ∨
        (run (markCurve m.n start c) m = (.err errUnsupportedGeometry, m') ∧
          LeftAt m (m.β 1 start))) ∧
      Grow m m' ∧ OnlyCurve c m m' ∧ KeepV m m' ∧
      m'.att sEA (cellId m .edge start) = some (vCurve c) := by
  have h9 : Ok9 m := ⟨h, hst⟩
  have he := C03_edgeId2_min h hs0 hs
  have helt : cellId m .edge start < m.n := (cellId_idem h (pol := .edge) trivial hs0 hs).2.1
  unfold markCurve
  simp only [Prog.bind_eq]
  rw [run_bind, he.1]
  simp only [run_wA, h9.okA (by decide : sEA ≤ 8) helt, if_true]
  have p1 := Post.setE c m (cellId m .edge start)
  have t1 := p1.grow.topo
  have h1 := h9.sameTopo t1
  have hs1 : start < (m.setA sEA (cellId m .edge start) (some (vCurve c))).n := hs
  simp only [run_rB, h1.wf.okβ_of_lt (by omega : 1 < 3) hs1, if_true]
  have hn1 : (m.setA sEA (cellId m .edge start) (some (vCurve c))).β 1 start
      < (m.setA sEA (cellId m .edge start) (some (vCurve c))).n := h1.wf.range 1 (by omega) start hs1
  have hc1 : cntS sVA (m.setA sEA (cellId m .edge start) (some (vCurve c)))
      < (m.setA sEA (cellId m .edge start) (some (vCurve c))).n + 1 := by
    have := cntS_le sVA (m.setA sEA (cellId m .edge start) (some (vCurve c))); omega
  obtain ⟨m', pm, hres⟩ := markCurveLoop_spec c _ _ _ h1 hn1 hc1
  have pp := p1.trans pm
  have hatt : m'.att sEA (cellId m .edge start) = some (vCurve c) := by
    have hset : (m.setA sEA (cellId m .edge start) (some (vCurve c))).att sEA (cellId m .edge start)
        = some (vCurve c) := by
      rw [Map.att_setA, if_pos ⟨rfl, rfl, h9.okA (by decide : sEA ≤ 8) helt⟩]
    by_cases e : m'.att sEA (cellId m .edge start)
        = (m.setA sEA (cellId m .edge start) (some (vCurve c))).att sEA (cellId m .edge start)
    · rw [e, hset]
    · exact (pm.only _ _ e).2
  refine ⟨m', ?_, pp.grow, pp.only, pp.keep, hatt⟩
  rcases hres with hr | ⟨hr, hl⟩
  · exact Or.inl hr
  · exact Or.inr ⟨hr, LeftAt.sameTopo t1 hl⟩

/-- the boundary is closed: the end vertex of every 2-free dart has a 2-free dart -/
def ClosedBoundary (m : Map Val) : Prop :=
  ∀ y, y < m.n → m.β 2 y = 0 → freeOf m (m.β 1 y) ≠ none

/-- **C17, `mark_curve` on closed boundaries**: from a 2-free dart of a closed boundary the walk never leaves
    the boundary and `mark_curve` returns `Ok` -/
theorem C17_markCurve_ok_of_closed {m : Map Val} (h : WF 3 m) (hst : 8 < m.a.size) {start : Nat}
    (hs0 : start ≠ 0) (hs : start < m.n) (hfree : m.β 2 start = 0) (hcl : ClosedBoundary m) (c : Nat) :
    ∃ m', run (markCurve m.n start c) m = (.ok (), m') := by
  obtain ⟨m', hres, _⟩ := C17_markCurve_terminates h hst hs0 hs c
  rcases hres with hr | ⟨_, z, hz, hor, hf⟩
  · exact ⟨m', hr⟩
  · exfalso
    rcases hor with e | ⟨y, hy, hb, e⟩
    · exact hcl start hs hfree (e ▸ hf)
    · exact hcl y hy hb (e ▸ hf)

/-- **C17, the error of `mark_curve`**: `mark_curve` returns `UnsupportedGeometry` only when the walk reached a
    vertex that has no 2-free dart (the successor of the start dart or of a 2-free dart) -/
theorem C17_markCurve_err_leaves_boundary {m m' : Map Val} (h : WF 3 m) (hst : 8 < m.a.size)
    {start : Nat} (hs0 : start ≠ 0) (hs : start < m.n) (c : Nat) {e : Err}
    (hr : run (markCurve m.n start c) m = (.err e, m')) :
    e = errUnsupportedGeometry ∧
    ∃ x, x < m.n ∧ (x = m.β 1 start ∨ ∃ y, y < m.n ∧ m.β 2 y = 0 ∧ x = m.β 1 y) ∧
      ∀ z, z ∈ orb m .vertex x → m.β 2 z ≠ 0 := by
  obtain ⟨m'', hres, _⟩ := C17_markCurve_terminates h hst hs0 hs c
  rcases hres with hr' | ⟨hr', z, hz, hor, hf⟩
  · rw [hr'] at hr; cases hr
  · rw [hr'] at hr
    have : e = errUnsupportedGeometry := by
      have := congrArg Prod.fst hr; simp at this; exact this.symm
    exact ⟨this, z, hz, hor, freeOf_none hf⟩

/-! ## without the assertions: faces and boundary edges are always anchored -/

/-- the third loop passes over a dart that is unused, is not the identifier of its face, or whose face is anchored -/
def SkipFace (m : Map Val) (x : Nat) : Prop :=
  m.unused x = true ∨ cellId m .face x ≠ x ∨ (m.okA sFA x = true ∧ (m.att sFA x).isSome = true)

instance (m : Map Val) (x : Nat) : Decidable (SkipFace m x) := by
  unfold SkipFace
  infer_instance

theorem SkipFace.of_not {m : Map Val} {x : Nat} (h : ¬ SkipFace m x) (hok : m.okA sFA x = true) :
    m.unused x = false ∧ cellId m .face x = x ∧ m.att sFA x = none := by
  unfold SkipFace at h
  refine ⟨?_, Classical.not_not.1 fun hc => h (Or.inr (Or.inl hc)), ?_⟩
  · cases hu : m.unused x with
    | false => rfl
    | true => exact absurd (Or.inl hu) h
  · cases ha : m.att sFA x with
    | none => rfl
    | some v => exact absurd (Or.inr (Or.inr ⟨hok, by rw [ha]; rfl⟩)) h

/-- one step of the third loop: a dart that is not passed over starts the colouring of a new surface -/
theorem run_classifySurfaces_cons {m : Map Val} (h : WF 3 m) {x : Nat} (hx : x ≠ 0 ∧ x < m.n) (xs : List Nat)
    (sid : Nat) (mk : List Nat) :
    run (classifySurfaces m.n (x :: xs) sid mk) m =
      if SkipFace m x then run (classifySurfaces m.n xs sid mk) m
      else if m.okA sFA x = true then
        run ((colourSurface m.n sid (m.n + 2) [x] mk).bind fun mk' => classifySurfaces m.n xs (sid + 1) mk') m
      else (.panic, m) := by
  conv => lhs; unfold classifySurfaces
  simp only [Prog.bind_eq, run_rU, (h.toSized.okU x).2 hx.2, if_true]
  unfold SkipFace
  by_cases hux : m.unused x = true
  · simp only [hux, if_true, true_or]
  · simp only [hux, if_false, Bool.false_eq_true, false_or]
    rw [run_bind, (C03_faceId2_min h hx.1 hx.2).1]
    simp only
    by_cases hcx : cellId m .face x ≠ x
    · simp only [hcx, if_true, ne_eq, not_false_eq_true, true_or]
    · simp only [hcx, if_false, false_or, run_rA]
      by_cases hok : m.okA sFA x = true
      · simp only [hok, if_true, true_and]
        by_cases ha : (m.att sFA x).isSome = true
        · simp only [ha, if_true]
        · simp only [ha, if_false, Bool.false_eq_true]
      · simp only [hok, if_false, Bool.false_eq_true, false_and]

/-- third loop: every face identifier among the scanned darts ends up anchored -/
theorem classifySurfaces_spec (n : Nat) : ∀ (ds : List Nat) (sid : Nat) (mk : List Nat) (m m' : Map Val),
    WF 3 m → m.n = n → (∀ d, d ∈ ds → d ≠ 0 ∧ d < n) →
    run (classifySurfaces n ds sid mk) m = (.ok (), m') →
    ∀ d, d ∈ ds → m.unused d = false → cellId m .face d = d → (m'.att sFA d).isSome = true := by
  intro ds
  induction ds with
  | nil => intro _ _ _ _ _ _ _ _ d hd; cases hd
  | cons x xs ih =>
      intro sid mk m m' h hn hds hr d hd hu hc
      subst hn
      have hxs : ∀ d, d ∈ xs → d ≠ 0 ∧ d < m.n := fun d hd => hds d (List.mem_cons_of_mem _ hd)
      rw [run_classifySurfaces_cons h (hds x List.mem_cons_self)] at hr
      split at hr
      · -- passed over: `x` is not a live face identifier, or is anchored already; the rest only adds anchors
        rename_i hskip
        rcases List.mem_cons.1 hd with e | e
        · subst e
          rcases hskip with hux | hcx | ⟨_, ha⟩
          · rw [hux] at hu
            cases hu
          · exact absurd hc hcx
          · exact (Keeps.of_run (anch_classifySurfaces m.n xs _ _) hr).mono sFA d ha
        · exact ih sid mk m m' h rfl hxs hr d e hu hc
      · split at hr
        · rename_i hok
          obtain ⟨mk', m1, h1, hr2⟩ := run_bind_ok hr
          -- the first pop writes the anchor of `x`, the rest of the colouring only adds
          have hx1 : (m1.att sFA x).isSome = true ∧ SameTopo m m1 := by
            unfold colourSurface at h1
            simp only [Prog.bind_eq, run_wA, hok, if_true] at h1
            have g := growFrame.bind (growFrame.ro (readOnly_orbit2 m.n .face x)) (fun o =>
              growFrame.bind (anch_colourDarts m.n sid o [] mk) fun r =>
                anch_colourSurface m.n sid (m.n + 1) r.1 r.2) (m.setA sFA x (some (vSurface sid)))
            rw [h1] at g
            refine ⟨g.mono sFA x ?_, (SameTopo.setA _ _ _ _).trans g.topo⟩
            rw [Map.att_setA, if_pos ⟨rfl, rfl, hok⟩]
            rfl
          have t1 := hx1.2
          rcases List.mem_cons.1 hd with e | e
          · subst e
            exact (Keeps.of_run (anch_classifySurfaces m.n xs _ _) hr2).mono sFA d hx1.1
          · exact ih (sid + 1) mk' m1 m' (h.sameTopo t1) t1.n (fun d hd => hxs d hd) hr2 d e
              (by rw [t1.unused]; exact hu) (by rw [cellId_sameTopo t1]; exact hc)
        · cases hr

/-- the search of the second loop, when it finds nothing: every in-use 2-free dart has an anchored edge -/
theorem findUnmarkedBoundary_none {m : Map Val} (h : WF 3 m) : ∀ (ds : List Nat) (m' : Map Val),
    (∀ d, d ∈ ds → d ≠ 0 ∧ d < m.n) →
    run (findUnmarkedBoundary m.n ds) m = (.ok none, m') →
    ∀ d, d ∈ ds → m.unused d = false → m.β 2 d = 0 → (m.att sEA d).isSome = true := by
  intro ds
  induction ds with
  | nil => intro _ _ _ d hd; cases hd
  | cons x xs ih =>
      intro m' hds hr d hd hu hb
      have hx := hds x List.mem_cons_self
      have hxs : ∀ d, d ∈ xs → d ≠ 0 ∧ d < m.n := fun d hd => hds d (List.mem_cons_of_mem _ hd)
      unfold findUnmarkedBoundary at hr
      simp only [Prog.bind_eq, run_rU, (h.toSized.okU x).2 hx.2, if_true] at hr
      by_cases hux : m.unused x = true
      · simp only [hux, if_true] at hr
        rcases List.mem_cons.1 hd with e | e
        · subst e; rw [hux] at hu; cases hu
        · exact ih m' hxs hr d e hu hb
      · simp only [hux, if_false, Bool.false_eq_true] at hr
        rw [run_bind, run_freeDart h hx.2] at hr
        cases hfo : freeOf m x with
        | none =>
            rw [hfo] at hr
            simp only at hr
            rcases List.mem_cons.1 hd with e | e
            · subst e
              -- `d` lies in its own vertex orbit, which has no 2-free dart
              exfalso
              have hmem := self_mem_orb h (pol := .vertex) trivial hx.1 hx.2
              exact freeOf_none hfo d hmem hb
            · exact ih m' hxs hr d e hu hb
        | some dd =>
            rw [hfo] at hr
            simp only at hr
            obtain ⟨hmem, hb2⟩ := freeOf_some hfo
            obtain ⟨hdlt, _⟩ := mem_vorb h hx.2 hmem
            rw [run_bind, run_edgeId_free h hdlt hb2] at hr
            simp only [run_rA] at hr
            by_cases hok : m.okA sEA dd = true
            · simp only [hok, if_true] at hr
              cases hax : m.att sEA dd with
              | none => simp [hax] at hr
              | some v =>
                  simp only [hax, Option.isNone_some, Bool.false_eq_true, if_false] at hr
                  rcases List.mem_cons.1 hd with e | e
                  · subst e
                    -- `d` itself is the first 2-free dart of its orbit (the orbit starts with `d`)
                    have hhead := (C03_orbit2_spec h (pol := .vertex) trivial hx.1 hx.2).2.1
                    have : freeOf m d = some d := by
                      unfold freeOf
                      cases ho : orb m .vertex d with
                      | nil => rw [ho] at hhead; cases hhead
                      | cons a as =>
                          rw [ho] at hhead
                          simp only [List.head?_cons, Option.some.injEq] at hhead
                          subst hhead
                          simp [hb]
                    rw [this] at hfo
                    cases hfo
                    rw [hax]; rfl
                  · exact ih m' hxs hr d e hu hb
            · simp [hok] at hr

/-- second loop: when it ends with `Ok`, every in-use 2-free dart has an anchored edge -/
theorem classifyLoops_spec (n : Nat) : ∀ (f cid : Nat) (m m' : Map Val) (r : Nat),
    WF 3 m → m.n = n → run (classifyLoops n f cid) m = (.ok r, m') →
    ∀ d, d ≠ 0 → d < n → m'.unused d = false → m'.β 2 d = 0 → (m'.att sEA d).isSome = true := by
  intro f
  induction f with
  | zero => intro cid m m' r _ _ hr; simp [classifyLoops] at hr
  | succ f ih =>
      intro cid m m' r h hn hr d hd0 hd hu hb
      unfold classifyLoops at hr
      simp only [Prog.bind_eq] at hr
      obtain ⟨res, m1, h1, hr⟩ := run_bind_ok hr
      have e1 : m1 = m := (readOnly_findUnmarkedBoundary n _).run_ok h1
      rw [e1] at h1 hr
      clear e1
      cases res with
      | none =>
          simp only [Prog.pure_eq, run_ret, Prod.mk.injEq] at hr
          obtain ⟨_, e⟩ := hr
          rw [← e] at hu hb ⊢
          rw [← hn] at h1 hd
          exact findUnmarkedBoundary_none h _ _ (fun d hd => mem_darts.1 hd) h1 d
            (mem_darts.2 ⟨hd0, hd⟩) hu hb
      | some dart =>
          simp only at hr
          obtain ⟨v, m2, h2, hr⟩ := run_bind_ok hr
          obtain ⟨_, m3, h3, hr⟩ := run_bind_ok hr
          obtain ⟨_, m4, h4, hr⟩ := run_bind_ok hr
          have g2 := Keeps.of_run (growFrame.ro (readOnly_vertexId2 n dart)) h2
          have g3 := Keeps.of_run (growFrame.wA (s := sVA) (v := vCurve (cid + 1)) trivial v) h3
          have g4 := Keeps.of_run (anch_markCurve n dart (cid + 1)) h4
          have t := (g2.trans (g3.trans g4)).topo
          exact ih (cid + 1) m4 m' r (h.sameTopo t) (by rw [t.n]; exact hn) hr d hd0 hd hu hb

/-- **C17, no assertion needed**: whenever the three classification loops end without error on a
    well-formed 2-map — whatever anchors the map carried before — every face identifier of an in-use
    dart and the edge of every in-use 2-free dart (every boundary edge) has an anchor -/
theorem C17_core_faces_and_boundary_edges_anchored {m m' : Map Val} (h : WF 3 m)
    (hr : run (classifyCore m.n) m = (.ok (), m')) :
    ∀ d, d ≠ 0 → d < m'.n → m'.unused d = false →
      (m'.att sFA (cellId m' .face d)).isSome = true ∧
      (m'.β 2 d = 0 → (m'.att sEA d).isSome = true) := by
  unfold classifyCore at hr
  simp only [Prog.bind_eq] at hr
  obtain ⟨cid, m1, h1, hr⟩ := run_bind_ok hr
  obtain ⟨r, m2, h2, hr⟩ := run_bind_ok hr
  have g1 := Keeps.of_run (anch_classifyNodes m.n (List.range' 1 (m.n - 1)) 0 0) h1
  have g2 := Keeps.of_run (anch_classifyLoops m.n (m.n + 1) cid) h2
  have g3 := Keeps.of_run (anch_classifySurfaces m.n (List.range' 1 (m.n - 1)) 0 [0]) hr
  have hw1 := h.sameTopo g1.topo
  have hw2 := hw1.sameTopo g2.topo
  have hn2 : m2.n = m.n := (g1.topo.trans g2.topo).n
  have hn' : m'.n = m.n := (g1.topo.trans (g2.topo.trans g3.topo)).n
  intro d hd0 hd hu
  rw [hn'] at hd
  have hu2 : m2.unused d = false := by rw [← g3.topo.unused]; exact hu
  constructor
  · rw [cellId_sameTopo g3.topo]
    obtain ⟨f0, flt, fu, fid⟩ := cell_rep hw2 (pol := .face) trivial hd0 (by rw [hn2]; exact hd) hu2
    rw [hn2] at flt
    exact classifySurfaces_spec m.n _ 0 [0] m2 m' hw2 hn2 (fun d hd => mem_darts.1 hd) hr _
      (mem_darts.2 ⟨f0, flt⟩) fu fid
  · intro hb
    have := classifyLoops_spec m.n (m.n + 1) cid m1 m2 r hw1 g1.topo.n h2 d hd0 hd hu2
      (by rw [← g3.topo.β]; exact hb)
    exact g3.mono sEA d this

/-! ## the second loop terminates -/

/-- the search of the second loop, when it finds a dart: a non-null 2-free dart with an unanchored edge -/
theorem findUnmarkedBoundary_some {m : Map Val} (h : WF 3 m) : ∀ (ds : List Nat) (m' : Map Val) (dart : Nat),
    (∀ d, d ∈ ds → d ≠ 0 ∧ d < m.n) →
    run (findUnmarkedBoundary m.n ds) m = (.ok (some dart), m') →
    dart ≠ 0 ∧ dart < m.n ∧ m.β 2 dart = 0 ∧ m.att sEA dart = none := by
  intro ds
  induction ds with
  | nil => intro _ _ _ hr; simp [findUnmarkedBoundary] at hr
  | cons x xs ih =>
      intro m' dart hds hr
      have hx := hds x List.mem_cons_self
      have hxs : ∀ d, d ∈ xs → d ≠ 0 ∧ d < m.n := fun d hd => hds d (List.mem_cons_of_mem _ hd)
      unfold findUnmarkedBoundary at hr
      simp only [Prog.bind_eq, run_rU, (h.toSized.okU x).2 hx.2, if_true] at hr
      by_cases hux : m.unused x = true
      · simp only [hux, if_true] at hr
        exact ih m' dart hxs hr
      · simp only [hux, if_false, Bool.false_eq_true] at hr
        rw [run_bind, run_freeDart h hx.2] at hr
        cases hfo : freeOf m x with
        | none => rw [hfo] at hr; exact ih m' dart hxs hr
        | some dd =>
            rw [hfo] at hr
            simp only at hr
            obtain ⟨hmem, hb2⟩ := freeOf_some hfo
            obtain ⟨hdlt, _⟩ := mem_vorb h hx.2 hmem
            have hd0 : dd ≠ 0 := ((mem_orb h (pol := .vertex) trivial hx.1 hx.2 dd).1 hmem).1
            rw [run_bind, run_edgeId_free h hdlt hb2] at hr
            simp only [run_rA] at hr
            by_cases hok : m.okA sEA dd = true
            · simp only [hok, if_true] at hr
              cases hax : m.att sEA dd with
              | none =>
                  simp only [hax, Option.isNone_none, if_true, Prog.pure_eq, run_ret, Prod.mk.injEq,
                    Out.ok.injEq, Option.some.injEq] at hr
                  obtain ⟨e, _⟩ := hr
                  subst e
                  exact ⟨hd0, hdlt, hb2, hax⟩
              | some v =>
                  simp only [hax, Option.isNone_some, Bool.false_eq_true, if_false] at hr
                  exact ih m' dart hxs hr
            · simp [hok] at hr

/-- on a well-formed map with the anchor storages the search itself always answers -/
theorem findUnmarkedBoundary_total {m : Map Val} (h : Ok9 m) : ∀ (ds : List Nat),
    (∀ d, d ∈ ds → d ≠ 0 ∧ d < m.n) → ∃ r, run (findUnmarkedBoundary m.n ds) m = (.ok r, m) := by
  intro ds
  induction ds with
  | nil => intro _; exact ⟨none, rfl⟩
  | cons x xs ih =>
      intro hds
      have hx := hds x List.mem_cons_self
      have hxs : ∀ d, d ∈ xs → d ≠ 0 ∧ d < m.n := fun d hd => hds d (List.mem_cons_of_mem _ hd)
      unfold findUnmarkedBoundary
      simp only [Prog.bind_eq, run_rU, (h.wf.toSized.okU x).2 hx.2, if_true]
      by_cases hux : m.unused x = true
      · simp only [hux, if_true]; exact ih hxs
      · simp only [hux, if_false, Bool.false_eq_true]
        rw [run_bind, run_freeDart h.wf hx.2]
        cases hfo : freeOf m x with
        | none => exact ih hxs
        | some dd =>
            simp only
            obtain ⟨hmem, hb2⟩ := freeOf_some hfo
            obtain ⟨hdlt, _⟩ := mem_vorb h.wf hx.2 hmem
            rw [run_bind, run_edgeId_free h.wf hdlt hb2]
            simp only [run_rA, h.okA (by decide : sEA ≤ 8) hdlt, if_true]
            cases hax : m.att sEA dd with
            | none => exact ⟨some dd, by simp⟩
            | some v =>
                simp only [Option.isNone_some, Bool.false_eq_true, if_false]
                exact ih hxs

/-- **C17, the second loop terminates**: on a well-formed 2-map with the anchor storages the loop over
    the boundaries that are not reachable from an anchored vertex never exhausts its fuel and never
    panics; it ends with `Ok` or with the `UnsupportedGeometry` of a `mark_curve` call -/
theorem classifyLoops_terminates : ∀ (f cid : Nat) (m : Map Val), Ok9 m → cntS sEA m < f →
    (∃ r m', run (classifyLoops m.n f cid) m = (.ok r, m')) ∨
    (∃ m', run (classifyLoops m.n f cid) m = (.err errUnsupportedGeometry, m')) := by
  intro f
  induction f with
  | zero => intro cid m _ hc; omega
  | succ f ih =>
      intro cid m h hc
      unfold classifyLoops
      simp only [Prog.bind_eq]
      obtain ⟨res, hfd⟩ := findUnmarkedBoundary_total h _ (fun d hd => mem_darts.1 hd)
      rw [run_bind, hfd]
      cases res with
      | none =>
          simp only [Prog.pure_eq, run_ret]
          exact Or.inl ⟨cid, m, rfl⟩
      | some dart =>
          obtain ⟨hd0, hdlt, hb2, hnone⟩ :=
            findUnmarkedBoundary_some h.wf _ _ _ (fun d hd => mem_darts.1 hd) hfd
          simp only
          have hv := vid_lt h.wf hdlt
          rw [run_bind, run_vid' h.wf hdlt]
          simp only [run_wA, h.okA (by decide : sVA ≤ 8) hv, if_true]
          have g1 : Grow m (m.setA sVA (cellId m .vertex dart) (some (vCurve (cid + 1)))) := Grow.setA _ _ _ _
          have h1 := h.sameTopo g1.topo
          have hdlt1 : dart < (m.setA sVA (cellId m .vertex dart) (some (vCurve (cid + 1)))).n := hdlt
          obtain ⟨m2, hres, g2, _, _, hatt⟩ := C17_markCurve_terminates h1.wf h1.st hd0 hdlt1 (cid + 1)
          have hn1 : (m.setA sVA (cellId m .vertex dart) (some (vCurve (cid + 1)))).n = m.n := rfl
          rw [hn1] at hres
          have hcid : cellId (m.setA sVA (cellId m .vertex dart) (some (vCurve (cid + 1)))) .edge dart = dart := by
            rw [cellId_sameTopo g1.topo, (C03_edgeId2_min h.wf hd0 hdlt).2.2.2, if_pos hb2]
          rw [hcid] at hatt
          rw [run_bind]
          rcases hres with hr | ⟨hr, _⟩
          · rw [hr]
            simp only
            have g12 := g1.trans g2
            have hlt : cntS sEA m2 < cntS sEA m := cntS_lt g12 hdlt hnone (by rw [hatt]; rfl)
            have := ih (cid + 1) m2 (h.sameTopo g12.topo) (by omega)
            rw [g12.topo.n] at this
            exact this
          · rw [hr]
            exact Or.inr ⟨m2, rfl⟩

/-- **C17, the second loop terminates** (the fuel the model gives it, `n_darts + 1`, is never
    exhausted): `Ok` or the `UnsupportedGeometry` of one of its `mark_curve` calls -/
theorem C17_boundary_loop_terminates {m : Map Val} (h : WF 3 m) (hst : 8 < m.a.size) (cid : Nat) :
    (∃ r m', run (classifyLoops m.n (m.n + 1) cid) m = (.ok r, m')) ∨
    (∃ m', run (classifyLoops m.n (m.n + 1) cid) m = (.err errUnsupportedGeometry, m')) :=
  classifyLoops_terminates _ cid m ⟨h, hst⟩ (by have := cntS_le sEA m; omega)

/-! ## the colouring loop terminates; `classify_capture` is total -/

theorem run_eid' {m : Map Val} (h : WF 3 m) {d : Nat} (hd : d < m.n) :
    run (edgeId2 (X := Val) d) m = (.ok (if m.β 2 d = 0 then d else min (m.β 2 d) d), m) := by
  unfold edgeId2
  simp only [Prog.bind_eq, Prog.pure_eq, run_rB, h.okβ_of_lt (by omega : 2 < 3) hd, if_true]
  by_cases hb : m.β 2 d = 0
  · simp only [hb, if_true, run_ret]
  · simp only [hb, if_false, run_ret]

theorem eid_lt {m : Map Val} (h : WF 3 m) {d : Nat} (hd : d < m.n) :
    (if m.β 2 d = 0 then d else min (m.β 2 d) d) < m.n := by
  have := h.range 2 (by omega) d hd
  split
  · exact hd
  · omega

theorem run_fid' {m : Map Val} (h : WF 3 m) {x : Nat} (hx : x < m.n) :
    run (faceId2 (X := Val) m.n x) m = (.ok (cellId m .face x), m) := by
  by_cases h0 : x = 0
  · subst h0
    unfold faceId2
    have := run_orbit2_zero h (pol := .face) trivial
    unfold orbit2 at this
    simp only [Prog.bind_eq]
    rw [run_bind, this, cellId_zero h (pol := .face) trivial]
    simp [listMin]
  · exact (C03_faceId2_min h h0 hx).1

theorem fid_lt {m : Map Val} (h : WF 3 m) {x : Nat} (hx : x < m.n) : cellId m .face x < m.n := by
  by_cases h0 : x = 0
  · subst h0; rw [cellId_zero h (pol := .face) trivial]; exact hx
  · exact (cellId_idem h (pol := .face) trivial h0 hx).2.1

/-! ## one step of the two inner loops, as equations -/

/-- `edge_id` as a function of the map (`C03_edgeId2_min`: it is the cell identifier) -/
def edOf (m : Map Val) (d : Nat) : Nat := if m.β 2 d = 0 then d else min (m.β 2 d) d

/-- the map after the body of `for_each` for a dart whose edge was unanchored -/
def colourStep (m : Map Val) (sid d : Nat) : Map Val :=
  let m1 := m.setA sEA (edOf m d) (some (vSurface sid))
  if (m1.att sVA (cellId m .vertex d)).isNone then m1.setA sVA (cellId m .vertex d) (some (vSurface sid)) else m1

theorem colourStep_grow (m : Map Val) (sid d : Nat) : Grow m (colourStep m sid d) := by
  unfold colourStep
  simp only
  split
  · exact (Grow.setA _ _ _ _).trans (Grow.setA _ _ _ _)
  · exact Grow.setA _ _ _ _

theorem run_colourDarts_cons {m : Map Val} (h : Ok9 m) {d : Nat} (hd : d < m.n) (sid : Nat)
    (ds q mk : List Nat) :
    run (colourDarts m.n sid (d :: ds) q mk) m =
      if (m.att sEA (edOf m d)).isSome = true then run (colourDarts m.n sid ds q mk) m
      else if mk.contains (cellId m .face (m.β 2 d)) = true then
        run (colourDarts m.n sid ds q mk) (colourStep m sid d)
      else
        run (colourDarts m.n sid ds (q ++ [cellId m .face (m.β 2 d)]) (mk ++ [cellId m .face (m.β 2 d)]))
          (colourStep m sid d) := by
  have helt := eid_lt h.wf hd
  conv => lhs; unfold colourDarts
  simp only [Prog.bind_eq]
  rw [run_bind, run_eid' h.wf hd]
  simp only [run_rA, h.okA (by decide : sEA ≤ 8) helt, if_true]
  have he : (if m.β 2 d = 0 then d else min (m.β 2 d) d) = edOf m d := rfl
  rw [he]
  by_cases ha : (m.att sEA (edOf m d)).isSome = true
  · rw [if_pos ha, if_pos ha]
  · rw [if_neg ha, if_neg ha]
    rw [run_bind, run_eid' h.wf hd]
    simp only [run_wA, h.okA (by decide : sEA ≤ 8) helt, if_true]
    rw [he]
    have g1 : Grow m (m.setA sEA (edOf m d) (some (vSurface sid))) := Grow.setA _ _ _ _
    have hcs : colourStep m sid d =
        (if ((m.setA sEA (edOf m d) (some (vSurface sid))).att sVA (cellId m .vertex d)).isNone
          then (m.setA sEA (edOf m d) (some (vSurface sid))).setA sVA (cellId m .vertex d) (some (vSurface sid))
          else m.setA sEA (edOf m d) (some (vSurface sid))) := rfl
    generalize m.setA sEA (edOf m d) (some (vSurface sid)) = m1 at g1 hcs
    have h1 := h.sameTopo g1.topo
    have hn1 : m1.n = m.n := g1.topo.n
    have hd1 : d < m1.n := by rw [hn1]; exact hd
    have hv1 := vid_lt h1.wf hd1
    have ev : cellId m1 .vertex d = cellId m .vertex d := cellId_sameTopo g1.topo _ _
    -- the tail after the optional vertex write
    have key : ∀ (m2 : Map Val), Grow m1 m2 →
        run (Prog.bind (rB 2 d) fun b2 => Prog.bind (faceId2 m.n b2) fun nf =>
            if mk.contains nf = true then colourDarts m.n sid ds q mk
            else colourDarts m.n sid ds (q ++ [nf]) (mk ++ [nf])) m2
          = if mk.contains (cellId m .face (m.β 2 d)) = true then run (colourDarts m.n sid ds q mk) m2
            else run (colourDarts m.n sid ds (q ++ [cellId m .face (m.β 2 d)])
              (mk ++ [cellId m .face (m.β 2 d)])) m2 := by
      intro m2 g2
      have t2 := g1.topo.trans g2.topo
      have h2 := h.sameTopo t2
      have hn2 : m2.n = m.n := t2.n
      have hd2 : d < m2.n := by rw [hn2]; exact hd
      have hb2 : m2.β 2 d < m2.n := h2.wf.range 2 (by omega) d hd2
      simp only [run_rB, h2.wf.okβ_of_lt (by omega : 2 < 3) hd2, if_true]
      rw [← hn2, run_bind, run_fid' h2.wf hb2, cellId_sameTopo t2, t2.β]
      simp only
      split <;> rfl
    have hok : m1.okA sVA (cellId m .vertex d) = true := by
      rw [← ev]; exact h1.okA (by decide : sVA ≤ 8) hv1
    rw [← hn1, run_bind, run_vid' h1.wf hd1, hn1, ev]
    simp only [run_rA, hok, if_true]
    by_cases hav : (m1.att sVA (cellId m .vertex d)).isNone = true
    · rw [hcs, if_pos hav]
      simp only [hav, if_true]
      rw [run_bind, ← hn1, run_bind, run_vid' h1.wf hd1, hn1, ev]
      simp only [run_wA', hok, if_true]
      exact key _ (Grow.setA _ _ _ _)
    · rw [hcs, if_neg hav]
      simp only [hav, if_false, Bool.false_eq_true, Prog.pure_eq]
      rw [run_bind]
      simp only [run_ret]
      exact key m1 (Grow.refl m1)

theorem run_colourSurface_cons {m : Map Val} (h : Ok9 m) {crt : Nat} (hc : crt < m.n) (sid f : Nat)
    (q mk : List Nat) :
    run (colourSurface m.n sid (f + 1) (crt :: q) mk) m =
      match run (colourDarts m.n sid (orb m .face crt) q mk) (m.setA sFA crt (some (vSurface sid))) with
      | (.ok r, m2) => run (colourSurface m.n sid f r.1 r.2) m2
      | (.err e, m2) => (.err e, m2)
      | (.retry, m2) => (.retry, m2)
      | (.panic, m2) => (.panic, m2) := by
  conv => lhs; unfold colourSurface
  simp only [Prog.bind_eq, run_wA, h.okA (by decide : sFA ≤ 8) hc, if_true]
  have g1 : Grow m (m.setA sFA crt (some (vSurface sid))) := Grow.setA _ _ _ _
  have eo : orb (m.setA sFA crt (some (vSurface sid))) .face crt = orb m .face crt := orb_sameTopo g1.topo _ _
  generalize m.setA sFA crt (some (vSurface sid)) = m1 at g1 eo
  have h1 := h.sameTopo g1.topo
  have hn1 : m1.n = m.n := g1.topo.n
  have hc1 : crt < m1.n := by rw [hn1]; exact hc
  rw [← hn1, run_bind, run_orbit2' h1.wf (pol := .face) trivial hc1, eo]
  simp only
  rw [run_bind]
  rcases hr : run (colourDarts m1.n sid (orb m .face crt) q mk) m1 with ⟨o, m2⟩
  cases o with
  | ok r => obtain ⟨q', mk'⟩ := r; rfl
  | err e => rfl
  | retry => rfl
  | panic => rfl

/-- queue and `marked` set of the colouring: existing darts, no duplicate in `marked` -/
structure QInv (n : Nat) (q mk : List Nat) : Prop where
  qlt : ∀ x, x ∈ q → x < n
  mlt : ∀ x, x ∈ mk → x < n
  nodup : mk.Nodup

theorem QInv.len {n : Nat} {q mk : List Nat} (h : QInv n q mk) : mk.length ≤ n := by
  have h2 : mk ⊆ List.range n := fun x hx => List.mem_range.2 (h.mlt x hx)
  have := h.nodup.length_le_of_subset h2
  simpa using this

theorem QInv.push {n : Nat} {q mk : List Nat} (h : QInv n q mk) {x : Nat} (hx : x < n) (hn : x ∉ mk) :
    QInv n (q ++ [x]) (mk ++ [x]) := by
  refine ⟨?_, ?_, ?_⟩
  · intro y hy
    rcases List.mem_append.1 hy with hy | hy
    · exact h.qlt y hy
    · rw [List.mem_singleton.1 hy]; exact hx
  · intro y hy
    rcases List.mem_append.1 hy with hy | hy
    · exact h.mlt y hy
    · rw [List.mem_singleton.1 hy]; exact hx
  · rw [List.nodup_append]
    refine ⟨h.nodup, by simp, ?_⟩
    intro a ha b hb e
    rw [List.mem_singleton.1 hb] at e
    exact hn (e ▸ ha)

/-- the body of the colouring over the darts of one face always succeeds; it only appends the same new
    faces to the queue and to `marked` -/
theorem colourDarts_total (sid : Nat) : ∀ (ds q mk : List Nat) (m : Map Val), Ok9 m →
    (∀ d, d ∈ ds → d < m.n) → QInv m.n q mk →
    ∃ add m', run (colourDarts m.n sid ds q mk) m = (.ok (q ++ add, mk ++ add), m') ∧ Grow m m' ∧
      QInv m.n (q ++ add) (mk ++ add) := by
  intro ds
  induction ds with
  | nil =>
      intro q mk m _ _ hq
      exact ⟨[], m, by simp [colourDarts], Grow.refl m, by simpa using hq⟩
  | cons d ds ih =>
      intro q mk m h hds hq
      have hd := hds d List.mem_cons_self
      have hds' : ∀ x, x ∈ ds → x < m.n := fun x hx => hds x (List.mem_cons_of_mem _ hx)
      rw [run_colourDarts_cons h hd]
      by_cases ha : (m.att sEA (edOf m d)).isSome = true
      · rw [if_pos ha]
        exact ih q mk m h hds' hq
      · rw [if_neg ha]
        have g := colourStep_grow m sid d
        have hn2 : (colourStep m sid d).n = m.n := g.topo.n
        have hflt : cellId m .face (m.β 2 d) < m.n := fid_lt h.wf (h.wf.range 2 (by omega) d hd)
        by_cases hc : mk.contains (cellId m .face (m.β 2 d)) = true
        · rw [if_pos hc]
          have := ih q mk _ (h.sameTopo g.topo) (fun x hx => by rw [hn2]; exact hds' x hx) (by rw [hn2]; exact hq)
          rw [hn2] at this
          obtain ⟨add, m', hr, g', hqi⟩ := this
          exact ⟨add, m', hr, g.trans g', hqi⟩
        · rw [if_neg hc]
          have hnm : cellId m .face (m.β 2 d) ∉ mk := fun hh => hc (by simpa using hh)
          have := ih _ _ _ (h.sameTopo g.topo) (fun x hx => by rw [hn2]; exact hds' x hx)
            (by rw [hn2]; exact hq.push hflt hnm)
          rw [hn2] at this
          obtain ⟨add, m', hr, g', hqi⟩ := this
          refine ⟨cellId m .face (m.β 2 d) :: add, m', ?_, g.trans g', ?_⟩
          · rw [hr]; simp [List.append_assoc]
          · simpa [List.append_assoc] using hqi

theorem orb_lt {m : Map Val} (h : WF 3 m) {pol : Policy} (hp : PolOK pol) {x : Nat} (hx : x < m.n) :
    ∀ y, y ∈ orb m pol x → y < m.n := by
  intro y hy
  by_cases h0 : x = 0
  · subst h0
    rw [orb_zero h hp, List.mem_singleton] at hy
    rw [hy]; exact hx
  · exact (C03_orbit2_spec h hp h0 hx).2.2.2.2.2 y hy

/-- the face queue empties: with more fuel than `|queue| + (n_darts - |marked|)` the colouring of one
    surface ends with `Ok` -/
theorem colourSurface_total (sid : Nat) : ∀ (f : Nat) (q mk : List Nat) (m : Map Val), Ok9 m →
    QInv m.n q mk → q.length + (m.n - mk.length) < f →
    ∃ mk' m', run (colourSurface m.n sid f q mk) m = (.ok mk', m') ∧ Grow m m' ∧ QInv m.n [] mk' := by
  intro f
  induction f with
  | zero => intro q mk m _ _ hf; omega
  | succ f ih =>
      intro q mk m h hq hf
      cases q with
      | nil =>
          exact ⟨mk, m, by simp [colourSurface], Grow.refl m, hq⟩
      | cons crt q =>
          have hcrt : crt < m.n := hq.qlt crt List.mem_cons_self
          have hq' : QInv m.n q mk := ⟨fun x hx => hq.qlt x (List.mem_cons_of_mem _ hx), hq.mlt, hq.nodup⟩
          rw [run_colourSurface_cons h hcrt]
          have g1 : Grow m (m.setA sFA crt (some (vSurface sid))) := Grow.setA _ _ _ _
          have hn1 : (m.setA sFA crt (some (vSurface sid))).n = m.n := g1.topo.n
          have := colourDarts_total sid (orb m .face crt) q mk _ (h.sameTopo g1.topo)
            (fun x hx => by rw [hn1]; exact orb_lt h.wf (pol := .face) trivial hcrt x hx) (by rw [hn1]; exact hq')
          rw [hn1] at this
          obtain ⟨add, m2, hr2, g2, hq2⟩ := this
          rw [hr2]
          simp only
          have hn2 : m2.n = m.n := g2.topo.n.trans hn1
          have hlen := hq2.len
          have hlen0 := hq'.len
          have hf2 : (q ++ add).length + (m2.n - (mk ++ add).length) < f := by
            simp only [List.length_append, List.length_cons] at hf hlen ⊢
            rw [hn2]
            omega
          have := ih (q ++ add) (mk ++ add) m2 (h.sameTopo (g1.trans g2).topo) (by rw [hn2]; exact hq2) hf2
          rw [hn2] at this
          obtain ⟨mk', m', hr, g, hqf⟩ := this
          exact ⟨mk', m', hr, g1.trans (g2.trans g), hqf⟩

/-- the third loop always ends with `Ok` -/
theorem classifySurfaces_total : ∀ (ds : List Nat) (sid : Nat) (mk : List Nat) (m : Map Val), Ok9 m →
    (∀ d, d ∈ ds → d ≠ 0 ∧ d < m.n) → QInv m.n [] mk →
    ∃ m', run (classifySurfaces m.n ds sid mk) m = (.ok (), m') := by
  intro ds
  induction ds with
  | nil => intro sid mk m _ _ _; exact ⟨m, rfl⟩
  | cons x xs ih =>
      intro sid mk m h hds hq
      have hx := hds x List.mem_cons_self
      have hxs : ∀ d, d ∈ xs → d ≠ 0 ∧ d < m.n := fun d hd => hds d (List.mem_cons_of_mem _ hd)
      rw [run_classifySurfaces_cons h.wf hx]
      split
      · exact ih sid mk m h hxs hq
      · rw [if_pos (h.okA (by decide : sFA ≤ 8) hx.2)]
        have hq1 : QInv m.n [x] mk := ⟨fun y hy => by rw [List.mem_singleton.1 hy]; exact hx.2, hq.mlt, hq.nodup⟩
        obtain ⟨mk', m1, hr1, g1, hq'⟩ := colourSurface_total sid (m.n + 2) [x] mk m h hq1
          (by simp only [List.length_singleton]; omega)
        rw [run_bind, hr1]
        have hn1 : m1.n = m.n := g1.topo.n
        have := ih (sid + 1) mk' m1 (h.sameTopo g1.topo) (fun d hd => by rw [hn1]; exact hxs d hd) (by rw [hn1]; exact hq')
        rw [hn1] at this
        exact this

/-- the first loop ends with `Ok` or with the `UnsupportedGeometry` of a `mark_curve` call -/
theorem classifyNodes_total : ∀ (ds : List Nat) (i cid : Nat) (m : Map Val), Ok9 m →
    (∀ d, d ∈ ds → d ≠ 0 ∧ d < m.n) →
    (∃ r m', run (classifyNodes m.n ds i cid) m = (.ok r, m')) ∨
    (∃ m', run (classifyNodes m.n ds i cid) m = (.err errUnsupportedGeometry, m')) := by
  intro ds
  induction ds with
  | nil => intro i cid m _ _; exact Or.inl ⟨cid, m, rfl⟩
  | cons x xs ih =>
      intro i cid m h hds
      have hx := hds x List.mem_cons_self
      have hxs : ∀ d, d ∈ xs → d ≠ 0 ∧ d < m.n := fun d hd => hds d (List.mem_cons_of_mem _ hd)
      unfold classifyNodes
      simp only [Prog.bind_eq, run_rU, (h.wf.toSized.okU x).2 hx.2, if_true]
      by_cases hux : m.unused x = true
      · simp only [hux, if_true]; exact ih i cid m h hxs
      · simp only [hux, if_false, Bool.false_eq_true]
        rw [run_bind, run_vid' h.wf hx.2]
        simp only
        by_cases hcx : cellId m .vertex x ≠ x
        · simp only [hcx, if_true, ne_eq, not_false_eq_true]; exact ih i cid m h hxs
        · simp only [hcx, if_false]
          simp only [run_rA, h.okA (by decide : sVA ≤ 8) hx.2, if_true]
          by_cases ha : (m.att sVA x).isNone = true
          · simp only [ha, if_true]; exact ih i cid m h hxs
          · simp only [ha, if_false, Bool.false_eq_true]
            rw [run_bind, run_freeDart h.wf hx.2]
            cases hfo : freeOf m x with
            | none => exact ih i cid m h hxs
            | some dart =>
                simp only
                obtain ⟨hmem, hb2⟩ := freeOf_some hfo
                obtain ⟨hdlt, _⟩ := mem_vorb h.wf hx.2 hmem
                have hd0 : dart ≠ 0 := ((mem_orb h.wf (pol := .vertex) trivial hx.1 hx.2 dart).1 hmem).1
                obtain ⟨m2, hres, g2, _⟩ := C17_markCurve_terminates h.wf h.st hd0 hdlt i
                rw [run_bind]
                rcases hres with hr | ⟨hr, _⟩
                · rw [hr]
                  simp only
                  have := ih (i + 1) (max cid i) m2 (h.sameTopo g2.topo)
                    (fun d hd => by rw [g2.topo.n]; exact hxs d hd)
                  rw [g2.topo.n] at this
                  exact this
                · rw [hr]; exact Or.inr ⟨m2, rfl⟩

/-- the scan of a final assertion always answers -/
theorem allAnchored_total {m : Map Val} (h : Ok9 m) {s : Nat} (hs : s ≤ 8) {idf : Nat → P Val Nat}
    (cid : Nat → Nat) (hid : ∀ d, d ≠ 0 → d < m.n → run (idf d) m = (.ok (cid d), m)) :
    ∀ ds, (∀ d, d ∈ ds → d ≠ 0 ∧ d < m.n) → ∃ r, run (allAnchored s idf ds) m = (.ok r, m) := by
  intro ds
  induction ds with
  | nil => intro _; exact ⟨true, rfl⟩
  | cons x xs ih =>
      intro hds
      have hx := hds x List.mem_cons_self
      have hxs : ∀ d, d ∈ xs → d ≠ 0 ∧ d < m.n := fun d hd => hds d (List.mem_cons_of_mem _ hd)
      unfold allAnchored
      simp only [Prog.bind_eq, run_rU, (h.wf.toSized.okU x).2 hx.2, if_true]
      by_cases hux : m.unused x = true
      · simp only [hux, if_true]; exact ih hxs
      · simp only [hux, if_false, Bool.false_eq_true]
        rw [run_bind, hid x hx.1 hx.2]
        simp only
        by_cases hcx : cid x ≠ x
        · simp only [hcx, if_true, ne_eq, not_false_eq_true]; exact ih hxs
        · simp only [hcx, if_false]
          simp only [run_rA, h.okA hs hx.2, if_true]
          by_cases ha : (m.att s x).isNone = true
          · simp only [ha, if_true]; exact ⟨false, rfl⟩
          · simp only [ha, if_false, Bool.false_eq_true]; exact ih hxs

/-- **C17, `classify_capture` is total on well-formed maps**: on every well-formed 2-map carrying the
    anchor storages — whatever anchors it holds — the function terminates (no loop exhausts the fuel
    the model gives it) and its outcome is `Ok`, `UnsupportedGeometry` (from a `mark_curve` walk that
    left the boundary), or the panic of one of the three final `debug_assert!`s after the three loops
    ended with `Ok`; no other panic (index out of range) can occur -/
theorem C17_classify_terminates {m : Map Val} (h : WF 3 m) (hst : 8 < m.a.size) :
    ∃ m', run (classifyCapture m.n) m = (.ok (), m') ∨
      run (classifyCapture m.n) m = (.err errUnsupportedGeometry, m') ∨
      (run (classifyCapture m.n) m = (.panic, m') ∧ run (classifyCore m.n) m = (.ok (), m')) := by
  have h9 : Ok9 m := ⟨h, hst⟩
  have hds : ∀ d, d ∈ List.range' 1 (m.n - 1) → d ≠ 0 ∧ d < m.n := fun d hd => mem_darts.1 hd
  have core : (∃ m3, run (classifyCore m.n) m = (.ok (), m3) ∧ Grow m m3) ∨
      (∃ m3, run (classifyCore m.n) m = (.err errUnsupportedGeometry, m3)) := by
    unfold classifyCore
    simp only [Prog.bind_eq]
    rcases classifyNodes_total _ 0 0 m h9 hds with ⟨cid, m1, h1⟩ | ⟨m1, h1⟩
    · rw [run_bind, h1]
      simp only
      have g1 := Keeps.of_run (anch_classifyNodes m.n (List.range' 1 (m.n - 1)) 0 0) h1
      have h91 := h9.sameTopo g1.topo
      have hn1 : m1.n = m.n := g1.topo.n
      have hl := C17_boundary_loop_terminates h91.wf h91.st cid
      rw [hn1] at hl
      rcases hl with ⟨r, m2, h2⟩ | ⟨m2, h2⟩
      · rw [run_bind, h2]
        simp only
        have g2 := Keeps.of_run (anch_classifyLoops m.n (m.n + 1) cid) h2
        have h92 := h91.sameTopo g2.topo
        have hn2 : m2.n = m.n := by rw [g2.topo.n, hn1]
        have hq0 : QInv m2.n [] [0] := by
          refine ⟨?_, ?_, ?_⟩
          · intro x hx; cases hx
          · intro x hx; rw [List.mem_singleton.1 hx]; exact h92.wf.toSized.npos
          · simp
        obtain ⟨m3, h3⟩ := classifySurfaces_total (List.range' 1 (m2.n - 1)) 0 [0] m2 h92
          (fun d hd => mem_darts.1 hd) hq0
        rw [hn2] at h3
        have g3 := Keeps.of_run (anch_classifySurfaces m.n (List.range' 1 (m.n - 1)) 0 [0]) h3
        exact Or.inl ⟨m3, h3, g1.trans (g2.trans g3)⟩
      · rw [run_bind, h2]
        exact Or.inr ⟨m2, rfl⟩
    · rw [run_bind, h1]
      exact Or.inr ⟨m1, rfl⟩
  unfold classifyCapture
  simp only [Prog.bind_eq]
  rcases core with ⟨m3, hc, g⟩ | ⟨m3, hc⟩
  · rw [run_bind, hc]
    simp only
    have h93 := h9.sameTopo g.topo
    have hn3 : m3.n = m.n := g.topo.n
    have hds3 : ∀ d, d ∈ List.range' 1 (m.n - 1) → d ≠ 0 ∧ d < m3.n := fun d hd => by
      rw [hn3]; exact hds d hd
    obtain ⟨av, hav⟩ := allAnchored_total h93 (by decide : sVA ≤ 8) (idf := vertexId2 m.n) (cellId m3 .vertex)
      (fun d hd0 hd => by have := (C03_vertexId2_min h93.wf hd0 hd).1; rw [hn3] at this; exact this) _ hds3
    obtain ⟨ae, hae⟩ := allAnchored_total h93 (by decide : sEA ≤ 8) (idf := edgeId2) (cellId m3 .edge)
      (fun d hd0 hd => (C03_edgeId2_min h93.wf hd0 hd).1) _ hds3
    obtain ⟨af, haf⟩ := allAnchored_total h93 (by decide : sFA ≤ 8) (idf := faceId2 m.n) (cellId m3 .face)
      (fun d hd0 hd => by have := (C03_faceId2_min h93.wf hd0 hd).1; rw [hn3] at this; exact this) _ hds3
    refine ⟨m3, ?_⟩
    rw [run_bind, hav]
    simp only
    cases av with
    | false => exact Or.inr (Or.inr ⟨rfl, trivial⟩)
    | true =>
        simp only [Bool.not_true, Bool.false_eq_true, if_false]
        rw [run_bind, hae]
        simp only
        cases ae with
        | false => exact Or.inr (Or.inr ⟨rfl, trivial⟩)
        | true =>
            simp only [Bool.not_true, Bool.false_eq_true, if_false]
            rw [run_bind, haf]
            simp only
            cases af with
            | false => exact Or.inr (Or.inr ⟨rfl, trivial⟩)
            | true => exact Or.inl rfl
  · rw [run_bind, hc]
    exact ⟨m3, Or.inr (Or.inl rfl)⟩

/-! ## the assertions are not redundant on arbitrary well-formed maps -/

/-- one edge 1|2 closed on itself (`β1 = β2 = (1 2)`): a face with a dangling edge, two vertices of
    degree 1, no boundary -/
def exAnt : Map Val :=
  { (Map.empty 3 9 3 : Map Val) with b := #[#[0, 2, 1], #[0, 2, 1], #[0, 2, 1]] }

/-- **C17, `C17_classify_ok_all_anchored` without the assertions is false**: on this well-formed map the three loops end
    with `Ok`, vertex 2 stays unanchored (its only dart is visited after its edge was anchored from the
    other side) and the debug assertion fires.  `C17_classify_ok_all_anchored` is therefore stated for
    the function *with* its assertions; that they cannot fire on capture outputs is validated, not
    proved. -/
theorem C17_classify_assertion_can_fire :
    ∃ m : Map Val, WF 3 m ∧ 8 < m.a.size ∧ (run (classifyCore m.n) m).1 = .ok () ∧
      ((run (classifyCore m.n) m).2).att sVA 2 = none ∧ m.unused 2 = false ∧
      cellId m .vertex 2 = 2 ∧ (run (classifyCapture m.n) m).1 = .panic :=
  ⟨exAnt, by decide +kernel⟩

/-! ## non-vacuity: the hypotheses are satisfiable, the conclusions are not trivial -/

/-- one square face 1-2-3-4, all sides 2-free, nine storages -/
def exSq : Map Val :=
  { (Map.empty 3 9 5 : Map Val) with b := #[#[0, 4, 1, 2, 3], #[0, 2, 3, 4, 1], #[0, 0, 0, 0, 0]] }

/-- the same square with vertex 3 anchored to `Node(0)` -/
def exSqN : Map Val := exSq.setA sVA 3 (some (.tm (.leaf 0)))

/-- dart 1 is 2-free, its successor 2 is glued to 3 and the vertex of 2 has no 2-free dart -/
def exOpen : Map Val :=
  { (Map.empty 3 9 4 : Map Val) with b := #[#[0, 0, 1, 0], #[0, 2, 0, 0], #[0, 0, 3, 2]] }

theorem exSq_wf : WF 3 exSq := by decide
theorem exSqN_wf : WF 3 exSqN := by decide
theorem exOpen_wf : WF 3 exOpen := by decide
example : 8 < exSq.a.size ∧ 8 < exSqN.a.size ∧ 8 < exOpen.a.size := by decide

/-- what the examples read off each of the three runs, one evaluation per run -/
theorem exSq_run :
    (run (classifyCapture exSq.n) exSq).1 = .ok () ∧
    ((run (classifyCapture exSq.n) exSq).2).att sEA 2 = some (vCurve 1) ∧
    ((run (classifyCapture exSq.n) exSq).2).att sFA 1 = some (vSurface 0) := by decide +kernel

theorem exSqN_run :
    (run (classifyCapture exSqN.n) exSqN).1 = .ok () ∧
    ((run (classifyCapture exSqN.n) exSqN).2).att sVA 3 = some (.tm (.leaf 0)) ∧
    ((run (classifyCapture exSqN.n) exSqN).2).att sEA 1 = some (vCurve 0) := by decide +kernel

theorem exSqN_markCurve :
    (run (markCurve exSqN.n 3 7) exSqN).1 = .ok () ∧
    ((run (markCurve exSqN.n 3 7) exSqN).2).att sVA 1 = some (vCurve 7) ∧
    ((run (markCurve exSqN.n 3 7) exSqN).2).att sVA 3 = some (.tm (.leaf 0)) := by decide +kernel

-- classification of the bare square: Ok, one fresh curve (id 1) around it, one surface
example : (run (classifyCapture exSq.n) exSq).1 = .ok () := exSq_run.1
example : ((run (classifyCapture exSq.n) exSq).2).att sEA 2 = some (vCurve 1) := exSq_run.2.1
example : ((run (classifyCapture exSq.n) exSq).2).att sFA 1 = some (vSurface 0) := exSq_run.2.2
-- with a node: the curve from the node gets id 0 and the node keeps its anchor
example : (run (classifyCapture exSqN.n) exSqN).1 = .ok () := exSqN_run.1
example : ((run (classifyCapture exSqN.n) exSqN).2).att sVA 3 = some (.tm (.leaf 0)) := exSqN_run.2.1
example : ((run (classifyCapture exSqN.n) exSqN).2).att sEA 1 = some (vCurve 0) := exSqN_run.2.2
-- mark_curve: closed boundary ⇒ Ok; the walk from dart 3 stops at the node (vertex 3) after one turn
example : ClosedBoundary exSq := by unfold ClosedBoundary; decide +kernel
example : (run (markCurve exSqN.n 3 7) exSqN).1 = .ok () := exSqN_markCurve.1
example : ((run (markCurve exSqN.n 3 7) exSqN).2).att sVA 1 = some (vCurve 7) := exSqN_markCurve.2.1
example : ((run (markCurve exSqN.n 3 7) exSqN).2).att sVA 3 = some (.tm (.leaf 0)) := exSqN_markCurve.2.2
-- … and an open one ⇒ UnsupportedGeometry, the walk left the boundary at dart 2
example : (run (markCurve exOpen.n 1 7) exOpen).1 = .err errUnsupportedGeometry := by decide +kernel
example : ¬ ClosedBoundary exOpen := by unfold ClosedBoundary; decide +kernel
-- the merge table is not total: equal dimension, different ids
example : (VertexAnchor.Curve 1).merge (.Curve 2) = none := by decide
example : (VertexAnchor.Curve 1).merge (.Node 2) = some (.Node 2) := by decide

end HC.C17

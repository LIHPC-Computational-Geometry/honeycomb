/-
  C14 — inserting vertices on an edge (`honeycomb-kernels/src/cell_insertion/vertices.rs`,
  model `Honeycomb/Model/Kernels/VertexInsertion.lean`).

  PROVED (all maps, all darts, all position lists; no bound)
  (a) well-formedness, full strength:
      * `C14_insertVertex_preserves_WF`    — `insert_vertex_on_edge`, every edge with a second end point;
      * `C14_insertVertices_preserves_WF`  — `insert_vertices_on_edge`, every edge shape (state of /repo e966dbe; an `example`
        runs the two-dart edge whose base dart is 1-free, finding D8: `Ok`, `β0(0) = 0`, well formed).
      The guards are the code's own (counts, freeness read through the transaction, non-null darts, bounds,
      defined end points); the user-side hypotheses are: the edge dart is in use, spare darts are not removed
      darts, and (two-dart edge) pairwise distinct.
  (b) validation: `C14_error_leaves_map_unchanged(_single)` (instance of `C06_error_leaves_map_unchanged`: an
      error of any kind publishes nothing), `C14_ok_implies_guards(_single)` (a successful call passed every
      documented check), and the error kinds returned exactly when a check fails, in the code's order:
      `C14_wrong_count`, `C14_not_free`, `C14_null_first`, `C14_null_second`, `C14_bound`,
      `C14_bound_single`, `C14_first_dart_single`.  Each of these returns the state `m` itself: the error
      happens before any write.
  (c) positions: `C14_new_vertex_position` — the i-th new point `v1 + (v2 - v1)·t_i` sits in the slot of the VERTEX
      identifier of the i-th new dart in the resulting map (/repo 54572f5; finding D11), every other slot of
      every storage is unchanged; hypothesis: the new darts lie in pairwise distinct vertices of the result
      (`C14_new_darts_distinct_vertices`, Props/C14b.lean, proves it).
      `C14_lerp_ratio`, `C14_lerp_collinear`, `C14_lerp_strictly_between`, `C14_lerp_order` over ℚ.

  CONTINUED in Props/C14b.lean: the exact β tables after `insert_vertices_on_edge` and `insert_vertex_on_edge` (chain base → nd₁ → … → nd_k → old
  successor on both sides, reversed β2 pairing, every other image unchanged), the vertices of the new darts (pairwise
  distinct), and `C14_new_vertex_position_full` (the position theorem without side hypothesis); in Props/C14c.lean: the
  vertices of all old darts — the two end points included — keep their dart sets, identifiers and coordinates.

  CONTINUED in Props/C14d.lean: the `UndefinedEdge` error as an exact characterisation (`C14_undefined_edge_iff(_single)`,
  with the totality of the vertex-id BFS on well-formed maps from C03); the direction "Ok ⇒ both end points defined" is
  part of `C14_ok_implies_guards` here.
  The freeness test is transactional (/repo cc2bcd4; finding D3 of C08): the kernels are plain
  closures over the transaction and C06/C08's theorems apply to them without a side condition.
-/
import Honeycomb.Lemmas.KernelWF
import Honeycomb.Props.C06
import Honeycomb.Model.Kernels.VertexInsertion
import Mathlib.Tactic.Ring
import Mathlib.Tactic.Linarith


namespace HC.C14
open HC

variable {n : Nat} {u : Array Bool}

/-! ## the editing parts keep the map well formed -/

theorem keeps_whenP {c : Bool} {p : P Val Unit} (h : c = true → Keeps n u p) : Keeps n u (whenP c p) := by
  unfold whenP
  cases c
  · exact Keeps.pure ()
  · exact h rfl

theorem keeps_chainFirst : ∀ (l : List Nat) (prev : Nat), Live n u prev →
    (∀ x ∈ l, Live n u x) → KeepsR n u (chainFirst prev l) (fun a => Live n u a) := by
  intro l
  induction l with
  | nil => intro prev hp _; exact KeepsR.pure _ hp
  | cons nd rest ih =>
      intro prev hp hl
      unfold chainFirst
      have hnd : Live n u nd := hl nd (by simp)
      refine KeepsR.keeps_bindR (Keeps.oneLinkCore hp hnd) fun _ => ?_
      exact ih nd hnd (fun y hy => hl y (by simp [hy]))

theorem attrOnly_placeVertices (k : Nat) (v1 v2 : Val) : ∀ (l : List (Rat × Nat)), AttrOnly (placeVertices k v1 v2 l) := by
  intro l
  induction l with
  | nil => exact AttrOnly.pure _
  | cons x rest ih =>
      obtain ⟨t, nd⟩ := x
      unfold placeVertices
      refine AttrOnly.bind (AttrOnly.of_readOnly (readOnly_vertexId2 _ _)) fun _ => ?_
      exact AttrOnly.bind (attrOnly_writeVtx _ _) fun _ => ih

theorem keeps_chainSecond : ∀ (l : List (Nat × Nat)) (prev : Nat), Live n u prev →
    (∀ x ∈ l, Live n u x.1 ∧ Live n u x.2) → (∀ y ∈ l, prev ≠ y.1) → (∀ x ∈ l, ∀ y ∈ l, x.2 ≠ y.1) →
    KeepsR n u (chainSecond prev l) (fun a => a ∈ prev :: l.map Prod.snd) := by
  intro l
  induction l with
  | nil => intro prev hp _ _ _; exact KeepsR.pure _ (by simp)
  | cons x rest ih =>
      intro prev hp hl hprev hcross
      obtain ⟨d, nd⟩ := x
      unfold chainSecond
      have hx := hl (d, nd) (by simp)
      refine KeepsR.keeps_bindR (Keeps.twoLinkCore hp hx.1 (hprev (d, nd) (by simp))) fun _ => ?_
      refine KeepsR.keeps_bindR (Keeps.oneLinkCore hp hx.2) fun _ => ?_
      have := ih nd hx.2 (fun y hy => hl y (by simp [hy]))
        (fun y hy => hcross (d, nd) (by simp) y (by simp [hy]))
        (fun a ha b hb => hcross a (by simp [ha]) b (by simp [hb]))
      intro m m' a hi hr
      obtain ⟨i1, r1⟩ := this m m' a hi hr
      refine ⟨i1, ?_⟩
      simp only [List.map_cons, List.mem_cons] at r1 ⊢
      rcases r1 with r1 | r1
      · exact Or.inr (Or.inl r1)
      · exact Or.inr (Or.inr r1)

theorem mem_zip_fst {α β : Type} {l1 : List α} {l2 : List β} {x : α × β} (h : x ∈ l1.zip l2) : x.1 ∈ l1 :=
  (List.of_mem_zip h).1
theorem mem_zip_snd {α β : Type} {l1 : List α} {l2 : List β} {x : α × β} (h : x ∈ l1.zip l2) : x.2 ∈ l2 :=
  (List.of_mem_zip h).2

theorem keeps_side2 (base1 base2 : Nat) (fh sh : List Nat)
    (hb1 : Live n u base1) (hb2 : Live n u base2) (hfh : ∀ d ∈ fh, Live n u d) (hsh : ∀ d ∈ sh, Live n u d)
    (hne : base2 ≠ base1) (hb2fh : ∀ d ∈ fh, base2 ≠ d) (hshfh : ∀ x ∈ sh, ∀ d ∈ fh, x ≠ d)
    (hsh1 : ∀ x ∈ sh, x ≠ base1) :
    Keeps n u (insertVerticesSide2 base1 base2 fh sh) := by
  unfold insertVerticesSide2
  refine Keeps.rB_bind fun b1d2 _ _ _ hlive => ?_
  refine Keeps.bind (keeps_whenP fun _ => Keeps.oneUnlinkCore hb2) fun _ => ?_
  have hc := keeps_chainSecond (n := n) (u := u) (fh.reverse.zip sh) base2 hb2
    (fun x hx => ⟨hfh _ (by simpa using mem_zip_fst hx), hsh _ (mem_zip_snd hx)⟩)
    (fun y hy => hb2fh _ (by simpa using mem_zip_fst hy))
    (fun x hx y hy => hshfh _ (mem_zip_snd hx) _ (by simpa using mem_zip_fst hy))
  refine KeepsR.bind hc fun prev hprev => ?_
  have hpl : Live n u prev ∧ prev ≠ base1 := by
    simp only [List.mem_cons, List.mem_map] at hprev
    rcases hprev with rfl | ⟨x, hx, rfl⟩
    · exact ⟨hb2, hne⟩
    · exact ⟨hsh _ (mem_zip_snd hx), hsh1 _ (mem_zip_snd hx)⟩
  refine Keeps.bind (keeps_whenP fun hc => ?_) fun _ => ?_
  · exact Keeps.oneLinkCore hpl.1 (hlive (by simpa using hc))
  · exact Keeps.twoLinkCore hpl.1 hb1 hpl.2

theorem keeps_insertVerticesBody (k : Nat) (v1 v2 : Val) (base1 base2 b1 : Nat) (fh sh : List Nat) (ts : List Rat)
    (hb1 : Live n u base1) (hb1old : b1 ≠ 0 → Live n u b1) (hfh : ∀ d ∈ fh, Live n u d)
    (h2 : base2 ≠ 0 → Live n u base2 ∧ (∀ d ∈ sh, Live n u d) ∧ base2 ≠ base1 ∧ (∀ d ∈ fh, base2 ≠ d) ∧
      (∀ x ∈ sh, ∀ d ∈ fh, x ≠ d) ∧ (∀ x ∈ sh, x ≠ base1)) :
    Keeps n u (insertVerticesBody k v1 v2 base1 base2 b1 fh sh ts) := by
  unfold insertVerticesBody
  refine Keeps.bind (keeps_whenP fun _ => Keeps.oneUnlinkCore hb1) fun _ => ?_
  refine Keeps.bind (keeps_whenP fun _ => Keeps.twoUnlinkCore hb1) fun _ => ?_
  refine KeepsR.bind (keeps_chainFirst fh base1 hb1 hfh) fun prev hprev => ?_
  refine Keeps.bind (keeps_whenP fun hc => Keeps.oneLinkCore hprev (hb1old (by simpa using hc))) fun _ => ?_
  refine Keeps.bind (keeps_whenP fun hc => ?_) fun _ => Keeps.of_attrOnly (attrOnly_placeVertices _ _ _ _)
  obtain ⟨a, b, c, d, e, f⟩ := h2 (by simpa using hc)
  exact keeps_side2 base1 base2 fh sh hb1 a hfh b c d e f

theorem keeps_insertVertexBody1 (v1 v2 : Val) (base1 b1 nd1 : Nat) (t : Option Rat)
    (hb1 : Live n u base1) (hb1old : Live n u b1) (hnd1 : Live n u nd1) :
    Keeps n u (insertVertexBody1 n v1 v2 base1 b1 nd1 t) := by
  unfold insertVertexBody1
  refine Keeps.bind (keeps_whenP fun _ => Keeps.oneUnlinkCore hb1) fun _ => ?_
  refine Keeps.bind (Keeps.oneLinkCore hb1 hnd1) fun _ => ?_
  refine Keeps.bind (Keeps.oneLinkCore hnd1 hb1old) fun _ => ?_
  refine Keeps.ro_bind (readOnly_vertexId2 _ _) fun _ => ?_
  exact Keeps.bind (Keeps.of_attrOnly (attrOnly_writeVtx _ _)) fun _ => Keeps.pure _

theorem keeps_insertVertexBody2 (v1 v2 : Val) (base1 base2 b1 b2 nd1 nd2 : Nat) (t : Option Rat)
    (hb1 : Live n u base1) (hb2 : Live n u base2) (hb1old : b1 ≠ 0 → Live n u b1) (hb2old : b2 ≠ 0 → Live n u b2)
    (hnd1 : Live n u nd1) (hnd2 : Live n u nd2) (h12 : base1 ≠ nd2) (h21 : base2 ≠ nd1) :
    Keeps n u (insertVertexBody2 n v1 v2 base1 base2 b1 b2 nd1 nd2 t) := by
  unfold insertVertexBody2
  refine Keeps.bind (keeps_whenP fun _ => Keeps.oneUnlinkCore hb1) fun _ => ?_
  refine Keeps.bind (keeps_whenP fun _ => Keeps.oneUnlinkCore hb2) fun _ => ?_
  refine Keeps.bind (Keeps.twoUnlinkCore hb1) fun _ => ?_
  refine Keeps.bind (Keeps.oneLinkCore hb1 hnd1) fun _ => ?_
  refine Keeps.bind (keeps_whenP fun hc => Keeps.oneLinkCore hnd1 (hb1old (by simpa using hc))) fun _ => ?_
  refine Keeps.bind (Keeps.oneLinkCore hb2 hnd2) fun _ => ?_
  refine Keeps.bind (keeps_whenP fun hc => Keeps.oneLinkCore hnd2 (hb2old (by simpa using hc))) fun _ => ?_
  refine Keeps.bind (Keeps.twoLinkCore hb1 hnd2 h12) fun _ => ?_
  refine Keeps.bind (Keeps.twoLinkCore hb2 hnd1 h21) fun _ => ?_
  refine Keeps.ro_bind (readOnly_vertexId2 _ _) fun _ => ?_
  exact Keeps.bind (Keeps.of_attrOnly (attrOnly_writeVtx _ _)) fun _ => Keeps.pure _

/-! ## the validation prefix -/

/-- `is_free_transac` unfolded -/
theorem run_isFreeTx_unfold (m : Map Val) (d : Nat) :
    run (isFreeTx d) m =
      if m.okβ 0 d = true then
        if m.β 0 d ≠ 0 then (.ok false, m)
        else if m.okβ 1 d = true then
          if m.β 1 d ≠ 0 then (.ok false, m)
          else if m.okβ 2 d = true then (.ok (decide (m.β 2 d = 0)), m) else (.panic, m)
        else (.panic, m)
      else (.panic, m) := by
  unfold isFreeTx
  simp only [bind, run_rB]
  by_cases h0 : m.okβ 0 d = true
  · simp only [h0, if_true]
    by_cases b0 : m.β 0 d = 0
    · simp only [b0, ne_eq, not_true_eq_false, if_false, run_rB]
      by_cases h1 : m.okβ 1 d = true
      · simp only [h1, if_true]
        by_cases b1 : m.β 1 d = 0
        · simp only [b1, not_true_eq_false, if_false, run_rB]
          by_cases h2 : m.okβ 2 d = true
          · simp [h2]
          · simp [h2]
        · simp [b1]
      · simp [h1]
    · simp [b0]
  · simp [h0]

theorem isFree3 (m : Map Val) (d : Nat) :
    m.isFree 3 d = (decide (m.β 0 d = 0) && decide (m.β 1 d = 0) && decide (m.β 2 d = 0)) := by
  unfold Map.isFree
  have : List.range 3 = [0, 1, 2] := by decide
  rw [this]; simp [Bool.and_assoc]

/-- on a map with all its rows, `is_free_transac` computes `is_free` -/
theorem run_isFreeTx (m : Map Val) (d : Nat) (h : ∀ i, i < 3 → m.okβ i d = true) :
    run (isFreeTx d) m = (.ok (m.isFree 3 d), m) := by
  rw [run_isFreeTx_unfold, isFree3, h 0 (by omega), h 1 (by omega), h 2 (by omega)]
  by_cases b0 : m.β 0 d = 0 <;> by_cases b1 : m.β 1 d = 0 <;> simp [b0, b1]

theorem readOnly_isFreeTx (d : Nat) : ReadOnly (isFreeTx (X := Val) d) := by
  intro m; rw [run_isFreeTx_unfold]; repeat' split
  all_goals rfl

theorem isFreeTx_ok {m m' : Map Val} {d : Nat} {b : Bool} (h : run (isFreeTx d) m = (.ok b, m')) :
    m.okβ 0 d = true ∧ b = m.isFree 3 d := by
  rw [run_isFreeTx_unfold, isFree3] at *
  by_cases h0 : m.okβ 0 d = true
  · refine ⟨h0, ?_⟩
    simp only [h0, if_true] at h
    by_cases b0 : m.β 0 d = 0
    · simp only [b0, ne_eq, not_true_eq_false, if_false] at h
      by_cases h1 : m.okβ 1 d = true
      · simp only [h1, if_true] at h
        by_cases b1 : m.β 1 d = 0
        · simp only [b1, not_true_eq_false, if_false] at h
          by_cases h2 : m.okβ 2 d = true
          · simp only [h2, if_true, Prod.mk.injEq, Out.ok.injEq] at h
            simp [b0, b1, ← h.1]
          · simp [h2] at h
        · simp [b1] at h; rw [h.1]; simp [b1]
      · simp [h1] at h
    · simp [b0] at h; rw [h.1]; simp [b0]
  · simp [h0] at h

theorem readOnly_nullOrNotFreeTx (d : Nat) : ReadOnly (nullOrNotFreeTx (X := Val) d) := by
  unfold nullOrNotFreeTx
  split
  · exact ReadOnly.pure _
  · exact ReadOnly.bind (readOnly_isFreeTx d) fun _ => ReadOnly.pure _

theorem readOnly_anyNotFreeTx : ∀ l, ReadOnly (anyNotFreeTx (X := Val) l) := by
  intro l
  induction l with
  | nil => exact ReadOnly.pure _
  | cons d ds ih =>
      unfold anyNotFreeTx
      exact ReadOnly.bind (readOnly_isFreeTx d) fun f => ReadOnly.ite (ReadOnly.pure _) ih

/-- what the freeness loop over `new_darts` established -/
theorem anyNotFreeTx_ok : ∀ (l : List Nat) (m m' : Map Val) (b : Bool),
    run (anyNotFreeTx l) m = (.ok b, m') →
      (b = false → ∀ d ∈ l, m.okβ 0 d = true ∧ m.isFree 3 d = true) ∧
      (b = true → ∃ d ∈ l, m.okβ 0 d = true ∧ m.isFree 3 d = false) := by
  intro l
  induction l with
  | nil =>
      intro m m' b h
      simp [anyNotFreeTx] at h
      obtain ⟨hb, _⟩ := h
      subst hb
      simp
  | cons d ds ih =>
      intro m m' b h
      unfold anyNotFreeTx at h
      obtain ⟨f, h1, h2⟩ := run_ro_bind_ok (readOnly_isFreeTx d) h
      obtain ⟨hok, hf⟩ := isFreeTx_ok h1
      subst hf
      cases hfr : m.isFree 3 d
      · rw [hfr] at h2
        simp at h2
        obtain ⟨hb, _⟩ := h2
        subst hb
        exact ⟨by simp, fun _ => ⟨d, by simp, hok, hfr⟩⟩
      · rw [hfr] at h2
        simp at h2
        obtain ⟨i1, i2⟩ := ih m m' b h2
        refine ⟨fun hb => ?_, fun hb => ?_⟩
        · intro x hx
          simp only [List.mem_cons] at hx
          rcases hx with rfl | hx
          · exact ⟨hok, hfr⟩
          · exact i1 hb x hx
        · obtain ⟨x, hx, hh⟩ := i2 hb
          exact ⟨x, by simp [hx], hh⟩

theorem nullOrNotFreeTx_ok (m m' : Map Val) (d : Nat) (b : Bool)
    (h : run (nullOrNotFreeTx d) m = (.ok b, m')) :
    b = (decide (d = 0) || !(m.isFree 3 d)) ∧ (d ≠ 0 → m.okβ 0 d = true) := by
  unfold nullOrNotFreeTx at h
  by_cases hd : d = 0
  · simp [hd] at h ⊢; exact h.1
  · simp only [hd, if_false] at h
    obtain ⟨f, h1, h2⟩ := run_ro_bind_ok (readOnly_isFreeTx d) h
    obtain ⟨hok, hf⟩ := isFreeTx_ok h1
    simp at h2
    obtain ⟨h3, _⟩ := h2
    subst hf
    have : b = !(m.isFree 3 d) := by rw [h3]; simp
    rw [this]
    simp [hd, hok]

theorem withEnds_ok {α : Type} {v1 v2 : Option Val} {k : Val → Val → P Val α} {m m' : Map Val} {a : α}
    (h : run (withEnds v1 v2 k) m = (.ok a, m')) :
    ∃ x y, v1 = some x ∧ v2 = some y ∧ run (k x y) m = (.ok a, m') := by
  unfold withEnds at h
  cases v1 with
  | none => simp at h
  | some x =>
    cases v2 with
    | none => simp at h
    | some y => exact ⟨x, y, rfl, rfl, h⟩

/-- everything a successful `insert_vertices_on_edge` has checked and read before its first write -/
theorem insertVertices_ok_elim {n : Nat} {m m' : Map Val} {e : Nat} {nds : List Nat} {ts : List Rat}
    (h : run (insertVerticesOnEdge n e nds ts) m = (.ok (), m')) :
    nds.length = 2 * ts.length ∧
    (∀ d ∈ nds, m.okβ 0 d = true ∧ m.isFree 3 d = true) ∧
    m.okβ 2 e = true ∧
    (∀ d ∈ nds.take ts.length, d ≠ 0) ∧
    (m.β 2 e ≠ 0 → ∀ d ∈ nds.drop ts.length, d ≠ 0) ∧
    (∀ t ∈ ts, outOfUnit t = false) ∧
    (m.β 1 e ≠ 0 ∨ m.β 2 e ≠ 0) ∧
    ∃ vid1 vid2 v1 v2,
      run (vertexId2 n e) m = (.ok vid1, m) ∧
      run (vertexId2 n (if m.β 1 e ≠ 0 then m.β 1 e else m.β 2 e)) m = (.ok vid2, m) ∧
      m.att 0 vid1 = some v1 ∧ m.att 0 vid2 = some v2 ∧
      run (insertVerticesBody n v1 v2 e (m.β 2 e) (m.β 1 e) (nds.take ts.length) (nds.drop ts.length) ts) m
        = (.ok (), m') := by
  unfold insertVerticesOnEdge at h
  simp only [bind] at h
  by_cases hc : nds.length = 2 * ts.length
  · simp only [hc, ne_eq, not_true_eq_false, if_false] at h
    obtain ⟨nf, h1, h⟩ := run_ro_bind_ok (readOnly_anyNotFreeTx nds) h
    cases nf
    · simp only [Bool.false_eq_true, if_false] at h
      have hfree := (anyNotFreeTx_ok nds m m false h1).1 rfl
      obtain ⟨hok, h⟩ := rB_bind_ok h
      by_cases c1 : ((List.take ts.length nds).any fun x => decide (x = 0)) = true
      · rw [if_pos c1] at h; simp at h
      · rw [if_neg c1] at h
        by_cases c2 : (decide ¬m.β 2 e = 0 && (List.drop ts.length nds).any fun x => decide (x = 0)) = true
        · rw [if_pos c2] at h; simp at h
        · rw [if_neg c2] at h
          by_cases c3 : ts.any outOfUnit = true
          · rw [if_pos c3] at h; simp at h
          · rw [if_neg c3] at h
            obtain ⟨_, h⟩ := rB_bind_ok h
            obtain ⟨_, h⟩ := rB_bind_ok h
            obtain ⟨vid1, hv1, h⟩ := run_ro_bind_ok (readOnly_vertexId2 _ _) h
            unfold secondEnd at h
            by_cases d1 : m.β 1 e ≠ 0
            · simp only [d1, ne_eq, not_false_eq_true, if_true, Prog.ret_bind, Prog.pure_eq] at h
              obtain ⟨vid2, hv2, h⟩ := run_ro_bind_ok (readOnly_vertexId2 _ _) h
              have h := run_rA_bind_ok h
              have h := run_rA_bind_ok h
              obtain ⟨x, y, hx, hy, h⟩ := withEnds_ok h
              refine ⟨hc, hfree, hok, ?_, ?_, ?_, Or.inl d1, vid1, vid2, x, y, hv1, by simpa [d1] using hv2, hx, hy, h⟩
              · intro d hd hd0; apply c1; simp only [List.any_eq_true, decide_eq_true_eq]; exact ⟨d, hd, hd0⟩
              · intro hb d hd hd0; apply c2
                simp only [Bool.and_eq_true, decide_eq_true_eq, List.any_eq_true]; exact ⟨hb, d, hd, hd0⟩
              · intro t ht
                cases hh : outOfUnit t
                · rfl
                · exfalso; apply c3; simp only [List.any_eq_true]; exact ⟨t, ht, hh⟩
            · by_cases d2 : m.β 2 e ≠ 0
              · simp only [d1, d2, ne_eq, not_false_eq_true, if_true, if_false, Prog.ret_bind, Prog.pure_eq] at h
                obtain ⟨vid2, hv2, h⟩ := run_ro_bind_ok (readOnly_vertexId2 _ _) h
                have h := run_rA_bind_ok h
                have h := run_rA_bind_ok h
                obtain ⟨x, y, hx, hy, h⟩ := withEnds_ok h
                refine ⟨hc, hfree, hok, ?_, ?_, ?_, Or.inr d2, vid1, vid2, x, y, hv1, by simpa [d1] using hv2, hx, hy, h⟩
                · intro d hd hd0; apply c1; simp only [List.any_eq_true, decide_eq_true_eq]; exact ⟨d, hd, hd0⟩
                · intro hb d hd hd0; apply c2
                  simp only [Bool.and_eq_true, decide_eq_true_eq, List.any_eq_true]; exact ⟨hb, d, hd, hd0⟩
                · intro t ht
                  cases hh : outOfUnit t
                  · rfl
                  · exfalso; apply c3; simp only [List.any_eq_true]; exact ⟨t, ht, hh⟩
              · simp [d1, d2, HC.abort] at h
    · simp at h
  · simp [hc] at h

theorem free_β {m : Map Val} {d : Nat} (h : m.isFree 3 d = true) (i : Nat) (hi : i < 3) : m.β i d = 0 :=
  (isFree_iff m 3 d).1 h i hi

/-- the same, with the dart count and the removal flags -/
theorem insertVertices_inv (m m' : Map Val) (e : Nat) (nds : List Nat) (ts : List Rat)
    (hwf : WF 3 m) (he : C01.InUse m e)
    (hlive : ∀ d ∈ nds, m.unused d = false)
    (hnodup : m.β 2 e ≠ 0 → nds.Nodup)
    (h : run (insertVerticesOnEdge m.n e nds ts) m = (.ok (), m')) : Inv m.n m.u m' := by
  obtain ⟨hc, hfree, hok, hfh0, hsh0, _, hend, vid1, vid2, v1, v2, _, _, _, _, hbody⟩ := insertVertices_ok_elim h
  have hL : ∀ d ∈ nds, d ≠ 0 → Live m.n m.u d :=
    fun d hd h0 => ⟨h0, ((hwf.toSized.okβ 0 d).1 (hfree d hd).1).2, hlive d hd⟩
  have hfhL : ∀ d ∈ nds.take ts.length, Live m.n m.u d :=
    fun d hd => hL d (List.mem_of_mem_take hd) (hfh0 d hd)
  have key := keeps_insertVerticesBody (n := m.n) (u := m.u) m.n v1 v2 e (m.β 2 e) (m.β 1 e)
    (nds.take ts.length) (nds.drop ts.length) ts he (fun hb1 => C01.inUse_image hwf (by omega) (by omega) he.2.1 hb1) hfhL ?_
  · exact key m m' () (Inv.of_wf hwf) hbody
  · intro h2
    have hinv := hwf.invol 2 (by omega) (by omega) e he.2.1 h2
    have hb2L := C01.inUse_image hwf (by omega) (by omega : 2 < 3) he.2.1 h2
    have hnd := hnodup h2
    rw [← List.take_append_drop ts.length nds] at hnd
    have hdisj := (List.nodup_append.1 hnd).2.2
    refine ⟨hb2L, fun d hd => hL d (List.mem_of_mem_drop hd) (hsh0 h2 d hd), hinv.2, ?_, ?_, ?_⟩
    · intro d hd heq
      have := free_β (hfree d (List.mem_of_mem_take hd)).2 2 (by omega)
      rw [← heq, hinv.1] at this
      exact he.1 this
    · intro x hx d hd heq
      exact hdisj d hd x hx heq.symm
    · intro x hx heq
      have := free_β (hfree x (List.mem_of_mem_drop hx)).2 2 (by omega)
      rw [heq] at this
      exact h2 this

/-- **C14 (a)**: a successful `insert_vertices_on_edge` keeps a well-formed 2-map well formed — every edge shape,
    every `k`, every position list (state of /repo e966dbe; the two-dart edge whose base dart is 1-free is finding D8).
    User-side hypotheses: the edge dart is a live dart, the spare darts are not removed darts and (on a two-dart
    edge, where all of them are used) pairwise distinct.  Everything else — counts, freeness, non-nullness, bounds,
    defined end points — is checked by the code itself. -/
theorem C14_insertVertices_preserves_WF (m m' : Map Val) (e : Nat) (nds : List Nat) (ts : List Rat)
    (hwf : WF 3 m) (he : C01.InUse m e)
    (hlive : ∀ d ∈ nds, m.unused d = false)
    (hnodup : m.β 2 e ≠ 0 → nds.Nodup)
    (h : run (insertVerticesOnEdge m.n e nds ts) m = (.ok (), m')) : WF 3 m' :=
  (insertVertices_inv m m' e nds ts hwf he hlive hnodup h).wf

/-- everything a successful `insert_vertex_on_edge` has checked and read before its first write -/
theorem insertVertex_ok_elim {n : Nat} {m m' : Map Val} {e nd1 nd2 : Nat} {t : Option Rat}
    (h : run (insertVertexOnEdge n e nd1 nd2 t) m = (.ok (), m')) :
    (∀ x, t = some x → outOfUnit x = false) ∧ m.okβ 2 e = true ∧
    (nd1 ≠ 0 ∧ m.okβ 0 nd1 = true ∧ m.isFree 3 nd1 = true) ∧
    (m.β 2 e ≠ 0 → nd2 ≠ 0 ∧ m.okβ 0 nd2 = true ∧ m.isFree 3 nd2 = true) ∧
    ∃ vid1 vid2 v1 v2,
      run (vertexId2 n e) m = (.ok vid1, m) ∧
      run (vertexId2 n (if m.β 2 e = 0 then m.β 1 e else m.β 2 e)) m = (.ok vid2, m) ∧
      m.att 0 vid1 = some v1 ∧ m.att 0 vid2 = some v2 ∧
      (m.β 2 e = 0 → run (insertVertexBody1 n v1 v2 e (m.β 1 e) nd1 t) m = (.ok (), m')) ∧
      (m.β 2 e ≠ 0 →
        run (insertVertexBody2 n v1 v2 e (m.β 2 e) (m.β 1 e) (m.β 1 (m.β 2 e)) nd1 nd2 t) m = (.ok (), m')) := by
  unfold insertVertexOnEdge at h
  simp only [bind] at h
  by_cases c0 : optOutOfUnit t = true
  · rw [if_pos c0] at h; simp at h
  · rw [if_neg c0] at h
    obtain ⟨hok, h⟩ := rB_bind_ok h
    obtain ⟨bad1, hb1, h⟩ := run_ro_bind_ok (readOnly_nullOrNotFreeTx nd1) h
    obtain ⟨e1, e1'⟩ := nullOrNotFreeTx_ok m m nd1 bad1 hb1
    cases bad1
    · rw [if_neg (by simp)] at h
      have hnd1 : nd1 ≠ 0 ∧ m.okβ 0 nd1 = true ∧ m.isFree 3 nd1 = true := by
        have : nd1 ≠ 0 := by intro h0; simp [h0] at e1
        refine ⟨this, e1' this, ?_⟩
        cases hf : m.isFree 3 nd1
        · simp [hf] at e1
        · rfl
      have ht : ∀ x, t = some x → outOfUnit x = false := by
        intro x hx; subst hx
        cases hh : outOfUnit x
        · rfl
        · exact absurd (by simpa [optOutOfUnit] using hh) c0
      by_cases b2 : m.β 2 e = 0
      · simp only [b2, ne_eq, not_true_eq_false, if_false, Prog.ret_bind, Prog.pure_eq, Bool.false_eq_true] at h
        obtain ⟨_, h⟩ := rB_bind_ok h
        simp only [b2, if_true] at h
        obtain ⟨_, h⟩ := rB_bind_ok h
        obtain ⟨vid1, hv1, h⟩ := run_ro_bind_ok (readOnly_vertexId2 _ _) h
        obtain ⟨vid2, hv2, h⟩ := run_ro_bind_ok (readOnly_vertexId2 _ _) h
        have h := run_rA_bind_ok h
        have h := run_rA_bind_ok h
        obtain ⟨x, y, hx, hy, h⟩ := withEnds_ok h
        exact ⟨ht, hok, hnd1, fun hh => absurd b2 hh, vid1, vid2, x, y, hv1, by simpa [b2] using hv2, hx, hy,
          fun _ => h, fun hh => absurd b2 hh⟩
      · simp only [b2, ne_eq, not_false_eq_true, if_true] at h
        obtain ⟨bad2, hb2, h⟩ := run_ro_bind_ok (readOnly_nullOrNotFreeTx nd2) h
        obtain ⟨e2, e2'⟩ := nullOrNotFreeTx_ok m m nd2 bad2 hb2
        cases bad2
        · rw [if_neg (by simp)] at h
          have hnd2 : nd2 ≠ 0 ∧ m.okβ 0 nd2 = true ∧ m.isFree 3 nd2 = true := by
            have : nd2 ≠ 0 := by intro h0; simp [h0] at e2
            refine ⟨this, e2' this, ?_⟩
            cases hf : m.isFree 3 nd2
            · simp [hf] at e2
            · rfl
          obtain ⟨_, h⟩ := rB_bind_ok h
          simp only [b2, if_false] at h
          obtain ⟨_, h⟩ := rB_bind_ok h
          obtain ⟨_, h⟩ := rB_bind_ok h
          obtain ⟨vid1, hv1, h⟩ := run_ro_bind_ok (readOnly_vertexId2 _ _) h
          obtain ⟨vid2, hv2, h⟩ := run_ro_bind_ok (readOnly_vertexId2 _ _) h
          have h := run_rA_bind_ok h
          have h := run_rA_bind_ok h
          obtain ⟨x, y, hx, hy, h⟩ := withEnds_ok h
          exact ⟨ht, hok, hnd1, fun _ => hnd2, vid1, vid2, x, y, hv1, by simpa [b2] using hv2, hx, hy,
            fun hh => absurd hh b2, fun _ => h⟩
        · rw [if_pos rfl] at h; simp at h
    · rw [if_pos rfl] at h; simp at h

/-- **C14 (a)**: a successful `insert_vertex_on_edge` keeps a well-formed 2-map well formed, on every
    edge that has a second end point (`β1(e) ≠ 0` or `β2(e) ≠ 0`; a dart without successor and without
    opposite is not an edge with two end points — the code then reads the vertex slot of the null dart,
    which is empty on embedded maps).  The spare darts that are used must not be removed darts. -/
theorem C14_insertVertex_preserves_WF (m m' : Map Val) (e nd1 nd2 : Nat) (t : Option Rat)
    (hwf : WF 3 m) (he : C01.InUse m e)
    (hl1 : m.unused nd1 = false) (hl2 : m.β 2 e ≠ 0 → m.unused nd2 = false)
    (hend : m.β 1 e ≠ 0 ∨ m.β 2 e ≠ 0)
    (h : run (insertVertexOnEdge m.n e nd1 nd2 t) m = (.ok (), m')) : WF 3 m' := by
  obtain ⟨_, _, hnd1, hnd2, vid1, vid2, v1, v2, _, _, _, _, hB1, hB2⟩ := insertVertex_ok_elim h
  have hL1 : Live m.n m.u nd1 := ⟨hnd1.1, ((hwf.toSized.okβ 0 nd1).1 hnd1.2.1).2, hl1⟩
  by_cases b2 : m.β 2 e = 0
  · have hb1 : m.β 1 e ≠ 0 := by
      rcases hend with h1 | h1
      · exact h1
      · exact absurd b2 h1
    have key := keeps_insertVertexBody1 (n := m.n) (u := m.u) v1 v2 e (m.β 1 e) nd1 t he
      (C01.inUse_image hwf (by omega) (by omega) he.2.1 hb1) hL1
    exact (key m m' () (Inv.of_wf hwf) (hB1 b2)).wf
  · obtain ⟨g1, g2, g3⟩ := hnd2 b2
    have hL2 : Live m.n m.u nd2 := ⟨g1, ((hwf.toSized.okβ 0 nd2).1 g2).2, hl2 b2⟩
    have hinv := hwf.invol 2 (by omega) (by omega) e he.2.1 b2
    have hb2L := C01.inUse_image hwf (by omega) (by omega : 2 < 3) he.2.1 b2
    have key := keeps_insertVertexBody2 (n := m.n) (u := m.u) v1 v2 e (m.β 2 e) (m.β 1 e) (m.β 1 (m.β 2 e))
      nd1 nd2 t he hb2L (fun hh => C01.inUse_image hwf (by omega) (by omega) he.2.1 hh)
      (fun hh => C01.inUse_image hwf (by omega) (by omega) hb2L.2.1 hh) hL1 hL2 ?_ ?_
    · exact (key m m' () (Inv.of_wf hwf) (hB2 b2)).wf
    · intro heq
      have := free_β g3 2 (by omega)
      rw [← heq] at this
      exact b2 this
    · intro heq
      have := free_β hnd1.2.2 2 (by omega)
      rw [← heq, hinv.1] at this
      exact he.1 this

/-! ## (b) validation: errors before any write, error kinds -/

/-- **C14 (b)**: whatever error a call reports (validation error, failed core operation), the map is
    exactly what it was — instance of C06's theorem for the two kernels -/
theorem C14_error_leaves_map_unchanged (m : Map Val) (e : Nat) (nds : List Nat) (ts : List Rat) (err : Err)
    (h : (atomically (insertVerticesOnEdge m.n e nds ts) m).1 = .err err) :
    (atomically (insertVerticesOnEdge m.n e nds ts) m).2 = m :=
  C06.C06_error_leaves_map_unchanged _ m err h

theorem C14_error_leaves_map_unchanged_single (m : Map Val) (e nd1 nd2 : Nat) (t : Option Rat) (err : Err)
    (h : (atomically (insertVertexOnEdge m.n e nd1 nd2 t) m).1 = .err err) :
    (atomically (insertVertexOnEdge m.n e nd1 nd2 t) m).2 = m :=
  C06.C06_error_leaves_map_unchanged _ m err h

/-- a successful call has passed every documented check -/
theorem C14_ok_implies_guards {n : Nat} {m m' : Map Val} {e : Nat} {nds : List Nat} {ts : List Rat}
    (h : run (insertVerticesOnEdge n e nds ts) m = (.ok (), m')) :
    nds.length = 2 * ts.length ∧
    (∀ d ∈ nds, m.okβ 0 d = true ∧ m.isFree 3 d = true) ∧
    (∀ d ∈ nds.take ts.length, d ≠ 0) ∧
    (m.β 2 e ≠ 0 → ∀ d ∈ nds.drop ts.length, d ≠ 0) ∧
    (∀ t ∈ ts, 0 < t ∧ t < 1) ∧
    (m.β 1 e ≠ 0 ∨ m.β 2 e ≠ 0) ∧
    ∃ vid1 vid2 v1 v2,
      run (vertexId2 n e) m = (.ok vid1, m) ∧
      run (vertexId2 n (if m.β 1 e ≠ 0 then m.β 1 e else m.β 2 e)) m = (.ok vid2, m) ∧
      m.att 0 vid1 = some v1 ∧ m.att 0 vid2 = some v2 := by
  obtain ⟨a, b, _, c', d, f, g, vid1, vid2, v1, v2, h1, h2, h3, h4, _⟩ := insertVertices_ok_elim h
  refine ⟨a, b, c', d, ?_, g, vid1, vid2, v1, v2, h1, h2, h3, h4⟩
  intro t ht
  have := f t ht
  unfold outOfUnit at this
  simp only [ge_iff_le, Bool.or_eq_false_iff, decide_eq_false_iff_not, not_le] at this
  exact ⟨this.2, this.1⟩

theorem C14_ok_implies_guards_single {n : Nat} {m m' : Map Val} {e nd1 nd2 : Nat} {t : Option Rat}
    (h : run (insertVertexOnEdge n e nd1 nd2 t) m = (.ok (), m')) :
    (∀ x, t = some x → 0 < x ∧ x < 1) ∧
    (nd1 ≠ 0 ∧ m.okβ 0 nd1 = true ∧ m.isFree 3 nd1 = true) ∧
    (m.β 2 e ≠ 0 → nd2 ≠ 0 ∧ m.okβ 0 nd2 = true ∧ m.isFree 3 nd2 = true) ∧
    ∃ vid1 vid2 v1 v2,
      run (vertexId2 n e) m = (.ok vid1, m) ∧
      run (vertexId2 n (if m.β 2 e = 0 then m.β 1 e else m.β 2 e)) m = (.ok vid2, m) ∧
      m.att 0 vid1 = some v1 ∧ m.att 0 vid2 = some v2 := by
  obtain ⟨a, _, b, c', vid1, vid2, v1, v2, h1, h2, h3, h4, _⟩ := insertVertex_ok_elim h
  refine ⟨?_, b, c', vid1, vid2, v1, v2, h1, h2, h3, h4⟩
  intro x hx
  have := a x hx
  unfold outOfUnit at this
  simp only [ge_iff_le, Bool.or_eq_false_iff, decide_eq_false_iff_not, not_le] at this
  exact ⟨this.2, this.1⟩

theorem C14_wrong_count (n : Nat) (m : Map Val) (e : Nat) (nds : List Nat) (ts : List Rat)
    (h : nds.length ≠ 2 * ts.length) :
    run (insertVerticesOnEdge n e nds ts) m = (.err (errWrongAmountDarts (2 * ts.length) nds.length), m) := by
  unfold insertVerticesOnEdge
  simp only [bind]
  rw [if_pos h]; rfl

theorem run_anyNotFreeTx (m : Map Val) (hs : Sized 3 m) : ∀ (l : List Nat), (∀ d ∈ l, d < m.n) →
    run (anyNotFreeTx l) m = (.ok (l.any fun d => !m.isFree 3 d), m) := by
  intro l
  induction l with
  | nil => intro _; rfl
  | cons d ds ih =>
      intro hr
      unfold anyNotFreeTx
      simp only [bind]
      rw [run_bind, run_isFreeTx m d (fun _ hi => hs.okβ_of_lt hi (hr d (by simp)))]
      simp only [List.any_cons]
      cases hf : m.isFree 3 d
      · simp
      · simp only [Bool.not_true, Bool.false_eq_true, if_false, Bool.false_or]
        exact ih (fun x hx => hr x (by simp [hx]))

/-- a spare dart that is not free (the test goes through the transaction: it sees the map as the transaction
    sees it) -/
theorem C14_not_free (n : Nat) (m : Map Val) (hs : Sized 3 m) (e : Nat) (nds : List Nat) (ts : List Rat)
    (hlen : nds.length = 2 * ts.length) (hr : ∀ d ∈ nds, d < m.n) (hnf : ∃ d ∈ nds, m.isFree 3 d = false) :
    run (insertVerticesOnEdge n e nds ts) m = (.err (errInvalidDarts "one-dart-is-not-free"), m) := by
  unfold insertVerticesOnEdge
  simp only [bind]
  rw [if_neg (by simpa using hlen), run_bind, run_anyNotFreeTx m hs nds hr]
  have : (nds.any fun d => !m.isFree 3 d) = true := by
    obtain ⟨d, hd, hf⟩ := hnf
    simp only [List.any_eq_true]; exact ⟨d, hd, by simp [hf]⟩
  simp only [this, if_true]; rfl

/-- a null dart in the first half -/
theorem C14_null_first (n : Nat) (m : Map Val) (hs : Sized 3 m) (e : Nat) (nds : List Nat) (ts : List Rat)
    (hlen : nds.length = 2 * ts.length) (hfree : ∀ d ∈ nds, d < m.n ∧ m.isFree 3 d = true)
    (hok : m.okβ 2 e = true) (h0 : 0 ∈ nds.take ts.length) :
    run (insertVerticesOnEdge n e nds ts) m
      = (.err (errInvalidDarts "one-dart-of-the-first-half-is-null"), m) := by
  unfold insertVerticesOnEdge
  simp only [bind]
  rw [if_neg (by simpa using hlen), run_bind, run_anyNotFreeTx m hs nds (fun d hd => (hfree d hd).1)]
  have : (nds.any fun d => !m.isFree 3 d) = false := by
    simp only [List.any_eq_false]; intro d hd; simp [(hfree d hd).2]
  simp only [this, Bool.false_eq_true, if_false, run_rB, hok, if_true]
  rw [if_pos (by simp only [List.any_eq_true, decide_eq_true_eq]; exact ⟨0, h0, rfl⟩)]; rfl

/-- a null dart in the second half of a two-dart edge -/
theorem C14_null_second (n : Nat) (m : Map Val) (hs : Sized 3 m) (e : Nat) (nds : List Nat) (ts : List Rat)
    (hlen : nds.length = 2 * ts.length) (hfree : ∀ d ∈ nds, d < m.n ∧ m.isFree 3 d = true)
    (hok : m.okβ 2 e = true) (h1 : 0 ∉ nds.take ts.length) (h2 : m.β 2 e ≠ 0) (h0 : 0 ∈ nds.drop ts.length) :
    run (insertVerticesOnEdge n e nds ts) m
      = (.err (errInvalidDarts "one-dart-of-the-second-half-is-null"), m) := by
  unfold insertVerticesOnEdge
  simp only [bind]
  rw [if_neg (by simpa using hlen), run_bind, run_anyNotFreeTx m hs nds (fun d hd => (hfree d hd).1)]
  have : (nds.any fun d => !m.isFree 3 d) = false := by
    simp only [List.any_eq_false]; intro d hd; simp [(hfree d hd).2]
  simp only [this, Bool.false_eq_true, if_false, run_rB, hok, if_true]
  rw [if_neg (by simp only [List.any_eq_true, decide_eq_true_eq]; rintro ⟨x, hx, rfl⟩; exact h1 hx)]
  rw [if_pos (by
    simp only [Bool.and_eq_true, decide_eq_true_eq, List.any_eq_true]; exact ⟨h2, 0, h0, rfl⟩)]
  rfl

/-- a position outside `]0,1[` -/
theorem C14_bound (n : Nat) (m : Map Val) (hs : Sized 3 m) (e : Nat) (nds : List Nat) (ts : List Rat)
    (hlen : nds.length = 2 * ts.length) (hfree : ∀ d ∈ nds, d < m.n ∧ m.isFree 3 d = true)
    (hok : m.okβ 2 e = true) (h1 : 0 ∉ nds.take ts.length) (h2 : m.β 2 e ≠ 0 → 0 ∉ nds.drop ts.length)
    (ht : ∃ t ∈ ts, t ≤ 0 ∨ 1 ≤ t) :
    run (insertVerticesOnEdge n e nds ts) m = (.err errVertexBound, m) := by
  unfold insertVerticesOnEdge
  simp only [bind]
  rw [if_neg (by simpa using hlen), run_bind, run_anyNotFreeTx m hs nds (fun d hd => (hfree d hd).1)]
  have : (nds.any fun d => !m.isFree 3 d) = false := by
    simp only [List.any_eq_false]; intro d hd; simp [(hfree d hd).2]
  simp only [this, Bool.false_eq_true, if_false, run_rB, hok, if_true]
  rw [if_neg (by simp only [List.any_eq_true, decide_eq_true_eq]; rintro ⟨x, hx, rfl⟩; exact h1 hx)]
  rw [if_neg (by
    simp only [Bool.and_eq_true, decide_eq_true_eq, List.any_eq_true]
    rintro ⟨hb, x, hx, rfl⟩; exact h2 hb hx)]
  rw [if_pos (by
    obtain ⟨t, ht, hh⟩ := ht
    simp only [List.any_eq_true]; refine ⟨t, ht, ?_⟩
    unfold outOfUnit; rcases hh with hh | hh <;> simp [hh])]
  rfl

/-- single insertion: position outside `]0,1[`, null / non-free first spare dart -/
theorem C14_bound_single (n : Nat) (m : Map Val) (e nd1 nd2 : Nat) (t : Rat) (ht : t ≤ 0 ∨ 1 ≤ t) :
    run (insertVertexOnEdge n e nd1 nd2 (some t)) m = (.err errVertexBound, m) := by
  unfold insertVertexOnEdge
  have : optOutOfUnit (some t) = true := by
    unfold optOutOfUnit outOfUnit; rcases ht with hh | hh <;> simp [hh]
  simp only [bind]
  rw [if_pos this]; rfl

theorem C14_first_dart_single (n : Nat) (m : Map Val) (hs : Sized 3 m) (e nd1 nd2 : Nat) (t : Option Rat)
    (ht : optOutOfUnit t = false) (hok : m.okβ 2 e = true)
    (h1 : nd1 = 0 ∨ (nd1 < m.n ∧ m.isFree 3 nd1 = false)) :
    run (insertVertexOnEdge n e nd1 nd2 t) m
      = (.err (errInvalidDarts "first-dart-is-null-or-not-free"), m) := by
  unfold insertVertexOnEdge
  simp only [bind]
  rw [if_neg (by simp [ht])]
  simp only [run_rB, hok, if_true]
  rw [run_bind]
  have : run (nullOrNotFreeTx nd1) m = (.ok true, m) := by
    unfold nullOrNotFreeTx
    rcases h1 with h1 | ⟨h1, h2⟩
    · simp [h1]
    · by_cases h0 : nd1 = 0
      · simp [h0]
      · simp only [h0, if_false, bind]
        rw [run_bind, run_isFreeTx m nd1 (fun _ hi => hs.okβ_of_lt hi h1)]; simp [h2]
  rw [this]; rfl

/-! ## (c) positions of the new vertices -/

/-! The β chains are built from link cores and reads only: they are `TopoOnly`, no attribute slot is written. -/

theorem topoOnly_whenP {c : Bool} {p : P Val Unit} (h : TopoOnly p) : TopoOnly (whenP c p) := by
  unfold whenP
  cases c
  · exact pre_sameAttrs.pure ()
  · exact h

theorem topoOnly_chainSecond : ∀ (l : List (Nat × Nat)) (prev : Nat), TopoOnly (chainSecond prev l) := by
  intro l
  induction l with
  | nil =>
      intro prev
      exact pre_sameAttrs.pure _
  | cons x rest ih =>
      intro prev
      obtain ⟨d, nd⟩ := x
      unfold chainSecond
      exact pre_sameAttrs.bind (topoOnly_iLinkCore _ _ _) fun _ =>
        pre_sameAttrs.bind (topoOnly_oneLinkCore _ _) fun _ => ih nd

theorem topoOnly_side2 (base1 base2 : Nat) (fh sh : List Nat) : TopoOnly (insertVerticesSide2 base1 base2 fh sh) := by
  have F := pre_sameAttrs (X := Val)
  unfold insertVerticesSide2
  refine F.ro_bind (ReadOnly.rB _ _) fun _ => ?_
  refine F.bind (topoOnly_whenP (topoOnly_oneUnlinkCore _)) fun _ => ?_
  refine F.bind (topoOnly_chainSecond _ _) fun _ => ?_
  exact F.bind (topoOnly_whenP (topoOnly_oneLinkCore _ _)) fun _ => topoOnly_iLinkCore _ _ _

theorem topoOnly_chainFirst : ∀ (l : List Nat) (prev : Nat), TopoOnly (chainFirst prev l) := by
  intro l
  induction l with
  | nil =>
      intro prev
      exact pre_sameAttrs.pure _
  | cons nd rest ih =>
      intro prev
      unfold chainFirst
      exact pre_sameAttrs.bind (topoOnly_oneLinkCore _ _) fun _ => ih nd

/-- the outcome of the program depends on the β tables only, and it writes nothing -/
def BOnly {α : Type} (p : P Val α) : Prop :=
  ReadOnly p ∧ ∀ m m1 : Map Val, m1.b = m.b → (run p m1).1 = (run p m).1

theorem BOnly.pure {α : Type} (a : α) : BOnly (pure a : P Val α) := ⟨ReadOnly.pure a, fun _ _ _ => rfl⟩

theorem BOnly.bind {α β : Type} {p : P Val α} {f : α → P Val β} (hp : BOnly p) (hf : ∀ a, BOnly (f a)) :
    BOnly (p.bind f) := by
  refine ⟨ReadOnly.bind hp.1 fun a => (hf a).1, ?_⟩
  intro m m1 hb
  rw [run_bind, run_bind]
  have e := hp.2 m m1 hb
  have s1 := hp.1 m1
  have s0 := hp.1 m
  match h1 : run p m1, h0 : run p m with
  | (o1, x1), (o0, x0) =>
      rw [h1] at e s1; rw [h0] at e s0
      simp only at e s1 s0
      subst e s1 s0
      cases o1 with
      | ok a => exact (hf a).2 _ _ hb
      | err e => rfl
      | retry => rfl
      | panic => rfl

theorem BOnly.rB (i d : Nat) : BOnly (rB i d : P Val Nat) := by
  refine ⟨ReadOnly.rB i d, ?_⟩
  intro m m1 hb
  simp only [run_rB']
  have e1 : m1.okβ i d = m.okβ i d := by unfold Map.okβ; rw [hb]
  have e2 : m1.β i d = m.β i d := by unfold Map.β; rw [hb]
  rw [e1, e2]; split <;> rfl

theorem bOnly_bfs (gen : Nat → P Val (List Nat)) (hg : ∀ d, BOnly (gen d)) :
    ∀ fuel pending marked out, BOnly (bfs gen fuel pending marked out) := by
  intro fuel
  induction fuel with
  | zero => intro p mk o; exact BOnly.pure _
  | succ f ih =>
      intro p mk o
      cases p with
      | nil => exact BOnly.pure _
      | cons d rest =>
          unfold bfs
          exact BOnly.bind (hg d) (fun ims => ih _ _ _)

theorem bOnly_vertexId2 (k d : Nat) : BOnly (vertexId2 (X := Val) k d) := by
  unfold vertexId2 orbitWith
  refine BOnly.bind (bOnly_bfs _ (fun x => ?_) _ _ _ _) fun _ => BOnly.pure _
  unfold gen2
  exact BOnly.bind (BOnly.rB _ _) fun _ => BOnly.bind (BOnly.rB _ _) fun _ =>
    BOnly.bind (BOnly.rB _ _) fun _ => BOnly.bind (BOnly.rB _ _) fun _ => BOnly.pure _

/-- the placement loop: each point goes to the slot `vertex_id_transac(new_d)`; nothing else is written -/
theorem placeVertices_att (k : Nat) (v1 v2 : Val) : ∀ (l : List (Rat × Nat)) (m m' : Map Val),
    run (placeVertices k v1 v2 l) m = (.ok (), m') →
    (l.map (fun x => (run (vertexId2 k x.2) m).1)).Nodup →
      m'.b = m.b ∧
      (∀ x ∈ l, ∀ vid, (run (vertexId2 k x.2) m).1 = .ok vid → m'.att 0 vid = some (placeVal v1 v2 (some x.1))) ∧
      (∀ s d, (s ≠ 0 ∨ ∀ x ∈ l, (run (vertexId2 k x.2) m).1 ≠ .ok d) → m'.att s d = m.att s d) := by
  intro l
  induction l with
  | nil =>
      intro m m' h _
      simp [placeVertices] at h
      subst h
      exact ⟨rfl, by simp, fun _ _ _ => rfl⟩
  | cons x rest ih =>
      intro m m' h hnd
      obtain ⟨t, nd⟩ := x
      unfold placeVertices at h
      obtain ⟨vid0, hv0, h⟩ := run_ro_bind_ok (readOnly_vertexId2 k nd) h
      obtain ⟨_, m1, h2, h⟩ := run_bind_ok h
      unfold writeVtx at h2
      simp only [bind] at h2
      rw [run_rA] at h2
      by_cases hok : m.okA 0 vid0 = true
      · simp only [hok, if_true, run_wA, Prog.pure_eq, run_ret, Prod.mk.injEq] at h2
        obtain ⟨_, rfl⟩ := h2
        have hb1 : (m.setA 0 vid0 (some (placeVal v1 v2 (some t)))).b = m.b := rfl
        have hout : ∀ d, (run (vertexId2 k d) (m.setA 0 vid0 (some (placeVal v1 v2 (some t))))).1
            = (run (vertexId2 k d) m).1 := fun d => (bOnly_vertexId2 k d).2 _ _ hb1
        simp only [List.map_cons, List.nodup_cons, List.mem_map, not_exists, not_and] at hnd
        obtain ⟨hhead, hrest⟩ := hnd
        have hrest' : (rest.map (fun x => (run (vertexId2 k x.2)
            (m.setA 0 vid0 (some (placeVal v1 v2 (some t))))).1)).Nodup := by
          simp only [hout]; exact hrest
        obtain ⟨i0, i1, i2⟩ := ih _ m' h hrest'
        simp only [hout] at i1 i2
        have hv0' : (run (vertexId2 k nd) m).1 = .ok vid0 := by rw [hv0]
        refine ⟨i0.trans hb1, ?_, ?_⟩
        · intro y hy vid hvid
          simp only [List.mem_cons] at hy
          rcases hy with rfl | hy
          · simp only at hvid
            rw [hv0'] at hvid
            simp only [Out.ok.injEq] at hvid
            subst hvid
            rw [i2 0 vid0 (Or.inr fun z hz hh => hhead z hz (by rw [hh, hv0'])), Map.att_setA]
            simp [hok]
          · exact i1 y hy vid hvid
        · intro s d hsd
          have c1 : s ≠ 0 ∨ ∀ x ∈ rest, (run (vertexId2 k x.2) m).1 ≠ .ok d := by
            rcases hsd with hs | hd
            · exact Or.inl hs
            · exact Or.inr fun z hz => hd z (by simp [hz])
          rw [i2 s d c1, Map.att_setA]
          have : ¬ (0 = s ∧ vid0 = d ∧ m.okA 0 vid0 = true) := by
            rintro ⟨rfl, rfl, _⟩
            rcases hsd with hs | hd
            · exact hs rfl
            · exact hd (t, nd) (by simp) hv0'
          simp [this]
      · simp [hok] at h2

/-- **C14 (c)**: after a successful `insert_vertices_on_edge` the `i`-th new point `v1 + (v2 - v1)·t_i` sits in the
    slot of the VERTEX identifier of the `i`-th new dart, computed on the resulting map (/repo 54572f5; finding D11), and no other slot of
    any storage has changed.
    `v1`, `v2` are the end points read before the first write.  Hypothesis: the new darts belong to pairwise
    distinct vertices of the result (true whenever the first-half darts are distinct:
    `C14_new_darts_distinct_vertices`, Props/C14b.lean; `C14_new_vertex_position_full` there has no such hypothesis). -/
theorem C14_new_vertex_position {n : Nat} {m m' : Map Val} {e : Nat} {nds : List Nat} {ts : List Rat}
    (h : run (insertVerticesOnEdge n e nds ts) m = (.ok (), m'))
    (hnd : ((ts.zip (nds.take ts.length)).map (fun x => (run (vertexId2 n x.2) m').1)).Nodup) :
    ∃ vid1 vid2 v1 v2,
      run (vertexId2 n e) m = (.ok vid1, m) ∧
      run (vertexId2 n (if m.β 1 e ≠ 0 then m.β 1 e else m.β 2 e)) m = (.ok vid2, m) ∧
      m.att 0 vid1 = some v1 ∧ m.att 0 vid2 = some v2 ∧
      (∀ x ∈ ts.zip (nds.take ts.length), ∀ vid, (run (vertexId2 n x.2) m').1 = .ok vid →
        m'.att 0 vid = some (placeVal v1 v2 (some x.1))) ∧
      (∀ s d, (s ≠ 0 ∨ ∀ x ∈ ts.zip (nds.take ts.length), (run (vertexId2 n x.2) m').1 ≠ .ok d) →
        m'.att s d = m.att s d) := by
  obtain ⟨hlen, _, _, _, _, _, _, vid1, vid2, v1, v2, h1, h2, h3, h4, hbody⟩ := insertVertices_ok_elim h
  refine ⟨vid1, vid2, v1, v2, h1, h2, h3, h4, ?_⟩
  unfold insertVerticesBody at hbody
  obtain ⟨_, ma, ha, hbody⟩ := run_bind_ok hbody
  have ea := (topoOnly_whenP (topoOnly_oneUnlinkCore e)).att ha
  obtain ⟨_, mb, hb, hbody⟩ := run_bind_ok hbody
  have eb := (topoOnly_whenP (topoOnly_iUnlinkCore 2 e)).att hb
  obtain ⟨prev, mc, hc, hbody⟩ := run_bind_ok hbody
  have ec := (topoOnly_chainFirst _ _).att hc
  obtain ⟨_, md, hd, hbody⟩ := run_bind_ok hbody
  have ed := (topoOnly_whenP (topoOnly_oneLinkCore prev (m.β 1 e))).att hd
  obtain ⟨_, me, he, hbody⟩ := run_bind_ok hbody
  have ee := (topoOnly_whenP (topoOnly_side2 e (m.β 2 e) _ _)).att he
  -- the β tables of the result are those before the placement loop
  have hbb : m'.b = me.b := by
    have st := attrOnly_placeVertices n v1 v2 (ts.zip (nds.take ts.length)) me
    rw [hbody] at st; exact st.b
  have hout : ∀ d, (run (vertexId2 n d) m').1 = (run (vertexId2 n d) me).1 :=
    fun d => (bOnly_vertexId2 n d).2 _ _ hbb
  simp only [hout] at hnd ⊢
  obtain ⟨_, i1, i2⟩ := placeVertices_att n v1 v2 _ _ _ hbody hnd
  refine ⟨i1, fun s d hsd => ?_⟩
  rw [i2 s d hsd, ee, ed, ec, eb, ea]

/-! geometry of the written point over ℚ -/

theorem placeVal_some (a b : P2) (t : Rat) :
    (placeVal a.toVal b.toVal (some t)).p2 = ⟨a.x + (b.x - a.x) * t, a.y + (b.y - a.y) * t⟩ := rfl

theorem placeVal_none (a b : P2) :
    (placeVal a.toVal b.toVal none).p2 = ⟨(a.x + b.x) / 2, (a.y + b.y) / 2⟩ := rfl

/-- the written point divides the segment in the ratio `t : 1 - t` -/
theorem C14_lerp_ratio (a b : P2) (t : Rat) :
    (P2.lerp a b t).x - a.x = t * (b.x - a.x) ∧ b.x - (P2.lerp a b t).x = (1 - t) * (b.x - a.x) ∧
    (P2.lerp a b t).y - a.y = t * (b.y - a.y) ∧ b.y - (P2.lerp a b t).y = (1 - t) * (b.y - a.y) := by
  unfold P2.lerp
  refine ⟨by ring, by ring, by ring, by ring⟩

/-- it lies on the line through the end points … -/
theorem C14_lerp_collinear (a b : P2) (t : Rat) : cross a (P2.lerp a b t) b = 0 := by
  unfold cross P2.lerp; ring

theorem sqDist_pos {a b : P2} (hab : a ≠ b) : 0 < (b.x - a.x) ^ 2 + (b.y - a.y) ^ 2 := by
  by_cases hx : b.x - a.x = 0
  · by_cases hy : b.y - a.y = 0
    · refine absurd ?_ hab
      cases a; cases b
      simp only [P2.mk.injEq]
      exact ⟨(sub_eq_zero.1 hx).symm, (sub_eq_zero.1 hy).symm⟩
    · exact add_pos_of_nonneg_of_pos (sq_nonneg _) (lt_of_le_of_ne (sq_nonneg _) (pow_ne_zero 2 hy).symm)
  · exact add_pos_of_pos_of_nonneg (lt_of_le_of_ne (sq_nonneg _) (pow_ne_zero 2 hx).symm) (sq_nonneg _)

/-- … strictly between them when `0 < t < 1` (it differs from both ends of a non-degenerate edge and its
    barycentric weights are positive) … -/
theorem C14_lerp_strictly_between (a b : P2) (t : Rat) (h0 : 0 < t) (h1 : t < 1) (hab : a ≠ b) :
    P2.lerp a b t ≠ a ∧ P2.lerp a b t ≠ b ∧
    0 < ((P2.lerp a b t).x - a.x) * (b.x - (P2.lerp a b t).x) + ((P2.lerp a b t).y - a.y) * (b.y - (P2.lerp a b t).y) := by
  obtain ⟨e1, e2, e3, e4⟩ := C14_lerp_ratio a b t
  -- the scalar product of the two parts is `t (1 - t) |b - a|²`; it vanishes when the point is an end point
  have key : ((P2.lerp a b t).x - a.x) * (b.x - (P2.lerp a b t).x) + ((P2.lerp a b t).y - a.y) * (b.y - (P2.lerp a b t).y)
      = t * (1 - t) * ((b.x - a.x) ^ 2 + (b.y - a.y) ^ 2) := by
    rw [e1, e2, e3, e4]; ring
  have hpos : 0 < t * (1 - t) * ((b.x - a.x) ^ 2 + (b.y - a.y) ^ 2) :=
    mul_pos (mul_pos h0 (sub_pos.2 h1)) (sqDist_pos hab)
  rw [← key] at hpos
  refine ⟨fun heq => ?_, fun heq => ?_, hpos⟩
  · rw [heq, sub_self, sub_self, zero_mul, zero_mul, add_zero] at hpos
    exact lt_irrefl _ hpos
  · rw [heq, sub_self, sub_self, mul_zero, mul_zero, add_zero] at hpos
    exact lt_irrefl _ hpos

/-- … and the points come in the order of their parameters -/
theorem C14_lerp_order (a b : P2) (t t' : Rat) :
    (P2.lerp a b t').x - (P2.lerp a b t).x = (t' - t) * (b.x - a.x) ∧
    (P2.lerp a b t').y - (P2.lerp a b t).y = (t' - t) * (b.y - a.y) := by
  unfold P2.lerp; exact ⟨by ring, by ring⟩

/-! ## non-vacuity -/

/-- triangle 1-2-3, dart 4 opposite to dart 1 and 1-free (base dart 4 is the shape of finding D8),
    spare darts 5, 6 -/
def exMap : Map Val :=
  { (Map.empty 3 6 7 : Map Val) with
    b := #[#[0, 3, 1, 2, 0, 0, 0], #[0, 2, 3, 1, 0, 0, 0], #[0, 4, 0, 0, 1, 0, 0]]
    a := #[#[none, some (.pt 0 0 0), some (.pt 4 0 0), some (.pt 0 4 0), none, none, none],
           Array.replicate 8 none, Array.replicate 8 none, Array.replicate 8 none,
           Array.replicate 8 none, Array.replicate 8 none] }

theorem ok_of_fst {p : P Val Unit} {m : Map Val} (h : (run p m).1 = .ok ()) : run p m = (.ok (), (run p m).2) :=
  run_eq_of_fst h

theorem exMap_wf : WF 3 exMap := by decide +kernel

theorem exMap_insert_1 : (run (insertVerticesOnEdge exMap.n 1 [5, 6] [1/4]) exMap).1 = .ok () := by decide +kernel

theorem exMap_insert_4 : (run (insertVerticesOnEdge exMap.n 4 [5, 6] [1/2]) exMap).1 = .ok () := by decide +kernel

example : WF 3 exMap := exMap_wf
example : (run (insertVerticesOnEdge exMap.n 1 [5, 6] [1/4]) exMap).1 = .ok () := exMap_insert_1
/-- the theorem applies to a successful two-dart insertion … -/
example : WF 3 (run (insertVerticesOnEdge exMap.n 1 [5, 6] [1/4]) exMap).2 :=
  C14_insertVertices_preserves_WF exMap _ 1 [5, 6] [1/4] exMap_wf (by decide +kernel)
    (by decide +kernel) (by decide +kernel) (ok_of_fst exMap_insert_1)
/-- … and to the shape of finding D8 (two-dart edge, base dart 4 is 1-free): the call succeeds, the null
    dart keeps its null images, the result is well formed -/
example : (run (insertVerticesOnEdge exMap.n 4 [5, 6] [1/2]) exMap).1 = .ok () := exMap_insert_4
example : (run (insertVerticesOnEdge exMap.n 4 [5, 6] [1/2]) exMap).2.β 0 0 = 0 := by decide +kernel
example : WF 3 (run (insertVerticesOnEdge exMap.n 4 [5, 6] [1/2]) exMap).2 :=
  C14_insertVertices_preserves_WF exMap _ 4 [5, 6] [1/2] exMap_wf (by decide +kernel)
    (by decide +kernel) (by decide +kernel) (ok_of_fst exMap_insert_4)
/-- the new point sits at the vertex id: with the spare darts in the order (6, 5) the new vertex {6, 5} has id 5,
    not 6 (finding D11) -/
example : (run (insertVerticesOnEdge exMap.n 1 [6, 5] [1/4]) exMap).2.att 0 5 = some (.pt 1 0 0) ∧
    (run (vertexId2 exMap.n 6) (run (insertVerticesOnEdge exMap.n 1 [6, 5] [1/4]) exMap).2).1 = .ok 5 := by
  decide +kernel
theorem exMap_insert_mid : (run (insertVertexOnEdge exMap.n 2 5 0 none) exMap).1 = .ok () := by decide +kernel

example : (run (insertVertexOnEdge exMap.n 2 5 0 none) exMap).1 = .ok () := exMap_insert_mid
example : WF 3 (run (insertVertexOnEdge exMap.n 2 5 0 none) exMap).2 :=
  C14_insertVertex_preserves_WF exMap _ 2 5 0 none exMap_wf (by decide +kernel) (by decide +kernel)
    (by decide +kernel) (by decide +kernel) (ok_of_fst exMap_insert_mid)
/-- the error theorems' hypotheses are satisfiable -/
example : (run (insertVerticesOnEdge exMap.n 1 [5] [1/4]) exMap).1 = .err (errWrongAmountDarts 2 1) := by
  rw [C14_wrong_count _ _ _ _ _ (by decide)]; rfl
example : (atomically (insertVerticesOnEdge exMap.n 1 [5, 2] [1/4]) exMap).1
    = .err (errInvalidDarts "one-dart-is-not-free") := by decide +kernel
example : (atomically (insertVerticesOnEdge exMap.n 1 [5, 6] [5/4]) exMap).1 = .err errVertexBound := by
  decide +kernel
example : (atomically (insertVerticesOnEdge exMap.n 4 [5, 0] [1/2]) exMap).1
    = .err (errInvalidDarts "one-dart-of-the-second-half-is-null") := by decide +kernel
example : (P2.lerp ⟨0, 0⟩ ⟨4, 0⟩ (1/4)) = ⟨1, 0⟩ := by decide +kernel

end HC.C14

/-
  C16 / C17 — the chain: every crossing of the boundary with a grid line and every retained point of interest is a
  vertex of the map the modelled pipeline returns (the central clause of C16; for capture: anchored to a node).

  `pipelineMap m0 g eps poi verts segs ha keys2 keys4` = steps 1-5 of the model on the grid map `m0`
  (`slotsAll` / `segmentsOf` → `stepsTwoThree` → `edgeData` → `stepFive`), `keys2` / `keys4` the iteration orders of the two
  `HashMap`s; "`x` is a vertex at `P`" is `Carries m x P`: `x` is a dart in use and the slot of its vertex identifier
  (`C03.cellId m .vertex x`, what `vertex_id` returns) in the coordinate storage holds `P`.

  THEOREMS
  * `C16_crossings_are_vertices`  for every grid, every geometry whose segments are in eps-general position (`GenPos`), both
                                  iteration orders arbitrary: if the pipeline succeeds, every crossing of every segment with
                                  a grid line is a vertex of the result, at the crossing point
  * `C16_poi_are_vertices`        every point of interest lying on a chain between two crossings is a vertex of the result,
                                  at its own coordinates (same hypotheses; the `_partial` form needs no general position)
  * `C17_poi_are_node_vertices`   … and in capture (anchor storages) that vertex is anchored `Node(j)`
  with, on the way,
  * `insertIntersections_eff`     the ALL-EDGES INDUCTION of step 3 (distinct edges get disjoint fresh blocks; the per-edge
    `C16_steps23_carries`         facts of C14 transport along the frame `carries_insert_frame`): every written slot's dart
                                  starts at the point at position `t` of the side that was hit, whatever the order; the same
                                  induction gives the discrete facts (new darts in use, 2-linked) for `steps23_linked`
  * `GInv`, `GInv.step`, `GInv.init`
                                  the invariant of the loop of step 3 over the edges (fresh blocks, distinct canonical keys below
                                  them), kept by one insertion and established by `add_free_darts`: shared by the inductions
                                  `insertIntersections_eff` and `insertIntersections_total`
                                  (Props/C16Steps23Total.lean)
  * `carries_buildBaseEdge`       `build_base_edge` keeps the vertex (identifier and slot) of every older dart — the two new
                                  darts are spliced into the two end vertices (the vertex cells as components of ties, Lemmas/Ties.lean:
                                  only the columns of `start`, `β0(end)` and the two new darts change; `cellId_of_ties`)
  * `carriesS_insertOneEdge`, `insertEdgesFrom_carries`, `C16_stepFive_carries`
                                  step 5 keeps every older vertex with its coordinates and anchors, and turns every
                                  intermediate point into a vertex (anchored `Node(edge index)`)

  PROVED / DISCHARGED inside the chain: completeness and slot of the crossing (`C16_crossings_complete`,
  `C16_slots_genpos`); identifiers = slot numbers; the induction over all edges of step 3; well-formedness and absence of
  tags after step 3; vertex stability through `add_free_darts`, `build_base_edge`, `insert_vertices_on_edge`, the placeholder
  replacement and `mark_boundary`; independence of both `HashMap` orders (they are universally quantified parameters).

  FULL FORMS (`C16_crossings_are_vertices`, `C16_poi_are_vertices`, `C17_poi_are_node_vertices`): `KeysOK` and `EdgeDartsInUse`
  are PROVED (`keysOK_of_hit_edges`, `C16_edge_darts_in_use` with the discrete clauses of `insertIntersections_eff`
  and the analysis of `new_segments` in general position `segmentsFrom_gvok`); what is left: `SideCoords`, `HitDartsOK` (about
  the grid map only; both are theorems on the builder's grid: `Props/C16ChainGrid.lean`), `KeysAreHitEdges` (about the `HashMap`
  only), "the keys of step 4 are intersections", `GenPos`, success of the run, `OnChain`.  The `_partial` forms below keep
  `KeysOK` / `EdgeDartsInUse` as hypotheses.

  NAMED HYPOTHESES of the `_partial` forms (each satisfiable — example (A) at the end and examples (B), (C) in Props/C16Step5Pipe.lean instantiate everything on a 3 × 1 grid — and each
  evaluated by the tie on every generated case):
  * success of the run (`pipelineMap … = some m'`): in particular step 5 does not hit the consecutive-darts panic of
    `build_base_edge` and `insert_vertices_on_edge` finds its end points; a panicking run returns no map
  * `SideCoords`      the grid map carries, at the dart of every crossing, the side the kernel computed (builder coordinates +
                      `C16_crossings_sound`; tie: oracle clause `position` of the `gids` stream)
  * `KeysOK`          the iteration order of step 2 lists distinct in-use identifier darts, among them every hit edge
                      (what a `HashMap` keyed by `edge_id` yields; tie: the order is read off the implementation)
  * `EdgeDartsInUse`  the start / end darts step 4 hands to step 5 are in use (tie: clause `edge-darts-in-use`)
  * `OnChain`         (points of interest only) the point lies on a chain leaving an intersection key — false exactly for the
                      loops inside one cell of findings D16a / D17a
  NOT NEEDED by these clauses, and not proved: that each new edge lies inside ONE cell (a geometric
  statement about faces, evaluated by the tie clause `edges-in-one-cell`; `C16_between_crossings_one_cell` covers one
  segment); f64 rounding.
-/
import Honeycomb.Props.C14c
import Honeycomb.Props.C16Cross
import Honeycomb.Props.C16Insert
import Honeycomb.Props.C16Edges
import Honeycomb.Props.C16EdgeInsert
import Honeycomb.Lemmas.CellCalc


namespace HC.C16
open HC

/-! ## "the dart `x` starts at a vertex carrying the value `P`" -/

/-- `x` is a dart in use and the slot of its vertex identifier in the storage `s` holds `P` -/
def CarriesS (m : Map Val) (s x : Nat) (P : Val) : Prop :=
  C01.InUse m x ∧ m.att s (C03.cellId m .vertex x) = some P

/-- … in the coordinate storage (storage 0) -/
def Carries (m : Map Val) (x : Nat) (P : Val) : Prop := CarriesS m 0 x P

/-- a map `π` of the darts that sends every edge of `E'` to a connection of `E` sends connections to connections -/
theorem conn_map {E E' : Nat → Nat → Prop} (π : Nat → Nat) (h : ∀ u v, E' u v → Conn E (π u) (π v)) {x y : Nat}
    (c : Conn E' x y) : Conn E (π x) (π y) :=
  Conn.le (R := fun a b => Conn E (π a) (π b)) ⟨fun _ => .refl _, fun k => k.symm, fun k1 k2 => k1.trans k2⟩ h c

/-- the vertex of a dart is the component of its ties -/
theorem mem_vorb_iff {m : Map Val} (h : WF 3 m) {y : Nat} (hy0 : y ≠ 0) (hy : y < m.n) (x : Nat) :
    x ∈ C03.orb m .vertex y ↔ Conn (Tie vties m.β) y x := by
  rw [C03.C03_orbit2_is_cell h (pol := .vertex) trivial hy0 hy, vcell2_eq (bok_of_wf h) (CellCalc.β3_zero h)]
  exact Iff.rfl

/-- the vertex identifier of `y` is kept when its vertex keeps its darts and gains only darts that are not below `y` -/
theorem cellId_of_ties {m m' : Map Val} (hwf : WF 3 m) (hwf' : WF 3 m') {y : Nat} (hy0 : y ≠ 0) (hy : y < m.n)
    (hy' : y < m'.n) (hsub : ∀ x, Conn (Tie vties m.β) y x → Conn (Tie vties m'.β) y x)
    (hsup : ∀ x, Conn (Tie vties m'.β) y x → Conn (Tie vties m.β) y x ∨ y ≤ x) :
    C03.cellId m' .vertex y = C03.cellId m .vertex y := by
  have s' := C03.cellId_spec hwf' (pol := .vertex) trivial hy0 hy'
  have s := C03.cellId_spec hwf (pol := .vertex) trivial hy0 hy
  apply Nat.le_antisymm
  · exact s'.2 _ ((mem_vorb_iff hwf' hy0 hy' _).2 (hsub _ ((mem_vorb_iff hwf hy0 hy _).1 s.1)))
  · rcases hsup _ ((mem_vorb_iff hwf' hy0 hy' _).1 s'.1) with k | k
    · exact s.2 _ ((mem_vorb_iff hwf hy0 hy _).2 k)
    · exact Nat.le_trans (s.2 y (C03.self_mem_orb hwf (pol := .vertex) trivial hy0 hy)) k

/-- the dart after the opposite dart starts at the same vertex -/
theorem cellId_b1b2 {m : Map Val} (hwf : WF 3 m) {x : Nat} (hx0 : x ≠ 0) (hx : x < m.n)
    (hy0 : m.β 1 (m.β 2 x) ≠ 0) : C03.cellId m .vertex (m.β 1 (m.β 2 x)) = C03.cellId m .vertex x := by
  have hy : m.β 1 (m.β 2 x) < m.n := hwf.range 1 (by decide) _ (hwf.range 2 (by decide) _ hx)
  refine ((C03.C03_same_id_iff_same_cell hwf (pol := .vertex) trivial hx0 hx hy0 hy).1.2 ?_).symm
  exact Reach.tail (Reach.refl x) (by simp [C03.g2])

/-! ## `add_free_darts` keeps the vertices -/

theorem carriesS_addFreeDarts {m : Map Val} (hwf : WF 3 m) (k : Nat) {s x : Nat} {P : Val} (h : CarriesS m s x P) :
    CarriesS (m.addFreeDarts k).2 s x P := by
  have hs := hwf.toSized
  obtain ⟨⟨x0, xlt, xu⟩, hat⟩ := h
  have hwf' := hwf.addFreeDarts (by omega) k
  -- the new darts are free: the ties are those of `m`, column by column
  have vt : ∀ z, vties (m.addFreeDarts k).2.β z = vties m.β z := fun z => by
    unfold vties
    rw [addFreeDarts_β hs k 1 z (by decide), addFreeDarts_β hs k 2 z (by decide), CellCalc.β3_zero hwf', CellCalc.β3_zero hwf]
    split
    · rfl
    · rw [hwf.β_oob (fun c => ‹¬ z < m.n› c.2), hwf.β_oob (fun c => ‹¬ z < m.n› c.2)]
  have hid : C03.cellId (m.addFreeDarts k).2 .vertex x = C03.cellId m .vertex x :=
    cellId_of_ties hwf hwf' x0 xlt (Nat.lt_of_lt_of_le xlt (Nat.le_add_right _ _))
      (fun _ c => Conn.mono (fun u v ⟨z, a, b, c, d⟩ => .step ⟨z, (vt z).symm ▸ a, (vt z).symm ▸ b, c, d⟩) c)
      (fun _ c => Or.inl (Conn.mono (fun u v ⟨z, a, b, c, d⟩ => .step ⟨z, vt z ▸ a, vt z ▸ b, c, d⟩) c))
  refine ⟨inUse_addFreeDarts hwf k ⟨x0, xlt, xu⟩, ?_⟩
  rw [hid, ← hat]
  -- the storage keeps its old slots
  have hvlt : C03.cellId m .vertex x < m.n :=
    ((C03.C03_orbit2_spec hwf (pol := .vertex) trivial x0 xlt).2.2.2.2.2) _
      (C03.cellId_spec hwf (pol := .vertex) trivial x0 xlt).1
  unfold Map.addFreeDarts Map.att
  simp only
  by_cases h0 : s < m.a.size
  · rw [rd_map _ _ _ h0, rd_ext_lt _ _ _ _ (by have := hs.asz s h0; omega)]
  · rw [rd_oob (a := m.a.map _) (i := s) (by simpa using Nat.le_of_not_lt h0), rd_oob (a := m.a) (i := s) (Nat.le_of_not_lt h0)]

theorem carries_addFreeDarts {m : Map Val} (hwf : WF 3 m) (k : Nat) {x : Nat} {P : Val} (h : Carries m x P) :
    Carries (m.addFreeDarts k).2 x P :=
  carriesS_addFreeDarts hwf k h

/-! ## one `insert_vertices_on_edge` on a block `off ..+ 2·len` -/

set_option linter.unusedVariables false in
/-- darts outside the block keep what they carry -/
theorem carries_insert_frame {m m' : Map Val} {e off len : Nat} {ts : List Rat} (hlen : ts.length = len) (hwf : WF 3 m)
    (he : C01.InUse m e) (hlive : ∀ d, d ∈ List.range' off (2 * len) → m.unused d = false)
    (hr : run (insertVerticesOnEdge m.n e (List.range' off (2 * len)) ts) m = (.ok (), m'))
    {x s : Nat} {P : Val} (hx : x < off ∨ off + 2 * len ≤ x) (h : CarriesS m s x P) : CarriesS m' s x P := by
  have hfhnd : ((List.range' off (2 * len)).take ts.length).Nodup := (List.nodup_range').sublist (List.take_sublist _ _)
  have inv := C14.insertVertices_inv m m' e _ _ hwf he hlive (fun _ => List.nodup_range') hr
  obtain ⟨⟨x0, xlt, xu⟩, hat⟩ := h
  have hold : C14.OldDart m e ((List.range' off (2 * len)).take ts.length) ((List.range' off (2 * len)).drop ts.length) x := by
    refine ⟨fun hh => ?_, fun _ hh => ?_⟩
    · have := List.mem_range'_1.1 (List.mem_of_mem_take hh); omega
    · have := List.mem_range'_1.1 (List.mem_of_mem_drop hh); omega
  have := C14.C14_old_vertices_keep_coordinates m m' e _ _ hwf he hlive hfhnd (fun _ => List.nodup_range') hr x hold x0 xlt s
  exact ⟨⟨x0, by rw [inv.n_eq]; exact xlt, by unfold Map.unused; rw [inv.u_eq]; exact xu⟩, by rw [this]; exact hat⟩

/-- the new vertices: the `i`-th dart of the first half, and its mirror on the second side, start at the point at
    position `ts[i]` between the two end points of the edge -/
theorem carries_insert_new {m m' : Map Val} {e off len : Nat} {ts : List Rat} (hlen : ts.length = len) (hwf : WF 3 m)
    (he : C01.InUse m e) (hb1 : m.β 1 e ≠ 0) (hlive : ∀ d, d ∈ List.range' off (2 * len) → m.unused d = false)
    (hr : run (insertVerticesOnEdge m.n e (List.range' off (2 * len)) ts) m = (.ok (), m'))
    {v1 v2 : Val} (h1 : Carries m e v1) (h2 : Carries m (m.β 1 e) v2) {i : Nat} {t : Rat} (hi : ts[i]? = some t) :
    Carries m' (off + i) (placeVal v1 v2 (some t)) ∧
    (m.β 2 e ≠ 0 → Carries m' (off + (len + (len - 1 - i))) (placeVal v1 v2 (some t))) := by
  have hilt : i < len := by
    rcases Nat.lt_or_ge i len with h | h
    · exact h
    · rw [List.getElem?_eq_none (by rw [hlen]; exact h)] at hi; cases hi
  have B := insert_block hlen hwf he hlive hr
  have H := B.hyp
  have hu := B.u
  obtain ⟨vid1, vid2, a1, a2, r1, r2, g1, g2', hpos⟩ := B.pos
  -- the two end points that were read are the ones carried
  have e1 : vid1 = C03.cellId m .vertex e := by
    have := (C03.C03_vertexId2_min hwf he.1 he.2.1).1
    rw [this] at r1; injection r1 with r1; injection r1 with r1; exact r1.symm
  have hb1lt : m.β 1 e < m.n := hwf.range 1 (by decide) e he.2.1
  have e2 : vid2 = C03.cellId m .vertex (m.β 1 e) := by
    rw [if_pos hb1] at r2
    have := (C03.C03_vertexId2_min hwf hb1 hb1lt).1
    rw [this] at r2; injection r2 with r2; injection r2 with r2; exact r2.symm
  have ea1 : a1 = v1 := by rw [e1, h1.2] at g1; injection g1 with g1; exact g1.symm
  have ea2 : a2 = v2 := by rw [e2, h2.2] at g2'; injection g2' with g2'; exact g2'.symm
  subst ea1 ea2
  have iu : ∀ d, d ∈ List.range' off (2 * len) → d < m.n ∧ d ≠ 0 → C01.InUse m' d := fun d hd h =>
    ⟨h.2, by rw [H.n_eq]; exact h.1, by unfold Map.unused; rw [hu]; exact hlive d hd⟩
  obtain ⟨hd_lt, hd0⟩ := H.fhlt (off + i) (List.mem_range'_1.2 ⟨by omega, by omega⟩)
  have hmemz : (t, off + i) ∈ ts.zip (List.range' off len) := by
    have : (ts.zip (List.range' off len))[i]? = some (t, off + i) := by
      rw [List.getElem?_zip_eq_some]
      exact ⟨hi, by rw [List.getElem?_range' hilt]; simp⟩
    exact List.mem_of_getElem? this
  have hrun := (C03.C03_vertexId2_min H.wf' hd0 (by rw [H.n_eq]; exact hd_lt)).1
  rw [H.n_eq] at hrun
  have c1 : Carries m' (off + i) (placeVal a1 a2 (some t)) :=
    ⟨iu _ (List.mem_range'_1.2 ⟨by omega, by omega⟩) ⟨hd_lt, hd0⟩, hpos (t, off + i) hmemz _ (by rw [hrun])⟩
  refine ⟨c1, fun he2 => ?_⟩
  -- its mirror: β1 (β2 ·) is the dart of the first half
  have hx := (H.two he2).2.1 (off + (len + (len - 1 - i))) (List.mem_range'_1.2 ⟨by omega, by omega⟩)
  have hx_lt' : off + (len + (len - 1 - i)) < m'.n := by rw [H.n_eq]; exact hx.1
  have hstep := block_mirror H he2 hilt
  have hid := cellId_b1b2 H.wf' hx.2 hx_lt' (by rw [hstep]; exact hd0)
  rw [hstep] at hid
  exact ⟨iu _ (List.mem_range'_1.2 ⟨by omega, by omega⟩) hx, by rw [← hid]; exact c1.2⟩

/-! ## the all-edges induction of `insert_intersections` -/

/-- the invariant of the loop of `insert_intersections` over the groups `gs`, blocks handed out from `off`: the darts
    from `off` on are live and free and there is room for the remaining blocks; the keys are distinct darts in use below
    `off` with a successor, none of them the β2 image of another -/
structure GInv (m : Map Val) (off : Nat) (gs : List (Nat × List Hit)) : Prop where
  wf : WF 3 m
  fresh : ∀ d, off ≤ d → d < m.n → m.unused d = false ∧ ∀ i, i < 3 → m.β i d = 0
  room : off + 2 * (gs.map (·.2.length)).sum ≤ m.n
  pos : 0 < off
  keys : ∀ g, g ∈ gs → C01.InUse m g.1 ∧ g.1 < off ∧ m.β 1 g.1 ≠ 0
  nodup : (gs.map (·.1)).Nodup
  can : ∀ g, g ∈ gs → ∀ g', g' ∈ gs → m.β 2 g.1 ≠ g'.1

theorem GInv.b2_lt {m : Map Val} {off : Nat} {gs : List (Nat × List Hit)} (G : GInv m off gs) {g : Nat × List Hit}
    (hg : g ∈ gs) : m.β 2 g.1 < off := by
  obtain ⟨a, _, _⟩ := G.keys g hg
  by_cases hz : m.β 2 g.1 = 0
  · rw [hz]; exact G.pos
  · have hi := G.wf.invol 2 (by decide) (by decide) g.1 a.2.1 hz
    exact not_fresh G.fresh (G.wf.range 2 (by decide) _ a.2.1) (by decide : 2 < 3) (by rw [hi.1]; exact a.1)

theorem GInv.b1_lt {m : Map Val} {off : Nat} {gs : List (Nat × List Hit)} (G : GInv m off gs) {g : Nat × List Hit}
    (hg : g ∈ gs) : m.β 1 g.1 < off := by
  obtain ⟨a, _, c⟩ := G.keys g hg
  exact not_fresh G.fresh (G.wf.range 1 (by decide) _ a.2.1) (by decide : 0 < 3) (by rw [G.wf.inv01 _ a.2.1 c]; exact a.1)

theorem GInv.live {m : Map Val} {off : Nat} {g : Nat × List Hit} {rest : List (Nat × List Hit)}
    (G : GInv m off (g :: rest)) : ∀ d, d ∈ List.range' off (2 * g.2.length) → m.unused d = false := by
  intro d hd
  have := List.mem_range'_1.1 hd
  have hroom := G.room
  simp only [List.map_cons, List.sum_cons] at hroom
  exact (G.fresh d (by omega) (by omega)).1

theorem GInv.step {m m1 : Map Val} {off : Nat} {g : Nat × List Hit} {rest : List (Nat × List Hit)}
    (G : GInv m off (g :: rest))
    (h1 : run (insertVerticesOnEdge m.n g.1 (List.range' off (2 * g.2.length)) (g.2.map (·.t))) m = (.ok (), m1)) :
    GInv m1 (off + 2 * g.2.length) rest ∧ m1.n = m.n ∧ m1.u = m.u ∧ (∀ s d, s ≠ 0 → m1.att s d = m.att s d) ∧
    (∀ y, y ≠ g.1 → y ≠ m.β 2 g.1 → (y < off ∨ off + 2 * g.2.length ≤ y) →
      m1.β 1 y = m.β 1 y ∧ m1.β 2 y = m.β 2 y) ∧
    (∀ g', g' ∈ rest → g'.1 ≠ g.1 ∧ g'.1 ≠ m.β 2 g.1) := by
  have hwf := G.wf
  have hroom := G.room
  simp only [List.map_cons, List.sum_cons] at hroom
  obtain ⟨ig, glt, gb1⟩ := G.keys g List.mem_cons_self
  have B := insert_block (List.length_map _) hwf ig G.live h1
  have H := B.hyp
  have hu := B.u
  have hatt := B.att
  have hb2g := G.b2_lt List.mem_cons_self
  have fr : ∀ y, y ≠ g.1 → y ≠ m.β 2 g.1 → (y < off ∨ off + 2 * g.2.length ≤ y) →
      m1.β 1 y = m.β 1 y ∧ m1.β 2 y = m.β 2 y := fun y a b hy =>
    ⟨(block_frame H a b hy).1, (block_frame H a b hy).2.1⟩
  have hsub : ∀ g', g' ∈ rest → g' ∈ g :: rest := fun g' h => List.mem_cons_of_mem _ h
  have hnd := G.nodup
  simp only [List.map_cons, List.nodup_cons, List.mem_map, not_exists, not_and] at hnd
  have hne : ∀ g', g' ∈ rest → g'.1 ≠ g.1 ∧ g'.1 ≠ m.β 2 g.1 := fun g' hg' =>
    ⟨fun e => hnd.1 g' hg' e, fun e => G.can g List.mem_cons_self g' (hsub g' hg') e.symm⟩
  have frk : ∀ g', g' ∈ rest → m1.β 1 g'.1 = m.β 1 g'.1 ∧ m1.β 2 g'.1 = m.β 2 g'.1 := fun g' hg' =>
    fr g'.1 (hne g' hg').1 (hne g' hg').2 (Or.inl (G.keys g' (hsub g' hg')).2.1)
  refine ⟨⟨H.wf', ?_, by rw [H.n_eq]; omega, by omega, ?_, hnd.2, ?_⟩, H.n_eq, hu, hatt, fr, hne⟩
  · intro d hd hdn
    rw [H.n_eq] at hdn
    obtain ⟨fu, fb⟩ := G.fresh d (by omega) hdn
    refine ⟨by unfold Map.unused; rw [hu]; exact fu, ?_⟩
    have hd1 : d ≠ g.1 := by omega
    have hd2 : d ≠ m.β 2 g.1 := by omega
    intro i hi
    rcases (by omega : i = 0 ∨ i = 1 ∨ i = 2) with rfl | rfl | rfl
    · rw [(block_frame H hd1 hd2 (Or.inr hd)).2.2 ?_ ?_]
      · exact fb 0 (by decide)
      · -- a free dart is not the successor of the edge dart …
        intro e
        have hb : m.β 0 (m.β 1 g.1) = g.1 := hwf.inv01 g.1 ig.2.1 gb1
        rw [← e, fb 0 (by decide)] at hb; exact ig.1 hb.symm
      · -- … nor of its opposite dart
        intro e
        by_cases hz : m.β 1 (m.β 2 g.1) = 0
        · rw [hz] at e; omega
        · have hb : m.β 0 (m.β 1 (m.β 2 g.1)) = m.β 2 g.1 := hwf.inv01 _ (hwf.range 2 (by decide) _ ig.2.1) hz
          rw [← e, fb 0 (by decide)] at hb
          have : m.β 1 (m.β 2 g.1) = 0 := by rw [← hb]; exact hwf.null 1 (by decide)
          exact hz this
    · rw [(fr d hd1 hd2 (Or.inr hd)).1]; exact fb 1 (by decide)
    · rw [(fr d hd1 hd2 (Or.inr hd)).2]; exact fb 2 (by decide)
  · intro g' hg'
    obtain ⟨a, b, c⟩ := G.keys g' (hsub g' hg')
    exact ⟨inUse_congr H.n_eq hu a, by omega, by rw [(frk g' hg').1]; exact c⟩
  · intro a ha b hb
    rw [(frk a ha).2]; exact G.can a (hsub a ha) b (hsub b hb)

/-- one insertion on a block `off ..+ 2·len`: the new darts are in use; on a two-dart edge they are 2-linked -/
theorem insert_block_linked {m m' : Map Val} {e off len : Nat} {ts : List Rat} (hlen : ts.length = len) (hwf : WF 3 m)
    (he : C01.InUse m e) (hlive : ∀ d, d ∈ List.range' off (2 * len) → m.unused d = false)
    (hr : run (insertVerticesOnEdge m.n e (List.range' off (2 * len)) ts) m = (.ok (), m')) {i : Nat} (hilt : i < len) :
    C01.InUse m' (off + i) ∧
    (m.β 2 e ≠ 0 → C01.InUse m' (off + (len + (len - 1 - i))) ∧ m'.β 2 (off + i) ≠ 0 ∧
      m'.β 2 (off + (len + (len - 1 - i))) ≠ 0) := by
  have B := insert_block hlen hwf he hlive hr
  have H := B.hyp
  have hu := B.u
  have iu : ∀ d, d ∈ List.range' off (2 * len) → d < m.n ∧ d ≠ 0 → C01.InUse m' d := fun d hd h =>
    ⟨h.2, by rw [H.n_eq]; exact h.1, by unfold Map.unused; rw [hu]; exact hlive d hd⟩
  have hF : ∀ j, j < len → off + j < m.n ∧ off + j ≠ 0 := fun j hj => H.fhlt _ (List.mem_range'_1.2 ⟨by omega, by omega⟩)
  refine ⟨iu _ (List.mem_range'_1.2 ⟨by omega, by omega⟩) (hF i hilt), fun he2 => ?_⟩
  obtain ⟨_, hS, _⟩ := H.two he2
  obtain ⟨p1, p2⟩ := block_pairs H he2 hilt
  refine ⟨iu _ (List.mem_range'_1.2 ⟨by omega, by omega⟩) (hS _ (List.mem_range'_1.2 ⟨by omega, by omega⟩)), ?_, ?_⟩
  · -- the partner of `off + i`: the old opposite dart or a dart of the second half
    rw [p1]
    by_cases hz : len - 1 - i = 0
    · rw [hz]; exact he2
    · rw [show len - 1 - i = (len - 1 - i - 1) + 1 by omega, List.getD_cons_succ, range'_getD (by omega)]
      omega
  · rw [p2]
    cases i with
    | zero => exact he.1
    | succ i' => rw [List.getD_cons_succ, range'_getD (by omega)]; exact (hF i' (by omega)).2

/-- **C16, step 3 — every edge**: `insert_intersections` over the groups in the iteration order, blocks handed out
    consecutively from `off`.  Distinct edges get disjoint fresh blocks, so the per-edge facts transport along the frame:
    the result is well formed, every dart below `off` keeps what it carries, and the `i`-th hit of the `j`-th edge `e`
    (positions sorted) has its dart of the first half `o + i` — and, on a two-dart edge, the mirror dart
    `o + len + (len-1-i)` — starting at the point at position `h.t` between the two end points of `e`; these new darts
    are in use, and 2-linked when the grid edge was; β2 of the darts below `off` that belong to no edge is unchanged -/
theorem insertIntersections_eff : ∀ (gs : List (Nat × List Hit)) (m m' : Map Val) (off : Nat), GInv m off gs →
    run (insertIntersections m.n (gs.zip (slicesFrom off (gs.map (·.2.length))))) m = (.ok (), m') →
    WF 3 m' ∧ m'.n = m.n ∧ m'.u = m.u ∧ (∀ s d, s ≠ 0 → m'.att s d = m.att s d) ∧
    (∀ x P, x < off → Carries m x P → Carries m' x P) ∧
    (∀ (j : Nat) (g : Nat × List Hit), gs[j]? = some g → ∀ v1 v2, Carries m g.1 v1 → Carries m (m.β 1 g.1) v2 →
      ∀ (i : Nat) (h : Hit), g.2[i]? = some h →
        Carries m' (off + 2 * ((gs.map (·.2.length)).take j).sum + i) (placeVal v1 v2 (some h.t)) ∧
        (m.β 2 g.1 ≠ 0 → Carries m' (off + 2 * ((gs.map (·.2.length)).take j).sum + (g.2.length + (g.2.length - 1 - i)))
          (placeVal v1 v2 (some h.t)))) ∧
    (∀ y, y < off → (∀ g, g ∈ gs → y ≠ g.1 ∧ y ≠ m.β 2 g.1) → m'.β 2 y = m.β 2 y) ∧
    (∀ (j : Nat) (g : Nat × List Hit), gs[j]? = some g → ∀ (i : Nat), i < g.2.length →
        C01.InUse m' (off + 2 * ((gs.map (·.2.length)).take j).sum + i) ∧
        (m.β 2 g.1 ≠ 0 →
          C01.InUse m' (off + 2 * ((gs.map (·.2.length)).take j).sum + (g.2.length + (g.2.length - 1 - i))) ∧
          m'.β 2 (off + 2 * ((gs.map (·.2.length)).take j).sum + i) ≠ 0 ∧
          m'.β 2 (off + 2 * ((gs.map (·.2.length)).take j).sum + (g.2.length + (g.2.length - 1 - i))) ≠ 0)) := by
  intro gs
  induction gs with
  | nil =>
      intro m m' off G hr
      simp only [List.map_nil, slicesFrom, List.zip_nil_right, insertIntersections, Prog.pure_eq, run_ret,
        Prod.mk.injEq] at hr
      rw [← hr.2]
      exact ⟨G.wf, rfl, rfl, fun _ _ _ => rfl, fun _ _ _ h => h, fun j g hg => by simp at hg, fun _ _ _ => rfl,
        fun j g hg => by simp at hg⟩
  | cons g rest ih =>
      intro m m' off G hr
      simp only [List.map_cons, slicesFrom, List.zip_cons_cons, insertIntersections, Prog.bind_eq] at hr
      obtain ⟨_, m1, h1, h2⟩ := run_bind_ok hr
      obtain ⟨G1, n1, u1, hatt1, fr, hne⟩ := G.step h1
      obtain ⟨ig, glt, gb1⟩ := G.keys g List.mem_cons_self
      have hts : (g.2.map (·.t)).length = g.2.length := List.length_map _
      have hsub : ∀ g', g' ∈ rest → g' ∈ g :: rest := fun g' h => List.mem_cons_of_mem _ h
      have frk : ∀ a, a ∈ rest → m1.β 1 a.1 = m.β 1 a.1 ∧ m1.β 2 a.1 = m.β 2 a.1 := fun a ha =>
        fr a.1 (hne a ha).1 (hne a ha).2 (Or.inl (G.keys a (hsub a ha)).2.1)
      rw [← n1] at h2
      obtain ⟨w', n', u', att', frame', res', f2', new'⟩ := ih m1 m' _ G1 h2
      have frame01 : ∀ x P, x < off → Carries m x P → Carries m1 x P := fun x P hx hc =>
        carries_insert_frame hts G.wf ig G.live h1 (Or.inl hx) hc
      have harith : ∀ j', off + 2 * g.2.length + 2 * (List.take j' (List.map (fun x => x.2.length) rest)).sum =
          off + 2 * (List.take (j' + 1) (g.2.length :: List.map (fun x => x.2.length) rest)).sum := by
        intro j'; rw [List.take_succ_cons, List.sum_cons]; omega
      refine ⟨w', by rw [n', n1], by rw [u', u1], fun s d hs0 => by rw [att' s d hs0]; exact hatt1 s d hs0,
        fun x P hx hc => frame' x P (by omega) (frame01 x P hx hc), ?_, ?_, ?_⟩
      · intro j gj hj v1 v2 c1 c2 i h hi
        cases j with
        | zero =>
            simp only [List.getElem?_cons_zero, Option.some.injEq] at hj
            subst hj
            simp only [List.take_zero, List.sum_nil, Nat.mul_zero, Nat.add_zero]
            have hti : (g.2.map (·.t))[i]? = some h.t := by rw [List.getElem?_map, hi]; rfl
            obtain ⟨a, b⟩ := carries_insert_new hts G.wf ig gb1 G.live h1 c1 c2 hti
            have hilt : i < g.2.length := by
              rcases Nat.lt_or_ge i g.2.length with hh | hh
              · exact hh
              · rw [List.getElem?_eq_none hh] at hi; cases hi
            exact ⟨frame' _ _ (by omega) a, fun he2 => frame' _ _ (by omega) (b he2)⟩
        | succ j' =>
            simp only [List.getElem?_cons_succ] at hj
            have hgj : gj ∈ rest := List.mem_of_getElem? hj
            have := res' j' gj hj v1 v2 (frame01 _ _ (G.keys gj (hsub gj hgj)).2.1 c1)
              (by rw [(frk gj hgj).1]; exact frame01 _ _ (G.b1_lt (hsub gj hgj)) c2) i h hi
            rw [(frk gj hgj).2, harith] at this
            exact this
      · intro y hy hyk
        rw [f2' y (by omega) (fun a ha => ⟨(hyk a (hsub a ha)).1, by rw [(frk a ha).2]; exact (hyk a (hsub a ha)).2⟩)]
        exact (fr y (hyk g List.mem_cons_self).1 (hyk g List.mem_cons_self).2 (Or.inl hy)).2
      · intro j gj hj i hi
        cases j with
        | zero =>
            simp only [List.getElem?_cons_zero, Option.some.injEq] at hj
            subst hj
            simp only [List.take_zero, List.sum_nil, Nat.mul_zero, Nat.add_zero]
            obtain ⟨a, b⟩ := insert_block_linked hts G.wf ig G.live h1 hi
            -- the later insertions leave these darts alone
            have keep : ∀ y, off ≤ y → y < off + 2 * g.2.length → m'.β 2 y = m1.β 2 y := by
              intro y h1' h2'
              refine f2' y (by omega) (fun a' ha' => ⟨?_, ?_⟩)
              · have := (G.keys a' (hsub a' ha')).2.1; omega
              · rw [(frk a' ha').2]; have := G.b2_lt (hsub a' ha'); omega
            refine ⟨inUse_congr n' u' a, fun he2 => ?_⟩
            obtain ⟨b1, b2, b3⟩ := b he2
            exact ⟨inUse_congr n' u' b1, by rw [keep _ (by omega) (by omega)]; exact b2,
              by rw [keep _ (by omega) (by omega)]; exact b3⟩
        | succ j' =>
            simp only [List.getElem?_cons_succ] at hj
            have := new' j' gj hj i hi
            rw [(frk gj (List.mem_of_getElem? hj)).2, harith] at this
            exact this

/-! ## steps 2 + 3 on a map -/

theorem placeVal_flip (v1 v2 : Val) (t : Rat) : placeVal v2 v1 (some (1 - t)) = placeVal v1 v2 (some t) := by
  simp only [placeVal, P2.place, P2.lerp, P2.toVal, Val.pt.injEq, and_true]
  constructor <;> ring

/-- two canonical darts (`edge_id(e) = e`) of a well-formed map are not β2 images of each other -/
theorem canonical_not_opposite {m : Map Val} (hwf : WF 3 m) {e e' : Nat} (he : C01.InUse m e) (he' : e' ≠ 0)
    (hc : edgeOf (m.β 2) e = e) (hc' : edgeOf (m.β 2) e' = e') : m.β 2 e ≠ e' := by
  intro h
  have h2 : m.β 2 e ≠ 0 := by rw [h]; exact he'
  have hi := hwf.invol 2 (by decide) (by decide) e he.2.1 h2
  unfold edgeOf at hc hc'
  have a : ¬ (m.β 2 e ≠ 0 ∧ m.β 2 e < e) := by
    intro hh; rw [if_pos hh] at hc; exact hi.2 hc
  have b : ¬ (m.β 2 e' ≠ 0 ∧ m.β 2 e' < e') := by
    intro hh; rw [if_pos hh] at hc'
    rw [← h, hi.1] at hc'
    exact hi.2 hc'.symm
  rw [← h, hi.1] at b
  have : ¬ (e ≠ 0 ∧ e < m.β 2 e) := b
  have := he.1
  have := hi.2
  omega

theorem mem_groupsOf {hs : List (Nat × Hit)} {keys : List Nat} {g : Nat × List Hit} (hg : g ∈ groupsOf hs keys) :
    g.1 ∈ keys ∧ g.2 = groupOf hs g.1 := by
  unfold groupsOf at hg
  obtain ⟨e, he, rfl⟩ := List.mem_map.1 hg
  exact ⟨he, rfl⟩

theorem GInv.init {m0 : Map Val} {keys : List Nat} (hs : List (Nat × Hit)) (hwf : WF 3 m0) (hk : keys.Nodup)
    (hkeys : ∀ e, e ∈ keys → C01.InUse m0 e ∧ m0.β 1 e ≠ 0 ∧ edgeOf (m0.β 2) e = e) (tot : Nat)
    (htot : tot = 2 * ((groupsOf hs keys).map (·.2.length)).sum) :
    GInv (m0.addFreeDarts tot).2 m0.n (groupsOf hs keys) := by
  have hsz := hwf.toSized
  refine ⟨hwf.addFreeDarts (by omega) tot, ?_, by rw [htot]; exact Nat.le_refl _, hsz.npos, ?_, ?_, ?_⟩
  · intro d hd hdn
    refine ⟨by rw [addFreeDarts_unused hsz, if_neg (by omega)], fun i hi => ?_⟩
    rw [addFreeDarts_β hsz tot i d hi, if_neg (by omega)]
  · intro g hg
    obtain ⟨a, b, _⟩ := hkeys g.1 (mem_groupsOf hg).1
    exact ⟨inUse_addFreeDarts hwf tot a, a.2.1, by rw [addFreeDarts_β_lt hwf tot (by decide) a.2.1]; exact b⟩
  · have : (groupsOf hs keys).map (·.1) = keys := by unfold groupsOf; rw [List.map_map]; exact List.map_id' _
    rw [this]; exact hk
  · intro g hg g' hg'
    obtain ⟨a, _, c⟩ := hkeys g.1 (mem_groupsOf hg).1
    obtain ⟨a', _, c'⟩ := hkeys g'.1 (mem_groupsOf hg').1
    rw [addFreeDarts_β_lt hwf tot (by decide) a.2.1]
    exact canonical_not_opposite hwf a a'.1 c c'

theorem stepsTwoThree_ok {m0 m3 : Map Val} {slots : List Slot} {keys res : List Nat}
    (hrun : stepsTwoThree m0 slots keys = (res, .ok (), m3)) :
    intersectionIds slots.length (groupsOf (hitsOf (m0.β 2) slots) keys)
      (slicesFrom m0.n ((groupsOf (hitsOf (m0.β 2) slots) keys).map (·.2.length))) = res ∧
    run (insertIntersections (m0.addFreeDarts (2 * ((groupsOf (hitsOf (m0.β 2) slots) keys).map (·.2.length)).sum)).2.n
        ((groupsOf (hitsOf (m0.β 2) slots) keys).zip
          (slicesFrom m0.n ((groupsOf (hitsOf (m0.β 2) slots) keys).map (·.2.length)))))
      (m0.addFreeDarts (2 * ((groupsOf (hitsOf (m0.β 2) slots) keys).map (·.2.length)).sum)).2 = (.ok (), m3) := by
  unfold stepsTwoThree at hrun
  simp only [Prod.mk.injEq] at hrun
  exact ⟨hrun.1, Prod.ext hrun.2.1 hrun.2.2⟩

/-- where the slot `K ↦ (d, t)` ends up: its edge `e = edge_id(d)` is the `j`-th key, its hit `h` the `i`-th of the sorted
    hits of `e`, and `res[K]` is the `i`-th dart of the first half of the `j`-th block when `d = e`, its mirror otherwise -/
theorem slot_position {b2 : Nat → Nat} {slots : List Slot} {keys : List Nat} (hk : keys.Nodup) {K d : Nat} {t : Rat}
    (hK : slots[K]? = some (some (d, t))) (hek : edgeOf b2 d ∈ keys) (base : Nat) :
    ∃ j i h, (groupsOf (hitsOf b2 slots) keys)[j]? = some (edgeOf b2 d, groupOf (hitsOf b2 slots) (edgeOf b2 d)) ∧
      (groupOf (hitsOf b2 slots) (edgeOf b2 d))[i]? = some h ∧ i < (groupOf (hitsOf b2 slots) (edgeOf b2 d)).length ∧
      h.dart = d ∧ h.t = (if edgeOf b2 d ≠ d then 1 - t else t) ∧
      (intersectionIds slots.length (groupsOf (hitsOf b2 slots) keys)
        (slicesFrom base ((groupsOf (hitsOf b2 slots) keys).map (·.2.length))))[K]? =
        some (if h.dart = edgeOf b2 d then base + 2 * (((groupsOf (hitsOf b2 slots) keys).map (·.2.length)).take j).sum + i
          else base + 2 * (((groupsOf (hitsOf b2 slots) keys).map (·.2.length)).take j).sum +
            ((groupOf (hitsOf b2 slots) (edgeOf b2 d)).length + ((groupOf (hitsOf b2 slots) (edgeOf b2 d)).length - 1 - i))) := by
  have hx : (edgeOf b2 d, ({ idx := K, t := if edgeOf b2 d ≠ d then 1 - t else t, dart := d } : Hit)) ∈ hitsOf b2 slots :=
    (C16_hits_slot_numbers b2 slots _).2 ⟨K, d, t, hK, rfl⟩
  obtain ⟨j, hj⟩ := List.getElem?_of_mem hek
  obtain ⟨i, hi⟩ := List.getElem?_of_mem (mem_groupOf.2 hx)
  have hilt : i < (groupOf (hitsOf b2 slots) (edgeOf b2 d)).length := by
    rcases Nat.lt_or_ge i (groupOf (hitsOf b2 slots) (edgeOf b2 d)).length with h' | h'
    · exact h'
    · rw [List.getElem?_eq_none h'] at hi; cases hi
  exact ⟨j, i, _, by unfold groupsOf; rw [List.getElem?_map, hj]; rfl, hi, hilt, rfl, rfl,
    intersection_ids_at (base := base) (hits_idx_nodup b2 slots) hk slots.length
      (fun x hx' => hits_idx_lt b2 slots hx') hx hj hi⟩

theorem opposite_ends {m : Map Val} (hwf : WF 3 m) {d : Nat} (hd : C01.InUse m d) (hb1 : m.β 1 d ≠ 0)
    (hed : edgeOf (m.β 2) d ≠ d) (ie : C01.InUse m (edgeOf (m.β 2) d)) (eb1 : m.β 1 (edgeOf (m.β 2) d) ≠ 0) :
    m.β 2 d ≠ 0 ∧ m.β 2 (edgeOf (m.β 2) d) = d ∧ m.β 1 (m.β 2 (edgeOf (m.β 2) d)) ≠ 0 ∧
    ∀ v1 v2, Carries m d v1 → Carries m (m.β 1 d) v2 →
      Carries m (edgeOf (m.β 2) d) v2 ∧ Carries m (m.β 1 (edgeOf (m.β 2) d)) v1 := by
  have heb : edgeOf (m.β 2) d = m.β 2 d ∧ m.β 2 d ≠ 0 := by
    unfold edgeOf at hed ⊢
    by_cases hc : m.β 2 d ≠ 0 ∧ m.β 2 d < d
    · rw [if_pos hc]; exact ⟨rfl, hc.1⟩
    · rw [if_neg hc] at hed; exact absurd rfl hed
  have hb2e : m.β 2 (edgeOf (m.β 2) d) = d := by rw [heb.1]; exact (hwf.invol 2 (by decide) (by decide) d hd.2.1 heb.2).1
  refine ⟨heb.2, hb2e, by rw [hb2e]; exact hb1, fun v1 v2 c1 c2 => ⟨⟨ie, ?_⟩, ⟨C01.inUse_image hwf (by omega) (by decide) ie.2.1 eb1, ?_⟩⟩⟩
  · have := cellId_b1b2 hwf ie.1 ie.2.1 (by rw [hb2e]; exact hb1)
    rw [hb2e] at this
    rw [← this]; exact c2.2
  · have := cellId_b1b2 hwf hd.1 hd.2.1 (by rw [← heb.1]; exact eb1)
    rw [← heb.1] at this
    rw [this]; exact c1.2

/-- **C16, steps 2 + 3 on the map — every written slot is a vertex**: for every iteration order `keys` of the `HashMap`
    (distinct in-use canonical darts with a successor, among them the edge of every written slot), when
    `intersection_darts` succeeds the map is well formed, every dart keeps what it carried, and the slot `K` holding
    `(d, t)` has its dart `res[K]` starting at the point at position `t` between the two end points of `d` -/
theorem C16_steps23_carries {m0 m3 : Map Val} {slots : List Slot} {keys res : List Nat} (hwf : WF 3 m0) (hk : keys.Nodup)
    (hkeys : ∀ e, e ∈ keys → C01.InUse m0 e ∧ m0.β 1 e ≠ 0 ∧ edgeOf (m0.β 2) e = e)
    (hall : ∀ (K d : Nat) (t : Rat), slots[K]? = some (some (d, t)) → edgeOf (m0.β 2) d ∈ keys)
    (hrun : stepsTwoThree m0 slots keys = (res, .ok (), m3)) :
    WF 3 m3 ∧ ((∀ d, m0.att sBd d = none) → ∀ d, m3.att sBd d = none) ∧ (∀ x P, Carries m0 x P → Carries m3 x P) ∧
    ∀ (K d : Nat) (t : Rat), slots[K]? = some (some (d, t)) → C01.InUse m0 d → m0.β 1 d ≠ 0 → ∀ v1 v2, Carries m0 d v1 →
      Carries m0 (m0.β 1 d) v2 → ∃ x, res[K]? = some x ∧ Carries m3 x (placeVal v1 v2 (some t)) := by
  obtain ⟨hres, hr⟩ := stepsTwoThree_ok hrun
  subst hres
  obtain ⟨w3, n3, _, att3, frame, resall, _, _⟩ := insertIntersections_eff _ _ m3 m0.n
    (GInv.init _ hwf hk hkeys _ rfl) hr
  refine ⟨w3, fun hnt d => by rw [att3 sBd d (by decide)]; exact addFreeDarts_att_none sBd hnt _ d,
    fun x P hc => frame x P hc.1.2.1 (carries_addFreeDarts hwf _ hc), ?_⟩
  intro K d t hK hd hb1 v1 v2 c1 c2
  obtain ⟨j, i, h, hgj, hi, _, hdart, ht, hval⟩ := slot_position hk hK (hall K d t hK) m0.n
  obtain ⟨ie, eb1, _⟩ := hkeys _ (hall K d t hK)
  refine ⟨_, hval, ?_⟩
  by_cases hed : edgeOf (m0.β 2) d = d
  · -- the identifier dart of the edge was hit
    have := (resall j _ hgj v1 v2 (by rw [hed]; exact carries_addFreeDarts hwf _ c1)
      (by rw [hed, addFreeDarts_β_lt hwf _ (by decide) hd.2.1]; exact carries_addFreeDarts hwf _ c2) i h hi).1
    rw [ht, if_neg (fun hne => hne hed)] at this
    rw [if_pos (by rw [hdart, hed])]
    exact this
  · -- the opposite dart was hit: positions run the other way
    obtain ⟨_, hb2e, _, hends⟩ := opposite_ends hwf hd hb1 hed ie eb1
    obtain ⟨ce1, ce2⟩ := hends v1 v2 c1 c2
    have := (resall j _ hgj v2 v1 (carries_addFreeDarts hwf _ ce1)
      (by rw [addFreeDarts_β_lt hwf _ (by decide) ie.2.1]; exact carries_addFreeDarts hwf _ ce2) i h hi).2
      (by rw [addFreeDarts_β_lt hwf _ (by decide) ie.2.1, hb2e]; exact hd.1)
    rw [ht, if_pos hed, placeVal_flip] at this
    rw [if_neg (by rw [hdart]; exact fun e' => hed e'.symm)]
    exact this

/-- steps 2 + 3, discrete part: the dart of every written slot of a 2-linked grid edge is in use and 2-linked -/
theorem steps23_linked {m0 m3 : Map Val} {slots : List Slot} {keys res : List Nat} (hwf : WF 3 m0) (hk : keys.Nodup)
    (hkeys : ∀ e, e ∈ keys → C01.InUse m0 e ∧ m0.β 1 e ≠ 0 ∧ edgeOf (m0.β 2) e = e)
    (hall : ∀ (K d : Nat) (t : Rat), slots[K]? = some (some (d, t)) → edgeOf (m0.β 2) d ∈ keys)
    (hrun : stepsTwoThree m0 slots keys = (res, .ok (), m3)) :
    WF 3 m3 ∧ ∀ (K d : Nat) (t : Rat), slots[K]? = some (some (d, t)) → d < m0.n → m0.β 2 d ≠ 0 →
      ∃ x, res[K]? = some x ∧ C01.InUse m3 x ∧ m3.β 2 x ≠ 0 := by
  obtain ⟨hres, hr⟩ := stepsTwoThree_ok hrun
  subst hres
  obtain ⟨w3, _, _, _, _, _, _, new3⟩ := insertIntersections_eff _ _ m3 m0.n (GInv.init _ hwf hk hkeys _ rfl) hr
  refine ⟨w3, ?_⟩
  intro K d t hK hdlt hb2
  obtain ⟨j, i, h, hgj, _, hilt, _, _, hval⟩ := slot_position hk hK (hall K d t hK) m0.n
  obtain ⟨ie, _, _⟩ := hkeys _ (hall K d t hK)
  -- the edge is 2-linked: it is `d`'s edge
  have he2 : (m0.addFreeDarts (2 * ((groupsOf (hitsOf (m0.β 2) slots) keys).map (·.2.length)).sum)).2.β 2
      (edgeOf (m0.β 2) d) ≠ 0 := by
    rw [addFreeDarts_β_lt hwf _ (by decide) ie.2.1]
    unfold edgeOf
    by_cases hc : m0.β 2 d ≠ 0 ∧ m0.β 2 d < d
    · rw [if_pos hc, (hwf.invol 2 (by decide) (by decide) d hdlt hb2).1]
      intro h0; rw [h0, hwf.null 2 (by decide)] at hb2; exact hb2 rfl
    · rw [if_neg hc]; exact hb2
  obtain ⟨a, b⟩ := new3 j _ hgj i hilt
  obtain ⟨b1, b2, b3⟩ := b he2
  refine ⟨_, hval, ?_⟩
  by_cases hd : h.dart = edgeOf (m0.β 2) d
  · rw [if_pos hd]; exact ⟨a, b2⟩
  · rw [if_neg hd]; exact ⟨b1, b3⟩

/-! ## step 5 keeps the vertices: `build_base_edge` -/

/-- a free dart is nobody's image -/
theorem free_not_image {m : Map Val} (hwf : WF 3 m) {a : Nat} (ha0 : a ≠ 0) (hfree : ∀ i, i < 3 → m.β i a = 0)
    (i : Nat) (hi : i < 3) (d : Nat) : m.β i d ≠ a := by
  intro h
  by_cases hd : d < m.n
  · have hne : m.β i d ≠ 0 := by rw [h]; exact ha0
    rcases (by omega : i = 0 ∨ i = 1 ∨ i = 2) with rfl | rfl | rfl
    · have := hwf.inv10 d hd hne
      rw [h, hfree 1 (by decide)] at this
      rw [← this, hwf.null 0 (by decide)] at h; exact ha0 h.symm
    · have := hwf.inv01 d hd hne
      rw [h, hfree 0 (by decide)] at this
      rw [← this, hwf.null 1 (by decide)] at h; exact ha0 h.symm
    · have := (hwf.invol 2 (by decide) (by decide) d hd hne).1
      rw [h, hfree 2 (by decide)] at this
      rw [← this, hwf.null 2 (by decide)] at h; exact ha0 h.symm
  · rw [hwf.β_oob (fun c => hd c.2)] at h; exact ha0 h.symm

/-- **C16, step 5 — `build_base_edge` keeps the vertices**: a dart below the two new darts starts at the same vertex
    (same identifier) as before, and the coordinate storage is untouched: it keeps what it carries -/
theorem carries_buildBaseEdge {m m' : Map Val} {start stop dNew b2dNew : Nat} (hwf : WF 3 m)
    (hs : C01.InUse m start) (he : C01.InUse m stop) (hd1 : C01.InUse m dNew) (hd2 : C01.InUse m b2dNew)
    (hf1 : ∀ i, i < 3 → m.β i dNew = 0) (hf2 : ∀ i, i < 3 → m.β i b2dNew = 0) (hne : dNew ≠ b2dNew)
    (hr : run (buildBaseEdge start stop dNew b2dNew) m = (.ok (), m'))
    {y s : Nat} {P : Val} (hya : y < dNew) (hyb : y < b2dNew) (hc : CarriesS m s y P) : CarriesS m' s y P := by
  obtain ⟨w', n', u', a', _, hb1s, hb0e, e1, e2, e3, e4, e5, e6, e7⟩ :=
    C16_buildBaseEdge_spec hwf hs he hd1 hd2 hf1 hf2 hne hr
  obtain ⟨⟨y0, ylt, yu⟩, hat⟩ := hc
  set p := m.β 1 start with hp
  set q := m.β 0 stop with hq
  have na := free_not_image hwf hd1.1 hf1
  have nb := free_not_image hwf hd2.1 hf2
  have hq1 : m.β 1 q = stop := hwf.inv10 stop he.2.1 hb0e
  have sa : start ≠ dNew := fun e => hb1s (by rw [hp, e]; exact hf1 1 (by decide))
  have sb : start ≠ b2dNew := fun e => hb1s (by rw [hp, e]; exact hf2 1 (by decide))
  have qa : q ≠ dNew := na 0 (by decide) stop
  have qb : q ≠ b2dNew := nb 0 (by decide) stop
  have z3 := CellCalc.β3_zero hwf
  have z3' := CellCalc.β3_zero w'
  -- the ties of the two maps, column by column: only the columns of `start`, `q` and the two new darts differ
  have col : ∀ z, z ≠ start → z ≠ q → z ≠ dNew → z ≠ b2dNew → vties m'.β z = vties m.β z := fun z h1 h2 h3 h4 => by
    unfold vties
    rw [e6 z h1 h2 h3 h4, e5, if_neg h3, if_neg h4, z3, z3']
  have cs : vties m'.β start = [dNew, m.β 2 start, 0] := by
    unfold vties
    rw [e1, e5, if_neg sa, if_neg sb, z3']
  have cq : vties m'.β q = [b2dNew, m.β 2 q, 0] := by
    unfold vties
    rw [e3, e5, if_neg qa, if_neg qb, z3']
  have ca : vties m'.β dNew = [stop, b2dNew, 0] := by
    unfold vties
    rw [e2, e5, if_pos rfl, z3']
  have cb : vties m'.β b2dNew = [p, dNew, 0] := by
    unfold vties
    rw [e4, e5, if_neg hne.symm, if_pos rfl, z3']
  have os : vties m.β start = [p, m.β 2 start, 0] := by
    unfold vties
    rw [z3]
  have oq : vties m.β q = [stop, m.β 2 q, 0] := by
    unfold vties
    rw [hq1, z3]
  have oa : vties m.β dNew = [0, 0, 0] := by
    unfold vties
    rw [hf1 1 (by decide), hf1 2 (by decide), z3]
  have ob : vties m.β b2dNew = [0, 0, 0] := by
    unfold vties
    rw [hf2 1 (by decide), hf2 2 (by decide), z3]
  -- an image in `m` is not one of the two new darts
  have old1 : ∀ z, m.β 1 z ≠ dNew ∧ m.β 1 z ≠ b2dNew := fun z => ⟨na 1 (by decide) z, nb 1 (by decide) z⟩
  have old2 : ∀ z, m.β 2 z ≠ dNew ∧ m.β 2 z ≠ b2dNew := fun z => ⟨na 2 (by decide) z, nb 2 (by decide) z⟩
  -- the first new dart is spliced into the vertex of `p`, the second into the vertex of `stop`
  let π : Nat → Nat := fun x => if x = dNew then p else if x = b2dNew then stop else x
  have πa : π dNew = p := if_pos rfl
  have πb : π b2dNew = stop := by
    show (if b2dNew = dNew then p else if b2dNew = b2dNew then stop else b2dNew) = stop
    rw [if_neg hne.symm, if_pos rfl]
  have πo : ∀ x, x ≠ dNew → x ≠ b2dNew → π x = x := fun x h1 h2 => by
    show (if x = dNew then p else if x = b2dNew then stop else x) = x
    rw [if_neg h1, if_neg h2]
  have tie_s : ∀ w, w = p ∨ w = m.β 2 start → w ≠ 0 → Conn (Tie vties m.β) w p := fun w hw w0 =>
    .step ⟨start, by rw [os, mem3]; rcases hw with k | k <;> simp [k], by rw [os, mem3]; simp, w0, hb1s⟩
  have tie_q : ∀ w, w = stop ∨ w = m.β 2 q → w ≠ 0 → Conn (Tie vties m.β) w stop := fun w hw w0 =>
    .step ⟨q, by rw [oq, mem3]; rcases hw with k | k <;> simp [k], by rw [oq, mem3]; simp, w0, he.1⟩
  -- (i) a tie of the new map, seen through `π`, connects in the old map
  have fwd : ∀ u v, Tie vties m'.β u v → Conn (Tie vties m.β) (π u) (π v) := by
    rintro u v ⟨z, hu, hv, u0, v0⟩
    -- every non-null member of a changed column projects into the class of one dart `c`
    have centre : ∀ c, (∀ w, w ∈ vties m'.β z → w ≠ 0 → Conn (Tie vties m.β) (π w) c) →
        Conn (Tie vties m.β) (π u) (π v) := fun c k => (k u hu u0).trans (k v hv v0).symm
    by_cases h1 : z = start
    · refine centre p fun w hw w0 => ?_
      rw [h1, cs, mem3] at hw
      rcases hw with k | k | k
      · rw [k, πa]; exact .refl _
      · rw [k, πo _ (old2 start).1 (old2 start).2]; exact tie_s _ (Or.inr rfl) (k ▸ w0)
      · exact absurd k w0
    by_cases h2 : z = q
    · refine centre stop fun w hw w0 => ?_
      rw [h2, cq, mem3] at hw
      rcases hw with k | k | k
      · rw [k, πb]; exact .refl _
      · rw [k, πo _ (old2 q).1 (old2 q).2]; exact tie_q _ (Or.inr rfl) (k ▸ w0)
      · exact absurd k w0
    by_cases h3 : z = dNew
    · refine centre stop fun w hw w0 => ?_
      rw [h3, ca, mem3] at hw
      rcases hw with k | k | k
      · rw [k, πo _ (fun e => (old1 q).1 (hq1.trans e)) (fun e => (old1 q).2 (hq1.trans e))]; exact .refl _
      · rw [k, πb]; exact .refl _
      · exact absurd k w0
    by_cases h4 : z = b2dNew
    · refine centre p fun w hw w0 => ?_
      rw [h4, cb, mem3] at hw
      rcases hw with k | k | k
      · rw [k, πo _ (old1 start).1 (old1 start).2]; exact .refl _
      · rw [k, πa]; exact .refl _
      · exact absurd k w0
    · rw [col z h1 h2 h3 h4] at hu hv
      have old : ∀ w, w ∈ vties m.β z → w ≠ 0 → π w = w := fun w hw w0 => by
        rw [mem_vties, z3] at hw
        rcases hw with k | k | k
        · rw [k]; exact πo _ (old1 z).1 (old1 z).2
        · rw [k]; exact πo _ (old2 z).1 (old2 z).2
        · exact absurd k w0
      rw [old u hu u0, old v hv v0]
      exact .step ⟨z, hu, hv, u0, v0⟩
  -- (ii) a tie of the old map still connects
  have bwd : ∀ u v, Tie vties m.β u v → Conn (Tie vties m'.β) u v := by
    rintro u v ⟨z, hu, hv, u0, v0⟩
    have centre : ∀ c, (∀ w, w ∈ vties m.β z → w ≠ 0 → Conn (Tie vties m'.β) w c) → Conn (Tie vties m'.β) u v :=
      fun c k => (k u hu u0).trans (k v hv v0).symm
    by_cases h1 : z = start
    · refine centre dNew fun w hw w0 => ?_
      rw [h1, os, mem3] at hw
      rcases hw with k | k | k
      · exact .step ⟨b2dNew, by rw [cb, mem3]; simp [k], by rw [cb, mem3]; simp, w0, hd1.1⟩
      · exact .step ⟨start, by rw [cs, mem3]; simp [k], by rw [cs, mem3]; simp, w0, hd1.1⟩
      · exact absurd k w0
    by_cases h2 : z = q
    · refine centre b2dNew fun w hw w0 => ?_
      rw [h2, oq, mem3] at hw
      rcases hw with k | k | k
      · exact .step ⟨dNew, by rw [ca, mem3]; simp [k], by rw [ca, mem3]; simp, w0, hd2.1⟩
      · exact .step ⟨q, by rw [cq, mem3]; simp [k], by rw [cq, mem3]; simp, w0, hd2.1⟩
      · exact absurd k w0
    by_cases h3 : z = dNew
    · rw [h3, oa, mem3] at hu
      exact absurd (by rcases hu with k | k | k <;> exact k) u0
    by_cases h4 : z = b2dNew
    · rw [h4, ob, mem3] at hu
      exact absurd (by rcases hu with k | k | k <;> exact k) u0
    · rw [← col z h1 h2 h3 h4] at hu hv
      exact .step ⟨z, hu, hv, u0, v0⟩
  have ylt' : y < m'.n := by rw [n']; exact ylt
  have hid : C03.cellId m' .vertex y = C03.cellId m .vertex y := by
    refine cellId_of_ties hwf w' y0 ylt ylt' (fun x k => Conn.mono bwd k) fun x k => ?_
    have := conn_map π fwd k
    rw [πo y (by omega) (by omega)] at this
    by_cases h1 : x = dNew
    · exact Or.inr (by omega)
    by_cases h2 : x = b2dNew
    · exact Or.inr (by omega)
    · rw [πo x h1 h2] at this
      exact Or.inl this
  exact ⟨⟨y0, ylt', by unfold Map.unused; rw [u']; exact yu⟩, by rw [hid, a']; exact hat⟩

/-! ## step 5 keeps the vertices: one iteration, the whole loop -/

theorem cellId_congr_b {m m' : Map Val} (hb : m'.b = m.b) (hn : m'.n = m.n) (pol : Policy) (d : Nat) :
    C03.cellId m' pol d = C03.cellId m pol d := by
  have hβ : m'.β = m.β := by funext i x; unfold Map.β; rw [hb]
  have hg : C03.g2 m' pol = C03.g2 m pol := by
    funext x; cases pol <;> simp only [C03.g2, hβ]
  unfold C03.cellId C03.orb
  rw [hg, hn]

/-- **C16, step 5 — one iteration keeps the vertices below its block**: a dart below `next` keeps its vertex identifier and
    the value of that slot in every storage but `Boundary` (coordinates, anchors) -/
theorem carriesS_insertOneEdge {m m' : Map Val} {next i : Nat} {ha : Bool} {e : MEdge} (I : EInv m next)
    (hs : C01.InUse m e.start) (he : C01.InUse m e.stop) (hroom : next + (2 + 2 * e.inter.length) ≤ m.n)
    (hr : run (insertOneEdge m.n ha i e (List.range' next (2 + 2 * e.inter.length))) m = (.ok (), m'))
    {s y : Nat} {P : Val} (hs9 : s ≠ sBd) (hy : y < next) (hc : CarriesS m s y P) : CarriesS m' s y P := by
  obtain ⟨m1, m3, h1, hmid, hmark⟩ := (insertOneEdge_phases I hs he hroom).1 hr
  have B := I.baseEdge hs he (by omega) h1
  obtain ⟨_, f0, _⟩ := I.fresh next (Nat.le_refl _) (by omega)
  obtain ⟨_, f1, _⟩ := I.fresh (next + 1) (by omega) (by omega)
  have c1 : CarriesS m1 s y P := carries_buildBaseEdge I.wf hs he (I.inUse (Nat.le_refl _) (by omega))
    (I.inUse (by omega) (by omega)) f0 f1 (by omega) h1 hy (by omega) hc
  obtain ⟨mn, mb, mu, _, _⟩ := AttrOnly.run_ok (attrOnly_markBoundary _ _ _) hmark
  have matt := markBoundary_frame _ _ _ _ _ hmark
  -- it is enough to reach the map before `mark_boundary`
  suffices c3 : CarriesS m3 s y P by
    refine ⟨inUse_congr mn mu c3.1, ?_⟩
    rw [cellId_congr_b mb mn, matt s _ hs9]; exact c3.2
  rcases hmid with ⟨_, rfl⟩ | ⟨hne, m2, h2, h3⟩
  · exact c1
  · have hk : 0 < e.inter.length := List.length_pos_iff.2 hne
    have E := B.insert I hk hroom (List.length_map _) h2
    have hlive : ∀ d, d ∈ List.range' (next + 2) (2 * e.inter.length) → m1.unused d = false := by
      intro d hd
      have := List.mem_range'_1.1 hd
      unfold Map.unused; rw [B.u]
      exact (I.fresh d (by omega) (by omega)).1
    have c2 : CarriesS m2 s y P := carries_insert_frame (List.length_map _) B.wf
      (inUse_congr B.n B.u (I.inUse (Nat.le_refl _) (by omega))) hlive h2 (Or.inl (by omega)) c1
    obtain ⟨hch, _⟩ := E.hyp.res.side1
    have hwalk : walkB1 m2 (m2.β 1 next) e.inter.length = List.range' (next + 2) e.inter.length := by
      have := walk_of_chain _ next hch
      rwa [List.length_range'] at this
    have hfr := replaceInter_frame m.n ha i _ _ m2 m3 h3
    rw [hwalk] at hfr
    have st3 := AttrOnly.run_ok (attrOnly_replaceInter m.n ha i _ _) h3
    have hb3 := st3.b
    obtain ⟨⟨y0, ylt2, yu2⟩, hat2⟩ := c2
    refine ⟨inUse_congr st3.n st3.u ⟨y0, ylt2, yu2⟩, ?_⟩
    rw [cellId_congr_b hb3 st3.n, hfr s _ (Or.inr ?_)]
    · exact hat2
    -- the vertex of an intermediate dart contains new darts only
    intro x hx hrun
    have hxr := List.mem_range'_1.1 hx
    have hx0 : x ≠ 0 := by omega
    have hxlt : x < m2.n := by rw [E.n]; omega
    have hvid := (C03.C03_vertexId2_min E.hyp.wf' hx0 hxlt).1
    rw [E.n] at hvid
    rw [hvid] at hrun
    simp only [Out.ok.injEq] at hrun
    have b2n : m1.β 2 next = next + 1 := by rw [B.b2, if_pos rfl]
    exact E.old_not_reached b2n hx hy y0
      (((C03.C03_same_id_iff_same_cell E.hyp.wf' (pol := .vertex) trivial hx0 hxlt y0 ylt2).1).1 hrun)

/-- **C16 / C17, step 5 — the whole loop keeps the vertices and creates those of the points of interest**: every dart
    below the first block keeps its vertex and the values of its slot (coordinates, anchors); the `q`-th point of interest
    of the `j`-th edge is the coordinate of a vertex of the result, anchored — with the anchor storages — `Node(i + j)` -/
theorem insertEdgesFrom_carries (ha : Bool) : ∀ (edges : List MEdge) (m m' : Map Val) (next i : Nat), EInv m next →
    (∀ e, e ∈ edges → C01.InUse m e.start ∧ C01.InUse m e.stop) →
    next + (edges.map fun e => 2 + 2 * e.inter.length).sum ≤ m.n →
    run (insertEdgesFrom m.n ha i (edges.zip (edgeSlices next edges))) m = (.ok (), m') →
    (∀ s y P, s ≠ sBd → y < next → CarriesS m s y P → CarriesS m' s y P) ∧
    (∀ (j : Nat) (e : MEdge), edges[j]? = some e → ∀ (q : Nat) (pt : Pt), e.inter[q]? = some pt →
      ∃ x, CarriesS m' 0 x (.pt pt.1 pt.2 0) ∧ (ha = true → CarriesS m' sVA x (.tm (.leaf (4 * (i + j)))))) := by
  intro edges
  induction edges with
  | nil =>
      intro m m' next i I _ _ h
      simp only [edgeSlices, List.zip_nil_right, insertEdgesFrom, Prog.pure_eq, run_ret, Prod.mk.injEq] at h
      rw [← h.2]
      exact ⟨fun _ _ _ _ _ hc => hc, fun j e he => by simp at he⟩
  | cons e es ih =>
      intro m m' next i I hio hroom h
      simp only [edgeSlices, List.zip_cons_cons, insertEdgesFrom, Prog.bind_eq] at h
      obtain ⟨_, m1, h1, h2⟩ := run_bind_ok h
      simp only [List.map_cons, List.sum_cons] at hroom
      obtain ⟨hs, he⟩ := hio e List.mem_cons_self
      obtain ⟨I1, n1, u1⟩ := C16_insertOneEdge_inv I hs he (by omega) h1
      rw [← n1] at h2
      have hio' : ∀ e', e' ∈ es → C01.InUse m1 e'.start ∧ C01.InUse m1 e'.stop := fun e' he' =>
        ⟨inUse_congr n1 u1 (hio e' (List.mem_cons_of_mem _ he')).1, inUse_congr n1 u1 (hio e' (List.mem_cons_of_mem _ he')).2⟩
      obtain ⟨frame', pois'⟩ := ih m1 m' _ (i + 1) I1 hio' (by rw [n1]; omega) h2
      refine ⟨fun s y P hs9 hy hc => frame' s y P hs9 (by omega) (carriesS_insertOneEdge I hs he (by omega) h1 hs9 hy hc), ?_⟩
      intro j ej hj q pt hq
      cases j with
      | zero =>
          simp only [List.getElem?_cons_zero, Option.some.injEq] at hj
          subst hj
          obtain ⟨_, _, _, hpt, _⟩ := C16_insertOneEdge_shape I hs he (by omega) h1
          have hqlt : q < e.inter.length := by
            rcases Nat.lt_or_ge q e.inter.length with hh | hh
            · exact hh
            · rw [List.getElem?_eq_none hh] at hq; cases hq
          have hx0 : next + 2 + q ≠ 0 := by omega
          have hxlt : next + 2 + q < m1.n := by rw [n1]; omega
          have iu : C01.InUse m1 (next + 2 + q) :=
            ⟨hx0, hxlt, by unfold Map.unused; rw [u1]; exact (I.fresh _ (by omega) (by omega)).1⟩
          have hrun := (C03.C03_vertexId2_min I1.wf hx0 hxlt).1
          rw [n1] at hrun
          obtain ⟨p0, pa⟩ := hpt q pt hq _ (by rw [hrun])
          refine ⟨next + 2 + q, frame' 0 _ _ (by decide) (by omega) ⟨iu, p0⟩, fun hat => ?_⟩
          rw [Nat.add_zero]
          exact frame' sVA _ _ (by decide) (by omega) ⟨iu, pa hat⟩
      | succ j' =>
          simp only [List.getElem?_cons_succ] at hj
          obtain ⟨x, c0, ca⟩ := pois' j' ej hj q pt hq
          exact ⟨x, c0, fun hat => by have := ca hat; rwa [show i + 1 + j' = i + (j' + 1) by omega] at this⟩

/-- **C16 / C17, step 5 on a map** (`insert_edges_in_map` from an untagged well-formed map): every dart keeps its vertex
    and what its slot holds (coordinates, anchors); every intermediate point of every edge is the coordinate of a vertex,
    anchored `Node(index of the edge)` when the map has the anchor storages -/
theorem C16_stepFive_carries {m m' : Map Val} {ha : Bool} {edges : List MEdge} (hwf : WF 3 m)
    (hnotag : ∀ d, m.att sBd d = none)
    (hio : ∀ e, e ∈ edges → C01.InUse m e.start ∧ C01.InUse m e.stop)
    (hr : stepFive m ha edges = (.ok (), m')) :
    (∀ s y P, s ≠ sBd → CarriesS m s y P → CarriesS m' s y P) ∧
    (∀ (j : Nat) (e : MEdge), edges[j]? = some e → ∀ (q : Nat) (pt : Pt), e.inter[q]? = some pt →
      ∃ x, CarriesS m' 0 x (.pt pt.1 pt.2 0) ∧ (ha = true → CarriesS m' sVA x (.tm (.leaf (4 * j))))) := by
  unfold stepFive at hr
  simp only at hr
  have hfst : ∀ k, (m.addFreeDarts k).1 = m.n := fun _ => rfl
  rw [hfst] at hr
  obtain ⟨frame, pois⟩ := insertEdgesFrom_carries ha edges _ m' m.n 0 (EInv.init hwf hnotag _)
    (fun e he => ⟨inUse_addFreeDarts hwf _ (hio e he).1, inUse_addFreeDarts hwf _ (hio e he).2⟩) (Nat.le_refl _) hr
  refine ⟨fun s y P hs9 hc => frame s y P hs9 hc.1.2.1 (carriesS_addFreeDarts hwf _ hc), fun j e hj q pt hq => ?_⟩
  obtain ⟨x, c0, ca⟩ := pois j e hj q pt hq
  exact ⟨x, c0, fun hat => by have := ca hat; rwa [Nat.zero_add] at this⟩

/-! ## in general position every vertex of `new_segments` is a geometry vertex or a written slot -/

/-- a geometry vertex, or an intersection whose identifier is a slot number below `N`; no corner -/
def GVok (N : Nat) : GV → Prop
  | .regular _ => True
  | .poi _ => True
  | .intersec i => i < N
  | .corner _ => False

theorem GVok.mono {N N' : Nat} (h : N ≤ N') : ∀ {v : GV}, GVok N v → GVok N' v
  | .regular _, _ => trivial
  | .poi _, _ => trivial
  | .intersec _, hv => Nat.lt_of_lt_of_le hv h
  | .corner _, hv => hv

theorem mem_pairsOf {α : Type} : ∀ {l : List α} {p : α × α}, p ∈ pairsOf l → p.1 ∈ l ∧ p.2 ∈ l
  | [], _, h => by simp [pairsOf] at h
  | [_], _, h => by simp [pairsOf] at h
  | a :: b :: rest, p, h => by
      simp only [pairsOf, List.mem_cons] at h
      rcases h with rfl | h
      · exact ⟨by simp, by simp⟩
      · have := mem_pairsOf (l := b :: rest) h
        exact ⟨List.mem_cons_of_mem _ this.1, List.mem_cons_of_mem _ this.2⟩

theorem segDist_eq (g : GGrid) (a b : Pt) : segDist g a b =
    (((gridCellOf g b).1 : Int) - ((gridCellOf g a).1 : Int)).natAbs + (((gridCellOf g b).2 : Int) - ((gridCellOf g a).2 : Int)).natAbs := rfl

theorem chainOf_gvok {g : GGrid} {eps : Rat} {poi : List Nat} {verts : List Pt} {start : Nat} {seg : Nat × Nat}
    (H : GenPos g eps (verts.getD seg.1 (0, 0)) (verts.getD seg.2 (0, 0))) :
    ∀ v, v ∈ chainOf g eps poi verts start seg →
      GVok (start + segDist g (verts.getD seg.1 (0, 0)) (verts.getD seg.2 (0, 0))) v := by
  intro v hv
  have hcount := C16_crossings_count H
  rw [← segDist_eq] at hcount
  unfold chainOf at hv
  simp only [List.mem_cons, List.mem_append, List.mem_map, List.not_mem_nil, or_false] at hv
  have hmk : ∀ x, GVok (start + segDist g (verts.getD seg.1 (0, 0)) (verts.getD seg.2 (0, 0))) (mkGV poi x) := by
    intro x; unfold mkGV; split <;> trivial
  rcases hv with rfl | ⟨x, hx, rfl⟩ | rfl
  · exact hmk _
  · obtain ⟨c, p⟩ := x
    have hp := List.mem_zipIdx_iff_getElem?.1 hx
    have hplt : p < (crossingsOf g eps (verts.getD seg.1 (0, 0)) (verts.getD seg.2 (0, 0))).length := by
      rcases Nat.lt_or_ge p (crossingsOf g eps (verts.getD seg.1 (0, 0)) (verts.getD seg.2 (0, 0))).length with h | h
      · exact h
      · rw [List.getElem?_eq_none h] at hp; cases hp
    have hc : c ∈ crossingsOf g eps (verts.getD seg.1 (0, 0)) (verts.getD seg.2 (0, 0)) := List.mem_of_getElem? hp
    have ht := (C16_crossings_sound H hc).2.2.1
    simp only
    rw [if_neg (fun hh => by rw [hh.2.2] at ht; exact lt_irrefl _ ht)]
    show _ < _
    rw [hcount] at hplt ⊢
    split <;> omega
  · exact hmk _

theorem segmentsFrom_gvok {g : GGrid} {eps : Rat} {poi : List Nat} {verts : List Pt} : ∀ (segs : List (Nat × Nat)) (start : Nat),
    (∀ seg, seg ∈ segs → GenPos g eps (verts.getD seg.1 (0, 0)) (verts.getD seg.2 (0, 0))) →
    ∀ p, p ∈ segmentsFrom g eps poi verts start segs →
      GVok (start + (segs.map fun seg => segDist g (verts.getD seg.1 (0, 0)) (verts.getD seg.2 (0, 0))).sum) p.1 ∧
      GVok (start + (segs.map fun seg => segDist g (verts.getD seg.1 (0, 0)) (verts.getD seg.2 (0, 0))).sum) p.2
  | [], _, _, p, hp => by simp [segmentsFrom] at hp
  | seg :: rest, start, hgen, p, hp => by
      simp only [segmentsFrom, List.mem_append] at hp
      simp only [List.map_cons, List.sum_cons]
      rcases hp with hp | hp
      · obtain ⟨a, b⟩ := mem_pairsOf hp
        have H := hgen seg List.mem_cons_self
        exact ⟨GVok.mono (by omega) (chainOf_gvok H _ a), GVok.mono (by omega) (chainOf_gvok H _ b)⟩
      · have := segmentsFrom_gvok rest _ (fun s hs => hgen s (List.mem_cons_of_mem _ hs)) p hp
        rw [Nat.add_assoc] at this
        exact this

theorem slotsAll_length {g : GGrid} {eps : Rat} {verts : List Pt} : ∀ (segs : List (Nat × Nat)),
    (∀ seg, seg ∈ segs → GenPos g eps (verts.getD seg.1 (0, 0)) (verts.getD seg.2 (0, 0))) →
    (slotsAll g eps verts segs).length =
      (segs.map fun seg => segDist g (verts.getD seg.1 (0, 0)) (verts.getD seg.2 (0, 0))).sum ∧
    ∀ sl, sl ∈ slotsAll g eps verts segs → sl ≠ none
  | [], _ => by simp [slotsAll]
  | seg :: rest, hgen => by
      have H := hgen seg List.mem_cons_self
      obtain ⟨ih1, ih2⟩ := slotsAll_length rest (fun s hs => hgen s (List.mem_cons_of_mem _ hs))
      have hs := C16_slots_genpos H
      have hl : (slotsOf g eps (verts.getD seg.1 (0, 0)) (verts.getD seg.2 (0, 0))).length =
          segDist g (verts.getD seg.1 (0, 0)) (verts.getD seg.2 (0, 0)) := by
        rw [hs, List.length_map, (C16_metadata_spec H).2.2, segDist_eq]
      unfold slotsAll at ih1 ih2 ⊢
      simp only [List.flatMap_cons, List.length_append, List.map_cons, List.sum_cons, List.mem_append]
      refine ⟨by rw [hl, ih1], ?_⟩
      rintro sl (h | h)
      · rw [hs] at h
        obtain ⟨c, _, rfl⟩ := List.mem_map.1 h
        simp
      · exact ih2 sl h

theorem segNext_mem {segs : List (GV × GV)} {k v : GV} (h : segNext segs k = some v) : (k, v) ∈ segs := by
  unfold segNext at h
  cases hf : segs.reverse.find? (fun p => decide (p.1 = k)) with
  | none => rw [hf] at h; cases h
  | some p =>
      rw [hf] at h
      simp only [Option.map_some, Option.some.injEq] at h
      have hm := List.mem_of_find?_eq_some hf
      have hp := List.find?_some hf
      have : p.1 = k := by simpa using hp
      have : p = (k, v) := Prod.ext this h
      rw [← this]; exact List.mem_reverse.1 hm

theorem path_end_gvok {segs : List (GV × GV)} {N : Nat} (hok : ∀ p, p ∈ segs → GVok N p.2) {v e : GV} {l : List GV}
    (hp : Path segs v l e) (hv : GVok N v) : GVok N e ∧ e.isCross = true := by
  induction hp with
  | stop h => exact ⟨hv, h⟩
  | step _ hn _ ih => exact ih (hok _ (segNext_mem hn))

/-! ## the chain -/

/-- steps 1-5 of the modelled pipeline on the grid map `m0`, for the iteration orders `keys2` (edges of step 2) and
    `keys4` (keys of step 4) of the two `HashMap`s: `some` of the resulting map when every step succeeds -/
def pipelineMap (m0 : Map Val) (g : GGrid) (eps : Rat) (poi : List Nat) (verts : List Pt) (segs : List (Nat × Nat))
    (ha : Bool) (keys2 : List Nat) (keys4 : List GV) : Option (Map Val) :=
  match stepsTwoThree m0 (slotsAll g eps verts segs) keys2 with
  | (res, .ok _, m3) =>
      match edgeData (m3.β 1) (m3.β 2) verts (segmentsOf g eps poi verts segs) res keys4 with
      | .ok edges =>
          match stepFive m3 ha edges with
          | (.ok _, m') => some m'
          | _ => none
      | _ => none
  | _ => none

/-- the data of a successful run -/
theorem pipelineMap_some {m0 m' : Map Val} {g : GGrid} {eps : Rat} {poi : List Nat} {verts : List Pt}
    {segs : List (Nat × Nat)} {ha : Bool} {keys2 : List Nat} {keys4 : List GV}
    (h : pipelineMap m0 g eps poi verts segs ha keys2 keys4 = some m') :
    ∃ res m3 edges, stepsTwoThree m0 (slotsAll g eps verts segs) keys2 = (res, .ok (), m3) ∧
      edgeData (m3.β 1) (m3.β 2) verts (segmentsOf g eps poi verts segs) res keys4 = .ok edges ∧
      stepFive m3 ha edges = (.ok (), m') := by
  unfold pipelineMap at h
  split at h
  · rename_i res u m3 h23
    split at h
    · rename_i edges h4
      split at h
      · rename_i u5 m5 h5
        simp only [Option.some.injEq] at h
        subst h
        exact ⟨res, m3, edges, h23, h4, h5⟩
      · cases h
    · cases h
  · cases h

/-- hypothesis **SideCoords**: where the boundary crosses it, the grid map has the side the kernel computed: the dart of
    every crossing is in use, has a successor, and the point at position `t` between the coordinates of its two end points
    is the crossing point.  (On the grid `build_2d_grid` returns this is `C16_crossings_sound` — `segPoint a b s =
    sidePoint g x y k t` — plus the corner coordinates of the builder; evaluated on every case by the hook-level oracle of
    the `gids` tie: `position`.) -/
def SideCoords (m0 : Map Val) (g : GGrid) (eps : Rat) (verts : List Pt) (segs : List (Nat × Nat)) : Prop :=
  ∀ seg, seg ∈ segs → ∀ c, c ∈ crossingsOf g eps (verts.getD seg.1 (0, 0)) (verts.getD seg.2 (0, 0)) →
    C01.InUse m0 c.dart ∧ m0.β 1 c.dart ≠ 0 ∧ ∃ v1 v2, Carries m0 c.dart v1 ∧ Carries m0 (m0.β 1 c.dart) v2 ∧
      placeVal v1 v2 (some c.t) =
        .pt (segPoint (verts.getD seg.1 (0, 0)) (verts.getD seg.2 (0, 0)) c.s).1
            (segPoint (verts.getD seg.1 (0, 0)) (verts.getD seg.2 (0, 0)) c.s).2 0

/-- hypothesis **KeysOK**: the iteration order of the `HashMap` of step 2 lists distinct in-use identifier darts
    (`edge_id(e) = e`) with a successor, among them the edge of every written slot -/
def KeysOK (m0 : Map Val) (slots : List Slot) (keys2 : List Nat) : Prop :=
  keys2.Nodup ∧ (∀ e, e ∈ keys2 → C01.InUse m0 e ∧ m0.β 1 e ≠ 0 ∧ edgeOf (m0.β 2) e = e) ∧
  ∀ (K d : Nat) (t : Rat), slots[K]? = some (some (d, t)) → edgeOf (m0.β 2) d ∈ keys2

/-- hypothesis **EdgeDartsInUse**: the start and end darts step 4 hands to step 5 are darts in use of the map after step 3
    (they are `β2(res[i])` / `res[j]`, darts of the vertices of step 3; a null start dart makes `build_base_edge` panic) -/
def EdgeDartsInUse (m3 : Map Val) (edges : List MEdge) : Prop :=
  ∀ e, e ∈ edges → C01.InUse m3 e.start ∧ C01.InUse m3 e.stop

/-- **C16 — `EdgeDartsInUse` is a consequence of the earlier steps**: in general position, with the crossed grid edges
    2-linked and the keys of step 4 intersections (what `generate_edge_data` filters), the start and end darts of every
    edge of step 4 are darts in use of the map after step 3: the end dart is the dart of a written slot, the start dart the
    β2 image of one -/
theorem C16_edge_darts_in_use {m0 m3 : Map Val} {g : GGrid} {eps : Rat} {poi : List Nat} {verts : List Pt}
    {segs : List (Nat × Nat)} {keys2 res : List Nat} {keys4 : List GV} {edges : List MEdge} (hwf : WF 3 m0)
    (hgen : ∀ seg, seg ∈ segs → GenPos g eps (verts.getD seg.1 (0, 0)) (verts.getD seg.2 (0, 0)))
    (hkeys : KeysOK m0 (slotsAll g eps verts segs) keys2)
    (hint : ∀ (K d : Nat) (t : Rat), (slotsAll g eps verts segs)[K]? = some (some (d, t)) → d < m0.n ∧ m0.β 2 d ≠ 0)
    (hk4 : ∀ k, k ∈ keys4 → k.isCross = true)
    (h23 : stepsTwoThree m0 (slotsAll g eps verts segs) keys2 = (res, .ok (), m3))
    (h4 : edgeData (m3.β 1) (m3.β 2) verts (segmentsOf g eps poi verts segs) res keys4 = .ok edges) :
    EdgeDartsInUse m3 edges := by
  obtain ⟨w3, hlink⟩ := steps23_linked hwf hkeys.1 hkeys.2.1 hkeys.2.2 h23
  obtain ⟨hlen, hnone⟩ := slotsAll_length (g := g) (eps := eps) (verts := verts) segs hgen
  have hok0 := fun p hp => segmentsFrom_gvok (g := g) (eps := eps) (poi := poi) (verts := verts) segs 0 hgen p hp
  simp only [Nat.zero_add] at hok0
  set N := (segs.map fun seg => segDist g (verts.getD seg.1 (0, 0)) (verts.getD seg.2 (0, 0))).sum with hN
  have hok : ∀ p, p ∈ segmentsOf g eps poi verts segs → GVok N p.1 ∧ GVok N p.2 := fun p hp => hok0 p hp
  have hslot : ∀ i, i < N → ∃ x, res.getD i 0 = x ∧ C01.InUse m3 x ∧ m3.β 2 x ≠ 0 := by
    intro i hi
    have hilt : i < (slotsAll g eps verts segs).length := by rw [hlen]; exact hi
    cases hsl : (slotsAll g eps verts segs)[i]? with
    | none => rw [List.getElem?_eq_none_iff] at hsl; omega
    | some sl =>
        cases sl with
        | none => exact absurd rfl (hnone none (List.mem_of_getElem? hsl))
        | some dt =>
            obtain ⟨x, hx, a, b⟩ := hlink i dt.1 dt.2 hsl (hint i dt.1 dt.2 hsl).1 (hint i dt.1 dt.2 hsl).2
            exact ⟨x, by rw [List.getD_eq_getElem?_getD, hx]; rfl, a, b⟩
  intro e he
  have hf := (edgeData_ok keys4 edges).1 h4
  have : ∃ k, k ∈ keys4 ∧ edgeOfKey (m3.β 1) (m3.β 2) verts (segmentsOf g eps poi verts segs) res k = .ok e := by
    clear h4
    induction hf with
    | nil => cases he
    | @cons k e' ks es h1 _ ih =>
        rcases List.mem_cons.1 he with rfl | he'
        · exact ⟨k, List.mem_cons_self, h1⟩
        · obtain ⟨k', a, b⟩ := ih (fun k hk => hk4 k (List.mem_cons_of_mem _ hk)) he'
          exact ⟨k', List.mem_cons_of_mem _ a, b⟩
  obtain ⟨k, hk, hkey⟩ := this
  obtain ⟨v, l, en, hn, hp, _, hed⟩ := (C16_edge_of_key_spec _ _ _ _ _ _ _).1 hkey
  have hkv := segNext_mem hn
  have hkok := (hok _ hkv).1
  have hvok := (hok _ hkv).2
  obtain ⟨henok, hencross⟩ := path_end_gvok (N := N) (fun p hp' => (hok p hp').2) hp hvok
  have hkc := hk4 k hk
  rw [hed]
  constructor
  · -- start dart: the β2 image of the dart of the start intersection
    cases k with
    | intersec i =>
        obtain ⟨x, hx, a, b⟩ := hslot i hkok
        show C01.InUse m3 (m3.β 2 (res.getD i 0))
        rw [hx]; exact C01.inUse_image w3 (by omega) (by decide) a.2.1 b
    | corner d => exact absurd hkok (by simp [GVok])
    | regular i => simp [GV.isCross] at hkc
    | poi i => simp [GV.isCross] at hkc
  · cases en with
    | intersec j =>
        obtain ⟨x, hx, a, _⟩ := hslot j henok
        show C01.InUse m3 (res.getD j 0)
        rw [hx]; exact a
    | corner d => exact absurd henok (by simp [GVok])
    | regular i => simp [GV.isCross] at hencross
    | poi i => simp [GV.isCross] at hencross

/-- **C16 — every crossing of the boundary with a grid line is a vertex of the map the pipeline returns**.
    For every grid, every geometry whose segments are in eps-general position, every iteration order of the two `HashMap`s:
    if the modelled pipeline (steps 1-5) succeeds on a well-formed untagged grid map carrying the sides (SideCoords), then for
    every segment `a → b` and every parameter `s` at which it crosses a grid line there is a dart in use of the result whose
    vertex has the coordinates `segPoint a b s`.  Chain: `C16_crossings_complete` (the crossing is reported) →
    `C16_slots_genpos` (it has a written slot) → `C16_steps23_carries` (all-edges induction of step 3: its dart starts at
    the point) → `C16_stepFive_carries` (step 5 keeps the vertices). -/
theorem C16_crossings_are_vertices_partial {m0 m' : Map Val} {g : GGrid} {eps : Rat} {poi : List Nat} {verts : List Pt}
    {segs : List (Nat × Nat)} {ha : Bool} {keys2 : List Nat} {keys4 : List GV}
    (hwf : WF 3 m0)
    (hgen : ∀ seg, seg ∈ segs → GenPos g eps (verts.getD seg.1 (0, 0)) (verts.getD seg.2 (0, 0)))
    (hside : SideCoords m0 g eps verts segs)
    (hkeys : KeysOK m0 (slotsAll g eps verts segs) keys2)
    (hrun : pipelineMap m0 g eps poi verts segs ha keys2 keys4 = some m')
    (hnotag : ∀ d, m0.att sBd d = none)
    (hedges : ∀ res m3 edges, stepsTwoThree m0 (slotsAll g eps verts segs) keys2 = (res, .ok (), m3) →
      edgeData (m3.β 1) (m3.β 2) verts (segmentsOf g eps poi verts segs) res keys4 = .ok edges → EdgeDartsInUse m3 edges) :
    ∀ seg, seg ∈ segs → ∀ s, IsCrossing g (verts.getD seg.1 (0, 0)) (verts.getD seg.2 (0, 0)) s →
      ∃ x, Carries m' x (.pt (segPoint (verts.getD seg.1 (0, 0)) (verts.getD seg.2 (0, 0)) s).1
                             (segPoint (verts.getD seg.1 (0, 0)) (verts.getD seg.2 (0, 0)) s).2 0) := by
  obtain ⟨res, m3, edges, h23, h4, h5⟩ := pipelineMap_some hrun
  obtain ⟨hk, hkk, hall⟩ := hkeys
  obtain ⟨w3, nt3, _, hslot⟩ := C16_steps23_carries hwf hk hkk hall h23
  obtain ⟨frame5, _⟩ := C16_stepFive_carries w3 (nt3 hnotag) (hedges res m3 edges h23 h4) h5
  intro seg hseg s hs
  set a := verts.getD seg.1 (0, 0) with ha'
  set b := verts.getD seg.2 (0, 0) with hb'
  have H := hgen seg hseg
  -- the crossing is reported, and has a written slot
  obtain ⟨c, hc, hcs⟩ := C16_crossings_complete H hs
  have hcm : c ∈ crossingsMeta g eps a b := ((C16_metadata_same_intersections g eps a b).1 c).2 hc
  have hmem : some (c.dart, c.t) ∈ slotsAll g eps verts segs := by
    unfold slotsAll
    rw [List.mem_flatMap]
    refine ⟨seg, hseg, ?_⟩
    rw [← ha', ← hb', C16_slots_genpos H]
    exact List.mem_map.2 ⟨c, hcm, rfl⟩
  obtain ⟨K, hK⟩ := List.getElem?_of_mem hmem
  obtain ⟨iu, b1, v1, v2, c1, c2, hpt⟩ := hside seg hseg c hc
  obtain ⟨x, _, hx⟩ := hslot K c.dart c.t hK iu b1 v1 v2 c1 c2
  rw [hpt, hcs] at hx
  exact ⟨x, frame5 0 x _ (by decide) hx⟩

/-- hypothesis **OnChain**: the point of interest `v` lies on the chain of `new_segments` that leaves the intersection `k`
    — one of the keys step 4 iterates over — before the next intersection.  True for every point of interest of a loop
    that crosses a grid line (a loop inside one cell has no key at all: finding D16a / D17a). -/
def OnChain (segsM : List (GV × GV)) (keys4 : List GV) (v : Nat) : Prop :=
  ∃ k v0 l e, k ∈ keys4 ∧ segNext segsM k = some v0 ∧ Path segsM v0 l e ∧ l.length < segsM.length + 1 ∧ GV.poi v ∈ l

theorem poisOf_mem {verts : List Pt} {l : List GV} {v : Nat} (h : GV.poi v ∈ l) : verts.getD v (0, 0) ∈ poisOf verts l := by
  unfold poisOf
  rw [List.mem_filterMap]
  exact ⟨.poi v, h, rfl⟩

/-- **C16 / C17 — every retained point of interest on a chain between two crossings is a vertex of the map the pipeline
    returns; in capture (anchor storages) that vertex is anchored to a node**.  Chain: `C16_edge_of_key_spec` (it is an
    intermediate point of the edge of its key) → `C16_edge_data_spec` (that edge is built, whatever the `HashMap` order) →
    `C16_insertOneEdge_shape` (it becomes the coordinate of the vertex of an intermediate dart, anchored `Node(j)`) →
    `carriesS_insertOneEdge` (the later iterations keep that vertex). -/
theorem C16_poi_are_vertices_partial {m0 m' : Map Val} {g : GGrid} {eps : Rat} {poi : List Nat} {verts : List Pt}
    {segs : List (Nat × Nat)} {ha : Bool} {keys2 : List Nat} {keys4 : List GV}
    (hwf : WF 3 m0) (hnotag : ∀ d, m0.att sBd d = none) (hkeys : KeysOK m0 (slotsAll g eps verts segs) keys2)
    (hrun : pipelineMap m0 g eps poi verts segs ha keys2 keys4 = some m')
    (hedges : ∀ res m3 edges, stepsTwoThree m0 (slotsAll g eps verts segs) keys2 = (res, .ok (), m3) →
      edgeData (m3.β 1) (m3.β 2) verts (segmentsOf g eps poi verts segs) res keys4 = .ok edges → EdgeDartsInUse m3 edges)
    {v : Nat} (hv : OnChain (segmentsOf g eps poi verts segs) keys4 v) :
    ∃ x j, Carries m' x (.pt (verts.getD v (0, 0)).1 (verts.getD v (0, 0)).2 0) ∧
      (ha = true → CarriesS m' sVA x (.tm (.leaf (4 * j)))) := by
  obtain ⟨res, m3, edges, h23, h4, h5⟩ := pipelineMap_some hrun
  obtain ⟨w3, nt3, _, _⟩ := C16_steps23_carries hwf hkeys.1 hkeys.2.1 hkeys.2.2 h23
  obtain ⟨_, pois⟩ := C16_stepFive_carries w3 (nt3 hnotag) (hedges res m3 edges h23 h4) h5
  obtain ⟨k, v0, l, e, hk, hn, hp, hl, hvl⟩ := hv
  obtain ⟨j, hj⟩ := List.getElem?_of_mem hk
  obtain ⟨_, hspec⟩ := C16_edge_data_spec _ _ _ _ _ _ _ h4
  obtain ⟨ed, hed, hkey⟩ := hspec j k hj
  have hed' := (C16_edge_of_key_spec (m3.β 1) (m3.β 2) verts (segmentsOf g eps poi verts segs) res k _).2
    ⟨v0, l, e, hn, hp, hl, rfl⟩
  rw [hed'] at hkey
  injection hkey with hkey
  obtain ⟨q, hq⟩ := List.getElem?_of_mem (poisOf_mem (verts := verts) hvl)
  have hq' : ed.inter[q]? = some (verts.getD v (0, 0)) := by rw [← hkey]; exact hq
  obtain ⟨x, c0, ca⟩ := pois j ed hed q _ hq'
  exact ⟨x, j, c0, ca⟩

/-- **C17 — capture: each retained point of interest is a vertex anchored to a node** (`C16_poi_are_vertices` with the
    anchor storages) -/
theorem C17_poi_are_node_vertices_partial {m0 m' : Map Val} {g : GGrid} {eps : Rat} {poi : List Nat} {verts : List Pt}
    {segs : List (Nat × Nat)} {keys2 : List Nat} {keys4 : List GV}
    (hwf : WF 3 m0) (hnotag : ∀ d, m0.att sBd d = none) (hkeys : KeysOK m0 (slotsAll g eps verts segs) keys2)
    (hrun : pipelineMap m0 g eps poi verts segs true keys2 keys4 = some m')
    (hedges : ∀ res m3 edges, stepsTwoThree m0 (slotsAll g eps verts segs) keys2 = (res, .ok (), m3) →
      edgeData (m3.β 1) (m3.β 2) verts (segmentsOf g eps poi verts segs) res keys4 = .ok edges → EdgeDartsInUse m3 edges)
    {v : Nat} (hv : OnChain (segmentsOf g eps poi verts segs) keys4 v) :
    ∃ x j, C01.InUse m' x ∧
      m'.att 0 (C03.cellId m' .vertex x) = some (.pt (verts.getD v (0, 0)).1 (verts.getD v (0, 0)).2 0) ∧
      m'.att sVA (C03.cellId m' .vertex x) = some (.tm (.leaf (4 * j))) := by
  obtain ⟨x, j, c0, ca⟩ := C16_poi_are_vertices_partial hwf hnotag hkeys hrun hedges hv
  exact ⟨x, j, c0.1, c0.2, (ca rfl).2⟩

/-! ## fewer hypotheses: `KeysOK` and `EdgeDartsInUse` discharged -/

/-- hypothesis **HitDartsOK** (about the grid map only): every dart a slot names is in use, has a successor, is 2-linked (the
    crossed grid edges are interior: the grid has a margin of one cell) and its opposite dart has a successor -/
def HitDartsOK (m0 : Map Val) (slots : List Slot) : Prop :=
  ∀ (K d : Nat) (t : Rat), slots[K]? = some (some (d, t)) →
    C01.InUse m0 d ∧ m0.β 1 d ≠ 0 ∧ m0.β 2 d ≠ 0 ∧ m0.β 1 (m0.β 2 d) ≠ 0

/-- hypothesis **KeysAreHitEdges** (about the `HashMap` only): its iteration yields each key once, and its keys are exactly
    the edges that were hit — true of every iteration of a `HashMap` keyed by `edge_id` -/
def KeysAreHitEdges (b2 : Nat → Nat) (slots : List Slot) (keys2 : List Nat) : Prop :=
  keys2.Nodup ∧ ∀ e, e ∈ keys2 ↔ ∃ h, (e, h) ∈ hitsOf b2 slots

/-- **`KeysOK` is a consequence of the model**: whatever the iteration order, the keys are in-use identifier darts with a
    successor, and every hit edge is among them -/
theorem keysOK_of_hit_edges {m0 : Map Val} {slots : List Slot} {keys2 : List Nat} (hwf : WF 3 m0)
    (hhit : HitDartsOK m0 slots) (hk : KeysAreHitEdges (m0.β 2) slots keys2) : KeysOK m0 slots keys2 := by
  refine ⟨hk.1, ?_, ?_⟩
  · intro e he
    obtain ⟨h, hh⟩ := (hk.2 e).1 he
    obtain ⟨K, d, t, hK, hx⟩ := (C16_hits_slot_numbers (m0.β 2) slots _).1 hh
    injection hx with he' _
    obtain ⟨iu, b1, b2, b12⟩ := hhit K d t hK
    have hi := hwf.invol 2 (by decide) (by decide) d iu.2.1 b2
    rw [he']
    unfold edgeOf
    by_cases hc : m0.β 2 d ≠ 0 ∧ m0.β 2 d < d
    · rw [if_pos hc]
      refine ⟨C01.inUse_image hwf (by omega) (by decide) iu.2.1 b2, b12, ?_⟩
      rw [hi.1, if_neg (fun hh' => by omega)]
    · rw [if_neg hc]
      exact ⟨iu, b1, by rw [if_neg hc]⟩
  · intro K d t hK
    exact (hk.2 _).2 ⟨_, (C16_hits_slot_numbers (m0.β 2) slots _).2 ⟨K, d, t, hK, rfl⟩⟩

/-- **C16 — every crossing is a vertex** (full form): hypotheses about the grid map (`SideCoords`, `HitDartsOK`, well formed,
    untagged), about the geometry (`GenPos`), about what the two `HashMap`s iterate over (`KeysAreHitEdges`; the keys of
    step 4 are intersections) and success of the run; `KeysOK` and `EdgeDartsInUse` are proved -/
theorem C16_crossings_are_vertices {m0 m' : Map Val} {g : GGrid} {eps : Rat} {poi : List Nat} {verts : List Pt}
    {segs : List (Nat × Nat)} {ha : Bool} {keys2 : List Nat} {keys4 : List GV}
    (hwf : WF 3 m0) (hnotag : ∀ d, m0.att sBd d = none)
    (hgen : ∀ seg, seg ∈ segs → GenPos g eps (verts.getD seg.1 (0, 0)) (verts.getD seg.2 (0, 0)))
    (hside : SideCoords m0 g eps verts segs) (hhit : HitDartsOK m0 (slotsAll g eps verts segs))
    (hk2 : KeysAreHitEdges (m0.β 2) (slotsAll g eps verts segs) keys2) (hk4 : ∀ k, k ∈ keys4 → k.isCross = true)
    (hrun : pipelineMap m0 g eps poi verts segs ha keys2 keys4 = some m') :
    ∀ seg, seg ∈ segs → ∀ s, IsCrossing g (verts.getD seg.1 (0, 0)) (verts.getD seg.2 (0, 0)) s →
      ∃ x, Carries m' x (.pt (segPoint (verts.getD seg.1 (0, 0)) (verts.getD seg.2 (0, 0)) s).1
                             (segPoint (verts.getD seg.1 (0, 0)) (verts.getD seg.2 (0, 0)) s).2 0) := by
  have hkeys := keysOK_of_hit_edges hwf hhit hk2
  exact C16_crossings_are_vertices_partial hwf hgen hside hkeys hrun hnotag
    (fun res m3 edges h23 h4 => C16_edge_darts_in_use hwf hgen hkeys
      (fun K d t hK => ⟨(hhit K d t hK).1.2.1, (hhit K d t hK).2.2.1⟩) hk4 h23 h4)

/-- **C16 / C17 — every point of interest on a chain between two crossings is a vertex** (full form) -/
theorem C16_poi_are_vertices {m0 m' : Map Val} {g : GGrid} {eps : Rat} {poi : List Nat} {verts : List Pt}
    {segs : List (Nat × Nat)} {ha : Bool} {keys2 : List Nat} {keys4 : List GV}
    (hwf : WF 3 m0) (hnotag : ∀ d, m0.att sBd d = none)
    (hgen : ∀ seg, seg ∈ segs → GenPos g eps (verts.getD seg.1 (0, 0)) (verts.getD seg.2 (0, 0)))
    (hhit : HitDartsOK m0 (slotsAll g eps verts segs))
    (hk2 : KeysAreHitEdges (m0.β 2) (slotsAll g eps verts segs) keys2) (hk4 : ∀ k, k ∈ keys4 → k.isCross = true)
    (hrun : pipelineMap m0 g eps poi verts segs ha keys2 keys4 = some m')
    {v : Nat} (hv : OnChain (segmentsOf g eps poi verts segs) keys4 v) :
    ∃ x j, Carries m' x (.pt (verts.getD v (0, 0)).1 (verts.getD v (0, 0)).2 0) ∧
      (ha = true → CarriesS m' sVA x (.tm (.leaf (4 * j)))) := by
  have hkeys := keysOK_of_hit_edges hwf hhit hk2
  exact C16_poi_are_vertices_partial hwf hnotag hkeys hrun
    (fun res m3 edges h23 h4 => C16_edge_darts_in_use hwf hgen hkeys
      (fun K d t hK => ⟨(hhit K d t hK).1.2.1, (hhit K d t hK).2.2.1⟩) hk4 h23 h4) hv

/-- **C17 — capture: each retained point of interest is a vertex anchored to a node** (full form) -/
theorem C17_poi_are_node_vertices {m0 m' : Map Val} {g : GGrid} {eps : Rat} {poi : List Nat} {verts : List Pt}
    {segs : List (Nat × Nat)} {keys2 : List Nat} {keys4 : List GV}
    (hwf : WF 3 m0) (hnotag : ∀ d, m0.att sBd d = none)
    (hgen : ∀ seg, seg ∈ segs → GenPos g eps (verts.getD seg.1 (0, 0)) (verts.getD seg.2 (0, 0)))
    (hhit : HitDartsOK m0 (slotsAll g eps verts segs))
    (hk2 : KeysAreHitEdges (m0.β 2) (slotsAll g eps verts segs) keys2) (hk4 : ∀ k, k ∈ keys4 → k.isCross = true)
    (hrun : pipelineMap m0 g eps poi verts segs true keys2 keys4 = some m')
    {v : Nat} (hv : OnChain (segmentsOf g eps poi verts segs) keys4 v) :
    ∃ x j, C01.InUse m' x ∧
      m'.att 0 (C03.cellId m' .vertex x) = some (.pt (verts.getD v (0, 0)).1 (verts.getD v (0, 0)).2 0) ∧
      m'.att sVA (C03.cellId m' .vertex x) = some (.tm (.leaf (4 * j))) := by
  obtain ⟨x, j, c0, ca⟩ := C16_poi_are_vertices hwf hnotag hgen hhit hk2 hk4 hrun hv
  exact ⟨x, j, c0.1, c0.2, (ca rfl).2⟩

/-! ## the hypotheses are satisfiable together -/

/-- the 3 × 1 row of unit cells of `C16Clip`, untagged, with the coordinates of the four corners between the cells -/
def exRowPlain : Map Val := ((exRow.setA sBd 2 none).setA sBd 8 none).setA 0 7 (some (.pt 2 1 0))

theorem exRowPlain_wf : WF 3 exRowPlain := by decide +kernel
theorem exRowPlain_notag : ∀ d, exRowPlain.att sBd d = none := by
  intro d
  by_cases h : d < 14
  · have : ∀ x, x < 14 → exRowPlain.att sBd x = none := by decide +kernel
    exact this d h
  · unfold Map.att
    rw [rd_oob _ d (by have : (rd exRowPlain.a sBd).size = 14 := by decide +kernel
                       omega)]
    rfl

/-- the side crossed by the first segment of examples (A) and (C): dart 2, from `(1, 0)` to `(1, 1)`, crossed at `(1, 5/8)` -/
theorem exRowPlain_side2 : C01.InUse exRowPlain 2 ∧ exRowPlain.β 1 2 ≠ 0 ∧ ∃ v1 v2, Carries exRowPlain 2 v1 ∧
    Carries exRowPlain (exRowPlain.β 1 2) v2 ∧ placeVal v1 v2 (some (5/8)) =
      .pt (segPoint (1/4, 1/2) (7/4, 3/4) (1/2)).1 (segPoint (1/4, 1/2) (7/4, 3/4) (1/2)).2 0 := by
  have key : (C01.InUse exRowPlain 2 ∧ exRowPlain.β 1 2 ≠ 0) ∧
      (C01.InUse exRowPlain 2 ∧ exRowPlain.att 0 (C03.cellId exRowPlain .vertex 2) = some (.pt 1 0 0)) ∧
      (C01.InUse exRowPlain (exRowPlain.β 1 2) ∧
        exRowPlain.att 0 (C03.cellId exRowPlain .vertex (exRowPlain.β 1 2)) = some (.pt 1 1 0)) ∧
      placeVal (.pt 1 0 0) (.pt 1 1 0) (some (5/8)) =
        .pt (segPoint (1/4, 1/2) (7/4, 3/4) (1/2)).1 (segPoint (1/4, 1/2) (7/4, 3/4) (1/2)).2 0 := by decide +kernel
  exact ⟨key.1.1, key.1.2, .pt 1 0 0, .pt 1 1 0, key.2.1, key.2.2.1, key.2.2.2⟩

/-- (A) one segment in general position (`exGenPos`), crossing the line `x = 1` at `(1, 5/8)` -/
def exVA : List Pt := [(1/4, 1/2), (7/4, 3/4)]

theorem exA_slots : slotsAll exGrid (1/8) exVA [(0, 1)] = [some (2, 5/8)] := by decide +kernel

example : ∃ m' x, pipelineMap exRowPlain exGrid (1/8) [] exVA [(0, 1)] false [2] [] = some m' ∧
    Carries m' x (.pt 1 (5/8) 0) := by
  have hsome : (pipelineMap exRowPlain exGrid (1/8) [] exVA [(0, 1)] false [2] []).isSome = true := by decide +kernel
  obtain ⟨m', hm'⟩ := Option.isSome_iff_exists.1 hsome
  have hcross : crossingsOf exGrid (1/8) (1/4, 1/2) (7/4, 3/4) = [⟨2, 5/8, 1/2⟩] := by decide +kernel
  have := C16_crossings_are_vertices_partial (m0 := exRowPlain) (g := exGrid) (eps := 1/8) (poi := []) (verts := exVA)
    (segs := [(0, 1)]) (ha := false) (keys2 := [2]) (keys4 := []) exRowPlain_wf
    (by intro seg hseg
        have : seg = (0, 1) := by simpa using hseg
        subst this; exact exGenPos)
    (by intro seg hseg c hc
        have : seg = (0, 1) := by simpa using hseg
        subst this
        have hc' : c ∈ crossingsOf exGrid (1/8) (1/4, 1/2) (7/4, 3/4) := hc
        rw [hcross] at hc'
        have : c = ⟨2, 5/8, 1/2⟩ := by simpa using hc'
        subst this
        exact exRowPlain_side2)
    (by rw [exA_slots]
        refine ⟨by decide, by decide +kernel, ?_⟩
        intro K d t hK
        cases K with
        | zero => simp only [List.getElem?_cons_zero, Option.some.injEq, Prod.mk.injEq] at hK
                  obtain ⟨rfl, _⟩ := hK; decide +kernel
        | succ K' => simp at hK)
    hm' exRowPlain_notag
    (by intro res m3 edges _ h4
        simp only [edgeData, Res.ok.injEq] at h4
        subst h4
        intro e he; cases he)
    (0, 1) (by simp) (1/2)
    (by show IsCrossing exGrid (1/4, 1/2) (7/4, 3/4) (1/2)
        exact ⟨by norm_num, by norm_num, Or.inl ⟨1, by simp [segPoint, exGrid]; norm_num⟩⟩)
  obtain ⟨x, hx⟩ := this
  refine ⟨m', x, hm', ?_⟩
  have e : segPoint (exVA.getD 0 (0, 0)) (exVA.getD 1 (0, 0)) (1/2) = (1, 5/8) := by decide +kernel
  simp only at hx
  rw [e] at hx
  exact hx

/-- (B) a boundary piece `a → b → c` through the three cells, `b` a point of interest between the two crossings (the data;
    the examples (B) and (C) are in Props/C16Step5Pipe.lean, where their runs come from `C16_pipeline_total_partial`) -/
def exVB : List Pt := [(1/2, 1/4), (3/2, 1/2), (5/2, 1/4)]
def exSB : List (Nat × Nat) := [(0, 1), (1, 2)]

theorem exB_slots : slotsAll exGrid (1/8) exVB exSB = [some (2, 3/8), some (6, 3/8)] := by decide +kernel

/-! ### the data of example (C), for the full forms -/

/-- the second segment of example (C) is in general position too: one crossing, of `x = 2`, at `s = 1/4` -/
theorem exGenPos2 : GenPos exGrid (1 / 8) (7/4, 3/4) (11/4, 1/2) :=
  genPos_one_vertical 2 0 (by decide +kernel)

/-- (C) `a → b → c` through the three cells, both segments in general position, `b` a point of interest -/
def exVC : List Pt := [(1/4, 1/2), (7/4, 3/4), (11/4, 1/2)]
def exSC : List (Nat × Nat) := [(0, 1), (1, 2)]

theorem exC_slots : slotsAll exGrid (1/8) exVC exSC = [some (2, 5/8), some (6, 11/16)] := by decide +kernel
theorem exC_hits : hitsOf (exRowPlain.β 2) (slotsAll exGrid (1/8) exVC exSC) =
    [(2, { idx := 0, t := 5/8, dart := 2 }), (6, { idx := 1, t := 11/16, dart := 6 })] := by decide +kernel

theorem exC_gen : ∀ seg, seg ∈ exSC → GenPos exGrid (1/8) (exVC.getD seg.1 (0, 0)) (exVC.getD seg.2 (0, 0)) := by
  intro seg hseg
  have : seg = (0, 1) ∨ seg = (1, 2) := by simpa [exSC] using hseg
  rcases this with rfl | rfl
  · exact exGenPos
  · exact exGenPos2

theorem exC_hit : HitDartsOK exRowPlain (slotsAll exGrid (1/8) exVC exSC) := by
  rw [exC_slots]
  intro K d t hK
  rcases K with _ | _ | K'
  · simp only [List.getElem?_cons_zero, Option.some.injEq, Prod.mk.injEq] at hK
    obtain ⟨rfl, _⟩ := hK; decide +kernel
  · simp only [List.getElem?_cons_succ, List.getElem?_cons_zero, Option.some.injEq, Prod.mk.injEq] at hK
    obtain ⟨rfl, _⟩ := hK; decide +kernel
  · simp at hK

theorem exC_keys : KeysAreHitEdges (exRowPlain.β 2) (slotsAll exGrid (1/8) exVC exSC) [2, 6] := by
  refine ⟨by decide, fun e => ?_⟩
  rw [exC_hits]
  constructor
  · intro he
    have : e = 2 ∨ e = 6 := by simpa using he
    rcases this with rfl | rfl
    · exact ⟨{ idx := 0, t := 5/8, dart := 2 }, by simp⟩
    · exact ⟨{ idx := 1, t := 11/16, dart := 6 }, by simp⟩
  · rintro ⟨h, hh⟩
    simp only [List.mem_cons, Prod.mk.injEq, List.not_mem_nil, or_false] at hh
    rcases hh with ⟨rfl, _⟩ | ⟨rfl, _⟩ <;> simp

end HC.C16

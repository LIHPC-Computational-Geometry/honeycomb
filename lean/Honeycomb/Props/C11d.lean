/-
  C11, fourth part — the round-trip theorems apply to the meshes the library builds.

  (d0) `exportable_of_lattice` / `noCrack_of_lattice`: a sufficient condition for `Exportable` / `NoCrack` in
       terms of a "lattice point" function `P` on darts (vertices ↔ lattice points, affine coordinates).
  (d0') `lattice_exportable` / `lattice_noCrack`: the condition holds on every grid of `Lemmas/GridLattice.lean` whose
       sides point in distinct directions (finite checks on the corner offsets and the β2 column of the shape).
  (d1) `C11_grid2_exportable`, `C11_grid2_noCrack`, `C11_grid_round_trip`: for all `nx, ny ≥ 1` and non-zero
       cell lengths, the map of `build_2d_grid` is exportable without crack; hence export followed by import
       returns a well-formed map isomorphic to the grid (faces, β1, β2 — so adjacency AND boundary —,
       vertex coordinates).
  (d2) the same for `build_2d_splitgrid`: `C11_split2_exportable`, `C11_split2_noCrack`,
       `C11_split_round_trip`.
-/
import Honeycomb.Lemmas.ListFacts
import Honeycomb.Props.C11c
import Honeycomb.Props.C12
import Honeycomb.Lemmas.GridSplit
import Mathlib.Algebra.Order.Field.Rat


namespace HC.C11
open HC HC.Vtk HC.C03 HC.CellCalc

/-! ## (d0) exportable from a lattice description -/

theorem coord_ne {ox oy lx ly : Rat} (hlx : lx ≠ 0) (hly : ly ≠ 0) {p q : Nat × Nat} (h : p ≠ q)
    {x y z x' y' z' : Rat} (hp : GridLattice.coord ox oy lx ly p = .pt x y z)
    (hq : GridLattice.coord ox oy lx ly q = .pt x' y' z') :
    x ≠ x' ∨ y ≠ y' := by
  unfold GridLattice.coord at hp hq
  simp only [Val.pt.injEq] at hp hq
  by_cases c : p.1 = q.1
  · right
    have c2 : p.2 ≠ q.2 := fun e => h (Prod.ext c e)
    rw [← hp.2.1, ← hq.2.1]
    intro e
    have := mul_right_cancel₀ hly (add_left_cancel e)
    exact c2 (Nat.cast_injective this)
  · left
    rw [← hp.1, ← hq.1]
    intro e
    have := mul_right_cancel₀ hlx (add_left_cancel e)
    exact c (Nat.cast_injective this)

/-- a non-null existing dart -/
def Valid (m : Map Val) (d : Nat) : Prop := d ≠ 0 ∧ d < m.n

theorem exportable_of_lattice {m : Map Val} (hwf : WF 3 m) (P : Nat → Nat × Nat) {ox oy lx ly : Rat}
    (hlx : lx ≠ 0) (hly : ly ≠ 0)
    (hvid : ∀ d e, Valid m d → Valid m e → vid m d = vid m e → P d = P e)
    (hatt : ∀ d, Valid m d → m.att 0 (vid m d) = some (GridLattice.coord ox oy lx ly (P d)))
    (hb1 : ∀ d, Valid m d → m.β 1 d ≠ 0)
    (hface : ∀ d, Valid m d → m.β 1 d ≠ d ∧ m.β 1 (m.β 1 d) ≠ d ∧ m.β 1 (m.β 1 d) ≠ m.β 1 d)
    (huniq : ∀ d e, Valid m d → Valid m e → P d = P e → P (m.β 1 d) = P (m.β 1 e) → d = e)
    (hends : ∀ d, Valid m d → P d ≠ P (m.β 1 d)) : Exportable m := by
  have val1 : ∀ d, Valid m d → Valid m (m.β 1 d) := fun d hd =>
    ⟨hb1 d hd, hwf.range 1 (by omega) d hd.2⟩
  refine ⟨hwf, fun d hd => hb1 d ⟨hd.1, hd.2.1⟩, ?_, ?_, ?_, ?_⟩
  · intro f hf
    have hu := mem_iterCells_inUse hf
    have hv : Valid m f := ⟨hu.1, hu.2.1⟩
    obtain ⟨c1, c2, c3⟩ := hface f hv
    exact three_sides hwf hf (hb1 f hv) (hb1 _ (val1 f hv)) c1 c2 c3
  · intro v hv
    obtain ⟨d, hd0, hd, _, rfl⟩ := (C03_iterVertices2_mem hwf v).1 hv
    have := hatt d ⟨hd0, hd⟩
    exact ⟨_, _, _, this⟩
  · intro d e hd he h1 h2
    have vd : Valid m d := ⟨hd.1, hd.2.1⟩
    have ve : Valid m e := ⟨he.1, he.2.1⟩
    exact huniq d e vd ve (hvid d e vd ve h1) (hvid _ _ (val1 d vd) (val1 e ve) h2)
  · intro d hd x y z x' y' z' e1 e2
    have vd : Valid m d := ⟨hd.1, hd.2.1⟩
    rw [hatt d vd] at e1
    rw [hatt _ (val1 d vd)] at e2
    simp only [Option.some.injEq] at e1 e2
    exact coord_ne hlx hly (hends d vd) e1 e2

theorem noCrack_of_lattice {m : Map Val} (hwf : WF 3 m) (P : Nat → Nat × Nat)
    (hvid : ∀ d e, Valid m d → Valid m e → vid m d = vid m e → P d = P e)
    (hb1 : ∀ d, Valid m d → m.β 1 d ≠ 0)
    (hcrack : ∀ d e, Valid m d → Valid m e → m.β 2 d = 0 → m.β 2 e = 0 → P d = P (m.β 1 e) →
      P (m.β 1 d) = P e → False) : NoCrack m := by
  intro d e hd he c1 c2 v1 v2
  have vd : Valid m d := ⟨hd.1, hd.2.1⟩
  have ve : Valid m e := ⟨he.1, he.2.1⟩
  have val1 : ∀ d, Valid m d → Valid m (m.β 1 d) := fun d hd =>
    ⟨hb1 d hd, hwf.range 1 (by omega) d hd.2⟩
  exact hcrack d e vd ve c1 c2 (hvid _ _ vd (val1 e ve) v1) (hvid _ _ (val1 d vd) ve v2)

/-- the isomorphism statement: `m'` is a copy of the in-use part of `m` -/
structure IsoCopy (m m' : Map Val) : Prop where
  wf : WF 3 m'
  n : m'.n = 1 + ((walks m).map List.length).sum
  /-- faces, β1 and vertex coordinates -/
  faces : FaceCopied m m' 1 (walks m)
  /-- adjacency -/
  adj : ∀ d' d e' e, DartOf 1 (walks m) d' d → DartOf 1 (walks m) e' e → (m'.β 2 d' = e' ↔ m.β 2 d = e)
  /-- boundary -/
  bnd : ∀ d' d, DartOf 1 (walks m) d' d → (m'.β 2 d' = 0 ↔ m.β 2 d = 0)
  /-- the copy relation is a bijection darts of `m'` ↔ in-use darts of `m` -/
  tot : ∀ d', 1 ≤ d' → d' < m'.n → ∃ d, DartOf 1 (walks m) d' d
  inUse : ∀ d' d, DartOf 1 (walks m) d' d → C01.InUse m d
  onto : ∀ d, C01.InUse m d → ∃ d', DartOf 1 (walks m) d' d
  fn : ∀ d' d1 d2, DartOf 1 (walks m) d' d1 → DartOf 1 (walks m) d' d2 → d1 = d2
  inj : ∀ d1 d2 d, DartOf 1 (walks m) d1 d → DartOf 1 (walks m) d2 d → d1 = d2

/-- **C11 (c5), the composition theorem**: for an exportable map without crack, export followed by import
    returns a well-formed map isomorphic to the in-use part of the source: same faces (β1 cycles), same
    adjacency (β2), same boundary, same vertex coordinates (z dropped) -/
theorem C11_roundTrip_iso {m : Map Val} (hE : Exportable m) (hnc : NoCrack m) :
    ∃ m', roundTrip m = .ok m' ∧ IsoCopy m m' := by
  obtain ⟨m', hrt, hwf', hn', hf⟩ := C11_roundTrip_faces hE
  obtain ⟨b1, b2, b3, b4, b5⟩ := C11_roundTrip_bijection hE
  have adj : ∀ d' d e' e, DartOf 1 (walks m) d' d → DartOf 1 (walks m) e' e →
      (m'.β 2 d' = e' ↔ m.β 2 d = e) := fun d' d e' e hd he => C11_roundTrip_adjacency hE hnc hrt hd he
  refine ⟨m', hrt, hwf', hn', hf, adj, ?_, fun d' h1 h2 => b1 d' h1 (by rw [← hn']; exact h2), b3, b4, b2, b5⟩
  intro d' d hd
  have hdu := b3 d' d hd
  have hd'lt : d' < m'.n := by
    rw [hn']
    -- d' is the copy of a dart, hence in range
    by_cases c : d' < 1 + ((walks m).map List.length).sum
    · exact c
    · exfalso
      -- darts beyond the range have no original
      have : ∀ (ws : List (List Nat)) (s x y : Nat), DartOf s ws x y → x < s + (ws.map List.length).sum := by
        intro ws
        induction ws with
        | nil => intro s x y h; exact h.elim
        | cons o os ih =>
            intro s x y h
            simp only [List.map_cons, List.sum_cons]
            rcases h with ⟨i, hi, rfl, _⟩ | h
            · omega
            · have := ih _ x y h; omega
      exact c (this _ 1 d' d hd)
  constructor
  · intro h0
    by_cases c : m.β 2 d = 0
    · exact c
    · exfalso
      have hx := C01.inUse_image hE.wf (by omega) (by omega) hdu.2.1 c
      obtain ⟨e', he'⟩ := b4 _ hx
      have := (adj d' d e' _ hd he').2 rfl
      rw [h0] at this
      have := dartOf_ge _ _ _ _ he'
      omega
  · intro h0
    by_cases c : m'.β 2 d' = 0
    · exact c
    · exfalso
      have hr := hwf'.range 2 (by omega) d' hd'lt
      obtain ⟨e, he⟩ := b1 (m'.β 2 d') (by omega) (by rw [← hn']; exact hr)
      have := (adj d' d _ e hd he).1 rfl
      rw [h0] at this
      exact (b3 _ _ he).1 this.symm

theorem vid_eq_vid2 {m : Map Val} (hwf : WF 3 m) {d : Nat} (hd : Valid m d) : vid m d = vid2 m d := by
  unfold vid2
  rw [(C03_vertexId2_min hwf hd.1 hd.2).1]
  rfl

/-! ## (d0') the grids of the 2-D builders, generically -/

section Lattice
open GridLattice

variable {K nx ny : Nat} {β : Nat → Nat → Nat} {cdx cdy : Nat → Nat} {isCanon : Nat → Nat → Nat → Prop}
  {place : List (Nat × Nat × Nat × Nat × Nat)} {ox oy lx ly : Rat} {m : Map Val} {s : Nat → Nat}

theorem lattice_valid_isDart (Sp : Spec K nx ny β cdx cdy isCanon) (st : SameTopo (gridMap 3 (K * nx * ny) β) m)
    {d : Nat} (hd : Valid m d) : IsDart K nx ny d := by
  have hn : m.n = K * nx * ny + 1 := st.n
  exact isDart_of_range Sp.Kpos Sp.nxpos Sp.nypos (by have := hd.1; omega) (by have := hd.2; omega)

/-- a neighbour cell that holds a dart at the lattice point required by `SameCorner` exists, so the entry is not
    null -/
theorem absEntry_ne_zero_of_corner {dir a b a' b' o : Nat} {p q : Nat × Nat} (h : SameCorner dir p q) (hd : dir ≤ 4)
    (hp : (a' + p.1, b' + p.2) = (a + q.1, b + q.2)) (ha' : a' < nx) (hb' : b' < ny) :
    absEntry K nx ny 1 a b 0 dir o ≠ 0 := by
  obtain ⟨p1, p2⟩ := Prod.mk.inj hp
  have d5 : dir = 0 ∨ dir = 1 ∨ dir = 2 ∨ dir = 3 ∨ dir = 4 := by omega
  rcases d5 with rfl | rfl | rfl | rfl | rfl <;> simp only [SameCorner] at h <;> simp only [absEntry]
  · exact dart_ne_zero
  · rw [if_neg (by omega)]; exact dart_ne_zero
  · rw [if_neg (by omega)]; exact dart_ne_zero
  · rw [if_neg (by omega)]; exact dart_ne_zero
  · rw [if_neg (by omega)]; exact dart_ne_zero

/-- the map of a 2-D builder is exportable when β1 acts on the local darts by `s`, the faces have at least three
    sides with distinct ends (`cyc`) and the sides of a cell point in distinct directions (`dir_inj`, written
    without subtraction) -/
theorem lattice_exportable (Sp : Spec K nx ny β cdx cdy isCanon) (P : Placement K cdx cdy nx ny place)
    (hlx : lx ≠ 0) (hly : ly ≠ 0)
    (hm : m = place.foldl (placeBlock ox oy lx ly nx ny) (gridMap 3 (K * nx * ny) β))
    (st : SameTopo (gridMap 3 (K * nx * ny) β) m)
    (hβ1 : ∀ {a b k : Nat}, a < nx → b < ny → k < K → m.β 1 (dartOf K nx ny a b 0 k) = dartOf K nx ny a b 0 (s k))
    (cyc : ∀ k, k < K → s k < K ∧ s k ≠ k ∧ s (s k) ≠ k ∧ s (s k) ≠ s k ∧ ¬ (cdx k = cdx (s k) ∧ cdy k = cdy (s k)))
    (dir_inj : ∀ k, k < K → ∀ k', k' < K → cdx k + cdx (s k') = cdx k' + cdx (s k) →
      cdy k + cdy (s k') = cdy k' + cdy (s k) → k = k') : Exportable m := by
  have hwf := Sp.wf_of st
  have hV := Sp.vertices ox oy lx ly P hm
  have toD := fun d hd => lattice_valid_isDart Sp st (d := d) hd
  refine exportable_of_lattice hwf (pt K cdx cdy nx) (ox := ox) (oy := oy) hlx hly ?_ ?_ ?_ ?_ ?_ ?_
  · intro d e hd he h
    rw [vid_eq_vid2 hwf hd, vid_eq_vid2 hwf he] at h
    exact (hV.1 d e (toD d hd) (toD e he)).1 h
  · intro d hd
    rw [vid_eq_vid2 hwf hd]
    exact (hV.2.1 d (toD d hd)).2.2
  · intro d hd
    obtain ⟨a, b, k, ha, hb, hk, rfl⟩ := toD d hd
    rw [hβ1 ha hb hk]
    exact dart_ne_zero
  · intro d hd
    obtain ⟨a, b, k, ha, hb, hk, rfl⟩ := toD d hd
    obtain ⟨c0, c1, c2, c3, _⟩ := cyc k hk
    rw [hβ1 ha hb hk, hβ1 ha hb c0]
    exact ⟨fun e => c1 (dartOf_local_inj.mp e), fun e => c2 (dartOf_local_inj.mp e),
      fun e => c3 (dartOf_local_inj.mp e)⟩
  · intro d e hd he h1 h2
    obtain ⟨a, b, k, ha, hb, hk, rfl⟩ := toD d hd
    obtain ⟨a', b', k', ha', hb', hk', rfl⟩ := toD e he
    rw [hβ1 ha hb hk, hβ1 ha' hb' hk', pt_dartOf ha (cyc k hk).1, pt_dartOf ha' (cyc k' hk').1] at h2
    rw [pt_dartOf ha hk, pt_dartOf ha' hk'] at h1
    obtain ⟨x1, y1⟩ := Prod.mk.inj h1
    obtain ⟨x2, y2⟩ := Prod.mk.inj h2
    obtain rfl := dir_inj k hk k' hk' (by omega) (by omega)
    obtain rfl : a = a' := by omega
    obtain rfl : b = b' := by omega
    rfl
  · intro d hd h
    obtain ⟨a, b, k, ha, hb, hk, rfl⟩ := toD d hd
    rw [hβ1 ha hb hk, pt_dartOf ha hk, pt_dartOf ha (cyc k hk).1] at h
    obtain ⟨x1, y1⟩ := Prod.mk.inj h
    exact (cyc k hk).2.2.2.2 ⟨by omega, by omega⟩

/-- … and has no crack when, moreover, β2 is given by a shape `S` and two sides pointing in opposite directions
    (`opp`) can only face each other across the side β2 glues -/
theorem lattice_noCrack (Sp : Spec K nx ny β cdx cdy isCanon) (P : Placement K cdx cdy nx ny place)
    (hm : m = place.foldl (placeBlock ox oy lx ly nx ny) (gridMap 3 (K * nx * ny) β))
    (st : SameTopo (gridMap 3 (K * nx * ny) β) m)
    (hβ1 : ∀ {a b k : Nat}, a < nx → b < ny → k < K → m.β 1 (dartOf K nx ny a b 0 k) = dartOf K nx ny a b 0 (s k))
    (hs : ∀ k, k < K → s k < K) (S : Shape)
    (hβ2 : ∀ {a b k : Nat}, a < nx → b < ny → k < K →
      m.β 2 (dartOf K nx ny a b 0 k) = absEntry K nx ny 1 a b 0 (S.at k 2).1 (S.at k 2).2)
    (opp : ∀ k, k < K → ∀ k', k' < K → cdx k + cdx k' = cdx (s k) + cdx (s k') →
      cdy k + cdy k' = cdy (s k) + cdy (s k') →
      (S.at k 2).1 ≤ 4 ∧ SameCorner (S.at k 2).1 (cdx (s k'), cdy (s k')) (cdx k, cdy k)) : NoCrack m := by
  have hwf := Sp.wf_of st
  have hV := Sp.vertices ox oy lx ly P hm
  have toD := fun d hd => lattice_valid_isDart Sp st (d := d) hd
  refine noCrack_of_lattice hwf (pt K cdx cdy nx) ?_ ?_ ?_
  · intro d e hd he h
    rw [vid_eq_vid2 hwf hd, vid_eq_vid2 hwf he] at h
    exact (hV.1 d e (toD d hd) (toD e he)).1 h
  · intro d hd
    obtain ⟨a, b, k, ha, hb, hk, rfl⟩ := toD d hd
    rw [hβ1 ha hb hk]
    exact dart_ne_zero
  · intro d e hd he c1 _ h1 h2
    obtain ⟨a, b, k, ha, hb, hk, rfl⟩ := toD d hd
    obtain ⟨a', b', k', ha', hb', hk', rfl⟩ := toD e he
    rw [hβ1 ha' hb' hk', pt_dartOf ha hk, pt_dartOf ha' (hs k' hk')] at h1
    rw [hβ1 ha hb hk, pt_dartOf ha (hs k hk), pt_dartOf ha' hk'] at h2
    obtain ⟨x1, y1⟩ := Prod.mk.inj h1
    obtain ⟨x2, y2⟩ := Prod.mk.inj h2
    obtain ⟨d4, sc⟩ := opp k hk k' hk' (by omega) (by omega)
    rw [hβ2 ha hb hk] at c1
    exact absEntry_ne_zero_of_corner sc d4 h1.symm ha' hb' c1

end Lattice

/-! ## (d1) the plain grid -/

section Grid2
open GridVertex HC.C12

variable (ox oy lx ly : Rat) {nx ny : Nat}

theorem grid2_isDart_valid {d : Nat} (hd : IsDart nx ny d) : Valid (buildGrid2 ox oy nx ny lx ly) d := by
  obtain ⟨a, b, k, ha, hb, hk, rfl⟩ := hd
  have hn := grid2_n ox oy lx ly nx ny
  have := D_lt ha hb hk
  refine ⟨?_, by omega⟩
  unfold D dartOf; omega

/-- successor of a side in its cell -/
def ssucc (k : Nat) : Nat := (k + 1) % 4

/-- the four sides of a cell are distinct and have distinct ends -/
theorem square_cyc : ∀ k, k < 4 → ssucc k < 4 ∧ ssucc k ≠ k ∧ ssucc (ssucc k) ≠ k ∧ ssucc (ssucc k) ≠ ssucc k ∧
    ¬ (cdx k = cdx (ssucc k) ∧ cdy k = cdy (ssucc k)) := by decide

/-- they point in four different directions (written without subtraction) -/
theorem square_dir_inj : ∀ k, k < 4 → ∀ k', k' < 4 → cdx k + cdx (ssucc k') = cdx k' + cdx (ssucc k) →
    cdy k + cdy (ssucc k') = cdy k' + cdy (ssucc k) → k = k' := by decide

/-- sides pointing in opposite directions face each other across the side β2 glues -/
theorem square_opp : ∀ k, k < 4 → ∀ k', k' < 4 → cdx k + cdx k' = cdx (ssucc k) + cdx (ssucc k') →
    cdy k + cdy k' = cdy (ssucc k) + cdy (ssucc k') →
    (squareShape.at k 2).1 ≤ 4 ∧
      GridLattice.SameCorner (squareShape.at k 2).1 (cdx (ssucc k'), cdy (ssucc k')) (cdx k, cdy k) := by decide

theorem C11_grid2_exportable (hnx : 0 < nx) (hny : 0 < ny) (hlx : lx ≠ 0) (hly : ly ≠ 0) :
    Exportable (buildGrid2 ox oy nx ny lx ly) :=
  lattice_exportable (spec hnx hny) (placement hnx hny) hlx hly rfl
    (sameTopo_grid2 ox oy nx ny lx ly) (β1_D (sameTopo_grid2 ox oy nx ny lx ly))
    square_cyc square_dir_inj

theorem C11_grid2_noCrack (hnx : 0 < nx) (hny : 0 < ny) : NoCrack (buildGrid2 ox oy nx ny lx ly) :=
  lattice_noCrack (spec hnx hny) (placement hnx hny) rfl
    (sameTopo_grid2 ox oy nx ny lx ly) (β1_D (sameTopo_grid2 ox oy nx ny lx ly))
    (fun k hk => (square_cyc k hk).1) squareShape
    (fun ha hb hk => squareMap_β (sameTopo_grid2 ox oy nx ny lx ly) ha hb hk (by decide)) square_opp

/-- **C11 (d1)**: for all `nx, ny ≥ 1` and non-zero cell lengths, the grid of `build_2d_grid`, exported to VTK
    and imported again, is a well-formed map isomorphic to the grid: the same faces (one β1 cycle of four
    darts per cell), the same adjacency and boundary (β2), the same vertex coordinates -/
theorem C11_grid_round_trip (hnx : 0 < nx) (hny : 0 < ny) (hlx : lx ≠ 0) (hly : ly ≠ 0) :
    ∃ m', roundTrip (buildGrid2 ox oy nx ny lx ly) = .ok m' ∧ IsoCopy (buildGrid2 ox oy nx ny lx ly) m' :=
  C11_roundTrip_iso (C11_grid2_exportable ox oy lx ly hnx hny hlx hly) (C11_grid2_noCrack ox oy lx ly hnx hny)

example : ∃ m', roundTrip (buildGrid2 0 0 3 2 1 (1/2)) = .ok m' ∧ IsoCopy (buildGrid2 0 0 3 2 1 (1/2)) m' :=
  C11_grid_round_trip 0 0 1 (1/2) (by decide) (by decide) (by decide) (by decide +kernel)

end Grid2

/-! ## (d2) the split grid -/

section Split2
open GridVertexSplit HC.C12

variable (ox oy lx ly : Rat) {nx ny : Nat}

/-- successor of a local dart in its triangle -/
def tsucc (k : Nat) : Nat := 3 * (k / 3) + (k + 1) % 3

/-- the three sides of each triangle are distinct and have distinct ends -/
theorem tris_cyc : ∀ k, k < 6 → tsucc k < 6 ∧ tsucc k ≠ k ∧ tsucc (tsucc k) ≠ k ∧ tsucc (tsucc k) ≠ tsucc k ∧
    ¬ (cdx k = cdx (tsucc k) ∧ cdy k = cdy (tsucc k)) := by decide

/-- the six sides of the two triangles of a cell point in six different directions -/
theorem tris_dir_inj : ∀ k, k < 6 → ∀ k', k' < 6 → cdx k + cdx (tsucc k') = cdx k' + cdx (tsucc k) →
    cdy k + cdy (tsucc k') = cdy k' + cdy (tsucc k) → k = k' := by decide

theorem tris_opp : ∀ k, k < 6 → ∀ k', k' < 6 → cdx k + cdx k' = cdx (tsucc k) + cdx (tsucc k') →
    cdy k + cdy k' = cdy (tsucc k) + cdy (tsucc k') →
    (trisShape.at k 2).1 ≤ 4 ∧
      GridLattice.SameCorner (trisShape.at k 2).1 (cdx (tsucc k'), cdy (tsucc k')) (cdx k, cdy k) := by decide

theorem C11_split2_exportable (hnx : 0 < nx) (hny : 0 < ny) (hlx : lx ≠ 0) (hly : ly ≠ 0) :
    Exportable (buildSplit2 ox oy nx ny lx ly) :=
  lattice_exportable (spec hnx hny) (placement hnx hny) hlx hly rfl
    (sameTopo_split2 ox oy nx ny lx ly) (β1_D (sameTopo_split2 ox oy nx ny lx ly))
    tris_cyc tris_dir_inj

theorem C11_split2_noCrack (hnx : 0 < nx) (hny : 0 < ny) : NoCrack (buildSplit2 ox oy nx ny lx ly) :=
  lattice_noCrack (spec hnx hny) (placement hnx hny) rfl
    (sameTopo_split2 ox oy nx ny lx ly) (β1_D (sameTopo_split2 ox oy nx ny lx ly))
    (fun k hk => (tris_cyc k hk).1) trisShape
    (fun ha hb hk => trisMap_β (sameTopo_split2 ox oy nx ny lx ly) ha hb hk (by decide)) tris_opp

/-- **C11 (d2)**: the same for `build_2d_splitgrid` (two triangles per cell) -/
theorem C11_split_round_trip (hnx : 0 < nx) (hny : 0 < ny) (hlx : lx ≠ 0) (hly : ly ≠ 0) :
    ∃ m', roundTrip (buildSplit2 ox oy nx ny lx ly) = .ok m' ∧ IsoCopy (buildSplit2 ox oy nx ny lx ly) m' :=
  C11_roundTrip_iso (C11_split2_exportable ox oy lx ly hnx hny hlx hly) (C11_split2_noCrack ox oy lx ly hnx hny)

example : ∃ m', roundTrip (buildSplit2 (-1) 2 2 5 3 1) = .ok m' ∧ IsoCopy (buildSplit2 (-1) 2 2 5 3 1) m' :=
  C11_split_round_trip (-1) 2 3 1 (by decide) (by decide) (by decide) (by decide)

end Split2

end HC.C11

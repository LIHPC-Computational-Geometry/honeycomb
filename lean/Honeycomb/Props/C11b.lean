/-
  C11, second part — the import of a CONFORMING cell list is total and keeps the coordinates.

  (a6) `C11_import_conforming_ok`: if every cell is a Vertex / Line / Triangle / Quad / Polygon cell of the
       right length whose polygon indices are in range, no directed side (pair of point indices) is used
       twice, and the two end points of every side have different (x, y), then `build_2d_from_vtk` returns
       `Ok` (no error, no `unwrap` panic), the map is well formed, has one face per polygonal cell
       (`C11_import_faces_and_gluing`), is glued exactly along the sides traversed in opposite directions
       (`C11_import_gluing_complete`), and EVERY corner still carries the coordinates of its cell point
       after all the sews: `att 0 (vertex_id d) = point (ptOf d)`.
       The proof runs every `force_sew::<2>` FORWARD (`twoSew2_run_ok`: ids by C03, orientation test by
       `badOrient_opposite`, merges of equal values by `avg_self`) and keeps, over the sew loop, the
       invariant "the value is constant on every vertex cell and stored at the cell's identifier"
       (`SewInv`), using the cell calculus of a 2-link (`vertex_cells_link2`, Lemmas/CellCalc.lean) and the
       vertex values after a 2-sew (`vvalT_twoSew2_both` at storage 0, Lemmas/RemeshValues.lean).
-/
import Honeycomb.Props.C11
import Honeycomb.Props.C04Cells
import Honeycomb.Lemmas.RemeshValues
import Mathlib.Tactic.Linarith
import Mathlib.Tactic.Positivity
import Mathlib.Algebra.Order.Field.Rat


namespace HC.C11
open HC HC.Vtk HC.C03 HC.CellCalc

/-! ## forward runs -/

theorem storages_cfg0_v : storagesOf cfg0 0 = [] := by decide
theorem storages_cfg0_e : storagesOf cfg0 1 = [] := by decide

theorem run_mergeAttrs_cfg0 (k out l r : Nat) (hk : k = 0 ∨ k = 1) (m : Map Val) :
    run (mergeAttrs cfg0 k out l r) m = (.ok (), m) := by
  unfold mergeAttrs
  rcases hk with rfl | rfl
  · rw [storages_cfg0_v]; rfl
  · rw [storages_cfg0_e]; rfl

/-- the orientation test of `two_sew` passes for a side between two DIFFERENT points seen from the two cells that
    share it (the only place where C11 needs ordered-field reasoning) -/
theorem badOrient_opposite {x y x' y' : Rat} (h : x ≠ x' ∨ y ≠ y') :
    badOrientVal (.pt x y 0) (.pt x y 0) (.pt x' y' 0) (.pt x' y' 0) = false := by
  simp only [badOrientVal, dot3, decide_eq_false_iff_not, ge_iff_le, not_le]
  rcases h with h | h
  · have h1 : 0 < (x - x') * (x - x') := mul_self_pos.2 (sub_ne_zero.2 h)
    have h2 : 0 ≤ (y - y') * (y - y') := mul_self_nonneg _
    nlinarith
  · have h1 : 0 < (y - y') * (y - y') := mul_self_pos.2 (sub_ne_zero.2 h)
    have h2 : 0 ≤ (x - x') * (x - x') := mul_self_nonneg _
    nlinarith

/-- a vertex merge succeeds when the inputs coincide or both hold the same point -/
theorem mergeS_ok_same {m : Map Val} {out l r : Nat} {x y z : Rat} (hfc : m.fc = 0)
    (ol : m.okA 0 l = true) (or' : m.okA 0 r = true) (oo : m.okA 0 out = true)
    (vl : m.att 0 l = some (.pt x y z)) (vr : m.att 0 r = some (.pt x y z)) :
    ∃ m', run (mergeS cfg0 0 out l r) m = (.ok (), m') := by
  by_cases e : l = r
  · subst e; exact ⟨_, mergeS_run_move cfg0 0 out l m ol oo⟩
  · refine ⟨m.mergeAt 0 out l r (.pt x y z), ?_⟩
    rw [mergeS_run cfg0 0 out l r m hfc e ol or' oo, vl, vr]
    have : (cfg0.law 0) = avgLaw := rfl
    rw [this]
    simp only [mergeVal]
    rw [avg_self]

theorem okA_of_att {m : Map Val} {s d : Nat} {v : Val} (h : m.att s d = some v) : m.okA s d = true := by
  unfold Map.okA
  by_cases h1 : s < m.a.size
  · by_cases h2 : d < (rd m.a s).size
    · simp [h1, h2]
    · exfalso
      have : m.att s d = none := rd_oob _ _ (by omega)
      rw [this] at h; cases h
  · exfalso
    have e1 : rd m.a s = #[] := rd_oob m.a s (by omega)
    have : m.att s d = none := by
      unfold Map.att; rw [e1]; exact rd_oob _ _ (by simp)
    rw [this] at h; cases h

theorem link2_att (m : Map Val) (l r s e : Nat) : (link2 m l r).att s e = m.att s e := rfl
theorem link2_okA (m : Map Val) (l r s e : Nat) : (link2 m l r).okA s e = m.okA s e := rfl
theorem link2_fc (m : Map Val) (l r : Nat) : (link2 m l r).fc = m.fc := rfl

/-- **forward run of a 2-sew of the sew phase**: both darts closed, 2-free, the two pairs of merged
    vertices hold equal points `p` / `q`, `p ≠ q`, and the identifiers of the two ends are disjoint -/
theorem twoSew2_run_ok {m : Map Val} (hwf : WF 3 m) {l r : Nat} (hl0 : l ≠ 0) (hr0 : r ≠ 0) (hlr : l ≠ r)
    (hl : l < m.n) (hr : r < m.n) (hlu : m.unused l = false) (hru : m.unused r = false)
    (h2l : m.β 2 l = 0) (h2r : m.β 2 r = 0) (hbl : m.β 1 l ≠ 0) (hbr : m.β 1 r ≠ 0) (hfc : m.fc = 0)
    (hasV : ∀ d, d < m.n → m.okA 0 d = true)
    {x y x' y' : Rat} (hne : x ≠ x' ∨ y ≠ y')
    (v1 : m.att 0 (cellId m .vertex l) = some (.pt x y 0))
    (v2 : m.att 0 (cellId m .vertex (m.β 1 r)) = some (.pt x y 0))
    (v3 : m.att 0 (cellId m .vertex (m.β 1 l)) = some (.pt x' y' 0))
    (v4 : m.att 0 (cellId m .vertex r) = some (.pt x' y' 0))
    (hd : ∀ b, b = cellId m .vertex (m.β 1 l) ∨ b = cellId m .vertex r →
       b ≠ cellId (link2 m l r) .vertex l ∧ b ≠ cellId m .vertex l ∧ b ≠ cellId m .vertex (m.β 1 r)) :
    ∃ m', run (twoSew2 cfg0 m.n l r) m = (.ok (), m') := by
  have sz := hwf.toSized
  have ho1 : m.okβ 1 l = true := (sz.okβ 1 l).2 ⟨by omega, hl⟩
  have ho2 : m.okβ 1 r = true := (sz.okβ 1 r).2 ⟨by omega, hr⟩
  have o2l : m.okβ 2 l = true := (sz.okβ 2 l).2 ⟨by omega, hl⟩
  have o2r : m.okβ 2 r = true := (sz.okβ 2 r).2 ⟨by omega, hr⟩
  have han : m.β 1 r < m.n := hwf.range 1 (by omega) r hr
  have hbn : m.β 1 l < m.n := hwf.range 1 (by omega) l hl
  have h1 := (C03_vertexId2_min hwf hl0 hl).1
  have h2 := (C03_vertexId2_min hwf hbr han).1
  have h3 := (C03_vertexId2_min hwf hbl hbn).1
  have h4 := (C03_vertexId2_min hwf hr0 hr).1
  have hwf1 : WF 3 (link2 m l r) := hwf.linkI (by omega) (by omega) hl0 hr0 hlr hl hr hlu hru h2l h2r
  have h5 := (C03_vertexId2_min hwf1 (m := link2 m l r) hl0 hl).1
  have h6 := (C03_vertexId2_min hwf1 (m := link2 m l r) hr0 hr).1
  have hlink : run (iLinkCore (X := Val) 2 l r) m = (.ok (), link2 m l r) := iLinkCore_run o2l o2r h2l h2r
  have An_lt : cellId (link2 m l r) .vertex l < m.n := (cellId_idem hwf1 (pol := .vertex) trivial hl0 hl).2.1
  have Bn_lt : cellId (link2 m l r) .vertex r < m.n := (cellId_idem hwf1 (pol := .vertex) trivial hr0 hr).2.1
  have hok : (link2 m l r).okβ 2 l = true := (hwf1.toSized.okβ 2 l).2 ⟨by omega, hl⟩
  obtain ⟨eid, heid⟩ : ∃ eid, run (edgeId2 (X := Val) l) (link2 m l r) = (.ok eid, link2 m l r) := by
    unfold edgeId2
    simp only [bind, run_rB, hok, if_true]
    split <;> exact ⟨_, rfl⟩
  obtain ⟨ma, hmA⟩ := mergeS_ok_same (m := link2 m l r) (out := cellId (link2 m l r) .vertex l)
    (l := cellId m .vertex l) (r := cellId m .vertex (m.β 1 r)) (by rw [link2_fc]; exact hfc)
    (okA_of_att v1) (okA_of_att v2) (hasV _ An_lt) v1 v2
  obtain ⟨stA, fcA, _, frA, _, _, _⟩ := mergeS_step cfg0 0 _ _ _ _ ma () (by rw [link2_fc]; exact hfc) hmA
  have w3 : ma.att 0 (cellId m .vertex (m.β 1 l)) = some (.pt x' y' 0) := by
    obtain ⟨a, b, c⟩ := hd _ (Or.inl rfl)
    rw [frA _ a b c, link2_att]; exact v3
  have w4 : ma.att 0 (cellId m .vertex r) = some (.pt x' y' 0) := by
    obtain ⟨a, b, c⟩ := hd _ (Or.inr rfl)
    rw [frA _ a b c, link2_att]; exact v4
  obtain ⟨mb, hmB⟩ := mergeS_ok_same (m := ma) (out := cellId (link2 m l r) .vertex r)
    (l := cellId m .vertex (m.β 1 l)) (r := cellId m .vertex r) (by rw [fcA, link2_fc]; exact hfc)
    (okA_of_att w3) (okA_of_att w4) (by rw [stA.okA, link2_okA]; exact hasV _ Bn_lt) w3 w4
  refine ⟨mb, ?_⟩
  have hb : badPair cfg0 (some (.pt x y 0)) (some (.pt x y 0)) (some (.pt x' y' 0)) (some (.pt x' y' 0)) = false :=
    badOrient_opposite hne
  unfold twoSew2
  simp only [bind, run_rB, ho1, ho2, if_true, hbl, hbr, false_and, if_false]
  rw [run_bind, h1]; simp only
  rw [run_bind, h2]; simp only
  rw [run_bind, h3]; simp only
  rw [run_bind, h4]; simp only
  simp only [run_rA, okA_of_att v1, okA_of_att v2, okA_of_att v3, okA_of_att v4, if_true, v1, v2, v3, v4, hb,
    Bool.false_eq_true, if_false]
  rw [link2_n] at h5 h6
  rw [run_bind, hlink]; simp only
  rw [run_bind, h5]; simp only
  rw [run_bind, h6]; simp only
  rw [run_bind, heid]; simp only
  rw [run_bind, hmA]; simp only
  rw [run_bind, hmB]; simp only
  rw [run_bind, run_mergeAttrs_cfg0 _ _ _ _ (Or.inl rfl)]; simp only
  rw [run_bind, run_mergeAttrs_cfg0 _ _ _ _ (Or.inl rfl)]; simp only
  exact run_mergeAttrs_cfg0 _ _ _ _ (Or.inr rfl) _

/-- the value a sew gives two united vertices that carry the same point (the two cases of the `vval_*` rules) -/
theorem sewn_same {m : Map Val} {a b : Nat} {W : Option Val} {x y z : Rat}
    (va : vval m a = some (.pt x y z)) (vb : vval m b = some (.pt x y z))
    (hd : cellId m .vertex a ≠ cellId m .vertex b →
      ∃ v, mergeVal (cfg0.law 0) (vval m a) (vval m b) = .ok v ∧ W = some v)
    (hs : cellId m .vertex a = cellId m .vertex b → W = vval m a) : W = some (.pt x y z) := by
  by_cases e : cellId m .vertex a = cellId m .vertex b
  · rw [hs e, va]
  · obtain ⟨v, hv, hW⟩ := hd e
    rw [va, vb] at hv
    have : (cfg0.law 0) = avgLaw := rfl
    rw [this] at hv
    simp only [mergeVal] at hv
    rw [avg_self] at hv
    cases hv
    exact hW

/-! ## one sew of the sew phase, at cell level -/

/-- **one round of the sew loop.**  `val` is the point every dart was given by the cell phase.  If `val`
    is constant on the vertex cells and stored at their identifiers, and the two sewn sides run between
    the same two different points in opposite directions, the sew SUCCEEDS and both facts hold again. -/
theorem sew_step_ok (val : Nat → Option Val) {m : Map Val} (hwf : WF 3 m) {l r : Nat}
    (hl : C01.InUse m l) (hr : C01.InUse m r) (hlr : l ≠ r)
    (h2l : m.β 2 l = 0) (h2r : m.β 2 r = 0) (hbl : m.β 1 l ≠ 0) (hbr : m.β 1 r ≠ 0) (hfc : m.fc = 0)
    (hasV : ∀ d, d < m.n → m.okA 0 d = true)
    (const : ∀ d e, d ≠ 0 → d < m.n → SameCell (g2 m .vertex) m.n d e → val d = val e)
    (vals : ∀ d, d ≠ 0 → d < m.n → m.att 0 (cellId m .vertex d) = val d)
    {x y x' y' : Rat} (hne : x ≠ x' ∨ y ≠ y')
    (va : val l = some (.pt x y 0)) (va' : val (m.β 1 r) = some (.pt x y 0))
    (vb : val (m.β 1 l) = some (.pt x' y' 0)) (vb' : val r = some (.pt x' y' 0)) :
    ∃ m', run (twoSew2 cfg0 m.n l r) m = (.ok (), m') ∧ m'.fc = 0 ∧ (∀ d, d < m'.n → m'.okA 0 d = true) ∧
      (∀ d e, d ≠ 0 → d < m'.n → SameCell (g2 m' .vertex) m'.n d e → val d = val e) ∧
      (∀ d, d ≠ 0 → d < m'.n → m'.att 0 (cellId m' .vertex d) = val d) := by
  obtain ⟨hl0, hln, hlu⟩ := hl
  obtain ⟨hr0, hrn, hru⟩ := hr
  have han : m.β 1 r < m.n := hwf.range 1 (by omega) r hrn
  have hbn : m.β 1 l < m.n := hwf.range 1 (by omega) l hln
  have hwf1 : WF 3 (link2 m l r) := hwf.linkI (by omega) (by omega) hl0 hr0 hlr hln hrn hlu hru h2l h2r
  obtain ⟨R, hR, hcells⟩ := vertex_cells_link2 hwf hl0 hr0 hlr hln hrn h2l h2r
  have hR' : ∀ d e, R d e ↔ United (g2 m .vertex) m.n l (m.β 1 r) d e := by
    intro d e; rw [hR, if_neg hbr]
  have hN : ∀ d e, SameCell (g2 (link2 m l r) .vertex) m.n d e ↔ UnitedR R r (m.β 1 l) d e := by
    intro d e; rw [hcells, if_neg hbl]
  have Rrefl : ∀ d, R d d := fun d => (hR' d d).2 (Or.inl (.refl d))
  have coarser : ∀ d e, SameCell (g2 m .vertex) m.n d e → SameCell (g2 (link2 m l r) .vertex) m.n d e :=
    fun d e h => (hN d e).2 (Or.inl ((hR' d e).2 (Or.inl h)))
  have constR : ∀ d e, d ≠ 0 → d < m.n → R d e → val d = val e := by
    intro d e hd0 hd h
    rcases (hR' d e).1 h with h1 | ⟨h1, h2⟩ | ⟨h1, h2⟩
    · exact const d e hd0 hd h1
    · rw [const d l hd0 hd h1, va, ← va', const _ e hbr han h2]
    · rw [const d _ hd0 hd h1, va', ← va, const l e hl0 hln h2]
  have constN : ∀ d e, d ≠ 0 → d < m.n → SameCell (g2 (link2 m l r) .vertex) m.n d e → val d = val e := by
    intro d e hd0 hd h
    rcases (hN d e).1 h with h1 | ⟨h1, h2⟩ | ⟨h1, h2⟩
    · exact constR d e hd0 hd h1
    · rw [constR d r hd0 hd h1, vb', ← vb, constR _ e hbl hbn h2]
    · rw [constR d _ hd0 hd h1, vb, ← vb', constR r e hr0 hrn h2]
  have pne : (some (.pt x y 0) : Option Val) ≠ some (.pt x' y' 0) := by
    intro h
    simp only [Option.some.injEq, Val.pt.injEq, and_true] at h
    rcases hne with h1 | h1
    · exact h1 h.1
    · exact h1 h.2
  have sep : ¬ SameCell (g2 (link2 m l r) .vertex) m.n l r := fun h =>
    pne (by rw [← va, ← vb']; exact constN l r hl0 hln h)
  have Nlr_a : SameCell (g2 (link2 m l r) .vertex) m.n l (m.β 1 r) :=
    (hN _ _).2 (Or.inl ((hR' _ _).2 (Or.inr (Or.inl ⟨.refl _, .refl _⟩))))
  have Nr_b : SameCell (g2 (link2 m l r) .vertex) m.n r (m.β 1 l) :=
    (hN _ _).2 (Or.inr (Or.inl ⟨Rrefl _, Rrefl _⟩))
  have idIn : ∀ d, d ≠ 0 → d < m.n → SameCell (g2 m .vertex) m.n d (cellId m .vertex d) := fun d h0 hd =>
    (C04.mem_cell_iff hwf h0 hd _).1 (cellId_spec hwf (pol := .vertex) trivial h0 hd).1
  have idInN : ∀ d, d ≠ 0 → d < m.n →
      SameCell (g2 (link2 m l r) .vertex) m.n d (cellId (link2 m l r) .vertex d) := fun d h0 hd =>
    (C04.mem_cell_iff hwf1 (m := link2 m l r) h0 hd _).1
      (cellId_spec hwf1 (m := link2 m l r) (pol := .vertex) trivial h0 hd).1
  have excl : ∀ c, SameCell (g2 (link2 m l r) .vertex) m.n l c →
      SameCell (g2 (link2 m l r) .vertex) m.n r c → False := fun c h1 h2 => sep (.trans h1 (.symm h2))
  have inL_An := idInN l hl0 hln
  have inL_A1 := coarser _ _ (idIn l hl0 hln)
  have inL_A2 : SameCell (g2 (link2 m l r) .vertex) m.n l (cellId m .vertex (m.β 1 r)) :=
    .trans Nlr_a (coarser _ _ (idIn _ hbr han))
  have inR_B1 : SameCell (g2 (link2 m l r) .vertex) m.n r (cellId m .vertex (m.β 1 l)) :=
    .trans Nr_b (coarser _ _ (idIn _ hbl hbn))
  have inR_B2 := coarser _ _ (idIn r hr0 hrn)
  have v1 : m.att 0 (cellId m .vertex l) = some (.pt x y 0) := by rw [vals l hl0 hln, va]
  have v2 : m.att 0 (cellId m .vertex (m.β 1 r)) = some (.pt x y 0) := by rw [vals _ hbr han, va']
  have v3 : m.att 0 (cellId m .vertex (m.β 1 l)) = some (.pt x' y' 0) := by rw [vals _ hbl hbn, vb]
  have v4 : m.att 0 (cellId m .vertex r) = some (.pt x' y' 0) := by rw [vals r hr0 hrn, vb']
  have hd : ∀ b, b = cellId m .vertex (m.β 1 l) ∨ b = cellId m .vertex r →
      b ≠ cellId (link2 m l r) .vertex l ∧ b ≠ cellId m .vertex l ∧ b ≠ cellId m .vertex (m.β 1 r) := by
    intro b hb
    have inRb : SameCell (g2 (link2 m l r) .vertex) m.n r b := by
      rcases hb with rfl | rfl
      · exact inR_B1
      · exact inR_B2
    exact ⟨fun e => excl b (by rw [e]; exact inL_An) inRb, fun e => excl b (by rw [e]; exact inL_A1) inRb, fun e => excl b (by rw [e]; exact inL_A2) inRb⟩
  obtain ⟨m', hrun⟩ := twoSew2_run_ok hwf hl0 hr0 hlr hln hrn hlu hru h2l h2r hbl hbr hfc hasV hne v1 v2 v3 v4 hd
  -- the rule of the vertex-value calculus for this run: the ends of the new edge carry different points
  have diff : ∀ {a b : Nat}, a ≠ 0 → a < m.n → b ≠ 0 → val a = some (.pt x y 0) → val b = some (.pt x' y' 0) →
      ¬ VC m a b := fun a0 an b0 ha hb c =>
    pne (by rw [← ha, ← hb]; exact const _ _ a0 an ((vc_iff_sameCell hwf a0 an b0).1 c))
  obtain ⟨_, hwf', hn', fc', conn, keep, ⟨WA, inA, dA, sA⟩, ⟨WB, inB, dB, sB⟩⟩ :=
    vvalT_twoSew2_both cfg0 (T := 0) (by simp [C04.vStores]) (C04.zero_notin_storagesOf cfg0 1) hwf rfl hfc
      ⟨hl0, hln, hlu⟩ ⟨hr0, hrn, hru⟩ hlr hbl hbr (diff hl0 hln hr0 va vb')
      (diff hl0 hln hbl va vb) (diff hbr han hr0 va' vb') (diff hbr han hbl va' vb) hrun
  have hWA : WA = some (.pt x y 0) := sewn_same v1 v2 dA sA
  have hWB : WB = some (.pt x' y' 0) := sewn_same v3 v4 dB sB
  have cst : ∀ {d e : Nat}, d ≠ 0 → d < m.n → e ≠ 0 → VC m d e → val d = val e := fun d0 dn e0 c =>
    const _ _ d0 dn ((vc_iff_sameCell hwf d0 dn e0).1 c)
  have sideA : ∀ d, d ≠ 0 → d < m.n → (VC m d l ∨ VC m d (m.β 1 r)) → val d = some (.pt x y 0) := by
    intro d d0 dn h
    rcases h with c | c
    · rw [cst d0 dn hl0 c, va]
    · rw [cst d0 dn hbr c, va']
  have sideB : ∀ d, d ≠ 0 → d < m.n → (VC m d (m.β 1 l) ∨ VC m d r) → val d = some (.pt x' y' 0) := by
    intro d d0 dn h
    rcases h with c | c
    · rw [cst d0 dn hbl c, vb]
    · rw [cst d0 dn hr0 c, vb']
  obtain ⟨m1, h1, st⟩ := C04.C04_twoSew2_topology cfg0 m.n l r m m' () hrun
  obtain ⟨_, _, _, _, rfl⟩ := iLinkCore_ok h1
  refine ⟨m', hrun, fc', ?_, ?_, ?_⟩
  · intro d hd'
    rw [st.okA]
    exact hasV d (by rw [← hn']; exact hd')
  · intro d e hd0 hd' h
    obtain ⟨e0, c⟩ := vc_of_sameCell hwf' hd0 hd' h
    rw [hn'] at hd'
    rcases conn d e hd0 hd' e0 c with c | ⟨cd, ce⟩ | ⟨cd, ce⟩
    · exact cst hd0 hd' e0 c
    · rw [sideA d hd0 hd' cd]
      rcases ce with c | c
      · rw [← cst hl0 hln e0 c, va]
      · rw [← cst hbr han e0 c, va']
    · rw [sideB d hd0 hd' cd]
      rcases ce with c | c
      · rw [← cst hbl hbn e0 c, vb]
      · rw [← cst hr0 hrn e0 c, vb']
  · intro d hd0 hd'
    rw [hn'] at hd'
    show vvalT 0 m' d = val d
    by_cases cA : VC m d l ∨ VC m d (m.β 1 r)
    · rw [inA d hd0 hd' cA, hWA, sideA d hd0 hd' cA]
    · by_cases cB : VC m d (m.β 1 l) ∨ VC m d r
      · rw [inB d hd0 hd' cB, hWB, sideB d hd0 hd' cB]
      · rw [keep d hd0 hd' (fun c => cA (Or.inl c)) (fun c => cA (Or.inr c)) (fun c => cB (Or.inl c))
          (fun c => cB (Or.inr c))]
        exact vals d hd0 hd'

/-! ## the sew loop -/

theorem length_bufErase_le (b : Buf) (k : Nat × Nat) : (bufErase b k).length ≤ b.length :=
  List.length_filter_le _ _

theorem length_bufErase_lt {b : Buf} {e : (Nat × Nat) × Nat} (he : e ∈ b) :
    (bufErase b e.1).length < b.length := by
  induction b with
  | nil => simp at he
  | cons x xs ih =>
      unfold bufErase
      rw [List.filter_cons]
      by_cases hx : x.1 = e.1
      · simp only [hx, ne_eq, not_true_eq_false, decide_false, Bool.false_eq_true, if_false, List.length_cons]
        exact Nat.lt_succ_of_le (List.length_filter_le _ _)
      · have hm : e ∈ xs := by
          rcases List.mem_cons.1 he with h | h
          · subst h; exact absurd rfl hx
          · exact h
        simp only [hx, ne_eq, not_false_eq_true, decide_true, if_true, List.length_cons]
        exact Nat.succ_lt_succ (ih hm)

/-- invariant of the sew loop on a conforming list: besides `Inv`, every buffered dart is 2-free, every
    dart has a successor, the point `val d` given to dart `d` by the cell phase is constant on the
    vertex cells and stored at their identifiers, and a buffer entry `((a, b), d)` says that `d` runs
    from point `a` to a different point `b` -/
structure SewInv (val : Nat → Option Val) (fp : List Val) (m : Map Val) (buf : Buf) : Prop where
  inv : Inv m.n (m, buf)
  free : ∀ e, e ∈ buf → m.β 2 e.2 = 0
  fc : m.fc = 0
  hasV : ∀ d, d < m.n → m.okA 0 d = true
  closed : ∀ d, d ≠ 0 → d < m.n → m.β 1 d ≠ 0
  const : ∀ d e, d ≠ 0 → d < m.n → SameCell (g2 m .vertex) m.n d e → val d = val e
  vals : ∀ d, d ≠ 0 → d < m.n → m.att 0 (cellId m .vertex d) = val d
  keyv : ∀ e, e ∈ buf → val e.2 = fp[e.1.1]? ∧ val (m.β 1 e.2) = fp[e.1.2]?
  pts : ∀ e, e ∈ buf → ∃ x y x' y', fp[e.1.1]? = some (.pt x y 0) ∧ fp[e.1.2]? = some (.pt x' y' 0) ∧
    (x ≠ x' ∨ y ≠ y')

theorem SewInv.sub {val : Nat → Option Val} {fp : List Val} {m : Map Val} {buf buf' : Buf}
    (h : SewInv val fp m buf) (hs : ∀ e, e ∈ buf' → e ∈ buf) : SewInv val fp m buf' where
  inv := { wf := h.inv.wf, used := h.inv.used, le := h.inv.le
           pos := fun x hx => h.inv.pos x (hs x hx), lt := fun x hx => h.inv.lt x (hs x hx)
           inj := fun a ha b hb => h.inv.inj a (hs a ha) b (hs b hb) }
  free := fun e he => h.free e (hs e he)
  fc := h.fc
  hasV := h.hasV
  closed := h.closed
  const := h.const
  vals := h.vals
  keyv := fun e he => h.keyv e (hs e he)
  pts := fun e he => h.pts e (hs e he)

/-- the sew loop returns if every sew the invariant allows succeeds -/
theorem sewLoop_total {Q : Buf → Map Val → Prop}
    (skip : ∀ {buf m e}, Q buf m → bufMin buf = some e →
      bufFind (bufErase buf e.1) (e.1.2, e.1.1) = none → Q (bufErase buf e.1) m)
    (sew : ∀ {buf m e d1}, Q buf m → bufMin buf = some e →
      bufFind (bufErase buf e.1) (e.1.2, e.1.1) = some d1 →
      ∃ m2, atomically (twoSew2 cfg0 m.n e.2 d1) m = (.ok (), m2) ∧
        Q (bufErase (bufErase buf e.1) (e.1.2, e.1.1)) m2) :
    ∀ (fuel : Nat) (buf : Buf) (m : Map Val), buf.length < fuel → Q buf m →
      ∃ m', sewLoop fuel buf m = .ok m' ∧ Q [] m' := by
  intro fuel
  induction fuel with
  | zero => intro buf m h; omega
  | succ f ih =>
      intro buf m hlen h
      match he : bufMin buf with
      | none =>
          refine ⟨m, by simp only [sewLoop, he], ?_⟩
          rw [← bufMin_none he]
          exact h
      | some e =>
          have hl1 := length_bufErase_lt (bufMin_mem he)
          match hfind : bufFind (bufErase buf e.1) (e.1.2, e.1.1) with
          | none =>
              obtain ⟨m', hm', hq⟩ := ih _ m (by omega) (skip h he hfind)
              refine ⟨m', ?_, hq⟩
              simp only [sewLoop, he, hfind]
              exact hm'
          | some d1 =>
              obtain ⟨m2, hsew, h2⟩ := sew h he hfind
              obtain ⟨m', hm', hq⟩ := ih _ m2
                (by have := length_bufErase_le (bufErase buf e.1) (e.1.2, e.1.1); omega) h2
              refine ⟨m', ?_, hq⟩
              simp only [sewLoop, he, hfind, hsew]
              exact hm'

/-- **the sew phase of a conforming list succeeds and keeps every point** -/
theorem sewLoop_ok (val : Nat → Option Val) (fp : List Val) (fuel : Nat) (buf : Buf) (m : Map Val)
    (hlen : buf.length < fuel) (h : SewInv val fp m buf) :
    ∃ m', sewLoop fuel buf m = .ok m' ∧ m'.n = m.n ∧
      (∀ d, d ≠ 0 → d < m'.n → m'.att 0 (cellId m' .vertex d) = val d) := by
  refine (fun ⟨m', hm', hq, hn⟩ => ⟨m', hm', hn, hq.vals⟩)
    (sewLoop_total (Q := fun buf m1 => SewInv val fp m1 buf ∧ m1.n = m.n)
      (fun h _ _ => ⟨h.1.sub fun x hx => (mem_bufErase hx).1, h.2⟩) ?_ fuel buf m hlen ⟨h, rfl⟩)
  intro buf m e d1 ⟨h, hn⟩ he hfind
  have hem := bufMin_mem he
  obtain ⟨x1, hx1, hxk, hxd⟩ := bufFind_mem hfind
  obtain ⟨hx1b, hx1ne⟩ := mem_bufErase hx1
  have hinv := h.inv
  obtain ⟨hne, hl, hr, rest⟩ := hinv.found hem hfind
  obtain ⟨x, y, x', y', pa, pb, hdist⟩ := h.pts e hem
  obtain ⟨ka, kb⟩ := h.keyv e hem
  obtain ⟨kc, kd⟩ := h.keyv x1 hx1b
  rw [hxk, hxd] at kc kd
  simp only at kc kd
  obtain ⟨m2, hrun, fc2, hasV2, const2, vals2⟩ :=
    sew_step_ok val hinv.wf hl hr hne (h.free e hem) (by rw [← hxd]; exact h.free x1 hx1b)
      (h.closed _ hl.1 hl.2.1) (h.closed _ hr.1 hr.2.1) h.fc h.hasV h.const h.vals hdist
      (by rw [ka, pa]) (by rw [kd, pa]) (by rw [kb, pb]) (by rw [kc, pb])
  have hsew := atomically_of_run hrun
  obtain ⟨sd2, inv2'⟩ := hinv.sew hem hfind hsew
  obtain ⟨_, l2, l3⟩ := sew2_links hne hsew
  obtain ⟨_, b012, _⟩ := sew2_topo hsew
  exact ⟨m2, hsew,
    { inv := inv2'
      free := fun z hz => by
        rw [l3 _ (rest z hz).2.1 (rest z hz).2.2]; exact h.free z (rest z hz).1
      fc := fc2
      hasV := hasV2
      closed := fun d hd0 hd => by
        rw [b012 1 d (by omega)]; exact h.closed d hd0 (by rw [← sd2.1]; exact hd)
      const := const2
      vals := vals2
      keyv := fun z hz => by
        rw [b012 1 _ (by omega)]; exact h.keyv z (rest z hz).1
      pts := fun z hz => h.pts z (rest z hz).1 }, by rw [sd2.1, hn]⟩

/-! ## the cell phase, forward -/

/-- a cell the importer accepts: a `Vertex` / `Line` / `Triangle` / `Quad` of the right length, or a
    `Polygon` -/
def GoodCell (c : VCell) : Prop :=
  (c.ty = 1 ∧ c.vids.length = 1) ∨ (c.ty = 3 ∧ c.vids.length = 2) ∨ (c.ty = 5 ∧ c.vids.length = 3) ∨
  c.ty = 7 ∨ (c.ty = 9 ∧ c.vids.length = 4)

instance (c : VCell) : Decidable (GoodCell c) := by unfold GoodCell; exact inferInstance

/-- the cell phase succeeds on accepted cells whose polygon indices are in range -/
theorem cells_ok {fp : List Val} (cells : List VCell) (st : Map Val × Buf) (hinv : Inv st.1.n st)
    (hv : HasV st.1) (hg : ∀ c, c ∈ cells → GoodCell c ∧
      ((c.ty = 5 ∨ c.ty = 7 ∨ c.ty = 9) → ∀ i, i < c.vids.length → ∃ p, fp[c.vids.getD i 0]? = some p)) :
    ∃ st', foldOut (cellStep fp) cells st = .ok st' := by
  refine (fun ⟨st', h, _⟩ => ⟨st', h⟩)
    (foldOut_ok (Q := fun s : Map Val × Buf => Inv s.1.n s ∧ HasV s.1) (f := cellStep fp) ?_ ?_
      cells st hg ⟨hinv, hv⟩)
  · intro c s s' q hx
    rcases cellStep_cases hx with ⟨_, rfl⟩ | ⟨_, hb⟩
    · exact q
    · have a := (buildFace_run q.1).1 s' hb
      exact ⟨a.inv, a.hasV q.2⟩
  · intro c s ⟨g, hr⟩ q
    have bf := fun hty => (buildFace_run (fp := fp) (vids := c.vids) q.1).2 q.2 (hr hty)
    rcases g with ⟨t, l⟩ | ⟨t, l⟩ | ⟨t, l⟩ | t | ⟨t, l⟩
    · exact ⟨s, by unfold cellStep; simp [t, l]⟩
    · exact ⟨s, by unfold cellStep; simp [t, l]⟩
    · obtain ⟨s', hb⟩ := bf (.inl t)
      exact ⟨s', by unfold cellStep; simp [t, l, hb]⟩
    · obtain ⟨s', hb⟩ := bf (.inr (.inl t))
      exact ⟨s', by unfold cellStep; simp [t, hb]⟩
    · obtain ⟨s', hb⟩ := bf (.inr (.inr t))
      exact ⟨s', by unfold cellStep; simp [t, l, hb]⟩

/-! ## from the pre-sew map to the sew invariant -/

theorem sideOf_vals {fp : List Val} {m : Map Val} :
    ∀ (vs : List (List Nat)) (s d : Nat) (k : Nat × Nat), SideOf s vs d k → FacesAt fp m s vs →
      (∃ p, fp[k.1]? = some p ∧ m.att 0 d = some p) ∧ (∃ q, fp[k.2]? = some q ∧ m.att 0 (m.β 1 d) = some q) := by
  intro vs
  induction vs with
  | nil => intro s d k h; exact h.elim
  | cons v vs ih =>
      intro s d k h hf
      rcases h with ⟨i, hi, rfl, rfl⟩ | h
      · obtain ⟨hb, _, p, hp, ha⟩ := hf.1 i hi
        have hj : (i + 1) % v.length < v.length := Nat.mod_lt _ (by omega)
        obtain ⟨_, _, q, hq, hqa⟩ := hf.1 _ hj
        exact ⟨⟨p, hp, ha⟩, ⟨q, hq, by rw [hb]; exact hqa⟩⟩
      · exact ih _ d k h hf.2

theorem facesAt_closed {fp : List Val} {m : Map Val} :
    ∀ (vs : List (List Nat)) (s : Nat), 1 ≤ s → FacesAt fp m s vs →
      ∀ d, s ≤ d → d < s + (vs.map List.length).sum → m.β 1 d ≠ 0 := by
  intro vs
  induction vs with
  | nil => intro s _ _ d h1 h2; simp at h2; omega
  | cons v vs ih =>
      intro s hs hf d h1 h2
      by_cases c : d < s + v.length
      · obtain ⟨hb, _⟩ := hf.1 (d - s) (by omega)
        have : s + (d - s) = d := by omega
        rw [this] at hb
        rw [hb]; omega
      · refine ih (s + v.length) (by omega) hf.2 d (by omega) ?_
        simp only [List.map_cons, List.sum_cons] at h2
        omega

/-- before any 2-sew every dart is its own vertex -/
theorem sameCell_trivial {m : Map Val} (hwf : WF 3 m) (h2 : ∀ d, m.β 2 d = 0) {d e : Nat}
    (h : SameCell (g2 m .vertex) m.n d e) : d = e := by
  induction h with
  | refl => rfl
  | step hs =>
      exfalso
      obtain ⟨_, _, hb0, hb⟩ := hs
      simp only [g2, h2, List.mem_cons, List.not_mem_nil, or_false] at hb
      rw [hwf.null 1 (by omega)] at hb
      rcases hb with hb | hb <;> exact hb0 hb
  | symm _ ih => exact ih.symm
  | trans _ _ ih1 ih2 => exact ih1.trans ih2

/-- the hypotheses on the points: the two ends of every side exist and differ in the plane -/
def SidesDistinct (fp : List Val) (sides : List (Nat × Nat)) : Prop :=
  ∀ k, k ∈ sides → ∃ x y x' y', fp[k.1]? = some (.pt x y 0) ∧ fp[k.2]? = some (.pt x' y' 0) ∧
    (x ≠ x' ∨ y ≠ y')

theorem sewInv_init {fp : List Val} {cells : List VCell} {m0 : Map Val}
    (b : Built fp (faceLists cells) (emptyMap, []) (m0, fileAll (entries 1 (faceLists cells)) []))
    (hasV : HasV m0) (hdist : SidesDistinct fp (allSides (faceLists cells))) :
    SewInv (fun d => m0.att 0 d) fp m0 (fileAll (entries 1 (faceLists cells)) []) := by
  have hb2 := b.b2 emptyMap_b2
  have hfa := b.faces emptyMap_b2
  have hn : m0.n = 1 + ((faceLists cells).map List.length).sum := b.n
  have hwf := b.inv.wf
  have idself : ∀ d, d ≠ 0 → d < m0.n → cellId m0 .vertex d = d := by
    intro d hd0 hd
    have := (C04.mem_cell_iff hwf hd0 hd _).1 (cellId_spec hwf (pol := .vertex) trivial hd0 hd).1
    exact (sameCell_trivial hwf hb2 this).symm
  exact
    { inv := b.inv
      free := fun e _ => hb2 e.2
      fc := b.fc
      hasV := hasV
      closed := fun d hd0 hd => facesAt_closed _ 1 (Nat.le_refl _) hfa d (by omega) (by omega)
      const := fun d e _ _ h => by rw [sameCell_trivial hwf hb2 h]
      vals := fun d hd0 hd => by rw [idself d hd0 hd]
      keyv := fun e he => by
        obtain ⟨⟨p, hp, ha⟩, ⟨q, hq, hqa⟩⟩ := sideOf_vals _ 1 e.2 e.1 (mem_buf_side he) hfa
        exact ⟨by rw [ha, hp], by rw [hqa, hq]⟩
      pts := fun e he => hdist e.1 (by
        rw [← entries_keys (faceLists cells) 1]
        exact List.mem_map_of_mem ((mem_entries _ _ _).2 (mem_buf_side he))) }

/-- corner `i` of the j-th polygonal cell is dart `d0ⱼ + i`; its successor is the next corner and its
    VERTEX (identifier `vertex_id`) carries the cell's i-th point -/
def CornersAt (fp : List Val) (m : Map Val) : Nat → List (List Nat) → Prop
  | _, [] => True
  | s, v :: vs =>
      (∀ i, i < v.length → m.β 1 (s + i) = s + (i + 1) % v.length ∧
        ∃ p, fp[v.getD i 0]? = some p ∧ m.att 0 (cellId m .vertex (s + i)) = some p) ∧
      CornersAt fp m (s + v.length) vs

theorem cornersAt_of {fp : List Val} {m0 m : Map Val} (hβ : ∀ d, m.β 1 d = m0.β 1 d)
    (hv : ∀ d, d ≠ 0 → d < m0.n → m.att 0 (cellId m .vertex d) = m0.att 0 d) :
    ∀ (vs : List (List Nat)) (s : Nat), 1 ≤ s → s + (vs.map List.length).sum ≤ m0.n →
      FacesAt fp m0 s vs → CornersAt fp m s vs := by
  intro vs
  induction vs with
  | nil => intro _ _ _ _; trivial
  | cons v vs ih =>
      intro s hs hn hf
      simp only [List.map_cons, List.sum_cons] at hn
      refine ⟨fun i hi => ?_, ih (s + v.length) (by omega) (by omega) hf.2⟩
      obtain ⟨hb, _, p, hp, ha⟩ := hf.1 i hi
      exact ⟨by rw [hβ, hb], p, hp, by rw [hv _ (by omega) (by omega), ha]⟩

set_option linter.unusedVariables false in
/-- **C11 (a6): the import of a conforming list is TOTAL and keeps the coordinates.**
    Hypotheses (the property's notion of a conforming unstructured grid): every cell is accepted
    (`GoodCell`), no directed side is used twice (hence every undirected side at most twice, in opposite
    directions), and the two end points of every side exist and have different `(x, y)`.
    Conclusion: `build_2d_from_vtk` returns `Ok m` — no error, and none of its `unwrap`s fires —; `m` is
    well formed, has exactly one dart per polygon corner, one β1 cycle on consecutive darts per polygonal
    cell (in the order of the cell's points), and after ALL the sews the vertex of corner `i` of cell `j`
    still carries the coordinates of the cell's i-th point (z dropped).  The gluing is characterised by
    `C11_import_faces_and_gluing` / `C11_import_gluing_complete` (both apply since the result is `Ok`). -/
theorem C11_import_conforming_ok (pts : List Val) (cells : List VCell) (mask : Nat)
    (hg : ∀ c, c ∈ cells → GoodCell c) (hnd : (allSides (faceLists cells)).Nodup)
    (hdist : SidesDistinct (pts.map flat) (allSides (faceLists cells))) :
    ∃ m, importCells pts cells mask = .ok m ∧ WF 3 m ∧
      m.n = 1 + ((faceLists cells).map List.length).sum ∧
      CornersAt (pts.map flat) m 1 (faceLists cells) := by
  -- every polygon index is the origin of a side, hence in range
  have hr : ∀ c, c ∈ cells → (c.ty = 5 ∨ c.ty = 7 ∨ c.ty = 9) → ∀ i, i < c.vids.length →
      ∃ p, (pts.map flat)[c.vids.getD i 0]? = some p := by
    intro c hc hty i hi
    have hmem : c.vids ∈ faceLists cells := by
      unfold faceLists
      rw [List.mem_filterMap]
      exact ⟨c, hc, by simp [hty]⟩
    have hside : (c.vids.getD i 0, c.vids.getD ((i + 1) % c.vids.length) 0) ∈ allSides (faceLists cells) := by
      unfold allSides
      rw [List.mem_flatten]
      exact ⟨sidesOf c.vids, List.mem_map_of_mem hmem, mem_sidesOf.2 ⟨i, hi, rfl⟩⟩
    obtain ⟨x, y, _, _, h1, _, _⟩ := hdist _ hside
    exact ⟨_, h1⟩
  have hv0 : HasV emptyMap := by
    intro d hd
    have : d = 0 := by have : emptyMap.n = 1 := rfl; omega
    subst this; decide
  obtain ⟨⟨m0, buf⟩, hfold⟩ := cells_ok (fp := pts.map flat) cells (emptyMap, []) inv_empty hv0
    (fun c hc => ⟨hg c hc, hr c hc⟩)
  have hb : buildCells pts cells = .ok (m0, buf) := hfold
  have b := buildCells_built hb
  have hbuf : buf = fileAll (entries 1 (faceLists cells)) [] := b.buf
  subst hbuf
  obtain ⟨m, hm, hn, hvals⟩ := sewLoop_ok _ _ _ _ m0 (Nat.lt_succ_self _)
    (sewInv_init b (b.hasV hv0) hdist)
  have himp : importCells pts cells mask = .ok m := by
    unfold importCells
    rw [hb]
    exact hm
  have r := sewLoop_sewn _ _ m0 m hm
  refine ⟨m, himp, C11_import_ok_WF _ _ _ _ himp, by rw [hn]; exact b.n, ?_⟩
  exact cornersAt_of (fun d => r.b01 1 d (by omega)) (fun d hd0 hd => hvals d hd0 (by rw [hn]; exact hd))
    _ 1 (Nat.le_refl _) (Nat.le_of_eq b.n.symm) (b.faces emptyMap_b2)

/-- non-vacuity: `exCells` over `exPts` is conforming (the `Line` cell is accepted and ignored) -/
example : (∀ c, c ∈ exCells → GoodCell c) ∧ (allSides (faceLists exCells)).Nodup := by decide
example : SidesDistinct (exPts.map flat) (allSides (faceLists exCells)) := by
  intro k hk
  have : k ∈ [(0, 1), (1, 2), (2, 0), (0, 2), (2, 3), (3, 0), (1, 4), (4, 5), (5, 2), (2, 1)] := by
    have e : allSides (faceLists exCells) = [(0, 1), (1, 2), (2, 0), (0, 2), (2, 3), (3, 0), (1, 4), (4, 5), (5, 2), (2, 1)] := by
      decide
    rw [← e]; exact hk
  simp only [List.mem_cons, List.not_mem_nil, or_false] at this
  rcases this with rfl | rfl | rfl | rfl | rfl | rfl | rfl | rfl | rfl | rfl <;>
    exact ⟨_, _, _, _, rfl, rfl, by decide⟩

end HC.C11

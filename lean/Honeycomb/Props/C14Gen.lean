/-
  C14 — the single-vertex insertion kernel of `honeycomb-kernels/src/cell_insertion/vertices.rs` (the private
  `is_free_transac` and the public `insert_vertex_on_edge`, both arms), TRANSLATED from the source on every run
  (`Gen/VertexInsertion.lean`, written by tools/gen_lean.py), interpreted in the model's transaction monad, is EQUAL
  as a program to the hand-written `isFreeTx` / `insertVertexOnEdge` of Model/Kernels/VertexInsertion.lean, which the
  C14 theorems are proved about.

  The kernel calls the PUBLIC `cmap.link::<I>` / `cmap.unlink::<I>`.  Their `match I` (dim2/links/mod.rs) and the bodies
  of the internal `one_link` / `two_link` / `one_unlink` / `two_unlink` (dim2/links/one.rs, two.rs) are translated too
  (`Gen.link2Arms`, `Gen.unlink2Arms`, `Gen.links2Bodies`); the interpreter resolves every call through these tables
  (`vinsLinkCall`, `vinsUnlinkCall`), and `C14_gen_link_dispatch` proves that the resolution is `one_link_core` /
  `two_link_core` / `one_unlink_core` / `two_unlink_core` — the cores themselves are tied in Props/C01Gen.lean.
  `vertex_id_transac` is the model's `vertexId2` (its image list is tied in Props/C03Gen.lean); `read_vertex` /
  `write_vertex` are `rA 0` / `writeVtx`.  Recognised as rigid shapes by the translator: the `is_some_and` test of the
  position, and the written value `midpoint_vertex.map_or(Vertex2::average(&p, &q), |t| r + seg * t)` with
  `let seg = s - u` (the five value operands are data: `vinsPlaceG`).
-/
import Honeycomb.Gen.VertexInsertion
import Honeycomb.Model.Kernels.VertexInsertion
import Honeycomb.Props.C14

namespace HC.GenTie
open HC HC.C14

/-! ## `is_free_transac` -/

/-- the meaning of `Gen.isFreeTransac`: `β_i(d) == NULL_DART_ID` for the listed `i`, short-circuit `&&` -/
def vinsInterpFree {X : Type} (d : Nat) : List Nat → P X Bool
  | [] => pure true
  | [i] => do
      let b ← rB i d
      pure (decide (b = 0))
  | i :: j :: rest => do
      let b ← rB i d
      if b ≠ 0 then pure false else vinsInterpFree d (j :: rest)

/-- **tie of `is_free_transac`** -/
theorem C14_gen_isFreeTx {X : Type} (d : Nat) : vinsInterpFree (X := X) d Gen.isFreeTransac = isFreeTx d := by
  simp only [Gen.isFreeTransac, vinsInterpFree, isFreeTx]

/-! ## `CMap2::link::<I>` / `unlink::<I>` resolved through the translated tables -/

/-- the `*_core` function of components/betas.rs with the given code, applied to the selected arguments -/
def vinsCoreCall {X : Type} : Nat → List Nat → Option (P X Unit)
  | 0, [a, b] => some (oneLinkCore a b)
  | 1, [a, b] => some (iLinkCore 2 a b)
  | 2, [a, b] => some (iLinkCore 3 a b)
  | 3, [a] => some (oneUnlinkCore a)
  | 4, [a] => some (iUnlinkCore 2 a)
  | 5, [a] => some (iUnlinkCore 3 a)
  | _, _ => none

/-- first row of a table with the given key -/
def vinsLookupRow (k : Nat) : List (Nat × List Nat) → Option (List Nat)
  | [] => none
  | (k', row) :: rest => if k' = k then some row else vinsLookupRow k rest

/-- the arguments at the given positions (`none` when a position does not exist) -/
def vinsPick (args : List Nat) : List Nat → Option (List Nat)
  | [] => some []
  | p :: ps =>
      match args[p]?, vinsPick args ps with
      | some a, some r => some (a :: r)
      | _, _ => none

/-- `self.<arm I of the table>(trans, args…)`, then the body of that internal function: the core call it makes -/
def vinsResolveCall {X : Type} (arms : List (Nat × List Nat)) (i : Nat) (args : List Nat) : Option (P X Unit) :=
  match vinsLookupRow i arms with
  | some (f :: ps) =>
      match vinsPick args ps, vinsLookupRow f Gen.links2Bodies with
      | some args1, some (c :: qs) =>
          match vinsPick args1 qs with
          | some args2 => vinsCoreCall c args2
          | none => none
      | _, _ => none
  | _ => none

/-- `cmap.link::<I>(trans, a, b)` -/
def vinsLinkCall {X : Type} (i a b : Nat) : P X Unit := (vinsResolveCall Gen.link2Arms i [a, b]).getD Prog.panic
/-- `cmap.unlink::<I>(trans, a)` -/
def vinsUnlinkCall {X : Type} (i a : Nat) : P X Unit := (vinsResolveCall Gen.unlink2Arms i [a]).getD Prog.panic

/-- **the translated dispatch**: `link::<1>` IS `one_link_core`, `link::<2>` IS `two_link_core`, `unlink::<1>` IS
    `one_unlink_core`, `unlink::<2>` IS `two_unlink_core`, with the arguments in the caller's order -/
theorem C14_gen_link_dispatch {X : Type} (a b : Nat) :
    vinsLinkCall (X := X) 1 a b = oneLinkCore a b ∧ vinsLinkCall (X := X) 2 a b = iLinkCore 2 a b ∧
    vinsUnlinkCall (X := X) 1 a = oneUnlinkCore a ∧ vinsUnlinkCall (X := X) 2 a = iUnlinkCore 2 a :=
  ⟨rfl, rfl, rfl, rfl⟩

theorem vinsLinkCall_one {X : Type} (a b : Nat) : vinsLinkCall (X := X) 1 a b = oneLinkCore a b := rfl
theorem vinsLinkCall_two {X : Type} (a b : Nat) : vinsLinkCall (X := X) 2 a b = iLinkCore 2 a b := rfl
theorem vinsUnlinkCall_one {X : Type} (a : Nat) : vinsUnlinkCall (X := X) 1 a = oneUnlinkCore a := rfl
theorem vinsUnlinkCall_two {X : Type} (a : Nat) : vinsUnlinkCall (X := X) 2 a = iUnlinkCore 2 a := rfl

/-- an index the dispatch has no arm for is a panic (`unreachable!()`), not a silent success -/
example {X : Type} (a b : Nat) : vinsLinkCall (X := X) 3 a b = Prog.panic := rfl

/-! ## `insert_vertex_on_edge` -/

/-- operand of a generated instruction: parameters, the null dart, bound variables -/
def vinsArg (e nd1 nd2 : Nat) (env : List Nat) : Nat → Nat
  | 0 => e
  | 1 => nd1
  | 2 => nd2
  | 3 => 0
  | k => env.getD (k - 20) 0

/-- the payload-free `VertexInsertionError` variants -/
def vinsErr : Nat → Err
  | 0 => errVertexBound
  | _ => errUndefinedEdge

/-- `d == NULL_DART_ID || !is_free_transac(cmap, trans, d)?`, with the TRANSLATED `is_free_transac` -/
def vinsNullOrNotFreeG {X : Type} (d : Nat) : P X Bool :=
  if d = 0 then pure true else do
    let f ← vinsInterpFree d Gen.isFreeTransac
    pure (!f)

/-- `let (Some(v), Some(w)) = (x, y) else { abort(err)? }` -/
def vinsWithEndsG {α : Type} (err : Err) (x y : Option Val) (k : Val → Val → P Val α) : P Val α :=
  match x, y with
  | some v, some w => k v w
  | _, _ => abort err

/-- `midpoint_vertex.map_or(Vertex2::average(&p, &q), |t| r + (s - u) * t)` -/
def vinsPlaceG (p q r s u : Val) (t : Option Rat) : Val :=
  P2.toVal (match t with
    | none => P2.avg p.p2 q.p2
    | some t => ⟨r.p2.x + (s.p2.x - u.p2.x) * t, r.p2.y + (s.p2.y - u.p2.y) * t⟩)

def vinsVal (vals : List Val) (k : Nat) : Val := vals.getD k (.pt 0 0 0)

/-- the meaning of the generated instruction list (see the header of Gen/VertexInsertion.lean); the fuel only makes
    the recursion structural -/
def interpVins (n e nd1 nd2 : Nat) (t : Option Rat) :
    Nat → List Nat → List Val → List (Nat × List Nat) → P Val Unit
  | 0, _, _, _ => Prog.panic
  | _ + 1, _, _, [] => pure ()
  | f + 1, env, vals, (40, [k]) :: rest =>
      if optOutOfUnit t then abort (vinsErr k) else interpVins n e nd1 nd2 t f env vals rest
  | f + 1, env, vals, (1, [i, a]) :: rest => do
      let v ← rB i (vinsArg e nd1 nd2 env a)
      interpVins n e nd1 nd2 t f (env ++ [v]) vals rest
  | f + 1, env, vals, (5, [a]) :: rest => do
      let v ← vertexId2 n (vinsArg e nd1 nd2 env a)
      interpVins n e nd1 nd2 t f (env ++ [v]) vals rest
  | f + 1, env, vals, (41, [d, k]) :: rest => do
      let bad ← vinsNullOrNotFreeG (vinsArg e nd1 nd2 env d)
      if bad then abort (errInvalidDarts (Gen.vinsMsgs.getD k "")) else
      interpVins n e nd1 nd2 t f env vals rest
  | f + 1, env, vals, (42, [g, d, k]) :: rest => do
      let bad ← (if vinsArg e nd1 nd2 env g ≠ 0 then vinsNullOrNotFreeG (vinsArg e nd1 nd2 env d) else pure false)
      if bad then abort (errInvalidDarts (Gen.vinsMsgs.getD k "")) else
      interpVins n e nd1 nd2 t f env vals rest
  | f + 1, env, vals, (43, [a, k1, k2]) :: rest =>
      if vinsArg e nd1 nd2 env a = 0 then interpVins n e nd1 nd2 t f env vals (rest.take k1)
      else interpVins n e nd1 nd2 t f env vals ((rest.drop k1).take k2)
  | f + 1, env, vals, (44, [a, b, k]) :: rest => do
      let x ← rA 0 (vinsArg e nd1 nd2 env a)
      let y ← rA 0 (vinsArg e nd1 nd2 env b)
      vinsWithEndsG (vinsErr k) x y fun v w => interpVins n e nd1 nd2 t f env (vals ++ [v, w]) rest
  | f + 1, env, vals, (45, [a, k]) :: rest => do
      whenP (decide (vinsArg e nd1 nd2 env a ≠ 0)) (interpVins n e nd1 nd2 t f env vals (rest.take k))
      interpVins n e nd1 nd2 t f env vals (rest.drop k)
  | f + 1, env, vals, (46, [0, i, a, b]) :: rest => do
      vinsLinkCall i (vinsArg e nd1 nd2 env a) (vinsArg e nd1 nd2 env b)
      interpVins n e nd1 nd2 t f env vals rest
  | f + 1, env, vals, (46, [1, i, a, _]) :: rest => do
      vinsUnlinkCall i (vinsArg e nd1 nd2 env a)
      interpVins n e nd1 nd2 t f env vals rest
  | f + 1, env, vals, (47, [x, p, q, r, s, u]) :: rest => do
      let _ ← writeVtx (vinsArg e nd1 nd2 env x)
        (vinsPlaceG (vinsVal vals p) (vinsVal vals q) (vinsVal vals r) (vinsVal vals s) (vinsVal vals u) t)
      interpVins n e nd1 nd2 t f env vals rest
  | _, _, _, _ => Prog.panic

theorem vins_bind_unit (p : P Val Unit) : p.bind (fun _ => Prog.ret ()) = p := Prog.bind_unit p

theorem vinsNullOrNotFreeG_eq {X : Type} (d : Nat) : vinsNullOrNotFreeG (X := X) d = nullOrNotFreeTx d := by
  unfold vinsNullOrNotFreeG nullOrNotFreeTx
  rw [C14_gen_isFreeTx]

theorem vinsWithEndsG_eq {α : Type} (x y : Option Val) (k : Val → Val → P Val α) :
    vinsWithEndsG errUndefinedEdge x y k = withEnds x y k := by
  cases x <;> cases y <;> rfl

/-- the written value: with the operands of the source (`average(&v1, &v2)`, `v1 + seg * t`, `seg = v2 - v1`) it is
    the model's `placeVal` -/
theorem vinsPlaceG_eq (v1 v2 : Val) (t : Option Rat) : vinsPlaceG v1 v2 v1 v2 v1 t = placeVal v1 v2 t := by
  cases t <;> rfl

/-- **tie of `insert_vertex_on_edge`** (validation prefix, both arms) -/
theorem C14_gen_insertVertexOnEdge (n e nd1 nd2 : Nat) (t : Option Rat) :
    interpVins n e nd1 nd2 t 64 [] [] Gen.insertVertexOnEdge = insertVertexOnEdge n e nd1 nd2 t := by
  simp only [Gen.insertVertexOnEdge, Gen.vinsMsgs, interpVins, vinsArg, vinsErr, vinsVal, insertVertexOnEdge,
    insertVertexBody1, insertVertexBody2, vinsNullOrNotFreeG_eq, vinsWithEndsG_eq, vinsPlaceG_eq, vinsLinkCall_one, vinsLinkCall_two,
    vinsUnlinkCall_one, vinsUnlinkCall_two, List.drop, List.take, List.getD, List.nil_append, List.cons_append,
    List.getElem?_cons_zero, List.getElem?_cons_succ, Option.getD_some, Nat.reduceSub, Prog.bind_eq, Prog.pure_eq,
    Prog.bind_unit]

/-- **C14 (a) stated on the translated code**: a successful run of the translated `insert_vertex_on_edge` keeps a
    well-formed 2-map well formed (hypotheses as in `C14_insertVertex_preserves_WF`) -/
theorem C14_gen_insertVertex_preserves_WF (m m' : Map Val) (e nd1 nd2 : Nat) (t : Option Rat)
    (hwf : WF 3 m) (he : C01.InUse m e)
    (hl1 : m.unused nd1 = false) (hl2 : m.β 2 e ≠ 0 → m.unused nd2 = false)
    (hend : m.β 1 e ≠ 0 ∨ m.β 2 e ≠ 0)
    (h : run (interpVins m.n e nd1 nd2 t 64 [] [] Gen.insertVertexOnEdge) m = (.ok (), m')) : WF 3 m' := by
  rw [C14_gen_insertVertexOnEdge] at h
  exact C14_insertVertex_preserves_WF m m' e nd1 nd2 t hwf he hl1 hl2 hend h

/-- **C14 (b) stated on the translated code**: a position outside `]0, 1[` is refused with `VertexBound` before
    anything is read or written -/
theorem C14_gen_bound_single (n : Nat) (m : Map Val) (e nd1 nd2 : Nat) (t : Rat) (ht : t ≤ 0 ∨ 1 ≤ t) :
    run (interpVins n e nd1 nd2 (some t) 64 [] [] Gen.insertVertexOnEdge) m = (.err errVertexBound, m) := by
  rw [C14_gen_insertVertexOnEdge]
  exact C14_bound_single n m e nd1 nd2 t ht

/-- a list the interpreter does not understand is a panic, not a silent success -/
example (n e nd1 nd2 : Nat) (t : Option Rat) : interpVins n e nd1 nd2 t 4 [] [] [(43, [])] = Prog.panic := rfl

end HC.GenTie

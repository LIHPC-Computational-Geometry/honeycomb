/-
  C05 — 3-D sew/unsew keep embedded data attached to the right cells.

  What is proved here (for EVERY attribute configuration `cfg`: any number of storages, any laws,
  any registration order; no fault injection, `fc = 0`; model `Model/Ops3.lean` of
  `honeycomb-core/src/cmap/dim3/sews/**`, state of /repo with its `fix:` commits):

  (a) topological effect (`C05_*_topology`, all six operations): a successful `one_sew`,
      `two_sew`, `three_sew` (`one_unsew`, …) changes β exactly as the 3-D `one_link`, the 2-link
      core, `three_link` (…) do, and touches neither flags nor sizes (`SameTopo` with the state the
      link produces); a link / unlink itself never touches a value (`C05_links_keep_data`);
  (b) data placement, relative to the identifiers the operation computes (`vertex_id_transac`,
      `edge_id_transac`, the face orbits; their meaning "smallest dart of the cell" is C03): in
      every storage bound to the cell kind — built-in vertices and user storages alike,
      independently of each other — the new id carries `merge*(old₁, old₂)`, both old ids are
      cleared unless they are the new id, EVERY other slot of EVERY storage is unchanged (frame);
      when both old ids coincide no law is called and the value only moves (`MergedIn.moved`);
      unsews are the mirror image with `split*` (`SplitIn`):
      * `C05_oneSew3_effect`, `C05_oneUnsew3_effect` (the vertex read through β3, else β2; the new
        id is `min` of the two old ones; the split is skipped when both new ids coincide);
      * `C05_twoSew3_free/left/right/both`, `C05_twoUnsew3_effect` (edge ids through the ⟨β2, β3⟩
        orbit, old ids before / new id after the link; the four arms of the 2-sew are those of `twoSewG`,
        proved in Props/C04 for `CMap2` and `CMap3` at once);
      * `C05_threeSew3_effect`: the face merge into `min(lface, rface)`, then the (edge, edge) and
        (vertex, vertex) id pairs collected BEFORE linking (`Collected`: exactly the pairs the code
        records for the zipped face walks), filtered as the code filters (`keepPair`), each merged
        into its `min`, as a chain of `MergedIn` (`MergedPairs`);
      * `C05_threeUnsew3_effect`: the 3-unlink, the face split from `min(lface, rface)`, then for
        each pair of the zipped walks the edge split and the vertex split(s) from the `min` of the
        two ids (`UnsewnPairs`).
  (c) the proviso of the property on a chain of merges (`MergedPairs.spec`,
      `C05_threeSew3_vertices`): when no identifier takes part in two kept pairs, every kept pair
      `(a, b)` ends with `merge*` of the two values held BEFORE the call at `min a b` and nothing
      at `max a b`; identifiers in no pair keep their value.  Refusals of non-mirrorable faces are
      C02 (`C02_refusal_sew`).

  NOT PROVED here (this file speaks of identifiers only):
  * the identification of the ids with cells ("the new cell is the union of the two old cells and
    `min` of the two ids is its id"; for 3-sews: "the collected pairs are exactly the pairs of
    cells united by the 3-link") — Props/C05Cells.lean (1-sew / 1-unsew, every well-formed map; this
    needs the sixth vertex image `β2∘β3` of /repo e8bc83e, finding D13), Props/C05Cells2.lean (2- and 3-sew / unsew on closed faces),
    Props/C05Cells3.lean (3-sew / 3-unsew on open faces); also evaluated by the oracle of
    tools/props/c05.py on the real implementation (cells recomputed independently from the β arrays);
  * that chains of merges touching the SAME cell twice (ring closing; the property's proviso)
    compose to the expected value — the chain itself (`MergedPairs`) is exact, its interpretation
    is not attempted;
  * "unsew succeeds on any sewn dart of a fully embedded mesh": Props/C05Succ.lean (built-in
    vertices), Props/C05SuccLaw.lean (any law that splits the values held).
-/
import Honeycomb.Lemmas.Sew3
import Honeycomb.Props.C04
import Honeycomb.Props.C02

namespace HC.C05
open HC
open HC.C04 (vStores eStores storagesOf_nodup vStores_nodup eStores_nodup run_mergeVertex run_splitVertex
  run_forM_single)
variable {X : Type}

/-- storages bound to faces -/
def fStores (cfg : Cfg X) : List Nat := storagesOf cfg 2

theorem fStores_nodup (cfg : Cfg X) : (fStores cfg).Nodup := storagesOf_nodup cfg 2

/-! ## (a) topological effect -/

/-- **C05 (a)**, 1-sew -/
theorem C05_oneSew3_topology (cfg : Cfg X) (n l r : Nat) (m m' : Map X) (u : Unit)
    (h : run (oneSew3 cfg n l r) m = (.ok u, m')) :
    ∃ m1, run (oneLink3 (X := X) l r) m = (.ok (), m1) ∧ SameTopo m1 m' :=
  oneSew3_topology cfg n l r m m' u h

/-- **C05 (a)**, 2-sew -/
theorem C05_twoSew3_topology (cfg : Cfg X) (n l r : Nat) (m m' : Map X) (u : Unit)
    (h : run (twoSew3 cfg n l r) m = (.ok u, m')) :
    ∃ m1, run (iLinkCore (X := X) 2 l r) m = (.ok (), m1) ∧ SameTopo m1 m' :=
  twoSew3_topology cfg n l r m m' u h

/-- **C05 (a)**, 3-sew -/
theorem C05_threeSew3_topology (cfg : Cfg X) (n ld rd : Nat) (m m' : Map X) (u : Unit)
    (h : run (threeSew3 cfg n ld rd) m = (.ok u, m')) :
    ∃ m1, run (threeLink3 (X := X) n ld rd) m = (.ok (), m1) ∧ SameTopo m1 m' :=
  threeSew3_topology cfg n ld rd m m' u h

/-- **C05 (a)**, 1-unsew -/
theorem C05_oneUnsew3_topology (cfg : Cfg X) (n l : Nat) (m m' : Map X) (u : Unit)
    (h : run (oneUnsew3 cfg n l) m = (.ok u, m')) :
    ∃ m1, run (oneUnlink3 (X := X) l) m = (.ok (), m1) ∧ SameTopo m1 m' :=
  oneUnsew3_topology cfg n l m m' u h

/-- **C05 (a)**, 2-unsew -/
theorem C05_twoUnsew3_topology (cfg : Cfg X) (n l : Nat) (m m' : Map X) (u : Unit)
    (h : run (twoUnsew3 cfg n l) m = (.ok u, m')) :
    ∃ m1, run (iUnlinkCore (X := X) 2 l) m = (.ok (), m1) ∧ SameTopo m1 m' :=
  twoUnsew3_topology cfg n l m m' u h

/-- **C05 (a)**, 3-unsew -/
theorem C05_threeUnsew3_topology (cfg : Cfg X) (n ld : Nat) (m m' : Map X) (u : Unit)
    (h : run (threeUnsew3 cfg n ld) m = (.ok u, m')) :
    ∃ m1, run (threeUnlink3 (X := X) n ld) m = (.ok (), m1) ∧ SameTopo m1 m' :=
  threeUnsew3_topology cfg n ld m m' u h

/-- the links themselves never touch a value: every slot of every storage is as before -/
theorem C05_links_keep_data (n l r : Nat) (m m' : Map X) (u : Unit) :
    (run (oneLink3 (X := X) l r) m = (.ok u, m') → m'.a = m.a) ∧
    (run (iLinkCore (X := X) 2 l r) m = (.ok u, m') → m'.a = m.a) ∧
    (run (threeLink3 (X := X) n l r) m = (.ok u, m') → m'.a = m.a) ∧
    (run (oneUnlink3 (X := X) l) m = (.ok u, m') → m'.a = m.a) ∧
    (run (iUnlinkCore (X := X) 2 l) m = (.ok u, m') → m'.a = m.a) ∧
    (run (threeUnlink3 (X := X) n l) m = (.ok u, m') → m'.a = m.a) :=
  ⟨fun h => ((topoOnly_oneLink3 l r).run_ok h).1, fun h => ((topoOnly_iLinkCore 2 l r).run_ok h).1,
   fun h => ((topoOnly_threeLink3 n l r).run_ok h).1, fun h => ((topoOnly_oneUnlink3 l).run_ok h).1,
   fun h => ((topoOnly_iUnlinkCore 2 l).run_ok h).1, fun h => ((topoOnly_threeUnlink3 n l).run_ok h).1⟩

/-! ## (b) 1-sew / 1-unsew -/

/-- the vertex id `one_sew` reads on the left-hand side: through β3, else through β2, else none -/
def LeftVid (n : Nat) (m : Map X) (l vl : Nat) : Prop :=
  (m.β 3 l ≠ 0 ∧ run (vertexId3 n (m.β 3 l)) m = (.ok vl, m)) ∨
  (m.β 3 l = 0 ∧ m.β 2 l ≠ 0 ∧ run (vertexId3 n (m.β 2 l)) m = (.ok vl, m)) ∨
  (m.β 3 l = 0 ∧ m.β 2 l = 0 ∧ vl = 0)

/-- **C05 (1-sew)**: the vertex on the left-hand side (read through β3, else β2) and the vertex of
    `r` are merged into the smaller of the two ids, in every vertex-bound storage; nothing is
    merged when `l` is 2- and 3-free -/
theorem C05_oneSew3_effect (cfg : Cfg X) (n l r : Nat) (m m' : Map X) (u : Unit) (hfc : m.fc = 0)
    (h : run (oneSew3 cfg n l r) m = (.ok u, m')) :
    ∃ vl vr m1, LeftVid n m l vl ∧ run (vertexId3 n r) m = (.ok vr, m) ∧
      run (oneLink3 (X := X) l r) m = (.ok (), m1) ∧ SameTopo m1 m' ∧
      ((vl = 0 ∧ m' = m1) ∨ (vl ≠ 0 ∧ MergedIn cfg (vStores cfg) (min vr vl) vl vr m1 m')) := by
  unfold oneSew3 at h
  replace h := run_rB_bind_ok h
  replace h := run_rB_bind_ok h
  have tail : ∀ vl, run (do
      let vr ← vertexId3 n r
      oneLink3 l r
      if vl ≠ 0 then do
        let nv := min vr vl
        mergeS cfg 0 nv vl vr
        mergeAttrs cfg 0 nv vl vr
      else pure ()) m = (.ok u, m') →
      ∃ vr m1, run (vertexId3 n r) m = (.ok vr, m) ∧
        run (oneLink3 (X := X) l r) m = (.ok (), m1) ∧ SameTopo m1 m' ∧
        ((vl = 0 ∧ m' = m1) ∨ (vl ≠ 0 ∧ MergedIn cfg (vStores cfg) (min vr vl) vl vr m1 m')) := by
    intro vl h
    obtain ⟨vr, hvr, h⟩ := run_ro_bind_ok (readOnly_vertexId3 _ _) h
    obtain ⟨_, m1, hl, h⟩ := run_bind_ok h
    refine ⟨vr, m1, hvr, hl, ?_⟩
    by_cases hv : vl ≠ 0
    · rw [if_pos hv] at h
      have h : run (forM_ (vStores cfg) (fun s => mergeS cfg s (min vr vl) vl vr)) m1 = (.ok u, m') := h
      have hm := forM_merge_ok cfg (min vr vl) vl vr (vStores cfg) m1 m' u (vStores_nodup cfg)
        ((topoOnly_oneLink3 l r).fc0 hfc hl) h
      exact ⟨hm.topo, Or.inr ⟨hv, hm⟩⟩
    · rw [if_neg hv] at h
      obtain ⟨_, rfl⟩ := run_pure_ok h
      exact ⟨SameTopo.refl _, Or.inl ⟨by omega, rfl⟩⟩
  by_cases c1 : m.β 3 l ≠ 0
  · simp only [if_pos c1] at h
    obtain ⟨vl, hvl, h⟩ := run_ro_bind_ok (readOnly_vertexId3 _ _) h
    obtain ⟨vr, m1, a, b, c, d⟩ := tail vl h
    exact ⟨vl, vr, m1, Or.inl ⟨c1, hvl⟩, a, b, c, d⟩
  · simp only [if_neg c1] at h
    have c1' : m.β 3 l = 0 := by omega
    by_cases c2 : m.β 2 l ≠ 0
    · simp only [if_pos c2] at h
      obtain ⟨vl, hvl, h⟩ := run_ro_bind_ok (readOnly_vertexId3 _ _) h
      obtain ⟨vr, m1, a, b, c, d⟩ := tail vl h
      exact ⟨vl, vr, m1, Or.inr (Or.inl ⟨c1', c2, hvl⟩), a, b, c, d⟩
    · simp only [if_neg c2] at h
      obtain ⟨vl, hvl, h⟩ := run_ro_bind_ok (ReadOnly.pure _) h
      obtain ⟨hvl0, _⟩ := run_pure_ok hvl
      obtain ⟨vr, m1, a, b, c, d⟩ := tail vl h
      exact ⟨vl, vr, m1, Or.inr (Or.inr ⟨c1', by omega, hvl0⟩), a, b, c, d⟩

/-- **C05 (1-unsew)**: after the 3-D 1-unlink, when `l` is still 2- or 3-linked, the old vertex
    value is split between the vertex on the left-hand side (read through β2, else β3) and the
    vertex of `r = β1 l`, in every vertex-bound storage — unless both are still the same vertex,
    in which case nothing is touched -/
theorem C05_oneUnsew3_effect (cfg : Cfg X) (n l : Nat) (m m' : Map X) (u : Unit) (hfc : m.fc = 0)
    (h : run (oneUnsew3 cfg n l) m = (.ok u, m')) :
    ∃ vold m1, run (vertexId3 n (m.β 1 l)) m = (.ok vold, m) ∧
      run (oneUnlink3 (X := X) l) m = (.ok (), m1) ∧ SameTopo m1 m' ∧
      ((m1.β 2 l = 0 ∧ m1.β 3 l = 0 ∧ m' = m1) ∨
       (¬ (m1.β 2 l = 0 ∧ m1.β 3 l = 0) ∧ ∃ vl vr,
          run (vertexId3 n (if m1.β 2 l ≠ 0 then m1.β 2 l else m1.β 3 l)) m1 = (.ok vl, m1) ∧
          run (vertexId3 n (m.β 1 l)) m1 = (.ok vr, m1) ∧
          ((vl = vr ∧ m' = m1) ∨ (vl ≠ vr ∧ SplitIn cfg (vStores cfg) vl vr vold m1 m')))) := by
  unfold oneUnsew3 at h
  replace h := run_rB_bind_ok h
  obtain ⟨vold, hvold, h⟩ := run_ro_bind_ok (readOnly_vertexId3 _ _) h
  obtain ⟨_, m1, hl, h⟩ := run_bind_ok h
  refine ⟨vold, m1, hvold, hl, ?_⟩
  replace h := run_rB_bind_ok h
  replace h := run_rB_bind_ok h
  by_cases c : m1.β 2 l = 0 ∧ m1.β 3 l = 0
  · rw [if_pos c] at h
    obtain ⟨_, rfl⟩ := run_pure_ok h
    exact ⟨SameTopo.refl _, Or.inl ⟨c.1, c.2, rfl⟩⟩
  · rw [if_neg c] at h
    obtain ⟨vl, hvl, h⟩ := run_ro_bind_ok (readOnly_vertexId3 _ _) h
    obtain ⟨vr, hvr, h⟩ := run_ro_bind_ok (readOnly_vertexId3 _ _) h
    by_cases hv : vl ≠ vr
    · rw [if_pos hv] at h
      have h : run (forM_ (vStores cfg) (fun s => splitS cfg s vl vr vold)) m1 = (.ok u, m') := h
      have hm := forM_split_ok cfg vl vr vold (vStores cfg) m1 m' u (vStores_nodup cfg)
        ((topoOnly_oneUnlink3 l).fc0 hfc hl) h
      exact ⟨hm.topo, Or.inr ⟨c, vl, vr, hvl, hvr, Or.inr ⟨hv, hm⟩⟩⟩
    · rw [if_neg hv] at h
      obtain ⟨_, rfl⟩ := run_pure_ok h
      exact ⟨SameTopo.refl _, Or.inr ⟨c, vl, vr, hvl, hvr, Or.inl ⟨by omega, rfl⟩⟩⟩


/-! ## (b) 2-sew -/

/-- **C05 (2-sew, both darts 1-free)**: only the edge storages are merged: old edge ids before the
    link, new edge id after it -/
theorem C05_twoSew3_free (cfg : Cfg X) (n l r : Nat) (m m' : Map X) (u : Unit) (hfc : m.fc = 0)
    (hl0 : m.β 1 l = 0) (hr0 : m.β 1 r = 0)
    (h : run (twoSew3 cfg n l r) m = (.ok u, m')) :
    ∃ el er m1 en, run (edgeId3 n l) m = (.ok el, m) ∧ run (edgeId3 n r) m = (.ok er, m) ∧
      run (iLinkCore (X := X) 2 l r) m = (.ok (), m1) ∧ run (edgeId3 n l) m1 = (.ok en, m1) ∧
      MergedIn cfg (eStores cfg) en el er m1 m' := by
  rw [twoSew3_eq] at h
  exact C04.twoSewG_free (vid := vertexId3 n) (readOnly_edgeId3 n) (readOnly_edgeId3 n) cfg l r m m' u hfc hl0 hr0 h

/-- **C05 (2-sew, one vertex to merge)**: `l` is 1-free, `r` is not: the vertex of `l` and the
    vertex of `β1 r` are merged into the new vertex id of `l`, then the edge storages -/
theorem C05_twoSew3_left (cfg : Cfg X) (n l r : Nat) (m m' : Map X) (u : Unit) (hfc : m.fc = 0)
    (hl0 : m.β 1 l = 0) (hr0 : m.β 1 r ≠ 0)
    (h : run (twoSew3 cfg n l r) m = (.ok u, m')) :
    ∃ el er lv b1rv m1 lvn en ma,
      run (edgeId3 n l) m = (.ok el, m) ∧ run (edgeId3 n r) m = (.ok er, m) ∧
      run (vertexId3 n l) m = (.ok lv, m) ∧ run (vertexId3 n (m.β 1 r)) m = (.ok b1rv, m) ∧
      run (iLinkCore (X := X) 2 l r) m = (.ok (), m1) ∧
      run (vertexId3 n l) m1 = (.ok lvn, m1) ∧ run (edgeId3 n l) m1 = (.ok en, m1) ∧
      MergedIn cfg (vStores cfg) lvn lv b1rv m1 ma ∧ MergedIn cfg (eStores cfg) en el er ma m' := by
  rw [twoSew3_eq] at h
  exact C04.twoSewOne_ok (readOnly_vertexId3 n) (readOnly_edgeId3 n) (readOnly_edgeId3 n) cfg _ _ _ _ _ m m' u hfc
    (C04.twoSewG_left cfg l r m m' u hl0 hr0 h)

/-- **C05 (2-sew, one vertex to merge)**, mirror case: `r` is 1-free, `l` is not -/
theorem C05_twoSew3_right (cfg : Cfg X) (n l r : Nat) (m m' : Map X) (u : Unit) (hfc : m.fc = 0)
    (hl0 : m.β 1 l ≠ 0) (hr0 : m.β 1 r = 0)
    (h : run (twoSew3 cfg n l r) m = (.ok u, m')) :
    ∃ el er b1lv rv m1 rvn en ma,
      run (edgeId3 n l) m = (.ok el, m) ∧ run (edgeId3 n r) m = (.ok er, m) ∧
      run (vertexId3 n (m.β 1 l)) m = (.ok b1lv, m) ∧ run (vertexId3 n r) m = (.ok rv, m) ∧
      run (iLinkCore (X := X) 2 l r) m = (.ok (), m1) ∧
      run (vertexId3 n r) m1 = (.ok rvn, m1) ∧ run (edgeId3 n l) m1 = (.ok en, m1) ∧
      MergedIn cfg (vStores cfg) rvn b1lv rv m1 ma ∧ MergedIn cfg (eStores cfg) en el er ma m' := by
  rw [twoSew3_eq] at h
  exact C04.twoSewOne_ok (readOnly_vertexId3 n) (readOnly_edgeId3 n) (readOnly_edgeId3 n) cfg _ _ _ _ _ m m' u hfc
    (C04.twoSewG_right cfg l r m m' u hl0 hr0 h)

/-- **C05 (2-sew, both vertices to merge)**: both darts have a successor.  The orientation test
    passed (or was skipped because a coordinate is missing); the two vertex merges, then the edge
    merge, are applied — in the order of the code: built-in vertices (both ends), user vertex
    storages (both ends), edge storages. -/
theorem C05_twoSew3_both (cfg : Cfg X) (n l r : Nat) (m m' : Map X) (u : Unit) (hfc : m.fc = 0)
    (hl0 : m.β 1 l ≠ 0) (hr0 : m.β 1 r ≠ 0)
    (h : run (twoSew3 cfg n l r) m = (.ok u, m')) :
    ∃ el er lv b1rv b1lv rv m1 lvn rvn en ma mb mc md,
      run (edgeId3 n l) m = (.ok el, m) ∧ run (edgeId3 n r) m = (.ok er, m) ∧
      run (vertexId3 n l) m = (.ok lv, m) ∧ run (vertexId3 n (m.β 1 r)) m = (.ok b1rv, m) ∧
      run (vertexId3 n (m.β 1 l)) m = (.ok b1lv, m) ∧ run (vertexId3 n r) m = (.ok rv, m) ∧
      badPair cfg (m.att 0 lv) (m.att 0 b1rv) (m.att 0 b1lv) (m.att 0 rv) = false ∧
      run (iLinkCore (X := X) 2 l r) m = (.ok (), m1) ∧
      run (vertexId3 n l) m1 = (.ok lvn, m1) ∧ run (vertexId3 n r) m1 = (.ok rvn, m1) ∧
      run (edgeId3 n l) m1 = (.ok en, m1) ∧
      MergedIn cfg [0] lvn lv b1rv m1 ma ∧ MergedIn cfg [0] rvn b1lv rv ma mb ∧
      MergedIn cfg (storagesOf cfg 0) lvn lv b1rv mb mc ∧ MergedIn cfg (storagesOf cfg 0) rvn b1lv rv mc md ∧
      MergedIn cfg (eStores cfg) en el er md m' := by
  rw [twoSew3_eq] at h
  exact C04.twoSewG_both (readOnly_vertexId3 n) (readOnly_edgeId3 n) (readOnly_edgeId3 n) cfg l r m m' u hfc hl0 hr0 h

/-! ## (b) 2-unsew -/

/-- **C05 (2-unsew)**: the four cases of `two_unsew`.  The topology changes exactly as the 2-unlink
    does; the edge storages split the old edge id into the two new edge ids (of `l` and of
    `r = β2 l`, recomputed after the unlink: the edges may still be joined through β3); then the
    vertex of `l` (when `r` has a successor) and the vertex of `r` (when `l` has one) are split, in
    every vertex-bound storage. -/
theorem C05_twoUnsew3_effect (cfg : Cfg X) (n l : Nat) (m m' : Map X) (u : Unit) (hfc : m.fc = 0)
    (h : run (twoUnsew3 cfg n l) m = (.ok u, m')) :
    ∃ eold m1 enl enr me,
      run (edgeId3 n l) m = (.ok eold, m) ∧
      run (iUnlinkCore (X := X) 2 l) m = (.ok (), m1) ∧
      run (edgeId3 n l) m1 = (.ok enl, m1) ∧ run (edgeId3 n (m.β 2 l)) m1 = (.ok enr, m1) ∧
      SplitIn cfg (eStores cfg) enl enr eold m1 me ∧ SameTopo m1 m' ∧
      ((m.β 1 l = 0 ∧ m.β 1 (m.β 2 l) = 0 ∧ m' = me) ∨
       (m.β 1 l = 0 ∧ m.β 1 (m.β 2 l) ≠ 0 ∧ ∃ lvold a b,
          run (vertexId3 n l) m = (.ok lvold, m) ∧
          run (vertexId3 n l) me = (.ok a, me) ∧ run (vertexId3 n (m.β 1 (m.β 2 l))) me = (.ok b, me) ∧
          SplitIn cfg (vStores cfg) a b lvold me m') ∨
       (m.β 1 l ≠ 0 ∧ m.β 1 (m.β 2 l) = 0 ∧ ∃ rvold a b,
          run (vertexId3 n (m.β 2 l)) m = (.ok rvold, m) ∧
          run (vertexId3 n (m.β 1 l)) me = (.ok a, me) ∧ run (vertexId3 n (m.β 2 l)) me = (.ok b, me) ∧
          SplitIn cfg (vStores cfg) a b rvold me m') ∨
       (m.β 1 l ≠ 0 ∧ m.β 1 (m.β 2 l) ≠ 0 ∧ ∃ lvold rvold a b c d ma mb mc,
          run (vertexId3 n l) m = (.ok lvold, m) ∧ run (vertexId3 n (m.β 2 l)) m = (.ok rvold, m) ∧
          run (vertexId3 n l) me = (.ok a, me) ∧ run (vertexId3 n (m.β 1 (m.β 2 l))) me = (.ok b, me) ∧
          run (vertexId3 n (m.β 1 l)) me = (.ok c, me) ∧ run (vertexId3 n (m.β 2 l)) me = (.ok d, me) ∧
          SplitIn cfg [0] a b lvold me ma ∧ SplitIn cfg [0] c d rvold ma mb ∧
          SplitIn cfg (storagesOf cfg 0) a b lvold mb mc ∧ SplitIn cfg (storagesOf cfg 0) c d rvold mc m')) := by
  unfold twoUnsew3 at h
  replace h := run_rB_bind_ok h
  replace h := run_rB_bind_ok h
  replace h := run_rB_bind_ok h
  by_cases c1 : m.β 1 l = 0 ∧ m.β 1 (m.β 2 l) = 0
  · rw [if_pos c1] at h
    obtain ⟨eold, he, h⟩ := run_ro_bind_ok (readOnly_edgeId3 _ _) h
    obtain ⟨_, m1, hl, h⟩ := run_bind_ok h
    have hfc1 : m1.fc = 0 := (topoOnly_iUnlinkCore 2 l).fc0 hfc hl
    obtain ⟨enl, henl, h⟩ := run_ro_bind_ok (readOnly_edgeId3 _ _) h
    obtain ⟨enr, henr, h⟩ := run_ro_bind_ok (readOnly_edgeId3 _ _) h
    have h : run (forM_ (eStores cfg) (fun s => splitS cfg s enl enr eold)) m1 = (.ok u, m') := h
    have hE := forM_split_ok cfg enl enr eold _ m1 m' u (eStores_nodup cfg) hfc1 h
    exact ⟨eold, m1, enl, enr, m', he, hl, henl, henr, hE, hE.topo, Or.inl ⟨c1.1, c1.2, rfl⟩⟩
  · rw [if_neg c1] at h
    by_cases c2 : m.β 1 l = 0
    · rw [if_pos c2] at h
      have c2' : m.β 1 (m.β 2 l) ≠ 0 := fun hh => c1 ⟨c2, hh⟩
      obtain ⟨eold, he, h⟩ := run_ro_bind_ok (readOnly_edgeId3 _ _) h
      obtain ⟨lvold, hlv, h⟩ := run_ro_bind_ok (readOnly_vertexId3 _ _) h
      obtain ⟨_, m1, hl, h⟩ := run_bind_ok h
      have hfc1 : m1.fc = 0 := (topoOnly_iUnlinkCore 2 l).fc0 hfc hl
      obtain ⟨enl, henl, h⟩ := run_ro_bind_ok (readOnly_edgeId3 _ _) h
      obtain ⟨enr, henr, h⟩ := run_ro_bind_ok (readOnly_edgeId3 _ _) h
      obtain ⟨_, me, hE0, h⟩ := run_bind_ok h
      have hE := forM_split_ok cfg enl enr eold _ m1 me () (eStores_nodup cfg) hfc1 hE0
      have hfce : me.fc = 0 := by rw [hE.fc]; exact hfc1
      obtain ⟨a, ha, h⟩ := run_ro_bind_ok (readOnly_vertexId3 _ _) h
      obtain ⟨b, hb2, h⟩ := run_ro_bind_ok (readOnly_vertexId3 _ _) h
      have h : run (forM_ (vStores cfg) (fun s => splitS cfg s a b lvold)) me = (.ok u, m') := h
      have hV := forM_split_ok cfg a b lvold _ me m' u (vStores_nodup cfg) hfce h
      exact ⟨eold, m1, enl, enr, me, he, hl, henl, henr, hE, hE.topo.trans hV.topo,
        Or.inr (Or.inl ⟨c2, c2', lvold, a, b, hlv, ha, hb2, hV⟩)⟩
    · rw [if_neg c2] at h
      by_cases c3 : m.β 1 (m.β 2 l) = 0
      · rw [if_pos c3] at h
        obtain ⟨eold, he, h⟩ := run_ro_bind_ok (readOnly_edgeId3 _ _) h
        obtain ⟨rvold, hrv, h⟩ := run_ro_bind_ok (readOnly_vertexId3 _ _) h
        obtain ⟨_, m1, hl, h⟩ := run_bind_ok h
        have hfc1 : m1.fc = 0 := (topoOnly_iUnlinkCore 2 l).fc0 hfc hl
        obtain ⟨enl, henl, h⟩ := run_ro_bind_ok (readOnly_edgeId3 _ _) h
        obtain ⟨enr, henr, h⟩ := run_ro_bind_ok (readOnly_edgeId3 _ _) h
        obtain ⟨_, me, hE0, h⟩ := run_bind_ok h
        have hE := forM_split_ok cfg enl enr eold _ m1 me () (eStores_nodup cfg) hfc1 hE0
        have hfce : me.fc = 0 := by rw [hE.fc]; exact hfc1
        obtain ⟨a, ha, h⟩ := run_ro_bind_ok (readOnly_vertexId3 _ _) h
        obtain ⟨b, hb2, h⟩ := run_ro_bind_ok (readOnly_vertexId3 _ _) h
        have h : run (forM_ (vStores cfg) (fun s => splitS cfg s a b rvold)) me = (.ok u, m') := h
        have hV := forM_split_ok cfg a b rvold _ me m' u (vStores_nodup cfg) hfce h
        exact ⟨eold, m1, enl, enr, me, he, hl, henl, henr, hE, hE.topo.trans hV.topo,
          Or.inr (Or.inr (Or.inl ⟨c2, c3, rvold, a, b, hrv, ha, hb2, hV⟩))⟩
      · rw [if_neg c3] at h
        obtain ⟨eold, he, h⟩ := run_ro_bind_ok (readOnly_edgeId3 _ _) h
        obtain ⟨lvold, hlv, h⟩ := run_ro_bind_ok (readOnly_vertexId3 _ _) h
        obtain ⟨rvold, hrv, h⟩ := run_ro_bind_ok (readOnly_vertexId3 _ _) h
        obtain ⟨_, m1, hl, h⟩ := run_bind_ok h
        have hfc1 : m1.fc = 0 := (topoOnly_iUnlinkCore 2 l).fc0 hfc hl
        obtain ⟨enl, henl, h⟩ := run_ro_bind_ok (readOnly_edgeId3 _ _) h
        obtain ⟨enr, henr, h⟩ := run_ro_bind_ok (readOnly_edgeId3 _ _) h
        obtain ⟨_, me, hE0, h⟩ := run_bind_ok h
        have hE := forM_split_ok cfg enl enr eold _ m1 me () (eStores_nodup cfg) hfc1 hE0
        have hfce : me.fc = 0 := by rw [hE.fc]; exact hfc1
        obtain ⟨a, ha, h⟩ := run_ro_bind_ok (readOnly_vertexId3 _ _) h
        obtain ⟨b, hb2, h⟩ := run_ro_bind_ok (readOnly_vertexId3 _ _) h
        obtain ⟨c, hc, h⟩ := run_ro_bind_ok (readOnly_vertexId3 _ _) h
        obtain ⟨d, hd, h⟩ := run_ro_bind_ok (readOnly_vertexId3 _ _) h
        obtain ⟨_, mA, hA, h⟩ := run_bind_ok h
        obtain ⟨_, mB, hB, h⟩ := run_bind_ok h
        obtain ⟨_, mC, hC, h⟩ := run_bind_ok h
        have nd0 : ([0] : List Nat).Nodup := by simp
        have rA' := forM_split_ok cfg a b lvold [0] me mA () nd0 hfce (by rw [run_forM_single]; exact hA)
        have fA : mA.fc = 0 := by rw [rA'.fc]; exact hfce
        have rB' := forM_split_ok cfg c d rvold [0] mA mB () nd0 fA (by rw [run_forM_single]; exact hB)
        have fB : mB.fc = 0 := by rw [rB'.fc]; exact fA
        have rC' := forM_split_ok cfg a b lvold _ mB mC () (storagesOf_nodup cfg 0) fB hC
        have fC : mC.fc = 0 := by rw [rC'.fc]; exact fB
        have rD' := forM_split_ok cfg c d rvold _ mC m' u (storagesOf_nodup cfg 0) fC h
        exact ⟨eold, m1, enl, enr, me, he, hl, henl, henr, hE,
          (((hE.topo.trans rA'.topo).trans rB'.topo).trans rC'.topo).trans rD'.topo,
          Or.inr (Or.inr (Or.inr ⟨c2, c3, lvold, rvold, a, b, c, d, mA, mB, mC, hlv, hrv, ha, hb2, hc, hd,
            rA', rB', rC', rD'⟩))⟩


/-! ## (b) 3-sew -/

/-- successive merges of id pairs, each into the smaller of its two ids, in every storage of `ss`
    (the `for (a, b) in pairs.filter(..) { merge(min(a, b), a, b) }` loops of `three_sew`) -/
inductive MergedPairs (cfg : Cfg X) (ss : List Nat) : List (Nat × Nat) → Map X → Map X → Prop
  | nil (m : Map X) : MergedPairs cfg ss [] m m
  | cons {p : Nat × Nat} {ps : List (Nat × Nat)} {m m1 m' : Map X} :
      MergedIn cfg ss (min p.1 p.2) p.1 p.2 m m1 → MergedPairs cfg ss ps m1 m' →
      MergedPairs cfg ss (p :: ps) m m'

theorem MergedPairs.topo {cfg : Cfg X} {ss : List Nat} {ps : List (Nat × Nat)} {m m' : Map X}
    (h : MergedPairs cfg ss ps m m') : SameTopo m m' ∧ m'.fc = m.fc := by
  induction h with
  | nil m => exact ⟨SameTopo.refl _, rfl⟩
  | cons h1 _ ih => exact ⟨h1.topo.trans ih.1, by rw [ih.2, h1.fc]⟩

theorem forM_pairs_ok (cfg : Cfg X) (ss : List Nat) (hnd : ss.Nodup) :
    ∀ (ps : List (Nat × Nat)) (m m' : Map X) (u : Unit), m.fc = 0 →
      run (forM_ ps (fun p => forM_ ss (fun s => mergeS cfg s (min p.1 p.2) p.1 p.2))) m = (.ok u, m') →
      MergedPairs cfg ss ps m m' := by
  intro ps
  induction ps with
  | nil =>
      intro m m' u _ h
      obtain ⟨_, rfl⟩ := run_pure_ok h
      exact MergedPairs.nil _
  | cons p ps ih =>
      intro m m' u hfc h
      unfold forM_ at h
      obtain ⟨_, m1, h1, h2⟩ := run_bind_ok h
      have hm := forM_merge_ok cfg (min p.1 p.2) p.1 p.2 ss m m1 () hnd hfc h1
      exact MergedPairs.cons hm (ih m1 m' u (by rw [hm.fc]; exact hfc) h2)

/-- the id pairs `three_sew` records for one pair `(l, r)` of the zipped face walks, computed on
    the map BEFORE the link: the two edge ids; the vertex of the head of `l` (`β1 l`, else `β2 l`)
    with the vertex of `r`; and, when `l` starts an open face (`β0 l = 0`), the vertex of `l` with
    the vertex of the head of `r` -/
def PairIds (n : Nat) (m : Map X) (l r : Nat) (es vs : List (Nat × Nat)) : Prop :=
  ∃ el er v1 v2, run (edgeId3 n l) m = (.ok el, m) ∧ run (edgeId3 n r) m = (.ok er, m) ∧
    run (vertexId3 n (if m.β 1 l = 0 then m.β 2 l else m.β 1 l)) m = (.ok v1, m) ∧
    run (vertexId3 n r) m = (.ok v2, m) ∧ es = [(el, er)] ∧
    ((m.β 0 l ≠ 0 ∧ vs = [(v1, v2)]) ∨
     (m.β 0 l = 0 ∧ ∃ v3 v4, run (vertexId3 n l) m = (.ok v3, m) ∧
        run (vertexId3 n (if m.β 1 r = 0 then m.β 2 r else m.β 1 r)) m = (.ok v4, m) ∧
        vs = [(v1, v2), (v3, v4)]))

/-- the lists collected over the zipped face walks -/
inductive Collected (n : Nat) (m : Map X) : List (Nat × Nat) → List (Nat × Nat) → List (Nat × Nat) → Prop
  | nil : Collected n m [] [] []
  | cons {l r : Nat} {rest es vs es' vs' : List (Nat × Nat)} :
      PairIds n m l r es vs → Collected n m rest es' vs' → Collected n m ((l, r) :: rest) (es ++ es') (vs ++ vs')

theorem threeSewCollect_ok (n : Nat) (m : Map X) :
    ∀ (ps es0 vs0 es vs : List (Nat × Nat)) (m' : Map X),
      run (threeSewCollect n ps es0 vs0) m = (.ok (es, vs), m') →
      ∃ es1 vs1, Collected n m ps es1 vs1 ∧ es = es0 ++ es1 ∧ vs = vs0 ++ vs1 := by
  intro ps
  induction ps with
  | nil =>
      intro es0 vs0 es vs m' h
      obtain ⟨hp, _⟩ := run_pure_ok h
      simp only [Prod.mk.injEq] at hp
      exact ⟨[], [], Collected.nil, by simp [hp.1], by simp [hp.2]⟩
  | cons p rest ih =>
      intro es0 vs0 es vs m' h
      obtain ⟨l, r⟩ := p
      unfold threeSewCollect at h
      obtain ⟨el, hel, h⟩ := run_ro_bind_ok (readOnly_edgeId3 _ _) h
      obtain ⟨er, her, h⟩ := run_ro_bind_ok (readOnly_edgeId3 _ _) h
      replace h := run_rB_bind_ok h
      replace h := run_rB_bind_ok h
      obtain ⟨v1, hv1, h⟩ := run_ro_bind_ok (readOnly_vertexId3 _ _) h
      obtain ⟨v2, hv2, h⟩ := run_ro_bind_ok (readOnly_vertexId3 _ _) h
      replace h := run_rB_bind_ok h
      by_cases c : m.β 0 l = 0
      · rw [if_pos c] at h
        replace h := run_rB_bind_ok h
        replace h := run_rB_bind_ok h
        obtain ⟨v3, hv3, h⟩ := run_ro_bind_ok (readOnly_vertexId3 _ _) h
        obtain ⟨v4, hv4, h⟩ := run_ro_bind_ok (readOnly_vertexId3 _ _) h
        obtain ⟨es1, vs1, hC, e1, e2⟩ := ih _ _ es vs m' h
        refine ⟨[(el, er)] ++ es1, [(v1, v2), (v3, v4)] ++ vs1, Collected.cons ?_ hC, ?_, ?_⟩
        · exact ⟨el, er, v1, v2, hel, her, hv1, hv2, rfl, Or.inr ⟨c, v3, v4, hv3, hv4, rfl⟩⟩
        · rw [e1, List.append_assoc]
        · rw [e2, List.append_assoc]
      · rw [if_neg c] at h
        obtain ⟨es1, vs1, hC, e1, e2⟩ := ih _ _ es vs m' h
        refine ⟨[(el, er)] ++ es1, [(v1, v2)] ++ vs1, Collected.cons ?_ hC, ?_, ?_⟩
        · exact ⟨el, er, v1, v2, hel, her, hv1, hv2, rfl, Or.inl ⟨c, rfl⟩⟩
        · rw [e1, List.append_assoc]
        · rw [e2, List.append_assoc]

/-- **C05 (3-sew)**: the two face orbits and the id pairs are read on the map BEFORE the link; the
    orientation test passed (or was skipped); the topology changes exactly as `three_link` does;
    then the face storages merge the two face ids into the smaller one, the edge storages merge
    every kept (edge, edge) pair, the vertex storages every kept (vertex, vertex) pair — each into
    the smaller id of the pair, in the order collected -/
theorem C05_threeSew3_effect (cfg : Cfg X) (n ld rd : Nat) (m m' : Map X) (u : Unit) (hfc : m.fc = 0)
    (h : run (threeSew3 cfg n ld rd) m = (.ok u, m')) :
    ∃ lo ro es vs m1 mf me,
      run (faceOrbits3 n ld rd) m = (.ok (lo, ro), m) ∧ Collected n m (lo.zip ro) es vs ∧
      run (threeLink3 (X := X) n ld rd) m = (.ok (), m1) ∧
      MergedIn cfg (fStores cfg) (min (listMin lo ld) (listMin ro rd)) (listMin lo ld) (listMin ro rd) m1 mf ∧
      MergedPairs cfg (eStores cfg) (es.filter keepPair) mf me ∧
      MergedPairs cfg (vStores cfg) (vs.filter keepPair) me m' ∧ SameTopo m1 m' := by
  unfold threeSew3 at h
  obtain ⟨⟨lo, ro⟩, hfo, h⟩ := run_ro_bind_ok (readOnly_faceOrbits3 _ _ _) h
  simp only [] at h
  obtain ⟨⟨edges, verts⟩, hcol, h⟩ := run_ro_bind_ok (readOnly_threeSewCollect _ _ _ _) h
  simp only [] at h
  obtain ⟨b1l, _, h⟩ := run_ro_bind_ok (ReadOnly.rB _ _) h
  obtain ⟨b2l, _, h⟩ := run_ro_bind_ok (ReadOnly.rB _ _) h
  obtain ⟨b1r, _, h⟩ := run_ro_bind_ok (ReadOnly.rB _ _) h
  obtain ⟨b2r, _, h⟩ := run_ro_bind_ok (ReadOnly.rB _ _) h
  obtain ⟨vl, _, h⟩ := run_ro_bind_ok (readOnly_vertexId3 _ _) h
  obtain ⟨vr, _, h⟩ := run_ro_bind_ok (readOnly_vertexId3 _ _) h
  obtain ⟨vb1l, _, h⟩ := run_ro_bind_ok (readOnly_vertexId3 _ _) h
  obtain ⟨vb1r, _, h⟩ := run_ro_bind_ok (readOnly_vertexId3 _ _) h
  obtain ⟨pl, _, h⟩ := run_ro_bind_ok (ReadOnly.rA _ _) h
  obtain ⟨pb1r, _, h⟩ := run_ro_bind_ok (ReadOnly.rA _ _) h
  obtain ⟨pb1l, _, h⟩ := run_ro_bind_ok (ReadOnly.rA _ _) h
  obtain ⟨pr, _, h⟩ := run_ro_bind_ok (ReadOnly.rA _ _) h
  try simp only [] at h
  obtain ⟨_, h⟩ := run_ite_abort_ok h
  obtain ⟨_, m1, hl, h⟩ := run_bind_ok h
  obtain ⟨_, mf, hF, h⟩ := run_bind_ok h
  obtain ⟨_, me, hE, h⟩ := run_bind_ok h
  obtain ⟨es1, vs1, hC, e1, e2⟩ := threeSewCollect_ok n m _ _ _ _ _ _ hcol
  simp only [List.nil_append] at e1 e2
  subst e1 e2
  have hfc1 : m1.fc = 0 := (topoOnly_threeLink3 n ld rd).fc0 hfc hl
  have hF' := forM_merge_ok cfg _ _ _ (fStores cfg) m1 mf () (fStores_nodup cfg) hfc1 hF
  have hfcf : mf.fc = 0 := by rw [hF'.fc]; exact hfc1
  have hE' := forM_pairs_ok cfg (eStores cfg) (eStores_nodup cfg) _ mf me () hfcf hE
  have hfce : me.fc = 0 := by rw [hE'.topo.2]; exact hfcf
  have hV' := forM_pairs_ok cfg (vStores cfg) (vStores_nodup cfg) _ me m' u hfce h
  exact ⟨lo, ro, edges, verts, m1, mf, me, hfo, hC, hl, hF', hE', hV',
    (hF'.topo.trans hE'.topo.1).trans hV'.topo.1⟩

theorem MergedPairs.other {cfg : Cfg X} {ss : List Nat} {ps : List (Nat × Nat)} {m m' : Map X}
    (h : MergedPairs cfg ss ps m m') : ∀ t e, t ∉ ss → m'.att t e = m.att t e := by
  induction h with
  | nil m => exact fun _ _ _ => rfl
  | cons h1 _ ih => intro t e ht; rw [ih t e ht, h1.other t e ht]

theorem storagesOf_kind {cfg : Cfg X} {k t : Nat} (h : t ∈ storagesOf cfg k) : t ≠ 0 ∧ cfg.kinds.getD t 4 = k := by
  unfold storagesOf at h
  have := (List.mem_filter.1 h).2
  simpa using this

/-- storages bound to different kinds are different -/
theorem stores_disjoint {cfg : Cfg X} {k k' t : Nat} (hk : k ≠ k') (h : t ∈ storagesOf cfg k) :
    t ∉ storagesOf cfg k' := by
  intro h'
  have a := (storagesOf_kind h).2
  have b := (storagesOf_kind h').2
  rw [a] at b
  exact hk b

/-- vertex-bound storages are bound neither to faces nor to edges -/
theorem vStores_sep (cfg : Cfg X) {t : Nat} (ht : t ∈ vStores cfg) : t ∉ fStores cfg ∧ t ∉ eStores cfg := by
  rcases List.mem_cons.1 (show t ∈ 0 :: storagesOf cfg 0 from ht) with rfl | ht'
  · exact ⟨fun h => (storagesOf_kind h).1 rfl, fun h => (storagesOf_kind h).1 rfl⟩
  · exact ⟨stores_disjoint (by decide) ht', stores_disjoint (by decide) ht'⟩

/-- id pairs that share no identifier (`Cell3.Far Eq`, `Lemmas/Cell3b.lean`, written out) -/
def Disj (p q : Nat × Nat) : Prop := p.1 ≠ q.1 ∧ p.1 ≠ q.2 ∧ p.2 ≠ q.1 ∧ p.2 ≠ q.2

/-- **C05 (the property's proviso, on the chain)**: when no identifier takes part in two merges of
    the chain, every pair `(a, b)` ends with `merge*` of the two values held BEFORE the chain at
    `min a b`, the other identifier empty; identifiers that are in no pair, and storages outside
    `ss`, are untouched -/
theorem MergedPairs.spec {cfg : Cfg X} {ss : List Nat} {ps : List (Nat × Nat)} {m m' : Map X}
    (h : MergedPairs cfg ss ps m m') (hd : ps.Pairwise Disj) (hk : ∀ p, p ∈ ps → p.1 ≠ p.2) :
    (∀ p, p ∈ ps → ∀ t, t ∈ ss → ∃ v, mergeVal (cfg.law t) (m.att t p.1) (m.att t p.2) = .ok v ∧
        m'.att t (min p.1 p.2) = some v ∧ m'.att t (max p.1 p.2) = none) ∧
    (∀ t e, (∀ p, p ∈ ps → e ≠ p.1 ∧ e ≠ p.2) → m'.att t e = m.att t e) ∧
    (∀ t e, t ∉ ss → m'.att t e = m.att t e) := by
  induction h with
  | nil m => exact ⟨fun p hp => absurd hp (by simp), fun _ _ _ => rfl, fun _ _ _ => rfl⟩
  | @cons p ps m m1 m' h1 _ ih =>
      have hd' := List.pairwise_cons.1 hd
      obtain ⟨ih1, ih2, ih3⟩ := ih hd'.2 (fun q hq => hk q (by simp [hq]))
      have hpk : p.1 ≠ p.2 := hk p (by simp)
      -- the ids of `p` are in no later pair
      have later : ∀ e, (e = p.1 ∨ e = p.2) → ∀ q, q ∈ ps → e ≠ q.1 ∧ e ≠ q.2 := by
        intro e he q hq
        have := hd'.1 q hq
        rcases he with rfl | rfl
        · exact ⟨this.1, this.2.1⟩
        · exact ⟨this.2.2.1, this.2.2.2⟩
      refine ⟨?_, ?_, ?_⟩
      · intro q hq t ht
        rcases List.mem_cons.1 hq with rfl | hq'
        · obtain ⟨v, hv1, hv2⟩ := h1.merged hpk t ht
          refine ⟨v, hv1, ?_, ?_⟩
          · rw [ih2 t _ (later _ (by omega)), hv2]
          · rw [ih2 t _ (later _ (by omega))]
            exact h1.cleared t _ ht (by omega) (by omega)
        · obtain ⟨v, hv1, hv2, hv3⟩ := ih1 q hq' t ht
          obtain ⟨d1, d2, d3, d4⟩ := hd'.1 q hq'
          refine ⟨v, ?_, hv2, hv3⟩
          rw [h1.frame t q.1 ht (by omega) (by omega) (by omega),
            h1.frame t q.2 ht (by omega) (by omega) (by omega)] at hv1
          exact hv1
      · intro t e he
        have hp := he p (by simp)
        rw [ih2 t e (fun q hq => he q (by simp [hq]))]
        by_cases ht : t ∈ ss
        · exact h1.frame t e ht (by omega) hp.1 hp.2
        · exact h1.other t e ht
      · intro t e ht
        rw [ih3 t e ht, h1.other t e ht]

/-- **C05 (3-sew, vertices)**: under the property's proviso (no vertex id takes part in two of
    the kept pairs), after a successful 3-sew every kept pair `(a, b)` of vertex ids collected
    before the link holds `merge*(value of a, value of b)` at `min a b` and nothing at the other
    id, in every vertex-bound storage; the values merged are those of the map BEFORE the call;
    vertex ids in no kept pair keep their value -/
theorem C05_threeSew3_vertices (cfg : Cfg X) (n ld rd : Nat) (m m' : Map X) (u : Unit) (hfc : m.fc = 0)
    (h : run (threeSew3 cfg n ld rd) m = (.ok u, m')) :
    ∃ lo ro es vs, run (faceOrbits3 n ld rd) m = (.ok (lo, ro), m) ∧ Collected n m (lo.zip ro) es vs ∧
      ((vs.filter keepPair).Pairwise Disj →
        (∀ p, p ∈ vs.filter keepPair → ∀ t, t ∈ vStores cfg →
          ∃ v, mergeVal (cfg.law t) (m.att t p.1) (m.att t p.2) = .ok v ∧
            m'.att t (min p.1 p.2) = some v ∧ m'.att t (max p.1 p.2) = none) ∧
        (∀ t e, t ∈ vStores cfg → (∀ p, p ∈ vs.filter keepPair → e ≠ p.1 ∧ e ≠ p.2) →
          m'.att t e = m.att t e)) := by
  obtain ⟨lo, ro, es, vs, m1, mf, me, hfo, hC, hl, hF, hE, hV, _⟩ := C05_threeSew3_effect cfg n ld rd m m' u hfc h
  refine ⟨lo, ro, es, vs, hfo, hC, ?_⟩
  intro hd
  have hk : ∀ p, p ∈ vs.filter keepPair → p.1 ≠ p.2 := by
    intro p hp
    have := (List.mem_filter.1 hp).2
    unfold keepPair at this
    simp only [decide_eq_true_eq] at this
    exact this.1
  obtain ⟨s1, s2, _⟩ := hV.spec hd hk
  -- vertex-bound slots are the same in `m`, `m1`, `mf`, `me`
  have hbase : ∀ t e, t ∈ vStores cfg → me.att t e = m.att t e := by
    intro t e ht
    have hs := vStores_sep cfg ht
    rw [hE.other t e hs.2, hF.other t e hs.1]
    unfold Map.att
    rw [((topoOnly_threeLink3 n ld rd).run_ok hl).1]
  refine ⟨?_, ?_⟩
  · intro p hp t ht
    obtain ⟨v, hv1, hv2, hv3⟩ := s1 p hp t ht
    rw [hbase t _ ht, hbase t _ ht] at hv1
    exact ⟨v, hv1, hv2, hv3⟩
  · intro t e ht he
    rw [s2 t e he, hbase t e ht]


/-! ## (b) 3-unsew -/

/-- the splitting loop of `three_unsew` over the zipped face walks (ids are computed on the
    current state: the topology is the one the 3-unlink produced, only values change) -/
inductive UnsewnPairs (cfg : Cfg X) (n : Nat) : List (Nat × Nat) → Map X → Map X → Prop
  | nil (m : Map X) : UnsewnPairs cfg n [] m m
  | cons {l r el er v1 v2 : Nat} {rest : List (Nat × Nat)} {m ma mb mc m' : Map X} :
      run (edgeId3 n l) m = (.ok el, m) → run (edgeId3 n r) m = (.ok er, m) →
      SplitIn cfg (eStores cfg) el er (min el er) m ma →
      run (vertexId3 n (if ma.β 1 l = 0 then ma.β 2 l else ma.β 1 l)) ma = (.ok v1, ma) →
      run (vertexId3 n r) ma = (.ok v2, ma) →
      SplitIn cfg (vStores cfg) v1 v2 (min v1 v2) ma mb →
      ((mb.β 0 l ≠ 0 ∧ mc = mb) ∨
       (mb.β 0 l = 0 ∧ ∃ v3 v4, run (vertexId3 n l) mb = (.ok v3, mb) ∧
          run (vertexId3 n (if mb.β 1 r = 0 then mb.β 2 r else mb.β 1 r)) mb = (.ok v4, mb) ∧
          SplitIn cfg (vStores cfg) v3 v4 (min v3 v4) mb mc)) →
      UnsewnPairs cfg n rest mc m' → UnsewnPairs cfg n ((l, r) :: rest) m m'

theorem threeUnsewLoop_ok (cfg : Cfg X) (n : Nat) :
    ∀ (ps : List (Nat × Nat)) (m m' : Map X) (u : Unit), m.fc = 0 →
      run (threeUnsewLoop cfg n ps) m = (.ok u, m') → UnsewnPairs cfg n ps m m' := by
  intro ps
  induction ps with
  | nil =>
      intro m m' u _ h
      obtain ⟨_, rfl⟩ := run_pure_ok h
      exact UnsewnPairs.nil _
  | cons p rest ih =>
      intro m m' u hfc h
      obtain ⟨l, r⟩ := p
      unfold threeUnsewLoop at h
      obtain ⟨el, hel, h⟩ := run_ro_bind_ok (readOnly_edgeId3 _ _) h
      obtain ⟨er, her, h⟩ := run_ro_bind_ok (readOnly_edgeId3 _ _) h
      obtain ⟨_, ma, hA, h⟩ := run_bind_ok h
      have sA := forM_split_ok cfg el er (min el er) (eStores cfg) m ma () (eStores_nodup cfg) hfc hA
      have fA : ma.fc = 0 := by rw [sA.fc]; exact hfc
      replace h := run_rB_bind_ok h
      replace h := run_rB_bind_ok h
      obtain ⟨v1, hv1, h⟩ := run_ro_bind_ok (readOnly_vertexId3 _ _) h
      obtain ⟨v2, hv2, h⟩ := run_ro_bind_ok (readOnly_vertexId3 _ _) h
      obtain ⟨_, mb0, hB0, h⟩ := run_bind_ok h
      obtain ⟨_, mb, hB1, h⟩ := run_bind_ok h
      have sB := forM_split_ok cfg v1 v2 (min v1 v2) (vStores cfg) ma mb () (vStores_nodup cfg) fA
        (run_splitVertex cfg _ _ _ hB0 hB1)
      have fB : mb.fc = 0 := by rw [sB.fc]; exact fA
      replace h := run_rB_bind_ok h
      by_cases c : mb.β 0 l = 0
      · rw [if_pos c] at h
        replace h := run_rB_bind_ok h
        replace h := run_rB_bind_ok h
        obtain ⟨v3, hv3, h⟩ := run_ro_bind_ok (readOnly_vertexId3 _ _) h
        obtain ⟨v4, hv4, h⟩ := run_ro_bind_ok (readOnly_vertexId3 _ _) h
        obtain ⟨_, mc0, hC0, h⟩ := run_bind_ok h
        obtain ⟨_, mc, hC1, h⟩ := run_bind_ok h
        have sC := forM_split_ok cfg v3 v4 (min v3 v4) (vStores cfg) mb mc () (vStores_nodup cfg) fB
          (run_splitVertex cfg _ _ _ hC0 hC1)
        have fC : mc.fc = 0 := by rw [sC.fc]; exact fB
        exact UnsewnPairs.cons hel her sA hv1 hv2 sB (Or.inr ⟨c, v3, v4, hv3, hv4, sC⟩) (ih mc m' u fC h)
      · rw [if_neg c] at h
        exact UnsewnPairs.cons hel her sA hv1 hv2 sB (Or.inl ⟨c, rfl⟩) (ih mb m' u fB h)

/-- **C05 (3-unsew)**: the topology changes exactly as `three_unlink` does; then, on the unlinked
    map, the face storages split `min(lface, rface)` — the id `three_sew` merged into — between the
    two face ids, and for each pair of the zipped face walks the edge storages and the vertex
    storages split the smaller id of the pair between the two ids -/
theorem C05_threeUnsew3_effect (cfg : Cfg X) (n ld : Nat) (m m' : Map X) (u : Unit) (hfc : m.fc = 0)
    (h : run (threeUnsew3 cfg n ld) m = (.ok u, m')) :
    ∃ m1 lo ro mf,
      run (threeUnlink3 (X := X) n ld) m = (.ok (), m1) ∧
      run (faceOrbits3 n ld (m.β 3 ld)) m1 = (.ok (lo, ro), m1) ∧
      SplitIn cfg (fStores cfg) (listMin lo ld) (listMin ro (m.β 3 ld))
        (min (listMin lo ld) (listMin ro (m.β 3 ld))) m1 mf ∧
      UnsewnPairs cfg n (lo.zip ro) mf m' ∧ SameTopo m1 m' := by
  have ht := threeUnsew3_topology cfg n ld m m' u h
  unfold threeUnsew3 at h
  replace h := run_rB_bind_ok h
  obtain ⟨_, m1, hl, h⟩ := run_bind_ok h
  obtain ⟨⟨lo, ro⟩, hfo, h⟩ := run_ro_bind_ok (readOnly_faceOrbits3 _ _ _) h
  simp only [] at h
  obtain ⟨_, mf, hF, h⟩ := run_bind_ok h
  have hfc1 : m1.fc = 0 := (topoOnly_threeUnlink3 n ld).fc0 hfc hl
  have sF := forM_split_ok cfg _ _ _ (fStores cfg) m1 mf () (fStores_nodup cfg) hfc1 hF
  have fF : mf.fc = 0 := by rw [sF.fc]; exact hfc1
  obtain ⟨m1', hl', st⟩ := ht
  rw [hl] at hl'
  simp only [Prod.mk.injEq, true_and] at hl'
  subst hl'
  exact ⟨m1, lo, ro, mf, hl, hfo, sF, threeUnsewLoop_ok cfg n _ mf m' u fF h, st⟩

/-! ## non-vacuity -/

theorem run_of_fst {α : Type} {p : P X α} {m : Map X} {a : α} (h : (run p m).1 = .ok a) :
    run p m = (.ok a, (run p m).2) := run_eq_of_fst h

open HC.C02 (exMap exCfg)

/-- one `decide +kernel` for all the examples below that use this run, so that the kernel evaluates it once (here and
    in the other `*_facts` of the C05 files) -/
theorem exMap_sew3_facts : (run (threeSew3 exCfg 16 1 4) exMap).1 = .ok () ∧
    ((List.range 7).map ((run (threeSew3 exCfg 16 1 4) exMap).2.β 3) = [0, 4, 6, 5, 1, 3, 2] ∧
      (List.range 7).map ((run (threeLink3 16 1 4) exMap).2.β 3) = [0, 4, 6, 5, 1, 3, 2]) ∧
    ((run (threeSew3 exCfg 16 1 4) exMap).2.att 0 2 = some (.pt 1 0 0) ∧
      (run (threeSew3 exCfg 16 1 4) exMap).2.att 0 4 = none ∧
      (run (threeSew3 exCfg 16 1 4) exMap).2.att 1 2 = some (.tm (.minc (.leaf 4))) ∧
      (run (threeSew3 exCfg 16 1 4) exMap).2.att 1 1 = some (.tm (.minc (.leaf 1))) ∧
      (run (threeSew3 exCfg 16 1 4) exMap).2.att 1 3 = some (.tm .mnone) ∧
      (run (threeSew3 exCfg 16 1 4) exMap).2.att 3 1 = some (.tm (.minc (.leaf 10)))) ∧
    (run (threeUnsew3 exCfg 16 2) (run (threeSew3 exCfg 16 1 4) exMap).2).1 = .ok () ∧
    (run (threeUnsew3 exCfg 16 2) (run (threeSew3 exCfg 16 1 4) exMap).2).2.att 1 4 =
      some (.tm (.spr (.minc (.leaf 4)))) := by decide +kernel

example : exMap.fc = 0 := rfl
/-- 3-sew of the two triangles of `C02.exMap` (all vertices defined; `VTerm` at 1 and 4, `FTerm` at 1) -/
example : (run (threeSew3 exCfg 16 1 4) exMap).1 = .ok () := exMap_sew3_facts.1
/-- topology = 3-link: faces glued in lock-step, mirrored -/
example : (List.range 7).map ((run (threeSew3 exCfg 16 1 4) exMap).2.β 3) = [0, 4, 6, 5, 1, 3, 2] ∧
    (List.range 7).map ((run (threeLink3 16 1 4) exMap).2.β 3) = [0, 4, 6, 5, 1, 3, 2] := exMap_sew3_facts.2.1
/-- the collected vertex pairs are `(β1 l, r)`: `(2, 4), (3, 6), (1, 5)`; each is merged into its
    `min`: vertex 2 holds the average of the old values of 2 and 4 (the same point here), 4 is
    empty; `VTerm` (storage 1) at 2 holds `merge_incomplete(4)` (only the value of 4 was defined),
    at 1 `merge_incomplete(1)`, at 3 `merge_from_none`; `FTerm` (storage 3) at face 1 holds
    `merge_incomplete(10)` -/
example : (run (threeSew3 exCfg 16 1 4) exMap).2.att 0 2 = some (.pt 1 0 0) ∧
    (run (threeSew3 exCfg 16 1 4) exMap).2.att 0 4 = none ∧
    (run (threeSew3 exCfg 16 1 4) exMap).2.att 1 2 = some (.tm (.minc (.leaf 4))) ∧
    (run (threeSew3 exCfg 16 1 4) exMap).2.att 1 1 = some (.tm (.minc (.leaf 1))) ∧
    (run (threeSew3 exCfg 16 1 4) exMap).2.att 1 3 = some (.tm .mnone) ∧
    (run (threeSew3 exCfg 16 1 4) exMap).2.att 3 1 = some (.tm (.minc (.leaf 10))) := exMap_sew3_facts.2.2.1
/-- … and the 3-unsew of the result succeeds and splits again -/
example : (run (threeUnsew3 exCfg 16 2) (run (threeSew3 exCfg 16 1 4) exMap).2).1 = .ok () :=
  exMap_sew3_facts.2.2.2.1
example : (run (threeUnsew3 exCfg 16 2) (run (threeSew3 exCfg 16 1 4) exMap).2).2.att 1 4 =
    some (.tm (.spr (.minc (.leaf 4)))) := exMap_sew3_facts.2.2.2.2
theorem exMap_sew2_facts : WF 4 exMap ∧ C02.InUse exMap 7 ∧ C02.InUse exMap 11 ∧ exMap.β 1 7 ≠ 0 ∧
    exMap.β 1 11 ≠ 0 ∧ (run (twoSew3 exCfg 16 7 11) exMap).1 = .ok () ∧
    (run (twoUnsew3 exCfg 16 7) (run (twoSew3 exCfg 16 7 11) exMap).2).1 = .ok () := by decide +kernel

/-- 2-sew (both darts have a successor) and 1-sew / unsews on the same map -/
example : (run (twoSew3 exCfg 16 7 11) exMap).1 = .ok () ∧ exMap.β 1 7 ≠ 0 ∧ exMap.β 1 11 ≠ 0 :=
  have ⟨_, _, _, b7, b11, ok, _⟩ := exMap_sew2_facts
  ⟨ok, b7, b11⟩
example : (run (twoUnsew3 exCfg 16 7) (run (twoSew3 exCfg 16 7 11) exMap).2).1 = .ok () :=
  exMap_sew2_facts.2.2.2.2.2.2
/-- the other three cases of `two_sew`: both darts 1-free, only `l`, only `r` -/
example : (run (twoSew3 exCfg 16 13 14) exMap).1 = .ok () ∧ exMap.β 1 13 = 0 ∧ exMap.β 1 14 = 0 := by decide +kernel
example : (run (twoSew3 exCfg 16 14 7) exMap).1 = .ok () ∧ (run (twoSew3 exCfg 16 7 14) exMap).1 = .ok () := by
  decide +kernel
example : (run (twoSew3 exCfg 16 14 7) exMap).2.att 0 8 = some (.pt 3 (5/2) 3) := by decide +kernel
example : (run (oneSew3 exCfg 16 13 14) exMap).1 = .ok () := by decide +kernel
/-- a 1-sew that merges: dart 13 of the chain 2-sewn to the square first (`β2 13 ≠ 0`) -/
theorem exMap_sew1_facts :
    ((run (oneSew3 exCfg 16 13 14) (run (iLinkCore 2 13 9) exMap).2).1 = .ok () ∧
      (run (oneSew3 exCfg 16 13 14) (run (iLinkCore 2 13 9) exMap).2).2.att 0 9 = some (.pt 3 3 3) ∧
      (run (oneSew3 exCfg 16 13 14) (run (iLinkCore 2 13 9) exMap).2).2.att 0 14 = none) ∧
    (run (oneUnsew3 exCfg 16 13) (run (oneSew3 exCfg 16 13 14) (run (iLinkCore 2 13 9) exMap).2).2).1 = .ok () := by
  decide +kernel

example : (run (oneSew3 exCfg 16 13 14) (run (iLinkCore 2 13 9) exMap).2).1 = .ok () ∧
    (run (oneSew3 exCfg 16 13 14) (run (iLinkCore 2 13 9) exMap).2).2.att 0 9 = some (.pt 3 3 3) ∧
    (run (oneSew3 exCfg 16 13 14) (run (iLinkCore 2 13 9) exMap).2).2.att 0 14 = none := exMap_sew1_facts.1
example : (run (oneUnsew3 exCfg 16 13) (run (oneSew3 exCfg 16 13 14) (run (iLinkCore 2 13 9) exMap).2).2).1 = .ok () :=
  exMap_sew1_facts.2
/-- the proviso of `C05_threeSew3_vertices` holds for the two triangles -/
example : ([(2, 4), (3, 6), (1, 5)] : List (Nat × Nat)).Pairwise Disj := by
  unfold Disj; decide

end HC.C05

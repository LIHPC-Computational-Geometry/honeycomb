/-
  C16 / C17 — step 5 of grisubal, `insert_edges_in_map` (`Model/GrisubalInsert.lean`: `buildBaseEdge`, `replaceInter`,
  `markBoundary`, `insertOneEdge`, `insertEdgesFrom`, `stepFive`; Rust: `routines/insert_new_edges.rs`).

  * `buildBaseEdge_fwd`          `build_base_edge` forwards (every link / unlink accepted, the result in closed form), from the
                                 forward lemmas of the link cores; the next item reads the three conditions off a successful run
                                 and is then an instance of it
  * `C16_buildBaseEdge_spec`     on a well-formed map, with `start`, `end` in use and the two new darts live, free and
                                 distinct: a successful `build_base_edge` gives a well-formed map with
                                 `start → d_new → end`, `β0(end) → b2_d_new → β1(start)` (old images), `d_new ↔ b2_d_new`,
                                 every other β2 image, the dart count, the removal flags and ALL attributes unchanged
  * `C16_markBoundary_spec`      `mark_boundary` writes only `Boundary` values (`Left` / `Right`), no β, and keeps the pairing
                                 invariant below
  * `PairInv`                    "the two sides of a tagged edge carry opposite tags": for every 2-linked dart `d`,
                                 `tag d = Left ↔ tag (β2 d) = Right` (hence also `Right ↔ Left`)
  * `insertOneEdge_phases`       one iteration of the loop succeeds EXACTLY when `build_base_edge`, the middle phase `MidRun`
                                 (with points of interest: `insert_vertices_on_edge` on the new edge + the placeholder replacement)
                                 and `mark_boundary` do, one after the other.  What the phases do under the loop invariant `EInv`
                                 is said once: `BaseEff` / `EInv.baseEdge`, `InsEff` / `BaseEff.insert` on top of `insert_block`,
                                 and `MidEff` / `MidEff.of_run`, the map when `mark_boundary` starts whatever the number of points
                                 (`insertOneEdge_mid`); invariant, shape, the β0 / β1 frame of the older darts
                                 (`insertOneEdge_frames`), vertex stability (Props/C16Chain.lean) are read off these for every
                                 successful run; the forward theorems (Props/C16Step5Total.lean, Props/C16InsertTotal.lean) prove
                                 success only
  * `C16_insertOneEdge_inv`      one iteration of the loop keeps: well-formedness, dart count, flags, "tags are Left / Right /
                                 absent", `PairInv`, and "the darts not yet handed out are live, free and untagged"
  * `C16_insert_edges_inv`       … hence the whole `insert_edges_in_map`, from a well-formed map without tags
  * `C16_insertOneEdge_shape`    the SHAPE of one inserted edge `e` with block `next, next+1, next+2, …`: the β1 chain
                                 `e.start → next → next+2 → … → next+1+k → e.stop` (from the dart of the start crossing to the
                                 dart of the end crossing), `next` 2-linked; the `j`-th point of interest is the coordinate of
                                 the vertex of the `j`-th intermediate dart — every retained point of interest of the edge is a
                                 vertex, in the order of the geometry — and with the anchor storages (capture, C17) that vertex
                                 is anchored `Node(i)`, `i` the index of the edge; every dart of the chain (the side running
                                 WITH the geometry) is tagged `Left`, its β2 image `Right`
  * `C16_pipeline_clip_hyps`     so the hypotheses `htags` / `hpair` of `C16_clip_WF` hold for the output of step 5, for
                                 `clip_left` AND `clip_right`: they are established for pipeline outputs, not assumed
  * `C16_pipeline_clip_WF`       composition: `clip_left` / `clip_right` after step 5 return a well-formed map whose remaining
                                 boundary darts are 2-free

  Tie: `gins` (hook `verif::insert_edges`) — `wf` and the full snapshot (β, flags, coordinates, anchors, Boundary tags) as
  identical text on the real pipeline data (tools/props/c16.py: pipeline5_tie).
-/
import Honeycomb.Model.GrisubalInsert
import Honeycomb.Props.C14c
import Honeycomb.Props.C16Clip
import Honeycomb.Props.C16Insert


namespace HC.C16
open HC

/-! ## `build_base_edge` -/

theorem inUse_congr {m m' : Map Val} (hn : m'.n = m.n) (hu : m'.u = m.u) {d : Nat} (h : C01.InUse m d) :
    C01.InUse m' d :=
  ⟨h.1, by rw [hn]; exact h.2.1, by unfold Map.unused; rw [hu]; exact h.2.2⟩

/-- what a link core keeps besides `SameAttrs` (Lemmas/Run): the dart count and the removal flags -/
structure SameNUA (m m' : Map Val) : Prop where
  n : m'.n = m.n
  u : m'.u = m.u
  a : m'.a = m.a

theorem SameNUA.refl (m : Map Val) : SameNUA m m := ⟨rfl, rfl, rfl⟩
theorem SameNUA.trans {m m' m'' : Map Val} (h1 : SameNUA m m') (h2 : SameNUA m' m'') : SameNUA m m'' :=
  ⟨h2.n.trans h1.n, h2.u.trans h1.u, h2.a.trans h1.a⟩
theorem SameNUA.inUse {m m' : Map Val} (s : SameNUA m m') {d : Nat} (h : C01.InUse m d) : C01.InUse m' d :=
  inUse_congr s.n s.u h

theorem link1_fwd {m : Map Val} (hwf : WF 3 m) {l r : Nat} (hl : C01.InUse m l) (hr : C01.InUse m r)
    (h1 : m.β 1 l = 0) (h0 : m.β 0 r = 0) :
    ∃ m', run (oneLinkCore (X := Val) l r) m = (.ok (), m') ∧ WF 3 m' ∧ SameNUA m m' ∧
      ∀ j e, m'.β j e = if 0 = j ∧ r = e then l else if 1 = j ∧ l = e then r else m.β j e := by
  have sz := hwf.toSized
  have ok1 := (sz.okβ 1 l).2 ⟨by omega, hl.2.1⟩
  have ok0 := (sz.okβ 0 r).2 ⟨by omega, hr.2.1⟩
  have run := oneLinkCore_run ok1 ok0 h1 h0
  exact ⟨_, run, hwf.link1 (by omega) hl.1 hr.1 hl.2.1 hr.2.1 hl.2.2 hr.2.2 h1 h0, ⟨rfl, rfl, rfl⟩, (oneLinkCore_tab run).2.2⟩

theorem link2_fwd {m : Map Val} (hwf : WF 3 m) {l r : Nat} (hl : C01.InUse m l) (hr : C01.InUse m r) (hlr : l ≠ r)
    (h1 : m.β 2 l = 0) (h0 : m.β 2 r = 0) :
    ∃ m', run (iLinkCore (X := Val) 2 l r) m = (.ok (), m') ∧ WF 3 m' ∧ SameNUA m m' ∧
      ∀ j e, m'.β j e = if 2 = j ∧ r = e then l else if 2 = j ∧ l = e then r else m.β j e := by
  have sz := hwf.toSized
  have ok1 := (sz.okβ 2 l).2 ⟨by omega, hl.2.1⟩
  have ok0 := (sz.okβ 2 r).2 ⟨by omega, hr.2.1⟩
  have run := iLinkCore_run ok1 ok0 h1 h0
  exact ⟨_, run, hwf.linkI (by omega) (by omega) hl.1 hr.1 hlr hl.2.1 hr.2.1 hl.2.2 hr.2.2 h1 h0, ⟨rfl, rfl, rfl⟩,
    (twoLinkCore_tab run).2.2⟩

theorem unlink1_fwd {m : Map Val} (hwf : WF 3 m) {l : Nat} (hl : C01.InUse m l) (h1 : m.β 1 l ≠ 0) :
    ∃ m', run (oneUnlinkCore (X := Val) l) m = (.ok (), m') ∧ WF 3 m' ∧ SameNUA m m' ∧
      ∀ j e, m'.β j e = if 0 = j ∧ m.β 1 l = e then 0 else if 1 = j ∧ l = e then 0 else m.β j e := by
  have sz := hwf.toSized
  have hr := hwf.range 1 (by decide) l hl.2.1
  have ok1 := (sz.okβ 1 l).2 ⟨by omega, hl.2.1⟩
  have ok0 := (sz.okβ 0 (m.β 1 l)).2 ⟨by omega, hr⟩
  have run := oneUnlinkCore_run ok1 h1 ok0
  exact ⟨_, run, hwf.unlink1 (by omega) hl.2.1 h1, ⟨rfl, rfl, rfl⟩, (oneUnlinkCore_tab run).2⟩

theorem unlink2_fwd {m : Map Val} (hwf : WF 3 m) {l : Nat} (hl : C01.InUse m l) (h1 : m.β 2 l ≠ 0) :
    ∃ m', run (iUnlinkCore (X := Val) 2 l) m = (.ok (), m') ∧ WF 3 m' ∧ SameNUA m m' ∧
      ∀ j e, m'.β j e = if 2 = j ∧ m.β 2 l = e then 0 else if 2 = j ∧ l = e then 0 else m.β j e := by
  have sz := hwf.toSized
  have hr := hwf.range 2 (by decide) l hl.2.1
  have ok1 := (sz.okβ 2 l).2 ⟨by omega, hl.2.1⟩
  have ok0 := (sz.okβ 2 (m.β 2 l)).2 ⟨by omega, hr⟩
  have run := iUnlinkCore_run ok1 h1 ok0
  exact ⟨_, run, hwf.unlinkI (by omega) (by omega) hl.2.1 h1, ⟨rfl, rfl, rfl⟩, (twoUnlinkCore_tab run).2⟩

/-- `build_base_edge` forwards: under the three conditions of `C16_buildBaseEdge_ok_iff` every link / unlink is accepted, and
    the result is the closed form `C16_buildBaseEdge_spec` describes -/
theorem buildBaseEdge_fwd {m : Map Val} {start stop dNew b2dNew : Nat} (hwf : WF 3 m)
    (hs : C01.InUse m start) (he : C01.InUse m stop) (hd1 : C01.InUse m dNew) (hd2 : C01.InUse m b2dNew)
    (hf1 : ∀ i, i < 3 → m.β i dNew = 0) (hf2 : ∀ i, i < 3 → m.β i b2dNew = 0) (hne : dNew ≠ b2dNew)
    (n1 : m.β 1 start ≠ 0) (n0 : m.β 0 stop ≠ 0) (hcons : m.β 1 start ≠ stop) :
    ∃ m', run (buildBaseEdge start stop dNew b2dNew) m = (.ok (), m') ∧ WF 3 m' ∧ SameNUA m m' ∧
      m'.β 1 start = dNew ∧ m'.β 1 dNew = stop ∧ m'.β 1 (m.β 0 stop) = b2dNew ∧ m'.β 1 b2dNew = m.β 1 start ∧
      (∀ d, m'.β 2 d = if d = dNew then b2dNew else if d = b2dNew then dNew else m.β 2 d) ∧
      (∀ d, d ≠ start → d ≠ m.β 0 stop → d ≠ dNew → d ≠ b2dNew → m'.β 1 d = m.β 1 d) ∧
      (∀ d, d ≠ stop → d ≠ m.β 1 start → d ≠ dNew → d ≠ b2dNew → m'.β 0 d = m.β 0 d) := by
  have ib1s : C01.InUse m (m.β 1 start) := C01.inUse_image hwf (by omega) (by decide) hs.2.1 n1
  have ib0e : C01.InUse m (m.β 0 stop) := C01.inUse_image hwf (by omega) (by decide) he.2.1 n0
  have hb1 : m.β 1 (m.β 0 stop) = stop := hwf.inv10 stop he.2.1 n0
  have hb0s : m.β 0 (m.β 1 start) = start := hwf.inv01 start hs.2.1 n1
  obtain ⟨b1s, hB1⟩ : ∃ b, m.β 1 start = b := ⟨_, rfl⟩
  obtain ⟨b0e, hB0⟩ : ∃ b, m.β 0 stop = b := ⟨_, rfl⟩
  rw [hB1] at n1 hcons ib1s hb0s ⊢
  rw [hB0] at n0 ib0e hb1 ⊢
  -- the six darts involved are pairwise distinct, except possibly `start` / `stop`, `b1s` / `b0e`, `start` / `b1s`, `stop` / `b0e`
  have hsd1 : start ≠ dNew := fun e => n1 (by rw [← hB1, e]; exact hf1 1 (by decide))
  have hsd2 : start ≠ b2dNew := fun e => n1 (by rw [← hB1, e]; exact hf2 1 (by decide))
  have hbd1 : b0e ≠ dNew := fun e => he.1 (by rw [← hb1, e]; exact hf1 1 (by decide))
  have hbd2 : b0e ≠ b2dNew := fun e => he.1 (by rw [← hb1, e]; exact hf2 1 (by decide))
  have hsb : start ≠ b0e := fun e => hcons (by rw [← hB1, e]; exact hb1)
  have hstop1 : stop ≠ dNew := fun e => n0 (by rw [← hB0, e]; exact hf1 0 (by decide))
  have hstop2 : stop ≠ b2dNew := fun e => n0 (by rw [← hB0, e]; exact hf2 0 (by decide))
  have hb1s1 : b1s ≠ dNew := fun e => hs.1 (by rw [← hb0s, e]; exact hf1 0 (by decide))
  have hb1s2 : b1s ≠ b2dNew := fun e => hs.1 (by rw [← hb0s, e]; exact hf2 0 (by decide))
  obtain ⟨m1, r1, w1, s1, β1⟩ := unlink1_fwd hwf hs (by rw [hB1]; exact n1)
  rw [hB1] at β1
  have e2 : m1.β 1 b0e = stop := by rw [β1]; simp [hsb, hb1]
  obtain ⟨m2, r2, w2, s2, β2⟩ := unlink1_fwd w1 (s1.inUse ib0e) (by rw [e2]; exact he.1)
  rw [e2] at β2
  have t2 := s1.trans s2
  obtain ⟨m3, r3, w3, s3, β3⟩ := link2_fwd w2 (t2.inUse hd1) (t2.inUse hd2) hne
    (by rw [β2, β1]; simp [hf1 2 (by decide)]) (by rw [β2, β1]; simp [hf2 2 (by decide)])
  have t3 := t2.trans s3
  obtain ⟨m4, r4, w4, s4, β4⟩ := link1_fwd w3 (t3.inUse hs) (t3.inUse hd1)
    (by rw [β3, β2, β1]; simp) (by rw [β3, β2, β1]; simp [hstop1, hb1s1, hf1 0 (by decide)])
  have t4 := t3.trans s4
  obtain ⟨m5, r5, w5, s5, β5⟩ := link1_fwd w4 (t4.inUse hd2) (t4.inUse ib1s)
    (by rw [β4, β3, β2, β1]; simp [hsd2, hbd2, hf2 1 (by decide)])
    (by rw [β4, β3, β2, β1]; simp [Ne.symm hb1s1, Ne.symm hcons])
  have t5 := t4.trans s5
  obtain ⟨m6, r6, w6, s6, β6⟩ := link1_fwd w5 (t5.inUse hd1) (t5.inUse he)
    (by rw [β5, β4, β3, β2, β1]; simp [hsd1, hbd1, Ne.symm hne, hf1 1 (by decide)])
    (by rw [β5, β4, β3, β2, β1]; simp [hcons, Ne.symm hstop1])
  have t6 := t5.trans s6
  obtain ⟨m7, r7, w7, s7, β7⟩ := link1_fwd w6 (t6.inUse ib0e) (t6.inUse hd2)
    (by rw [β6, β5, β4, β3, β2, β1]; simp [Ne.symm hbd1, Ne.symm hbd2, hsb])
    (by rw [β6, β5, β4, β3, β2, β1]
        simp [hstop2, hb1s2, hne, hf2 0 (by decide)])
  have hβ : ∀ j e, m7.β j e = _ := fun j e => by rw [β7, β6, β5, β4, β3, β2, β1]
  refine ⟨m7, ?_, w7, t6.trans s7, ?_, ?_, ?_, ?_, ?_, ?_, ?_⟩
  · unfold buildBaseEdge
    simp only [bind, run_rB, (Sized.okβ hwf.toSized 1 start).2 ⟨by omega, hs.2.1⟩,
      (Sized.okβ hwf.toSized 0 stop).2 ⟨by omega, he.2.1⟩, if_true, hB1, hB0]
    rw [run_bind_of_ok r1, run_bind_of_ok r2, run_bind_of_ok r3, run_bind_of_ok r4, run_bind_of_ok r5, run_bind_of_ok r6]
    exact r7
  -- the four named images: the seven updates unfolded at a named dart, every test decided by the distinctness facts
  iterate 4
    rw [hβ]
    simp [Ne.symm hsb, Ne.symm hsd1, Ne.symm hsd2, hbd1, hbd2, Ne.symm hbd2, hne, Ne.symm hne]
  · intro d
    rw [hβ]
    by_cases e1 : d = dNew
    · subst e1; simp [Ne.symm hne]
    · by_cases e2' : d = b2dNew
      · subst e2'; simp [hne, Ne.symm hne]
      · simp [e1, e2', Ne.symm e1, Ne.symm e2']
  · intro d h1' h2' h3' h4'
    rw [hβ]
    simp [Ne.symm h1', Ne.symm h2', Ne.symm h3', Ne.symm h4']
  · intro d h1' h2' h3' h4'
    rw [hβ]
    simp [Ne.symm h1', Ne.symm h2', Ne.symm h3', Ne.symm h4']

/-- **C16, step 5 — `build_base_edge`**: a successful run was one under the three conditions, so it is the run of
    `buildBaseEdge_fwd` -/
theorem C16_buildBaseEdge_spec {m m' : Map Val} {start stop dNew b2dNew : Nat} (hwf : WF 3 m)
    (hs : C01.InUse m start) (he : C01.InUse m stop) (hd1 : C01.InUse m dNew) (hd2 : C01.InUse m b2dNew)
    (hf1 : ∀ i, i < 3 → m.β i dNew = 0) (hf2 : ∀ i, i < 3 → m.β i b2dNew = 0) (hne : dNew ≠ b2dNew)
    (hr : run (buildBaseEdge start stop dNew b2dNew) m = (.ok (), m')) :
    WF 3 m' ∧ m'.n = m.n ∧ m'.u = m.u ∧ m'.att = m.att ∧ m'.a.size = m.a.size ∧
    m.β 1 start ≠ 0 ∧ m.β 0 stop ≠ 0 ∧
    m'.β 1 start = dNew ∧ m'.β 1 dNew = stop ∧ m'.β 1 (m.β 0 stop) = b2dNew ∧ m'.β 1 b2dNew = m.β 1 start ∧
    (∀ d, m'.β 2 d = if d = dNew then b2dNew else if d = b2dNew then dNew else m.β 2 d) ∧
    (∀ d, d ≠ start → d ≠ m.β 0 stop → d ≠ dNew → d ≠ b2dNew → m'.β 1 d = m.β 1 d) ∧
    (∀ d, d ≠ stop → d ≠ m.β 1 start → d ≠ dNew → d ≠ b2dNew → m'.β 0 d = m.β 0 d) := by
  -- the two unlinks were accepted: a successor of `start`, a predecessor of `stop`, the two not consecutive
  have hc : m.β 1 start ≠ 0 ∧ m.β 0 stop ≠ 0 ∧ m.β 1 start ≠ stop := by
    have h := hr
    unfold buildBaseEdge at h
    simp only [Prog.bind_eq] at h
    obtain ⟨_, h⟩ := rB_bind_ok h
    obtain ⟨_, h⟩ := rB_bind_ok h
    obtain ⟨_, m1, h1, h⟩ := run_bind_ok h
    obtain ⟨_, m2, h2, _⟩ := run_bind_ok h
    obtain ⟨n1, e1⟩ := oneUnlinkCore_tab h1
    obtain ⟨n2, _⟩ := oneUnlinkCore_tab h2
    rw [e1] at n2
    have null1 := hwf.null 1 (by decide)
    have n0 : m.β 0 stop ≠ 0 := by
      intro e0
      apply n2
      rw [e0]
      split <;> [rfl; (split <;> [rfl; exact null1])]
    refine ⟨n1, n0, fun hcons => n2 ?_⟩
    have : m.β 0 stop = start := by rw [← hcons]; exact hwf.inv01 start hs.2.1 n1
    rw [this]; simp
  obtain ⟨m'', r, w, s, f⟩ := buildBaseEdge_fwd hwf hs he hd1 hd2 hf1 hf2 hne hc.1 hc.2.1 hc.2.2
  rw [hr] at r
  obtain rfl : m' = m'' := by injection r with _ r
  exact ⟨w, s.n, s.u, by funext t d; unfold Map.att; rw [s.a], by rw [s.a], hc.1, hc.2.1, f⟩

/-! ## the tags -/

/-- every `Boundary` value is `Left`, `Right` or absent -/
def TagsLR (m : Map Val) : Prop := ∀ d, tagOf m d = none ∨ tagOf m d = some bdLeft ∨ tagOf m d = some bdRight

/-- the two sides of an edge carry opposite tags: for a 2-linked dart, `Left` iff its β2 image is `Right` -/
def PairInv (m : Map Val) : Prop :=
  ∀ d, d ≠ 0 → d < m.n → m.β 2 d ≠ 0 → (tagOf m d = some bdLeft ↔ tagOf m (m.β 2 d) = some bdRight)

theorem PairInv.symm {m : Map Val} (hwf : WF 3 m) (h : PairInv m) {d : Nat} (hd0 : d ≠ 0) (hd : d < m.n)
    (h2 : m.β 2 d ≠ 0) : tagOf m d = some bdRight ↔ tagOf m (m.β 2 d) = some bdLeft := by
  have hi := hwf.invol 2 (by decide) (by decide) d hd h2
  have := h (m.β 2 d) h2 (hwf.range 2 (by decide) d hd) (by rw [hi.1]; exact hd0)
  rw [hi.1] at this
  exact this.symm

/-- β2 changes only inside a set of untagged darts: the pairing survives -/
theorem PairInv.of_local {m m' : Map Val} (hwf : WF 3 m) (hwf' : WF 3 m') (hn : m'.n = m.n)
    (htag : ∀ d, tagOf m' d = tagOf m d) (S : Nat → Prop) (hS : ∀ d, ¬ S d → m'.β 2 d = m.β 2 d)
    (hu : ∀ d, S d → tagOf m d = none) (h : PairInv m) : PairInv m' := by
  intro d hd0 hd h2
  rw [htag, htag]
  by_cases hs : S d
  · have t1 := hu d hs
    rw [t1]
    simp only [reduceCtorEq, false_iff]
    by_cases hs' : S (m'.β 2 d)
    · rw [hu _ hs']; simp
    · -- the new partner is outside: it was the partner before
      have hi := hwf'.invol 2 (by decide) (by decide) d hd h2
      have hy := hwf'.range 2 (by decide) d hd
      have e := hS _ hs'
      rw [hi.1] at e
      rw [hn] at hy hd
      have hi2 := hwf.invol 2 (by decide) (by decide) (m'.β 2 d) hy (by rw [← e]; exact hd0)
      rw [← e] at hi2
      have := h d hd0 hd (by rw [hi2.1]; exact h2)
      rw [hi2.1, t1] at this
      intro hh; exact absurd (this.2 hh) (by simp)
  · rw [hS d hs] at h2 ⊢
    exact h d hd0 (by rw [← hn]; exact hd) h2

/-! ## `mark_boundary` -/

theorem attrOnly_markBoundary (stop : Nat) : ∀ (fuel d : Nat), AttrOnly (markBoundary stop fuel d)
  | 0, _ => fun m => SameTopo.refl m
  | f + 1, d => by
      unfold markBoundary
      refine AttrOnly.ite (AttrOnly.pure _) ?_
      refine AttrOnly.bind (AttrOnly.of_readOnly (ReadOnly.rA _ _)) fun _ => ?_
      refine AttrOnly.bind (AttrOnly.wA _ _ _) fun _ => ?_
      refine AttrOnly.bind (AttrOnly.of_readOnly (ReadOnly.rB _ _)) fun _ => ?_
      refine AttrOnly.bind (AttrOnly.of_readOnly (ReadOnly.rA _ _)) fun _ => ?_
      refine AttrOnly.bind (AttrOnly.wA _ _ _) fun _ => ?_
      exact AttrOnly.bind (AttrOnly.of_readOnly (ReadOnly.rB _ _)) fun d' => attrOnly_markBoundary stop f d'

theorem markBoundary_succ_ok {stop f d : Nat} {m m' : Map Val} (hds : d ≠ stop)
    (h : run (markBoundary stop (f + 1) d) m = (.ok (), m')) :
    run (markBoundary stop f (m.β 1 d)) ((m.setA sBd d (some bdLeft)).setA sBd (m.β 2 d) (some bdRight)) = (.ok (), m') ∧
    m.okβ 2 d = true ∧
    ∀ y, tagOf ((m.setA sBd d (some bdLeft)).setA sBd (m.β 2 d) (some bdRight)) y =
      if m.β 2 d = y then some bdRight else if d = y then some bdLeft else tagOf m y := by
  unfold markBoundary at h
  rw [if_neg hds] at h
  simp only [Prog.bind_eq] at h
  have h := run_rA_bind_ok h
  rw [run_wA] at h
  by_cases ok1 : m.okA sBd d = true
  · simp only [ok1, if_true] at h
    obtain ⟨okB, h⟩ := rB_bind_ok h
    have h := run_rA_bind_ok h
    rw [run_wA] at h
    simp only [Map.β_setA, Map.okβ_setA] at h okB
    by_cases ok2 : (m.setA sBd d (some bdLeft)).okA sBd (m.β 2 d) = true
    · simp only [ok2, if_true] at h
      obtain ⟨_, h⟩ := rB_bind_ok h
      simp only [Map.β_setA] at h
      refine ⟨h, okB, fun y => ?_⟩
      show ((m.setA sBd d (some bdLeft)).setA sBd (m.β 2 d) (some bdRight)).att sBd y = _
      rw [Map.att_setA, Map.att_setA]
      simp only [ok1, ok2, true_and, and_true]
    · simp [ok2] at h
  · simp [ok1] at h

theorem markBoundary_at_stop {stop f : Nat} {m m' : Map Val} (h : run (markBoundary stop (f + 1) stop) m = (.ok (), m')) :
    m' = m := by
  unfold markBoundary at h
  rw [if_pos rfl] at h
  simp only [Prog.pure_eq, run_ret, Prod.mk.injEq] at h
  exact h.2.symm

theorem markBoundary_frame (stop : Nat) : ∀ (fuel d : Nat) (m m' : Map Val),
    run (markBoundary stop fuel d) m = (.ok (), m') → ∀ s x, s ≠ sBd → m'.att s x = m.att s x := by
  intro fuel
  induction fuel with
  | zero => intro d m m' h; simp [markBoundary] at h
  | succ f ih =>
      intro d m m' h s x hs
      by_cases hds : d = stop
      · rw [hds] at h; rw [markBoundary_at_stop h]
      · rw [ih _ _ _ (markBoundary_succ_ok hds h).1 s x hs, Map.att_setA, if_neg (fun hh => hs hh.1.symm), Map.att_setA,
          if_neg (fun hh => hs hh.1.symm)]

/-- **C16, step 5 — `mark_boundary`**: only `Boundary` values are written (`Left` on the darts walked, `Right` on their β2
    images); on a well-formed map the pairing of the tags survives, whatever darts the walk meets; a tag changes only at
    the first dart of the walk, at the null dart or at a dart that has an image -/
theorem C16_markBoundary_spec (stop : Nat) : ∀ (fuel d : Nat) (m m' : Map Val), WF 3 m → TagsLR m → PairInv m →
    run (markBoundary stop fuel d) m = (.ok (), m') →
    SameTopo m m' ∧ (∀ s x, s ≠ sBd → m'.att s x = m.att s x) ∧ TagsLR m' ∧ PairInv m' ∧
    (∀ x, tagOf m' x ≠ tagOf m x → x = d ∨ x = 0 ∨ ∃ i, i < 3 ∧ m.β i x ≠ 0) := by
  intro fuel d m m' hwf ht hp h
  refine ⟨AttrOnly.run_ok (attrOnly_markBoundary stop fuel d) h, markBoundary_frame stop fuel d m m' h, ?_⟩
  induction fuel generalizing d m with
  | zero => simp [markBoundary] at h
  | succ f ih =>
      by_cases hds : d = stop
      · rw [hds] at h; rw [markBoundary_at_stop h]
        exact ⟨ht, hp, fun x hx => absurd rfl hx⟩
      · obtain ⟨h, okB, tag1⟩ := markBoundary_succ_ok hds h
        generalize hm1 : (m.setA sBd d (some bdLeft)).setA sBd (m.β 2 d) (some bdRight) = m1 at h tag1
        have hd : d < m.n := ((hwf.toSized.okβ 2 d).1 okB).2
        have st1 : SameTopo m m1 := hm1 ▸ (SameTopo.setA _ _ _ _).trans (SameTopo.setA _ _ _ _)
        have hβ1 : ∀ a b, m1.β a b = m.β a b := fun a b => st1.β a b
        have t1 : TagsLR m1 := by
          intro y; rw [tag1]
          split
          · right; right; rfl
          · split
            · right; left; rfl
            · exact ht y
        have p1 : PairInv m1 := by
          intro x hx0 hx hx2
          rw [hβ1] at hx2 ⊢
          rw [st1.n] at hx
          rw [tag1, tag1]
          have hix := hwf.invol 2 (by decide) (by decide) x hx hx2
          by_cases hd2 : m.β 2 d = 0
          · -- a 2-free dart is walked: nobody's partner is touched
            have e1 : m.β 2 d ≠ x := by rw [hd2]; exact Ne.symm hx0
            have e2 : d ≠ x := fun e => hx2 (by rw [← e]; exact hd2)
            have e3 : m.β 2 d ≠ m.β 2 x := by rw [hd2]; exact Ne.symm hx2
            have e4 : d ≠ m.β 2 x := fun e => hx0 (by rw [← hix.1, ← e, hd2])
            rw [if_neg e1, if_neg e2, if_neg e3, if_neg e4]
            exact hp x hx0 hx hx2
          · have hid := hwf.invol 2 (by decide) (by decide) d hd hd2
            by_cases ex : x = d
            · subst ex
              rw [if_neg hid.2, if_pos rfl, if_pos rfl]
              simp
            · by_cases ex2 : x = m.β 2 d
              · rw [ex2, hid.1, if_pos rfl, if_neg hid.2, if_pos rfl]
                simp [bdLeft, bdRight]
              · have e1 : m.β 2 d ≠ x := Ne.symm ex2
                have e2 : d ≠ x := Ne.symm ex
                have e3 : m.β 2 d ≠ m.β 2 x := fun e => ex (by rw [← hix.1, ← e, hid.1])
                have e4 : d ≠ m.β 2 x := fun e => ex2 (by rw [e, hix.1])
                rw [if_neg e1, if_neg e2, if_neg e3, if_neg e4]
                exact hp x hx0 hx hx2
        obtain ⟨c, e, loc⟩ := ih _ m1 (hwf.sameTopo st1) t1 p1 h
        refine ⟨c, e, ?_⟩
        intro x hx
        by_cases hx1 : tagOf m' x = tagOf m1 x
        · -- changed by the two writes of this iteration
          rw [hx1, tag1] at hx
          by_cases e1 : m.β 2 d = x
          · by_cases e0 : x = 0
            · exact Or.inr (Or.inl e0)
            · right; right
              have hd2 : m.β 2 d ≠ 0 := by rw [e1]; exact e0
              have hid := hwf.invol 2 (by decide) (by decide) d hd hd2
              refine ⟨2, by omega, ?_⟩
              rw [← e1, hid.1]
              intro ed0; apply hd2; rw [ed0]; exact hwf.null 2 (by decide)
          · rw [if_neg e1] at hx
            by_cases e2 : d = x
            · exact Or.inl e2.symm
            · rw [if_neg e2] at hx; exact absurd rfl hx
        · rcases loc x hx1 with hh | hh | ⟨i, hi, hh⟩
          · -- the next dart of the walk: a β1 image
            by_cases e0 : x = 0
            · exact Or.inr (Or.inl e0)
            · right; right
              have hb : m.β 1 d ≠ 0 := by rw [← hh]; exact e0
              refine ⟨0, by omega, ?_⟩
              rw [hh, hwf.inv01 d hd hb]
              intro ed0; apply hb; rw [ed0]; exact hwf.null 1 (by decide)
          · exact Or.inr (Or.inl hh)
          · exact Or.inr (Or.inr ⟨i, hi, by rw [← hβ1]; exact hh⟩)

/-! ## the placeholder vertices -/

theorem attrOnly_replaceInter (n : Nat) (ha : Bool) (i : Nat) : ∀ (l : List Pt) (d : Nat),
    AttrOnly (replaceInter n ha i d l)
  | [], _ => AttrOnly.pure _
  | v :: vs, d => by
      unfold replaceInter
      refine AttrOnly.bind (AttrOnly.of_readOnly (readOnly_vertexId2 _ _)) fun vid => ?_
      refine AttrOnly.bind (attrOnly_writeVtx _ _) fun _ => ?_
      refine AttrOnly.bind (AttrOnly.ite ?_ (AttrOnly.pure _)) fun _ => ?_
      · exact AttrOnly.bind (AttrOnly.of_readOnly (ReadOnly.rA _ _)) fun _ => AttrOnly.wA _ _ _
      · exact AttrOnly.bind (AttrOnly.of_readOnly (ReadOnly.rB _ _)) fun d' => attrOnly_replaceInter n ha i vs d'

/-- the darts `replaceInter` walks: `d, β1 d, β1 (β1 d), …` -/
def walkB1 (m : Map Val) : Nat → Nat → List Nat
  | _, 0 => []
  | d, k + 1 => d :: walkB1 m (m.β 1 d) k

theorem walkB1_congr {m m1 : Map Val} (hb : m1.b = m.b) : ∀ (k d : Nat), walkB1 m1 d k = walkB1 m d k := by
  intro k
  induction k with
  | zero => intro d; rfl
  | succ k ih =>
      intro d
      have : m1.β 1 d = m.β 1 d := by unfold Map.β; rw [hb]
      simp only [walkB1, this, ih]

theorem walk_of_chain {m : Map Val} : ∀ (l : List Nat) (d : Nat), B1Chain m d l → walkB1 m (m.β 1 d) l.length = l := by
  intro l
  induction l with
  | nil => intro d _; rfl
  | cons x rest ih =>
      intro d h
      obtain ⟨h1, h2⟩ := h
      simp only [List.length_cons, walkB1, h1]
      rw [ih x h2]

theorem replaceInter_cons_ok {n : Nat} {ha : Bool} {i d : Nat} {v : Pt} {vs : List Pt} {m m' : Map Val}
    (h : run (replaceInter n ha i d (v :: vs)) m = (.ok (), m')) :
    ∃ vid m1, run (vertexId2 n d) m = (.ok vid, m) ∧ m1.b = m.b ∧ m1.att 0 vid = some (.pt v.1 v.2 0) ∧
      (ha = true → m1.att sVA vid = some (.tm (.leaf (4 * i)))) ∧
      (∀ s y, ((s ≠ 0 ∧ s ≠ sVA) ∨ y ≠ vid) → m1.att s y = m.att s y) ∧
      run (replaceInter n ha i (m.β 1 d) vs) m1 = (.ok (), m') := by
  unfold replaceInter at h
  simp only [Prog.bind_eq] at h
  obtain ⟨vid0, hv0, h⟩ := run_ro_bind_ok (readOnly_vertexId2 (X := Val) n d) h
  unfold writeVtx at h
  simp only [Prog.bind_eq, Prog.pure_eq, Prog.bind_assoc] at h
  have h := run_rA_bind_ok h
  rw [run_wA] at h
  by_cases ok0 : m.okA 0 vid0 = true
  · simp only [ok0, if_true] at h
    simp only [Prog.ret_bind] at h
    have n0 : ∀ s y, ((s ≠ 0 ∧ s ≠ sVA) ∨ y ≠ vid0) → ¬ (0 = s ∧ vid0 = y ∧ m.okA 0 vid0 = true) := by
      rintro s y hsy ⟨rfl, rfl, _⟩
      rcases hsy with hs | hd
      · exact hs.1 rfl
      · exact hd rfl
    cases ha with
    | false =>
        simp only [Bool.false_eq_true, if_false, Prog.ret_bind] at h
        obtain ⟨_, h⟩ := rB_bind_ok h
        simp only [Map.β_setA] at h
        refine ⟨vid0, m.setA 0 vid0 (some (Val.pt v.1 v.2 0)), hv0, rfl,
          (by rw [Map.att_setA]; simp [ok0]), (fun hh => by cases hh), fun s y hsy => ?_, h⟩
        rw [Map.att_setA, if_neg (n0 s y hsy)]
    | true =>
        simp only [if_true, Prog.bind_assoc] at h
        have h := run_rA_bind_ok h
        rw [run_wA] at h
        by_cases ok1 : (m.setA 0 vid0 (some (Val.pt v.1 v.2 0))).okA sVA vid0 = true
        · simp only [ok1, if_true] at h
          obtain ⟨_, h⟩ := rB_bind_ok h
          simp only [Map.β_setA] at h
          refine ⟨vid0, (m.setA 0 vid0 (some (Val.pt v.1 v.2 0))).setA sVA vid0 (some (Val.tm (Term.leaf (4 * i)))), hv0, rfl,
            ?_, (fun _ => by rw [Map.att_setA]; simp [ok1]), fun s y hsy => ?_, h⟩
          · rw [Map.att_setA, if_neg (fun hh => by have := hh.1; simp [sVA] at this), Map.att_setA]; simp [ok0]
          · have n1 : ¬ (sVA = s ∧ vid0 = y ∧ (m.setA 0 vid0 (some (Val.pt v.1 v.2 0))).okA sVA vid0 = true) := by
              rintro ⟨rfl, rfl, _⟩
              rcases hsy with hs | hd
              · exact hs.2 rfl
              · exact hd rfl
            rw [Map.att_setA, if_neg n1, Map.att_setA, if_neg (n0 s y hsy)]
        · simp [ok1] at h
  · simp [ok0] at h

theorem replaceInter_frame (n : Nat) (ha : Bool) (i : Nat) : ∀ (l : List Pt) (d : Nat) (m m' : Map Val),
    run (replaceInter n ha i d l) m = (.ok (), m') →
    ∀ s y, ((s ≠ 0 ∧ s ≠ sVA) ∨ ∀ x ∈ walkB1 m d l.length, (run (vertexId2 n x) m).1 ≠ .ok y) →
      m'.att s y = m.att s y := by
  intro l
  induction l with
  | nil =>
      intro d m m' h s y _
      simp only [replaceInter, Prog.pure_eq, run_ret, Prod.mk.injEq] at h
      rw [← h.2]
  | cons v vs ih =>
      intro d m m' h s y hsy
      obtain ⟨vid, m1, hv, hb1, _, _, hfr1, hrun⟩ := replaceInter_cons_ok h
      simp only [List.length_cons, walkB1, List.mem_cons, forall_eq_or_imp] at hsy
      rw [ih _ m1 m' hrun s y ?_, hfr1 s y ?_]
      · rcases hsy with hs | hd
        · exact Or.inl hs
        · right; intro e; exact hd.1 (by rw [e, hv])
      · rcases hsy with hs | hd
        · exact Or.inl hs
        · right; intro z hz
          rw [(C14.bOnly_vertexId2 n z).2 _ _ hb1]
          exact hd.2 z (by rwa [walkB1_congr hb1] at hz)

/-- the loop that replaces the placeholder vertices, when the darts walked lie in pairwise distinct vertices: the `j`-th
    point goes to the slot of the vertex identifier of the `j`-th dart walked (and, with anchors, `Node(i)` to the same slot
    of the anchor storage) -/
theorem replaceInter_points (n : Nat) (ha : Bool) (i : Nat) : ∀ (l : List Pt) (d : Nat) (m m' : Map Val),
    run (replaceInter n ha i d l) m = (.ok (), m') →
    ((walkB1 m d l.length).map (fun x => (run (vertexId2 n x) m).1)).Nodup →
    ∀ x ∈ (walkB1 m d l.length).zip l, ∀ vid, (run (vertexId2 n x.1) m).1 = .ok vid →
      m'.att 0 vid = some (.pt x.2.1 x.2.2 0) ∧ (ha = true → m'.att sVA vid = some (.tm (.leaf (4 * i)))) := by
  intro l
  induction l with
  | nil => intro d m m' _ _ x hx; simp [walkB1] at hx
  | cons v vs ih =>
      intro d m m' h hnd x hx vid hvid
      obtain ⟨vid0, m1, hv0, hb1, hp1, ha1, _, hrun⟩ := replaceInter_cons_ok h
      have hv0' : (run (vertexId2 n d) m).1 = .ok vid0 := by rw [hv0]
      have hout : ∀ z, (run (vertexId2 n z) m1).1 = (run (vertexId2 n z) m).1 :=
        fun z => (C14.bOnly_vertexId2 n z).2 _ _ hb1
      have hw : walkB1 m1 (m.β 1 d) vs.length = walkB1 m (m.β 1 d) vs.length := walkB1_congr hb1 _ _
      simp only [List.length_cons, walkB1, List.map_cons, List.nodup_cons, List.mem_map, not_exists, not_and] at hnd
      simp only [List.length_cons, walkB1, List.zip_cons_cons, List.mem_cons] at hx
      rcases hx with rfl | hx
      · -- the head: written now, kept by the rest of the walk
        simp only at hvid
        rw [hv0'] at hvid
        simp only [Out.ok.injEq] at hvid
        subst hvid
        have fr := replaceInter_frame n ha i vs _ m1 m' hrun
        have hno : ∀ z ∈ walkB1 m1 (m.β 1 d) vs.length, (run (vertexId2 n z) m1).1 ≠ .ok vid0 :=
          fun z hz hh => hnd.1 z (hw ▸ hz) (by rw [← hout, hh, hv0'])
        exact ⟨by rw [fr 0 vid0 (Or.inr hno)]; exact hp1, fun hat => by rw [fr sVA vid0 (Or.inr hno)]; exact ha1 hat⟩
      · exact ih _ m1 m' hrun (by rw [hw]; simp only [hout]; exact hnd.2) x (by rw [hw]; exact hx) vid
          (by rw [hout]; exact hvid)

/-! ## one iteration of the loop -/

/-- the invariant of the loop of `insert_edges_in_map`; `next` is the first dart not handed out yet -/
structure EInv (m : Map Val) (next : Nat) : Prop where
  wf : WF 3 m
  tags : TagsLR m
  pair : PairInv m
  pos : 0 < next
  fresh : ∀ d, next ≤ d → d < m.n → m.unused d = false ∧ (∀ i, i < 3 → m.β i d = 0) ∧ tagOf m d = none

theorem EInv.inUse {m : Map Val} {next : Nat} (I : EInv m next) {d : Nat} (h1 : next ≤ d) (h2 : d < m.n) :
    C01.InUse m d :=
  ⟨by have := I.pos; omega, h2, (I.fresh d h1 h2).1⟩

/-- a dart with a non-null image is not one of the darts still free -/
theorem not_fresh {m : Map Val} {off : Nat} (hfresh : ∀ d, off ≤ d → d < m.n → m.unused d = false ∧ ∀ i, i < 3 → m.β i d = 0)
    {d : Nat} (hd : d < m.n) {j : Nat} (hj : j < 3) (hne : m.β j d ≠ 0) : d < off := by
  rcases Nat.lt_or_ge d off with h | h
  · exact h
  · exact absurd ((hfresh d h hd).2 j hj) hne

theorem EInv.lt_of_image {m : Map Val} {next : Nat} (I : EInv m next) {d j : Nat} (hd : d < m.n) (hj : j < 3)
    (hne : m.β j d ≠ 0) : d < next :=
  not_fresh (fun d a b => ⟨(I.fresh d a b).1, (I.fresh d a b).2.1⟩) hd hj hne

theorem PairInv.congr {m m' : Map Val} (hβ : m'.β = m.β) (hn : m'.n = m.n) (htag : ∀ x, tagOf m' x = tagOf m x)
    (h : PairInv m) : PairInv m' := by
  intro d hd0 hd hd2
  rw [htag, htag, hβ]
  rw [hβ] at hd2
  exact h d hd0 (by rw [← hn]; exact hd) hd2

theorem edgeId2_min {m m' : Map Val} {d x : Nat} (h : run (edgeId2 (X := Val) d) m = (.ok x, m')) :
    x = if m.β 2 d = 0 then d else min (m.β 2 d) d := by
  unfold edgeId2 at h
  simp only [Prog.bind_eq] at h
  obtain ⟨_, h⟩ := rB_bind_ok h
  by_cases h0 : m.β 2 d = 0
  · rw [if_pos h0] at h ⊢; simp only [Prog.pure_eq, run_ret, Prod.mk.injEq, Out.ok.injEq] at h; exact h.1.symm
  · rw [if_neg h0] at h ⊢; simp only [Prog.pure_eq, run_ret, Prod.mk.injEq, Out.ok.injEq] at h; exact h.1.symm

/-- what `build_base_edge` on the first two darts `next`, `next + 1` of the block does, given the loop invariant: the
    clauses of `C16_buildBaseEdge_spec`, the four old darts involved lie below `next`, the rest of the block stays free,
    the pairing of the tags survives -/
structure BaseEff (m m1 : Map Val) (next : Nat) (e : MEdge) : Prop where
  wf : WF 3 m1
  n : m1.n = m.n
  u : m1.u = m.u
  att : m1.att = m.att
  start_lt : e.start < next
  stop_lt : e.stop < next
  b1s_lt : m.β 1 e.start < next
  s1 : m1.β 1 e.start = next
  s2 : m1.β 1 next = e.stop
  s3 : m1.β 1 (m.β 0 e.stop) = next + 1
  s4 : m1.β 1 (next + 1) = m.β 1 e.start
  b2 : ∀ d, m1.β 2 d = if d = next then next + 1 else if d = next + 1 then next else m.β 2 d
  f1 : ∀ d, d ≠ e.start → d ≠ m.β 0 e.stop → d ≠ next → d ≠ next + 1 → m1.β 1 d = m.β 1 d
  f0 : ∀ d, d ≠ e.stop → d ≠ m.β 1 e.start → d ≠ next → d ≠ next + 1 → m1.β 0 d = m.β 0 d
  free : ∀ d, next + 2 ≤ d → d < m.n → ∀ j, j < 3 → m1.β j d = 0
  pair : PairInv m1

theorem BaseEff.tag {m m1 : Map Val} {next : Nat} {e : MEdge} (B : BaseEff m m1 next e) (x : Nat) :
    tagOf m1 x = tagOf m x := by
  show m1.att sBd x = m.att sBd x
  rw [B.att]

theorem EInv.baseEdge {m m1 : Map Val} {next : Nat} {e : MEdge} (I : EInv m next) (hs : C01.InUse m e.start)
    (he : C01.InUse m e.stop) (hroom : next + 2 ≤ m.n)
    (h1 : run (buildBaseEdge e.start e.stop next (next + 1)) m = (.ok (), m1)) : BaseEff m m1 next e := by
  have hwf := I.wf
  obtain ⟨_, f0, t0⟩ := I.fresh next (Nat.le_refl _) (by omega)
  obtain ⟨_, f1, t1⟩ := I.fresh (next + 1) (by omega) (by omega)
  obtain ⟨w1, n1, uu1, a1, _, hb1s, hb0e, e1, e2, e3, e4, e5, e6, e7⟩ :=
    C16_buildBaseEdge_spec hwf hs he (I.inUse (Nat.le_refl _) (by omega)) (I.inUse (by omega) (by omega)) f0 f1
      (by omega) h1
  have hstart : e.start < next := I.lt_of_image hs.2.1 (by decide : 1 < 3) hb1s
  have hstop : e.stop < next := I.lt_of_image he.2.1 (by decide : 0 < 3) hb0e
  have hb1s' : m.β 1 e.start < next :=
    I.lt_of_image (hwf.range 1 (by decide) _ hs.2.1) (by decide : 0 < 3) (by rw [hwf.inv01 _ hs.2.1 hb1s]; exact hs.1)
  have hb0e' : m.β 0 e.stop < next :=
    I.lt_of_image (hwf.range 0 (by decide) _ he.2.1) (by decide : 1 < 3) (by rw [hwf.inv10 _ he.2.1 hb0e]; exact he.1)
  refine ⟨w1, n1, uu1, a1, hstart, hstop, hb1s', e1, e2, e3, e4, e5, e6, e7, ?_, ?_⟩
  · intro d hd hdn j hj
    have hf := (I.fresh d (by omega) hdn).2.1
    rcases (by omega : j = 0 ∨ j = 1 ∨ j = 2) with rfl | rfl | rfl
    · rw [e7 d (by omega) (by omega) (by omega) (by omega)]; exact hf 0 (by decide)
    · rw [e6 d (by omega) (by omega) (by omega) (by omega)]; exact hf 1 (by decide)
    · rw [e5 d, if_neg (by omega), if_neg (by omega)]; exact hf 2 (by decide)
  · refine PairInv.of_local hwf w1 n1 (fun x => by show m1.att sBd x = m.att sBd x; rw [a1])
      (fun d => d = next ∨ d = next + 1) ?_ ?_ I.pair
    · intro d hd
      rw [e5 d, if_neg (fun h => hd (Or.inl h)), if_neg (fun h => hd (Or.inr h))]
    · rintro d (rfl | rfl)
      · exact t0
      · exact t1

/-- what `insert_vertices_on_edge` does on the base edge `next ↔ next + 1` with the `2k` darts after it (`k > 0`): the new
    chain `start → next → next+2 → … → stop`, every β2 image of a dart of the chain on the other side, the darts below
    `next` and beyond the block framed, only coordinates written -/
structure InsEff (m m1 m2 : Map Val) (next k : Nat) (e : MEdge) : Prop where
  hyp : C14.InsHyp m1 m2 next (List.range' (next + 2) k) (List.range' (next + 2 + k) k)
  n : m2.n = m.n
  u : m2.u = m.u
  att : ∀ s d, s ≠ 0 → m2.att s d = m1.att s d
  dist : ((List.range' (next + 2) k).map fun x => (run (vertexId2 m.n x) m2).1).Nodup
  first : m2.β 1 e.start = next
  last : m2.β 1 ((List.range' (next + 2) k).getLastD next) = e.stop
  last2 : m2.β 1 ((List.range' (next + 2 + k) k).getLastD (next + 1)) = m.β 1 e.start
  fr1 : ∀ d, d < next → m2.β 1 d = m1.β 1 d
  fr0 : ∀ d, d < next → d ≠ e.stop → d ≠ m.β 1 e.start → m2.β 0 d = m1.β 0 d
  free : ∀ d, next + (2 + 2 * k) ≤ d → d < m.n → ∀ j, j < 3 → m2.β j d = 0
  b2 : ∀ x, x ∈ next :: List.range' (next + 2) k →
    m2.β 2 x = next + 1 ∨ (next + 2 + k ≤ m2.β 2 x ∧ m2.β 2 x < next + 2 + 2 * k)
  pair : PairInv m2

theorem BaseEff.insert {m m1 m2 : Map Val} {next k : Nat} {e : MEdge} {ts : List Rat} (I : EInv m next)
    (B : BaseEff m m1 next e) (hk : 0 < k) (hroom : next + (2 + 2 * k) ≤ m.n) (hts : ts.length = k)
    (h2 : run (insertVerticesOnEdge m1.n next (List.range' (next + 2) (2 * k)) ts) m1 = (.ok (), m2)) :
    InsEff m m1 m2 next k e := by
  have ie : C01.InUse m1 next := inUse_congr B.n B.u (I.inUse (Nat.le_refl _) (by omega))
  have hlive : ∀ d, d ∈ List.range' (next + 2) (2 * k) → m1.unused d = false := by
    intro d hd
    have := List.mem_range'_1.1 hd
    unfold Map.unused; rw [B.u]
    exact (I.fresh d (by omega) (by omega)).1
  have K := insert_block hts B.wf ie hlive h2
  have H := K.hyp
  have hu := K.u
  have hatt := K.att
  have hdist := K.dist
  have b2n : m1.β 2 next = next + 1 := by rw [B.b2, if_pos rfl]
  have h2ne : m1.β 2 next ≠ 0 := by rw [b2n]; omega
  have mF : ∀ d, d ∈ List.range' (next + 2) k → next + 2 ≤ d ∧ d < next + 2 + k := by
    intro d hd; have := List.mem_range'_1.1 hd; omega
  have mS : ∀ d, d ∈ List.range' (next + 2 + k) k → next + 2 + k ≤ d ∧ d < next + 2 + 2 * k := by
    intro d hd; have := List.mem_range'_1.1 hd; omega
  -- the darts the insertion touches are those of the block
  have inS : ∀ d, (d ∈ next :: List.range' (next + 2) k ∨ d ∈ m1.β 2 next :: List.range' (next + 2 + k) k) →
      next ≤ d ∧ d < next + (2 + 2 * k) := by
    intro d hd
    rw [b2n] at hd
    rcases hd with hd | hd <;> rcases List.mem_cons.1 hd with h | h
    · omega
    · have := mF d h; omega
    · omega
    · have := mS d h; omega
  have fr : ∀ d, (d < next ∨ next + (2 + 2 * k) ≤ d) → m2.β 1 d = m1.β 1 d ∧ m2.β 2 d = m1.β 2 d ∧
      (d ≠ e.stop → d ≠ m.β 1 e.start → m2.β 0 d = m1.β 0 d) := by
    intro d hd
    have := block_frame H (y := d) (by omega) (by rw [b2n]; omega) (by omega)
    rw [B.s2, b2n, B.s4] at this
    exact this
  have fr1 := fun d hd => (fr d hd).1
  have fr2 := fun d hd => (fr d hd).2.1
  have fr0 := fun d hd => (fr d hd).2.2
  have tg2 : ∀ x, tagOf m2 x = tagOf m1 x := fun x => hatt sBd x (by decide)
  have hstart := B.start_lt
  have hstop := B.stop_lt
  have hb1s := B.b1s_lt
  refine ⟨H, by rw [H.n_eq, B.n], by rw [hu, B.u], hatt, by rw [← B.n]; exact hdist, by rw [fr1 _ (Or.inl hstart), B.s1],
    by rw [H.res.side1.2, B.s2], ?_, fun d hd => fr1 d (Or.inl hd), fun d hd => fr0 d (Or.inl hd), ?_, ?_, ?_⟩
  · have := (H.res.side2 h2ne).2
    rw [b2n, B.s4] at this
    exact this
  · intro d hd hdn j hj
    have hm1 := B.free d (by omega) hdn
    rcases (by omega : j = 0 ∨ j = 1 ∨ j = 2) with rfl | rfl | rfl
    · rw [fr0 d (Or.inr hd) (by omega) (by omega)]; exact hm1 0 (by decide)
    · rw [fr1 d (Or.inr hd)]; exact hm1 1 (by decide)
    · rw [fr2 d (Or.inr hd)]; exact hm1 2 (by decide)
  · -- β2 pairs the `t`-th dart of the chain with the `(k - t)`-th dart of `next + 1 :: second half`
    intro x hx
    have hlenF : (List.range' (next + 2) k).length = k := List.length_range'
    have key : ∀ t, t ≤ k → (next :: List.range' (next + 2) k).getD t 0 = x →
        m2.β 2 x = next + 1 ∨ (next + 2 + k ≤ m2.β 2 x ∧ m2.β 2 x < next + 2 + 2 * k) := by
      intro t ht hxt
      have p := (H.pairs_index h2ne (k - t) (by rw [hlenF]; omega)).2
      rw [hlenF, show k - (k - t) = t by omega, hxt, b2n] at p
      rw [p]
      by_cases hz : k - t = 0
      · left; rw [hz]; rfl
      · right
        rw [show k - t = (k - t - 1) + 1 by omega, List.getD_cons_succ, range'_getD (by omega)]
        omega
    rcases List.mem_cons.1 hx with h | h
    · exact key 0 (by omega) (by rw [h]; rfl)
    · have := mF x h
      exact key (x - (next + 2) + 1) (by omega) (by rw [List.getD_cons_succ, range'_getD (by omega)]; omega)
  · refine PairInv.of_local B.wf H.wf' H.n_eq tg2
      (fun d => d ∈ next :: List.range' (next + 2) k ∨ d ∈ m1.β 2 next :: List.range' (next + 2 + k) k) ?_ ?_ B.pair
    · intro d hd
      exact H.res.frame2 d (fun _ => ⟨fun h => hd (Or.inl h), fun h => hd (Or.inr h)⟩)
    · intro d hd
      obtain ⟨a, b⟩ := inS d hd
      rw [B.tag]; exact (I.fresh d a (by omega)).2.2

theorem InsEff.old_not_reached {m m1 m2 : Map Val} {next k : Nat} {e : MEdge} (E : InsEff m m1 m2 next k e)
    (hb2 : m1.β 2 next = next + 1) {x y : Nat} (hx : x ∈ List.range' (next + 2) k) (hy : y < next) (hy0 : y ≠ 0) :
    ¬ Reach (C03.g2 m2 .vertex) x y := by
  intro hr
  have hxr := List.mem_range'_1.1 hx
  have hxt : x = (List.range' (next + 2) k).getD (x - (next + 2)) 0 := by rw [range'_getD (by omega)]; omega
  rw [hxt] at hr
  rcases E.hyp.new_vertex_darts (x - (next + 2)) (by rw [List.length_range']; omega) y hr with h | h | ⟨_, h⟩
  · rw [← hxt] at h; omega
  · exact hy0 h
  · -- a dart of the second side: `next + 1` or beyond
    rw [List.length_range', hb2] at h
    by_cases hz : k - (x - (next + 2)) = 0
    · omega
    · rw [show k - (x - (next + 2)) = (k - (x - (next + 2)) - 1) + 1 by omega, List.getD_cons_succ, range'_getD (by omega)] at h
      omega

theorem b1chain_congr {m m1 : Map Val} (hb : m1.b = m.b) : ∀ (l : List Nat) (d : Nat), B1Chain m d l → B1Chain m1 d l := by
  intro l
  induction l with
  | nil => intro _ _; trivial
  | cons x rest ih =>
      intro d h
      exact ⟨by have : m1.β 1 d = m.β 1 d := by unfold Map.β; rw [hb]
                rw [this]; exact h.1, ih x h.2⟩

theorem run_edgeId2_linked {m : Map Val} (hwf : WF 3 m) {d : Nat} (hd : d < m.n) (h2 : m.β 2 d = d + 1) :
    run (edgeId2 (X := Val) d) m = (.ok d, m) := by
  unfold edgeId2
  simp only [bind, run_rB, hwf.okβ_of_lt (show 2 < 3 by decide) hd, if_true, h2]
  rw [if_neg (by omega)]
  simp only [Prog.pure_eq, run_ret]
  rw [Nat.min_eq_right (by omega)]

/-- the middle phase of an iteration, between `build_base_edge` (`m1`) and `mark_boundary` (`m3`): nothing for an edge
    without point of interest; else `insert_vertices_on_edge` on the new edge with the rest of the block, then the
    replacement of the placeholders along the new chain -/
def MidRun (m m1 m3 : Map Val) (next i : Nat) (ha : Bool) (e : MEdge) : Prop :=
  (e.inter = [] ∧ m3 = m1) ∨ (e.inter ≠ [] ∧ ∃ m2,
    run (insertVerticesOnEdge m1.n next (List.range' (next + 2) (2 * e.inter.length))
      (e.inter.map fun _ => (1 / 2 : Rat))) m1 = (.ok (), m2) ∧
    run (replaceInter m.n ha i (m2.β 1 next) e.inter) m2 = (.ok (), m3))

theorem MidRun.asz {m m1 m3 : Map Val} {next i : Nat} {ha : Bool} {e : MEdge} (h : MidRun m m1 m3 next i ha e) :
    m3.a.size = m1.a.size := by
  rcases h with ⟨_, rfl⟩ | ⟨_, m2, h2, h3⟩
  · rfl
  · rw [asize_of_run h3, asize_of_run h2]

/-- the map `m3` when `mark_boundary` starts, whatever the number `k` of points of interest: the new chain
    `start → next → next+2 → … → next+1+k → stop` is there, β2 sends it into the block, the tags are those of `m`, the
    darts handed out before are framed -/
structure MidEff (m m1 m3 : Map Val) (next : Nat) (e : MEdge) : Prop where
  wf : WF 3 m3
  n : m3.n = m.n
  u : m3.u = m.u
  tag : ∀ x, tagOf m3 x = tagOf m x
  pair : PairInv m3
  free : ∀ d, next + (2 + 2 * e.inter.length) ≤ d → d < m.n → ∀ j, j < 3 → m3.β j d = 0
  first : m3.β 1 e.start = next
  chain : B1Chain m3 next (List.range' (next + 2) e.inter.length)
  last : m3.β 1 ((List.range' (next + 2) e.inter.length).getLastD next) = e.stop
  last2 : m3.β 1 ((List.range' (next + 2 + e.inter.length) e.inter.length).getLastD (next + 1)) = m.β 1 e.start
  fr1 : ∀ d, d < next → m3.β 1 d = m1.β 1 d
  fr0 : ∀ d, d < next → d ≠ e.stop → d ≠ m.β 1 e.start → m3.β 0 d = m1.β 0 d
  b2 : ∀ x, x ∈ next :: List.range' (next + 2) e.inter.length →
    m3.β 2 x = next + 1 ∨ (next + 2 + e.inter.length ≤ m3.β 2 x ∧ m3.β 2 x < next + 2 + 2 * e.inter.length)

theorem MidEff.of_run {m m1 m3 : Map Val} {next i : Nat} {ha : Bool} {e : MEdge} (I : EInv m next)
    (B : BaseEff m m1 next e) (hroom : next + (2 + 2 * e.inter.length) ≤ m.n) (h : MidRun m m1 m3 next i ha e) :
    MidEff m m1 m3 next e := by
  rcases h with ⟨hnil, rfl⟩ | ⟨hne, m2, h2, h3⟩
  · have hk : e.inter.length = 0 := by rw [hnil]; rfl
    refine ⟨B.wf, B.n, B.u, B.tag, B.pair, fun d hd => B.free d (by omega), B.s1, ?_, ?_, ?_, fun _ _ => rfl,
      fun _ _ _ _ => rfl, ?_⟩
    · rw [hk]; trivial
    · rw [hk]; exact B.s2
    · rw [hk]; exact B.s4
    · intro x hx
      rw [hk] at hx
      rw [List.mem_singleton.1 hx, B.b2, if_pos rfl]
      exact Or.inl rfl
  · have E := B.insert I (List.length_pos_iff.2 hne) hroom (List.length_map _) h2
    have st3 := AttrOnly.run_ok (attrOnly_replaceInter m.n ha i _ _) h3
    have hβ : m3.β = m2.β := β_of_sameTopo st3
    have tg3 : ∀ x, tagOf m3 x = tagOf m2 x := fun x =>
      replaceInter_frame m.n ha i _ _ _ _ h3 sBd x (Or.inl ⟨by decide, by decide⟩)
    exact ⟨E.hyp.wf'.sameTopo st3, by rw [st3.n, E.n], by rw [st3.u, E.u],
      fun x => by rw [tg3, ← B.tag]; exact E.att sBd x (by decide), E.pair.congr hβ st3.n tg3,
      fun d hd hdn j hj => by rw [hβ]; exact E.free d hd hdn j hj, by rw [hβ]; exact E.first,
      b1chain_congr st3.b _ next E.hyp.res.side1.1, by rw [hβ]; exact E.last, by rw [hβ]; exact E.last2,
      fun d hd => by rw [hβ]; exact E.fr1 d hd, fun d hd h1 h2 => by rw [hβ]; exact E.fr0 d hd h1 h2,
      fun x hx => by rw [hβ]; exact E.b2 x hx⟩

/-- **the three phases of one iteration**: `build_base_edge` on the first two darts of the block; the middle phase
    `MidRun` (the identifier of the new edge is `next`); `mark_boundary` from the successor of the start dart -/
theorem insertOneEdge_phases {m m' : Map Val} {next i : Nat} {ha : Bool} {e : MEdge} (I : EInv m next)
    (hs : C01.InUse m e.start) (he : C01.InUse m e.stop) (hroom : next + (2 + 2 * e.inter.length) ≤ m.n) :
    run (insertOneEdge m.n ha i e (List.range' next (2 + 2 * e.inter.length))) m = (.ok (), m') ↔
    ∃ m1 m3, run (buildBaseEdge e.start e.stop next (next + 1)) m = (.ok (), m1) ∧ MidRun m m1 m3 next i ha e ∧
      run (markBoundary e.stop m.n (m3.β 1 e.start)) m3 = (.ok (), m') := by
  unfold insertOneEdge
  simp only [Prog.bind_eq]
  rw [range'_getD (by omega : 0 < 2 + 2 * e.inter.length), range'_getD (by omega : 1 < 2 + 2 * e.inter.length), Nat.add_zero]
  have hslice : (List.range' next (2 + 2 * e.inter.length)).drop 2 = List.range' (next + 2) (2 * e.inter.length) := by
    rw [List.drop_range']
    congr 1
    omega
  have hnext : ∀ {m1}, BaseEff m m1 next e → m1.β 2 next = next + 1 := fun B => by rw [B.b2, if_pos rfl]
  constructor
  · intro hr
    obtain ⟨_, m1, h1, hr⟩ := run_bind_ok hr
    obtain ⟨_, m3, h3, hr⟩ := run_bind_ok hr
    obtain ⟨_, hmark⟩ := rB_bind_ok hr
    refine ⟨m1, m3, h1, ?_, hmark⟩
    by_cases hemp : e.inter = []
    · rw [if_pos (by rw [hemp]; rfl)] at h3
      simp only [Prog.pure_eq, run_ret, Prod.mk.injEq] at h3
      exact Or.inl ⟨hemp, h3.2.symm⟩
    · rw [if_neg (by rw [List.isEmpty_iff]; exact hemp)] at h3
      obtain ⟨eid, heid, h3⟩ := run_ro_bind_ok (readOnly_edgeId2 (X := Val) next) h3
      obtain ⟨_, m2, h2, h3⟩ := run_bind_ok h3
      obtain ⟨_, h3⟩ := rB_bind_ok h3
      have B := I.baseEdge hs he (by omega) h1
      have heq : eid = next := by
        rw [edgeId2_min heid, hnext B, if_neg (by omega)]
        exact Nat.min_eq_right (by omega)
      rw [heq, hslice, ← B.n] at h2
      rw [heq] at h3
      exact Or.inr ⟨hemp, m2, h2, h3⟩
  · rintro ⟨m1, m3, h1, hmid, hmark⟩
    have B := I.baseEdge hs he (by omega) h1
    have M := MidEff.of_run I B hroom hmid
    rw [run_bind_of_ok h1]
    refine (run_bind_of_ok (a := ()) (m' := m3) ?_).trans ?_
    · rcases hmid with ⟨hemp, rfl⟩ | ⟨hemp, m2, h2, h3⟩
      · rw [if_pos (by rw [hemp]; rfl)]
        rfl
      · have E := B.insert I (List.length_pos_iff.2 hemp) hroom (List.length_map _) h2
        rw [if_neg (by rw [List.isEmpty_iff]; exact hemp), hslice]
        rw [B.n] at h2
        rw [run_bind_of_ok (run_edgeId2_linked B.wf (by rw [B.n]; omega) (hnext B)), run_bind_of_ok h2, run_rB,
          if_pos (E.hyp.wf'.okβ_of_lt (by decide) (by rw [E.n]; omega))]
        exact h3
    · rw [run_rB, if_pos (M.wf.okβ_of_lt (by decide) (by rw [M.n]; exact hs.2.1))]
      exact hmark

/-- the phases of a successful iteration with what they do -/
theorem insertOneEdge_mid {m m' : Map Val} {next i : Nat} {ha : Bool} {e : MEdge} (I : EInv m next)
    (hs : C01.InUse m e.start) (he : C01.InUse m e.stop) (hroom : next + (2 + 2 * e.inter.length) ≤ m.n)
    (hr : run (insertOneEdge m.n ha i e (List.range' next (2 + 2 * e.inter.length))) m = (.ok (), m')) :
    ∃ m1 m3, BaseEff m m1 next e ∧ MidRun m m1 m3 next i ha e ∧ MidEff m m1 m3 next e ∧
      run (markBoundary e.stop m.n next) m3 = (.ok (), m') := by
  obtain ⟨m1, m3, h1, hmid, hmark⟩ := (insertOneEdge_phases I hs he hroom).1 hr
  have B := I.baseEdge hs he (by omega) h1
  have M := MidEff.of_run I B hroom hmid
  rw [M.first] at hmark
  exact ⟨m1, m3, B, hmid, M, hmark⟩

/-- **C16, step 5 — one iteration keeps the invariant**: well-formedness, dart count, removal flags, tags in
    {`Left`, `Right`, absent}, opposite tags on the two sides of every tagged 2-linked dart, and the darts not handed out yet
    stay live, free and untagged -/
theorem C16_insertOneEdge_inv {m m' : Map Val} {next i : Nat} {ha : Bool} {e : MEdge} (I : EInv m next)
    (hs : C01.InUse m e.start) (he : C01.InUse m e.stop) (hroom : next + (2 + 2 * e.inter.length) ≤ m.n)
    (hr : run (insertOneEdge m.n ha i e (List.range' next (2 + 2 * e.inter.length))) m = (.ok (), m')) :
    EInv m' (next + (2 + 2 * e.inter.length)) ∧ m'.n = m.n ∧ m'.u = m.u := by
  obtain ⟨m1, m3, B, _, M, hmark⟩ := insertOneEdge_mid I hs he hroom hr
  rw [← M.n] at hmark
  obtain ⟨st, _, T', P', loc⟩ := C16_markBoundary_spec e.stop _ _ m3 m' M.wf (fun x => by rw [M.tag]; exact I.tags x)
    M.pair hmark
  refine ⟨⟨M.wf.sameTopo st, T', P', by have := I.pos; omega, ?_⟩, by rw [st.n, M.n], by rw [st.u, M.u]⟩
  intro d hd hdn
  rw [st.n, M.n] at hdn
  refine ⟨by unfold Map.unused; rw [st.u, M.u]; exact (I.fresh d (by omega) hdn).1,
    fun j hj => by rw [β_of_sameTopo st]; exact M.free d hd hdn j hj, ?_⟩
  -- a dart that is still free cannot have been met by the walk, which starts at `next`
  by_cases hch : tagOf m' d = tagOf m3 d
  · rw [hch, M.tag]
    exact (I.fresh d (by omega) hdn).2.2
  · rcases loc d hch with h | h | ⟨j, hj, h⟩
    · omega
    · have := I.pos
      omega
    · exact absurd (M.free d hd hdn j hj) h

/-- what a successful iteration does to β0 / β1 of the darts handed out before: only the images of `start`, of the
    predecessor of `stop`, of `stop` and of the successor of `start` change, towards the new block -/
theorem insertOneEdge_frames {m m' : Map Val} {next i : Nat} {ha : Bool} {e : MEdge} (I : EInv m next)
    (hs : C01.InUse m e.start) (he : C01.InUse m e.stop) (hroom : next + (2 + 2 * e.inter.length) ≤ m.n)
    (hr : run (insertOneEdge m.n ha i e (List.range' next (2 + 2 * e.inter.length))) m = (.ok (), m')) :
    (∀ d, d < next → d ≠ e.start → d ≠ m.β 0 e.stop → m'.β 1 d = m.β 1 d) ∧
    (∀ d, d < next → (m'.β 1 d = m.β 1 d ∨ next ≤ m'.β 1 d)) ∧
    (∀ d, d < next → d ≠ e.stop → d ≠ m.β 1 e.start → m'.β 0 d = m.β 0 d) ∧
    (∀ d, d < next → m.β 0 d ≠ 0 → m'.β 0 d ≠ 0) := by
  obtain ⟨m1, m3, B, _, M, hmark⟩ := insertOneEdge_mid I hs he hroom hr
  have hβ' : ∀ j d, m'.β j d = m3.β j d := (AttrOnly.run_ok (attrOnly_markBoundary _ _ _) hmark).β
  have hpos := I.pos
  -- the last dart of each side of the new edge is a dart of the block
  have hL1 : (List.range' (next + 2) e.inter.length).getLastD next ≠ 0 ∧
      (List.range' (next + 2) e.inter.length).getLastD next < m.n := by
    rcases List.mem_cons.1 (C14.getLastD_mem (List.range' (next + 2) e.inter.length) next) with h | h
    · omega
    · have := List.mem_range'_1.1 h
      omega
  have hL2 : (List.range' (next + 2 + e.inter.length) e.inter.length).getLastD (next + 1) ≠ 0 ∧
      (List.range' (next + 2 + e.inter.length) e.inter.length).getLastD (next + 1) < m.n := by
    rcases List.mem_cons.1 (C14.getLastD_mem (List.range' (next + 2 + e.inter.length) e.inter.length) (next + 1)) with h | h
    · omega
    · have := List.mem_range'_1.1 h
      omega
  refine ⟨?_, ?_, ?_, ?_⟩
  · intro d hd h1 h2
    rw [hβ', M.fr1 d hd]
    exact B.f1 d h1 h2 (by omega) (by omega)
  · intro d hd
    rw [hβ', M.fr1 d hd]
    by_cases h1 : d = e.start
    · right
      rw [h1, B.s1]
    · by_cases h2 : d = m.β 0 e.stop
      · right
        rw [h2, B.s3]
        omega
      · left
        exact B.f1 d h1 h2 (by omega) (by omega)
  · intro d hd h1 h2
    rw [hβ', M.fr0 d hd h1 h2]
    exact B.f0 d h1 h2 (by omega) (by omega)
  · intro d hd hd0
    rw [hβ']
    by_cases h1 : d = e.stop
    · have := M.wf.inv01 _ (by rw [M.n]; exact hL1.2) (by rw [M.last]; exact he.1)
      rw [M.last] at this
      rw [h1, this]
      exact hL1.1
    · by_cases h2 : d = m.β 1 e.start
      · have n1 : m.β 1 e.start ≠ 0 := fun h0 => hd0 (by rw [h2, h0]; exact I.wf.null 0 (by decide))
        have := M.wf.inv01 _ (by rw [M.n]; exact hL2.2) (by rw [M.last2]; exact n1)
        rw [M.last2] at this
        rw [h2, this]
        exact hL2.1
      · rw [M.fr0 d hd h1 h2, B.f0 d h1 h2 (by omega) (by omega)]
        exact hd0

/-! ## the whole `insert_edges_in_map` -/

theorem C16_insertEdgesFrom_inv (ha : Bool) : ∀ (edges : List MEdge) (m m' : Map Val) (next i : Nat), EInv m next →
    (∀ e, e ∈ edges → C01.InUse m e.start ∧ C01.InUse m e.stop) →
    next + (edges.map fun e => 2 + 2 * e.inter.length).sum ≤ m.n →
    run (insertEdgesFrom m.n ha i (edges.zip (edgeSlices next edges))) m = (.ok (), m') →
    EInv m' (next + (edges.map fun e => 2 + 2 * e.inter.length).sum) ∧ m'.n = m.n ∧ m'.u = m.u := by
  intro edges
  induction edges with
  | nil =>
      intro m m' next i I _ _ h
      simp only [edgeSlices, List.zip_nil_right, insertEdgesFrom, Prog.pure_eq, run_ret, Prod.mk.injEq] at h
      rw [← h.2]; simpa using I
  | cons e es ih =>
      intro m m' next i I hio hroom h
      simp only [edgeSlices, List.zip_cons_cons, insertEdgesFrom, Prog.bind_eq] at h
      obtain ⟨_, m1, h1, h2⟩ := run_bind_ok h
      simp only [List.map_cons, List.sum_cons] at hroom ⊢
      obtain ⟨hs, he⟩ := hio e List.mem_cons_self
      obtain ⟨I1, n1, u1⟩ := C16_insertOneEdge_inv I hs he (by omega) h1
      rw [← n1] at h2
      have hio' : ∀ e', e' ∈ es → C01.InUse m1 e'.start ∧ C01.InUse m1 e'.stop := fun e' he' =>
        ⟨inUse_congr n1 u1 (hio e' (List.mem_cons_of_mem _ he')).1, inUse_congr n1 u1 (hio e' (List.mem_cons_of_mem _ he')).2⟩
      obtain ⟨I2, n2, u2⟩ := ih m1 m' _ (i + 1) I1 hio' (by rw [n1]; omega) h2
      exact ⟨by rw [Nat.add_assoc] at I2; exact I2, by rw [n2, n1], by rw [u2, u1]⟩

theorem addFreeDarts_att_none {m : Map Val} (s : Nat) (h : ∀ d, m.att s d = none) (k : Nat) :
    ∀ d, (m.addFreeDarts k).2.att s d = none := by
  intro d
  unfold Map.addFreeDarts Map.att
  simp only
  by_cases hs : s < m.a.size
  · rw [rd_map _ _ _ hs]
    by_cases hd : d < (rd m.a s).size
    · rw [rd_ext_lt _ _ _ _ hd]; exact h d
    · by_cases hd2 : d < (rd m.a s).size + k
      · exact rd_ext_ge _ _ _ _ (by omega) hd2
      · rw [rd_oob]; rfl; rw [size_ext]; omega
  · rw [rd_oob (a := m.a.map _) (i := s) (by simpa using Nat.le_of_not_lt hs)]
    rw [rd_oob]; rfl; exact Nat.zero_le _

theorem inUse_addFreeDarts {m : Map Val} (hwf : WF 3 m) (k : Nat) {d : Nat} (h : C01.InUse m d) :
    C01.InUse (m.addFreeDarts k).2 d :=
  ⟨h.1, Nat.lt_of_lt_of_le h.2.1 (Nat.le_add_right _ _), by rw [addFreeDarts_unused hwf.toSized, if_pos h.2.1]; exact h.2.2⟩

theorem addFreeDarts_β_lt {m : Map Val} (hwf : WF 3 m) (k : Nat) {i d : Nat} (hi : i < 3) (hd : d < m.n) :
    (m.addFreeDarts k).2.β i d = m.β i d := by
  rw [addFreeDarts_β hwf.toSized k i d hi, if_pos hd]

theorem EInv.init {m : Map Val} (hwf : WF 3 m) (hnotag : ∀ d, m.att sBd d = none) (k : Nat) :
    EInv (m.addFreeDarts k).2 m.n := by
  have hs := hwf.toSized
  have t1 := addFreeDarts_att_none sBd hnotag k
  refine ⟨hwf.addFreeDarts (by omega) k, fun d => Or.inl (t1 d), ?_, hs.npos, ?_⟩
  · intro d _ _ _
    show (m.addFreeDarts k).2.att sBd d = _ ↔ (m.addFreeDarts k).2.att sBd _ = _
    rw [t1, t1]; simp
  · intro d hd hdn
    refine ⟨?_, ?_, t1 d⟩
    · rw [addFreeDarts_unused hs, if_neg (by omega)]
    · intro i hi; rw [addFreeDarts_β hs k i d hi, if_neg (by omega)]

/-- **C16, step 5 — `insert_edges_in_map` from an untagged map**: on a well-formed map without any `Boundary` value, with
    the start and end darts of the edges in use, a successful run gives a well-formed map with the same flags, `n_tot` more
    darts, every tag `Left` / `Right` / absent and opposite tags on the two sides of every tagged 2-linked dart -/
theorem C16_insert_edges_inv {m m' : Map Val} {ha : Bool} {edges : List MEdge} (hwf : WF 3 m)
    (hnotag : ∀ d, m.att sBd d = none)
    (hio : ∀ e, e ∈ edges → C01.InUse m e.start ∧ C01.InUse m e.stop)
    (hr : stepFive m ha edges = (.ok (), m')) :
    WF 3 m' ∧ m'.n = m.n + (edges.map fun e => 2 + 2 * e.inter.length).sum ∧ TagsLR m' ∧ PairInv m' := by
  unfold stepFive at hr
  simp only at hr
  have hfst : ∀ k, (m.addFreeDarts k).1 = m.n := fun _ => rfl
  rw [hfst] at hr
  obtain ⟨I2, n2, _⟩ := C16_insertEdgesFrom_inv ha edges _ m' m.n 0 (EInv.init hwf hnotag _)
    (fun e he => ⟨inUse_addFreeDarts hwf _ (hio e he).1, inUse_addFreeDarts hwf _ (hio e he).2⟩) (Nat.le_refl _) hr
  exact ⟨I2.wf, n2, I2.tags, I2.pair⟩

/-- **C16 — the hypotheses of `C16_clip_WF` hold for pipeline outputs**, for both clips: every tag is one of
    `None` / `mark` / `other` (or absent), and every 2-linked dart tagged `other` faces a dart tagged `mark` -/
theorem C16_pipeline_clip_hyps {m : Map Val} (hwf : WF 3 m) (ht : TagsLR m) (hp : PairInv m) :
    (∀ x, x ≠ 0 → x < m.n → tagOf m x = none ∨ tagOf m x = some bdNone ∨ tagOf m x = some bdLeft ∨
      tagOf m x = some bdRight) ∧
    (∀ e, e ≠ 0 → e < m.n → tagOf m e = some bdRight → m.β 2 e ≠ 0 → tagOf m (m.β 2 e) = some bdLeft) ∧
    (∀ e, e ≠ 0 → e < m.n → tagOf m e = some bdLeft → m.β 2 e ≠ 0 → tagOf m (m.β 2 e) = some bdRight) := by
  refine ⟨?_, ?_, ?_⟩
  · intro x _ _
    rcases ht x with h | h | h
    · exact Or.inl h
    · exact Or.inr (Or.inr (Or.inl h))
    · exact Or.inr (Or.inr (Or.inr h))
  · intro e h0 hlt htag h2
    exact (hp.symm hwf h0 hlt h2).1 htag
  · intro e h0 hlt htag h2
    exact (hp e h0 hlt h2).1 htag

set_option linter.unusedVariables false in
/-- **C16 — steps 5 + clip**: after `insert_edges_in_map` on an untagged well-formed map, `clip_left` and `clip_right`
    (for every iteration order of their `HashSet`) return a well-formed map in which every remaining dart tagged with the
    kept side is 2-free — `C16_clip_WF` with its hypotheses discharged -/
theorem C16_pipeline_clip_WF {m m1 m' : Map Val} {ha hb : Bool} {edges : List MEdge} (hwf : WF 3 m) (hst : 9 < m.a.size)
    (hnotag : ∀ d, m.att sBd d = none)
    (hio : ∀ e, e ∈ edges → C01.InUse m e.start ∧ C01.InUse m e.stop)
    (h5 : stepFive m ha edges = (.ok (), m1)) (left : Bool)
    (perm : List Nat → List Nat) (hperm : ∀ l, l.Nodup → (perm l).Nodup ∧ ∀ f, f ∈ perm l ↔ f ∈ l)
    (hst1 : 9 < m1.a.size)
    (hc : run (clipWith m1.n (if left then bdLeft else bdRight) (if left then bdRight else bdLeft) hb perm) m1 = (.ok (), m')) :
    WF 3 m' ∧ ∀ x, x ≠ 0 → x < m1.n → m'.unused x = false →
      tagOf m' x = some (if left then bdRight else bdLeft) → m'.β 2 x = 0 := by
  obtain ⟨w1, _, t1, p1⟩ := C16_insert_edges_inv hwf hnotag hio h5
  obtain ⟨c1, c2, c3⟩ := C16_pipeline_clip_hyps w1 t1 p1
  cases left with
  | true =>
      simp only [if_true] at hc ⊢
      exact C16_clip_WF w1 hst1 bdLeft bdRight hb perm hperm c1 c2 hc
  | false =>
      simp only [Bool.false_eq_true, if_false] at hc ⊢
      refine C16_clip_WF w1 hst1 bdRight bdLeft hb perm hperm ?_ c3 hc
      intro x h0 hlt
      rcases c1 x h0 hlt with h | h | h | h
      · exact Or.inl h
      · exact Or.inr (Or.inl h)
      · exact Or.inr (Or.inr (Or.inr h))
      · exact Or.inr (Or.inr (Or.inl h))

/-! ## orientation: `Left` on the new edge in the direction of the geometry, `Right` on the other side -/

/-- `mark_boundary` along a known β1 chain `d → l … → stop` whose darts are 2-linked and are nobody's β2 image inside
    the chain: every dart of the chain ends `Left`, its β2 image `Right`, and nothing else changes its tag -/
theorem markBoundary_chain (stop : Nat) : ∀ (l : List Nat) (d : Nat) (m m' : Map Val) (fuel : Nat), WF 3 m →
    B1Chain m d l → m.β 1 (l.getLastD d) = stop → stop ∉ d :: l → (d :: l).Nodup →
    (∀ x, x ∈ d :: l → x < m.n ∧ m.β 2 x ≠ 0) →
    (∀ x, x ∈ d :: l → ∀ y, y ∈ d :: l → m.β 2 y ≠ x) →
    run (markBoundary stop fuel d) m = (.ok (), m') →
    (∀ x, x ∈ d :: l → tagOf m' x = some bdLeft ∧ tagOf m' (m.β 2 x) = some bdRight) ∧
    (∀ z, z ∉ d :: l → (∀ y, y ∈ d :: l → m.β 2 y ≠ z) → tagOf m' z = tagOf m z) := by
  intro l
  induction l with
  | nil =>
      intro d m m' fuel hwf _ hlast hstop _ hlt hdis h
      simp only [List.getLastD_nil] at hlast
      cases fuel with
      | zero => simp [markBoundary] at h
      | succ f =>
          obtain ⟨h, _, tag1⟩ := markBoundary_succ_ok (fun e => hstop (by rw [e]; exact List.mem_cons_self)) h
          rw [hlast] at h
          cases f with
          | zero => simp [markBoundary] at h
          | succ f' =>
              rw [markBoundary_at_stop h]
              have hne : m.β 2 d ≠ d := hdis d List.mem_cons_self d List.mem_cons_self
              refine ⟨fun x hx => ?_, fun z hz hz2 => ?_⟩
              · rw [List.mem_singleton.1 hx]
                exact ⟨by rw [tag1, if_neg hne, if_pos rfl], by rw [tag1, if_pos rfl]⟩
              · rw [tag1, if_neg (hz2 d List.mem_cons_self), if_neg (fun e => hz (by rw [← e]; exact List.mem_cons_self))]
  | cons x rest ih =>
      intro d m m' fuel hwf hch hlast hstop hnd hlt hdis h
      obtain ⟨hb1, hch'⟩ := hch
      cases fuel with
      | zero => simp [markBoundary] at h
      | succ f =>
          obtain ⟨h, _, tag1⟩ := markBoundary_succ_ok (fun e => hstop (by rw [e]; exact List.mem_cons_self)) h
          rw [hb1] at h
          generalize hm1 : (m.setA sBd d (some bdLeft)).setA sBd (m.β 2 d) (some bdRight) = m1 at h tag1
          have st1 : SameTopo m m1 := hm1 ▸ (SameTopo.setA _ _ _ _).trans (SameTopo.setA _ _ _ _)
          have hβ : ∀ a b, m1.β a b = m.β a b := fun a b => st1.β a b
          have hnd1 : d ∉ x :: rest := (List.nodup_cons.1 hnd).1
          have hsub : ∀ y, y ∈ x :: rest → y ∈ d :: x :: rest := fun y hy => List.mem_cons_of_mem _ hy
          obtain ⟨i1, i2⟩ := ih x m1 m' f (hwf.sameTopo st1) (b1chain_congr st1.b rest x hch')
            (by rw [hβ, ← hlast, List.getLastD_cons])
            (fun hh => hstop (hsub _ hh)) (List.nodup_cons.1 hnd).2
            (fun y hy => by rw [hβ, st1.n]; exact hlt y (hsub y hy))
            (fun a ha b hb' => by rw [hβ]; exact hdis a (hsub a ha) b (hsub b hb')) h
          simp only [hβ] at i1 i2
          have hdd : d ∈ d :: x :: rest := List.mem_cons_self
          have hne : m.β 2 d ≠ d := hdis d hdd d hdd
          refine ⟨fun y hy => ?_, fun z hz hz2 => ?_⟩
          · rcases List.mem_cons.1 hy with rfl | hy
            · -- the first dart: written now, not overwritten later
              have h1 := i2 y hnd1 (fun b hb' => hdis y hdd b (hsub b hb'))
              have h2 : tagOf m' (m.β 2 y) = tagOf m1 (m.β 2 y) := by
                apply i2
                · intro hh; exact hdis _ (hsub _ hh) y hdd rfl
                · intro b hb' e
                  -- β2 is injective on 2-linked darts
                  have hb2 := hlt b (hsub b hb')
                  have hy2 := hlt y hdd
                  have := (hwf.invol 2 (by decide) (by decide) b hb2.1 hb2.2).1
                  rw [e, (hwf.invol 2 (by decide) (by decide) y hy2.1 hy2.2).1] at this
                  exact hnd1 (by rw [this]; exact hb')
              exact ⟨by rw [h1, tag1, if_neg hne, if_pos rfl], by rw [h2, tag1, if_pos rfl]⟩
            · exact i1 y hy
          · have hz' : z ∉ x :: rest := fun hh => hz (hsub z hh)
            rw [i2 z hz' (fun b hb' => hz2 b (hsub b hb')), tag1, if_neg (hz2 d hdd),
              if_neg (fun e => hz (by rw [← e]; exact hdd))]

/-! ## the shape of one inserted edge: chain, points of interest, node anchors -/

/-- **C16 / C17, step 5 — the shape of one inserted edge**: after a successful iteration for the edge `e` (block of new
    darts `next, next + 1, next + 2, …`) the new edge is the β1 chain `e.start → next → next+2 → … → next+1+k → e.stop`
    (`k` points of interest), `next` is 2-linked, the `j`-th point of interest is the coordinate of the vertex of the
    `j`-th intermediate dart `next + 2 + j` — the points of interest are vertices of the map, in the order of the geometry —
    and, when the map carries the anchor storages (capture), that vertex is anchored to `Node(i)`, `i` the index of the edge -/
theorem C16_insertOneEdge_shape {m m' : Map Val} {next i : Nat} {ha : Bool} {e : MEdge} (I : EInv m next)
    (hs : C01.InUse m e.start) (he : C01.InUse m e.stop) (hroom : next + (2 + 2 * e.inter.length) ≤ m.n)
    (hr : run (insertOneEdge m.n ha i e (List.range' next (2 + 2 * e.inter.length))) m = (.ok (), m')) :
    B1Chain m' e.start (next :: List.range' (next + 2) e.inter.length) ∧
    m'.β 1 ((List.range' (next + 2) e.inter.length).getLastD next) = e.stop ∧ m'.β 2 next ≠ 0 ∧
    (∀ (j : Nat) (pt : Pt), e.inter[j]? = some pt → ∀ vid, (run (vertexId2 m.n (next + 2 + j)) m').1 = .ok vid →
      m'.att 0 vid = some (.pt pt.1 pt.2 0) ∧ (ha = true → m'.att sVA vid = some (.tm (.leaf (4 * i))))) ∧
    (∀ x, x ∈ next :: List.range' (next + 2) e.inter.length →
      tagOf m' x = some bdLeft ∧ tagOf m' (m'.β 2 x) = some bdRight) := by
  obtain ⟨m1, m3, B, hmid, M, hmark⟩ := insertOneEdge_mid I hs he hroom hr
  have st := AttrOnly.run_ok (attrOnly_markBoundary _ _ _) hmark
  have hβ : ∀ a b, m'.β a b = m3.β a b := st.β
  have matt := markBoundary_frame _ _ _ _ _ hmark
  have hstop := B.stop_lt
  have hmemc : ∀ x, x ∈ next :: List.range' (next + 2) e.inter.length →
      x = next ∨ (next + 2 ≤ x ∧ x < next + 2 + e.inter.length) := by
    intro x hx
    rcases List.mem_cons.1 hx with h | h
    · exact Or.inl h
    · have := List.mem_range'_1.1 h
      right
      omega
  -- the walk of `mark_boundary` is the new chain, whatever its length
  obtain ⟨ctag, _⟩ := markBoundary_chain e.stop _ next m3 m' _ M.wf M.chain M.last
    (by intro hx; rcases hmemc _ hx with h | h <;> omega)
    (by rw [List.nodup_cons]
        exact ⟨fun hx => by have := List.mem_range'_1.1 hx; omega, List.nodup_range'⟩)
    (by intro x hx
        rw [M.n]
        rcases hmemc x hx with h | h <;> rcases M.b2 x hx with h' | h' <;> exact ⟨by omega, by omega⟩)
    (by intro x hx y hy
        rcases hmemc x hx with h | h <;> rcases M.b2 y hy with h' | h' <;> omega) hmark
  refine ⟨⟨by rw [hβ]; exact M.first, b1chain_congr st.b _ next M.chain⟩, by rw [hβ]; exact M.last, ?_, ?_, ?_⟩
  · rw [hβ]
    rcases M.b2 next List.mem_cons_self with h | h <;> omega
  · intro j pt hj vid hvid
    rcases hmid with ⟨hnil, _⟩ | ⟨hne, m2, h2, h3⟩
    · rw [hnil] at hj
      simp at hj
    · have E := B.insert I (List.length_pos_iff.2 hne) hroom (List.length_map _) h2
      -- the walk of `replaceInter` follows the new chain
      have hwalk : walkB1 m2 (m2.β 1 next) e.inter.length = List.range' (next + 2) e.inter.length := by
        have := walk_of_chain _ next E.hyp.res.side1.1
        rwa [List.length_range'] at this
      have hpts := replaceInter_points m.n ha i _ _ m2 m3 h3 (by rw [hwalk]; exact E.dist)
      rw [hwalk] at hpts
      have hb3 := (AttrOnly.run_ok (attrOnly_replaceInter m.n ha i _ _) h3).b
      have hjk : j < e.inter.length := by
        rcases Nat.lt_or_ge j e.inter.length with h | h
        · exact h
        · rw [List.getElem?_eq_none h] at hj
          cases hj
      have hmemz : (next + 2 + j, pt) ∈ (List.range' (next + 2) e.inter.length).zip e.inter := by
        have : ((List.range' (next + 2) e.inter.length).zip e.inter)[j]? = some (next + 2 + j, pt) := by
          rw [List.getElem?_zip_eq_some]
          exact ⟨by rw [List.getElem?_range' hjk]; simp, hj⟩
        exact List.mem_of_getElem? this
      have hv2 : (run (vertexId2 m.n (next + 2 + j)) m2).1 = .ok vid := by
        rw [← (C14.bOnly_vertexId2 m.n (next + 2 + j)).2 m2 m' (by rw [st.b, hb3])]
        exact hvid
      obtain ⟨p0, pa⟩ := hpts _ hmemz vid hv2
      exact ⟨by rw [matt 0 vid (by decide)]; exact p0, fun hat => by rw [matt sVA vid (by decide)]; exact pa hat⟩
  · intro x hx
    have := ctag x hx
    rw [← hβ] at this
    exact this

/-! ## examples -/

/-- one grid cell (darts 1 … 4, corners (0,0) (1,0) (1,1) (0,1)) with ten storages, no tag -/
def exCell : Map Val :=
  (((({ (Map.empty 3 10 5 : Map Val) with
    b := #[#[0, 4, 1, 2, 3], #[0, 2, 3, 4, 1], #[0, 0, 0, 0, 0]] }).setA 0 1 (some (.pt 0 0 0))).setA 0 2
      (some (.pt 1 0 0))).setA 0 3 (some (.pt 1 1 0))).setA 0 4 (some (.pt 0 1 0))

/-- an edge from dart 1 to dart 3 (across the cell) through the point of interest (3/4, 1/4) -/
def exEdge : MEdge := { start := 1, inter := [(3/4, 1/4)], stop := 3 }

theorem exCell_wf : WF 3 exCell := by decide +kernel
theorem exCell_notag : ∀ d, exCell.att sBd d = none := by
  intro d
  by_cases h : d < 6
  · have : ∀ x, x < 6 → exCell.att sBd x = none := by decide +kernel
    exact this d h
  · unfold Map.att
    rw [rd_oob _ d (by have : (rd exCell.a sBd).size = 6 := by decide +kernel
                       omega)]
    rfl

theorem exCell_stepFive : (stepFive exCell true [exEdge]).1 = .ok () ∧
    (let m' := (stepFive exCell true [exEdge]).2
     ([1, 5, 7, 2, 6, 8].map (m'.β 1), [5, 7].map (m'.β 2), [5, 6, 7, 8].map (tagOf m'), m'.att 0 7, m'.att sVA 7) =
      ([5, 7, 3, 6, 8, 2], [8, 6], [some bdLeft, some bdRight, some bdLeft, some bdRight], some (.pt (3/4) (1/4) 0),
        some (.tm (.leaf 0)))) := by decide +kernel

example : (stepFive exCell true [exEdge]).1 = .ok () := exCell_stepFive.1
-- 1 → 5 → 7 → 3 on the left of the new edge, 2 → 6 → 8 → 2 on its right; Left on 5 7, Right on their β2 images 8 6;
-- the point of interest under the vertex of dart 7, anchored Node(0) (edge number 0)
example : let m' := (stepFive exCell true [exEdge]).2
    ([1, 5, 7, 2, 6, 8].map (m'.β 1), [5, 7].map (m'.β 2), [5, 6, 7, 8].map (tagOf m'), m'.att 0 7, m'.att sVA 7) =
      ([5, 7, 3, 6, 8, 2], [8, 6], [some bdLeft, some bdRight, some bdLeft, some bdRight], some (.pt (3/4) (1/4) 0),
        some (.tm (.leaf 0))) := exCell_stepFive.2
example := C16_insert_edges_inv (ha := true) (edges := [exEdge]) exCell_wf exCell_notag (by decide +kernel)
  (C14.ok_of_fst exCell_stepFive.1)

theorem exI : EInv (exCell.addFreeDarts 4).2 5 := by
  have t := addFreeDarts_att_none sBd exCell_notag 4
  refine ⟨by decide +kernel, fun d => Or.inl (t d), ?_, by decide, ?_⟩
  · intro d _ _ _
    show (exCell.addFreeDarts 4).2.att sBd d = _ ↔ (exCell.addFreeDarts 4).2.att sBd _ = _
    rw [t, t]; simp
  · intro d h1 h2
    have hn : (exCell.addFreeDarts 4).2.n = 9 := by decide +kernel
    have key : ∀ x, x < 9 → 5 ≤ x → (exCell.addFreeDarts 4).2.unused x = false ∧
        ∀ i, i < 3 → (exCell.addFreeDarts 4).2.β i x = 0 := by decide +kernel
    rw [hn] at h2
    exact ⟨(key d h2 h1).1, (key d h2 h1).2, t d⟩

-- every hypothesis of the shape theorem holds on the cell: 1 → 5 → 7 → 3, the point of interest at the vertex of 7
example := C16_insertOneEdge_shape (i := 0) (ha := true) (e := exEdge) exI (by decide +kernel) (by decide +kernel)
  (by decide +kernel) (C14.ok_of_fst (by decide +kernel))

end HC.C16

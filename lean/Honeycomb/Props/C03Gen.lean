/-
  C03 — the images each orbit policy examines, TRANSLATED from the source on every run
  (`Gen/OrbitArms.lean`, written by tools/gen_lean.py from dim2/orbits.rs, dim3/orbits.rs and
  dim3/basic_ops.rs), are exactly the images of the hand-written model (`g2`, `g3`, `Cell3.g3v`), on which
  every C03 theorem rests (`run_gen2`, `run_gen3`, `C03_*Id3_min`).  A change of a composition in an arm of
  `orbit` / `orbit_transac` or in a push list of the 3-D identifier walks changes the generated table and
  breaks a theorem of this file; a reordering of the reads that keeps the compositions does not.
-/
import Mathlib.Data.List.Basic
import Honeycomb.Gen.OrbitArms
import Honeycomb.Props.C03
import Honeycomb.Props.C03b

namespace HC.C03
open HC
variable {X : Type}

/-- a generated image: the β indices applied to `x`, first applied first -/
def applyPath (m : Map X) (x : Nat) (p : List Nat) : Nat := p.foldl (fun y i => m.β i y) x

/-- policy codes of the generated tables -/
def polOfCode : Nat → Option Policy
  | 0 => some .vertex
  | 1 => some .vertexLinear
  | 2 => some .edge
  | 3 => some .face
  | 4 => some .faceLinear
  | 5 => some .volume
  | 6 => some .volumeLinear
  | _ => none

/-- **C03, tie of the 2-D orbit arms**: every arm of `CMap2::orbit_transac` as translated from the source
    examines exactly the images `g2` of the model, in the same order -/
theorem C03_gen_orbit2_arms (m : Map X) (x : Nat) :
    ∀ e ∈ Gen.orbitArms2, ∃ pol, polOfCode e.1 = some pol ∧ PolOK pol ∧
      g2 m pol x = e.2.map (applyPath m x) := by
  intro e he
  simp only [Gen.orbitArms2, List.mem_cons, List.not_mem_nil, or_false] at he
  rcases he with rfl | rfl | rfl | rfl | rfl <;>
    exact ⟨_, rfl, trivial, by simp only [g2, List.map, applyPath, List.foldl]⟩

/-- every named policy a 2-map accepts has an arm, once -/
theorem C03_gen_orbit2_complete : Gen.orbitArms2.map (·.1) = [0, 1, 2, 3, 4] := by decide

/-- the plain `orbit` examines the same images as `orbit_transac` (2-D) -/
theorem C03_gen_orbit2_plain_eq_transac : Gen.orbitArms2Plain = Gen.orbitArms2 := by decide

/-- **C03, tie of the 3-D orbit arms** -/
theorem C03_gen_orbit3_arms (m : Map X) (x : Nat) :
    ∀ e ∈ Gen.orbitArms3, ∃ pol, polOfCode e.1 = some pol ∧ Pol3OK pol ∧
      g3 m pol x = e.2.map (applyPath m x) := by
  intro e he
  simp only [Gen.orbitArms3, List.mem_cons, List.not_mem_nil, or_false] at he
  rcases he with rfl | rfl | rfl | rfl | rfl | rfl | rfl <;>
    exact ⟨_, rfl, trivial, by simp only [g3, List.map, applyPath, List.foldl]⟩

theorem C03_gen_orbit3_complete : Gen.orbitArms3.map (·.1) = [0, 1, 2, 3, 4, 5, 6] := by decide

theorem C03_gen_orbit3_plain_eq_transac : Gen.orbitArms3Plain = Gen.orbitArms3 := by decide

/-- **C03, tie of the 3-D identifier walks**: the images pushed by `vertex_id_transac`, `edge_id_transac`
    and `volume_id_transac` as translated from the source are the generators the minimality theorems
    `C03_vertexId3_min`, `C03_edgeId3_min`, `C03_volumeId3_min` are proved about -/
theorem C03_gen_id_pushes3 (m : Map X) (x : Nat) :
    Gen.idPushes3.map (fun e => (e.1, e.2.map (applyPath m x))) =
      [(0, Cell3.g3v m x), (1, g3 m .edge x), (2, g3 m .volume x)] := by
  simp only [Gen.idPushes3, List.map, applyPath, List.foldl, Cell3.g3v, g3]

/-- **C03, tie of the 2-D identifier walks**: `CMap2::vertex_id_transac` and `face_id_transac` (dim2/basic_ops.rs have
    their own loops, apart from `orbit_transac`) mark, fold into the minimum and queue exactly the images of the
    `Vertex` / `Face` policy, in the same order — the generators `vertexId2` / `faceId2` of the model traverse
    (`C03_vertexId2_min`, `C03_faceId2_min`) -/
theorem C03_gen_id_pushes2 (m : Map X) (x : Nat) :
    Gen.idPushes2.map (fun e => (e.1, e.2.map (applyPath m x))) = [(0, g2 m .vertex x), (1, g2 m .face x)] := by
  simp only [Gen.idPushes2, List.map, applyPath, List.foldl, g2]

/-- the 2-D identifier walks examine the same compositions as the `Vertex` / `Face` arms of `orbit_transac` -/
theorem C03_gen_id_walks2_eq_arms :
    Gen.idPushes2.lookup 0 = Gen.orbitArms2.lookup 0 ∧ Gen.idPushes2.lookup 1 = Gen.orbitArms2.lookup 3 := by decide

/-- **tie of `CMap2::edge_id_transac`**: the shortcut reads β2 — with it the translated function is `edgeId2` -/
theorem C03_gen_edgeId2 (d : Nat) :
    (do let b ← rB (X := X) Gen.edgeIdImage2 d; if b = 0 then pure d else pure (min b d)) = edgeId2 d := rfl

/-! ## the cell iterators -/

theorem zip_self_map {α β : Type} (f : α → β) (l : List α) : l.zip (l.map f) = l.map (fun d => (d, f d)) := by
  induction l with
  | nil => rfl
  | cons a t ih => simp [ih]

theorem zip_range_flags (u : Nat → Bool) (n : Nat) :
    (List.range' 1 (n - 1)).zip (((List.range n).map u).drop 1) = (List.range' 1 (n - 1)).map (fun d => (d, u d)) := by
  have h : ((List.range n).map u).drop 1 = (List.range' 1 (n - 1)).map u := by
    rw [← List.map_drop, List.range_eq_range']
    congr 1
    cases n with
    | zero => rfl
    | succ k => simp [List.range'_succ]
  rw [h, zip_self_map]

theorem range_filter_nz (p : Nat → Bool) (n : Nat) :
    (List.range n).filter (fun d => decide (d ≠ 0) && p d) = (List.range' 1 (n - 1)).filter p := by
  cases n with
  | zero => rfl
  | succ k =>
    rw [List.range_eq_range', List.range'_succ]
    simp only [List.filter_cons, ne_eq, not_true_eq_false, decide_false, Bool.false_and, Bool.false_eq_true, if_false,
      Nat.add_sub_cancel, Nat.zero_add]
    apply List.filter_congr
    intro d hd
    have : d ≠ 0 := by
      have := (List.mem_range'_1.1 hd).1; omega
    simp [this]

/-- a cell iterator as translated: the dart range `start..n_darts` zipped with the removal flags after skipping `skip` of
    them, the darts whose flag is set dropped (`dropFlagged = 1`), then the darts that are their own identifier kept -/
def interpCellIter (m : Map X) (idf : Nat → P X Nat) (start skip dropFlagged : Nat) : List Nat :=
  (((List.range' start (m.n - start)).zip (((List.range m.n).map m.unused).drop skip)).filterMap
      (fun p => if p.2 == (dropFlagged == 1) then none else some p.1)).filter
    (fun d => okVal (run (idf d) m) 0 = d)

/-- with the parameters every iterator of the code has (range from 1, one flag skipped, flagged darts dropped) the
    translated iterator is `iterCells` -/
theorem interpCellIter_eq (m : Map X) (idf : Nat → P X Nat) : interpCellIter m idf 1 1 1 = iterCells m idf := by
  unfold interpCellIter iterCells
  rw [zip_range_flags, List.filterMap_map]
  have h1 : List.filterMap ((fun p : Nat × Bool => if p.2 == ((1 : Nat) == 1) then none else some p.1) ∘ fun d => (d, m.unused d))
      (List.range' 1 (m.n - 1)) = (List.range' 1 (m.n - 1)).filter (fun d => !m.unused d) := by
    rw [← List.filterMap_eq_filter]
    apply List.filterMap_congr
    intro d _
    cases h : m.unused d <;> simp [h, Option.guard]
  rw [h1, List.filter_filter]
  have := range_filter_nz (fun d => decide (okVal (run (idf d) m) 0 = d) && (!m.unused d)) m.n
  rw [← this]
  apply List.filter_congr
  intro d _
  by_cases h0 : d = 0 <;> cases hu : m.unused d <;> by_cases hv : okVal (run (idf d) m) 0 = d <;> simp [h0, hv]

/-- **C03, tie of the cell iterators**: `iter_vertices`, `iter_edges`, `iter_faces` of a 2-map and `iter_vertices`, …,
    `iter_volumes` of a 3-map as translated from the source — range start, number of flags skipped, which darts the flag
    filter drops, which identifier function — are `iterCells` over the corresponding identifier -/
theorem C03_gen_cell_iters :
    Gen.cellIters2 = [[0, 1, 1, 1], [1, 1, 1, 1], [2, 1, 1, 1]] ∧
    Gen.cellIters3 = [[0, 1, 1, 1], [1, 1, 1, 1], [2, 1, 1, 1], [3, 1, 1, 1]] := by decide

theorem C03_gen_iterators2 (m : Map X) :
    interpCellIter m (vertexId2 m.n) 1 1 1 = iterVertices2 m ∧ interpCellIter m edgeId2 1 1 1 = iterEdges2 m ∧
    interpCellIter m (faceId2 m.n) 1 1 1 = iterFaces2 m :=
  ⟨interpCellIter_eq m _, interpCellIter_eq m _, interpCellIter_eq m _⟩

theorem C03_gen_iterators3 (m : Map X) :
    interpCellIter m (vertexId3 m.n) 1 1 1 = iterVertices3 m ∧ interpCellIter m (edgeId3 m.n) 1 1 1 = iterEdges3 m ∧
    interpCellIter m (faceId3 m.n) 1 1 1 = iterFaces3 m ∧ interpCellIter m (volumeId3 m.n) 1 1 1 = iterVolumes3 m :=
  ⟨interpCellIter_eq m _, interpCellIter_eq m _, interpCellIter_eq m _, interpCellIter_eq m _⟩

/-- an iterator that forgets to skip the flag of the null dart (the seeded changes C03-2 / C03-5) is a different list:
    on a 3-dart map whose dart 1 is removed it reports dart 1 and drops dart 2 -/
example : interpCellIter (X := Val) { n := 3, b := #[#[0,0,0],#[0,0,0],#[0,0,0]], u := #[false, true, false], a := #[#[none,none,none]] }
    edgeId2 1 0 1 = [1] ∧
    interpCellIter (X := Val) { n := 3, b := #[#[0,0,0],#[0,0,0],#[0,0,0]], u := #[false, true, false], a := #[#[none,none,none]] }
    edgeId2 1 1 1 = [2] := by decide

/-- the vertex walk pushes the images of the `Vertex` policy (as a set: the order differs) -/
theorem C03_gen_vertex_walk_same_images :
    ((Gen.idPushes3.lookup 0).getD []).all (fun p => ((Gen.orbitArms3.lookup 0).getD []).contains p) = true ∧
    ((Gen.orbitArms3.lookup 0).getD []).all (fun p => ((Gen.idPushes3.lookup 0).getD []).contains p) = true := by decide

/-- the hypotheses are about real tables: the generated 3-D vertex arm has its six compositions -/
example : (Gen.orbitArms3.lookup 0).getD [] = [[2, 3], [3, 1], [2, 1], [0, 3], [0, 2], [3, 2]] := by decide

example (m : Map X) (x : Nat) : applyPath m x [2, 1] = m.β 1 (m.β 2 x) := by
  simp only [applyPath, List.foldl]

end HC.C03

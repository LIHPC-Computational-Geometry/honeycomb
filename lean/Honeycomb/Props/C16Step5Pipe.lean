/-
  C16 — success of step 5 INSIDE the modelled pipeline: the hypothesis "the run succeeds" of the chain theorems, replaced by a
  decidable condition on the map after step 3 (checked BEFORE step 5).

  Geometries without point of interest (`C16_stepFive_total_partial`: edges may share darts):
  * `edgeData_nopoi`                          with `poi = []`, step 1 makes no `PoI` geometry vertex (`segmentsFrom_nopoi`), a walk of
                                              step 4 collects nothing (`path_nopoi`), so every edge has `inter = []`
  * `stepsTwoThree_asize`                     the `Boundary` storage is still there after step 3 (`run_asize`, Lemmas/Run.lean: no program
                                              changes the number of attribute storages)
  * `pipelineReady`                           steps 2–3 succeed, step 4 yields its edges, every edge is `Ready` in the map after step 3
  * `C16_pipeline_total_nopoi_partial`        `pipelineReady` ⇒ the pipeline succeeds (`pipelineMap … = some m'`)
  * `C16_pipeline_total_nopoi_on_grid_partial` the same on `gridMap10` (C12's builder): hypotheses `GenPos`, `FitsAll`,
                                              `KeysAreHitEdges`, `pipelineReady` only
  Any points of interest (`C16_stepFive_total_indep_partial`, Props/C16InsertTotal.lean: pairwise independent edges):
  * `Valued`, `pipelineReadyAll`              … every edge `Ready` with a coordinate at both end points, the edges pairwise `Indep`
  * `C16_pipeline_total_partial`, `C16_pipeline_total_on_grid_partial`
  * `C16_steps23_total_on_grid`               steps 2–3 SUCCEED on the grid of the builder, for every geometry in general position inside
                                              the grid and every `HashMap` order (`C16_steps23_total_partial`, Props/C16Steps23Total.lean,
                                              + C12's builder theorems + `C16_crossings_sound`) — no evaluated condition
  * `C17_capture_pipeline_total_on_grid_partial`   both, for capture (`ha = true`)
  Examples: the conditions on the chain of `C16ChainGrid` (`exD_ready`, one evaluation) and, on the 3 × 1 row, examples (B), (C)
  of the chain theorems of Props/C16Chain.lean, whose runs come from `C16_pipeline_total_partial`.
  PARTIAL: `Ready` / `Valued` / `Indep` of the edges of step 4 are evaluated on the map after step 3 (part of the condition), not
  derived from the geometry.
-/
import Honeycomb.Props.C16Step5Total
import Honeycomb.Props.C16InsertTotal
import Honeycomb.Props.C16Steps23Total
import Honeycomb.Props.C16ChainGrid


namespace HC.C16
open HC

theorem stepsTwoThree_asize {m0 m3 : Map Val} {slots : List Slot} {keys res : List Nat} {o : Out Err Unit}
    (h : stepsTwoThree m0 slots keys = (res, o, m3)) : m3.a.size = m0.a.size := by
  unfold stepsTwoThree at h
  simp only [Prod.mk.injEq] at h
  rw [← h.2.2, run_asize]
  simp only [Map.addFreeDarts, Array.size_map]

def NoPoi : GV → Prop
  | .poi _ => False
  | _ => True

theorem chainOf_nopoi {g : GGrid} {eps : Rat} {verts : List Pt} {start : Nat} {seg : Nat × Nat} :
    ∀ v, v ∈ chainOf g eps [] verts start seg → NoPoi v := by
  intro v hv
  unfold chainOf at hv
  simp only [List.mem_cons, List.mem_append, List.mem_map, List.not_mem_nil, or_false] at hv
  have hmk : ∀ x, NoPoi (mkGV [] x) := by intro x; simp [mkGV, NoPoi]
  rcases hv with rfl | ⟨x, hx, rfl⟩ | rfl
  · exact hmk _
  · split <;> trivial
  · exact hmk _

theorem segmentsFrom_nopoi {g : GGrid} {eps : Rat} {verts : List Pt} : ∀ (segs : List (Nat × Nat)) (start : Nat),
    ∀ p, p ∈ segmentsFrom g eps [] verts start segs → NoPoi p.1
  | [], _, p, hp => by simp [segmentsFrom] at hp
  | seg :: rest, start, p, hp => by
      simp only [segmentsFrom, List.mem_append] at hp
      rcases hp with hp | hp
      · exact chainOf_nopoi _ (mem_pairsOf hp).1
      · exact segmentsFrom_nopoi rest _ p hp

theorem path_nopoi {segs : List (GV × GV)} (verts : List Pt) (hno : ∀ p, p ∈ segs → NoPoi p.1) :
    ∀ {v : GV} {l : List GV} {e : GV}, Path segs v l e → poisOf verts l = [] := by
  intro v l e hp
  induction hp with
  | stop _ => rfl
  | @step w w' e' l' h hn _ ih =>
      have := hno _ (segNext_mem hn)
      cases w with
      | poi i => exact absurd this (by simp [NoPoi])
      | regular i => rw [poisOf_cons_regular]; exact ih
      | intersec i => simp [GV.isCross] at h
      | corner i => simp [GV.isCross] at h

/-- without point of interest, every edge of step 4 has no intermediate point -/
theorem edgeData_nopoi {b1 b2 : Nat → Nat} {verts : List Pt} {segs : List (GV × GV)} {darts : List Nat} {keys : List GV}
    {es : List MEdge} (hno : ∀ p, p ∈ segs → NoPoi p.1) (h : edgeData b1 b2 verts segs darts keys = .ok es) :
    ∀ e, e ∈ es → e.inter = [] := by
  intro e he
  obtain ⟨hlen, hspec⟩ := C16_edge_data_spec b1 b2 verts segs darts keys es h
  obtain ⟨i, hi, hie⟩ := List.getElem_of_mem he
  have hik : i < keys.length := by omega
  obtain ⟨e', he', hk⟩ := hspec i keys[i] (List.getElem?_eq_getElem hik)
  rw [List.getElem?_eq_getElem hi, hie] at he'
  injection he' with he'
  subst he'
  obtain ⟨v, l, en, _, hp, _, hed⟩ := (C16_edge_of_key_spec b1 b2 verts segs darts _ e).1 hk
  rw [hed]
  exact path_nopoi verts hno hp

theorem pipelineMap_of_steps {m0 m3 m' : Map Val} {g : GGrid} {eps : Rat} {poi : List Nat} {verts : List Pt}
    {segs : List (Nat × Nat)} {ha : Bool} {keys2 res : List Nat} {keys4 : List GV} {edges : List MEdge} {u : Unit}
    (h23 : stepsTwoThree m0 (slotsAll g eps verts segs) keys2 = (res, .ok u, m3))
    (h4 : edgeData (m3.β 1) (m3.β 2) verts (segmentsOf g eps poi verts segs) res keys4 = .ok edges)
    (h5 : stepFive m3 ha edges = (.ok (), m')) :
    pipelineMap m0 g eps poi verts segs ha keys2 keys4 = some m' := by
  unfold pipelineMap
  rw [h23]; simp only; rw [h4]; simp only; rw [h5]

/-- the decidable condition, evaluated: steps 2–3 succeed, step 4 yields its edges, and every edge is `Ready` in the map
    after step 3 (geometry without point of interest) -/
def pipelineReady (m0 : Map Val) (g : GGrid) (eps : Rat) (verts : List Pt) (segs : List (Nat × Nat))
    (keys2 : List Nat) (keys4 : List GV) : Bool :=
  match stepsTwoThree m0 (slotsAll g eps verts segs) keys2 with
  | (res, .ok _, m3) =>
      match edgeData (m3.β 1) (m3.β 2) verts (segmentsOf g eps [] verts segs) res keys4 with
      | .ok edges => edges.all fun e => decide (Ready m3 e)
      | _ => false
  | _ => false

/-- **C16 — success of step 5 inside the modelled pipeline, geometries without point of interest** (partial: `poi = []`, so
    that no edge has an intermediate point).  If steps 2–3 succeed, step 4 yields its edges and every edge is `Ready` in the
    map after step 3 (`pipelineReady`: a decidable condition, checked BEFORE step 5), the whole pipeline succeeds: step 5
    meets no consecutive-darts panic, no refused link, and every walk of `mark_boundary` ends. -/
theorem C16_pipeline_total_nopoi_partial {m0 : Map Val} {g : GGrid} {eps : Rat} {verts : List Pt}
    {segs : List (Nat × Nat)} {ha : Bool} {keys2 : List Nat} {keys4 : List GV} (hwf : WF 3 m0)
    (hnotag : ∀ d, m0.att sBd d = none) (hA : sBd < m0.a.size)
    (hkeys : KeysOK m0 (slotsAll g eps verts segs) keys2)
    (hready : pipelineReady m0 g eps verts segs keys2 keys4 = true) :
    ∃ m', pipelineMap m0 g eps [] verts segs ha keys2 keys4 = some m' := by
  unfold pipelineReady at hready
  split at hready
  · rename_i res u m3 h23
    split at hready
    · rename_i edges h4
      simp only [List.all_eq_true, decide_eq_true_eq] at hready
      obtain ⟨w3, t3, _, _⟩ := C16_steps23_carries hwf hkeys.1 hkeys.2.1 hkeys.2.2 h23
      obtain ⟨m', h5⟩ := C16_stepFive_total_partial (ha := ha) w3 (t3 hnotag) (by rw [stepsTwoThree_asize h23]; exact hA)
        (fun e he => ⟨edgeData_nopoi (segmentsFrom_nopoi segs 0) h4 e he, hready e he⟩)
      exact ⟨m', pipelineMap_of_steps h23 h4 h5⟩
    · cases hready
  · cases hready

/-- the same on the grid of the model's builder: no hypothesis about the map is left -/
theorem C16_pipeline_total_nopoi_on_grid_partial {g : GGrid} {ny : Nat} {eps : Rat} {verts : List Pt}
    {segs : List (Nat × Nat)} {ha : Bool} {keys2 : List Nat} {keys4 : List GV} (hnx : 0 < g.nx) (hny : 0 < ny)
    (hgen : ∀ seg, seg ∈ segs → GenPos g eps (verts.getD seg.1 (0, 0)) (verts.getD seg.2 (0, 0)))
    (hfit : FitsAll g ny verts segs)
    (hk2 : KeysAreHitEdges ((gridMap10 g ny).β 2) (slotsAll g eps verts segs) keys2)
    (hready : pipelineReady (gridMap10 g ny) g eps verts segs keys2 keys4 = true) :
    ∃ m', pipelineMap (gridMap10 g ny) g eps [] verts segs ha keys2 keys4 = some m' :=
  C16_pipeline_total_nopoi_partial (gridMap10_wf g hnx hny) (gridMap10_notag g ny)
    (by unfold gridMap10; rw [withStorages_asize, buildGrid2_asize]; decide)
    (keysOK_of_hit_edges (gridMap10_wf g hnx hny) (C16_hitDartsOK_gridMap10 hgen hfit) hk2) hready

/-! ## any points of interest: the conditions of `C16_stepFive_total_indep_partial`, evaluated after step 3 -/

/-- the dart is in use and its vertex has a coordinate -/
def Valued (m : Map Val) (x : Nat) : Prop := C01.InUse m x ∧ (m.att 0 (C03.cellId m .vertex x)).isSome = true

instance (m : Map Val) (x : Nat) : Decidable (Valued m x) := by unfold Valued C01.InUse; infer_instance

theorem Valued.carries {m : Map Val} {x : Nat} (h : Valued m x) : ∃ P, Carries m x P := by
  obtain ⟨iu, hv⟩ := h
  obtain ⟨P, hP⟩ := Option.isSome_iff_exists.1 hv
  exact ⟨P, iu, hP⟩

/-- the decidable condition: steps 2–3 succeed, step 4 yields its edges, and in the map after step 3 every edge is `Ready`
    with a coordinate at both end points, the edges pairwise independent -/
def pipelineReadyAll (m0 : Map Val) (g : GGrid) (eps : Rat) (poi : List Nat) (verts : List Pt) (segs : List (Nat × Nat))
    (keys2 : List Nat) (keys4 : List GV) : Bool :=
  match stepsTwoThree m0 (slotsAll g eps verts segs) keys2 with
  | (res, .ok _, m3) =>
      match edgeData (m3.β 1) (m3.β 2) verts (segmentsOf g eps poi verts segs) res keys4 with
      | .ok edges =>
          decide ((∀ e, e ∈ edges → Ready m3 e ∧ Valued m3 (m3.β 1 e.start) ∧ Valued m3 e.stop) ∧
            edges.Pairwise (Indep m3))
      | _ => false
  | _ => false

/-- **C16 — success of step 5 inside the modelled pipeline, any points of interest** (partial: pairwise independent
    edges).  `pipelineReadyAll` — a decidable condition on the map after step 3, checked BEFORE step 5 — implies that the
    whole pipeline succeeds. -/
theorem C16_pipeline_total_partial {m0 : Map Val} {g : GGrid} {eps : Rat} {poi : List Nat} {verts : List Pt}
    {segs : List (Nat × Nat)} {ha : Bool} {keys2 : List Nat} {keys4 : List GV} (hwf : WF 3 m0)
    (hnotag : ∀ d, m0.att sBd d = none) (hA : sBd < m0.a.size)
    (hkeys : KeysOK m0 (slotsAll g eps verts segs) keys2)
    (hready : pipelineReadyAll m0 g eps poi verts segs keys2 keys4 = true) :
    ∃ m', pipelineMap m0 g eps poi verts segs ha keys2 keys4 = some m' := by
  unfold pipelineReadyAll at hready
  split at hready
  · rename_i res u m3 h23
    split at hready
    · rename_i edges h4
      simp only [decide_eq_true_eq] at hready
      obtain ⟨hall, hind⟩ := hready
      obtain ⟨w3, t3, _, _⟩ := C16_steps23_carries hwf hkeys.1 hkeys.2.1 hkeys.2.2 h23
      have hA3 : m3.a.size = m0.a.size := stepsTwoThree_asize h23
      obtain ⟨m', h5⟩ := C16_stepFive_total_indep_partial (ha := ha) w3 (t3 hnotag) (by rw [hA3]; exact hA)
        (by intro _; rw [hA3]; unfold sVA; unfold sBd at hA; omega)
        (fun e he => ⟨(hall e he).1, (hall e he).2.1.carries, (hall e he).2.2.carries⟩) hind
      exact ⟨m', pipelineMap_of_steps h23 h4 h5⟩
    · cases hready
  · cases hready

/-- the same on the grid of the model's builder: no hypothesis about the map is left -/
theorem C16_pipeline_total_on_grid_partial {g : GGrid} {ny : Nat} {eps : Rat} {poi : List Nat} {verts : List Pt}
    {segs : List (Nat × Nat)} {ha : Bool} {keys2 : List Nat} {keys4 : List GV} (hnx : 0 < g.nx) (hny : 0 < ny)
    (hgen : ∀ seg, seg ∈ segs → GenPos g eps (verts.getD seg.1 (0, 0)) (verts.getD seg.2 (0, 0)))
    (hfit : FitsAll g ny verts segs)
    (hk2 : KeysAreHitEdges ((gridMap10 g ny).β 2) (slotsAll g eps verts segs) keys2)
    (hready : pipelineReadyAll (gridMap10 g ny) g eps poi verts segs keys2 keys4 = true) :
    ∃ m', pipelineMap (gridMap10 g ny) g eps poi verts segs ha keys2 keys4 = some m' :=
  C16_pipeline_total_partial (gridMap10_wf g hnx hny) (gridMap10_notag g ny)
    (by unfold gridMap10; rw [withStorages_asize, buildGrid2_asize]; decide)
    (keysOK_of_hit_edges (gridMap10_wf g hnx hny) (C16_hitDartsOK_gridMap10 hgen hfit) hk2) hready

/-- both conditions on the chain `a → b → c` of `C16ChainGrid` (5 × 3 grid), without point of interest and with `b` one:
    a single evaluation, so that steps 2–3 are run once -/
theorem exD_ready : pipelineReady (gridMap10 exG5 3) exG5 (1/8) exVD exSD [26, 30] [.intersec 0] = true ∧
    pipelineReadyAll (gridMap10 exG5 3) exG5 (1/8) [1] exVD exSD [26, 30] [.intersec 0] = true := by decide +kernel

/-- the chain `a → b → c` of `C16ChainGrid` on the 5 × 3 grid, WITHOUT point of interest: one edge from the crossing of
    `x = 2` to the crossing of `x = 3`, across one cell — ready, so the pipeline succeeds -/
example : ∃ m', pipelineMap (gridMap10 exG5 3) exG5 (1/8) [] exVD exSD false [26, 30] [.intersec 0] = some m' :=
  C16_pipeline_total_nopoi_on_grid_partial (by decide) (by decide) exD_gen exD_fit exD_keys exD_ready.1

/-- the chain `a → b → c` of `C16ChainGrid` with `b` a point of interest, capture (anchors): the condition holds, so the
    pipeline succeeds -/
example : ∃ m', pipelineMap (gridMap10 exG5 3) exG5 (1/8) [1] exVD exSD true [26, 30] [.intersec 0] = some m' :=
  C16_pipeline_total_on_grid_partial (by decide) (by decide) exD_gen exD_fit exD_keys exD_ready.2

-- on the grid of the builder: the point of interest `b` is a vertex anchored to a node, the crossing of `x = 3` a vertex
example : ∃ m' x j y, pipelineMap (gridMap10 exG5 3) exG5 (1/8) [1] exVD exSD true [26, 30] [.intersec 0] = some m' ∧
    C01.InUse m' x ∧ m'.att 0 (C03.cellId m' .vertex x) = some (.pt (11/4) (7/4) 0) ∧
    m'.att sVA (C03.cellId m' .vertex x) = some (.tm (.leaf (4 * j))) ∧ Carries m' y (.pt 3 (27/16) 0) := by
  obtain ⟨m', hm'⟩ := C16_pipeline_total_on_grid_partial (ha := true) (poi := [1]) (keys4 := [.intersec 0]) (by decide)
    (by decide) exD_gen exD_fit exD_keys exD_ready.2
  have hk4 : ∀ k, k ∈ [GV.intersec 0] → k.isCross = true := by
    intro k hk; have : k = .intersec 0 := by simpa using hk
    subst this; rfl
  obtain ⟨x, j, h1, h2, h3⟩ := C17_poi_are_node_vertices_on_grid (v := 1) (by decide) (by decide) exD_gen exD_fit exD_keys hk4 hm'
    ⟨.intersec 0, .poi 1, [.poi 1], .intersec 1, by simp, by decide +kernel,
      Path.step rfl (by decide +kernel) (Path.stop rfl), by decide +kernel, by simp⟩
  obtain ⟨y, hy⟩ := C16_crossings_are_vertices_on_grid (by decide) (by decide) exD_gen exD_fit exD_keys hk4 hm'
    (1, 2) (by simp [exSD]) (1/4)
    (by show IsCrossing exG5 (11/4, 7/4) (15/4, 3/2) (1/4)
        exact ⟨by norm_num, by norm_num, Or.inl ⟨3, by simp [segPoint, exG5]; norm_num⟩⟩)
  have e : segPoint (exVD.getD 1 (0, 0)) (exVD.getD 2 (0, 0)) (1/4) = (3, 27/16) := by decide +kernel
  simp only at hy
  rw [e] at hy
  exact ⟨m', x, j, y, hm', h1, h2, h3, hy⟩

/-! ## steps 2 + 3 succeed on the grid of the builder -/

/-- **C16 — steps 2 + 3 succeed on the grid of the model's builder**: every geometry whose segments are in eps-general
    position and lie inside the grid with a margin of one cell, every iteration order of the `HashMap` of step 2: no call of
    `insert_vertices_on_edge` is refused.  (`C16_steps23_total_partial` + C12's builder theorems: the crossed edges are
    interior, 2-linked, embedded; `C16_crossings_sound`: the positions lie in `]0,1[`.) -/
theorem C16_steps23_total_on_grid {g : GGrid} {ny : Nat} {eps : Rat} {verts : List Pt} {segs : List (Nat × Nat)}
    {keys2 : List Nat} (hnx : 0 < g.nx) (hny : 0 < ny)
    (hgen : ∀ seg, seg ∈ segs → GenPos g eps (verts.getD seg.1 (0, 0)) (verts.getD seg.2 (0, 0)))
    (hfit : FitsAll g ny verts segs)
    (hk2 : KeysAreHitEdges ((gridMap10 g ny).β 2) (slotsAll g eps verts segs) keys2) :
    ∃ res m3, stepsTwoThree (gridMap10 g ny) (slotsAll g eps verts segs) keys2 = (res, .ok (), m3) := by
  have slotc : ∀ (K d : Nat) (t : Rat), (slotsAll g eps verts segs)[K]? = some (some (d, t)) →
      ∃ seg, seg ∈ segs ∧ ∃ c, c ∈ crossingsOf g eps (verts.getD seg.1 (0, 0)) (verts.getD seg.2 (0, 0)) ∧
        c.dart = d ∧ c.t = t := by
    intro K d t hK
    have hmem := List.mem_of_getElem? hK
    unfold slotsAll at hmem
    obtain ⟨seg, hseg, hsl⟩ := List.mem_flatMap.1 hmem
    rw [C16_slots_genpos (hgen seg hseg)] at hsl
    obtain ⟨c, hcm, hce⟩ := List.mem_map.1 hsl
    have hc := ((C16_metadata_same_intersections g eps _ _).1 c).1 hcm
    injection hce with hce
    injection hce with hd' ht'
    exact ⟨seg, hseg, c, hc, hd', ht'⟩
  refine C16_steps23_total_partial (gridMap10_wf g hnx hny)
    (by unfold gridMap10; rw [withStorages_asize, buildGrid2_asize]; decide)
    (C16_hitDartsOK_gridMap10 hgen hfit) hk2 ?_ ?_
  · intro K d t hK
    obtain ⟨seg, hseg, c, hc, _, rfl⟩ := slotc K d t hK
    obtain ⟨_, _, _, _, _, _, _, _, _, _, t0, t1⟩ := crossing_cell (hgen seg hseg) (hfit seg hseg).1 (hfit seg hseg).2 hc
    exact ⟨t0, t1⟩
  · intro K d t hK
    obtain ⟨seg, hseg, c, hc, rfl, _⟩ := slotc K d t hK
    obtain ⟨_, _, v1, v2, c1, c2, _⟩ := C16_sideCoords_gridMap10 hgen hfit seg hseg c hc
    exact ⟨⟨v1, c1⟩, ⟨v2, c2⟩⟩

example : ∃ res m3, stepsTwoThree (gridMap10 exG5 3) (slotsAll exG5 (1/8) exVD exSD) [26, 30] = (res, .ok (), m3) :=
  C16_steps23_total_on_grid (by decide) (by decide) exD_gen exD_fit exD_keys

/-- **C17 — capture (`ha = true`: the anchor storages are written) on the grid of the builder**: steps 2–3 succeed, and
    `pipelineReadyAll` — decidable, checked before step 5 — implies that the capture pipeline succeeds -/
theorem C17_capture_pipeline_total_on_grid_partial {g : GGrid} {ny : Nat} {eps : Rat} {poi : List Nat} {verts : List Pt}
    {segs : List (Nat × Nat)} {keys2 : List Nat} {keys4 : List GV} (hnx : 0 < g.nx) (hny : 0 < ny)
    (hgen : ∀ seg, seg ∈ segs → GenPos g eps (verts.getD seg.1 (0, 0)) (verts.getD seg.2 (0, 0)))
    (hfit : FitsAll g ny verts segs)
    (hk2 : KeysAreHitEdges ((gridMap10 g ny).β 2) (slotsAll g eps verts segs) keys2)
    (hready : pipelineReadyAll (gridMap10 g ny) g eps poi verts segs keys2 keys4 = true) :
    (∃ res m3, stepsTwoThree (gridMap10 g ny) (slotsAll g eps verts segs) keys2 = (res, .ok (), m3)) ∧
    ∃ m', pipelineMap (gridMap10 g ny) g eps poi verts segs true keys2 keys4 = some m' :=
  ⟨C16_steps23_total_on_grid hnx hny hgen hfit hk2, C16_pipeline_total_on_grid_partial hnx hny hgen hfit hk2 hready⟩

example := C17_capture_pipeline_total_on_grid_partial (poi := [1]) (keys4 := [.intersec 0]) (by decide) (by decide)
  exD_gen exD_fit exD_keys exD_ready.2

/-! ## the chain theorems of `Props/C16Chain.lean` on the 3 × 1 row: examples (B) and (C), their runs obtained from the condition -/

example : ∃ m' x j, pipelineMap exRowPlain exGrid (1/8) [1] exVB exSB true [2, 6] [.intersec 0] = some m' ∧
    C01.InUse m' x ∧ m'.att 0 (C03.cellId m' .vertex x) = some (.pt (3/2) (1/2) 0) ∧
    m'.att sVA (C03.cellId m' .vertex x) = some (.tm (.leaf (4 * j))) := by
  -- the condition for success and step 4 on the output of steps 2 + 3 (one edge, its two darts in use)
  have key : pipelineReadyAll exRowPlain exGrid (1/8) [1] exVB exSB [2, 6] [.intersec 0] = true ∧
      edgeData ((stepsTwoThree exRowPlain (slotsAll exGrid (1/8) exVB exSB) [2, 6]).2.2.β 1)
        ((stepsTwoThree exRowPlain (slotsAll exGrid (1/8) exVB exSB) [2, 6]).2.2.β 2) exVB
        (segmentsOf exGrid (1/8) [1] exVB exSB) (stepsTwoThree exRowPlain (slotsAll exGrid (1/8) exVB exSB) [2, 6]).1
        [.intersec 0] = .ok [{ start := 8, inter := [(3/2, 1/2)], stop := 15 }] ∧
      C01.InUse (stepsTwoThree exRowPlain (slotsAll exGrid (1/8) exVB exSB) [2, 6]).2.2 8 ∧
      C01.InUse (stepsTwoThree exRowPlain (slotsAll exGrid (1/8) exVB exSB) [2, 6]).2.2 15 := by decide +kernel
  obtain ⟨hready, key⟩ := key
  have hkeys : KeysOK exRowPlain (slotsAll exGrid (1/8) exVB exSB) [2, 6] := by
    rw [exB_slots]
    refine ⟨by decide, by decide +kernel, ?_⟩
    intro K d t hK
    rcases K with _ | _ | K'
    · simp only [List.getElem?_cons_zero, Option.some.injEq, Prod.mk.injEq] at hK
      obtain ⟨rfl, _⟩ := hK; decide +kernel
    · simp only [List.getElem?_cons_succ, List.getElem?_cons_zero, Option.some.injEq, Prod.mk.injEq] at hK
      obtain ⟨rfl, _⟩ := hK; decide +kernel
    · simp at hK
  obtain ⟨m', hm'⟩ := C16_pipeline_total_partial (ha := true) (keys4 := [.intersec 0]) exRowPlain_wf exRowPlain_notag
    (by decide +kernel) hkeys hready
  obtain ⟨x, j, h1, h2, h3⟩ := C17_poi_are_node_vertices_partial (m0 := exRowPlain) (g := exGrid) (eps := 1/8) (poi := [1])
    (verts := exVB) (segs := exSB) (keys2 := [2, 6]) (keys4 := [.intersec 0]) (v := 1) exRowPlain_wf exRowPlain_notag
    hkeys
    hm'
    (by intro res m3 edges h23 h4
        -- read through `h23` (substituting the projections of the run for `res` and `m3` would make `subst` unfold it)
        rw [h23] at key
        obtain ⟨hed, i8, i15⟩ := key
        have h4' := hed.symm.trans h4
        injection h4' with h4'
        subst h4'
        intro e he
        have : e = { start := 8, inter := [(3/2, 1/2)], stop := 15 } := by simpa using he
        subst this
        exact ⟨i8, i15⟩)
    ⟨.intersec 0, .poi 1, [.poi 1], .intersec 1, by simp, by decide +kernel,
      Path.step rfl (by decide +kernel) (Path.stop rfl), by decide +kernel, by simp⟩
  exact ⟨m', x, j, hm', h1, h2, h3⟩

/-- the run of example (C) succeeds: the condition holds -/
theorem exC_run : ∃ m', pipelineMap exRowPlain exGrid (1/8) [1] exVC exSC true [2, 6] [.intersec 0] = some m' :=
  C16_pipeline_total_partial exRowPlain_wf exRowPlain_notag (by decide +kernel)
    (keysOK_of_hit_edges exRowPlain_wf exC_hit exC_keys) (by decide +kernel)

-- the full forms apply: the point of interest `b` is a vertex of the result anchored to a node …
example : ∃ m' x j, pipelineMap exRowPlain exGrid (1/8) [1] exVC exSC true [2, 6] [.intersec 0] = some m' ∧
    C01.InUse m' x ∧ m'.att 0 (C03.cellId m' .vertex x) = some (.pt (7/4) (3/4) 0) ∧
    m'.att sVA (C03.cellId m' .vertex x) = some (.tm (.leaf (4 * j))) := by
  obtain ⟨m', hm'⟩ := exC_run
  obtain ⟨x, j, h1, h2, h3⟩ := C17_poi_are_node_vertices (v := 1) exRowPlain_wf exRowPlain_notag exC_gen exC_hit exC_keys
    (by intro k hk; have : k = .intersec 0 := by simpa using hk
        subst this; rfl) hm'
    ⟨.intersec 0, .poi 1, [.poi 1], .intersec 1, by simp, by decide +kernel,
      Path.step rfl (by decide +kernel) (Path.stop rfl), by decide +kernel, by simp⟩
  exact ⟨m', x, j, hm', h1, h2, h3⟩

-- … and the two crossings are vertices (here the one of the second segment with `x = 2`, at `(2, 11/16)`)
example : ∃ m' x, pipelineMap exRowPlain exGrid (1/8) [1] exVC exSC true [2, 6] [.intersec 0] = some m' ∧
    Carries m' x (.pt 2 (11/16) 0) := by
  obtain ⟨m', hm'⟩ := exC_run
  have hc1 : crossingsOf exGrid (1/8) (1/4, 1/2) (7/4, 3/4) = [⟨2, 5/8, 1/2⟩] := by decide +kernel
  have hc2 : crossingsOf exGrid (1/8) (7/4, 3/4) (11/4, 1/2) = [⟨6, 11/16, 1/4⟩] := by decide +kernel
  have hside : SideCoords exRowPlain exGrid (1/8) exVC exSC := by
    intro seg hseg c hc
    have : seg = (0, 1) ∨ seg = (1, 2) := by simpa [exSC] using hseg
    rcases this with rfl | rfl
    · have hc' : c ∈ crossingsOf exGrid (1/8) (1/4, 1/2) (7/4, 3/4) := hc
      rw [hc1] at hc'
      have : c = ⟨2, 5/8, 1/2⟩ := by simpa using hc'
      subst this
      exact exRowPlain_side2
    · have hc' : c ∈ crossingsOf exGrid (1/8) (7/4, 3/4) (11/4, 1/2) := hc
      rw [hc2] at hc'
      have : c = ⟨6, 11/16, 1/4⟩ := by simpa using hc'
      subst this
      have key : (C01.InUse exRowPlain 6 ∧ exRowPlain.β 1 6 ≠ 0) ∧
          (C01.InUse exRowPlain 6 ∧ exRowPlain.att 0 (C03.cellId exRowPlain .vertex 6) = some (.pt 2 0 0)) ∧
          (C01.InUse exRowPlain (exRowPlain.β 1 6) ∧
            exRowPlain.att 0 (C03.cellId exRowPlain .vertex (exRowPlain.β 1 6)) = some (.pt 2 1 0)) ∧
          placeVal (.pt 2 0 0) (.pt 2 1 0) (some (11/16)) =
            .pt (segPoint (exVC.getD 1 (0, 0)) (exVC.getD 2 (0, 0)) (1/4)).1
                (segPoint (exVC.getD 1 (0, 0)) (exVC.getD 2 (0, 0)) (1/4)).2 0 := by decide +kernel
      exact ⟨key.1.1, key.1.2, .pt 2 0 0, .pt 2 1 0, key.2.1, key.2.2.1, key.2.2.2⟩
  have := C16_crossings_are_vertices exRowPlain_wf exRowPlain_notag exC_gen hside exC_hit exC_keys
    (by intro k hk; have : k = .intersec 0 := by simpa using hk
        subst this; rfl) hm' (1, 2) (by simp [exSC]) (1/4)
    (by show IsCrossing exGrid (7/4, 3/4) (11/4, 1/2) (1/4)
        exact ⟨by norm_num, by norm_num, Or.inl ⟨2, by simp [segPoint, exGrid]; norm_num⟩⟩)
  obtain ⟨x, hx⟩ := this
  refine ⟨m', x, hm', ?_⟩
  have e : segPoint (exVC.getD 1 (0, 0)) (exVC.getD 2 (0, 0)) (1/4) = (2, 11/16) := by decide +kernel
  simp only at hx
  rw [e] at hx
  exact hx

end HC.C16

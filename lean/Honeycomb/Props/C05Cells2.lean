/-
  C05 at cell level, continued (Props/C05Cells.lean did 1-sew / 1-unsew): 2-sew / 2-unsew and 3-sew /
  3-unsew of a 3-map — the identifiers the code computes ARE the cells.

  Cells: vertex = class under `SameCell (g3v m)` (six images and inverses), edge = class under
  `SameCell (g3e m)` (`⟨β2, β3⟩`), face = class under `SameCell (g3f m)` (`⟨β1, β0, β3⟩`).
  `Glue R ps` = the partition obtained from `R` by uniting the cells of each pair of `ps`
  (`Lemmas/Ties.lean`); under the property's proviso (`Far`: no old cell takes part in two pairs)
  it is "old cells, plus for each pair the union of its two cells" (`glue_sep`, `Lemmas/Cell3b.lean`), and the smallest
  dart of a united cell is the smaller of the two old smallest darts.

  * `C05_edgeId3_is_cell_min`: `edge_id_transac` returns the smallest dart of the edge cell.
  * `C05_twoSew3_cells` (closed faces: both darts have a successor): new vertex partition = old one
    with `l — β1 r` and `r — β1 l` united; new edge partition = old one with `l — r` united; every
    identifier the code computes (old ones before, new ones after the link) is the smallest dart
    of its cell; the new edge id is `min` of the two old ones; under the proviso the two new vertex
    ids are the `min` of the respective old ones; data placement between these ids (C05).
  * `C05_twoUnsew3_cells`: the same read backwards (re-linking what was unlinked gives back β).
  * `linked3_closed_cells`: the cells across a 3-link of two closed faces; `threeLink3_cells` / `threeUnlink3_cells`
    read it on the run of `three_link` / `three_unlink`; `C05_threeSew3_faces`, `C05_threeSew3_cells`,
    `C05_threeUnsew3_cells`: faces, edges and vertices of a 3-sew / 3-unsew of closed faces, the collected identifier
    pairs being cell minima pair by pair.
-/
import Honeycomb.Lemmas.Cell3b
import Honeycomb.Props.C05Cells

namespace HC.C05
open HC HC.CellCalc HC.Cell3
open HC.C04 (vStores eStores)
variable {X : Type}

/-- **`edge_id_transac` = smallest dart of the edge cell** (3-D, every well-formed map) -/
theorem C05_edgeId3_is_cell_min {m m' : Map X} (h : WF 4 m) {n' d v : Nat} (hd0 : d ≠ 0) (hd : d < m.n)
    (hr : run (edgeId3 (X := X) n' d) m = (.ok v, m')) : IsEid3 m d v :=
  (edgeId3_spec h hd0 hd hr).2

/-- identifiers only depend on the topology -/
theorem isVid3_sameTopo {m m' : Map X} (st : SameTopo m m') (d v : Nat) : IsVid3 m' d v ↔ IsVid3 m d v := by
  have : g3v m' = g3v m := funext (g3v_congr (fun j e => st.β j e))
  unfold IsVid3; rw [this, st.n]

theorem isEid3_sameTopo {m m' : Map X} (st : SameTopo m m') (d v : Nat) : IsEid3 m' d v ↔ IsEid3 m d v := by
  have : g3e m' = g3e m := g3e_congr (fun j e => st.β j e)
  unfold IsEid3; rw [this, st.n]

theorem pairsV2_both {m : Map X} {l r : Nat} (hbl : m.β 1 l ≠ 0) (hbr : m.β 1 r ≠ 0) :
    pairsV2 m l r = [(l, m.β 1 r), (r, m.β 1 l)] := by
  unfold pairsV2 headV
  simp [hbl, hbr]

theorem pairwise_two {α : Type} {P : α → α → Prop} {x y : α} (h : P x y) : [x, y].Pairwise P := by
  simp [h]

theorem min_ne_zero_of {a b : Nat} (ha : a ≠ 0) (hb : b ≠ 0) : min a b ≠ 0 := by omega

/-- the identifier a pair is merged into, under the proviso on a list of pairs to unite -/
theorem min_of_far {R R1 : Nat → Nat → Prop} (hR : Equivalence R) {qs : List (Nat × Nat)}
    (hglue : ∀ d e, R1 d e ↔ Glue R qs d e) (hfar : qs.Pairwise (Far R)) {p q : Nat} (hx : (p, q) ∈ qs)
    {va vb : Nat} (ha : IsMinOf R p va) (hb : IsMinOf R q vb) : IsMinOf R1 p (min va vb) := by
  have hG : ∀ e, R1 p e ↔ (R p e ∨ R q e) := by
    intro e; rw [hglue]
    exact glue_sep_pair hR hfar (pq := (p, q)) hx e
  exact isMinOf_union hG ha hb

theorem id_of_union {R R1 : Nat → Nat → Prop} (hR : Equivalence R) {qs : List (Nat × Nat)}
    (hglue : ∀ d e, R1 d e ↔ Glue R qs d e) (hfar : qs.Pairwise (Far R)) {p q : Nat} (hx : (p, q) ∈ qs)
    {va vb v : Nat} (ha : IsMinOf R p va) (hb : IsMinOf R q vb) (hv : IsMinOf R1 p v)
    (h0 : v ≠ 0) (ha0 : va ≠ 0) (hb0 : vb ≠ 0) : v = min va vb :=
  IsMinOf.unique hv (min_of_far hR hglue hfar hx ha hb) h0 (min_ne_zero_of ha0 hb0)

/-- **C05, 2-sew at cell level** (both darts have a successor; the orientation test passed) -/
theorem C05_twoSew3_cells (cfg : Cfg X) (n : Nat) (m m' : Map X) (l r : Nat) (u : Unit)
    (hwf : WF 4 m) (hl : C02.InUse m l) (hr : C02.InUse m r) (hlr : l ≠ r) (hfc : m.fc = 0)
    (hbl : m.β 1 l ≠ 0) (hbr : m.β 1 r ≠ 0)
    (h : run (twoSew3 cfg n l r) m = (.ok u, m')) :
    WF 4 (m.linkI 2 l r) ∧ SameTopo (m.linkI 2 l r) m' ∧
    -- the new vertex partition: cell(l) ∪ cell(β1 r) and cell(r) ∪ cell(β1 l); nothing else changes
    (∀ d e, SameCell (g3v (m.linkI 2 l r)) m.n d e ↔
      Glue (SameCell (g3v m) m.n) [(l, m.β 1 r), (r, m.β 1 l)] d e) ∧
    -- the new edge partition: cell(l) ∪ cell(r)
    (∀ d e, SameCell (g3e (m.linkI 2 l r)) m.n d e ↔ Glue (SameCell (g3e m) m.n) [(l, r)] d e) ∧
    ∃ el er lv b1rv b1lv rv lvn rvn en,
      -- every identifier the code computes is the smallest dart of its cell
      IsEid3 m l el ∧ IsEid3 m r er ∧ IsVid3 m l lv ∧ IsVid3 m (m.β 1 r) b1rv ∧
      IsVid3 m (m.β 1 l) b1lv ∧ IsVid3 m r rv ∧
      IsVid3 (m.linkI 2 l r) l lvn ∧ IsVid3 (m.linkI 2 l r) r rvn ∧ IsEid3 (m.linkI 2 l r) l en ∧
      en = min el er ∧
      -- the property's proviso: the two end points of the new edge are made of four different old
      -- vertices — then each new identifier is the smaller of the two old ones
      (Far (SameCell (g3v m) m.n) (l, m.β 1 r) (r, m.β 1 l) → lvn = min lv b1rv ∧ rvn = min rv b1lv) ∧
      -- the data, in the order of the code, between these identifiers
      ∃ ma mb mc md,
        MergedIn cfg [0] lvn lv b1rv (m.linkI 2 l r) ma ∧ MergedIn cfg [0] rvn b1lv rv ma mb ∧
        MergedIn cfg (storagesOf cfg 0) lvn lv b1rv mb mc ∧ MergedIn cfg (storagesOf cfg 0) rvn b1lv rv mc md ∧
        MergedIn cfg (eStores cfg) en el er md m' := by
  obtain ⟨hl0, hln, hlu⟩ := hl
  obtain ⟨hr0, hrn, hru⟩ := hr
  have han : m.β 1 r < m.n := hwf.range 1 (by omega) r hrn
  have hbn : m.β 1 l < m.n := hwf.range 1 (by omega) l hln
  obtain ⟨el, er, lv, b1rv, b1lv, rv, m1, lvn, rvn, en, ma, mb, mc, md, hel, her, hlv, hb1rv, hb1lv, hrv, _,
    hlink, hlvn, hrvn, hen, rA', rB', rC', rD', rE'⟩ := C05_twoSew3_both cfg n l r m m' u hfc hbl hbr h
  obtain ⟨_, _, h2l, h2r, hm1⟩ := iLinkCore_ok hlink
  have hm1' : m1 = m.linkI 2 l r := hm1
  subst hm1'
  have hwf1 : WF 4 (m.linkI 2 l r) := hwf.linkI (by omega) (by omega) hl0 hr0 hlr hln hrn hlu hru h2l h2r
  have hn1 : (m.linkI 2 l r).n = m.n := rfl
  have htopo : SameTopo (m.linkI 2 l r) m' :=
    (((rA'.topo.trans rB'.topo).trans rC'.topo).trans rD'.topo).trans rE'.topo
  have hv : ∀ d e, SameCell (g3v (m.linkI 2 l r)) m.n d e ↔
      Glue (SameCell (g3v m) m.n) [(l, m.β 1 r), (r, m.β 1 l)] d e := by
    intro d e
    rw [← pairsV2_both hbl hbr]
    exact vertex_cells_link2 hwf hl0 hr0 hlr hln hrn h2l h2r d e
  have he := edge_cells_link2 hwf hl0 hr0 hlr hln hrn h2l h2r
  have s_el := (edgeId3_spec hwf hl0 hln hel).2
  have s_er := (edgeId3_spec hwf hr0 hrn her).2
  have s_lv := (vertexId3_spec hwf hl0 hln hlv).2
  have s_b1rv := (vertexId3_spec hwf hbr han hb1rv).2
  have s_b1lv := (vertexId3_spec hwf hbl hbn hb1lv).2
  have s_rv := (vertexId3_spec hwf hr0 hrn hrv).2
  have s_lvn := (vertexId3_spec hwf1 hl0 (by rw [hn1]; exact hln) hlvn).2
  have s_rvn := (vertexId3_spec hwf1 hr0 (by rw [hn1]; exact hrn) hrvn).2
  have s_en := (edgeId3_spec hwf1 hl0 (by rw [hn1]; exact hln) hen).2
  have eqE := sameCell_equiv (g3e m) m.n
  have eqV := sameCell_equiv (g3v m) m.n
  have hen' : en = min el er :=
    id_of_union eqE he (List.pairwise_singleton _ _) (List.mem_singleton.2 rfl) s_el s_er s_en
      (sameCellE_ne_zero hwf1 hl0 (by rw [hn1]; exact hln) s_en.1) (sameCellE_ne_zero hwf hl0 hln s_el.1)
      (sameCellE_ne_zero hwf hr0 hrn s_er.1)
  refine ⟨hwf1, htopo, hv, he, el, er, lv, b1rv, b1lv, rv, lvn, rvn, en, s_el, s_er, s_lv, s_b1rv, s_b1lv, s_rv,
    s_lvn, s_rvn, s_en, hen', ?_, ma, mb, mc, md, rA', rB', rC', rD', rE'⟩
  intro hfar
  have hsep : [(l, m.β 1 r), (r, m.β 1 l)].Pairwise (Far (SameCell (g3v m) m.n)) := pairwise_two hfar
  exact ⟨id_of_union eqV hv hsep (List.mem_cons_self ..) s_lv s_b1rv s_lvn
      (s_lvn.ne_zero hwf1 hl0 (by rw [hn1]; exact hln)) (s_lv.ne_zero hwf hl0 hln) (s_b1rv.ne_zero hwf hbr han),
    id_of_union eqV hv hsep (List.mem_cons_of_mem _ (List.mem_cons_self ..)) s_rv s_b1lv s_rvn
      (s_rvn.ne_zero hwf1 hr0 (by rw [hn1]; exact hrn)) (s_rv.ne_zero hwf hr0 hrn) (s_b1lv.ne_zero hwf hbl hbn)⟩

/-- **C05, 2-unsew at cell level** (both darts have a successor).  `r = β2 l`; `U = unlinkI 2 l` is
    the map after the call as far as topology is concerned: the OLD partitions are the new ones
    with the stated pairs united. -/
theorem C05_twoUnsew3_cells (cfg : Cfg X) (n : Nat) (m m' : Map X) (l : Nat) (u : Unit)
    (hwf : WF 4 m) (hl : C02.InUse m l) (hfc : m.fc = 0)
    (hbl : m.β 1 l ≠ 0) (hbr : m.β 1 (m.β 2 l) ≠ 0)
    (h : run (twoUnsew3 cfg n l) m = (.ok u, m')) :
    m.β 2 l ≠ 0 ∧ WF 4 (m.unlinkI 2 l) ∧ SameTopo (m.unlinkI 2 l) m' ∧
    (∀ d e, SameCell (g3v m) m.n d e ↔
      Glue (SameCell (g3v (m.unlinkI 2 l)) m.n) [(l, m.β 1 (m.β 2 l)), (m.β 2 l, m.β 1 l)] d e) ∧
    (∀ d e, SameCell (g3e m) m.n d e ↔ Glue (SameCell (g3e (m.unlinkI 2 l)) m.n) [(l, m.β 2 l)] d e) ∧
    ∃ eold enl enr lvold rvold a b c d,
      IsEid3 m l eold ∧ IsEid3 (m.unlinkI 2 l) l enl ∧ IsEid3 (m.unlinkI 2 l) (m.β 2 l) enr ∧
      eold = min enl enr ∧
      IsVid3 m l lvold ∧ IsVid3 m (m.β 2 l) rvold ∧
      IsVid3 (m.unlinkI 2 l) l a ∧ IsVid3 (m.unlinkI 2 l) (m.β 1 (m.β 2 l)) b ∧
      IsVid3 (m.unlinkI 2 l) (m.β 1 l) c ∧ IsVid3 (m.unlinkI 2 l) (m.β 2 l) d ∧
      (Far (SameCell (g3v (m.unlinkI 2 l)) m.n) (l, m.β 1 (m.β 2 l)) (m.β 2 l, m.β 1 l) →
        lvold = min a b ∧ rvold = min d c) ∧
      ∃ me ma mb mc,
        SplitIn cfg (eStores cfg) enl enr eold (m.unlinkI 2 l) me ∧
        SplitIn cfg [0] a b lvold me ma ∧ SplitIn cfg [0] c d rvold ma mb ∧
        SplitIn cfg (storagesOf cfg 0) a b lvold mb mc ∧ SplitIn cfg (storagesOf cfg 0) c d rvold mc m' := by
  obtain ⟨hl0, hln, hlu⟩ := hl
  obtain ⟨eold, m1, enl, enr, me, he, hunl, henl, henr, hE, htopo, hcase⟩ :=
    C05_twoUnsew3_effect cfg n l m m' u hfc h
  obtain ⟨_, _, hne, hm1⟩ := iUnlinkCore_ok hunl
  have hm1' : m1 = m.unlinkI 2 l := hm1
  subst hm1'
  have ir := hwf.image_inUse (i := 2) (by omega) hln hne
  have hrn := ir.1
  have hwf1 : WF 4 (m.unlinkI 2 l) := hwf.unlinkI (by omega) (by omega) hln hne
  have hn1 : (m.unlinkI 2 l).n = m.n := rfl
  have eβ := hwf.toSized.β_unlinkI (i := 2) (by omega) hln hrn
  have h1 : ∀ e, (m.unlinkI 2 l).β 1 e = m.β 1 e := by intro e; rw [eβ]; simp
  have han : m.β 1 (m.β 2 l) < m.n := hwf.range 1 (by omega) _ hrn
  have hbn : m.β 1 l < m.n := hwf.range 1 (by omega) l hln
  -- the partitions, read backwards
  obtain ⟨hv0, hee⟩ := cells_unlink2 hwf hl0 hln hne
  have hv : ∀ d e, SameCell (g3v m) m.n d e ↔
      Glue (SameCell (g3v (m.unlinkI 2 l)) m.n) [(l, m.β 1 (m.β 2 l)), (m.β 2 l, m.β 1 l)] d e := by
    intro d e
    have := hv0 d e
    rw [pairsV2_both (by rw [h1]; exact hbl) (by rw [h1]; exact hbr), h1, h1] at this
    exact this
  -- the fourth case of the code
  rcases hcase with ⟨c1, _⟩ | ⟨c1, _⟩ | ⟨_, c2, _⟩ |
      ⟨_, _, lvold, rvold, a, b, c, d, ma, mb, mc, hlv, hrv, ha, hb, hc, hd, rA', rB', rC', rD'⟩
  · exact absurd c1 hbl
  · exact absurd c1 hbl
  · exact absurd c2 hbr
  have ste : SameTopo (m.unlinkI 2 l) me := hE.topo
  have hwfe : WF 4 me := hwf1.sameTopo ste
  have hne' : me.n = m.n := ste.n
  have s_eold := (edgeId3_spec hwf hl0 hln he).2
  have s_enl := (edgeId3_spec hwf1 hl0 (by rw [hn1]; exact hln) henl).2
  have s_enr := (edgeId3_spec hwf1 hne (by rw [hn1]; exact hrn) henr).2
  have s_lvold := (vertexId3_spec hwf hl0 hln hlv).2
  have s_rvold := (vertexId3_spec hwf hne hrn hrv).2
  have s_a := (isVid3_sameTopo ste _ _).1 (vertexId3_spec hwfe hl0 (by rw [hne']; exact hln) ha).2
  have s_b := (isVid3_sameTopo ste _ _).1 (vertexId3_spec hwfe hbr (by rw [hne']; exact han) hb).2
  have s_c := (isVid3_sameTopo ste _ _).1 (vertexId3_spec hwfe hbl (by rw [hne']; exact hbn) hc).2
  have s_d := (isVid3_sameTopo ste _ _).1 (vertexId3_spec hwfe hne (by rw [hne']; exact hrn) hd).2
  have eqE := sameCell_equiv (g3e (m.unlinkI 2 l)) m.n
  have eqV := sameCell_equiv (g3v (m.unlinkI 2 l)) m.n
  have hold : eold = min enl enr :=
    id_of_union eqE hee (List.pairwise_singleton _ _) (List.mem_singleton.2 rfl) s_enl s_enr s_eold
      (sameCellE_ne_zero hwf hl0 hln s_eold.1) (sameCellE_ne_zero hwf1 hl0 (by rw [hn1]; exact hln) s_enl.1)
      (sameCellE_ne_zero hwf1 hne (by rw [hn1]; exact hrn) s_enr.1)
  refine ⟨hne, hwf1, htopo, hv, hee, eold, enl, enr, lvold, rvold, a, b, c, d, s_eold, s_enl, s_enr, hold,
    s_lvold, s_rvold, s_a, s_b, s_c, s_d, ?_, me, ma, mb, mc, hE, rA', rB', rC', rD'⟩
  intro hfar
  have hsep : [(l, m.β 1 (m.β 2 l)), (m.β 2 l, m.β 1 l)].Pairwise (Far (SameCell (g3v (m.unlinkI 2 l)) m.n)) :=
    pairwise_two hfar
  exact ⟨id_of_union eqV hv hsep (List.mem_cons_self ..) s_a s_b s_lvold (s_lvold.ne_zero hwf hl0 hln)
      (s_a.ne_zero hwf1 hl0 (by rw [hn1]; exact hln)) (s_b.ne_zero hwf1 hbr (by rw [hn1]; exact han)),
    id_of_union eqV hv hsep (List.mem_cons_of_mem _ (List.mem_cons_self ..)) s_d s_c s_rvold
      (s_rvold.ne_zero hwf hne hrn) (s_d.ne_zero hwf1 hne (by rw [hn1]; exact hrn))
      (s_c.ne_zero hwf1 hbl (by rw [hn1]; exact hbn))⟩


/-! ## 3-sew: the face merge and the edge partition (closed faces) -/

theorem cyc_free {m m1 : Map X} {i j d e L : Nat} (c : Cyc m i d L)
    (hL : Linked3 m m1 (walkPairs m i j L d e)) : ∀ t, m.β 3 (it m i t d) = 0 := by
  intro t
  obtain ⟨s, hs, he⟩ := c.mod t
  rw [he]
  exact (hL.free ((mem_walkPairs L d e _).2 ⟨s, hs, rfl⟩)).1

theorem cyc_free_r {m m1 : Map X} {i j d e L : Nat} (c : Cyc m j e L)
    (hL : Linked3 m m1 (walkPairs m i j L d e)) : ∀ t, m.β 3 (it m j t e) = 0 := by
  intro t
  obtain ⟨s, hs, he⟩ := c.mod t
  rw [he]
  exact (hL.free ((mem_walkPairs L d e _).2 ⟨s, hs, rfl⟩)).2

/-- **the cells across a 3-link of two closed faces**: `b` is `a` with exactly the pairs `(β1^t ld, β0^t rd)`, `t < L`,
    3-linked, both faces cycles of `L` darts, `L` the least period of the left one -/
theorem linked3_closed_cells {a b : Map X} {ld rd L : Nat} (hwa : WF 4 a) (hwb : WF 4 b) (hl0 : ld ≠ 0)
    (hln : ld < a.n) (hr0 : rd ≠ 0) (hrn : rd < a.n) (hL : Linked3 a b (walkPairs a 1 0 L ld rd))
    (cl : Cyc a 1 ld L) (cr : Cyc a 0 rd L) (hminl : ∀ t, 0 < t → t < L → it a 1 t ld ≠ ld) :
    ∃ lo ro,
      run (faceOrbits3 (X := X) a.n ld rd) a = (.ok (lo, ro), a) ∧ lo.Nodup ∧
      (∀ pq, pq ∈ lo.zip ro ↔ pq ∈ walkPairs a 1 0 L ld rd) ∧
      (∀ lr, lr ∈ walkPairs a 1 0 L ld rd →
        lr.1 ≠ 0 ∧ lr.1 < a.n ∧ lr.2 ≠ 0 ∧ lr.2 < a.n ∧ a.β 1 lr.1 ≠ 0 ∧ a.β 0 lr.1 ≠ 0 ∧ a.β 1 lr.2 ≠ 0) ∧
      IsFid3 a ld (listMin lo ld) ∧ IsFid3 a rd (listMin ro rd) ∧
      IsFid3 b ld (min (listMin lo ld) (listMin ro rd)) ∧
      (∀ d e, SameCell (g3f b) a.n d e ↔ Glue (SameCell (g3f a) a.n) [(ld, rd)] d e) ∧
      (∀ d e, SameCell (g3e b) a.n d e ↔ Glue (SameCell (g3e a) a.n) (walkPairs a 1 0 L ld rd) d e) ∧
      (∀ d e, SameCell (g3v b) a.n d e ↔ Glue (SameCell (g3v a) a.n) (pairsA a (walkPairs a 1 0 L ld rd)) d e) ∧
      (∀ t, 0 < t → t < L → it a 0 t rd ≠ rd) := by
  have hL0 := cl.pos
  have d10 : Dir 1 0 := Or.inl ⟨rfl, rfl⟩
  have d01 : Dir 0 1 := Or.inr ⟨rfl, rfl⟩
  have fl := cyc_free cl hL
  have fr := cyc_free_r cr hL
  have hminr : ∀ t, 0 < t → t < L → it a 0 t rd ≠ rd := fun t h0 ht =>
    (hL.cross _ ((mem_walkPairs L ld rd _).2 ⟨t, ht, rfl⟩) _ ((mem_walkPairs L ld rd _).2 ⟨0, hL0, rfl⟩)
      (fun hh => hminl t h0 ht (congrArg Prod.fst hh))).2.2.2
  have o1 := (face_orbit_cycle (X := X) hwa d10 hl0 hln cl).1
  have o2 := (face_orbit_cycle (X := X) hwa d01 hr0 hrn cr).1
  have hzip := zip_face_walks hwa hl0 hln hrn cl cr hminl hminr
  have hlond := (bfsPure_spec (gIJ_null hwa (i := 1) (j := 0) (by omega) (by omega))
    (gIJ_range hwa (i := 1) (j := 0) (by omega) (by omega)) hl0 hln).2.1
  have s_l := face_min_cycle hwa d10 hl0 hln cl fl
  have s_r := face_min_cycle hwa d01 hr0 hrn cr fr
  generalize bfsPure (gIJ a 1 0) (a.n + 1) [ld] [0, ld] [] = lo at o1 hzip hlond s_l
  generalize bfsPure (gIJ a 0 1) (a.n + 1) [rd] [0, rd] [] = ro at o2 hzip s_r
  have hfo : run (faceOrbits3 (X := X) a.n ld rd) a = (.ok (lo, ro), a) := by
    unfold faceOrbits3
    simp only [bind]
    rw [run_bind_of_ok o1, run_bind_of_ok o2]
    rfl
  have hps : ∀ lr, lr ∈ walkPairs a 1 0 L ld rd →
      lr.1 ≠ 0 ∧ lr.1 < a.n ∧ lr.2 ≠ 0 ∧ lr.2 < a.n ∧ a.β 1 lr.1 ≠ 0 ∧ a.β 0 lr.1 ≠ 0 ∧ a.β 1 lr.2 ≠ 0 := by
    intro lr hm
    obtain ⟨_, _, _, _, a5, a6, a7, a8⟩ := hL.pairs lr hm
    obtain ⟨t, ht, rfl⟩ := (mem_walkPairs L ld rd lr).1 hm
    refine ⟨a5, a7, a6, a8, ?_, ?_, ?_⟩
    · show a.β 1 (it a 1 t ld) ≠ 0
      rw [← it_succ']; exact cl.nz _
    · show a.β 0 (it a 1 t ld) ≠ 0
      rw [cl.pred hwa d10 hln t]; exact cl.nz _
    · show a.β 1 (it a 0 t rd) ≠ 0
      rw [cr.pred hwa d01 hrn t]; exact cr.nz _
  have eqF := sameCell_equiv (g3f a) a.n
  have hfaces : ∀ d e, SameCell (g3f b) a.n d e ↔ Glue (SameCell (g3f a) a.n) [(ld, rd)] d e := by
    intro d e
    have := cells_linked3 (base := fun m x => [m.β 1 x, m.β 0 x]) (m := a) (m' := b)
      (fun x => by simp only [hL.other 1 x (by omega), hL.other 0 x (by omega)]) hL d e
    rw [show gB3 (fun m x => [m.β 1 x, m.β 0 x]) b = g3f b from rfl,
      show gB3 (fun m x => [m.β 1 x, m.β 0 x]) a = g3f a from rfl] at this
    rw [this]
    refine glue_same_cells eqF (fun pq hm => ?_) ⟨(ld, rd), (mem_walkPairs L ld rd _).2 ⟨0, hL0, rfl⟩⟩ d e
    obtain ⟨t, _, rfl⟩ := (mem_walkPairs L ld rd pq).1 hm
    exact ⟨.symm ((face_cell_cycle hwa d10 hln cl fl _).2 ⟨t, rfl⟩),
      .symm ((face_cell_cycle hwa d01 hrn cr fr _).2 ⟨t, rfl⟩)⟩
  have s_new : IsFid3 b ld (min (listMin lo ld) (listMin ro rd)) := by
    unfold IsFid3; rw [hL.n]
    exact min_of_far eqF hfaces (List.pairwise_singleton _ _) (List.mem_singleton.2 rfl) s_l s_r
  have hedges : ∀ d e, SameCell (g3e b) a.n d e ↔ Glue (SameCell (g3e a) a.n) (walkPairs a 1 0 L ld rd) d e := by
    intro d e
    exact cells_linked3 (base := fun m x => [m.β 2 x]) (m := a) (m' := b)
      (fun x => by simp only [hL.other 2 x (by omega)]) hL d e
  have hverts : ∀ d e, SameCell (g3v b) a.n d e ↔
      Glue (SameCell (g3v a) a.n) (pairsA a (walkPairs a 1 0 L ld rd)) d e := by
    intro d e
    rw [vertex_cells_linked3 hwa hwb hL (fun pq hm => ⟨(hps pq hm).2.2.2.2.1, (hps pq hm).2.2.2.2.2.2⟩) d e]
    constructor
    · exact Glue.mono fun x hx => (pairsV3_closed hwa hrn cl cr x).1 hx
    · exact Glue.mono fun x hx => (pairsV3_closed hwa hrn cl cr x).2 hx
  exact ⟨lo, ro, hfo, hlond, hzip, hps, s_l, s_r, s_new, hfaces, hedges, hverts, hminr⟩

/-- **the cells after `three_link`** (closed left face): both faces are cycles of `L` darts, `L` the
    least period of both; `m1` is `m` with exactly the pairs `(β1^t ld, β0^t rd)`, `t < L`, 3-linked,
    so the face / edge / vertex partitions of `m1` are those of `m` with the stated pairs united; the
    zipped face walks of the code list exactly these pairs (the left one without repetition); their
    minima are the smallest darts of the two faces of `m`, the smaller of the two the smallest dart
    of the united face -/
theorem threeLink3_cells {m m1 : Map X} {ld rd : Nat} (hwf : WF 4 m) (hl : C02.InUse m ld) (hr : C02.InUse m rd)
    (hne : ld ≠ rd) (hclosed : ∀ t, it m 1 t ld ≠ 0)
    (hlink : run (threeLink3 (X := X) m.n ld rd) m = (.ok (), m1)) :
    ∃ L lo ro,
      WF 4 m1 ∧ Linked3 m m1 (walkPairs m 1 0 L ld rd) ∧ Cyc m 1 ld L ∧ Cyc m 0 rd L ∧
      run (faceOrbits3 m.n ld rd) m = (.ok (lo, ro), m) ∧ lo.Nodup ∧
      (∀ pq, pq ∈ lo.zip ro ↔ pq ∈ walkPairs m 1 0 L ld rd) ∧
      (∀ lr, lr ∈ walkPairs m 1 0 L ld rd →
        lr.1 ≠ 0 ∧ lr.1 < m.n ∧ lr.2 ≠ 0 ∧ lr.2 < m.n ∧ m.β 1 lr.1 ≠ 0 ∧ m.β 0 lr.1 ≠ 0 ∧ m.β 1 lr.2 ≠ 0) ∧
      IsFid3 m ld (listMin lo ld) ∧ IsFid3 m rd (listMin ro rd) ∧
      IsFid3 m1 ld (min (listMin lo ld) (listMin ro rd)) ∧
      (∀ d e, SameCell (g3f m1) m.n d e ↔ Glue (SameCell (g3f m) m.n) [(ld, rd)] d e) ∧
      (∀ d e, SameCell (g3e m1) m.n d e ↔ Glue (SameCell (g3e m) m.n) (walkPairs m 1 0 L ld rd) d e) ∧
      (∀ d e, SameCell (g3v m1) m.n d e ↔
        Glue (SameCell (g3v m) m.n) (pairsA m (walkPairs m 1 0 L ld rd)) d e) := by
  obtain ⟨hl0, hln, hlu⟩ := hl
  obtain ⟨hr0, hrn, hru⟩ := hr
  obtain ⟨hw1, _⟩ := threeLink3_ok hwf hl0 hr0 hln hrn hlu hru hne hlink
  obtain ⟨L, hL0, hL, hpl, hpr, hminl⟩ := threeLink3_linked_closed hwf.toSized hl0 hr0 hclosed hlink
  have cl : Cyc m 1 ld L := ⟨hL0, hpl, hclosed⟩
  have cr : Cyc m 0 rd L := ⟨hL0, hpr, periodic_nz (hwf.null 0 (by omega)) hL0 hpr hr0⟩
  obtain ⟨lo, ro, hfo, hlond, hzip, hps, s_l, s_r, s_new, hfaces, hedges, hverts, _⟩ :=
    linked3_closed_cells hwf hw1 hl0 hln hr0 hrn hL cl cr hminl
  exact ⟨L, lo, ro, hw1, hL, cl, cr, hfo, hlond, hzip, hps, s_l, s_r, s_new, hfaces, hedges, hverts⟩

/-- **C05, 3-sew at cell level: faces and edges** (closed left face — the right one is then closed
    with the same number of darts, C02).  The topology is that of `three_link`, which 3-links
    exactly the pairs `(β1^t ld, β0^t rd)`, `t < L`.  The two face identifiers the code computes (the
    minima of its two face walks) are the smallest darts of the two old face cells; the new face
    partition is the old one with these two faces united; the identifier merged into is the smallest
    dart of the united face.  The new edge partition is the old one with the edge cells of each
    linked pair united. -/
theorem C05_threeSew3_faces (cfg : Cfg X) (m m' : Map X) (ld rd : Nat) (u : Unit)
    (hwf : WF 4 m) (hl : C02.InUse m ld) (hr : C02.InUse m rd) (hne : ld ≠ rd) (hfc : m.fc = 0)
    (hclosed : ∀ t, it m 1 t ld ≠ 0)
    (h : run (threeSew3 cfg m.n ld rd) m = (.ok u, m')) :
    ∃ m1 L lface rface mf,
      run (threeLink3 (X := X) m.n ld rd) m = (.ok (), m1) ∧ WF 4 m1 ∧ SameTopo m1 m' ∧ 0 < L ∧
      Linked3 m m1 (walkPairs m 1 0 L ld rd) ∧ Cyc m 1 ld L ∧ Cyc m 0 rd L ∧
      IsFid3 m ld lface ∧ IsFid3 m rd rface ∧
      (∀ d e, SameCell (g3f m1) m.n d e ↔ Glue (SameCell (g3f m) m.n) [(ld, rd)] d e) ∧
      IsFid3 m1 ld (min lface rface) ∧
      MergedIn cfg (fStores cfg) (min lface rface) lface rface m1 mf ∧
      (∀ d e, SameCell (g3e m1) m.n d e ↔ Glue (SameCell (g3e m) m.n) (walkPairs m 1 0 L ld rd) d e) := by
  obtain ⟨lo, ro, es, vs, m1, mf, me, hfo, hC, hlink, hF, hE, hV, htopo⟩ :=
    C05_threeSew3_effect cfg m.n ld rd m m' u hfc h
  obtain ⟨L, lo', ro', hw1, hL, cl, cr, hfo', _, _, _, s_l, s_r, s_new, hfaces, hedges, _⟩ :=
    threeLink3_cells hwf hl hr hne hclosed hlink
  rw [hfo] at hfo'
  simp only [Prod.mk.injEq, Out.ok.injEq, and_true] at hfo'
  obtain ⟨rfl, rfl⟩ := hfo'
  exact ⟨m1, L, listMin lo ld, listMin ro rd, mf, hlink, hw1, htopo, cl.pos, hL, cl, cr, s_l, s_r, hfaces, s_new, hF,
    hedges⟩

/-! ## 3-sew: vertices and edges, the collected identifier pairs -/

/-- what the collecting loop of `three_sew` records, pair by pair, on closed faces: the edge ids of
    the two darts, and the vertex id of the head of the left dart with the vertex id of the right
    dart — each the smallest dart of its cell -/
theorem collected_ids {m : Map X} (hwf : WF 4 m) :
    ∀ {zs es vs : List (Nat × Nat)}, Collected m.n m zs es vs →
      (∀ lr, lr ∈ zs → lr.1 ≠ 0 ∧ lr.1 < m.n ∧ lr.2 ≠ 0 ∧ lr.2 < m.n ∧ m.β 1 lr.1 ≠ 0 ∧ m.β 0 lr.1 ≠ 0) →
      (∀ p, p ∈ es → ∃ lr, lr ∈ zs ∧ IsEid3 m lr.1 p.1 ∧ IsEid3 m lr.2 p.2) ∧
      (∀ lr, lr ∈ zs → ∃ p, p ∈ es ∧ IsEid3 m lr.1 p.1 ∧ IsEid3 m lr.2 p.2) ∧
      (∀ p, p ∈ vs → ∃ lr, lr ∈ zs ∧ IsVid3 m (m.β 1 lr.1) p.1 ∧ IsVid3 m lr.2 p.2) ∧
      (∀ lr, lr ∈ zs → ∃ p, p ∈ vs ∧ IsVid3 m (m.β 1 lr.1) p.1 ∧ IsVid3 m lr.2 p.2) := by
  intro zs es vs hC
  induction hC with
  | nil => intro _; exact ⟨fun p h => absurd h (by simp), fun p h => absurd h (by simp),
      fun p h => absurd h (by simp), fun p h => absurd h (by simp)⟩
  | @cons l r rest es vs es' vs' hP _ ih =>
      intro hz
      obtain ⟨i1, i2, i3, i4⟩ := ih (fun lr hm => hz lr (List.mem_cons_of_mem _ hm))
      obtain ⟨hl0, hln, hr0, hrn, h1, h0⟩ := hz (l, r) (by simp)
      obtain ⟨el, er, v1, v2, hel, her, hv1, hv2, hes, hvs⟩ := hP
      rw [if_neg h1] at hv1
      have s1 := (edgeId3_spec hwf hl0 hln hel).2
      have s2 := (edgeId3_spec hwf hr0 hrn her).2
      have s3 := (vertexId3_spec hwf h1 (hwf.range 1 (by omega) l hln) hv1).2
      have s4 := (vertexId3_spec hwf hr0 hrn hv2).2
      have hvs' : vs = [(v1, v2)] := by
        rcases hvs with ⟨_, k⟩ | ⟨k, _⟩
        · exact k
        · exact absurd k h0
      subst hes hvs'
      refine ⟨?_, ?_, ?_, ?_⟩
      · intro p hp
        rcases List.mem_append.1 hp with hp | hp
        · have : p = (el, er) := by simpa using hp
          subst this; exact ⟨(l, r), by simp, s1, s2⟩
        · obtain ⟨lr, hm, k⟩ := i1 p hp
          exact ⟨lr, List.mem_cons_of_mem _ hm, k⟩
      · intro lr hm
        rcases List.mem_cons.1 hm with rfl | hm
        · exact ⟨(el, er), by simp, s1, s2⟩
        · obtain ⟨p, hp, k⟩ := i2 lr hm
          exact ⟨p, List.mem_append_right _ hp, k⟩
      · intro p hp
        rcases List.mem_append.1 hp with hp | hp
        · have : p = (v1, v2) := by simpa using hp
          subst this; exact ⟨(l, r), by simp, s3, s4⟩
        · obtain ⟨lr, hm, k⟩ := i3 p hp
          exact ⟨lr, List.mem_cons_of_mem _ hm, k⟩
      · intro lr hm
        rcases List.mem_cons.1 hm with rfl | hm
        · exact ⟨(v1, v2), by simp, s3, s4⟩
        · obtain ⟨p, hp, k⟩ := i4 lr hm
          exact ⟨p, List.mem_append_right _ hp, k⟩

/-- **C05, 3-sew at cell level: vertices and edges** (closed faces).  With `ps` the pairs
    `(β1^t ld, β0^t rd)`, `t < L`, that `three_link` links:
    * the zipped face walks of the code list exactly `ps`;
    * the new edge partition is the old one with `l — r` united for every `(l, r) ∈ ps`, the new
      vertex partition the old one with `β1 l — r` united for every `(l, r) ∈ ps`;
    * the collected edge (vertex) identifier pairs are, pair by pair, the smallest darts of the edge
      cells of `l` and `r` (of the vertex cells of `β1 l` and `r`);
    * under the property's proviso — no old cell takes part in two of these unions — the identifier
      each pair is merged into, `min` of the two, is the smallest dart of the united cell.
    (Data placement between these identifiers: `C05_threeSew3_effect`, `C05_threeSew3_vertices`.) -/
theorem C05_threeSew3_cells (cfg : Cfg X) (m m' : Map X) (ld rd : Nat) (u : Unit)
    (hwf : WF 4 m) (hl : C02.InUse m ld) (hr : C02.InUse m rd) (hne : ld ≠ rd) (hfc : m.fc = 0)
    (hclosed : ∀ t, it m 1 t ld ≠ 0)
    (h : run (threeSew3 cfg m.n ld rd) m = (.ok u, m')) :
    ∃ m1 L lo ro es vs,
      run (threeLink3 (X := X) m.n ld rd) m = (.ok (), m1) ∧ WF 4 m1 ∧ SameTopo m1 m' ∧
      run (faceOrbits3 m.n ld rd) m = (.ok (lo, ro), m) ∧ Collected m.n m (lo.zip ro) es vs ∧
      (∀ pq, pq ∈ lo.zip ro ↔ pq ∈ walkPairs m 1 0 L ld rd) ∧
      -- partitions
      (∀ d e, SameCell (g3e m1) m.n d e ↔ Glue (SameCell (g3e m) m.n) (walkPairs m 1 0 L ld rd) d e) ∧
      (∀ d e, SameCell (g3v m1) m.n d e ↔
        Glue (SameCell (g3v m) m.n) (pairsA m (walkPairs m 1 0 L ld rd)) d e) ∧
      -- the collected identifiers are cell minima, pair by pair
      (∀ p, p ∈ es → ∃ lr, lr ∈ walkPairs m 1 0 L ld rd ∧ IsEid3 m lr.1 p.1 ∧ IsEid3 m lr.2 p.2) ∧
      (∀ lr, lr ∈ walkPairs m 1 0 L ld rd → ∃ p, p ∈ es ∧ IsEid3 m lr.1 p.1 ∧ IsEid3 m lr.2 p.2) ∧
      (∀ p, p ∈ vs → ∃ lr, lr ∈ walkPairs m 1 0 L ld rd ∧ IsVid3 m (m.β 1 lr.1) p.1 ∧ IsVid3 m lr.2 p.2) ∧
      (∀ lr, lr ∈ walkPairs m 1 0 L ld rd → ∃ p, p ∈ vs ∧ IsVid3 m (m.β 1 lr.1) p.1 ∧ IsVid3 m lr.2 p.2) ∧
      -- the proviso, per cell kind: the merged-into identifier is the minimum of the united cell
      ((walkPairs m 1 0 L ld rd).Pairwise (Far (SameCell (g3e m) m.n)) →
        ∀ lr, lr ∈ walkPairs m 1 0 L ld rd → ∀ a b, IsEid3 m lr.1 a → IsEid3 m lr.2 b →
          IsEid3 m1 lr.1 (min a b)) ∧
      ((pairsA m (walkPairs m 1 0 L ld rd)).Pairwise (Far (SameCell (g3v m) m.n)) →
        ∀ lr, lr ∈ walkPairs m 1 0 L ld rd → ∀ a b, IsVid3 m (m.β 1 lr.1) a → IsVid3 m lr.2 b →
          IsVid3 m1 (m.β 1 lr.1) (min a b)) := by
  obtain ⟨lo, ro, es, vs, m1, mf, me, hfo, hC, hlink, hF, hE, hV, htopo⟩ :=
    C05_threeSew3_effect cfg m.n ld rd m m' u hfc h
  obtain ⟨L, lo', ro', hw1, hL, cl, cr, hfo', _, hzip, hps, _, _, _, _, hedges, hverts⟩ :=
    threeLink3_cells hwf hl hr hne hclosed hlink
  rw [hfo] at hfo'
  simp only [Prod.mk.injEq, Out.ok.injEq, and_true] at hfo'
  obtain ⟨rfl, rfl⟩ := hfo'
  obtain ⟨c1, c2, c3, c4⟩ := collected_ids hwf hC (fun lr hm => by
    obtain ⟨a1, a2, a3, a4, a5, a6, _⟩ := hps lr ((hzip lr).1 hm)
    exact ⟨a1, a2, a3, a4, a5, a6⟩)
  refine ⟨m1, L, lo, ro, es, vs, hlink, hw1, htopo, hfo, hC, hzip, hedges, hverts, ?_, ?_, ?_, ?_, ?_, ?_⟩
  · intro p hp
    obtain ⟨lr, hm, k⟩ := c1 p hp
    exact ⟨lr, (hzip lr).1 hm, k⟩
  · intro lr hm
    exact c2 lr ((hzip lr).2 hm)
  · intro p hp
    obtain ⟨lr, hm, k⟩ := c3 p hp
    exact ⟨lr, (hzip lr).1 hm, k⟩
  · intro lr hm
    exact c4 lr ((hzip lr).2 hm)
  · intro hfar lr hm a b ha hb
    unfold IsEid3; rw [hL.n]
    exact min_of_far (sameCell_equiv _ _) hedges hfar hm ha hb
  · intro hfar lr hm a b ha hb
    have hmem : (m.β 1 lr.1, lr.2) ∈ pairsA m (walkPairs m 1 0 L ld rd) := List.mem_map.2 ⟨lr, hm, rfl⟩
    unfold IsVid3; rw [hL.n]
    exact min_of_far (sameCell_equiv _ _) hverts hfar hmem ha hb

/-! ## 3-unsew: the partitions read backwards, the face split -/

/-- **the cells after `three_unlink`** (mirrored map, closed left face): both faces are cycles of `L`
    darts, `L` the least period of the left one; `m` is the unlinked map `m1` with exactly the pairs
    `(β1^t ld, β0^t rd)`, `t < L`, 3-linked, so the face / edge / vertex partitions of `m` are those of
    `m1` with the stated pairs united; the zipped face walks of the code on `m1` list exactly these
    pairs (the left one without repetition); their minima are the smallest darts of the two faces of
    `m1`, the smaller of the two the smallest dart of the face of `m` -/
theorem threeUnlink3_cells {m m1 : Map X} {ld : Nat} (hwf : WF 4 m) (hM : Mirror m) (hl0 : ld ≠ 0) (hln : ld < m.n)
    (hclosed : ∀ t, it m 1 t ld ≠ 0) (hunl : run (threeUnlink3 (X := X) m.n ld) m = (.ok (), m1)) :
    ∃ L lo ro,
      WF 4 m1 ∧ m.β 3 ld ≠ 0 ∧ Linked3 m1 m (walkPairs m 1 0 L ld (m.β 3 ld)) ∧
      run (faceOrbits3 m.n ld (m.β 3 ld)) m1 = (.ok (lo, ro), m1) ∧
      (∀ pq, pq ∈ lo.zip ro ↔ pq ∈ walkPairs m 1 0 L ld (m.β 3 ld)) ∧
      (∀ d e, SameCell (g3f m) m.n d e ↔ Glue (SameCell (g3f m1) m.n) [(ld, m.β 3 ld)] d e) ∧
      (∀ d e, SameCell (g3e m) m.n d e ↔
        Glue (SameCell (g3e m1) m.n) (walkPairs m 1 0 L ld (m.β 3 ld)) d e) ∧
      (∀ d e, SameCell (g3v m) m.n d e ↔
        Glue (SameCell (g3v m1) m.n) (pairsA m (walkPairs m 1 0 L ld (m.β 3 ld))) d e) ∧
      IsFid3 m1 ld (listMin lo ld) ∧ IsFid3 m1 (m.β 3 ld) (listMin ro (m.β 3 ld)) ∧
      IsFid3 m ld (min (listMin lo ld) (listMin ro (m.β 3 ld))) ∧
      Cyc m 1 ld L ∧ Cyc m 0 (m.β 3 ld) L ∧ (∀ t, 0 < t → t < L → it m 1 t ld ≠ ld) ∧ lo.Nodup ∧
      (∀ lr, lr ∈ walkPairs m 1 0 L ld (m.β 3 ld) →
        lr.1 ≠ 0 ∧ lr.1 < m1.n ∧ lr.2 ≠ 0 ∧ lr.2 < m1.n ∧ m1.β 1 lr.1 ≠ 0 ∧ m1.β 0 lr.1 ≠ 0 ∧ m1.β 1 lr.2 ≠ 0) := by
  obtain ⟨L, hne, hL, cl, cr, hminl, hminr, hw1⟩ := threeUnlink3_unlinked_closed hwf hM hln hclosed hunl
  have hrn : m.β 3 ld < m.n := hwf.range 3 (by omega) ld hln
  have hn1 : m1.n = m.n := hL.n.symm
  have e1 : ∀ x, m1.β 1 x = m.β 1 x := fun x => (hL.other 1 x (by omega)).symm
  have e0 : ∀ x, m1.β 0 x = m.β 0 x := fun x => (hL.other 0 x (by omega)).symm
  have i1 : ∀ t x, it m1 1 t x = it m 1 t x := it_congr e1
  have i0 : ∀ t x, it m1 0 t x = it m 0 t x := it_congr e0
  have wp : walkPairs m1 1 0 L ld (m.β 3 ld) = walkPairs m 1 0 L ld (m.β 3 ld) := walkPairs_congr e1 e0 _ _ _
  have pa : ∀ ps, pairsA m1 ps = pairsA m ps := by
    intro ps; unfold pairsA; simp only [e1]
  have cl1 : Cyc m1 1 ld L := ⟨cl.pos, by rw [i1]; exact cl.per, fun t => by rw [i1]; exact cl.nz t⟩
  have cr1 : Cyc m1 0 (m.β 3 ld) L := ⟨cr.pos, by rw [i0]; exact cr.per, fun t => by rw [i0]; exact cr.nz t⟩
  -- the lemma on `(m1, m)`, its statement read on the darts and the size of `m`
  obtain ⟨lo, ro, hfo, hlond, hzip, hps, s_l, s_r, s_old, hfaces, hedges, hverts, _⟩ :=
    linked3_closed_cells hw1 hwf hl0 (by rw [hn1]; exact hln) hne (by rw [hn1]; exact hrn) (by rw [wp]; exact hL) cl1 cr1
      (fun t h0 ht => by rw [i1]; exact hminl t h0 ht)
  rw [wp] at hzip hedges hverts hps
  rw [hn1] at hfo hfaces hedges hverts
  rw [pa] at hverts
  exact ⟨L, lo, ro, hw1, hne, hL, hfo, hzip, hfaces, hedges, hverts, s_l, s_r, s_old, cl, cr, hminl, hlond, hps⟩

/-- `threeUnlink3_cells` at the least period `L` of the left face that the caller holds; `m1` has the size and the
    β1, β0 images of `m` -/
theorem threeUnlink3_cells_at {m m1 : Map X} {ld L : Nat} (hwf : WF 4 m) (hM : Mirror m) (hl0 : ld ≠ 0)
    (hln : ld < m.n) (cl : Cyc m 1 ld L) (hmin : ∀ t, 0 < t → t < L → it m 1 t ld ≠ ld)
    (hunl : run (threeUnlink3 (X := X) m.n ld) m = (.ok (), m1)) :
    ∃ lo ro,
      WF 4 m1 ∧ m.β 3 ld ≠ 0 ∧ Linked3 m1 m (walkPairs m 1 0 L ld (m.β 3 ld)) ∧
      m1.n = m.n ∧ (∀ x, m1.β 1 x = m.β 1 x) ∧ (∀ x, m1.β 0 x = m.β 0 x) ∧
      run (faceOrbits3 m.n ld (m.β 3 ld)) m1 = (.ok (lo, ro), m1) ∧ lo.Nodup ∧
      (∀ pq, pq ∈ lo.zip ro ↔ pq ∈ walkPairs m 1 0 L ld (m.β 3 ld)) ∧
      (∀ lr, lr ∈ walkPairs m 1 0 L ld (m.β 3 ld) →
        lr.1 ≠ 0 ∧ lr.1 < m1.n ∧ lr.2 ≠ 0 ∧ lr.2 < m1.n ∧ m1.β 1 lr.1 ≠ 0 ∧ m1.β 0 lr.1 ≠ 0 ∧ m1.β 1 lr.2 ≠ 0) ∧
      (∀ d e, SameCell (g3f m) m.n d e ↔ Glue (SameCell (g3f m1) m.n) [(ld, m.β 3 ld)] d e) ∧
      (∀ d e, SameCell (g3e m) m.n d e ↔
        Glue (SameCell (g3e m1) m.n) (walkPairs m 1 0 L ld (m.β 3 ld)) d e) ∧
      (∀ d e, SameCell (g3v m) m.n d e ↔
        Glue (SameCell (g3v m1) m.n) (pairsA m (walkPairs m 1 0 L ld (m.β 3 ld))) d e) ∧
      IsFid3 m1 ld (listMin lo ld) ∧ IsFid3 m1 (m.β 3 ld) (listMin ro (m.β 3 ld)) ∧
      IsFid3 m ld (min (listMin lo ld) (listMin ro (m.β 3 ld))) ∧ Cyc m 0 (m.β 3 ld) L := by
  obtain ⟨L', lo, ro, hw1, hne, hL, hfo, hzip, hfaces, hedges, hverts, s_l, s_r, s_old, cl', cr, hminl, hlond, hps⟩ :=
    threeUnlink3_cells hwf hM hl0 hln cl.nz hunl
  -- two least periods of one cycle
  have hLL : L' = L := by
    rcases Nat.lt_trichotomy L' L with hh | hh | hh
    · exact absurd cl'.per (hmin L' cl'.pos hh)
    · exact hh
    · exact absurd cl.per (hminl L cl.pos hh)
  subst hLL
  exact ⟨lo, ro, hw1, hne, hL, hL.n.symm, fun x => (hL.other 1 x (by omega)).symm,
    fun x => (hL.other 0 x (by omega)).symm, hfo, hlond, hzip, hps, hfaces, hedges, hverts, s_l, s_r, s_old, cr⟩

/-- **C05, 3-unsew at cell level** (mirrored map, closed left face).  `rd = β3 ld`; `m1` is the map
    after `three_unlink`: `m` is `m1` with exactly the pairs `(β1^t ld, β0^t rd)`, `t < L`, 3-linked
    (re-linking what was unlinked gives back β), so the OLD face / edge / vertex partitions are the
    new ones with the stated pairs united; the zipped face walks of the code (computed on `m1`)
    list exactly these pairs; the two face identifiers split INTO are the smallest darts of the two
    new faces and the identifier split FROM, `min` of the two, is the smallest dart of the old
    face.  (The edge / vertex identifiers inside the chain `UnsewnPairs` are computed by
    `edge_id_transac` / `vertex_id_transac` on maps with the topology of `m1`, hence cell minima of
    `m1` by `C05_edgeId3_is_cell_min` / `C05_vertexId3_is_cell_min`.) -/
theorem C05_threeUnsew3_cells (cfg : Cfg X) (m m' : Map X) (ld : Nat) (u : Unit)
    (hwf : WF 4 m) (hM : Mirror m) (hl : C02.InUse m ld) (hfc : m.fc = 0)
    (hclosed : ∀ t, it m 1 t ld ≠ 0)
    (h : run (threeUnsew3 cfg m.n ld) m = (.ok u, m')) :
    ∃ m1 L lo ro mf,
      run (threeUnlink3 (X := X) m.n ld) m = (.ok (), m1) ∧ WF 4 m1 ∧ SameTopo m1 m' ∧ m.β 3 ld ≠ 0 ∧
      Linked3 m1 m (walkPairs m 1 0 L ld (m.β 3 ld)) ∧
      run (faceOrbits3 m.n ld (m.β 3 ld)) m1 = (.ok (lo, ro), m1) ∧
      (∀ pq, pq ∈ lo.zip ro ↔ pq ∈ walkPairs m 1 0 L ld (m.β 3 ld)) ∧
      (∀ d e, SameCell (g3f m) m.n d e ↔ Glue (SameCell (g3f m1) m.n) [(ld, m.β 3 ld)] d e) ∧
      (∀ d e, SameCell (g3e m) m.n d e ↔
        Glue (SameCell (g3e m1) m.n) (walkPairs m 1 0 L ld (m.β 3 ld)) d e) ∧
      (∀ d e, SameCell (g3v m) m.n d e ↔
        Glue (SameCell (g3v m1) m.n) (pairsA m (walkPairs m 1 0 L ld (m.β 3 ld))) d e) ∧
      IsFid3 m1 ld (listMin lo ld) ∧ IsFid3 m1 (m.β 3 ld) (listMin ro (m.β 3 ld)) ∧
      IsFid3 m ld (min (listMin lo ld) (listMin ro (m.β 3 ld))) ∧
      SplitIn cfg (fStores cfg) (listMin lo ld) (listMin ro (m.β 3 ld))
        (min (listMin lo ld) (listMin ro (m.β 3 ld))) m1 mf ∧
      UnsewnPairs cfg m.n (lo.zip ro) mf m' := by
  obtain ⟨m1, lo, ro, mf, hunl, hfo, hF, hU, htopo⟩ := C05_threeUnsew3_effect cfg m.n ld m m' u hfc h
  obtain ⟨L, lo', ro', hw1, hne, hL, hfo', hzip, hfaces, hedges, hverts, s_l, s_r, s_old, _⟩ :=
    threeUnlink3_cells hwf hM hl.1 hl.2.1 hclosed hunl
  rw [hfo] at hfo'
  simp only [Prod.mk.injEq, Out.ok.injEq, and_true] at hfo'
  obtain ⟨rfl, rfl⟩ := hfo'
  exact ⟨m1, L, lo, ro, mf, hunl, hw1, htopo, hne, hL, hfo, hzip, hfaces, hedges, hverts, s_l, s_r, s_old, hF, hU⟩

/-! ## non-vacuity -/

open HC.C02 (exMap exCfg)

example : (run (twoSew3 exCfg 16 7 11) exMap).1 = .ok () ∧ exMap.β 1 7 ≠ 0 ∧ exMap.β 1 11 ≠ 0 :=
  have ⟨_, _, _, b7, b11, ok, _⟩ := exMap_sew2_facts
  ⟨ok, b7, b11⟩
example :=
  have ⟨wf, u7, u11, b7, b11, ok, _⟩ := exMap_sew2_facts
  C05_twoSew3_cells exCfg 16 exMap (run (twoSew3 exCfg 16 7 11) exMap).2 7 11 ()
    wf u7 u11 (by decide) rfl b7 b11 (run_of_fst ok)
/-- the square 2-sewn to the chain, then 2-unsewn again -/
def exSewn2 : Map Val := (run (twoSew3 exCfg 16 7 11) exMap).2

theorem exSewn2_facts : WF 4 exSewn2 ∧ C02.InUse exSewn2 7 ∧ exSewn2.fc = 0 ∧ exSewn2.β 1 7 ≠ 0 ∧
    exSewn2.β 1 (exSewn2.β 2 7) ≠ 0 ∧ (run (twoUnsew3 exCfg 16 7) exSewn2).1 = .ok () ∧
    (run (edgeId3 16 7) exSewn2).1 = .ok 7 := by decide +kernel

example : (run (twoUnsew3 exCfg 16 7) exSewn2).1 = .ok () ∧ exSewn2.β 1 7 ≠ 0 ∧ exSewn2.β 1 (exSewn2.β 2 7) ≠ 0 :=
  have ⟨_, _, _, bl, br, ok, _⟩ := exSewn2_facts
  ⟨ok, bl, br⟩
example :=
  have ⟨wf, u, fc, bl, br, ok, _⟩ := exSewn2_facts
  C05_twoUnsew3_cells exCfg 16 exSewn2 (run (twoUnsew3 exCfg 16 7) exSewn2).2 7 () wf u fc bl br (run_of_fst ok)

theorem exMap_face_facts : C02.InUse exMap 1 ∧ C02.InUse exMap 4 ∧ it exMap 1 3 1 = 1 := by decide +kernel

/-- the two triangles of `C02.exMap`: closed faces, 3-sewn along `(1, 4)` -/
example : ∀ t, it exMap 1 t 1 ≠ 0 :=
  periodic_nz (L := 3) (exMap_sew2_facts.1.null 1 (by decide)) (by decide) exMap_face_facts.2.2 (by decide)
example :=
  have ⟨u1, u4, per⟩ := exMap_face_facts
  C05_threeSew3_faces exCfg exMap (run (threeSew3 exCfg 16 1 4) exMap).2 1 4 ()
    exMap_sew2_facts.1 u1 u4 (by decide) rfl
    (periodic_nz (L := 3) (exMap_sew2_facts.1.null 1 (by decide)) (by decide) per (by decide))
    (run_of_fst exMap_sew3_facts.1)
example :=
  have ⟨u1, u4, per⟩ := exMap_face_facts
  C05_threeSew3_cells exCfg exMap (run (threeSew3 exCfg 16 1 4) exMap).2 1 4 ()
    exMap_sew2_facts.1 u1 u4 (by decide) rfl
    (periodic_nz (L := 3) (exMap_sew2_facts.1.null 1 (by decide)) (by decide) per (by decide))
    (run_of_fst exMap_sew3_facts.1)
/-- the two triangles 3-sewn, then 3-unsewn at dart 2 -/
def exSewn3 : Map Val := (run (threeSew3 exCfg 16 1 4) exMap).2

theorem exSewn3_facts : WF 4 exSewn3 ∧ Mirror exSewn3 ∧ C02.InUse exSewn3 2 ∧ exSewn3.fc = 0 ∧
    it exSewn3 1 3 2 = 2 ∧ (run (threeUnsew3 exCfg exSewn3.n 2) exSewn3).1 = .ok () := by decide +kernel

example :=
  have ⟨wf, mir, u, fc, per, ok⟩ := exSewn3_facts
  C05_threeUnsew3_cells exCfg exSewn3 (run (threeUnsew3 exCfg exSewn3.n 2) exSewn3).2 2 () wf mir u fc
    (periodic_nz (L := 3) (wf.null 1 (by decide)) (by decide) per (by decide)) (run_of_fst ok)
example : IsEid3 exSewn2 7 7 :=
  have ⟨wf, u, _, _, _, _, eid⟩ := exSewn2_facts
  C05_edgeId3_is_cell_min (n' := 16) wf (by decide) u.2.1 (run_of_fst eid)

end HC.C05

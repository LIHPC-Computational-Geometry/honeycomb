/-
  C01 — 2-map structural integrity survives every editing history.

  Statement proved: for every attribute configuration `cfg` (any number of storages, any laws),
  every map `m` with `WF 3 m`, and every finite list of public editing calls whose dart arguments
  are non-null in-use darts at the time of the call (distinct darts for 2-links/2-sews; a free
  dart for `remove_free_dart_transac`, which is that method's own precondition), the map reached
  after the whole history is `WF 3` again — whether the individual calls succeed, return an
  error, or panic (refuse).

  The cores and the sews are shown to leave a well-formed state for EVERY outcome (`SafeA`, `safeA_prog`); what
  `atomically` needs, the successful outcome (`Safe`), is the special case.  Props/C01b.lean states the
  every-outcome property itself (a refusal swallowed inside a transaction that goes on).
-/
import Honeycomb.Lemmas.WFLink
import Honeycomb.Lemmas.SewOf
import Honeycomb.Model.Val


namespace HC.C01
open HC
variable {X : Type}

/-- public editing calls of `CMap2` (the `force_` variants run the same closure through
    `atomically_with_err`, hence share the constructor) -/
inductive Op2 where
  | link (i l r : Nat)
  | unlink (i l : Nat)
  | sew (i l r : Nat)
  | unsew (i l : Nat)
  | addFreeDarts (k : Nat)
  | insertFreeDart
  | removeFreeDart (d : Nat)
  | removeFreeDartTx (d : Nat)
  deriving Repr, DecidableEq

/-- the transactional closure of a call (`assert!(I < 3); assert_ne!(I, 0)` ⇒ `panic`) -/
def prog (cfg : Cfg X) (n : Nat) : Op2 → P X Unit
  | .link 1 l r => oneLinkCore l r
  | .link 2 l r => iLinkCore 2 l r
  | .unlink 1 l => oneUnlinkCore l
  | .unlink 2 l => iUnlinkCore 2 l
  | .sew 1 l r => oneSew2 cfg n l r
  | .sew 2 l r => twoSew2 cfg n l r
  | .unsew 1 l => oneUnsew2 cfg n l
  | .unsew 2 l => twoUnsew2 cfg n l
  | .removeFreeDartTx d => do let _ ← removeFreeDartTx d; pure ()
  | _ => Prog.panic

/-- one public call, as the user observes it (state after the call) -/
def step (cfg : Cfg X) (m : Map X) : Op2 → Map X
  | .addFreeDarts k => (m.addFreeDarts k).2
  | .insertFreeDart => m.insertFreeDart.2
  | .removeFreeDart d => (m.removeFreeDart 3 d).2
  | op => (atomically (prog cfg m.n op) m).2

/-- a non-null, existing, not removed dart -/
def InUse (m : Map X) (d : Nat) : Prop := d ≠ 0 ∧ d < m.n ∧ m.unused d = false

/-- the argument guard of the property -/
def ArgsOK (m : Map X) : Op2 → Prop
  | .link i l r => InUse m l ∧ InUse m r ∧ (i = 2 → l ≠ r)
  | .sew i l r => InUse m l ∧ InUse m r ∧ (i = 2 → l ≠ r)
  | .unlink _ l => InUse m l
  | .unsew _ l => InUse m l
  | .addFreeDarts _ => True
  | .insertFreeDart => True
  | .removeFreeDart d => InUse m d
  | .removeFreeDartTx d => InUse m d ∧ m.isFree 3 d = true

/-- every call of the history has admissible arguments in the state it is applied to -/
def HistoryOK (cfg : Cfg X) : Map X → List Op2 → Prop
  | _, [] => True
  | m, op :: ops => ArgsOK m op ∧ HistoryOK cfg (step cfg m op) ops

instance (m : Map X) (d : Nat) : Decidable (InUse m d) :=
  inferInstanceAs (Decidable (d ≠ 0 ∧ d < m.n ∧ m.unused d = false))

instance (m : Map X) : (op : Op2) → Decidable (ArgsOK m op)
  | .link i l r => inferInstanceAs (Decidable (InUse m l ∧ InUse m r ∧ (i = 2 → l ≠ r)))
  | .sew i l r => inferInstanceAs (Decidable (InUse m l ∧ InUse m r ∧ (i = 2 → l ≠ r)))
  | .unlink _ l => inferInstanceAs (Decidable (InUse m l))
  | .unsew _ l => inferInstanceAs (Decidable (InUse m l))
  | .addFreeDarts _ => isTrue trivial
  | .insertFreeDart => isTrue trivial
  | .removeFreeDart d => inferInstanceAs (Decidable (InUse m d))
  | .removeFreeDartTx d => inferInstanceAs (Decidable (InUse m d ∧ m.isFree 3 d = true))

instance instDecHistoryOK (cfg : Cfg X) : (m : Map X) → (ops : List Op2) → Decidable (HistoryOK cfg m ops)
  | _, [] => isTrue trivial
  | m, op :: ops =>
      @instDecidableAnd _ _ (inferInstanceAs (Decidable (ArgsOK m op))) (instDecHistoryOK cfg (step cfg m op) ops)

/-! ## successful closures preserve WF -/

/-- `p` keeps the map well-formed whenever it returns `Ok`, from WF states satisfying `Q` -/
def Safe (Q : Map X → Prop) {α : Type} (p : P X α) : Prop :=
  ∀ (m m' : Map X) (a : α), WF 3 m → Q m → run p m = (.ok a, m') → WF 3 m'

theorem Safe.of_attrOnly {Q : Map X → Prop} {α : Type} {p : P X α} (hp : AttrOnly p) : Safe Q p := by
  intro m m' a hwf _ h
  have st := hp m; rw [h] at st
  exact hwf.sameTopo st

set_option linter.unusedVariables false in
theorem inUse_ok {m : Map X} (h : WF 3 m) {d : Nat} (hd : InUse m d) : d ≠ 0 ∧ d < m.n ∧ m.unused d = false := hd

theorem safe_oneLinkCore (l r : Nat) :
    Safe (fun m : Map X => InUse m l ∧ InUse m r) (oneLinkCore l r) := by
  intro m m' u hwf ⟨hl, hr⟩ h
  obtain ⟨_, _, h1, h0, rfl⟩ := oneLinkCore_ok h
  exact hwf.link1 (by omega) hl.1 hr.1 hl.2.1 hr.2.1 hl.2.2 hr.2.2 h1 h0

theorem safe_twoLinkCore (l r : Nat) :
    Safe (fun m : Map X => InUse m l ∧ InUse m r ∧ l ≠ r) (iLinkCore 2 l r) := by
  intro m m' u hwf ⟨hl, hr, hlr⟩ h
  obtain ⟨_, _, h1, h0, rfl⟩ := iLinkCore_ok h
  exact hwf.linkI (by omega) (by omega) hl.1 hr.1 hlr hl.2.1 hr.2.1 hl.2.2 hr.2.2 h1 h0

theorem safe_oneUnlinkCore (l : Nat) : Safe (fun m : Map X => InUse m l) (oneUnlinkCore l) := by
  intro m m' u hwf hl h
  obtain ⟨_, _, hne, rfl⟩ := oneUnlinkCore_ok h
  exact hwf.unlink1 (by omega) hl.2.1 hne

theorem safe_twoUnlinkCore (l : Nat) : Safe (fun m : Map X => InUse m l) (iUnlinkCore 2 l) := by
  intro m m' u hwf hl h
  obtain ⟨_, _, hne, rfl⟩ := iUnlinkCore_ok h
  exact hwf.unlinkI (by omega) (by omega) hl.2.1 hne

/-! ## safety for EVERY outcome -/

/-- from a well-formed state satisfying `Q`, the state `p` leaves behind is well formed whatever
    the outcome -/
def SafeA (Q : Map X → Prop) {α : Type} (p : P X α) : Prop :=
  ∀ (m m' : Map X) (o : Out Err α), WF 3 m → Q m → run p m = (o, m') → WF 3 m'

theorem SafeA.safe {Q : Map X → Prop} {α : Type} {p : P X α} (h : SafeA Q p) : Safe Q p :=
  fun m m' a hwf hq hr => h m m' (.ok a) hwf hq hr

theorem SafeA.mono {Q Q' : Map X → Prop} {α : Type} {p : P X α} (h : SafeA Q p) (hq : ∀ m, Q' m → Q m) :
    SafeA Q' p := fun m m' o hwf hq' hr => h m m' o hwf (hq m hq') hr

/-! ## the link cores: validate, then write -/

theorem wf_setβ_same {nb : Nat} {m : Map X} (h : WF nb m) {i l : Nat} (hi : i < nb) (hl : l < m.n)
    (h0 : m.β i l = 0) : WF nb (m.setβ i l 0) := by
  refine ⟨h.toSized.setβ _ _ _, h.toWFβ.of_β_eq (by simp [Map.n_setβ]) ?_ (by intro d; simp [Map.unused_setβ])⟩
  intro j e
  rw [h.toSized.β_setβ hi hl]
  by_cases c : i = j ∧ l = e
  · obtain ⟨rfl, rfl⟩ := c; simp [h0]
  · simp [c]

theorem safeA_oneLinkCore (l r : Nat) :
    SafeA (fun m : Map X => InUse m l ∧ InUse m r) (oneLinkCore l r) := by
  intro m m' o hwf hq h
  rcases linkShape_any h with ⟨u, rfl⟩ | rfl
  · exact (safe_oneLinkCore l r) m m' u hwf hq h
  · exact hwf

theorem safeA_twoLinkCore (l r : Nat) :
    SafeA (fun m : Map X => InUse m l ∧ InUse m r ∧ l ≠ r) (iLinkCore 2 l r) := by
  intro m m' o hwf hq h
  rcases linkShape_any h with ⟨u, rfl⟩ | rfl
  · exact (safe_twoLinkCore l r) m m' u hwf hq h
  · exact hwf

theorem safeA_oneUnlinkCore (l : Nat) : SafeA (fun m : Map X => InUse m l) (oneUnlinkCore l) := by
  intro m m' o hwf hq h
  rcases unlinkShape_any h with ⟨u, rfl⟩ | rfl | ⟨_, h0, rfl⟩ | ⟨_, hne, hbad, _⟩
  · exact (safe_oneUnlinkCore l) m m' u hwf hq h
  · exact hwf
  · exact wf_setβ_same hwf (by omega) hq.2.1 h0
  · -- impossible on a well-formed map: the image of an existing dart is an existing dart
    have hr : m.β 1 l < m.n := hwf.range 1 (by omega) l hq.2.1
    have : m.okβ 0 (m.β 1 l) = true := (hwf.toSized.okβ 0 _).2 ⟨by omega, hr⟩
    rw [this] at hbad; cases hbad

theorem safeA_twoUnlinkCore (l : Nat) : SafeA (fun m : Map X => InUse m l) (iUnlinkCore 2 l) := by
  intro m m' o hwf hq h
  rcases unlinkShape_any h with ⟨u, rfl⟩ | rfl | ⟨_, h0, rfl⟩ | ⟨_, hne, hbad, _⟩
  · exact (safe_twoUnlinkCore l) m m' u hwf hq h
  · exact hwf
  · exact wf_setβ_same hwf (by omega) hq.2.1 h0
  · -- impossible on a well-formed map: the image of an existing dart is an existing dart
    have hr : m.β 2 l < m.n := hwf.range 2 (by omega) l hq.2.1
    have : m.okβ 2 (m.β 2 l) = true := (hwf.toSized.okβ 2 _).2 ⟨by omega, hr⟩
    rw [this] at hbad; cases hbad

/-! ## the sews -/

/-- safety of every outcome goes from the link core to the sew: the rest of it only moves attribute values -/
theorem SafeA.of_sewOf {Q : Map X → Prop} {core p : P X Unit} (h : SewOf SameTopo core p) (hc : SafeA Q core) :
    SafeA Q p := by
  intro m m' o hwf hq hr
  have := h.keeps (I := WF 3) (fun _ _ st w => w.sameTopo st) hwf (hc m _ _ hwf hq rfl)
  rw [hr] at this
  exact this

theorem safeA_oneSew2 (cfg : Cfg X) (n l r : Nat) :
    SafeA (fun m : Map X => InUse m l ∧ InUse m r) (oneSew2 cfg n l r) :=
  SafeA.of_sewOf (topo_oneSew2 cfg n l r) (safeA_oneLinkCore l r)

theorem safeA_oneUnsew2 (cfg : Cfg X) (n l : Nat) :
    SafeA (fun m : Map X => InUse m l) (oneUnsew2 cfg n l) :=
  SafeA.of_sewOf (topo_oneUnsew2 cfg n l) (safeA_oneUnlinkCore l)

theorem safeA_twoSew2 (cfg : Cfg X) (n l r : Nat) :
    SafeA (fun m : Map X => InUse m l ∧ InUse m r ∧ l ≠ r) (twoSew2 cfg n l r) :=
  SafeA.of_sewOf (topo_twoSew2 cfg n l r) (safeA_twoLinkCore l r)

theorem safeA_twoUnsew2 (cfg : Cfg X) (n l : Nat) :
    SafeA (fun m : Map X => InUse m l) (twoUnsew2 cfg n l) :=
  SafeA.of_sewOf (topo_twoUnsew2 cfg n l) (safeA_twoUnlinkCore l)

theorem safe_oneSew2 (cfg : Cfg X) (n l r : Nat) :
    Safe (fun m : Map X => InUse m l ∧ InUse m r) (oneSew2 cfg n l r) := (safeA_oneSew2 cfg n l r).safe

theorem safe_oneUnsew2 (cfg : Cfg X) (n l : Nat) :
    Safe (fun m : Map X => InUse m l) (oneUnsew2 cfg n l) := (safeA_oneUnsew2 cfg n l).safe

theorem safe_twoSew2 (cfg : Cfg X) (n l r : Nat) :
    Safe (fun m : Map X => InUse m l ∧ InUse m r ∧ l ≠ r) (twoSew2 cfg n l r) := (safeA_twoSew2 cfg n l r).safe

theorem safe_twoUnsew2 (cfg : Cfg X) (n l : Nat) :
    Safe (fun m : Map X => InUse m l) (twoUnsew2 cfg n l) := (safeA_twoUnsew2 cfg n l).safe

/-! ## one call -/

theorem wf_atomically {Q : Map X → Prop} {α : Type} {p : P X α} (hp : Safe Q p) {m : Map X}
    (hwf : WF 3 m) (hq : Q m) : WF 3 (atomically p m).2 := by
  unfold atomically
  match h : run p m with
  | (.ok a, m') => simp only; exact hp m m' a hwf hq h
  | (.err e, m') => simp only; exact hwf
  | (.retry, m') => simp only; exact hwf
  | (.panic, m') => simp only; exact hwf

/-- an error (or panic, or retry) of any transactional call publishes nothing -/
theorem C01_failed_call_changes_nothing {α : Type} (p : P X α) (m : Map X)
    (h : ∀ a, (atomically p m).1 ≠ .ok a) : (atomically p m).2 = m :=
  atomically_not_ok p m h

theorem safeA_prog (cfg : Cfg X) (n : Nat) (op : Op2) :
    SafeA (fun m : Map X => ArgsOK m op) (prog cfg n op) := by
  unfold prog
  split
  · exact (safeA_oneLinkCore _ _).mono fun m h => ⟨h.1, h.2.1⟩
  · exact (safeA_twoLinkCore _ _).mono fun m h => ⟨h.1, h.2.1, h.2.2 rfl⟩
  · exact (safeA_oneUnlinkCore _).mono fun m h => h
  · exact (safeA_twoUnlinkCore _).mono fun m h => h
  · exact (safeA_oneSew2 _ _ _ _).mono fun m h => ⟨h.1, h.2.1⟩
  · exact (safeA_twoSew2 _ _ _ _).mono fun m h => ⟨h.1, h.2.1, h.2.2 rfl⟩
  · exact (safeA_oneUnsew2 _ _ _).mono fun m h => h
  · exact (safeA_twoUnsew2 _ _ _).mono fun m h => h
  · -- remove_free_dart_transac: one flag write on a free dart
    rename_i d
    intro m m' o hwf hq h
    have h : run ((removeFreeDartTx (X := X) d).bind fun _ => pure ()) m = (o, m') := h
    rw [run_bind, run_removeFreeDartTx] at h
    have hok : m.okU d = true := (hwf.toSized.okU d).2 hq.1.2.1
    simp only [hok, if_true] at h
    simp at h
    rw [← h.2]
    exact hwf.setU_free hq.1.2.1 true ((isFree_iff m 3 d).1 hq.2)
  · intro m m' o hwf _ h
    simp [run] at h
    rw [← h.2]; exact hwf

theorem safe_prog (cfg : Cfg X) (n : Nat) (op : Op2) :
    Safe (fun m : Map X => ArgsOK m op) (prog cfg n op) := (safeA_prog cfg n op).safe

/-- **C01, one call**: every public editing call with admissible arguments keeps a well-formed
    2-map well-formed (success, error and panic branches alike) -/
theorem C01_step_preserves_WF (cfg : Cfg X) (m : Map X) (op : Op2)
    (hwf : WF 3 m) (hargs : ArgsOK m op) : WF 3 (step cfg m op) := by
  cases op with
  | addFreeDarts k => exact hwf.addFreeDarts (by omega) k
  | insertFreeDart => exact hwf.insertFreeDart (by omega)
  | removeFreeDart d => exact hwf.removeFreeDart d
  | link i l r => exact wf_atomically (safe_prog cfg m.n _) hwf hargs
  | unlink i l => exact wf_atomically (safe_prog cfg m.n _) hwf hargs
  | sew i l r => exact wf_atomically (safe_prog cfg m.n _) hwf hargs
  | unsew i l => exact wf_atomically (safe_prog cfg m.n _) hwf hargs
  | removeFreeDartTx d => exact wf_atomically (safe_prog cfg m.n _) hwf hargs

/-- **C01**: well-formedness survives every finite editing history -/
theorem C01_history_preserves_WF (cfg : Cfg X) (ops : List Op2) :
    ∀ m : Map X, WF 3 m → HistoryOK cfg m ops → WF 3 (ops.foldl (step cfg) m) := by
  induction ops with
  | nil => intro m h _; exact h
  | cons op ops ih =>
      intro m h hh
      exact ih _ (C01_step_preserves_WF cfg m op h hh.1) hh.2

/-- removed darts are nobody's image on a well-formed map (the last clause of the property's
    definition of well-formed follows from the others) -/
theorem C01_unused_is_nobodys_image {m : Map X} (h : WF 3 m) : NoImageOfUnused 3 m :=
  h.noImageOfUnused (by omega)

theorem inUse_image {nb : Nat} {m : Map X} (hwf : WF nb m) (h2 : 2 ≤ nb) {i d : Nat} (hi : i < nb) (hd : d < m.n)
    (hne : m.β i d ≠ 0) : InUse m (m.β i d) := by
  refine ⟨hne, hwf.range i hi d hd, ?_⟩
  cases hu : m.unused (m.β i d) with
  | false => rfl
  | true => exact absurd (hwf.noImageOfUnused h2 i hi d hd hu) hne

/-! ## non-vacuity: a concrete well-formed map and an admissible history of every op kind -/

/-- two triangles 1-2-3 and 4-5-6, darts 7, 8 free, dart 8 removed -/
def exMap : Map Val :=
  { (Map.empty 3 6 9 : Map Val) with
    b := #[#[0, 3, 1, 2, 6, 4, 5, 0, 0], #[0, 2, 3, 1, 5, 6, 4, 0, 0], #[0, 0, 0, 0, 0, 0, 0, 0, 0]]
    u := #[false, false, false, false, false, false, false, false, true]
    a := #[#[none, some (.pt 0 0 0), some (.pt 1 0 0), some (.pt 0 1 0), some (.pt 0 2 0), some (.pt 2 0 0),
             some (.pt 1 1 0), some (.pt 5 5 0), none],
           #[none, some (.tm (.leaf 1)), none, some (.tm (.leaf 3)), none, none, none, none, none, none],
           #[none, none, some (.tm (.leaf 2)), none, some (.tm (.leaf 4)), none, none, none, none, none],
           Array.replicate 10 none, Array.replicate 10 none, Array.replicate 10 none] }

def exHistory : List Op2 :=
  [.sew 2 2 4, .unsew 2 2, .link 2 1 5, .unlink 1 3, .sew 1 3 7, .unsew 1 3, .unlink 2 1, .link 1 7 7,
   .unlink 1 7, .removeFreeDart 7, .insertFreeDart, .addFreeDarts 2, .link 2 9 10, .removeFreeDartTx 7]

theorem exMap_wf : WF 3 exMap := by decide +kernel
theorem exHistory_ok : HistoryOK (stdCfg 3 7) exMap exHistory := by decide +kernel
example : WF 3 exMap := exMap_wf
example : HistoryOK (stdCfg 3 7) exMap exHistory := exHistory_ok
/-- the history is not trivial: the 2-sew, the 1-sew and the allocations really happen -/
example : ((exHistory.take 1).foldl (step (stdCfg 3 7)) exMap).β 2 2 = 4 := by decide +kernel
example : (exHistory.foldl (step (stdCfg 3 7)) exMap).n = 11 := by decide +kernel
example : WF 3 (exHistory.foldl (step (stdCfg 3 7)) exMap) :=
  C01_history_preserves_WF _ _ _ exMap_wf exHistory_ok

end HC.C01

/-
  C11, fifth part — the hypotheses of the round-trip theorems after a triangulation / a vertex insertion.

  (e0) `exportable_of_pos`, `noCrack_of_pos`: `Exportable` / `NoCrack` follow from LOCAL face conditions
       (`LocalFaces`: every in-use dart has a successor and lies on no 1- or 2-cycle of β1) and conditions on
       the POSITIONS `pos d = att 0 (vertex_id d)` only: all defined, no two darts with the same ordered pair of
       positions, different positions at the two ends of a side, no two 2-free darts with opposite pairs.
  (e1) `C11_fan_local_faces`, `C11_fan_boundary`: after a successful fan (`C13b.FanResult`) of a closed face of a
       map whose other darts satisfy `LocalFaces`, EVERY in-use dart of the result satisfies `LocalFaces`
       (closed faces with at least three sides), and the 2-free darts are exactly the 2-free darts of the
       source outside the spare darts (same boundary).
  (e2) `C11_fan_exportable`: with C13d's coordinates (old vertices keep their positions), the result is
       exportable without crack PROVIDED the position conditions of (e0) hold in the result; what this needs
       beyond the source's own conditions is stated in the theorem: the new diagonals (apex ↔ the non-adjacent
       corners) must not repeat an ordered pair of positions — a geometric fact (convexity / embedding) that is
       NOT proved here.
  (e3) `C11_insert_vertex_local_faces`, `C11_insert_vertex_boundary`: after `insert_vertex_on_edge`
       (`C14b.InsertResult` with one new dart per side) every in-use dart still has a successor and lies on no
       1- or 2-cycle (closed faces, one more side), and β2 changes only at `e, nd1, β2 e, nd2` (same boundary; on
       a boundary edge nothing changes and `nd1` is the new boundary dart).  For `Exportable` / `NoCrack` of the
       result use `exportable_of_pos` / `noCrack_of_pos` with C14c (`C14_old_vertices_keep_coordinates_single`; the
       new point lies strictly between the end points of the edge): what is needed is that the new point is not
       the position of another vertex — geometry, NOT proved.  The k-vertex kernel `insert_vertices_on_edge`
       (general `InsertResult`) is not treated.
-/
import Honeycomb.Lemmas.ListFacts
import Honeycomb.Props.C11c
import Honeycomb.Props.C13b
import Honeycomb.Props.C14b
import Mathlib.Data.List.Perm.Basic


namespace HC.C11
open HC HC.Vtk HC.C03 HC.CellCalc

/-! ## (e0) local and positional criteria -/

/-- position of the vertex of a dart -/
def posOf (m : Map Val) (d : Nat) : Option Val := m.att 0 (vid m d)

/-- every dart of `D` has a successor and lies on no β1 cycle of length 1 or 2 -/
def LocalFaces (D : Nat → Prop) (m : Map Val) : Prop :=
  ∀ d, D d → m.β 1 d ≠ 0 ∧ m.β 1 d ≠ d ∧ m.β 1 (m.β 1 d) ≠ d

theorem big_of_local {m : Map Val} (hwf : WF 3 m) (hl : LocalFaces (C01.InUse m) m) :
    ∀ f, f ∈ iterFaces2 m → 3 ≤ (walkOf m f).length := by
  intro f hf
  have hu := mem_iterCells_inUse hf
  obtain ⟨c0, c1, c2⟩ := hl f hu
  obtain ⟨d0, d1, _⟩ := hl _ (C01.inUse_image hwf (by omega) (by omega) hu.2.1 c0)
  exact three_sides hwf hf c0 d0 c1 c2 d1

theorem exportable_of_pos {m : Map Val} (hwf : WF 3 m) (hl : LocalFaces (C01.InUse m) m)
    (hpt : ∀ d, C01.InUse m d → ∃ x y z, posOf m d = some (.pt x y z))
    (huniq : ∀ d e, C01.InUse m d → C01.InUse m e → posOf m d = posOf m e →
      posOf m (m.β 1 d) = posOf m (m.β 1 e) → d = e)
    (hends : ∀ d, C01.InUse m d → ∀ x y z x' y' z', posOf m d = some (.pt x y z) →
      posOf m (m.β 1 d) = some (.pt x' y' z') → x ≠ x' ∨ y ≠ y') : Exportable m := by
  refine ⟨hwf, fun d hd => (hl d hd).1, big_of_local hwf hl, ?_, ?_, hends⟩
  · intro v hv
    obtain ⟨d, hd0, hd, hu, rfl⟩ := (C03_iterVertices2_mem hwf v).1 hv
    exact hpt d ⟨hd0, hd, hu⟩
  · intro d e hd he h1 h2
    exact huniq d e hd he (by unfold posOf; rw [h1]) (by unfold posOf; rw [h2])

theorem noCrack_of_pos {m : Map Val}
    (hc : ∀ d e, C01.InUse m d → C01.InUse m e → m.β 2 d = 0 → m.β 2 e = 0 →
      posOf m d = posOf m (m.β 1 e) → posOf m (m.β 1 d) = posOf m e → False) : NoCrack m :=
  fun d e hd he c1 c2 v1 v2 => hc d e hd he c1 c2 (by unfold posOf; rw [v1]) (by unfold posOf; rw [v2])

/-! ## (e1) after a fan -/

section Fan
open HC.C13

/-- the darts of a list of triangles -/
def comps (T : List (Nat × Nat × Nat)) : List Nat := T.flatMap (fun t => [t.1, t.2.1, t.2.2])

theorem comps_fan : ∀ (cs : List (Nat × Nat)) (d0 : Nat) (L : List Nat) (x1 x2 : Nat),
    L.drop cs.length = [x1, x2] →
    (comps (loopTris d0 L cs ++ [(loopEnd d0 cs, x1, x2)])).Perm (d0 :: L ++ sparesOf cs) := by
  intro cs
  induction cs with
  | nil =>
      intro d0 L x1 x2 h
      simp only [List.length_nil, List.drop_zero] at h
      subst h
      simp [comps, loopTris, loopEnd, sparesOf]
  | cons c cs ih =>
      intro d0 L x1 x2 h
      obtain ⟨d1, d2⟩ := c
      cases L with
      | nil => simp at h
      | cons y L' =>
          simp only [List.length_cons, List.drop_succ_cons] at h
          have := ih d2 L' x1 x2 h
          simp only [loopTris, loopEnd, sparesOf_cons, List.cons_append, comps, List.flatMap_cons] at this ⊢
          refine List.Perm.cons _ (List.Perm.cons _ ?_)
          refine (List.Perm.cons _ this).trans ?_
          -- d1 :: d2 :: (L' ++ S) ~ L' ++ d1 :: d2 :: S
          refine List.Perm.trans ?_ (List.perm_middle (l₁ := L') (a := d1) (l₂ := d2 :: sparesOf cs)).symm
          exact List.Perm.cons _ (List.perm_middle (l₁ := L') (a := d2) (l₂ := sparesOf cs)).symm

/-- in a closed face every dart is the successor of a dart of the face -/
theorem b1chain_pred {m : Map Val} : ∀ (l : List Nat) (d z : Nat), B1Chain m d l → z ∈ l →
    ∃ p, p ∈ d :: l ∧ m.β 1 p = z := by
  intro l
  induction l with
  | nil => intro d z _ h; simp at h
  | cons x l ih =>
      intro d z hc hz
      rcases List.mem_cons.1 hz with rfl | hz
      · exact ⟨d, by simp, hc.1⟩
      · obtain ⟨p, hp, e⟩ := ih x z hc.2 hz
        exact ⟨p, List.mem_cons_of_mem _ hp, e⟩

theorem closedFace_pred {m : Map Val} (hwf : WF 3 m) {a : Nat} {rest : List Nat} (hc : ClosedFace m a rest)
    {y : Nat} (hy : y < m.n) (h : m.β 1 y ∈ a :: rest) : y ∈ a :: rest := by
  have hz0 : m.β 1 y ≠ 0 := hc.nz _ h
  have hz : m.β 1 y ∈ rest ++ [a] := by
    rw [List.mem_append]; rcases List.mem_cons.1 h with e | e
    · exact Or.inr (by simp [e])
    · exact Or.inl e
  obtain ⟨p, hp, e⟩ := b1chain_pred _ a _ hc.chain hz
  have hpm : p ∈ a :: rest := by
    simp only [List.mem_cons, List.mem_append, List.not_mem_nil, or_false] at hp ⊢
    rcases hp with h1 | h1 | h1
    · exact Or.inl h1
    · exact Or.inr h1
    · exact Or.inl h1
  have hpn : p < m.n := hc.lt hwf hpm
  have i1 := hwf.inv01 y hy hz0
  have i2 := hwf.inv01 p hpn (by rw [e]; exact hz0)
  rw [← i1, ← e, i2]
  exact hpm

/-- **C11 (e1), faces after a fan**: a successful fan of the closed face `s :: L` with fresh spare darts leaves a
    map in which every in-use dart has a successor and lies on no 1- or 2-cycle — provided this held in the source
    for the darts that are not spare darts -/
theorem C11_fan_local_faces {m m' : Map Val} {s : Nat} {L : List Nat} {cs : List (Nat × Nat)}
    (hwf : WF 3 m) (hn : m'.n = m.n) (hu : m'.u = m.u) (hc : ClosedFace m s L)
    (hnd : (sparesOf cs).Nodup) (hsp : ∀ x, x ∈ sparesOf cs → x ≠ 0 ∧ x ∉ s :: L ∧ m.β 0 x = 0)
    (hr : FanResult m m' s L cs)
    (hl : LocalFaces (fun d => C01.InUse m d ∧ d ∉ sparesOf cs) m) :
    LocalFaces (C01.InUse m') m' := by
  obtain ⟨⟨x1, x2, hdrop, htri⟩, _, _, _, hframe⟩ := hr
  have hperm := comps_fan cs s L x1 x2 hdrop
  have hall : (s :: L ++ sparesOf cs).Nodup := by
    have : (s :: L ++ sparesOf cs) = (s :: L) ++ sparesOf cs := rfl
    rw [this, List.nodup_append]
    exact ⟨hc.nodup, hnd, fun a ha b hb e => (hsp b hb).2.1 (e ▸ ha)⟩
  have hcn : (comps (loopTris s L cs ++ [(loopEnd s cs, x1, x2)])).Nodup := hperm.nodup_iff.2 hall
  have hnz : ∀ y, y ∈ comps (loopTris s L cs ++ [(loopEnd s cs, x1, x2)]) → y ≠ 0 := by
    intro y hy
    have := hperm.subset hy
    have e : (s :: L ++ sparesOf cs) = (s :: L) ++ sparesOf cs := rfl
    rw [e, List.mem_append] at this
    rcases this with h | h
    · exact hc.nz y h
    · exact (hsp y h).1
  intro y hy
  have hyu : C01.InUse m y := ⟨hy.1, by rw [← hn]; exact hy.2.1, by
    have := hy.2.2; unfold Map.unused at this ⊢; rw [← hu]; exact this⟩
  by_cases hin : y ∈ s :: L ++ sparesOf cs
  · -- a dart of one of the new triangles
    have hyc := hperm.symm.subset hin
    unfold comps at hyc hcn hnz
    obtain ⟨t, ht, hyt⟩ := List.mem_flatMap.1 hyc
    have htn : [t.1, t.2.1, t.2.2].Nodup := (List.nodup_flatMap.1 hcn).1 t ht
    have hz : ∀ z, z ∈ [t.1, t.2.1, t.2.2] → z ≠ 0 := fun z hz => hnz z (List.mem_flatMap.2 ⟨t, ht, hz⟩)
    obtain ⟨t1, t2, t3⟩ := htri t ht
    simp only [List.nodup_cons, List.mem_cons, List.not_mem_nil, or_false, not_or, not_false_eq_true,
      List.nodup_nil, and_true] at htn
    simp only [List.mem_cons, List.not_mem_nil, or_false] at hyt
    rcases hyt with rfl | rfl | rfl
    · rw [t1, t2]
      exact ⟨hz _ (by simp), fun e => htn.1.1 e.symm, fun e => htn.1.2 e.symm⟩
    · rw [t2, t3]
      exact ⟨hz _ (by simp), fun e => htn.2 e.symm, fun e => htn.1.1 e⟩
    · rw [t3, t1]
      exact ⟨hz _ (by simp), fun e => htn.1.2 e, fun e => htn.2 e⟩
  · -- a dart of an untouched face
    have e : (s :: L ++ sparesOf cs) = (s :: L) ++ sparesOf cs := rfl
    rw [e, List.mem_append, not_or] at hin
    obtain ⟨c0, c1, c2⟩ := hl y ⟨hyu, hin.2⟩
    have hz : m.β 1 y ∉ s :: L := fun h => hin.1 (closedFace_pred hwf hc hyu.2.1 h)
    have hz' : m.β 1 y ∉ sparesOf cs := by
      intro h
      have := hwf.inv01 y hyu.2.1 c0
      rw [(hsp _ h).2.2] at this
      exact hyu.1 this.symm
    rw [hframe 1 y (by omega) hin.1 hin.2, hframe 1 _ (by omega) hz hz']
    exact ⟨c0, c1, c2⟩

/-- **C11 (e1), boundary after a fan**: the 2-free darts are the 2-free darts of the source outside the spare
    darts (the spare darts are 2-linked pair by pair; nothing else changes) -/
theorem C11_fan_boundary {m m' : Map Val} {s : Nat} {L : List Nat} {cs : List (Nat × Nat)}
    (hsp : ∀ c, c ∈ cs → c.1 ≠ 0 ∧ c.2 ≠ 0) (hr : FanResult m m' s L cs) (y : Nat) :
    m'.β 2 y = 0 ↔ (y ∉ sparesOf cs ∧ m.β 2 y = 0) := by
  obtain ⟨_, _, hpairs, hb2, _⟩ := hr
  constructor
  · intro h
    by_cases c : y ∈ sparesOf cs
    · exfalso
      unfold sparesOf at c
      obtain ⟨p, hp, hy⟩ := List.mem_flatMap.1 c
      simp only [List.mem_cons, List.not_mem_nil, or_false] at hy
      obtain ⟨q1, q2⟩ := hpairs p hp
      rcases hy with rfl | rfl
      · rw [q1] at h; exact (hsp p hp).2 h
      · rw [q2] at h; exact (hsp p hp).1 h
    · exact ⟨c, by rw [← hb2 y c]; exact h⟩
  · rintro ⟨c, h⟩
    rw [hb2 y c]; exact h

/-- **C11 (e2)**: the map left by a successful fan (`fan_cell` / `fan_convex_cell` end in `fanFrom` from the apex
    dart `s` of the closed face `s :: L`) of a map whose other faces are closed with at least three sides is
    EXPORTABLE, hence round-trips (`C11_roundTrip_faces`), as soon as the positions in the result satisfy the
    three conditions of `exportable_of_pos`.  By C13d (`C13_fan_old_vertices_keep_coordinates`,
    `C13_fan_triangles_carry_list_coordinates`) the old darts keep their positions and the spare darts run
    between the apex and the corners `c₂ … c₍ₙ₋₂₎`: beyond the source's own conditions, what is needed is that no
    diagonal apex ↔ cᵢ repeats an ordered pair of positions — true for a star-shaped polygon of an embedded
    mesh, NOT proved here (geometry). -/
theorem C11_fan_exportable (cfg : Cfg Val) {m m' : Map Val} {s : Nat} {L nds : List Nat}
    (hwf : WF 3 m) (hc : ClosedFace m s L) (hlen : L.length = (chunks2 nds).length + 2)
    (hsp : ∀ d, d ∈ nds → C01.InUse m d ∧ d ∉ s :: L) (hnd : nds.Nodup)
    (hfresh : ∀ d, d ∈ nds → ∀ i, i < 3 → m.β i d = 0)
    (h : run (fanFrom cfg m.n s nds) m = (.ok (), m'))
    (hl : LocalFaces (fun d => C01.InUse m d ∧ d ∉ sparesOf (chunks2 nds)) m)
    (hpt : ∀ d, C01.InUse m' d → ∃ x y z, posOf m' d = some (.pt x y z))
    (huniq : ∀ d e, C01.InUse m' d → C01.InUse m' e → posOf m' d = posOf m' e →
      posOf m' (m'.β 1 d) = posOf m' (m'.β 1 e) → d = e)
    (hends : ∀ d, C01.InUse m' d → ∀ x y z x' y' z', posOf m' d = some (.pt x y z) →
      posOf m' (m'.β 1 d) = some (.pt x' y' z') → x ≠ x' ∨ y ≠ y') :
    Exportable m' ∧ LocalFaces (C01.InUse m') m' ∧
      (∀ y, m'.β 2 y = 0 ↔ (y ∉ sparesOf (chunks2 nds) ∧ m.β 2 y = 0)) := by
  have hsub := sparesOf_chunks2_sublist nds
  have hi : HC.Inv m.n m.u m := HC.Inv.of_wf hwf
  obtain ⟨i1, r⟩ := C13_fan_structure (n := m.n) (u := m.u) cfg m.n s nds L m m' hi hc hlen (hnd.sublist hsub)
    (fun x hx => ⟨⟨(hsp x (hsub.subset hx)).1.1, (hsp x (hsub.subset hx)).1.2.1, (hsp x (hsub.subset hx)).1.2.2⟩,
      (hsp x (hsub.subset hx)).2⟩) h
  have hloc := C11_fan_local_faces hwf i1.n_eq i1.u_eq hc (hnd.sublist hsub)
    (fun x hx => ⟨(hsp x (hsub.subset hx)).1.1, (hsp x (hsub.subset hx)).2,
      hfresh x (hsub.subset hx) 0 (by omega)⟩) r hl
  refine ⟨exportable_of_pos i1.wf hloc hpt huniq hends, hloc, fun y => C11_fan_boundary ?_ r y⟩
  intro c hcm
  have m1 : c.1 ∈ sparesOf (chunks2 nds) := by unfold sparesOf; exact List.mem_flatMap.2 ⟨c, hcm, by simp⟩
  have m2 : c.2 ∈ sparesOf (chunks2 nds) := by unfold sparesOf; exact List.mem_flatMap.2 ⟨c, hcm, by simp⟩
  exact ⟨(hsp _ (hsub.subset m1)).1.1, (hsp _ (hsub.subset m2)).1.1⟩

/-! non-vacuity: the pentagon of C13 fanned from dart 1 with the spare darts 6, 7, 8, 9 -/
def fanEx : Map Val := (run (fanConvexCell (stdCfg 3 0) d7Map.n 1 [6, 7, 8, 9]) d7Map).2
theorem d7_spares : (∀ d ∈ [6, 7, 8, 9], C01.InUse d7Map d ∧ d ∉ [1, 2, 3, 4, 5]) ∧
    (∀ d ∈ [6, 7, 8, 9], ∀ i < 3, d7Map.β i d = 0) ∧
    (∀ x ∈ sparesOf [(6, 7), (8, 9)], x ≠ 0 ∧ x ∉ [1, 2, 3, 4, 5] ∧ d7Map.β 0 x = 0) := by decide +kernel
theorem fanEx_eq : fanEx = d7FannedConvex := congrArg Prod.snd d7_fanConvex_run
theorem fanEx_eval : fanEx.n = d7Map.n ∧ fanEx.u = d7Map.u ∧ fanEx.β 2 6 = 7 ∧ ExportableB fanEx ∧
    NoCrackB fanEx := by
  rw [fanEx_eq]
  decide +kernel

theorem fanEx_result : FanResult d7Map fanEx 1 [2, 3, 4, 5] [(6, 7), (8, 9)] :=
  fanEx_eq ▸ (C13_fan_convex_structure _ d7Map _ 1 [6, 7, 8, 9] [2, 3, 4, 5] d7_wf d7_closed d7_spares.1
    (by decide) d7_fanConvex_run).2
theorem d7_local : LocalFaces (fun d => C01.InUse d7Map d ∧ d ∉ sparesOf [(6, 7), (8, 9)]) d7Map := by
  have h : ∀ d, d < d7Map.n → (C01.InUse d7Map d ∧ d ∉ sparesOf [(6, 7), (8, 9)]) →
      d7Map.β 1 d ≠ 0 ∧ d7Map.β 1 d ≠ d ∧ d7Map.β 1 (d7Map.β 1 d) ≠ d := by decide +kernel
  exact fun d hd => h d hd.1.2.1 hd
example : LocalFaces (C01.InUse fanEx) fanEx :=
  C11_fan_local_faces d7_wf fanEx_eval.1 fanEx_eval.2.1 d7_closed (by decide) d7_spares.2.2
    fanEx_result d7_local
example : fanEx.β 2 6 = 7 ∧ (fanEx.β 2 2 = 0 ↔ (2 ∉ sparesOf [(6, 7), (8, 9)] ∧ d7Map.β 2 2 = 0)) :=
  ⟨fanEx_eval.2.2.1, C11_fan_boundary (by decide) fanEx_result 2⟩
/-- the fanned pentagon is exportable without crack, hence round-trips isomorphically -/
example : Exportable fanEx ∧ NoCrack fanEx :=
  ⟨exportable_of_B fanEx_eval.2.2.2.1, noCrack_of_B fanEx_eval.2.2.2.2⟩

/-- `C11_fan_exportable` on the pentagon (the position conditions are decided on the concrete result) -/
def fanEx2 : Map Val := (run (fanFrom (stdCfg 3 0) d7Map.n 1 [6, 7, 8, 9]) d7Map).2
set_option synthInstance.maxSize 4096 in
set_option synthInstance.maxHeartbeats 400000 in
example : Exportable fanEx2 := by
  have hev : (run (fanFrom (stdCfg 3 0) d7Map.n 1 [6, 7, 8, 9]) d7Map).1 = .ok () ∧
      (∀ d, d < fanEx2.n → C01.InUse fanEx2 d → isPt (posOf fanEx2 d) = true) ∧
      (∀ d, d < fanEx2.n → ∀ e, e < fanEx2.n → C01.InUse fanEx2 d → C01.InUse fanEx2 e →
        posOf fanEx2 d = posOf fanEx2 e → posOf fanEx2 (fanEx2.β 1 d) = posOf fanEx2 (fanEx2.β 1 e) → d = e) ∧
      (∀ d, d < fanEx2.n → C01.InUse fanEx2 d →
        endsOK (posOf fanEx2 d) (posOf fanEx2 (fanEx2.β 1 d)) = true) := by decide +kernel
  obtain ⟨hrun, hpt, huq, hen⟩ := hev
  refine (C11_fan_exportable (stdCfg 3 0) (m' := fanEx2) d7_wf d7_closed (by decide) d7_spares.1 (by decide)
    d7_spares.2.1 (run_eq_of_fst hrun) d7_local ?_ ?_ ?_).1
  · exact fun d hd => exists_of_isPt (hpt d hd.2.1 hd)
  · exact fun d e hd he => huq d hd.2.1 e he.2.1 hd he
  · intro d hd x y z x' y' z' e1 e2
    have := hen d hd.2.1 hd
    rw [e1, e2] at this
    exact endsOK_pt.1 this

end Fan

/-! ## (e3) after `insert_vertex_on_edge` -/

section Insert
open HC.C14

theorem not_image {m : Map Val} (hwf : WF 3 m) {nd x : Nat} (h0 : m.β 0 nd = 0) (hx : x < m.n)
    (h1 : m.β 1 x ≠ 0) : m.β 1 x ≠ nd := by
  intro e
  have := hwf.inv01 x hx h1
  rw [e, h0] at this
  rw [← this, hwf.null 1 (by omega)] at h1
  exact h1 rfl

/-- **C11 (e3), faces after a vertex insertion**: `insert_vertex_on_edge(e, (nd1, nd2))` (`C14b.InsertResult` with
    one new dart per side) keeps every face closed and adds one side to the face(s) of the edge: if the darts of
    the source other than the consumed spare darts have a successor and lie on no 1- or 2-cycle, so does every
    in-use dart of the result (`nd2` excepted when the edge has a single dart: it is not consumed) -/
theorem C11_insert_vertex_local_faces {m m' : Map Val} {e nd1 nd2 : Nat} (hwf : WF 3 m)
    (hn : m'.n = m.n) (hu : m'.u = m.u) (he : C01.InUse m e) (hb1e : m.β 1 e ≠ 0)
    (hb1e2 : m.β 2 e ≠ 0 → m.β 1 (m.β 2 e) ≠ 0)
    (hf1 : ∀ i, i < 3 → m.β i nd1 = 0) (h10 : nd1 ≠ 0)
    (hf2 : m.β 2 e ≠ 0 → (∀ i, i < 3 → m.β i nd2 = 0) ∧ nd2 ≠ 0 ∧ nd1 ≠ nd2)
    (hr : InsertResult m m' e [nd1] [nd2])
    (hl : LocalFaces (fun d => C01.InUse m d ∧ d ≠ nd1 ∧ (m.β 2 e ≠ 0 → d ≠ nd2)) m) :
    ∀ d, C01.InUse m' d → (m.β 2 e = 0 → d = nd2 → d = nd1) →
      m'.β 1 d ≠ 0 ∧ m'.β 1 d ≠ d ∧ m'.β 1 (m'.β 1 d) ≠ d := by
  have s1 := hr.side1
  simp only [B1Chain, and_true, List.getLastD_cons, List.getLastD_nil] at s1
  obtain ⟨be, bn1⟩ := s1
  have inU : ∀ d, C01.InUse m' d → C01.InUse m d := fun d hd =>
    ⟨hd.1, by rw [← hn]; exact hd.2.1, by have := hd.2.2; unfold Map.unused at this ⊢; rw [← hu]; exact this⟩
  have hen1 : e ≠ nd1 := by rintro rfl; exact hb1e (hf1 1 (by omega))
  have ni1 : ∀ x, x < m.n → m.β 1 x ≠ 0 → m.β 1 x ≠ nd1 := fun x hx h => not_image hwf (hf1 0 (by omega)) hx h
  have o1n : m.β 1 e ≠ nd1 := ni1 e he.2.1 hb1e
  have o1lt : m.β 1 e < m.n := hwf.range 1 (by omega) e he.2.1
  -- β1 of an old dart is never a spare dart; if null it is not a spare dart either
  have im1 : ∀ x, x < m.n → m.β 1 x ≠ nd1 := fun x hx => by
    by_cases c : m.β 1 x = 0
    · rw [c]; exact fun h => h10 h.symm
    · exact ni1 x hx c
  intro d hd hex
  have hdm := inU d hd
  by_cases hb : m.β 2 e = 0
  · -- one-dart edge
    have fr : ∀ y, y ≠ e → y ≠ nd1 → m'.β 1 y = m.β 1 y := fun y h1 h2 =>
      hr.frame1 y (by simp [h1, h2]) (fun h => absurd hb h)
    have le : m.β 1 e ≠ e := (hl e ⟨he, hen1, fun h => absurd hb h⟩).2.1
    by_cases c1 : d = e
    · subst c1
      rw [be, bn1]
      exact ⟨h10, fun h => hen1 h.symm, le⟩
    · by_cases c2 : d = nd1
      · subst c2
        rw [bn1]
        refine ⟨hb1e, o1n, ?_⟩
        rw [fr _ le o1n]
        exact im1 _ o1lt
      · have hd2 : d ≠ nd2 := fun h => c2 (hex hb h)
        obtain ⟨c0, c1', c2'⟩ := hl d ⟨hdm, c2, fun h => absurd hb h⟩
        rw [fr d c1 c2]
        refine ⟨c0, c1', ?_⟩
        by_cases c3 : m.β 1 d = e
        · rw [c3, be]; exact fun h => c2 h.symm
        · rw [fr _ c3 (ni1 d hdm.2.1 c0)]; exact c2'
  · -- two-dart edge
    obtain ⟨f2, h20, h12⟩ := hf2 hb
    obtain ⟨s2a, bn2⟩ := hr.side2 hb
    simp only [B1Chain, and_true, List.getLastD_cons, List.getLastD_nil] at s2a bn2
    have he2 := C01.inUse_image hwf (by omega) (by omega) he.2.1 hb
    have hinv := hwf.invol 2 (by omega) (by omega) e he.2.1 hb
    have hen2 : e ≠ nd2 := by rintro rfl; exact hb1e (f2 1 (by omega))
    have h2n1 : m.β 2 e ≠ nd1 := by intro h; exact hb1e2 hb (by rw [h]; exact hf1 1 (by omega))
    have h2n2 : m.β 2 e ≠ nd2 := by intro h; exact hb1e2 hb (by rw [h]; exact f2 1 (by omega))
    have ni2 : ∀ x, x < m.n → m.β 1 x ≠ 0 → m.β 1 x ≠ nd2 := fun x hx h => not_image hwf (f2 0 (by omega)) hx h
    have im2 : ∀ x, x < m.n → m.β 1 x ≠ nd2 := fun x hx => by
      by_cases c : m.β 1 x = 0
      · rw [c]; exact fun h => h20 h.symm
      · exact ni2 x hx c
    have fr : ∀ y, y ≠ e → y ≠ nd1 → y ≠ m.β 2 e → y ≠ nd2 → m'.β 1 y = m.β 1 y := fun y h1 h2 h3 h4 =>
      hr.frame1 y (by simp [h1, h2]) (fun _ => by simp [h3, h4])
    have le : m.β 1 e ≠ e := (hl e ⟨he, hen1, fun _ => hen2⟩).2.1
    have le2 : m.β 1 (m.β 2 e) ≠ m.β 2 e := (hl _ ⟨he2, h2n1, fun _ => h2n2⟩).2.1
    have o2lt : m.β 1 (m.β 2 e) < m.n := hwf.range 1 (by omega) _ he2.2.1
    -- β1' of an old dart `z` (not a spare) is never the given old non-spare dart `d` unless β1 z = d
    have step : ∀ z w, z < m.n → z ≠ nd1 → z ≠ nd2 → w ≠ nd1 → w ≠ nd2 → m.β 1 z ≠ w → m'.β 1 z ≠ w := by
      intro z w hz z1 z2 w1 w2 hzw
      by_cases a : z = e
      · rw [a, be]; exact fun h => w1 h.symm
      · by_cases b : z = m.β 2 e
        · rw [b, s2a]; exact fun h => w2 h.symm
        · rw [fr z a z1 b z2]; exact hzw
    by_cases c1 : d = e
    · subst c1
      rw [be, bn1]
      exact ⟨h10, fun h => hen1 h.symm, le⟩
    · by_cases c2 : d = nd1
      · subst c2
        rw [bn1]
        refine ⟨hb1e, o1n, ?_⟩
        by_cases a : m.β 1 e = m.β 2 e
        · rw [a, s2a]; exact fun h => h12 h.symm
        · rw [fr _ le o1n a (im2 e he.2.1)]
          exact im1 _ o1lt
      · by_cases c3 : d = m.β 2 e
        · subst c3
          rw [s2a, bn2]
          exact ⟨h20, fun h => h2n2 h.symm, le2⟩
        · by_cases c4 : d = nd2
          · subst c4
            rw [bn2]
            refine ⟨hb1e2 hb, im2 _ he2.2.1, ?_⟩
            by_cases a : m.β 1 (m.β 2 e) = e
            · rw [a, be]; exact h12
            · rw [fr _ a (im1 _ he2.2.1) le2 (im2 _ he2.2.1)]
              exact im2 _ o2lt
          · obtain ⟨c0, c1', c2'⟩ := hl d ⟨hdm, c2, fun _ => c4⟩
            rw [fr d c1 c2 c3 c4]
            refine ⟨c0, c1', ?_⟩
            exact step _ d (hwf.range 1 (by omega) d hdm.2.1) (im1 d hdm.2.1) (im2 d hdm.2.1) c2 c4 c2'

/-- **C11 (e3), boundary after a vertex insertion**: on a one-dart (boundary) edge nothing changes for β2 — the new
    dart `nd1` is a new boundary dart; on a two-dart edge the four darts `e, nd1, β2 e, nd2` are 2-linked and
    nothing else changes: the boundary is the same -/
theorem C11_insert_vertex_boundary {m m' : Map Val} {e nd1 nd2 : Nat} (hr : InsertResult m m' e [nd1] [nd2]) :
    (m.β 2 e = 0 → ∀ y, m'.β 2 y = m.β 2 y) ∧
    (m.β 2 e ≠ 0 → ∀ y, y ≠ e → y ≠ nd1 → y ≠ m.β 2 e → y ≠ nd2 → m'.β 2 y = m.β 2 y) :=
  ⟨fun hb y => hr.frame2 y (fun h => absurd hb h),
   fun hb y h1 h2 h3 h4 => hr.frame2 y (fun _ => ⟨by simp [h1, h2], by simp [h3, h4]⟩)⟩

/-! non-vacuity: a vertex inserted on the common edge 3 ↔ 4 of the two triangles of `twoTri`, spare darts 7, 8 -/
def insSrc : Map Val := (twoTri.addFreeDarts 2).2
def insEx : Map Val := (run (insertVertexOnEdge insSrc.n 3 7 8 none) insSrc).2
theorem insSrc_eval : WF 3 insSrc ∧ C01.InUse insSrc 3 ∧ insSrc.unused 7 = false ∧ insSrc.unused 8 = false ∧
    insSrc.β 1 3 ≠ 0 ∧ insSrc.β 2 3 ≠ 0 ∧ 1 ≠ insSrc.β 2 3 ∧ insSrc.β 1 (insSrc.β 2 3) ≠ 0 ∧
    (∀ i < 3, insSrc.β i 7 = 0) ∧ (∀ i < 3, insSrc.β i 8 = 0) ∧
    (∀ d, d < insSrc.n → (C01.InUse insSrc d ∧ d ≠ 7 ∧ (insSrc.β 2 3 ≠ 0 → d ≠ 8)) →
      insSrc.β 1 d ≠ 0 ∧ insSrc.β 1 d ≠ d ∧ insSrc.β 1 (insSrc.β 1 d) ≠ d) := by decide +kernel
theorem insEx_eval : (run (insertVertexOnEdge insSrc.n 3 7 8 none) insSrc).1 = .ok () ∧
    insEx.n = insSrc.n ∧ insEx.u = insSrc.u ∧ ExportableB insEx ∧ NoCrackB insEx := by decide +kernel

theorem insSrc_wf : WF 3 insSrc := insSrc_eval.1
theorem insEx_result : InsertResult insSrc insEx 3 [7] [8] :=
  have s := insSrc_eval
  (C14_insertVertex_beta_structure insSrc _ 3 7 8 none insSrc_wf s.2.1 s.2.2.1
    (fun _ => ⟨s.2.2.2.1, by decide⟩) (.inl s.2.2.2.2.1) (run_eq_of_fst insEx_eval.1)).2
set_option synthInstance.maxSize 4096 in
example : ∀ d, C01.InUse insEx d → insEx.β 1 d ≠ 0 ∧ insEx.β 1 d ≠ d ∧ insEx.β 1 (insEx.β 1 d) ≠ d := by
  obtain ⟨_, hu, _, _, h13, h23, _, h123, h7, h8, h⟩ := insSrc_eval
  have hl : LocalFaces (fun d => C01.InUse insSrc d ∧ d ≠ 7 ∧ (insSrc.β 2 3 ≠ 0 → d ≠ 8)) insSrc :=
    fun d hd => h d hd.1.2.1 hd
  intro d hd
  exact C11_insert_vertex_local_faces insSrc_wf insEx_eval.2.1 insEx_eval.2.2.1 hu h13 (fun _ => h123) h7
    (by decide) (fun _ => ⟨h8, by decide, by decide⟩) insEx_result hl d hd (fun h => absurd h h23)
example : insEx.β 2 1 = insSrc.β 2 1 :=
  (C11_insert_vertex_boundary insEx_result).2 insSrc_eval.2.2.2.2.2.1 1 (by decide) (by decide)
    insSrc_eval.2.2.2.2.2.2.1 (by decide)
/-- the two quadrilaterals (triangles with a vertex on the common side) are exportable without crack -/
example : Exportable insEx ∧ NoCrack insEx :=
  ⟨exportable_of_B insEx_eval.2.2.2.1, noCrack_of_B insEx_eval.2.2.2.2⟩

end Insert

end HC.C11

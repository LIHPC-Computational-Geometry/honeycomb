/-
  C12, fourth part — the 3-D hex grid's faces and edges as the code computes them, for ALL sizes
  `nx, ny, nz ≥ 1` (the clauses that were compared on the size box only):

    C12_hex3_faces        `face_id` (the two-sided lock-step walk of `face_id_transac`, evaluated on the grid:
                          total, never out of fuel): a dart is a face identifier iff it is the first dart of
                          its quadrilateral and the face is on the x+ / y+ / z+ side of its cell or on the
                          outer boundary
    C12_hex3_edges        `edge_id` (traversal over β2, β3; total): two darts have the same edge identifier iff
                          they run the same geometric edge of the lattice (same two end points)
    C12_hex3_counts_all   what the four iterators yield on `build_3d_grid`:
                            vertices (nx+1)(ny+1)(nz+1)
                            edges    nx(ny+1)(nz+1) + (nx+1)ny(nz+1) + (nx+1)(ny+1)nz
                            faces    nx·ny·(nz+1) + nx·(ny+1)·nz + (nx+1)·ny·nz
                            volumes  nx·ny·nz
                          and hence Euler's relation V − E + F − C = 1
    C12_build3_split_unimplemented
                          the tetrahedral split grid is NOT in the model because it is not in the code:
                          `split_cells(true)` on a 3-D descriptor is `unimplemented!()` (a panic, after a
                          successful parse) — there is nothing to count
-/
import Honeycomb.Props.C12b
import Honeycomb.Lemmas.Grid3Face
import Honeycomb.Lemmas.Grid3Edge

namespace HC.C12
open HC HC.Gen

/-! ## faces -/

open Grid3Vertex Grid3Face in
/-- Face identifiers of the hex grid.  Local darts `4f .. 4f+3` of a cell are its face `f`
    (0 = y−, 1 = z−, 2 = x+, 3 = z+, 4 = x−, 5 = y+); `face_id` of a dart `d` is `d` itself **iff** `d`
    is the first dart `4f` of its face and the face is an x+ / y+ / z+ face (its neighbour, when it
    exists, has larger dart numbers) or lies on the outer boundary (first row / layer / column). -/
theorem C12_hex3_faces (ox oy oz lx ly lz : Rat) {nx ny nz ix iy iz o : Nat} (hnx : 0 < nx) (hny : 0 < ny)
    (hx : ix < nx) (hy : iy < ny) (hz : iz < nz) (ho : o < 24) :
    let m := buildHex3 ox oy oz nx ny nz lx ly lz
    (okVal (run (faceId3 m.n (dartOf 24 nx ny ix iy iz o)) m) 0 = dartOf 24 nx ny ix iy iz o ↔
      (o % 4 = 0 ∧ (o / 4 = 2 ∨ o / 4 = 3 ∨ o / 4 = 5 ∨ (o / 4 = 0 ∧ iy = 0) ∨ (o / 4 = 1 ∧ iz = 0) ∨
        (o / 4 = 4 ∧ ix = 0)))) := by
  intro m
  exact fid3_iff' hnx hny (sameTopo_hex3 ox oy oz nx ny nz lx ly lz) hx hy hz ho

/-! ## edges -/

open Grid3Vertex Grid3Edge in
/-- Edge identifiers of the hex grid: `edge_id` is constant exactly on the darts that run the same
    geometric edge — same pair of lattice end points `ek d` (up to 4 cells × 2 darts round an edge) —
    and it is one of these darts. -/
theorem C12_hex3_edges (ox oy oz lx ly lz : Rat) {nx ny nz : Nat} (hnx : 0 < nx) (hny : 0 < ny) :
    let m := buildHex3 ox oy oz nx ny nz lx ly lz
    ∀ d e, IsD3 nx ny nz d → IsD3 nx ny nz e →
      ((eid3 m d = eid3 m e ↔ ek nx ny d = ek nx ny e) ∧ ek nx ny (eid3 m d) = ek nx ny d ∧
        IsD3 nx ny nz (eid3 m d)) := by
  intro m d e hd he
  have st : SameTopo (H3 nx ny nz) m := sameTopo_hex3 ox oy oz nx ny nz lx ly lz
  obtain ⟨k1, v1⟩ := eid3_key hnx hny st hd
  obtain ⟨k2, _⟩ := eid3_key hnx hny st he
  refine ⟨⟨?_, eid3_same hnx hny st hd he⟩, k1, v1⟩
  intro h
  rw [← k1, ← k2, h]

/-! ## the four counts -/

/-- **All cell counts of the hex grid, every size** — lengths of what `iter_vertices`, `iter_edges`,
    `iter_faces`, `iter_volumes` yield on the map of `build_3d_grid`. -/
theorem C12_hex3_counts_all (ox oy oz lx ly lz : Rat) {nx ny nz : Nat} (hnx : 0 < nx) (hny : 0 < ny)
    (hnz : 0 < nz) :
    let m := buildHex3 ox oy oz nx ny nz lx ly lz
    (iterVertices3 m).length = (nx + 1) * (ny + 1) * (nz + 1) ∧
    (iterEdges3 m).length = nx * (ny + 1) * (nz + 1) + (nx + 1) * ny * (nz + 1) + (nx + 1) * (ny + 1) * nz ∧
    (iterFaces3 m).length = nx * ny * (nz + 1) + nx * (ny + 1) * nz + (nx + 1) * ny * nz ∧
    (iterVolumes3 m).length = nx * ny * nz := by
  intro m
  have st : SameTopo (Grid3Vertex.H3 nx ny nz) m := sameTopo_hex3 ox oy oz nx ny nz lx ly lz
  refine ⟨Grid3Count.iterVertices_length hnx hny hnz st, Grid3Edge.iterEdges_length hnx hny hnz st, ?_,
    Grid3Count.iterVolumes_length hnx hny st⟩
  rw [Grid3Face.iterFaces_length hnx hny hnz st]
  ring

/-- Euler's relation for the solid box: `V − E + F − C = 1` -/
theorem C12_hex3_euler (ox oy oz lx ly lz : Rat) {nx ny nz : Nat} (hnx : 0 < nx) (hny : 0 < ny)
    (hnz : 0 < nz) :
    let m := buildHex3 ox oy oz nx ny nz lx ly lz
    (iterVertices3 m).length + (iterFaces3 m).length =
      (iterEdges3 m).length + (iterVolumes3 m).length + 1 := by
  intro m
  obtain ⟨v, e, f, c⟩ := C12_hex3_counts_all ox oy oz lx ly lz hnx hny hnz
  rw [v, e, f, c]
  ring

example : (iterFaces3 (buildHex3 0 0 0 2 1 1 1 1 1)).length = 11 :=
  (C12_hex3_counts_all 0 0 0 1 1 1 (nx := 2) (ny := 1) (nz := 1) (by decide) (by decide) (by decide)).2.2.1
example : (iterEdges3 (buildHex3 0 0 0 2 1 1 1 1 1)).length = 20 :=
  (C12_hex3_counts_all 0 0 0 1 1 1 (nx := 2) (ny := 1) (nz := 1) (by decide) (by decide) (by decide)).2.1
example : (iterVertices3 (buildHex3 0 0 0 1 2 3 1 1 1)).length + (iterFaces3 (buildHex3 0 0 0 1 2 3 1 1 1)).length =
    (iterEdges3 (buildHex3 0 0 0 1 2 3 1 1 1)).length + (iterVolumes3 (buildHex3 0 0 0 1 2 3 1 1 1)).length + 1 :=
  C12_hex3_euler 0 0 0 1 1 1 (by decide) (by decide) (by decide)
example : okVal (run (faceId3 (buildHex3 0 0 0 2 1 1 1 1 1).n (dartOf 24 2 1 1 0 0 8)) (buildHex3 0 0 0 2 1 1 1 1 1)) 0 =
    dartOf 24 2 1 1 0 0 8 :=
  (C12_hex3_faces 0 0 0 1 1 1 (nx := 2) (ny := 1) (nz := 1) (ix := 1) (iy := 0) (iz := 0) (o := 8)
    (by decide) (by decide) (by decide) (by decide) (by decide) (by decide)).mpr (by decide)
example : Grid3Edge.eid3 (buildHex3 0 0 0 1 1 1 1 1 1) 1 = Grid3Edge.eid3 (buildHex3 0 0 0 1 1 1 1 1 1) 1 :=
  ((C12_hex3_edges 0 0 0 1 1 1 (nx := 1) (ny := 1) (nz := 1) (by decide) (by decide) 1 1
    (Grid3Vertex.isD3_of_range (by decide) (by decide) (by decide) (by decide))
    (Grid3Vertex.isD3_of_range (by decide) (by decide) (by decide) (by decide))).1).mpr rfl

/-! ## the tetrahedral split grid -/

/-- `split_cells(true)` on a 3-D descriptor: the code is `unimplemented!()` (reached after a successful
    parse), the model mirrors it as a panic.  There is no tetrahedral grid to state counts about. -/
theorem C12_build3_split_unimplemented (o : Rat × Rat × Rat) (nx ny nz : Nat) {lx ly lz : Rat}
    (hx : 0 < lx) (hy : 0 < ly) (hz : 0 < lz) (lens : Option (Rat × Rat × Rat)) :
    build3 true o (some (nx, ny, nz)) (some (lx, ly, lz)) lens = .panic := by
  have a1 := badLen_pos hx
  have a2 := badLen_pos hy
  have a3 := badLen_pos hz
  unfold build3
  rcases lens with _ | ⟨tx, ty, tz⟩ <;> simp [parse3, a1, a2, a3]

example : build3 true (0, 0, 0) (some (1, 1, 1)) (some (2, 2, 2)) none = .panic :=
  C12_build3_split_unimplemented (0, 0, 0) 1 1 1 two_pos two_pos two_pos none

end HC.C12

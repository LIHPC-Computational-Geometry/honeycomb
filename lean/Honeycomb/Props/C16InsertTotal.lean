/-
  C16 — forward totality: `insert_vertices_on_edge` and the whole step 5 (`insert_edges_in_map`) SUCCEED under conditions on the
  map before the call.  (C14 and Props/C16EdgeInsert.lean prove the elimination direction: what an `Ok` means.)

  (the four link cores, forwards — `link1_fwd`, `link2_fwd`, `unlink1_fwd`, `unlink2_fwd` — are in Props/C16EdgeInsert.lean)
  * `chainFirst_total`, `chainSecond_total`, `placeVertices_total`, `insertVerticesBody_total`: every link / unlink is accepted and
                                         the map stays well formed; what the two chains do to β is read off C14b's `chainFirst_struct` /
                                         `chainSecond_struct`
  * `C16_insertVertices_total_partial`   the kernel answers `Ok` on a 2-linked edge whose two darts have a successor (every edge the
                                         pipeline splits), spare darts in use / free / distinct, positions in ]0,1[, both end points
                                         carrying a value — with C14d's `insertVertices_reads` for the validation part
  * `replaceInter_total`                 the replacement of the placeholders (`markBoundary_total` is in Props/C16Step5Total.lean)
  * `insertOneEdge_total`                   one iteration succeeds, any number of intermediate points (the middle phase of
                                         `insertOneEdge_total_of_mid`)
  * `EdgeOK`, `Indep`                    the conditions: `Ready` (Props/C16Step5Total.lean) + a coordinate at both end points; a later
                                         edge does not start / end at a dart an earlier edge redirects
  * `C16_stepFive_total_indep_partial`   step 5 succeeds when, IN THE MAP BEFORE THE STEP, every edge is `EdgeOK` and the edges are
                                         pairwise `Indep`.  PARTIAL: independence is assumed (edges sharing a dart are covered, without
                                         intermediate points, by `C16_stepFive_total_partial`).
  The loop of steps 2–3 (`insert_intersections` over all edges) is in Props/C16Steps23Total.lean.
-/
import Honeycomb.Props.C16Step5Total
import Honeycomb.Props.C14d
import Honeycomb.Props.C16Chain


namespace HC.C16
open HC

/-- the first chain `prev → l₀ → l₁ → …` is accepted (what it does: `C14.chainFirst_struct`) -/
theorem chainFirst_total : ∀ (l : List Nat) (prev : Nat) (m : Map Val), WF 3 m → C01.InUse m prev → m.β 1 prev = 0 →
    (∀ x, x ∈ l → C01.InUse m x ∧ m.β 0 x = 0 ∧ m.β 1 x = 0) → (prev :: l).Nodup →
    ∃ m', run (chainFirst prev l) m = (.ok (l.getLastD prev), m') ∧ WF 3 m' ∧ SameNUA m m' := by
  intro l
  induction l with
  | nil =>
      intro prev m hwf _ _ _ _
      exact ⟨m, by simp [chainFirst], hwf, SameNUA.refl m⟩
  | cons nd rest ih =>
      intro prev m hwf hp h1 hfree hnd
      obtain ⟨ind, f0, f1⟩ := hfree nd List.mem_cons_self
      obtain ⟨m1, r1, w1, s1, β1⟩ := link1_fwd hwf hp ind h1 f0
      have hpn : prev ≠ nd := fun e => (List.nodup_cons.1 hnd).1 (e ▸ List.mem_cons_self)
      have hnd' : (nd :: rest).Nodup := (List.nodup_cons.1 hnd).2
      have hfree' : ∀ x, x ∈ rest → C01.InUse m1 x ∧ m1.β 0 x = 0 ∧ m1.β 1 x = 0 := by
        intro x hx
        obtain ⟨a, b, c⟩ := hfree x (List.mem_cons_of_mem _ hx)
        have hxn : nd ≠ x := fun e => (List.nodup_cons.1 hnd').1 (e ▸ hx)
        have hxp : prev ≠ x := fun e => (List.nodup_cons.1 hnd).1 (e ▸ List.mem_cons_of_mem _ hx)
        refine ⟨s1.inUse a, ?_, ?_⟩
        · rw [β1]; simp [hxn, b]
        · rw [β1]; simp [hxp, c]
      have h1' : m1.β 1 nd = 0 := by rw [β1]; simp [hpn, f1]
      obtain ⟨m', r', w', s'⟩ := ih nd m1 w1 (s1.inUse ind) h1' hfree' hnd'
      refine ⟨m', ?_, w', s1.trans s'⟩
      simp only [chainFirst, Prog.bind_eq]
      rw [run_bind_of_ok r1, r', List.getLastD_cons]

/-- the second chain `prev → nd₀ → nd₁ → …` with `β2(prev) = d₀`, `β2(nd₀) = d₁`, … is accepted (what it does:
    `C14.chainSecond_struct`) -/
theorem chainSecond_total : ∀ (l : List (Nat × Nat)) (prev : Nat) (m : Map Val), WF 3 m → C01.InUse m prev →
    m.β 1 prev = 0 → m.β 2 prev = 0 →
    (∀ x, x ∈ l → C01.InUse m x.1 ∧ m.β 2 x.1 = 0 ∧ C01.InUse m x.2 ∧ m.β 0 x.2 = 0 ∧ m.β 1 x.2 = 0 ∧ m.β 2 x.2 = 0) →
    (prev :: l.map Prod.snd).Nodup → (l.map Prod.fst).Nodup → (∀ x, x ∈ l.map Prod.fst → x ∉ prev :: l.map Prod.snd) →
    ∃ m', run (chainSecond prev l) m = (.ok ((l.map Prod.snd).getLastD prev), m') ∧ WF 3 m' ∧ SameNUA m m' := by
  intro l
  induction l with
  | nil =>
      intro prev m hwf _ _ _ _ _ _ _
      exact ⟨m, by simp [chainSecond], hwf, SameNUA.refl m⟩
  | cons x rest ih =>
      intro prev m hwf hp h1 h2 hfree hnd2 hnd1 hdis
      obtain ⟨d, nd⟩ := x
      simp only [List.map_cons] at hnd2 hnd1 hdis ⊢
      obtain ⟨id, fd2, ind, f0, f1, f2⟩ := hfree (d, nd) List.mem_cons_self
      simp only at id fd2 ind f0 f1 f2
      have hpn : prev ≠ nd := fun e => (List.nodup_cons.1 hnd2).1 (e ▸ List.mem_cons_self)
      have hnd2' : (nd :: rest.map Prod.snd).Nodup := (List.nodup_cons.1 hnd2).2
      have hd_out := hdis d List.mem_cons_self
      simp only [List.mem_cons, not_or] at hd_out
      have hpd : prev ≠ d := Ne.symm hd_out.1
      have hdn : d ≠ nd := hd_out.2.1
      obtain ⟨mA, rA, wA, sA, βA⟩ := link2_fwd hwf hp id hpd h2 fd2
      have h1A : mA.β 1 prev = 0 := by rw [βA]; simp [h1]
      have f0A : mA.β 0 nd = 0 := by rw [βA]; simp [f0]
      obtain ⟨mB, rB', wB', sB, βB⟩ := link1_fwd wA (sA.inUse hp) (sA.inUse ind) h1A f0A
      have sAB := sA.trans sB
      have βAB : ∀ j e, mB.β j e = if 0 = j ∧ nd = e then prev else if 1 = j ∧ prev = e then nd else
          if 2 = j ∧ d = e then prev else if 2 = j ∧ prev = e then d else m.β j e := by
        intro j e; rw [βB, βA]
      have h1B : mB.β 1 nd = 0 := by rw [βAB]; simp [hpn, f1]
      have h2B : mB.β 2 nd = 0 := by rw [βAB]; simp [hpn, hdn, f2]
      have hfree' : ∀ x, x ∈ rest → C01.InUse mB x.1 ∧ mB.β 2 x.1 = 0 ∧ C01.InUse mB x.2 ∧ mB.β 0 x.2 = 0 ∧
          mB.β 1 x.2 = 0 ∧ mB.β 2 x.2 = 0 := by
        intro x hx
        obtain ⟨a1, a2, b1, b2, b3, b4⟩ := hfree x (List.mem_cons_of_mem _ hx)
        have hx1 : x.1 ∈ rest.map Prod.fst := List.mem_map_of_mem hx
        have hx2 : x.2 ∈ rest.map Prod.snd := List.mem_map_of_mem hx
        have e1 : d ≠ x.1 := fun e => (List.nodup_cons.1 hnd1).1 (e ▸ hx1)
        have o1 := hdis x.1 (List.mem_cons_of_mem _ hx1)
        simp only [List.mem_cons, not_or] at o1
        have e2 : prev ≠ x.1 := Ne.symm o1.1
        have e3 : nd ≠ x.2 := fun e => (List.nodup_cons.1 hnd2').1 (e ▸ hx2)
        have e4 : prev ≠ x.2 := fun e => (List.nodup_cons.1 hnd2).1 (e ▸ List.mem_cons_of_mem _ hx2)
        have e5 : d ≠ x.2 := fun e => hd_out.2.2 (e ▸ hx2)
        refine ⟨sAB.inUse a1, ?_, sAB.inUse b1, ?_, ?_, ?_⟩
        · rw [βAB]; simp [e1, e2, a2]
        · rw [βAB]; simp [e3, b2]
        · rw [βAB]; simp [e4, b3]
        · rw [βAB]; simp [e5, e4, b4]
      have hdis' : ∀ x, x ∈ rest.map Prod.fst → x ∉ nd :: rest.map Prod.snd := by
        intro x hx
        have := hdis x (List.mem_cons_of_mem _ hx)
        simp only [List.mem_cons, not_or] at this ⊢
        exact ⟨this.2.1, this.2.2⟩
      obtain ⟨m', r', w', s'⟩ :=
        ih nd mB wB' (sAB.inUse ind) h1B h2B hfree' hnd2' (List.nodup_cons.1 hnd1).2 hdis'
      refine ⟨m', ?_, w', sAB.trans s'⟩
      simp only [chainSecond, Prog.bind_eq]
      rw [run_bind_of_ok rA, run_bind_of_ok rB', r', List.getLastD_cons]

theorem run_writeVtx {m : Map Val} {id : Nat} (v : Val) (h : m.okA 0 id = true) :
    run (writeVtx id v) m = (.ok (m.att 0 id), m.setA 0 id (some v)) := by
  unfold writeVtx
  simp only [bind, run_rA, h, if_true, run_wA, Prog.pure_eq, run_ret]

/-- writing the new points: total on a well-formed map with a vertex storage -/
theorem placeVertices_total (v1 v2 : Val) : ∀ (l : List (Rat × Nat)) (m : Map Val), WF 3 m → 0 < m.a.size →
    (∀ x, x ∈ l → x.2 ≠ 0 ∧ x.2 < m.n) →
    ∃ m', run (placeVertices m.n v1 v2 l) m = (.ok (), m') ∧ SameTopo m m' := by
  intro l
  induction l with
  | nil => intro m _ _ _; exact ⟨m, by simp [placeVertices], SameTopo.refl m⟩
  | cons x rest ih =>
      intro m hwf h0 hall
      obtain ⟨t, nd⟩ := x
      obtain ⟨hn0, hnlt⟩ := hall (t, nd) List.mem_cons_self
      simp only at hn0 hnlt
      have hvid := (C03.C03_vertexId2_min hwf hn0 hnlt).1
      have hid := C03.cellId_idem hwf (pol := .vertex) trivial hn0 hnlt
      have okv := hwf.okA_of_lt h0 hid.2.1
      have st := SameTopo.setA m 0 (C03.cellId m .vertex nd) (some (placeVal v1 v2 (some t)))
      obtain ⟨m', r', s'⟩ := ih (m.setA 0 (C03.cellId m .vertex nd) (some (placeVal v1 v2 (some t)))) (hwf.sameTopo st)
        (by rw [st.asz]; exact h0) (fun x hx => hall x (List.mem_cons_of_mem _ hx))
      rw [Map.n_setA] at r'
      refine ⟨m', ?_, st.trans s'⟩
      simp only [placeVertices, Prog.bind_eq]
      rw [run_bind_of_ok hvid, run_bind_of_ok (run_writeVtx _ okv)]
      exact r'

/-- **the editing part of `insert_vertices_on_edge` is total** on a 2-linked edge whose two darts have a successor: on a
    well-formed map with a vertex storage, with spare darts that are in use, free and distinct, every link / unlink is
    accepted and every vertex identifier is computed -/
theorem insertVerticesBody_total {m : Map Val} (hwf : WF 3 m) (h0 : 0 < m.a.size) {e : Nat} (he : C01.InUse m e)
    (hb1 : m.β 1 e ≠ 0) (hb2 : m.β 2 e ≠ 0) (hc1 : m.β 1 (m.β 2 e) ≠ 0) {fh sh : List Nat} (hlen : fh.length = sh.length)
    (hfree : ∀ x, x ∈ fh ++ sh → C01.InUse m x ∧ ∀ i, i < 3 → m.β i x = 0) (hnd : (fh ++ sh).Nodup)
    (v1 v2 : Val) (ts : List Rat) :
    ∃ m', run (insertVerticesBody m.n v1 v2 e (m.β 2 e) (m.β 1 e) fh sh ts) m = (.ok (), m') ∧ WF 3 m' ∧
      m'.n = m.n ∧ m'.u = m.u := by
  obtain ⟨b1, hB1⟩ : ∃ b1, m.β 1 e = b1 := ⟨_, rfl⟩
  obtain ⟨b2, hB2⟩ : ∃ b2, m.β 2 e = b2 := ⟨_, rfl⟩
  rw [hB2] at hc1 ⊢
  obtain ⟨c1, hC1⟩ : ∃ c1, m.β 1 b2 = c1 := ⟨_, rfl⟩
  rw [hB1] at hb1 ⊢
  rw [hB2] at hb2
  rw [hC1] at hc1
  have ib1 : C01.InUse m b1 := hB1 ▸ C01.inUse_image hwf (by omega) (by decide) he.2.1 (hB1 ▸ hb1)
  have ib2 : C01.InUse m b2 := hB2 ▸ C01.inUse_image hwf (by omega) (by decide) he.2.1 (hB2 ▸ hb2)
  have ic1 : C01.InUse m c1 := hC1 ▸ C01.inUse_image hwf (by omega) (by decide) ib2.2.1 (hC1 ▸ hc1)
  have hb0b1 : m.β 0 b1 = e := hB1 ▸ hwf.inv01 e he.2.1 (hB1 ▸ hb1)
  have hb0c1 : m.β 0 c1 = b2 := hC1 ▸ hwf.inv01 b2 ib2.2.1 (hC1 ▸ hc1)
  have hinv := hwf.invol 2 (by decide) (by decide) e he.2.1 (hB2 ▸ hb2)
  rw [hB2] at hinv
  have heb2 : e ≠ b2 := Ne.symm hinv.2
  have fr : ∀ x, x ∈ fh ++ sh → x ≠ e ∧ x ≠ b1 ∧ x ≠ b2 ∧ x ≠ c1 := by
    intro x hx
    obtain ⟨_, f⟩ := hfree x hx
    refine ⟨?_, ?_, ?_, ?_⟩
    · rintro rfl; exact hb1 (hB1 ▸ f 1 (by decide))
    · rintro rfl; exact he.1 (hb0b1 ▸ f 0 (by decide))
    · rintro rfl; exact he.1 (hinv.1 ▸ f 2 (by decide))
    · rintro rfl; exact ib2.1 (hb0c1 ▸ f 0 (by decide))
  have frf : ∀ x, x ∈ fh → x ∈ fh ++ sh := fun x hx => List.mem_append_left _ hx
  have frs : ∀ x, x ∈ sh → x ∈ fh ++ sh := fun x hx => List.mem_append_right _ hx
  have ndf : fh.Nodup := (List.nodup_append.1 hnd).1
  have nds : sh.Nodup := (List.nodup_append.1 hnd).2.1
  have dfs : ∀ x, x ∈ fh → x ∉ sh := fun x hx hx' => (List.nodup_append.1 hnd).2.2 x hx x hx' rfl
  have notin_f : ∀ {y}, (y = e ∨ y = b1 ∨ y = b2 ∨ y = c1) → y ∉ fh := by
    intro y hy hyf
    obtain ⟨a, b, c, d⟩ := fr y (frf y hyf)
    rcases hy with h | h | h | h
    · exact a h
    · exact b h
    · exact c h
    · exact d h
  have notin_s : ∀ {y}, (y = e ∨ y = b1 ∨ y = b2 ∨ y = c1) → y ∉ sh := by
    intro y hy hys
    obtain ⟨a, b, c, d⟩ := fr y (frs y hys)
    rcases hy with h | h | h | h
    · exact a h
    · exact b h
    · exact c h
    · exact d h
  -- A. unlink `e`
  obtain ⟨mA, rA, wA, sA, βA⟩ := unlink1_fwd hwf he (hB1 ▸ hb1)
  rw [hB1] at βA
  -- B. 2-unlink `e`
  have hA2 : mA.β 2 e = b2 := by rw [βA]; simp [hB2]
  obtain ⟨mB, rB', wB', sB, βB⟩ := unlink2_fwd wA (sA.inUse he) (hA2 ▸ hb2)
  rw [hA2] at βB
  have sAB := sA.trans sB
  have βAB : ∀ j x, mB.β j x = if 2 = j ∧ b2 = x then 0 else if 2 = j ∧ e = x then 0 else
      if 0 = j ∧ b1 = x then 0 else if 1 = j ∧ e = x then 0 else m.β j x := by
    intro j x; rw [βB, βA]
  -- C. the first chain
  have hB1e : mB.β 1 e = 0 := by rw [βAB]; simp
  have hfreeC : ∀ x, x ∈ fh → C01.InUse mB x ∧ mB.β 0 x = 0 ∧ mB.β 1 x = 0 := by
    intro x hx
    obtain ⟨iu, f⟩ := hfree x (frf x hx)
    obtain ⟨n1, n2, n3, n4⟩ := fr x (frf x hx)
    refine ⟨sAB.inUse iu, ?_, ?_⟩
    · rw [βAB]; simp [Ne.symm n2, f 0 (by decide)]
    · rw [βAB]; simp [Ne.symm n1, f 1 (by decide)]
  have nde : (e :: fh).Nodup := List.nodup_cons.2 ⟨notin_f (Or.inl rfl), ndf⟩
  obtain ⟨mC, rC, wC, sC⟩ := chainFirst_total fh e mB wB' (sAB.inUse he) hB1e hfreeC nde
  obtain ⟨_, _, _, cC1, βC0, βC2⟩ := C14.chainFirst_struct fh e mB mC _ (fun x hx => (hfree x (frf x hx)).1.1) rC
  have βC1 : ∀ y, y ∉ e :: fh → mC.β 1 y = mB.β 1 y := fun y hy => cC1 y (fun h => hy (List.dropLast_subset _ h))
  have sAC := sAB.trans sC
  have hp1 := C14.getLastD_mem fh e
  have hCl : mC.β 1 (fh.getLastD e) = 0 := by
    rw [cC1 _ (C14.getLastD_not_mem_dropLast fh e nde)]
    rcases List.mem_cons.1 hp1 with h | h
    · rw [h]; exact hB1e
    · exact (hfreeC _ h).2.2
  have ip1 : C01.InUse m (fh.getLastD e) := by
    rcases List.mem_cons.1 hp1 with h | h
    · rw [h]; exact he
    · exact (hfree _ (frf _ h)).1
  have b2_notin : b2 ∉ e :: fh := by
    intro h
    rcases List.mem_cons.1 h with h | h
    · exact heb2 h.symm
    · exact notin_f (Or.inr (Or.inr (Or.inl rfl))) h
  -- D. close the first chain on the old successor
  have hC0b1 : mC.β 0 b1 = 0 := by
    rw [βC0 b1 (notin_f (Or.inr (Or.inl rfl))), βAB]; simp
  obtain ⟨mD, rD, wD, sD, βD⟩ := link1_fwd wC (sAC.inUse ip1) (sAC.inUse ib1) hCl hC0b1
  have sAD := sAC.trans sD
  -- E. the second side: unlink `b2`
  have hD1b2 : mD.β 1 b2 = c1 := by
    have hne : fh.getLastD e ≠ b2 := fun h => b2_notin (h ▸ hp1)
    rw [βD]; simp only [show ¬ (0 = 1) by omega, false_and, if_false, hne, and_false]
    rw [βC1 b2 b2_notin, βAB]; simp [heb2, hC1]
  obtain ⟨mE, rE, wE, sE, βE⟩ := unlink1_fwd wD (sAD.inUse ib2) (hD1b2 ▸ hc1)
  rw [hD1b2] at βE
  have sAE := sAD.trans sE
  -- F. the second chain
  have hZ1 : (fh.reverse.zip sh).map Prod.fst = fh.reverse := by
    apply List.map_fst_zip; simp [hlen]
  have hZ2 : (fh.reverse.zip sh).map Prod.snd = sh := by
    apply List.map_snd_zip; simp [hlen]
  have hE2 : ∀ x, mE.β 2 x = mB.β 2 x := by
    intro x; rw [βE, βD]; simp only [show ¬ (0 = 2) by omega, show ¬ (1 = 2) by omega, false_and, if_false]
    exact βC2 x
  have hE1b2 : mE.β 1 b2 = 0 := by rw [βE]; simp
  have hE2b2 : mE.β 2 b2 = 0 := by rw [hE2, βAB]; simp
  have p1_ne : ∀ {y}, y ∉ e :: fh → fh.getLastD e ≠ y := fun hy h => hy (h ▸ hp1)
  have s_notin : ∀ {y}, y ∈ sh → y ∉ e :: fh := by
    intro y hy h
    rcases List.mem_cons.1 h with h | h
    · exact notin_s (Or.inl rfl) (h ▸ hy)
    · exact dfs y h hy
  have hFh : ∀ x, x ∈ fh → C01.InUse mE x ∧ mE.β 2 x = 0 := by
    intro x hx
    obtain ⟨iu1, f1⟩ := hfree _ (frf _ hx)
    obtain ⟨a1, a2, a3, a4⟩ := fr _ (frf _ hx)
    exact ⟨sAE.inUse iu1, by rw [hE2, βAB]; simp [Ne.symm a3, Ne.symm a1, f1 2 (by decide)]⟩
  have hSh : ∀ x, x ∈ sh → C01.InUse mE x ∧ mE.β 0 x = 0 ∧ mE.β 1 x = 0 ∧ mE.β 2 x = 0 := by
    intro x hx
    obtain ⟨iu2, f2⟩ := hfree _ (frs _ hx)
    obtain ⟨c1', c2, c3, c4⟩ := fr _ (frs _ hx)
    refine ⟨sAE.inUse iu2, ?_, ?_, ?_⟩
    · rw [βE, βD]; simp only [Ne.symm c4, Ne.symm c2, and_false, if_false, show ¬ (1 = 0) by omega, false_and]
      rw [βC0 _ (fun h => dfs _ h hx), βAB]; simp [Ne.symm c2, f2 0 (by decide)]
    · rw [βE, βD]; simp only [Ne.symm c3, p1_ne (s_notin hx), and_false, if_false, show ¬ (0 = 1) by omega, false_and]
      rw [βC1 _ (s_notin hx), βAB]; simp [Ne.symm c1', f2 1 (by decide)]
    · rw [hE2, βAB]; simp [Ne.symm c3, Ne.symm c1', f2 2 (by decide)]
  have ndb : (b2 :: sh).Nodup := List.nodup_cons.2 ⟨notin_s (Or.inr (Or.inr (Or.inl rfl))), nds⟩
  obtain ⟨mF, rF, wF, sF⟩ := chainSecond_total (fh.reverse.zip sh) b2 mE wE (sAE.inUse ib2) hE1b2 hE2b2
    (fun x hx => ⟨(hFh _ (List.mem_reverse.1 (List.of_mem_zip hx).1)).1, (hFh _ (List.mem_reverse.1 (List.of_mem_zip hx).1)).2,
      hSh _ (List.of_mem_zip hx).2⟩)
    (by rw [hZ2]; exact ndb) (by rw [hZ1]; exact List.nodup_reverse.2 ndf)
    (by
      rw [hZ1, hZ2]
      intro x hx h
      have hxf := List.mem_reverse.1 hx
      rcases List.mem_cons.1 h with h | h
      · exact notin_f (Or.inr (Or.inr (Or.inl rfl))) (h ▸ hxf)
      · exact dfs x hxf h)
  obtain ⟨_, _, _, _, cF1, βF0, cF2⟩ := C14.chainSecond_struct (fh.reverse.zip sh) b2 mE mF _ ib2.1
    (fun p hp => ⟨(hFh _ (List.mem_reverse.1 (List.of_mem_zip hp).1)).1.1, (hSh _ (List.of_mem_zip hp).2).1.1⟩) rF
  rw [hZ2] at rF cF1 βF0 cF2
  rw [hZ1] at cF2
  have βF2 : ∀ y, y ∉ b2 :: sh → y ∉ fh.reverse → mF.β 2 y = mE.β 2 y := fun y h1 h2 =>
    cF2 y (fun h => h1 (List.dropLast_subset _ h)) h2
  have hp2 := C14.getLastD_mem sh b2
  have hlast := C14.getLastD_not_mem_dropLast sh b2 ndb
  -- the last dart of the second chain has no successor and no opposite dart yet
  have hF12 : mF.β 1 (sh.getLastD b2) = 0 ∧ mF.β 2 (sh.getLastD b2) = 0 := by
    have hnf : sh.getLastD b2 ∉ fh.reverse := by
      intro h
      rcases List.mem_cons.1 hp2 with h' | h'
      · exact notin_f (Or.inr (Or.inr (Or.inl rfl))) (h' ▸ List.mem_reverse.1 h)
      · exact dfs _ (List.mem_reverse.1 h) h'
    rw [cF1 _ hlast, cF2 _ hlast hnf]
    rcases List.mem_cons.1 hp2 with h | h
    · rw [h]; exact ⟨hE1b2, hE2b2⟩
    · exact ⟨(hSh _ h).2.2.1, (hSh _ h).2.2.2⟩
  have sAF := sAE.trans sF
  have ip2 : C01.InUse m (sh.getLastD b2) := by
    rcases List.mem_cons.1 hp2 with h | h
    · rw [h]; exact ib2
    · exact (hfree _ (frs _ h)).1
  -- G. close the second chain on the old successor of `b2`
  have hF0c1 : mF.β 0 c1 = 0 := by
    rw [βF0 c1 (notin_s (Or.inr (Or.inr (Or.inr rfl)))), βE]; simp
  obtain ⟨mG, rG, wG, sG, βG⟩ := link1_fwd wF (sAF.inUse ip2) (sAF.inUse ic1) hF12.1 hF0c1
  have sAG := sAF.trans sG
  -- H. 2-link the last dart with `e`
  have e_notin : e ∉ b2 :: sh := by
    intro h
    rcases List.mem_cons.1 h with h | h
    · exact heb2 h
    · exact notin_s (Or.inl rfl) h
  have hp2e : sh.getLastD b2 ≠ e := fun h => e_notin (h ▸ hp2)
  have hG2p : mG.β 2 (sh.getLastD b2) = 0 := by
    rw [βG]; simp only [show ¬ (0 = 2) by omega, show ¬ (1 = 2) by omega, false_and, if_false]; exact hF12.2
  have hG2e : mG.β 2 e = 0 := by
    rw [βG]; simp only [show ¬ (0 = 2) by omega, show ¬ (1 = 2) by omega, false_and, if_false]
    rw [βF2 e e_notin (fun h => notin_f (Or.inl rfl) (List.mem_reverse.1 h)), hE2, βAB]; simp
  obtain ⟨mH, rH, wH, sH, βH⟩ := link2_fwd wG (sAG.inUse ip2) (sAG.inUse he) hp2e hG2p hG2e
  have sAH := sAG.trans sH
  -- I. the new points
  obtain ⟨mI, rI, sI⟩ := placeVertices_total v1 v2 (ts.zip fh) mH wH (by rw [sAH.a]; exact h0) (by
    intro x hx
    have hx2 := (List.of_mem_zip hx).2
    have := (hfree _ (frf _ hx2)).1
    exact ⟨this.1, by rw [sAH.n]; exact this.2.1⟩)
  rw [sAH.n] at rI
  refine ⟨mI, ?_, wH.sameTopo sI, by rw [sI.n, sAH.n], by rw [sI.u, sAH.u]⟩
  have rS : run (insertVerticesSide2 e b2 fh sh) mD = (.ok (), mH) := by
    unfold insertVerticesSide2
    simp only [Prog.bind_eq]
    rw [run_rB, if_pos ((Sized.okβ wD.toSized 1 b2).2 ⟨by omega, by rw [sAD.n]; exact ib2.2.1⟩), hD1b2]
    simp only [whenP, ne_eq, hc1, not_false_eq_true, decide_true, if_true]
    rw [run_bind_of_ok rE, run_bind_of_ok rF, run_bind_of_ok rG]
    exact rH
  unfold insertVerticesBody
  simp only [whenP, ne_eq, hb1, hb2, not_false_eq_true, decide_true, if_true, Prog.bind_eq]
  rw [run_bind_of_ok rA, run_bind_of_ok rB', run_bind_of_ok rC, run_bind_of_ok rD, run_bind_of_ok rS]
  exact rI

/-- **`insert_vertices_on_edge` is total** (partial: for a 2-linked edge whose two darts have a successor — every edge the
    pipeline splits).  On a well-formed map with a vertex storage, an edge dart in use, `2k` spare darts in use, free and
    distinct, `k` positions in `]0,1[`, and both end points of the edge carrying a value (`DefinedEdge` of C14d), the kernel
    answers `Ok`: C14 proved what an `Ok` means and which error comes when; this is the converse. -/
theorem C16_insertVertices_total_partial {m : Map Val} (hwf : WF 3 m) (h0 : 0 < m.a.size) {e : Nat} (he : C01.InUse m e)
    (hb1 : m.β 1 e ≠ 0) (hb2 : m.β 2 e ≠ 0) (hc1 : m.β 1 (m.β 2 e) ≠ 0) {nds : List Nat} {ts : List Rat}
    (hlen : nds.length = 2 * ts.length) (hfree : ∀ x, x ∈ nds → C01.InUse m x ∧ ∀ i, i < 3 → m.β i x = 0)
    (hnd : nds.Nodup) (ht : ∀ t, t ∈ ts → 0 < t ∧ t < 1)
    (hv1 : (m.att 0 (C03.cellId m .vertex e)).isSome = true)
    (hv2 : (m.att 0 (C03.cellId m .vertex (m.β 1 e))).isSome = true) :
    ∃ m', run (insertVerticesOnEdge m.n e nds ts) m = (.ok (), m') ∧ WF 3 m' ∧ m'.n = m.n ∧ m'.u = m.u := by
  have hsplit : nds.take ts.length ++ nds.drop ts.length = nds := List.take_append_drop _ _
  have hnz : ∀ x, x ∈ nds → x ≠ 0 := fun x hx => (hfree x hx).1.1
  rw [C14.insertVertices_reads m hwf h0 e he.1 he.2.1 nds ts hlen
    (fun d hd => ⟨(hfree d hd).1.2.1, (isFree_iff m 3 d).2 (hfree d hd).2⟩)
    (fun h => hnz 0 (List.mem_of_mem_take h) rfl) (fun _ h => hnz 0 (List.mem_of_mem_drop h) rfl) ht,
    if_neg (fun h => hb1 h.1)]
  have htgt : C14.tgtOf m e = m.β 1 e := by unfold C14.tgtOf; rw [if_pos hb1]
  rw [htgt]
  obtain ⟨v1, v2, _, _, hw⟩ := C14.withEnds_some (k := fun v1 v2 =>
    insertVerticesBody m.n v1 v2 e (m.β 2 e) (m.β 1 e) (nds.take ts.length) (nds.drop ts.length) ts) hv1 hv2
  rw [hw]
  exact insertVerticesBody_total hwf h0 he hb1 hb2 hc1
    (by rw [List.length_take, List.length_drop]; omega)
    (by rw [hsplit]; exact hfree) (by rw [hsplit]; exact hnd) v1 v2 ts

/-! ## the attribute passes of step 5 -/

/-- the replacement of the placeholders is total on a well-formed map that has the storages it writes -/
theorem replaceInter_total (ha : Bool) (i : Nat) : ∀ (pts : List Pt) (d : Nat) (m : Map Val), WF 3 m → 0 < m.a.size →
    (ha = true → sVA < m.a.size) → d < m.n →
    ∃ m', run (replaceInter m.n ha i d pts) m = (.ok (), m') ∧ SameTopo m m' := by
  intro pts
  induction pts with
  | nil => intro d m _ _ _ _; exact ⟨m, by simp [replaceInter], SameTopo.refl m⟩
  | cons v vs ih =>
      intro d m hwf h0 hva hd
      -- the vertex identifier of `d` (the null dart has identifier 0)
      obtain ⟨vid, hvid, hvlt⟩ : ∃ vid, run (vertexId2 (X := Val) m.n d) m = (.ok vid, m) ∧ vid < m.n := by
        by_cases hd0 : d = 0
        · subst hd0; exact ⟨0, C14.run_vertexId2_null m hwf, hwf.toSized.npos⟩
        · exact ⟨_, (C03.C03_vertexId2_min hwf hd0 hd).1, (C03.cellId_idem hwf (pol := .vertex) trivial hd0 hd).2.1⟩
      have ok0 := hwf.okA_of_lt h0 hvlt
      have st1 := SameTopo.setA m 0 vid (some (.pt v.1 v.2 0))
      have hb1 := hwf.range 1 (by decide) d hd
      cases ha with
      | false =>
          obtain ⟨m', r', s'⟩ := ih (m.β 1 d) _ (hwf.sameTopo st1) (by rw [st1.asz]; exact h0) (by intro h; cases h)
            (by rw [st1.n]; exact hb1)
          rw [Map.n_setA] at r'
          refine ⟨m', ?_, st1.trans s'⟩
          simp only [replaceInter, Prog.bind_eq]
          rw [run_bind_of_ok hvid, run_bind_of_ok (run_writeVtx _ ok0)]
          simp only [Bool.false_eq_true, if_false, Prog.pure_eq, Prog.ret_bind]
          rw [run_rB, if_pos (by rw [Map.okβ_setA]; exact hwf.okβ_of_lt (by decide) hd), Map.β_setA]
          exact r'
      | true =>
          have okv := hwf.okA_of_lt (hva rfl) hvlt
          have st2 := SameTopo.setA (m.setA 0 vid (some (.pt v.1 v.2 0))) sVA vid (some (.tm (.leaf (4 * i))))
          have st := st1.trans st2
          obtain ⟨m', r', s'⟩ := ih (m.β 1 d) _ (hwf.sameTopo st) (by rw [st.asz]; exact h0)
            (by intro _; rw [st.asz]; exact hva rfl) (by rw [st.n]; exact hb1)
          rw [Map.n_setA, Map.n_setA] at r'
          refine ⟨m', ?_, st.trans s'⟩
          simp only [replaceInter, Prog.bind_eq]
          rw [run_bind_of_ok hvid, run_bind_of_ok (run_writeVtx _ ok0)]
          simp only [if_true]
          rw [run_bind, run_bind]
          simp only [run_rA', Map.okA_setA, okv, if_true, run_wA']
          rw [run_rB, if_pos (by rw [Map.okβ_setA, Map.okβ_setA]; exact hwf.okβ_of_lt (by decide) hd), Map.β_setA, Map.β_setA]
          exact r'

/-! ## one iteration of step 5, any number of intermediate points -/

/-- **one iteration of `insert_edges_in_map` succeeds**, any number of points of interest: the edge is `Ready`, the block
    of new darts is there; when the edge has points of interest, its two end points carry a value and the storages the
    replacement writes exist -/
theorem insertOneEdge_total {m : Map Val} {next i : Nat} {ha : Bool} {e : MEdge} (I : EInv m next)
    (hA : sBd < m.a.size) (R : Ready m e) (hroom : next + (2 + 2 * e.inter.length) ≤ m.n)
    (hc : e.inter ≠ [] → (ha = true → sVA < m.a.size) ∧ (∃ P, Carries m (m.β 1 e.start) P) ∧ ∃ P, Carries m e.stop P) :
    ∃ m', run (insertOneEdge m.n ha i e (List.range' next (2 + 2 * e.inter.length))) m = (.ok (), m') := by
  refine insertOneEdge_total_of_mid I hA R hroom (fun m1 r1 B => ?_)
  by_cases hemp : e.inter = []
  · exact ⟨m1, Or.inl ⟨hemp, rfl⟩⟩
  obtain ⟨hva, ⟨P1, hP1⟩, ⟨P2, hP2⟩⟩ := hc hemp
  obtain ⟨hs, he, n1, n0, hcons⟩ := R
  have hwf := I.wf
  have h0 : 0 < m.a.size := by unfold sBd at hA; omega
  obtain ⟨_, f0, _⟩ := I.fresh next (Nat.le_refl _) (by omega)
  obtain ⟨_, f1, _⟩ := I.fresh (next + 1) (by omega) (by omega)
  have hpos := I.pos
  have id0 : C01.InUse m next := I.inUse (Nat.le_refl _) (by omega)
  have id1 : C01.InUse m (next + 1) := I.inUse (by omega) (by omega)
  have as1 := asize_of_run r1
  have b2n : m1.β 2 next = next + 1 := by rw [B.b2, if_pos rfl]
  -- the two end points of the edge that is subdivided carry a value
  have c1 := carries_buildBaseEdge hwf hs he id0 id1 f0 f1 (by omega) r1 B.b1s_lt (by have := B.b1s_lt; omega) hP1
  have c2 := carries_buildBaseEdge hwf hs he id0 id1 f0 f1 (by omega) r1 B.stop_lt (by have := B.stop_lt; omega) hP2
  have hvid : C03.cellId m1 .vertex next = C03.cellId m1 .vertex (m.β 1 e.start) := by
    have := cellId_b1b2 B.wf (x := next) id0.1 (by rw [B.n]; exact id0.2.1) (by rw [b2n, B.s4]; exact n1)
    rw [b2n, B.s4] at this
    exact this.symm
  obtain ⟨m2, r2, w2, nn2, _⟩ := C16_insertVertices_total_partial (m := m1) (e := next)
    (nds := List.range' (next + 2) (2 * e.inter.length)) (ts := e.inter.map fun _ => (1 / 2 : Rat)) B.wf
    (by rw [as1]; exact h0) (inUse_congr B.n B.u id0) (by rw [B.s2]; exact he.1) (by rw [b2n]; omega)
    (by rw [b2n, B.s4]; exact n1) (by rw [List.length_range', List.length_map])
    (fun x hx => by
      have := List.mem_range'_1.1 hx
      exact ⟨inUse_congr B.n B.u (I.inUse (by omega) (by omega)), B.free x (by omega) (by omega)⟩)
    List.nodup_range'
    (fun t ht => by
      obtain ⟨_, _, rfl⟩ := List.mem_map.1 ht
      exact ⟨by norm_num, by norm_num⟩)
    (by rw [hvid, c1.2]; rfl) (by rw [B.s2, c2.2]; rfl)
  have as2 := asize_of_run r2
  obtain ⟨m3, r3, _⟩ := replaceInter_total ha i e.inter (m2.β 1 next) m2 w2 (by rw [as2, as1]; exact h0)
    (by intro h; rw [as2, as1]; exact hva h) (w2.range 1 (by decide) next (by rw [nn2, B.n]; exact id0.2.1))
  rw [nn2, B.n] at r3
  exact ⟨m3, Or.inr ⟨hemp, m2, r2, r3⟩⟩

/-! ## the whole step 5 -/

/-- what an edge needs at its turn: the decidable condition of `build_base_edge`, and a value at its two end points -/
def EdgeOK (m : Map Val) (e : MEdge) : Prop :=
  Ready m e ∧ (∃ P, Carries m (m.β 1 e.start) P) ∧ ∃ P, Carries m e.stop P

/-- the later edge `e'` does not start at a dart whose successor the earlier edge `e` redirects, nor end at a dart whose
    predecessor it redirects -/
def Indep (m : Map Val) (e e' : MEdge) : Prop :=
  e'.start ≠ e.start ∧ e'.start ≠ m.β 0 e.stop ∧ e'.stop ≠ e.stop ∧ e'.stop ≠ m.β 1 e.start

instance (m : Map Val) (e e' : MEdge) : Decidable (Indep m e e') := by unfold Indep; infer_instance

theorem insertEdgesFrom_total (ha : Bool) (edges : List MEdge) (m : Map Val) (next i : Nat) (I : EInv m next)
    (hA : sBd < m.a.size) (hva : ha = true → sVA < m.a.size) (hall : ∀ e, e ∈ edges → EdgeOK m e)
    (hpw : edges.Pairwise (Indep m)) (hroom : next + (edges.map fun e => 2 + 2 * e.inter.length).sum ≤ m.n) :
    ∃ m', run (insertEdgesFrom m.n ha i (edges.zip (edgeSlices next edges))) m = (.ok (), m') := by
  refine insertEdgesFrom_total_of ha (fun m _ es => sBd < m.a.size ∧ (ha = true → sVA < m.a.size) ∧
    (∀ e, e ∈ es → EdgeOK m e) ∧ es.Pairwise (Indep m)) ?_ edges m next i I ⟨hA, hva, hall, hpw⟩ hroom
  intro m next i e es I hroom ⟨hA, hva, hall, hpw⟩
  obtain ⟨R, c1, c2⟩ := hall e List.mem_cons_self
  refine ⟨R.1, R.2.1, insertOneEdge_total I hA R hroom (fun _ => ⟨hva, c1, c2⟩), fun m1 r1 => ?_⟩
  obtain ⟨_, nn1, uu1⟩ := C16_insertOneEdge_inv I R.1 R.2.1 hroom r1
  obtain ⟨F1, F1', F0, F0'⟩ := insertOneEdge_frames I R.1 R.2.1 hroom r1
  have hwf := I.wf
  obtain ⟨hind, hpw'⟩ := List.pairwise_cons.1 hpw
  -- what the later edges read is untouched
  have keep : ∀ e', e' ∈ es → e'.start < next ∧ e'.stop < next ∧ m1.β 1 e'.start = m.β 1 e'.start ∧
      m1.β 0 e'.stop = m.β 0 e'.stop ∧ m.β 1 e'.start < next := by
    intro e' he'
    obtain ⟨⟨hs', hst', n1', n0', _⟩, _, _⟩ := hall e' (List.mem_cons_of_mem _ he')
    obtain ⟨i1, i2, i3, i4⟩ := hind e' he'
    have a := I.lt_of_image hs'.2.1 (by decide : 1 < 3) n1'
    have b := I.lt_of_image hst'.2.1 (by decide : 0 < 3) n0'
    have c : m.β 1 e'.start < next := I.lt_of_image (hwf.range 1 (by decide) _ hs'.2.1) (by decide : 0 < 3)
      (by rw [hwf.inv01 _ hs'.2.1 n1']; exact hs'.1)
    exact ⟨a, b, F1 _ a i1 i2, F0 _ b i3 i4, c⟩
  refine ⟨by rw [asize_of_run r1]; exact hA, fun h => by rw [asize_of_run r1]; exact hva h, ?_, ?_⟩
  · intro e' he'
    obtain ⟨R', ⟨P1, hP1⟩, ⟨P2, hP2⟩⟩ := hall e' (List.mem_cons_of_mem _ he')
    obtain ⟨a, b, k1, k0, c⟩ := keep e' he'
    refine ⟨ready_step I R' nn1 uu1 F1' F0', ⟨P1, ?_⟩, ⟨P2, ?_⟩⟩
    · rw [k1]
      exact carriesS_insertOneEdge I R.1 R.2.1 hroom r1 (by decide) c hP1
    · exact carriesS_insertOneEdge I R.1 R.2.1 hroom r1 (by decide) b hP2
  · refine List.Pairwise.imp_of_mem ?_ hpw'
    intro a b ha' _ hab
    obtain ⟨_, _, k1, k0, _⟩ := keep a ha'
    unfold Indep at hab ⊢
    rw [k1, k0]
    exact hab

/-- **C16, step 5 — a sufficient condition for success, edges with any number of intermediate points** (partial: for edges
    that are pairwise independent, `Indep`).  On a well-formed map that has the storages step 5 writes and carries no tag,
    `insert_edges_in_map` succeeds as soon as, IN THE MAP BEFORE THE STEP, every edge is `Ready` (decidable: its darts in use,
    a successor, a predecessor, not consecutive — no consecutive-darts panic), its two end points carry a coordinate (no
    `UndefinedEdge` from `insert_vertices_on_edge`), and no later edge starts / ends at a dart an earlier edge redirects.
    Inside: forward totality of `build_base_edge`, of `insert_vertices_on_edge` (`C16_insertVertices_total_partial`), of the
    placeholder replacement and of the walk of `mark_boundary`; the conditions are transported along the loop. -/
theorem C16_stepFive_total_indep_partial {m : Map Val} {ha : Bool} {edges : List MEdge} (hwf : WF 3 m)
    (hnotag : ∀ d, m.att sBd d = none) (hA : sBd < m.a.size) (hva : ha = true → sVA < m.a.size)
    (hok : ∀ e, e ∈ edges → EdgeOK m e) (hind : edges.Pairwise (Indep m)) :
    ∃ m', stepFive m ha edges = (.ok (), m') := by
  unfold stepFive
  simp only
  have hfst : ∀ k, (m.addFreeDarts k).1 = m.n := fun _ => rfl
  have hsz : ∀ k, (m.addFreeDarts k).2.a.size = m.a.size := fun _ => by simp only [Map.addFreeDarts, Array.size_map]
  rw [hfst]
  refine insertEdgesFrom_total ha edges _ m.n 0 (EInv.init hwf hnotag _) (by rw [hsz]; exact hA)
    (by intro h; rw [hsz]; exact hva h) ?_ ?_ (Nat.le_refl _)
  · intro e he
    obtain ⟨⟨a, b, c1, c0, cc⟩, ⟨P1, hP1⟩, ⟨P2, hP2⟩⟩ := hok e he
    have e1 := addFreeDarts_β_lt hwf ((edges.map fun e => 2 + 2 * e.inter.length).sum) (show 1 < 3 by decide) a.2.1
    refine ⟨⟨inUse_addFreeDarts hwf _ a, inUse_addFreeDarts hwf _ b, ?_, ?_, ?_⟩,
      ⟨P1, ?_⟩, ⟨P2, carries_addFreeDarts hwf _ hP2⟩⟩
    · rw [e1]; exact c1
    · rw [addFreeDarts_β_lt hwf _ (by decide) b.2.1]; exact c0
    · rw [e1]; exact cc
    · rw [e1]; exact carries_addFreeDarts hwf _ hP1
  · refine List.Pairwise.imp_of_mem ?_ hind
    intro a b ha' _ hab
    obtain ⟨⟨ia, ib, _⟩, _⟩ := hok a ha'
    unfold Indep at hab ⊢
    rw [addFreeDarts_β_lt hwf _ (by decide) ib.2.1, addFreeDarts_β_lt hwf _ (by decide) ia.2.1]; exact hab

/-- the edge of `C16EdgeInsert` (one point of interest, across the cell `exCell`): the hypotheses hold -/
example : ∃ m', stepFive exCell true [exEdge] = (.ok (), m') :=
  C16_stepFive_total_indep_partial exCell_wf exCell_notag (by decide +kernel) (fun _ => by decide +kernel)
    (by
      intro e he
      simp only [List.mem_cons, List.not_mem_nil, or_false] at he
      subst he
      refine ⟨by decide +kernel, ⟨.pt 1 0 0, by decide +kernel, ?_⟩, ⟨.pt 1 1 0, by decide +kernel, ?_⟩⟩
      · have h : C03.cellId exCell .vertex (exCell.β 1 exEdge.start) = 2 := by decide +kernel
        rw [h]; decide +kernel
      · have h : C03.cellId exCell .vertex exEdge.stop = 3 := by decide +kernel
        rw [h]; decide +kernel)
    (List.pairwise_singleton _ _)

end HC.C16

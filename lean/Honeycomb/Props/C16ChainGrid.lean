/-
  C16 / C17 — the chain on the grid of the model's builder: `SideCoords` and `HitDartsOK` are THEOREMS there.

  `gridMap10 g ny` = `build_2d_grid(origin, [nx, ny], [cx, cy])` (`Model/Grid.lean: buildGrid2`, the model of C12) with the ten
  storages of the session (`Boundary` = storage 9, anchors 6-8).

  * `crossing_cell`                     in general position, with both ends of the segment inside the grid with a margin of one
                                        cell (`FitsGrid`, the strict form of what `C16_grid_margins` gives for the kernel's grid), the dart of a
                                        crossing is the side `k` of an interior cell `(ix, iy)` (`C16_crossings_sound` + convexity)
  * `C16_sideCoords_gridMap10`          `SideCoords` from C12's vertex positions (`grid2_att` / `C12_grid2_corners`), `grid2_β1`
  * `C16_hitDartsOK_gridMap10`          `HitDartsOK` from `C12_grid2_beta2` (interior sides are 2-linked)
  * `C16_crossings_are_vertices_on_grid`, `C16_poi_are_vertices_on_grid`, `C17_poi_are_node_vertices_on_grid`
                                        the chain theorems with NO hypothesis about the map: geometry in eps-general position and
                                        inside the grid with one cell of margin, the two `HashMap` hypotheses (`KeysAreHitEdges`,
                                        keys of step 4 are intersections), success of the run, `OnChain` for points of interest
  `exD_gen`, `exD_fit`, `exD_keys` instantiate the hypotheses on a 5 × 3 grid; the example that uses them is in
  `Props/C16Step5Pipe.lean`.
-/
import Honeycomb.Props.C12
import Honeycomb.Props.C16Chain


namespace HC.C16
open HC

/-! ## more storages -/

theorem withStorages_b (m : Map Val) (k : Nat) : (m.withStorages k).b = m.b := rfl
theorem withStorages_n (m : Map Val) (k : Nat) : (m.withStorages k).n = m.n := rfl
theorem withStorages_u (m : Map Val) (k : Nat) : (m.withStorages k).u = m.u := rfl
theorem withStorages_β (m : Map Val) (k : Nat) : (m.withStorages k).β = m.β := rfl

theorem withStorages_asize (m : Map Val) (k : Nat) : (m.withStorages k).a.size = m.a.size + (k - m.a.size) := by
  unfold Map.withStorages; simp

theorem withStorages_rd_lt (m : Map Val) (k : Nat) {s : Nat} (h : s < m.a.size) :
    rd (m.withStorages k).a s = rd m.a s := by
  unfold Map.withStorages rd
  simp [Array.getD_eq_getD_getElem?, Array.getElem?_append, h]

theorem withStorages_rd_ge (m : Map Val) (k : Nat) {s : Nat} (h1 : m.a.size ≤ s) (h2 : s < k) :
    rd (m.withStorages k).a s = Array.replicate (m.n + 1) none := by
  unfold Map.withStorages rd
  have h3 : ¬ s < m.a.size := by omega
  have h4 : s - m.a.size < k - m.a.size := by omega
  simp [Array.getD_eq_getD_getElem?, Array.getElem?_append, h3, h4]

theorem withStorages_att_lt (m : Map Val) (k : Nat) {s : Nat} (h : s < m.a.size) (d : Nat) :
    (m.withStorages k).att s d = m.att s d := by
  unfold Map.att; rw [withStorages_rd_lt m k h]

theorem withStorages_att_ge (m : Map Val) (k : Nat) {s : Nat} (h1 : m.a.size ≤ s) (d : Nat) :
    (m.withStorages k).att s d = none := by
  unfold Map.att
  by_cases h2 : s < k
  · rw [withStorages_rd_ge m k h1 h2]
    by_cases hd : d < m.n + 1
    · exact rd_replicate _ _ _ hd
    · rw [rd_oob]; rfl; simp; omega
  · rw [rd_oob (a := (m.withStorages k).a) (i := s) (by rw [withStorages_asize]; omega)]
    rw [rd_oob]; rfl; exact Nat.zero_le _

theorem withStorages_wf {m : Map Val} (h : WF 3 m) (k : Nat) : WF 3 (m.withStorages k) := by
  have hs := h.toSized
  refine ⟨⟨hs.npos, hs.rows, hs.row, hs.usz, ?_⟩, ⟨h.null, h.range, h.inv01, h.inv10, h.invol, h.unusedFree⟩⟩
  intro s hsz
  by_cases h1 : s < m.a.size
  · rw [withStorages_rd_lt m k h1]; exact hs.asz s h1
  · rw [withStorages_asize] at hsz
    rw [withStorages_rd_ge m k (Nat.le_of_not_lt h1) (by omega)]
    simp
    exact Nat.le_succ _

/-! ## the grid of the builder, with the ten storages of the session -/

/-- `build_2d_grid(origin, [nx, ny], [cx, cy])` with the storages of the session (`Boundary` is storage 9) -/
def gridMap10 (g : GGrid) (ny : Nat) : Map Val := (buildGrid2 g.ox g.oy g.nx ny g.cx g.cy).withStorages 10

theorem buildGrid2_asize (ox oy lx ly : Rat) (nx ny : Nat) : (buildGrid2 ox oy nx ny lx ly).a.size = 6 := by
  rw [(sameTopo_grid2 ox oy nx ny lx ly).asz]
  simp [gridMap, Map.empty]

theorem gridMap10_wf (g : GGrid) {ny : Nat} (hnx : 0 < g.nx) (hny : 0 < ny) : WF 3 (gridMap10 g ny) :=
  withStorages_wf (C12.C12_grid2_WF g.ox g.oy g.cx g.cy hnx hny) 10

theorem gridMap10_notag (g : GGrid) (ny : Nat) : ∀ d, (gridMap10 g ny).att sBd d = none := by
  intro d
  exact withStorages_att_ge _ 10 (by rw [buildGrid2_asize]; decide) d

theorem inUse_withStorages {m : Map Val} (k : Nat) {d : Nat} (h : C01.InUse m d) : C01.InUse (m.withStorages k) d := h

theorem carries_withStorages {m : Map Val} (k : Nat) {d : Nat} {P : Val} (h0 : 0 < m.a.size) (h : Carries m d P) :
    Carries (m.withStorages k) d P := by
  refine ⟨h.1, ?_⟩
  rw [cellId_congr_b (withStorages_b m k) (withStorages_n m k), withStorages_att_lt m k h0]
  exact h.2

/-- the side `k` of cell `(ix, iy)` in the map `build_2d_grid` returns: in use, followed by side `k + 1`, starting at the
    corner `k` of the cell -/
theorem buildGrid2_dart (ox oy lx ly : Rat) {nx ny ix iy k : Nat} (hnx : 0 < nx) (hny : 0 < ny) (hx : ix < nx) (hy : iy < ny)
    (hk : k < 4) :
    C01.InUse (buildGrid2 ox oy nx ny lx ly) (dartOf 4 nx ny ix iy 0 k) ∧
    Carries (buildGrid2 ox oy nx ny lx ly) (dartOf 4 nx ny ix iy 0 k)
      (.pt (ox + ((ix + GridVertex.cdx k : Nat) : Rat) * lx) (oy + ((iy + GridVertex.cdy k : Nat) : Rat) * ly) 0) := by
  have st := sameTopo_grid2 ox oy nx ny lx ly
  have wB := C12.C12_grid2_WF ox oy lx ly hnx hny
  have hsq : Gen.squareK = 4 := rfl
  have hn : (buildGrid2 ox oy nx ny lx ly).n = 4 * (nx * ny * 1) + 1 := by
    rw [st.n, gridMap_n, hsq]; ring
  have hle := dartOf_le (K := 4) (nz := 1) hx hy (Nat.lt_succ_self 0) hk
  have hpos := dartOf_pos (K := 4) (nx := nx) (ny := ny) (ix := ix) (iy := iy) (iz := 0) (o := k)
  have iuB : C01.InUse (buildGrid2 ox oy nx ny lx ly) (dartOf 4 nx ny ix iy 0 k) :=
    ⟨by omega, by rw [hn]; omega, gridMap_unused_of st _⟩
  refine ⟨iuB, iuB, ?_⟩
  rw [← GridLattice.vid2_eq wB iuB.1 iuB.2.1]
  have hd : GridVertex.IsDart nx ny (GridVertex.D nx ny ix iy k) := ⟨ix, iy, k, hx, hy, hk, rfl⟩
  have := GridVertex.grid2_att ox oy lx ly hnx hny hd
  rw [GridVertex.pt_D hx hk] at this
  exact this

/-! ## where a crossing lies -/

/-- the point lies STRICTLY inside the grid with one full cell of margin on every side (`C16_grid_margins` gives the
    non-strict form for the grid the kernel chooses) -/
def FitsGrid (g : GGrid) (ny : Nat) (p : Pt) : Prop :=
  g.ox + g.cx < p.1 ∧ p.1 < g.ox + ((g.nx : Rat) - 1) * g.cx ∧ g.oy + g.cy < p.2 ∧ p.2 < g.oy + ((ny : Rat) - 1) * g.cy

theorem lerp_between {a b s lo hi : Rat} (s0 : 0 < s) (s1 : s < 1) (ha : lo < a ∧ a < hi) (hb : lo < b ∧ b < hi) :
    lo < a + s * (b - a) ∧ a + s * (b - a) < hi := by
  have t0 : 0 < 1 - s := sub_pos.2 s1
  have e : a + s * (b - a) = (1 - s) * a + s * b := by ring
  rw [e]
  constructor
  · calc lo = (1 - s) * lo + s * lo := by ring
      _ < (1 - s) * a + s * b := add_lt_add (mul_lt_mul_of_pos_left ha.1 t0) (mul_lt_mul_of_pos_left hb.1 s0)
  · calc (1 - s) * a + s * b < (1 - s) * hi + s * hi :=
          add_lt_add (mul_lt_mul_of_pos_left ha.2 t0) (mul_lt_mul_of_pos_left hb.2 s0)
      _ = hi := by ring

theorem segPoint_between {a b : Pt} {s lo hi : Rat} (s0 : 0 < s) (s1 : s < 1) (ha : lo < a.1 ∧ a.1 < hi) (hb : lo < b.1 ∧ b.1 < hi) :
    lo < (segPoint a b s).1 ∧ (segPoint a b s).1 < hi :=
  lerp_between s0 s1 ha hb

theorem segPoint_between2 {a b : Pt} {s lo hi : Rat} (s0 : 0 < s) (s1 : s < 1) (ha : lo < a.2 ∧ a.2 < hi) (hb : lo < b.2 ∧ b.2 < hi) :
    lo < (segPoint a b s).2 ∧ (segPoint a b s).2 < hi :=
  lerp_between s0 s1 ha hb

theorem int_bounds {x : Int} {n : Nat} {e c o : Rat} (hc : 0 < c) (he0 : 0 ≤ e) (he1 : e ≤ 1)
    (h1 : o + c < o + ((x : Rat) + e) * c) (h2 : o + ((x : Rat) + e) * c < o + ((n : Rat) - 1) * c) :
    1 ≤ x ∧ x + 1 < (n : Int) := by
  have a1 : (1 : Rat) < (x : Rat) + e := by
    by_contra hh; push Not at hh; nlinarith
  have a2 : (x : Rat) + e < (n : Rat) - 1 := by
    by_contra hh; push Not at hh; nlinarith
  have b1 : (0 : Rat) < (x : Rat) := by linarith
  have b2 : (x : Rat) + 1 < (n : Rat) := by linarith
  have c1 : (0 : Int) < x := by exact_mod_cast b1
  have c2 : x + 1 < (n : Int) := by exact_mod_cast b2
  exact ⟨by omega, c2⟩

/-- **the crossing lies on an interior side of a cell of the grid**: in general position, with both ends of the segment
    inside the grid with a margin of one cell, the dart of a reported crossing is the side `k` of a cell `(ix, iy)` that is
    neither in the first nor in the last row / column, and the crossing point is the point at position `t` of that side -/
theorem crossing_cell {g : GGrid} {eps : Rat} {a b : Pt} {ny : Nat} (H : GenPos g eps a b) (fa : FitsGrid g ny a)
    (fb : FitsGrid g ny b) {c : Cross} (hc : c ∈ crossingsOf g eps a b) :
    ∃ ix iy k, 1 ≤ ix ∧ ix + 1 < g.nx ∧ 1 ≤ iy ∧ iy + 1 < ny ∧ k < 4 ∧ c.dart = dartOf 4 g.nx ny ix iy 0 k ∧
      segPoint a b c.s = sidePoint g (ix : Int) (iy : Int) k c.t ∧ 0 < c.t ∧ c.t < 1 := by
  obtain ⟨s0, s1, t0, t1, x, y, k, hk, hd, hp⟩ := C16_crossings_sound H hc
  have Px := segPoint_between s0 s1 ⟨fa.1, fa.2.1⟩ ⟨fb.1, fb.2.1⟩
  have Py := segPoint_between2 s0 s1 ⟨fa.2.2.1, fa.2.2.2⟩ ⟨fb.2.2.1, fb.2.2.2⟩
  rw [hp] at Px Py
  have hcx := H.cx
  have hcy := H.cy
  have key : (1 ≤ x ∧ x + 1 < (g.nx : Int)) ∧ (1 ≤ y ∧ y + 1 < (ny : Int)) := by
    rcases (by omega : k = 0 ∨ k = 1 ∨ k = 2 ∨ k = 3) with rfl | rfl | rfl | rfl
    · simp only [sidePoint, cornerOf] at Px Py
      exact ⟨int_bounds (e := c.t) hcx (le_of_lt t0) (le_of_lt t1) (by linarith [Px.1]) (by linarith [Px.2]),
        int_bounds (e := 0) hcy (le_refl _) (by norm_num) (by linarith [Py.1]) (by linarith [Py.2])⟩
    · simp only [sidePoint, cornerOf] at Px Py
      exact ⟨int_bounds (e := 1) hcx (by norm_num) (le_refl _) (by linarith [Px.1]) (by linarith [Px.2]),
        int_bounds (e := c.t) hcy (le_of_lt t0) (le_of_lt t1) (by linarith [Py.1]) (by linarith [Py.2])⟩
    · simp only [sidePoint, cornerOf] at Px Py
      exact ⟨int_bounds (e := 1 - c.t) hcx (by linarith) (by linarith) (by linarith [Px.1]) (by linarith [Px.2]),
        int_bounds (e := 1) hcy (by norm_num) (le_refl _) (by linarith [Py.1]) (by linarith [Py.2])⟩
    · simp only [sidePoint, cornerOf] at Px Py
      exact ⟨int_bounds (e := 0) hcx (le_refl _) (by norm_num) (by linarith [Px.1]) (by linarith [Px.2]),
        int_bounds (e := 1 - c.t) hcy (by linarith) (by linarith) (by linarith [Py.1]) (by linarith [Py.2])⟩
  obtain ⟨⟨x1, x2⟩, ⟨y1, y2⟩⟩ := key
  have ex : ((x.toNat : Nat) : Int) = x := Int.toNat_of_nonneg (by omega)
  have ey : ((y.toNat : Nat) : Int) = y := Int.toNat_of_nonneg (by omega)
  refine ⟨x.toNat, y.toNat, k, by omega, by omega, by omega, by omega, hk, ?_, by rw [ex, ey]; exact hp, t0, t1⟩
  rw [hd]
  unfold dBase dartOf cellIdx
  have : (1 + 4 * x + (g.nx : Int) * 4 * y + (k : Int)) =
      ((1 + 4 * (x.toNat + g.nx * (y.toNat + ny * 0)) + k : Nat) : Int) := by
    push_cast; rw [ex, ey]; ring
  rw [this, Int.toNat_natCast]

/-! ## `SideCoords` and `HitDartsOK` hold on the grid of the builder -/

theorem gridMap10_β (g : GGrid) (ny i d : Nat) :
    (gridMap10 g ny).β i d = (buildGrid2 g.ox g.oy g.nx ny g.cx g.cy).β i d := by
  rw [gridMap10, withStorages_β]

/-- both ends of every segment lie inside the grid with a margin of one cell -/
def FitsAll (g : GGrid) (ny : Nat) (verts : List Pt) (segs : List (Nat × Nat)) : Prop :=
  ∀ seg, seg ∈ segs → FitsGrid g ny (verts.getD seg.1 (0, 0)) ∧ FitsGrid g ny (verts.getD seg.2 (0, 0))

/-- **`SideCoords` is a theorem on the grid of the builder** (C12's corner coordinates + `C16_crossings_sound`) -/
theorem C16_sideCoords_gridMap10 {g : GGrid} {eps : Rat} {verts : List Pt} {segs : List (Nat × Nat)} {ny : Nat}
    (hgen : ∀ seg, seg ∈ segs → GenPos g eps (verts.getD seg.1 (0, 0)) (verts.getD seg.2 (0, 0)))
    (hfit : FitsAll g ny verts segs) : SideCoords (gridMap10 g ny) g eps verts segs := by
  intro seg hseg c hc
  obtain ⟨ix, iy, k, x1, x2, y1, y2, hk, hd, hp, t0, t1⟩ := crossing_cell (hgen seg hseg) (hfit seg hseg).1 (hfit seg hseg).2 hc
  have hnx : 0 < g.nx := by omega
  have hny : 0 < ny := by omega
  have hx : ix < g.nx := by omega
  have hy : iy < ny := by omega
  obtain ⟨iu, c1⟩ := buildGrid2_dart g.ox g.oy g.cx g.cy hnx hny hx hy hk
  obtain ⟨iu2, c2⟩ := buildGrid2_dart g.ox g.oy g.cx g.cy hnx hny hx hy (Nat.mod_lt (k + 1) (by decide : 0 < 4))
  have hb1 : (gridMap10 g ny).β 1 c.dart = dartOf 4 g.nx ny ix iy 0 ((k + 1) % 4) := by
    rw [hd, gridMap10_β]; exact C12.grid2_β1 g.ox g.oy g.cx g.cy hx hy hk
  have h6 : 0 < (buildGrid2 g.ox g.oy g.nx ny g.cx g.cy).a.size := by rw [buildGrid2_asize]; decide
  refine ⟨by rw [hd]; exact inUse_withStorages 10 iu, by rw [hb1]; have := dartOf_pos (K := 4) (nx := g.nx) (ny := ny) (ix := ix) (iy := iy) (iz := 0) (o := (k + 1) % 4); omega,
    _, _, by rw [hd]; exact carries_withStorages 10 h6 c1, by rw [hb1]; exact carries_withStorages 10 h6 c2, ?_⟩
  rw [hp]
  rcases (by omega : k = 0 ∨ k = 1 ∨ k = 2 ∨ k = 3) with rfl | rfl | rfl | rfl <;>
    simp [placeVal, P2.place, P2.lerp, P2.toVal, Val.p2, sidePoint, cornerOf, GridVertex.cdx, GridVertex.cdy] <;>
    ring

/-- **`HitDartsOK` is a theorem on the grid of the builder**: the darts the slots name are in use, have a successor, are
    2-linked (interior sides: `C12_grid2_beta2`) and their opposite darts have a successor -/
theorem C16_hitDartsOK_gridMap10 {g : GGrid} {eps : Rat} {verts : List Pt} {segs : List (Nat × Nat)} {ny : Nat}
    (hgen : ∀ seg, seg ∈ segs → GenPos g eps (verts.getD seg.1 (0, 0)) (verts.getD seg.2 (0, 0)))
    (hfit : FitsAll g ny verts segs) : HitDartsOK (gridMap10 g ny) (slotsAll g eps verts segs) := by
  intro K d t hK
  have hmem := List.mem_of_getElem? hK
  unfold slotsAll at hmem
  obtain ⟨seg, hseg, hsl⟩ := List.mem_flatMap.1 hmem
  rw [C16_slots_genpos (hgen seg hseg)] at hsl
  obtain ⟨c, hcm, hce⟩ := List.mem_map.1 hsl
  have hc := ((C16_metadata_same_intersections g eps _ _).1 c).1 hcm
  injection hce with hce
  injection hce with hd' _
  obtain ⟨ix, iy, k, x1, x2, y1, y2, hk, hd, _⟩ := crossing_cell (hgen seg hseg) (hfit seg hseg).1 (hfit seg hseg).2 hc
  have hnx : 0 < g.nx := by omega
  have hny : 0 < ny := by omega
  have hx : ix < g.nx := by omega
  have hy : iy < ny := by omega
  obtain ⟨iu, _⟩ := buildGrid2_dart g.ox g.oy g.cx g.cy hnx hny hx hy hk
  rw [← hd', hd]
  have pos : ∀ a b o, dartOf 4 g.nx ny a b 0 o ≠ 0 := fun a b o => by
    have := dartOf_pos (K := 4) (nx := g.nx) (ny := ny) (ix := a) (iy := b) (iz := 0) (o := o); omega
  obtain ⟨q0, q1, q2, q3⟩ := C12.C12_grid2_beta2 g.ox g.oy g.cx g.cy (nx := g.nx) (ny := ny) hx hy
  simp only at q0 q1 q2 q3
  refine ⟨inUse_withStorages 10 iu, by rw [gridMap10_β, C12.grid2_β1 g.ox g.oy g.cx g.cy hx hy hk]; exact pos _ _ _, ?_⟩
  rcases (by omega : k = 0 ∨ k = 1 ∨ k = 2 ∨ k = 3) with rfl | rfl | rfl | rfl
  · rw [gridMap10_β, gridMap10_β, q0, if_neg (by omega)]
    exact ⟨pos _ _ _, by rw [C12.grid2_β1 g.ox g.oy g.cx g.cy hx (by omega) (by decide)]; exact pos _ _ _⟩
  · rw [gridMap10_β, gridMap10_β, q1, if_neg (by omega)]
    exact ⟨pos _ _ _, by rw [C12.grid2_β1 g.ox g.oy g.cx g.cy (by omega) hy (by decide)]; exact pos _ _ _⟩
  · rw [gridMap10_β, gridMap10_β, q2, if_neg (by omega)]
    exact ⟨pos _ _ _, by rw [C12.grid2_β1 g.ox g.oy g.cx g.cy hx (by omega) (by decide)]; exact pos _ _ _⟩
  · rw [gridMap10_β, gridMap10_β, q3, if_neg (by omega)]
    exact ⟨pos _ _ _, by rw [C12.grid2_β1 g.ox g.oy g.cx g.cy (by omega) hy (by decide)]; exact pos _ _ _⟩

/-! ## the chain on the grid of the builder: no hypothesis about the map -/

/-- **C16 — every crossing is a vertex, on the grid of the model's builder**: for the grid `build_2d_grid` returns (with the
    storages of the session), every geometry whose segments are in eps-general position and lie inside the grid with a margin
    of one cell (what `C16_grid_margins` gives for the grid the kernel chooses), every iteration order of the two `HashMap`s
    (each key once, the keys of step 2 the edges hit, those of step 4 intersections): if the run succeeds, every crossing of
    every segment with a grid line is a vertex of the result at the crossing point.  No coordinate / dart hypothesis is left:
    `SideCoords` and `HitDartsOK` come from C12's builder theorems and `C16_crossings_sound`. -/
theorem C16_crossings_are_vertices_on_grid {g : GGrid} {ny : Nat} {eps : Rat} {poi : List Nat} {verts : List Pt}
    {segs : List (Nat × Nat)} {ha : Bool} {keys2 : List Nat} {keys4 : List GV} {m' : Map Val} (hnx : 0 < g.nx) (hny : 0 < ny)
    (hgen : ∀ seg, seg ∈ segs → GenPos g eps (verts.getD seg.1 (0, 0)) (verts.getD seg.2 (0, 0)))
    (hfit : FitsAll g ny verts segs)
    (hk2 : KeysAreHitEdges ((gridMap10 g ny).β 2) (slotsAll g eps verts segs) keys2)
    (hk4 : ∀ k, k ∈ keys4 → k.isCross = true)
    (hrun : pipelineMap (gridMap10 g ny) g eps poi verts segs ha keys2 keys4 = some m') :
    ∀ seg, seg ∈ segs → ∀ s, IsCrossing g (verts.getD seg.1 (0, 0)) (verts.getD seg.2 (0, 0)) s →
      ∃ x, Carries m' x (.pt (segPoint (verts.getD seg.1 (0, 0)) (verts.getD seg.2 (0, 0)) s).1
                             (segPoint (verts.getD seg.1 (0, 0)) (verts.getD seg.2 (0, 0)) s).2 0) :=
  C16_crossings_are_vertices (gridMap10_wf g hnx hny) (gridMap10_notag g ny) hgen (C16_sideCoords_gridMap10 hgen hfit)
    (C16_hitDartsOK_gridMap10 hgen hfit) hk2 hk4 hrun

/-- **C16 / C17 — every point of interest on a chain between two crossings is a vertex, on the grid of the builder** -/
theorem C16_poi_are_vertices_on_grid {g : GGrid} {ny : Nat} {eps : Rat} {poi : List Nat} {verts : List Pt}
    {segs : List (Nat × Nat)} {ha : Bool} {keys2 : List Nat} {keys4 : List GV} {m' : Map Val} (hnx : 0 < g.nx) (hny : 0 < ny)
    (hgen : ∀ seg, seg ∈ segs → GenPos g eps (verts.getD seg.1 (0, 0)) (verts.getD seg.2 (0, 0)))
    (hfit : FitsAll g ny verts segs)
    (hk2 : KeysAreHitEdges ((gridMap10 g ny).β 2) (slotsAll g eps verts segs) keys2)
    (hk4 : ∀ k, k ∈ keys4 → k.isCross = true)
    (hrun : pipelineMap (gridMap10 g ny) g eps poi verts segs ha keys2 keys4 = some m')
    {v : Nat} (hv : OnChain (segmentsOf g eps poi verts segs) keys4 v) :
    ∃ x j, Carries m' x (.pt (verts.getD v (0, 0)).1 (verts.getD v (0, 0)).2 0) ∧
      (ha = true → CarriesS m' sVA x (.tm (.leaf (4 * j)))) :=
  C16_poi_are_vertices (gridMap10_wf g hnx hny) (gridMap10_notag g ny) hgen (C16_hitDartsOK_gridMap10 hgen hfit) hk2 hk4 hrun hv

/-- **C17 — capture on the grid of the builder: each retained point of interest is a vertex anchored to a node** -/
theorem C17_poi_are_node_vertices_on_grid {g : GGrid} {ny : Nat} {eps : Rat} {poi : List Nat} {verts : List Pt}
    {segs : List (Nat × Nat)} {keys2 : List Nat} {keys4 : List GV} {m' : Map Val} (hnx : 0 < g.nx) (hny : 0 < ny)
    (hgen : ∀ seg, seg ∈ segs → GenPos g eps (verts.getD seg.1 (0, 0)) (verts.getD seg.2 (0, 0)))
    (hfit : FitsAll g ny verts segs)
    (hk2 : KeysAreHitEdges ((gridMap10 g ny).β 2) (slotsAll g eps verts segs) keys2)
    (hk4 : ∀ k, k ∈ keys4 → k.isCross = true)
    (hrun : pipelineMap (gridMap10 g ny) g eps poi verts segs true keys2 keys4 = some m')
    {v : Nat} (hv : OnChain (segmentsOf g eps poi verts segs) keys4 v) :
    ∃ x j, C01.InUse m' x ∧
      m'.att 0 (C03.cellId m' .vertex x) = some (.pt (verts.getD v (0, 0)).1 (verts.getD v (0, 0)).2 0) ∧
      m'.att sVA (C03.cellId m' .vertex x) = some (.tm (.leaf (4 * j))) :=
  C17_poi_are_node_vertices (gridMap10_wf g hnx hny) (gridMap10_notag g ny) hgen (C16_hitDartsOK_gridMap10 hgen hfit) hk2 hk4
    hrun hv

/-! ## the hypotheses are satisfiable together -/

/-- a 5 × 3 grid of unit cells; the chain `a → b → c` of `C16Chain` moved by `(1, 1)`: inside the grid with a margin of one
    cell, both segments in general position, `b` a point of interest -/
def exG5 : GGrid := { ox := 0, oy := 0, cx := 1, cy := 1, nx := 5 }
def exVD : List Pt := [(5/4, 3/2), (11/4, 7/4), (15/4, 3/2)]
def exSD : List (Nat × Nat) := [(0, 1), (1, 2)]

theorem exGenPosD1 : GenPos exG5 (1 / 8) (5/4, 3/2) (11/4, 7/4) :=
  genPos_one_vertical 2 1 (by decide +kernel)

theorem exGenPosD2 : GenPos exG5 (1 / 8) (11/4, 7/4) (15/4, 3/2) :=
  genPos_one_vertical 3 1 (by decide +kernel)

theorem exD_gen : ∀ seg, seg ∈ exSD → GenPos exG5 (1/8) (exVD.getD seg.1 (0, 0)) (exVD.getD seg.2 (0, 0)) := by
  intro seg hseg
  have : seg = (0, 1) ∨ seg = (1, 2) := by simpa [exSD] using hseg
  rcases this with rfl | rfl
  · exact exGenPosD1
  · exact exGenPosD2

theorem exD_fit : FitsAll exG5 3 exVD exSD := by
  intro seg hseg
  have : seg = (0, 1) ∨ seg = (1, 2) := by simpa [exSD] using hseg
  rcases this with rfl | rfl <;> (constructor <;> (unfold FitsGrid; norm_num [exG5, exVD]))

theorem exD_hits : hitsOf ((gridMap10 exG5 3).β 2) (slotsAll exG5 (1/8) exVD exSD) =
    [(26, { idx := 0, t := 5/8, dart := 26 }), (30, { idx := 1, t := 11/16, dart := 30 })] := by decide +kernel

theorem exD_keys : KeysAreHitEdges ((gridMap10 exG5 3).β 2) (slotsAll exG5 (1/8) exVD exSD) [26, 30] := by
  refine ⟨by decide, fun e => ?_⟩
  rw [exD_hits]
  constructor
  · intro he
    have : e = 26 ∨ e = 30 := by simpa using he
    rcases this with rfl | rfl
    · exact ⟨{ idx := 0, t := 5/8, dart := 26 }, by simp⟩
    · exact ⟨{ idx := 1, t := 11/16, dart := 30 }, by simp⟩
  · rintro ⟨h, hh⟩
    simp only [List.mem_cons, Prod.mk.injEq, List.not_mem_nil, or_false] at hh
    rcases hh with ⟨rfl, _⟩ | ⟨rfl, _⟩ <;> simp

end HC.C16

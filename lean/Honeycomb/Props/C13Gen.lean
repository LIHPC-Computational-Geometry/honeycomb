/-
  C13 — the fan kernels of `honeycomb-kernels/src/triangulation/fan.rs` (`process_cell`, `process_convex_cell`) and the
  shared pre-check `check_requirements` with the variants of `TriangulateError` (`triangulation/mod.rs`), TRANSLATED from
  the source on every run (`Gen/Fan.lean`, written by tools/gen_lean.py, generator `fan`), interpreted in the model's
  transaction monad, are EQUAL as programs to the hand-written `checkRequirements`, `fanLoop`, `fanFrom`,
  `fanConvexCell`, `fanTest`, `fanCell` of Model/Kernels/Fan.lean, which the C13 theorems are proved about.

  Translated as data: the arms of both `match`es of `check_requirements` (patterns, range kinds, the error variant and
  its payload), the constants of the scrutinee, the variant NAMES of the enum, the message payloads; for both kernels
  the statements before / inside / after the `chunks_exact(2)` loop (β reads, `vertex_id_transac`, `read_vertex …
  .unwrap()`, `sew::<I>` / `unsew::<I>` with their arguments in order, `write_vertex`), the start and the update of the
  loop variable, the orbit policy.  Recognised as rigid shapes (the translator refuses anything else): the collecting
  loops, `if let Err(e) = check_requirements(n, new_darts.len()) { abort(e)?; }`, the `chunks_exact(2)` header with its
  `let [d1, d2] = sl else { unreachable!() }`, and the star search, of which the range start, the two vertex indices
  of a side, the argument order of `cross_product_from_vertices`, the comparison with the reference `signum` and the
  comparison with `T::epsilon()` are data (`Gen.Fan.starShape`).  The public `sew::<I>` / `unsew::<I>` are read as
  `one_sew` / `two_sew` / `one_unsew` / `two_unsew` (`fanSewCall`); that dispatch is itself translated and proved in
  Props/C15Gen.lean (`C15_gen_sew_dispatch`) and Props/C01GenApi.lean, the callees in Props/C01Gen2.lean.
-/
import Honeycomb.Gen.Fan
import Honeycomb.Model.Kernels.Fan
import Honeycomb.Props.C13

namespace HC.GenTie
open HC HC.C13

/-! ## `TriangulateError` and `check_requirements` -/

/-- `TriangulateError::<variant v>` with payload kind `pk` (see the header of Gen/Fan.lean) -/
def fanErrG (v pk : Nat) (diff : Int) (msg : String) : Err :=
  let name := Gen.Fan.errVariants.getD v ""
  match pk with
  | 0 => ⟨name, []⟩
  | 1 => ⟨name, [diff.natAbs]⟩
  | 2 => ⟨name, [diff.toNat]⟩
  | _ => ⟨name ++ " " ++ msg, []⟩

/-- an arm body: `none` = `{}` -/
def fanAct (diff : Int) : List Nat → Option Err
  | [v, pk, k] => some (fanErrG v pk diff (Gen.Fan.msgs.getD k ""))
  | _ => none

def fanFaceArms (nFace : Nat) : List (List Nat × List Nat) → Option Err
  | [] => none
  | (pats, act) :: rest => if nFace ∈ pats then fanAct 0 act else fanFaceArms nFace rest

/-- does `diff` match the pattern? -/
def fanPatHolds (diff : Int) : List Nat → Bool
  | [0, b] => decide (diff < (b : Int))
  | [1, b] => decide (diff = (b : Int))
  | [2, b] => decide ((b : Int) ≤ diff)
  | [3, b] => decide (diff ≤ (b : Int))
  | _ => false

def fanDiffArms (diff : Int) : List (List Nat × List Nat) → Option Err
  | [] => none
  | (pat, act) :: rest => if fanPatHolds diff pat then fanAct diff act else fanDiffArms diff rest

/-- the meaning of the translated `check_requirements` -/
def fanInterpCheck (nFace nAlloc : Nat) : Except Err Unit :=
  match fanFaceArms nFace Gen.Fan.faceArms with
  | some e => .error e
  | none =>
    match Gen.Fan.diffExpr with
    | [a, b] =>
      match fanDiffArms ((nAlloc : Int) - ((nFace : Int) - (a : Int)) * (b : Int)) Gen.Fan.diffArms with
      | some e => .error e
      | none => .ok ()
    | _ => .ok ()

/-- the error variants the kernels produce, by their translated names -/
theorem fanErrG_names (diff : Int) :
    fanErrG 0 0 diff "" = errAlreadyTriangulated ∧ fanErrG 2 0 diff "" = errNonFannable ∧
    fanErrG 3 1 diff "" = errNotEnoughDarts diff.natAbs ∧ fanErrG 4 2 diff "" = errTooManyDarts diff.toNat ∧
    fanErrG 5 3 diff "less-than-3-vertices" = errUndefinedFace "less-than-3-vertices" ∧
    fanErrG 5 3 diff "one-or-more-undefined-vertices" = errUndefinedFace "one-or-more-undefined-vertices" :=
  ⟨rfl, rfl, rfl, rfl, rfl, rfl⟩

/-- **tie of `check_requirements`** -/
theorem C13_gen_check_requirements (nFace nAlloc : Nat) :
    fanInterpCheck nFace nAlloc = checkRequirements nFace nAlloc := by
  unfold fanInterpCheck checkRequirements
  simp only [Gen.Fan.faceArms, Gen.Fan.diffExpr, Gen.Fan.diffArms, Gen.Fan.msgs, fanFaceArms, fanDiffArms, fanAct,
    fanPatHolds, List.mem_cons, List.not_mem_nil, or_false, List.getD_cons_zero, decide_eq_true_eq, Int.cast_ofNat_Int]
  by_cases h12 : nFace = 1 ∨ nFace = 2
  · rw [if_pos h12, if_pos h12]; rfl
  · rw [if_neg h12, if_neg h12]
    by_cases h3 : nFace = 3
    · rw [if_pos h3, if_pos h3]; rfl
    · rw [if_neg h3, if_neg h3]
      by_cases hlt : (nAlloc : Int) - ((nFace : Int) - 3) * 2 < 0
      · simp only [if_pos hlt]; rfl
      · simp only [if_neg hlt]
        by_cases h0 : (nAlloc : Int) - ((nFace : Int) - 3) * 2 = 0
        · simp only [if_pos h0]
        · have h1 : (1 : Int) ≤ (nAlloc : Int) - ((nFace : Int) - 3) * 2 := by omega
          simp only [if_neg h0, if_pos h1]; rfl

/-! ## the straight-line parts and the loop -/

/-- `cmap.sew::<I>(t, a, b)` (k = 0) / `cmap.unsew::<I>(t, a)` (k = 1) -/
def fanSewCall (cfg : Cfg Val) (n : Nat) : Nat → Nat → List Nat → P Val Unit
  | 0, 1, [a, b] => oneSew2 cfg n a b
  | 0, 2, [a, b] => twoSew2 cfg n a b
  | 1, 1, [a] => oneUnsew2 cfg n a
  | 1, 2, [a] => twoUnsew2 cfg n a
  | _, _, _ => Prog.panic

/-- operand: parameters of the part, then the variables bound in it -/
def fanArg (ps env : List Nat) (k : Nat) : Nat := if k < 20 then ps.getD k 0 else env.getD (k - 20) 0

/-- the meaning of a straight-line instruction list, continued by `k` with the variables bound -/
def fanRun {α : Type} (cfg : Cfg Val) (n : Nat) (ps : List Nat) :
    List Nat → List Val → List (Nat × List Nat) → (List Nat → List Val → P Val α) → P Val α
  | env, vals, [], k => k env vals
  | env, vals, (1, [i, a]) :: rest, k => do
      let v ← rB i (fanArg ps env a)
      fanRun cfg n ps (env ++ [v]) vals rest k
  | env, vals, (5, [a]) :: rest, k => do
      let v ← vertexId2 n (fanArg ps env a)
      fanRun cfg n ps (env ++ [v]) vals rest k
  | env, vals, (62, [a]) :: rest, k => do
      let v ← rA 0 (fanArg ps env a)
      match v with
      | none => Prog.panic
      | some v => fanRun cfg n ps env (vals ++ [v]) rest k
  | env, vals, (50, [s, i, a, b]) :: rest, k => do
      fanSewCall cfg n s i [fanArg ps env a, fanArg ps env b]
      fanRun cfg n ps env vals rest k
  | env, vals, (50, [s, i, a]) :: rest, k => do
      fanSewCall cfg n s i [fanArg ps env a]
      fanRun cfg n ps env vals rest k
  | env, vals, (64, [a, v]) :: rest, k => do
      let _ ← writeVtx (fanArg ps env a) (vals.getD v (.pt 0 0 0))
      fanRun cfg n ps env vals rest k
  | _, _, _ :: _, _ => Prog.panic

/-- `for sl in new_darts.chunks_exact(2) { let [d1, d2] = sl else { unreachable!() }; body; d0 = next }`; returns the
    last `d0` -/
def fanInterpLoop (cfg : Cfg Val) (n : Nat) (body : List (Nat × List Nat)) (next : Nat) :
    Nat → List (Nat × Nat) → P Val Nat
  | d0, [] => pure d0
  | d0, (d1, d2) :: rest =>
      fanRun cfg n [d0, d1, d2] [] [] body fun env _ => fanInterpLoop cfg n body next (fanArg [d0, d1, d2] env next) rest

/-- **one turn of the translated fan loop** (of `process_convex_cell`): the reads, the unsew and the four sews of the
    source, in order, with their arguments, then the loop again from `d2` -/
theorem C13_gen_fan_loop_step (cfg : Cfg Val) (n d0 d1 d2 : Nat) (rest : List (Nat × Nat)) :
    fanInterpLoop cfg n Gen.Fan.convexBody Gen.Fan.convexNext d0 ((d1, d2) :: rest) = (do
      let b1d0 ← rB 1 d0
      let b1b1d0 ← rB 1 b1d0
      oneUnsew2 cfg n b1d0
      twoSew2 cfg n d1 d2
      oneSew2 cfg n d2 b1b1d0
      oneSew2 cfg n b1d0 d1
      oneSew2 cfg n d1 d0
      fanInterpLoop cfg n Gen.Fan.convexBody Gen.Fan.convexNext d2 rest) := by
  simp only [fanInterpLoop, Gen.Fan.convexBody, Gen.Fan.convexNext, fanRun, fanArg, fanSewCall, List.getD,
    List.nil_append, List.cons_append, List.getElem?_cons_zero, List.getElem?_cons_succ, Option.getD_some,
    Nat.reduceSub, Nat.reduceLT, if_true, if_false, Prog.bind_eq]

/-- **tie of the fan loop** (`process_convex_cell`) -/
theorem C13_gen_fan_loop (cfg : Cfg Val) (n : Nat) : ∀ (pairs : List (Nat × Nat)) (d0 : Nat),
    fanInterpLoop cfg n Gen.Fan.convexBody Gen.Fan.convexNext d0 pairs = fanLoop cfg n d0 pairs
  | [], d0 => by simp only [fanInterpLoop, fanLoop]
  | (d1, d2) :: rest, d0 => by
      rw [C13_gen_fan_loop_step]
      simp only [fanLoop, C13_gen_fan_loop cfg n rest d2]

/-- the loop of `process_cell` is the same instruction list -/
theorem fanCellBody_eq : Gen.Fan.cellBody = Gen.Fan.convexBody ∧ Gen.Fan.cellNext = Gen.Fan.convexNext := ⟨rfl, rfl⟩

/-- the tail common to both kernels, from the apex dart -/
def fanInterpFrom (cfg : Cfg Val) (n sdart : Nat) (nds : List Nat)
    (pre : List (Nat × List Nat)) (start : Nat) (body : List (Nat × List Nat)) (next : Nat)
    (post : List (Nat × List Nat)) : P Val Unit :=
  fanRun cfg n [sdart] [] [] pre fun _ vals => do
    let d0 ← fanInterpLoop cfg n body next (fanArg [sdart] [] start) (chunks2 nds)
    fanRun cfg n [sdart, d0] [] vals post fun _ _ => pure ()

theorem fan_bind_unit (p : P Val Unit) : p.bind (fun _ => Prog.ret ()) = p := Prog.bind_unit p

/-- **tie of the tail of `process_convex_cell`** (everything after the pre-checks) -/
theorem C13_gen_fanFrom_convex (cfg : Cfg Val) (n sdart : Nat) (nds : List Nat) :
    fanInterpFrom cfg n sdart nds Gen.Fan.convexPre Gen.Fan.convexStart Gen.Fan.convexBody Gen.Fan.convexNext
      Gen.Fan.convexPost = fanFrom cfg n sdart nds := by
  unfold fanInterpFrom fanFrom
  simp only [Gen.Fan.convexPre, Gen.Fan.convexStart, Gen.Fan.convexPost, fanRun, fanArg, fanSewCall, List.getD,
    List.nil_append, List.cons_append, List.getElem?_cons_zero, List.getElem?_cons_succ, Option.getD_some,
    Nat.reduceSub, Nat.reduceLT, if_true, if_false, Prog.bind_eq, Prog.pure_eq, C13_gen_fan_loop]
  rfl

/-- **tie of the tail of `process_cell`** -/
theorem C13_gen_fanFrom_cell (cfg : Cfg Val) (n sdart : Nat) (nds : List Nat) :
    fanInterpFrom cfg n sdart nds Gen.Fan.cellPre Gen.Fan.cellStart Gen.Fan.cellBody Gen.Fan.cellNext
      Gen.Fan.cellPost = fanFrom cfg n sdart nds :=
  C13_gen_fanFrom_convex cfg n sdart nds

/-! ## `process_convex_cell` -/

/-- `OrbitPolicy::…` by its index in the translator's list -/
def fanPolicy : Nat → Policy
  | 0 => .vertex
  | 1 => .vertexLinear
  | 2 => .edge
  | 3 => .face
  | _ => .faceLinear

/-- the translated `process_convex_cell` -/
def fanInterpConvex (cfg : Cfg Val) (n face : Nat) (nds : List Nat) : P Val Unit := do
  let darts ← orbit2 n (fanPolicy Gen.Fan.convexPolicy) face
  match fanInterpCheck darts.length nds.length with
  | .error e => abort e
  | .ok () =>
      (fanInterpFrom cfg n face nds Gen.Fan.convexPre Gen.Fan.convexStart Gen.Fan.convexBody Gen.Fan.convexNext
        Gen.Fan.convexPost)

/-- **tie of `process_convex_cell`** -/
theorem C13_gen_fanConvex (cfg : Cfg Val) (n face : Nat) (nds : List Nat) :
    fanInterpConvex cfg n face nds = fanConvexCell cfg n face nds := by
  unfold fanInterpConvex fanConvexCell
  simp only [C13_gen_check_requirements, C13_gen_fanFrom_convex, Gen.Fan.convexPolicy, fanPolicy]
  rfl

/-- **C13 (a) stated on the translated code**: the translated `check_requirements` accepts exactly a face of at
    least 4 darts with `2 (n - 3)` spare darts -/
theorem C13_gen_check_requirements_ok_iff (nf na : Nat) :
    fanInterpCheck nf na = .ok () ↔ 4 ≤ nf ∧ na = 2 * (nf - 3) := by
  rw [C13_gen_check_requirements]
  exact C13_check_requirements_ok_iff nf na

/-! ## `process_cell`: the vertex loop, the star search -/

/-- `for &d in &darts { vid = vertex_id(d); read_vertex(vid) or abort(<translated error>) }` -/
def fanVerticesG (n : Nat) (e : Option Err) : List Nat → P Val (List Val)
  | [] => pure []
  | d :: ds => do
      let vid ← vertexId2 n d
      let v ← rA 0 vid
      match v, e with
      | some v, _ => do
          let rest ← fanVerticesG n e ds
          pure (v :: rest)
      | none, some e => abort e
      | none, none => Prog.panic

theorem fanVerticesG_eq (n : Nat) : ∀ ds : List Nat,
    fanVerticesG n (fanAct 0 Gen.Fan.cellUndef) ds = faceVertices n ds
  | [] => rfl
  | d :: ds => by
      simp only [fanVerticesG, faceVertices, fanVerticesG_eq n ds]
      congr 1; funext vid; congr 1; funext v
      cases v <;> rfl

def fanSegIdx (n i : Nat) : Nat → Nat
  | 0 => i
  | _ => (i + 1) % n

def fanPickV (v0 v1 v2 : P2) : Nat → P2
  | 0 => v0
  | 1 => v1
  | _ => v2

/-- `v.signum() <sop> signum` -/
def fanSignCmp : Nat → Int → Int → Bool
  | 0, a, b => a != b
  | _, a, b => a == b

/-- `v.abs() <eop> T::epsilon()` -/
def fanEpsCmp : Nat → Rat → Rat → Bool
  | 0, a, b => decide (a < b)
  | 1, a, b => decide (a ≤ b)
  | 2, a, b => decide (b < a)
  | _, a, b => decide (b ≤ a)

/-- the star test of candidate `id` with the translated shape -/
def fanTestG (sh : List Nat) (vs : List P2) (id : Nat) : Option Bool :=
  match sh with
  | [lo, i1, i2, a, b, c, so, eo] =>
    let n := vs.length
    let v0 := vs.getD id default
    let segs := ((List.range n).drop lo).filter (fun i => !(i = id || (i + 1) % n = id))
    let cr := segs.map (fun i =>
      let v1 := vs.getD (fanSegIdx n i i1) default
      let v2 := vs.getD (fanSegIdx n i i2) default
      (cross (fanPickV v0 v1 v2 a) (fanPickV v0 v1 v2 b) (fanPickV v0 v1 v2 c),
       crossNegZero (fanPickV v0 v1 v2 a) (fanPickV v0 v1 v2 b) (fanPickV v0 v1 v2 c)))
    match cr with
    | [] => none
    | (c0, z0) :: rest =>
        let s := signumF c0 z0
        some (rest.all (fun cz => !(fanSignCmp so (signumF cz.1 cz.2) s || fanEpsCmp eo (ratAbs cz.1) eps)))
  | _ => none

theorem fanStarPred_eq (a s : Int) (x : Rat) :
    (!(fanSignCmp 0 a s || fanEpsCmp 0 x eps)) = (decide (a = s) && !(decide (x < eps))) := by
  simp only [fanSignCmp, fanEpsCmp]
  by_cases h : a = s <;> simp [h]

/-- **tie of the star test**: sides `(v_i, v_{(i+1) % n})` for `i` in `0..n` minus the two at the candidate, cross
    product `(v0, v1, v2)`, rejected when `signum` DIFFERS from the first side's or `|cross| < ε` (strict) -/
theorem C13_gen_fanTest (vs : List P2) (id : Nat) : fanTestG Gen.Fan.starShape vs id = fanTest vs id := by
  simp only [fanTestG, Gen.Fan.starShape, fanTest, fanSegs, fanSegIdx, fanPickV, List.drop_zero, fanStarPred_eq]
  rfl

/-- `find_map` over the candidates -/
def fanStarFromG (vs : List P2) : List Nat → Option (Option Nat)
  | [] => some none
  | id :: ids =>
      match fanTestG Gen.Fan.starShape vs id with
      | none => none
      | some true => some (some id)
      | some false => fanStarFromG vs ids

theorem fanStarFromG_eq (vs : List P2) : ∀ ids, fanStarFromG vs ids = fanStarFrom vs ids
  | [] => rfl
  | id :: ids => by
      simp only [fanStarFromG, fanStarFrom, C13_gen_fanTest, fanStarFromG_eq vs ids]
      rfl

/-- the translated `process_cell` -/
def fanInterpCell (cfg : Cfg Val) (n face : Nat) (nds : List Nat) : P Val Unit := do
  let darts ← orbit2 n (fanPolicy Gen.Fan.cellPolicy) face
  let vs ← fanVerticesG n (fanAct 0 Gen.Fan.cellUndef) darts
  match fanInterpCheck darts.length nds.length with
  | .error e => abort e
  | .ok () =>
    match fanStarFromG (vs.map Val.p2) (List.range (vs.map Val.p2).length), fanAct 0 Gen.Fan.cellNoStar with
    | some (some id), _ =>
        (fanInterpFrom cfg n (darts.getD id 0) nds Gen.Fan.cellPre Gen.Fan.cellStart Gen.Fan.cellBody Gen.Fan.cellNext
          Gen.Fan.cellPost)
    | some none, some e => abort e
    | _, _ => Prog.panic

/-- **tie of `process_cell`** -/
theorem C13_gen_fan (cfg : Cfg Val) (n face : Nat) (nds : List Nat) :
    fanInterpCell cfg n face nds = fanCell cfg n face nds := by
  unfold fanInterpCell fanCell fanStar
  simp only [C13_gen_check_requirements, C13_gen_fanFrom_cell, fanVerticesG_eq, fanStarFromG_eq, Gen.Fan.cellPolicy,
    fanPolicy]
  congr 1; funext darts; congr 1; funext vs
  cases checkRequirements darts.length nds.length with
  | error e => rfl
  | ok u =>
    cases u
    simp only
    cases h : fanStarFrom (vs.map Val.p2) (List.range (vs.map Val.p2).length) with
    | none => rfl
    | some r => cases r <;> rfl

/-- **the C13 tie for the fan kernel stated on the translated code**: a successful run of the translated
    `process_cell` read an `n ≥ 4`-gon with `2(n-3)` spare darts whose star search accepted an index -/
theorem C13_gen_fan_kernel_star (cfg : Cfg Val) (n : Nat) (face : Nat) (nds : List Nat) (m m' : Map Val)
    (h : run (fanInterpCell cfg n face nds) m = (.ok (), m')) :
    ∃ (darts : List Nat) (vals : List Val) (id : Nat),
      run (orbit2 n .faceLinear face) m = (.ok darts, m) ∧
      run (faceVertices n darts) m = (.ok vals, m) ∧
      4 ≤ darts.length ∧ nds.length = 2 * (darts.length - 3) ∧
      fanStar (vals.map Val.p2) = some (some id) ∧
      run (fanFrom cfg n (darts.getD id 0) nds) m = (.ok (), m') ∧
      ((fanTriangles (vals.map Val.p2) id).map tri2).sum = area2 (vals.map Val.p2) := by
  rw [C13_gen_fan] at h
  exact C13_fan_kernel_star cfg n face nds m m' h

end HC.GenTie

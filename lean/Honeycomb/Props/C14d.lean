/-
  C14, fourth part — `UndefinedEdge` as an exact characterisation.

  C14.lean proves "Ok ⇒ both end points defined" (`C14_ok_implies_guards`) and the other error kinds as exact
  characterisations in the code's order.  The last kind, `UndefinedEdge`, needs the totality of the vertex-identifier BFS
  inside the kernel, which is C03's (`C03_vertexId2_min`: on a well-formed map `vertex_id_transac` returns
  `cellId`, without panic).

  * `insertVertices_reads` — once the earlier checks have passed, the kernel IS: "no second end point ⇒ `UndefinedEdge`;
    else read the two values under the vertex identifiers of the two end points, `UndefinedEdge` if one is missing, else
    the editing part"; `insertVertex_reads` is the same for the single insertion on an edge WITH a second end point,
    `insertVertex_reads_null` the case without one.
  * `NoUE` — the editing parts (link / unlink cores, chains, vertex ids, writes) never answer `UndefinedEdge` (their
    errors are `NonFreeBase`, `NonFreeImage`, `AlreadyFree`), by a compositional pass over the programs.
  * `C14_undefined_edge_iff`, `C14_undefined_edge_iff_single` — hence the outcome is `UndefinedEdge` exactly when the edge
    is not defined (`DefinedEdge`, `DefinedEdge1`: decidable conditions on the map), and then the map is unchanged.

  * `C14_no_second_end_single` — the case left out by `C14_undefined_edge_iff_single`: `insert_vertex_on_edge` on a dart
    with neither β1 nor β2 image reads the slot of the null dart's vertex identifier (`run_vertexId2_null`: identifier 0).
    `UndefinedEdge`, nothing written, iff the vertex of the dart or slot 0 is empty — always, unless a value was
    force-written at the null dart; with such a value the kernel never answers `UndefinedEdge`, and an `Ok` has linked the
    spare dart to the null dart (`β0(0) = nd1`, result not well formed; `example` on `exMapZ`).

  Hypotheses: `WF 3 m`, the vertex storage exists (`0 < m.a.size`), the edge dart is a non-null dart of the map, the
  earlier checks pass; `C14_undefined_edge_iff_single` is for an edge with a second end point (`β1 e ≠ 0 ∨ β2 e ≠ 0`),
  `C14_no_second_end_single` for the other darts: together no dart is excluded.
-/
import Honeycomb.Props.C14
import Honeycomb.Props.C03


namespace HC.C14
open HC HC.C03

/-! ## programs that never answer `UndefinedEdge` -/

/-- the program never fails with `UndefinedEdge` -/
def NoUE {α : Type} (p : P Val α) : Prop := ∀ m m' : Map Val, run p m ≠ (.err errUndefinedEdge, m')

theorem NoUE.pure {α : Type} (a : α) : NoUE (pure a : P Val α) := by
  intro m m' h
  simp at h

theorem NoUE.bind {α β : Type} {p : P Val α} {f : α → P Val β} (hp : NoUE p) (hf : ∀ a, NoUE (f a)) :
    NoUE (p.bind f) := by
  intro m m' h
  rw [run_bind] at h
  match hr : run p m with
  | (.ok a, m1) => rw [hr] at h; exact hf a m1 m' h
  | (.err e, m1) =>
      rw [hr] at h
      simp only [Prod.mk.injEq, Out.err.injEq] at h
      exact hp m m1 (by rw [hr, h.1])
  | (.retry, m1) => rw [hr] at h; simp at h
  | (.panic, m1) => rw [hr] at h; simp at h

theorem NoUE.rB (i d : Nat) : NoUE (rB i d : P Val Nat) := by
  intro m m' h
  rw [run_rB'] at h
  split at h <;> simp at h

theorem NoUE.wB (i d v : Nat) : NoUE (wB i d v : P Val Unit) := by
  intro m m' h
  rw [run_wB'] at h
  split at h <;> simp at h

theorem NoUE.rA (s d : Nat) : NoUE (rA s d : P Val (Option Val)) := by
  intro m m' h
  rw [run_rA'] at h
  split at h <;> simp at h

theorem NoUE.wA (s d : Nat) (v : Option Val) : NoUE (wA s d v : P Val Unit) := by
  intro m m' h
  rw [run_wA'] at h
  split at h <;> simp at h

theorem NoUE.abort {α : Type} {e : Err} (he : e ≠ errUndefinedEdge) : NoUE (HC.abort e : P Val α) := by
  intro m m' h
  have : run (HC.abort e : P Val α) m = (.err e, m) := rfl
  rw [this] at h
  simp only [Prod.mk.injEq, Out.err.injEq] at h
  exact he h.1

theorem NoUE.ite {α : Type} {c : Prop} [Decidable c] {p q : P Val α} (hp : NoUE p) (hq : NoUE q) :
    NoUE (if c then p else q) := by
  split
  · exact hp
  · exact hq

theorem noUE_whenP {c : Bool} {p : P Val Unit} (h : NoUE p) : NoUE (whenP c p) := by
  unfold whenP
  cases c
  · exact NoUE.pure ()
  · exact h

theorem noUE_oneLinkCore (l r : Nat) : NoUE (oneLinkCore (X := Val) l r) := by
  unfold oneLinkCore
  refine NoUE.bind (NoUE.rB _ _) fun _ => NoUE.ite (NoUE.abort (by simp [errNonFreeBase, errUndefinedEdge])) ?_
  refine NoUE.bind (NoUE.rB _ _) fun _ => NoUE.ite (NoUE.abort (by simp [errNonFreeImage, errUndefinedEdge])) ?_
  exact NoUE.bind (NoUE.wB _ _ _) fun _ => NoUE.wB _ _ _

theorem noUE_iLinkCore (i l r : Nat) : NoUE (iLinkCore (X := Val) i l r) := by
  unfold iLinkCore
  refine NoUE.bind (NoUE.rB _ _) fun _ => NoUE.ite (NoUE.abort (by simp [errNonFreeBase, errUndefinedEdge])) ?_
  refine NoUE.bind (NoUE.rB _ _) fun _ => NoUE.ite (NoUE.abort (by simp [errNonFreeImage, errUndefinedEdge])) ?_
  exact NoUE.bind (NoUE.wB _ _ _) fun _ => NoUE.wB _ _ _

theorem noUE_oneUnlinkCore (l : Nat) : NoUE (oneUnlinkCore (X := Val) l) := by
  unfold oneUnlinkCore
  refine NoUE.bind (NoUE.rB _ _) fun _ => NoUE.bind (NoUE.wB _ _ _) fun _ =>
    NoUE.ite (NoUE.abort (by simp [errAlreadyFree, errUndefinedEdge])) (NoUE.wB _ _ _)

theorem noUE_iUnlinkCore (i l : Nat) : NoUE (iUnlinkCore (X := Val) i l) := by
  unfold iUnlinkCore
  refine NoUE.bind (NoUE.rB _ _) fun _ => NoUE.bind (NoUE.wB _ _ _) fun _ =>
    NoUE.ite (NoUE.abort (by simp [errAlreadyFree, errUndefinedEdge])) (NoUE.wB _ _ _)

theorem noUE_bfs (gen : Nat → P Val (List Nat)) (hg : ∀ d, NoUE (gen d)) :
    ∀ fuel pending marked out, NoUE (bfs gen fuel pending marked out) := by
  intro fuel
  induction fuel with
  | zero => intro p mk o; exact NoUE.pure _
  | succ f ih =>
      intro p mk o
      cases p with
      | nil => exact NoUE.pure _
      | cons d rest =>
          unfold bfs
          exact NoUE.bind (hg d) (fun ims => ih _ _ _)

theorem noUE_vertexId2 (k d : Nat) : NoUE (vertexId2 (X := Val) k d) := by
  unfold vertexId2 orbitWith
  refine NoUE.bind (noUE_bfs _ (fun x => ?_) _ _ _ _) fun _ => NoUE.pure _
  unfold gen2
  exact NoUE.bind (NoUE.rB _ _) fun _ => NoUE.bind (NoUE.rB _ _) fun _ =>
    NoUE.bind (NoUE.rB _ _) fun _ => NoUE.bind (NoUE.rB _ _) fun _ => NoUE.pure _

theorem noUE_writeVtx (d : Nat) (v : Val) : NoUE (writeVtx d v) := by
  unfold writeVtx
  exact NoUE.bind (NoUE.rA _ _) fun _ => NoUE.bind (NoUE.wA _ _ _) fun _ => NoUE.pure _

theorem noUE_chainFirst : ∀ (l : List Nat) (prev : Nat), NoUE (chainFirst prev l) := by
  intro l
  induction l with
  | nil => intro prev; exact NoUE.pure _
  | cons nd rest ih =>
      intro prev
      unfold chainFirst
      exact NoUE.bind (noUE_oneLinkCore _ _) fun _ => ih nd

theorem noUE_chainSecond : ∀ (l : List (Nat × Nat)) (prev : Nat), NoUE (chainSecond prev l) := by
  intro l
  induction l with
  | nil => intro prev; exact NoUE.pure _
  | cons c rest ih =>
      intro prev
      obtain ⟨d, nd⟩ := c
      unfold chainSecond
      exact NoUE.bind (noUE_iLinkCore _ _ _) fun _ => NoUE.bind (noUE_oneLinkCore _ _) fun _ => ih nd

theorem noUE_placeVertices (k : Nat) (v1 v2 : Val) : ∀ (l : List (Rat × Nat)), NoUE (placeVertices k v1 v2 l) := by
  intro l
  induction l with
  | nil => exact NoUE.pure _
  | cons c rest ih =>
      obtain ⟨t, nd⟩ := c
      unfold placeVertices
      exact NoUE.bind (noUE_vertexId2 _ _) fun _ => NoUE.bind (noUE_writeVtx _ _) fun _ => ih

theorem noUE_side2 (base1 base2 : Nat) (fh sh : List Nat) : NoUE (insertVerticesSide2 base1 base2 fh sh) := by
  unfold insertVerticesSide2
  exact NoUE.bind (NoUE.rB _ _) fun _ => NoUE.bind (noUE_whenP (noUE_oneUnlinkCore _)) fun _ =>
    NoUE.bind (noUE_chainSecond _ _) fun _ => NoUE.bind (noUE_whenP (noUE_oneLinkCore _ _)) fun _ =>
      noUE_iLinkCore _ _ _

/-- **the editing part of `insert_vertices_on_edge` never answers `UndefinedEdge`** -/
theorem noUE_insertVerticesBody (k : Nat) (v1 v2 : Val) (base1 base2 b1 : Nat) (fh sh : List Nat) (ts : List Rat) :
    NoUE (insertVerticesBody k v1 v2 base1 base2 b1 fh sh ts) := by
  unfold insertVerticesBody
  exact NoUE.bind (noUE_whenP (noUE_oneUnlinkCore _)) fun _ => NoUE.bind (noUE_whenP (noUE_iUnlinkCore _ _)) fun _ =>
    NoUE.bind (noUE_chainFirst _ _) fun _ => NoUE.bind (noUE_whenP (noUE_oneLinkCore _ _)) fun _ =>
      NoUE.bind (noUE_whenP (noUE_side2 _ _ _ _)) fun _ => noUE_placeVertices _ _ _ _

theorem noUE_insertVertexBody1 (k : Nat) (v1 v2 : Val) (base1 b1 nd1 : Nat) (t : Option Rat) :
    NoUE (insertVertexBody1 k v1 v2 base1 b1 nd1 t) := by
  unfold insertVertexBody1
  exact NoUE.bind (noUE_whenP (noUE_oneUnlinkCore _)) fun _ => NoUE.bind (noUE_oneLinkCore _ _) fun _ =>
    NoUE.bind (noUE_oneLinkCore _ _) fun _ => NoUE.bind (noUE_vertexId2 _ _) fun _ =>
      NoUE.bind (noUE_writeVtx _ _) fun _ => NoUE.pure _

theorem noUE_insertVertexBody2 (k : Nat) (v1 v2 : Val) (base1 base2 b1 b2 nd1 nd2 : Nat) (t : Option Rat) :
    NoUE (insertVertexBody2 k v1 v2 base1 base2 b1 b2 nd1 nd2 t) := by
  unfold insertVertexBody2
  exact NoUE.bind (noUE_whenP (noUE_oneUnlinkCore _)) fun _ => NoUE.bind (noUE_whenP (noUE_oneUnlinkCore _)) fun _ =>
    NoUE.bind (noUE_iUnlinkCore _ _) fun _ => NoUE.bind (noUE_oneLinkCore _ _) fun _ =>
    NoUE.bind (noUE_whenP (noUE_oneLinkCore _ _)) fun _ => NoUE.bind (noUE_oneLinkCore _ _) fun _ =>
    NoUE.bind (noUE_whenP (noUE_oneLinkCore _ _)) fun _ => NoUE.bind (noUE_iLinkCore _ _ _) fun _ =>
    NoUE.bind (noUE_iLinkCore _ _ _) fun _ => NoUE.bind (noUE_vertexId2 _ _) fun _ =>
      NoUE.bind (noUE_writeVtx _ _) fun _ => NoUE.pure _

/-! ## what the kernels do once the guards have passed -/

/-- the second end point read by `insert_vertices_on_edge` -/
def tgtOf (m : Map Val) (e : Nat) : Nat := if m.β 1 e ≠ 0 then m.β 1 e else m.β 2 e

theorem insertVertices_reads (m : Map Val) (hwf : WF 3 m) (h0 : 0 < m.a.size) (e : Nat) (he0 : e ≠ 0) (he : e < m.n)
    (nds : List Nat) (ts : List Rat) (hlen : nds.length = 2 * ts.length)
    (hfree : ∀ d ∈ nds, d < m.n ∧ m.isFree 3 d = true)
    (h1 : 0 ∉ nds.take ts.length) (h2 : m.β 2 e ≠ 0 → 0 ∉ nds.drop ts.length) (ht : ∀ t ∈ ts, 0 < t ∧ t < 1) :
    run (insertVerticesOnEdge m.n e nds ts) m =
      if m.β 1 e = 0 ∧ m.β 2 e = 0 then (.err errUndefinedEdge, m)
      else run (withEnds (m.att 0 (cellId m .vertex e)) (m.att 0 (cellId m .vertex (tgtOf m e))) fun v1 v2 =>
        insertVerticesBody m.n v1 v2 e (m.β 2 e) (m.β 1 e) (nds.take ts.length) (nds.drop ts.length) ts) m := by
  have hs := hwf.toSized
  have hok : ∀ i, i < 3 → m.okβ i e = true := fun _ hi => hs.okβ_of_lt hi he
  unfold insertVerticesOnEdge
  simp only [bind]
  rw [if_neg (by simpa using hlen), run_bind, run_anyNotFreeTx m hs nds (fun d hd => (hfree d hd).1)]
  have : (nds.any fun d => !m.isFree 3 d) = false := by
    simp only [List.any_eq_false]; intro d hd; simp [(hfree d hd).2]
  simp only [this, Bool.false_eq_true, if_false, run_rB, hok 2 (by omega), if_true]
  rw [if_neg (by simp only [List.any_eq_true, decide_eq_true_eq]; rintro ⟨x, hx, rfl⟩; exact h1 hx)]
  rw [if_neg (by
    simp only [Bool.and_eq_true, decide_eq_true_eq, List.any_eq_true]
    rintro ⟨hb, x, hx, rfl⟩; exact h2 hb hx)]
  rw [if_neg (by
    simp only [List.any_eq_true, not_exists, not_and]
    intro t htm
    have := ht t htm
    unfold outOfUnit
    simp only [ge_iff_le, Bool.or_eq_true, decide_eq_true_eq, not_or, not_le]
    exact ⟨this.2, this.1⟩)]
  rw [run_rB, if_pos (hok 2 (by omega)), run_rB, if_pos (hok 1 (by omega)), run_bind, (C03_vertexId2_min hwf he0 he).1]
  simp only
  have hid1 := cellId_idem hwf (pol := .vertex) trivial he0 he
  have okA1 : m.okA 0 (cellId m .vertex e) = true := by
    unfold Map.okA
    have := hs.asz 0 h0
    simp only [h0, decide_true, Bool.true_and, decide_eq_true_eq]
    exact Nat.lt_of_lt_of_le hid1.2.1 this
  have fin : ∀ tgt, tgt ≠ 0 → tgt < m.n →
      run (Prog.bind (vertexId2 m.n tgt) fun vid2 =>
        Prog.bind (rA 0 (cellId m .vertex e)) fun v1 => Prog.bind (rA 0 vid2) fun v2 =>
          withEnds v1 v2 fun v1 v2 =>
            insertVerticesBody m.n v1 v2 e (m.β 2 e) (m.β 1 e) (nds.take ts.length) (nds.drop ts.length) ts) m =
      run (withEnds (m.att 0 (cellId m .vertex e)) (m.att 0 (cellId m .vertex tgt)) fun v1 v2 =>
        insertVerticesBody m.n v1 v2 e (m.β 2 e) (m.β 1 e) (nds.take ts.length) (nds.drop ts.length) ts) m := by
    intro tgt t0 tlt
    have hid2 := cellId_idem hwf (pol := .vertex) trivial t0 tlt
    have okA2 : m.okA 0 (cellId m .vertex tgt) = true := by
      unfold Map.okA
      have := hs.asz 0 h0
      simp only [h0, decide_true, Bool.true_and, decide_eq_true_eq]
      exact Nat.lt_of_lt_of_le hid2.2.1 this
    rw [run_bind, (C03_vertexId2_min hwf t0 tlt).1]
    simp only
    rw [run_rA, if_pos okA1, run_rA, if_pos okA2]
  unfold secondEnd tgtOf
  by_cases hb1 : m.β 1 e ≠ 0
  · rw [if_pos hb1, if_neg (fun hh => hb1 hh.1), if_pos hb1]
    simp only [Prog.pure_eq, Prog.ret_bind]
    exact fin _ hb1 (hwf.range 1 (by omega) e he)
  · rw [if_neg hb1, if_neg hb1]
    by_cases hb2 : m.β 2 e ≠ 0
    · rw [if_pos hb2, if_neg (fun hh => hb2 hh.2)]
      simp only [Prog.pure_eq, Prog.ret_bind]
      exact fin _ hb2 (hwf.range 2 (by omega) e he)
    · rw [if_neg hb2, if_pos ⟨by simpa using hb1, by simpa using hb2⟩]
      rfl

/-- both end points of the edge of `e` exist and carry a value (what `insert_vertices_on_edge` reads) -/
def DefinedEdge (m : Map Val) (e : Nat) : Prop :=
  (m.β 1 e ≠ 0 ∨ m.β 2 e ≠ 0) ∧ (m.att 0 (cellId m .vertex e)).isSome = true ∧
    (m.att 0 (cellId m .vertex (tgtOf m e))).isSome = true

instance (m : Map Val) (e : Nat) : Decidable (DefinedEdge m e) := by unfold DefinedEdge; exact inferInstance

theorem withEnds_some {α : Type} {a b : Option Val} {k : Val → Val → P Val α} (ha : a.isSome = true)
    (hb : b.isSome = true) : ∃ v1 v2, a = some v1 ∧ b = some v2 ∧ withEnds a b k = k v1 v2 := by
  cases a with
  | none => simp at ha
  | some v1 =>
    cases b with
    | none => simp at hb
    | some v2 => exact ⟨v1, v2, rfl, rfl, rfl⟩

theorem withEnds_none {α : Type} {a b : Option Val} {k : Val → Val → P Val α} (h : ¬ (a.isSome = true ∧ b.isSome = true))
    (m : Map Val) : run (withEnds a b k) m = (.err errUndefinedEdge, m) := by
  cases a with
  | none => rfl
  | some v1 =>
    cases b with
    | none => rfl
    | some v2 => exact absurd ⟨rfl, rfl⟩ h

/-- **C14, `UndefinedEdge` exactly (`insert_vertices_on_edge`)**: on a well-formed map with a vertex storage, for an
    existing non-null edge dart, when every earlier check passes (count, free spare darts, non-null halves, positions in
    `]0,1[`), the call answers `UndefinedEdge` — whatever the final state — exactly when the edge is not defined: the dart
    has neither a β1 nor a β2 image (no second end point), or one of the two end points has no value under its vertex
    identifier.  In that case nothing is written; otherwise the call runs its editing part with the two values read. -/
theorem C14_undefined_edge_iff (m : Map Val) (hwf : WF 3 m) (h0 : 0 < m.a.size) (e : Nat) (he0 : e ≠ 0) (he : e < m.n)
    (nds : List Nat) (ts : List Rat) (hlen : nds.length = 2 * ts.length)
    (hfree : ∀ d ∈ nds, d < m.n ∧ m.isFree 3 d = true)
    (h1 : 0 ∉ nds.take ts.length) (h2 : m.β 2 e ≠ 0 → 0 ∉ nds.drop ts.length) (ht : ∀ t ∈ ts, 0 < t ∧ t < 1) :
    ((run (insertVerticesOnEdge m.n e nds ts) m).1 = .err errUndefinedEdge ↔ ¬ DefinedEdge m e) ∧
    (¬ DefinedEdge m e → run (insertVerticesOnEdge m.n e nds ts) m = (.err errUndefinedEdge, m)) ∧
    (DefinedEdge m e → ∃ v1 v2, m.att 0 (cellId m .vertex e) = some v1 ∧
      m.att 0 (cellId m .vertex (tgtOf m e)) = some v2 ∧
      run (insertVerticesOnEdge m.n e nds ts) m =
        run (insertVerticesBody m.n v1 v2 e (m.β 2 e) (m.β 1 e) (nds.take ts.length) (nds.drop ts.length) ts) m) := by
  have hr := insertVertices_reads m hwf h0 e he0 he nds ts hlen hfree h1 h2 ht
  have hund : ¬ DefinedEdge m e → run (insertVerticesOnEdge m.n e nds ts) m = (.err errUndefinedEdge, m) := by
    intro hnd
    rw [hr]
    by_cases hb : m.β 1 e = 0 ∧ m.β 2 e = 0
    · rw [if_pos hb]
    · rw [if_neg hb]
      apply withEnds_none
      intro hh
      apply hnd
      refine ⟨?_, hh.1, hh.2⟩
      by_cases c : m.β 1 e = 0
      · exact Or.inr fun c2 => hb ⟨c, c2⟩
      · exact Or.inl c
  have hdef : DefinedEdge m e → ∃ v1 v2, m.att 0 (cellId m .vertex e) = some v1 ∧
      m.att 0 (cellId m .vertex (tgtOf m e)) = some v2 ∧
      run (insertVerticesOnEdge m.n e nds ts) m =
        run (insertVerticesBody m.n v1 v2 e (m.β 2 e) (m.β 1 e) (nds.take ts.length) (nds.drop ts.length) ts) m := by
    intro ⟨hb, ha, hc⟩
    obtain ⟨v1, v2, e1, e2, e3⟩ := withEnds_some (k := fun v1 v2 =>
      insertVerticesBody m.n v1 v2 e (m.β 2 e) (m.β 1 e) (nds.take ts.length) (nds.drop ts.length) ts) ha hc
    refine ⟨v1, v2, e1, e2, ?_⟩
    rw [hr, if_neg (fun hh => by rcases hb with c | c; exact c hh.1; exact c hh.2), e3]
  refine ⟨⟨fun h => ?_, fun h => by rw [hund h]⟩, hund, hdef⟩
  intro hd
  obtain ⟨v1, v2, _, _, e3⟩ := hdef hd
  rw [e3] at h
  exact noUE_insertVerticesBody _ _ _ _ _ _ _ _ _ m _ (Prod.ext h rfl)

/-! ## the single insertion -/

/-- the second end point read by `insert_vertex_on_edge` -/
def tgtOf1 (m : Map Val) (e : Nat) : Nat := if m.β 2 e = 0 then m.β 1 e else m.β 2 e

theorem insertVertex_reads (m : Map Val) (hwf : WF 3 m) (h0 : 0 < m.a.size) (e : Nat) (he0 : e ≠ 0) (he : e < m.n)
    (nd1 nd2 : Nat) (t : Option Rat) (ht : optOutOfUnit t = false)
    (hn1 : nd1 ≠ 0 ∧ nd1 < m.n ∧ m.isFree 3 nd1 = true)
    (hn2 : m.β 2 e ≠ 0 → nd2 ≠ 0 ∧ nd2 < m.n ∧ m.isFree 3 nd2 = true)
    (hend : m.β 1 e ≠ 0 ∨ m.β 2 e ≠ 0) :
    run (insertVertexOnEdge m.n e nd1 nd2 t) m =
      run (withEnds (m.att 0 (cellId m .vertex e)) (m.att 0 (cellId m .vertex (tgtOf1 m e))) fun v1 v2 =>
        if m.β 2 e = 0 then insertVertexBody1 m.n v1 v2 e (m.β 1 e) nd1 t
        else insertVertexBody2 m.n v1 v2 e (m.β 2 e) (m.β 1 e) (m.β 1 (m.β 2 e)) nd1 nd2 t) m := by
  have hs := hwf.toSized
  have hok : ∀ i, i < 3 → m.okβ i e = true := fun _ hi => hs.okβ_of_lt hi he
  unfold insertVertexOnEdge
  simp only [bind]
  rw [if_neg (by simp [ht])]
  simp only [run_rB, hok 2 (by omega), if_true]
  have nf : ∀ d, d ≠ 0 → d < m.n → m.isFree 3 d = true → run (nullOrNotFreeTx d) m = (.ok false, m) := by
    intro d d0 dlt df
    unfold nullOrNotFreeTx
    simp only [d0, if_false, bind]
    rw [run_bind, run_isFreeTx m d (fun _ hi => hs.okβ_of_lt hi dlt)]; simp [df]
  rw [run_bind, nf nd1 hn1.1 hn1.2.1 hn1.2.2]
  simp only [Bool.false_eq_true, if_false]
  have hid1 := cellId_idem hwf (pol := .vertex) trivial he0 he
  have okA1 : m.okA 0 (cellId m .vertex e) = true := by
    unfold Map.okA
    have := hs.asz 0 h0
    simp only [h0, decide_true, Bool.true_and, decide_eq_true_eq]
    exact Nat.lt_of_lt_of_le hid1.2.1 this
  have okA2 : ∀ tgt, tgt ≠ 0 → tgt < m.n → m.okA 0 (cellId m .vertex tgt) = true := by
    intro tgt t0 tlt
    have hid2 := cellId_idem hwf (pol := .vertex) trivial t0 tlt
    unfold Map.okA
    have := hs.asz 0 h0
    simp only [h0, decide_true, Bool.true_and, decide_eq_true_eq]
    exact Nat.lt_of_lt_of_le hid2.2.1 this
  unfold tgtOf1
  by_cases hb2 : m.β 2 e = 0
  · have hb1 : m.β 1 e ≠ 0 := by
      rcases hend with c | c
      · exact c
      · exact absurd hb2 c
    have hlt := hwf.range 1 (by omega) e he
    rw [if_neg (by simpa using hb2)]
    simp only [Prog.pure_eq, Prog.ret_bind, Bool.false_eq_true, if_false]
    rw [run_rB, if_pos (hok 2 (by omega)), if_pos hb2, run_rB, if_pos (hok 1 (by omega)), run_bind,
      (C03_vertexId2_min hwf he0 he).1]
    simp only
    rw [run_bind, (C03_vertexId2_min hwf hb1 hlt).1]
    simp only
    rw [run_rA, if_pos okA1, run_rA, if_pos (okA2 _ hb1 hlt), if_pos hb2]
    simp only [hb2, if_true]
  · have hlt := hwf.range 2 (by omega) e he
    obtain ⟨c1, c2, c3⟩ := hn2 hb2
    rw [if_pos hb2, run_bind, nf nd2 c1 c2 c3]
    simp only [Bool.false_eq_true, if_false]
    rw [run_rB, if_pos (hok 2 (by omega)), if_neg hb2, run_rB, if_pos (hok 1 (by omega)), run_rB,
      if_pos (hs.okβ_of_lt (by omega) hlt), run_bind, (C03_vertexId2_min hwf he0 he).1]
    simp only
    rw [run_bind, (C03_vertexId2_min hwf hb2 hlt).1]
    simp only
    rw [run_rA, if_pos okA1, run_rA, if_pos (okA2 _ hb2 hlt), if_neg hb2]
    simp only [hb2, if_false]

/-- both end points of the edge of `e` carry a value (what `insert_vertex_on_edge` reads) -/
def DefinedEdge1 (m : Map Val) (e : Nat) : Prop :=
  (m.att 0 (cellId m .vertex e)).isSome = true ∧ (m.att 0 (cellId m .vertex (tgtOf1 m e))).isSome = true

instance (m : Map Val) (e : Nat) : Decidable (DefinedEdge1 m e) := by unfold DefinedEdge1; exact inferInstance

/-- **C14, `UndefinedEdge` exactly (`insert_vertex_on_edge`)**, for an edge with a second end point (`β1 e ≠ 0` or
    `β2 e ≠ 0`): when the earlier checks pass (position, spare darts), the call answers `UndefinedEdge` exactly when one of
    the two end points has no value under its vertex identifier; then nothing is written -/
theorem C14_undefined_edge_iff_single (m : Map Val) (hwf : WF 3 m) (h0 : 0 < m.a.size) (e : Nat) (he0 : e ≠ 0)
    (he : e < m.n) (nd1 nd2 : Nat) (t : Option Rat) (ht : optOutOfUnit t = false)
    (hn1 : nd1 ≠ 0 ∧ nd1 < m.n ∧ m.isFree 3 nd1 = true)
    (hn2 : m.β 2 e ≠ 0 → nd2 ≠ 0 ∧ nd2 < m.n ∧ m.isFree 3 nd2 = true)
    (hend : m.β 1 e ≠ 0 ∨ m.β 2 e ≠ 0) :
    ((run (insertVertexOnEdge m.n e nd1 nd2 t) m).1 = .err errUndefinedEdge ↔ ¬ DefinedEdge1 m e) ∧
    (¬ DefinedEdge1 m e → run (insertVertexOnEdge m.n e nd1 nd2 t) m = (.err errUndefinedEdge, m)) := by
  have hr := insertVertex_reads m hwf h0 e he0 he nd1 nd2 t ht hn1 hn2 hend
  have hund : ¬ DefinedEdge1 m e → run (insertVertexOnEdge m.n e nd1 nd2 t) m = (.err errUndefinedEdge, m) := by
    intro hnd
    rw [hr]
    exact withEnds_none (fun hh => hnd ⟨hh.1, hh.2⟩) m
  refine ⟨⟨fun h => ?_, fun h => by rw [hund h]⟩, hund⟩
  intro ⟨ha, hc⟩
  obtain ⟨v1, v2, _, _, e3⟩ := withEnds_some (k := fun v1 v2 =>
    if m.β 2 e = 0 then insertVertexBody1 m.n v1 v2 e (m.β 1 e) nd1 t
    else insertVertexBody2 m.n v1 v2 e (m.β 2 e) (m.β 1 e) (m.β 1 (m.β 2 e)) nd1 nd2 t) ha hc
  rw [hr, e3] at h
  exact NoUE.ite (noUE_insertVertexBody1 _ _ _ _ _ _ _) (noUE_insertVertexBody2 _ _ _ _ _ _ _ _ _ _) m _
    (Prod.ext h rfl)

/-! ## the single insertion on a dart WITHOUT second end point -/

/-- `vertex_id_transac(NULL_DART_ID)` on a well-formed map: the orbit of the null dart is the null dart, its identifier 0 -/
theorem run_vertexId2_null (m : Map Val) (hwf : WF 3 m) : run (vertexId2 m.n 0) m = (.ok 0, m) := by
  have hs := hwf.toSized
  have hok : ∀ i, i < 3 → m.okβ i 0 = true := fun _ hi => hs.okβ_of_lt hi hs.npos
  have hn : ∀ i, i < 3 → m.β i 0 = 0 := fun i hi => hwf.null i hi
  have hg : run (gen2 (X := Val) .vertex 0) m = (.ok [0, 0], m) := by
    unfold gen2
    simp only [bind, run_rB, hok 2 (by omega), hok 1 (by omega), hok 0 (by omega), if_true,
      hn 2 (by omega), hn 1 (by omega), hn 0 (by omega)]
    rfl
  have hb : run (bfs (gen2 (X := Val) .vertex) (m.n + 1) [0] [0, 0] []) m = (.ok [0], m) := by
    unfold bfs
    simp only [bind]
    rw [run_bind, hg]
    simp only [List.foldl, bfsCheck, List.contains_cons, beq_self_eq_true, Bool.true_or, if_true, List.nil_append]
    cases m.n <;> simp [bfs]
  unfold vertexId2 orbitWith
  simp only [bind]
  rw [run_bind, hb]
  rfl

/-- on a dart with neither β1 nor β2 image the kernel takes the one-dart branch with `b1d1_old = NULL`: the second "end
    point" it reads is the slot of the null dart's vertex identifier, slot 0 -/
theorem insertVertex_reads_null (m : Map Val) (hwf : WF 3 m) (h0 : 0 < m.a.size) (e : Nat) (he0 : e ≠ 0) (he : e < m.n)
    (nd1 nd2 : Nat) (t : Option Rat) (ht : optOutOfUnit t = false)
    (hn1 : nd1 ≠ 0 ∧ nd1 < m.n ∧ m.isFree 3 nd1 = true) (hb1 : m.β 1 e = 0) (hb2 : m.β 2 e = 0) :
    run (insertVertexOnEdge m.n e nd1 nd2 t) m =
      run (withEnds (m.att 0 (cellId m .vertex e)) (m.att 0 0) fun v1 v2 =>
        insertVertexBody1 m.n v1 v2 e 0 nd1 t) m := by
  have hs := hwf.toSized
  have hok : ∀ i, i < 3 → m.okβ i e = true := fun _ hi => hs.okβ_of_lt hi he
  unfold insertVertexOnEdge
  simp only [bind]
  rw [if_neg (by simp [ht])]
  simp only [run_rB, hok 2 (by omega), if_true]
  have nf : ∀ d, d ≠ 0 → d < m.n → m.isFree 3 d = true → run (nullOrNotFreeTx d) m = (.ok false, m) := by
    intro d d0 dlt df
    unfold nullOrNotFreeTx
    simp only [d0, if_false, bind]
    rw [run_bind, run_isFreeTx m d (fun _ hi => hs.okβ_of_lt hi dlt)]; simp [df]
  rw [run_bind, nf nd1 hn1.1 hn1.2.1 hn1.2.2]
  simp only [Bool.false_eq_true, if_false]
  have hid1 := cellId_idem hwf (pol := .vertex) trivial he0 he
  have okA1 : m.okA 0 (cellId m .vertex e) = true := by
    unfold Map.okA
    have := hs.asz 0 h0
    simp only [h0, decide_true, Bool.true_and, decide_eq_true_eq]
    exact Nat.lt_of_lt_of_le hid1.2.1 this
  have okA0 : m.okA 0 0 = true := by
    unfold Map.okA
    have := hs.asz 0 h0
    simp only [h0, decide_true, Bool.true_and, decide_eq_true_eq]
    exact Nat.lt_of_lt_of_le hs.npos this
  rw [if_neg (by simpa using hb2)]
  simp only [Prog.pure_eq, Prog.ret_bind, Bool.false_eq_true, if_false]
  rw [run_rB, if_pos (hok 2 (by omega)), if_pos hb2, run_rB, if_pos (hok 1 (by omega)), run_bind,
    (C03_vertexId2_min hwf he0 he).1]
  simp only
  rw [hb1, run_bind, run_vertexId2_null m hwf]
  simp only
  rw [run_rA, if_pos okA1, run_rA, if_pos okA0]

/-- **C14, `insert_vertex_on_edge` on a dart without second end point** (`β1 e = 0 ∧ β2 e = 0`; the case left out of
    `C14_undefined_edge_iff_single`), on a well-formed map, earlier checks passed.  The kernel reads the vertex of `e` and
    the slot of the null dart's vertex identifier (slot 0):
    * it answers `UndefinedEdge`, nothing written, exactly when one of the two is empty — in particular whenever no value
      is stored at the null dart, which is the case of every map that was not force-written at slot 0;
    * otherwise (a value IS stored at slot 0) it never answers `UndefinedEdge`, and if it answers `Ok` it has executed
      `link::<1>(nd1, NULL)`: the null dart has the β0 image `nd1` and the result is NOT well formed.  (This needs a map
      with a vertex value at the null dart; `C14_insertVertex_preserves_WF` excludes the shape by its hypothesis.) -/
theorem C14_no_second_end_single (m : Map Val) (hwf : WF 3 m) (h0 : 0 < m.a.size) (e : Nat) (he0 : e ≠ 0) (he : e < m.n)
    (nd1 nd2 : Nat) (t : Option Rat) (ht : optOutOfUnit t = false)
    (hn1 : nd1 ≠ 0 ∧ nd1 < m.n ∧ m.isFree 3 nd1 = true) (hb1 : m.β 1 e = 0) (hb2 : m.β 2 e = 0) :
    ((run (insertVertexOnEdge m.n e nd1 nd2 t) m).1 = .err errUndefinedEdge ↔
      ¬ ((m.att 0 (cellId m .vertex e)).isSome = true ∧ (m.att 0 0).isSome = true)) ∧
    (¬ ((m.att 0 (cellId m .vertex e)).isSome = true ∧ (m.att 0 0).isSome = true) →
      run (insertVertexOnEdge m.n e nd1 nd2 t) m = (.err errUndefinedEdge, m)) ∧
    (m.att 0 0 = none → run (insertVertexOnEdge m.n e nd1 nd2 t) m = (.err errUndefinedEdge, m)) ∧
    (∀ m', run (insertVertexOnEdge m.n e nd1 nd2 t) m = (.ok (), m') → m'.β 0 0 = nd1 ∧ ¬ WF 3 m') := by
  have hr := insertVertex_reads_null m hwf h0 e he0 he nd1 nd2 t ht hn1 hb1 hb2
  have hs := hwf.toSized
  have hund : ¬ ((m.att 0 (cellId m .vertex e)).isSome = true ∧ (m.att 0 0).isSome = true) →
      run (insertVertexOnEdge m.n e nd1 nd2 t) m = (.err errUndefinedEdge, m) := by
    intro hnd
    rw [hr]
    exact withEnds_none hnd m
  refine ⟨⟨fun h => ?_, fun h => by rw [hund h]⟩, hund, fun hz => hund (fun hh => by rw [hz] at hh; simp at hh), ?_⟩
  · intro ⟨ha, hc⟩
    obtain ⟨v1, v2, _, _, e3⟩ := withEnds_some (k := fun v1 v2 => insertVertexBody1 m.n v1 v2 e 0 nd1 t) ha hc
    rw [hr, e3] at h
    exact noUE_insertVertexBody1 _ _ _ _ _ _ _ m _ (Prod.ext h rfl)
  · intro m' hok
    rw [hr] at hok
    obtain ⟨v1, v2, _, _, hbody⟩ := withEnds_ok hok
    unfold insertVertexBody1 at hbody
    simp only [bind] at hbody
    obtain ⟨_, ma, ha, hbody⟩ := run_bind_ok hbody
    have hma : ma = m := by
      simp only [whenP, ne_eq, not_true_eq_false, decide_false, Bool.false_eq_true, if_false] at ha
      simp at ha
      exact ha.symm
    rw [hma] at hbody
    obtain ⟨_, m1, hl1, hbody⟩ := run_bind_ok hbody
    obtain ⟨_, _, _, _, hm1⟩ := oneLinkCore_ok hl1
    obtain ⟨_, m2, hl2, hbody⟩ := run_bind_ok hbody
    obtain ⟨_, _, _, _, hm2⟩ := oneLinkCore_ok hl2
    obtain ⟨vnew, hv, hbody⟩ := run_ro_bind_ok (readOnly_vertexId2 m.n nd1) hbody
    obtain ⟨_, m3, hw, hbody⟩ := run_bind_ok hbody
    simp at hbody
    have st := attrOnly_writeVtx vnew (placeVal v1 v2 t) m2
    rw [hw] at st
    have s1 : Sized 3 m1 := by rw [hm1]; exact (hs.setβ _ _ _).setβ _ _ _
    have s1' : Sized 3 (m1.setβ 1 nd1 0) := s1.setβ _ _ _
    have hn1' : m1.n = m.n := by rw [hm1]; rfl
    have hβ : m'.β 0 0 = nd1 := by
      rw [← hbody, st.β, hm2]
      unfold Map.link1
      rw [s1'.β_setβ (by omega) (by simp only [Map.n_setβ]; rw [hn1']; exact hs.npos)]
      simp
    exact ⟨hβ, fun hwf' => hn1.1 (by rw [← hβ]; exact hwf'.null 0 (by omega))⟩

/-! ## non-vacuity -/

/-- `exMap` with the vertex {2, 4} undefined -/
def exMapU : Map Val :=
  { exMap with
    a := #[#[none, some (.pt 0 0 0), none, some (.pt 0 4 0), none, none, none],
           Array.replicate 8 none, Array.replicate 8 none, Array.replicate 8 none,
           Array.replicate 8 none, Array.replicate 8 none] }

theorem exMapU_wf : WF 3 exMapU := by decide +kernel

/-- the edge 1 → 2 of `exMapU` has an undefined end point: `UndefinedEdge`, map unchanged -/
example : run (insertVerticesOnEdge exMapU.n 1 [5, 6] [1/4]) exMapU = (.err errUndefinedEdge, exMapU) :=
  (C14_undefined_edge_iff exMapU exMapU_wf (by decide) 1 (by decide) (by decide) [5, 6] [1/4] (by decide)
    (by decide +kernel) (by decide) (by decide +kernel) (by decide +kernel)).2.1 (by decide +kernel)

/-- a dart with neither successor nor opposite (dart 5, free): no second end point -/
example : run (insertVerticesOnEdge exMap.n 5 [] []) exMap = (.err errUndefinedEdge, exMap) :=
  (C14_undefined_edge_iff exMap exMap_wf (by decide) 5 (by decide) (by decide) [] [] (by decide)
    (by decide) (by decide) (by decide) (by decide)).2.1 (by decide +kernel)

/-- the edge 3 → 1 of `exMapU` is defined: the call is not refused with `UndefinedEdge` -/
example : (run (insertVerticesOnEdge exMapU.n 3 [5, 6] [1/4]) exMapU).1 ≠ .err errUndefinedEdge := by
  have h := (C14_undefined_edge_iff exMapU exMapU_wf (by decide) 3 (by decide) (by decide) [5, 6] [1/4]
    (by decide) (by decide +kernel) (by decide) (by decide +kernel) (by decide +kernel)).1
  intro hh
  exact h.1 hh (by decide +kernel)

example : run (insertVertexOnEdge exMapU.n 1 5 6 none) exMapU = (.err errUndefinedEdge, exMapU) :=
  (C14_undefined_edge_iff_single exMapU exMapU_wf (by decide) 1 (by decide) (by decide) 5 6 none rfl
    (by decide +kernel) (by decide +kernel) (by decide +kernel)).2 (by decide +kernel)

example : DefinedEdge1 exMap 1 ∧ (run (insertVertexOnEdge exMap.n 1 5 6 none) exMap).1 = .ok () := by decide +kernel

/-- dart 5 of `exMap` has no second end point; no value at the null dart: `UndefinedEdge`, nothing written -/
example : run (insertVertexOnEdge exMap.n 5 6 0 none) exMap = (.err errUndefinedEdge, exMap) :=
  (C14_no_second_end_single exMap exMap_wf (by decide) 5 (by decide) (by decide) 6 0 none rfl
    (by decide +kernel) (by decide +kernel) (by decide +kernel)).2.2.1 (by decide +kernel)

/-- `exMap` with a vertex at dart 5 and a value force-written at the null dart -/
def exMapZ : Map Val :=
  { exMap with
    a := #[#[some (.pt 8 8 0), some (.pt 0 0 0), some (.pt 4 0 0), some (.pt 0 4 0), none, some (.pt 2 2 0), none],
           Array.replicate 8 none, Array.replicate 8 none, Array.replicate 8 none,
           Array.replicate 8 none, Array.replicate 8 none] }

/-- then the kernel answers `Ok`, having linked the spare dart to the null dart: `β0(0) = 6`, not well formed -/
example : (run (insertVertexOnEdge exMapZ.n 5 6 0 none) exMapZ).1 = .ok () ∧
    (run (insertVertexOnEdge exMapZ.n 5 6 0 none) exMapZ).2.β 0 0 = 6 := by decide +kernel

example : ¬ WF 3 (run (insertVertexOnEdge exMapZ.n 5 6 0 none) exMapZ).2 :=
  ((C14_no_second_end_single exMapZ (by decide +kernel) (by decide) 5 (by decide) (by decide) 6 0 none rfl
    (by decide +kernel) (by decide +kernel) (by decide +kernel)).2.2.2 _ (ok_of_fst (by decide +kernel))).2

end HC.C14

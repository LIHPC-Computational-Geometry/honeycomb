/-
  C07 — "all threads terminate without … deadlock", at LOCK granularity.

  `fast-stm`'s `Transaction::commit` walks `self.vars`, a `BTreeMap` keyed by the address of the
  variable's control block: every thread takes its locks in ONE global order.  In the model
  (Model/StmProtoB.lean) this is the instance `ord := ordBy rank` of the lock-order parameter,
  for an injective `rank : Var → Nat`.  For that instance:

    * `LockOrd` — inside `commit()` the variables still to lock are sorted and every variable
      already held ranks below all of them — is an invariant (`stepO_lockOrd`, `exec_lockOrd`);
    * in every reachable state in which some thread still has a transaction to run, some such
      thread is NOT waiting for a lock (`C07_no_deadlock_B`): the holder of the lock a blocked
      thread waits for is itself inside `commit()`, and if it is blocked too it waits for a
      variable of strictly larger rank; ranks of awaited variables are bounded, so the chain ends
      in a thread that can move.

  What this does not say (named in the evidence): termination of the retry loop under a fair
  scheduler (livelock freedom), and the behaviour of parking_lot's lock queues (a reader queued
  behind a waiting writer) — both are runtime behaviour outside the protocol model; the schedule
  explorer on the real code (harness-sched) reports any schedule that stops making progress.
-/
import Honeycomb.Props.C07B


set_option linter.unusedSectionVars false

namespace HC.C07Live
open HC HC.Proto HC.ProtoB HC.C07B

variable {Var Val ε α : Type} [DecidableEq Var] [DecidableEq α]

/-- insertion of `a` into a list sorted along `rank` -/
def ins (rank : Var → Nat) (a : Var) : List Var → List Var
  | [] => [a]
  | b :: l => if rank a ≤ rank b then a :: b :: l else b :: ins rank a l

/-- the lock order of the real code: the variables of the log sorted along `rank` (the address of
    the control block); insertion sort, so that it computes by structural recursion -/
def ordBy (rank : Var → Nat) (l : List Var) : List Var := l.foldr (ins rank) []

theorem mem_ins (rank : Var → Nat) (a x : Var) (l : List Var) : x ∈ ins rank a l ↔ x = a ∨ x ∈ l := by
  induction l with
  | nil => simp [ins]
  | cons b l ih =>
      unfold ins
      split
      · simp
      · simp only [List.mem_cons, ih]
        exact or_left_comm

theorem sorted_ins (rank : Var → Nat) (a : Var) (l : List Var)
    (h : l.Pairwise (fun a b => rank a ≤ rank b)) : (ins rank a l).Pairwise (fun a b => rank a ≤ rank b) := by
  induction l with
  | nil => simp [ins]
  | cons b l ih =>
      unfold ins
      obtain ⟨hb, hl⟩ := List.pairwise_cons.1 h
      split
      · rename_i hab
        refine List.pairwise_cons.2 ⟨?_, h⟩
        intro x hx
        rcases List.mem_cons.1 hx with rfl | hx
        · exact hab
        · have := hb x hx; omega
      · rename_i hab
        refine List.pairwise_cons.2 ⟨?_, ih hl⟩
        intro x hx
        rcases (mem_ins rank a x l).1 hx with rfl | hx
        · omega
        · exact hb x hx

theorem mem_ordBy (rank : Var → Nat) (l : List Var) (v : Var) (h : v ∈ l) : v ∈ ordBy rank l := by
  induction l with
  | nil => cases h
  | cons b l ih =>
      show v ∈ ins rank b (ordBy rank l)
      rw [mem_ins]
      rcases List.mem_cons.1 h with rfl | h
      · exact Or.inl rfl
      · exact Or.inr (ih h)

theorem sorted_ordBy (rank : Var → Nat) (l : List Var) :
    (ordBy rank l).Pairwise (fun a b => rank a ≤ rank b) := by
  induction l with
  | nil => exact List.Pairwise.nil
  | cons b l ih => exact sorted_ins rank b _ ih

/-- safety holds for this order (it loses no variable) -/
theorem C07_serializable_sorted (rank : Var → Nat) (init : Var → Val)
    (progs : List (List (Prog Var Val ε α))) (sched : List Nat) :
    replay ((SysB.init init progs).exec (ordBy rank) sched).commits init =
      some (vals ((SysB.init init progs).exec (ordBy rank) sched).store) :=
  C07_serializable_B (ordBy rank) (mem_ordBy rank) init progs sched

/-! ## the lock-order invariant -/

/-- thread `u` inside `commit()`: it still has a transaction to run, the variables still to lock
    are sorted, and what it holds ranks below all of them -/
def Good (rank : Var → Nat) (u : ThreadB Var Val ε α) : Prop :=
  ∀ todo held, u.ph = some (todo, held) →
    u.th.todo ≠ [] ∧ todo.Pairwise (fun a b => rank a ≤ rank b) ∧ ∀ h ∈ held, ∀ t ∈ todo, rank h ≤ rank t

def LockOrd (rank : Var → Nat) (s : SysB Var Val ε α) : Prop := ∀ u ∈ s.threads, Good rank u

theorem good_none (rank : Var → Nat) (t : Thread Var Val ε α) :
    Good rank ({ th := t, ph := none } : ThreadB Var Val ε α) := by
  intro todo held hp; cases hp

theorem lockOrd_set {rank : Var → Nat} {s : SysB Var Val ε α} (h : LockOrd rank s) (i : Nat)
    (tb' : ThreadB Var Val ε α) (hg : Good rank tb') (st : VStore Var Val)
    (cs : List (Nat × Prog Var Val ε α × α)) :
    LockOrd rank { store := st, threads := s.threads.set i tb', commits := cs } := by
  intro u hu
  rcases List.mem_or_eq_of_mem_set hu with hu | rfl
  · exact h u hu
  · exact hg

theorem stepO_lockOrd (rank : Var → Nat) (s : SysB Var Val ε α) (i : Nat) (h : LockOrd rank s) :
    LockOrd rank (s.step (ordBy rank) i) := by
  have hc := step_cases (ordBy rank) s i
  generalize s.step (ordBy rank) i = s' at hc ⊢
  cases hc with
  | idle => exact h
  | enter hti htd hph hpc =>
      refine lockOrd_set h i _ (fun todo held hp => ?_) _ _
      simp only [Option.some.injEq, Prod.mk.injEq] at hp
      obtain ⟨rfl, rfl⟩ := hp
      exact ⟨htd, sorted_ordBy rank _, fun x hx => by cases hx⟩
  | astep hti hph hnr => exact lockOrd_set h i _ (good_none rank _) _ _
  | restart hti => exact lockOrd_set h i _ (good_none rank _) _ _
  | commit hti hph htd hpc => exact lockOrd_set h i _ (good_none rank _) _ _
  | skip hti hph hc =>
      obtain ⟨hne, hsorted, hlow⟩ := h _ (List.mem_of_getElem? hti) _ _ hph
      refine lockOrd_set h i _ (fun todo' held' hp => ?_) _ _
      simp only [Option.some.injEq, Prod.mk.injEq] at hp
      obtain ⟨rfl, rfl⟩ := hp
      exact ⟨hne, (List.pairwise_cons.1 hsorted).2, fun x hx t ht => hlow x hx t (List.mem_cons_of_mem _ ht)⟩
  | lock hti hph hv hf =>
      obtain ⟨hne, hsorted, hlow⟩ := h _ (List.mem_of_getElem? hti) _ _ hph
      refine lockOrd_set h i _ (fun todo' held' hp => ?_) _ _
      simp only [Option.some.injEq, Prod.mk.injEq] at hp
      obtain ⟨rfl, rfl⟩ := hp
      refine ⟨hne, (List.pairwise_cons.1 hsorted).2, fun x hx t ht => ?_⟩
      rcases List.mem_cons.1 hx with rfl | hx
      · exact (List.pairwise_cons.1 hsorted).1 t ht
      · exact hlow x hx t (List.mem_cons_of_mem _ ht)

theorem exec_lockOrd (rank : Var → Nat) (sched : List Nat) :
    ∀ s : SysB Var Val ε α, LockOrd rank s → LockOrd rank (s.exec (ordBy rank) sched) :=
  C07.foldl_keeps (stepO_lockOrd rank) sched

theorem init_lockOrd (rank : Var → Nat) (init : Var → Val) (progs : List (List (Prog Var Val ε α))) :
    LockOrd rank (SysB.init init progs) := by
  intro u hu
  simp only [SysB.init, List.mem_map] at hu
  obtain ⟨ps, _, rfl⟩ := hu
  intro todo held hp; cases hp

/-! ## who waits for what -/

/-- the variable whose lock thread `i` is waiting for: exactly the cases in which `SysB.step`
    answers "blocked" (a no-op) -/
def awaits (s : SysB Var Val ε α) (i : Nat) : Option Var :=
  match s.threads[i]? with
  | none => none
  | some tb =>
    match tb.th.todo with
    | [] => none
    | _ :: _ =>
    match tb.ph with
    | none =>
        match tb.th.att.pc with
        | .read v _ =>
            if (tb.th.att.toLog.lastWrite v).isNone && (tb.th.att.toLog.firstRead v).isNone
                && otherWriteHolds s i v then some v else none
        | _ => none
    | some (v :: _, held) =>
        if held.contains v then none
        else if wrote tb.th v then (if otherHolds s i v then some v else none)
        else (if otherWriteHolds s i v then some v else none)
    | some ([], _) => none

/-- thread `i` still has a transaction to run -/
def unfinished (s : SysB Var Val ε α) (i : Nat) : Prop :=
  ∃ tb, s.threads[i]? = some tb ∧ tb.th.todo ≠ []

theorem otherHolds_true {s : SysB Var Val ε α} {i : Nat} {v : Var} (h : otherHolds s i v = true) :
    ∃ j u, j ≠ i ∧ s.threads[j]? = some u ∧ heldBy u v = true := by
  unfold otherHolds at h
  rw [List.any_eq_true] at h
  obtain ⟨j, _, hj⟩ := h
  simp only [Bool.and_eq_true, ne_eq, decide_eq_true_eq] at hj
  match hu : s.threads[j]? with
  | none => rw [hu] at hj; exact absurd hj.2 (by simp)
  | some u => rw [hu] at hj; exact ⟨j, u, by simpa using hj.1, hu, hj.2⟩

theorem otherWriteHolds_true {s : SysB Var Val ε α} {i : Nat} {v : Var} (h : otherWriteHolds s i v = true) :
    ∃ j u, j ≠ i ∧ s.threads[j]? = some u ∧ heldBy u v = true := by
  unfold otherWriteHolds at h
  rw [List.any_eq_true] at h
  obtain ⟨j, _, hj⟩ := h
  simp only [Bool.and_eq_true, ne_eq, decide_eq_true_eq] at hj
  match hu : s.threads[j]? with
  | none => rw [hu] at hj; exact absurd hj.2 (by simp)
  | some u =>
      rw [hu] at hj
      simp only [Bool.and_eq_true] at hj
      exact ⟨j, u, by simpa using hj.1, hu, hj.2.1⟩

theorem awaits_cases {s : SysB Var Val ε α} {i : Nat} {v : Var} (h : awaits s i = some v) :
    ∃ tb, s.threads[i]? = some tb ∧
      ((tb.ph = none ∧ otherWriteHolds s i v = true) ∨
       ∃ todo held, tb.ph = some (v :: todo, held) ∧ ¬ held.contains v = true ∧
         (otherHolds s i v = true ∨ otherWriteHolds s i v = true)) := by
  unfold awaits at h
  split at h
  · cases h
  next tb hti =>
    refine ⟨tb, hti, ?_⟩
    split at h
    · cases h
    · split at h
      next hph =>
        split at h
        · split at h
          next hc =>
            obtain rfl := Option.some.inj h
            simp only [Bool.and_eq_true] at hc
            exact Or.inl ⟨hph, hc.2⟩
          · cases h
        · cases h
      next w todo held hph =>
        split at h
        · cases h
        next hc =>
          split at h
          · split at h
            next ho =>
              obtain rfl := Option.some.inj h
              exact Or.inr ⟨todo, held, hph, hc, Or.inl ho⟩
            · cases h
          · split at h
            next ho =>
              obtain rfl := Option.some.inj h
              exact Or.inr ⟨todo, held, hph, hc, Or.inr ho⟩
            · cases h
      · cases h

/-- a thread that waits for `v` waits for a lock held by ANOTHER thread -/
theorem awaits_held {s : SysB Var Val ε α} {i : Nat} {v : Var} (h : awaits s i = some v) :
    ∃ j u, j ≠ i ∧ s.threads[j]? = some u ∧ heldBy u v = true := by
  obtain ⟨_, _, ⟨_, ho⟩ | ⟨_, _, _, _, ho | ho⟩⟩ := awaits_cases h
  · exact otherWriteHolds_true ho
  · exact otherHolds_true ho
  · exact otherWriteHolds_true ho

/-- a thread inside `commit()` that waits for `w` holds only variables of strictly smaller rank -/
theorem awaits_rank {rank : Var → Nat} (hinj : ∀ a b, rank a = rank b → a = b)
    {s : SysB Var Val ε α} (hord : LockOrd rank s) {j : Nat} {u : ThreadB Var Val ε α}
    (hj : s.threads[j]? = some u) {v w : Var} (hv : heldBy u v = true) (hw : awaits s j = some w) :
    rank v < rank w := by
  obtain ⟨u', hj', hc⟩ := awaits_cases hw
  obtain rfl : u = u' := Option.some.inj (hj.symm.trans hj')
  rcases hc with ⟨hph, _⟩ | ⟨todo, held, hph, hc, _⟩
  · simp [heldBy, hph] at hv
  · have hvh : v ∈ held := by simpa [heldBy, hph] using hv
    have hle := (hord u (List.mem_of_getElem? hj) _ _ hph).2.2 v hvh w List.mem_cons_self
    have hne : rank v ≠ rank w := fun hh => hc (by rw [← hinj _ _ hh]; simpa using hvh)
    omega

theorem exists_bound (f : Nat → Nat) (n : Nat) : ∃ B, ∀ j, j < n → f j ≤ B := by
  induction n with
  | zero => exact ⟨0, fun j hj => absurd hj (Nat.not_lt_zero _)⟩
  | succ n ih =>
      obtain ⟨B, hB⟩ := ih
      refine ⟨max B (f n), ?_⟩
      intro j hj
      by_cases h : j < n
      · have := hB j h; omega
      · have : j = n := by omega
        subst this; omega

/-- **C07, no deadlock (lock granularity)**: in every state satisfying the lock-order invariant in
    which some thread still has a transaction to run, some such thread is not waiting for a lock -/
theorem no_deadlock_of_lockOrd {rank : Var → Nat} (hinj : ∀ a b, rank a = rank b → a = b)
    (s : SysB Var Val ε α) (hord : LockOrd rank s) (i : Nat) (hi : unfinished s i) :
    ∃ j, unfinished s j ∧ awaits s j = none := by
  -- a bound on the ranks of all awaited variables
  obtain ⟨B, hB⟩ := exists_bound (fun j => match awaits s j with | some w => rank w | none => 0) s.threads.length
  have hBw : ∀ j w, awaits s j = some w → rank w ≤ B := by
    intro j w hw
    have hlt : j < s.threads.length := by
      unfold awaits at hw
      match hj : s.threads[j]? with
      | none => rw [hj] at hw; cases hw
      | some u => exact (List.getElem?_eq_some_iff.1 hj).1
    have := hB j hlt
    simp only [hw] at this
    exact this
  -- the holder of an awaited lock is unfinished, and if it waits too, then for a larger rank
  have next : ∀ j w, awaits s j = some w → ∃ k, unfinished s k ∧
      (awaits s k = none ∨ ∃ w2, awaits s k = some w2 ∧ rank w < rank w2) := by
    intro j w hw
    obtain ⟨k, u, _, hk, hheld⟩ := awaits_held hw
    refine ⟨k, ⟨u, hk, ?_⟩, ?_⟩
    · match hph : u.ph with
      | none => simp [heldBy, hph] at hheld
      | some (todo, held) => exact (hord u (List.mem_of_getElem? hk) _ _ hph).1
    · match hk2 : awaits s k with
      | none => exact Or.inl rfl
      | some w2 => exact Or.inr ⟨w2, rfl, awaits_rank hinj hord hk hheld hk2⟩
  -- the chain argument, by induction on the distance of the awaited rank to the bound
  have chain : ∀ n j w, awaits s j = some w → B - rank w ≤ n →
      ∃ k, unfinished s k ∧ awaits s k = none := by
    intro n
    induction n with
    | zero =>
        intro j w hw hn
        obtain ⟨k, huf, hk2 | ⟨w2, hk2, hlt⟩⟩ := next j w hw
        · exact ⟨k, huf, hk2⟩
        · have := hBw k w2 hk2
          omega
    | succ n ih =>
        intro j w hw hn
        obtain ⟨k, huf, hk2 | ⟨w2, hk2, hlt⟩⟩ := next j w hw
        · exact ⟨k, huf, hk2⟩
        · have := hBw k w2 hk2
          exact ih k w2 hk2 (by omega)
  match hw : awaits s i with
  | none => exact ⟨i, hi, hw⟩
  | some w => exact chain (B - rank w) i w hw (Nat.le_refl _)

/-- **C07, no deadlock, every reachable state**: whatever the programs, the schedule and the
    (injective) address order, as long as some thread has a transaction left, some such thread is
    not blocked on a lock -/
theorem C07_no_deadlock_B (rank : Var → Nat) (hinj : ∀ a b, rank a = rank b → a = b)
    (init : Var → Val) (progs : List (List (Prog Var Val ε α))) (sched : List Nat) (i : Nat)
    (hi : unfinished ((SysB.init init progs).exec (ordBy rank) sched) i) :
    ∃ j, unfinished ((SysB.init init progs).exec (ordBy rank) sched) j ∧
      awaits ((SysB.init init progs).exec (ordBy rank) sched) j = none :=
  no_deadlock_of_lockOrd hinj _ (exec_lockOrd rank sched _ (init_lockOrd rank init progs)) i hi

/-- a thread that is not waiting and sits at the end of `commit()` really commits: its program
    counter is a `ret` (safety invariant), so the step publishes and records the commit -/
theorem C07_commit_step_is_effective (ord : List Var → List Var) (hord : ∀ l v, v ∈ l → v ∈ ord l)
    (init : Var → Val) (progs : List (List (Prog Var Val ε α))) (sched : List Nat)
    (i : Nat) (tb : ThreadB Var Val ε α) (held : List Var)
    (hi : ((SysB.init init progs).exec ord sched).threads[i]? = some tb) (hph : tb.ph = some ([], held)) :
    ∃ a, tb.th.att.pc = .ret a :=
  ((execB_inv ord hord init sched _ (initB_inv init progs)).com i tb hi _ _ hph).pc

/-! ## non-vacuity -/

/-- the lock order matters: with the SAME two programs (x := 1; y := 1 written in opposite orders)
    and the schedule that lets each thread take its first lock, the unsorted protocol (`ord := id`,
    each thread locks in the order of its own log) reaches a state in which BOTH threads wait —
    a deadlock — while the sorted protocol does not -/
def wxy : Prog Nat Nat Unit Unit := .write 0 1 (.write 1 1 (.ret ()))
def wyx : Prog Nat Nat Unit Unit := .write 1 1 (.write 0 1 (.ret ()))

def dlSched : List Nat := [0, 0, 1, 1, 0, 1, 0, 1]

example : awaits ((SysB.init (fun _ => (0 : Nat)) [[wxy], [wyx]]).exec id dlSched) 0 ≠ none ∧
    awaits ((SysB.init (fun _ => (0 : Nat)) [[wxy], [wyx]]).exec id dlSched) 1 ≠ none := by decide +kernel

example : awaits ((SysB.init (fun _ => (0 : Nat)) [[wxy], [wyx]]).exec (ordBy id) dlSched) 0 = none := by
  decide +kernel

/-- and blocking does happen in the sorted protocol: thread 1 waits for the lock thread 0 holds -/
example : awaits ((SysB.init (fun _ => (0 : Nat)) [[wxy], [wyx]]).exec (ordBy id) dlSched) 1 = some 0 := by
  decide +kernel

end HC.C07Live

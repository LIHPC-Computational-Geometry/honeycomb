/-
  C20, second part — the 3-D clauses and the normals.

  Hypotheses, where named: `WF 4 m` (C02's well-formedness), `ClosedFaces m` (every in-use dart has
  a β1 image), `Mirror m` (`Model/WF.lean`; preserved by every editing call, C02), `Sided m` (a face
  is 3-linked as a whole: `β3 d = 0 ↔ β3 (β1 d) = 0` — what `three_link` / `three_unlink` produce).

  PROVED
  * `walkB_cycle`                  (any dimension) the `Custom(&[1])` walk of an in-use dart on a closed
                                   face is its β1-cycle
  * `C20_3d_dart_end`              (WF, ClosedFaces) `end` of a dart entity is the row of
                                   `vertex_id(β1 d)` — for the darts of BOTH sides of a face
  * `C20_3d_face_corners`          (WF, ClosedFaces) the corner list of face `f` is
                                   `index_map ∘ vertex_id` over the β1-cycle `f, β1 f, …`
  * `C20_3d_dart_entities_of_face` (WF, ClosedFaces) the dart entities are, face after face, the
                                   β1-cycle of the face id followed — when `β3 f ≠ 0` — by the β1-cycle
                                   of `β3 f`, all tagged with `f`
  * `C20_3d_second_side_is_mirror` (+ Mirror, Sided) the second cycle is the β3-image of the first, in
                                   reverse order: `β1^i (β3 f) = β3 (β0^i f)`; same length
  * `C20_3d_face_darts_are_the_face_orbit`
                                   (+ Mirror, Sided) the darts that get an entity tagged `f` are exactly
                                   the non-null darts reachable from `f` through `β1, β0, β3`
                                   (the 3-D face orbit), i.e. one entity per dart of the face …
  * `C20_3d_face_darts_nodup`      … and none twice, provided `β3 f` is not on the β1-cycle of `f`
                                   (`C20_3d_self_glued_face_twice`: otherwise every dart appears TWICE)
  * `faceId3_min`, `run_faceId3_eq`, `mem_iterFaces3_iff`
                                   (+ Mirror, Sided) `face_id_transac` of a 3-map succeeds and returns the
                                   smallest dart of the two-sided face; `iter_faces` yields exactly these
                                   minima.  The darts tagged `f` are C03's face cell of `f`
                                   (`mem_faceDarts_iff`), so these are `C03_faceId3_min` and
                                   `C03_iterFaces3_mem` of Props/C03b.lean read on `faceDarts`
  * `C20_3d_each_dart_once`        (+ Mirror, Sided, NoSelfGlue) every in-use dart has exactly one dart
                                   entity and no other dart has one
  * `C20_3d_no_panic`              (WF, ClosedFaces, NoLoops, Mirror, Sided, Embedded3) the 3-D start-up
                                   system does not panic: `vertex_id` / `edge_id` / `volume_id` succeed on
                                   every well-formed 3-map (`C03_vertexId3_min` …, Props/C03b.lean), every
                                   lookup in `index_map` succeeds
  * `C20_face_normal_keys`, `C20_3d_face_normal_keys`, `C20_3d_volume_normal_keys`
                                   the keys of the two normal resources
  * normals, exact part over ℚ (see the section): `C20_D20a_zero_normal_iff`,
    `C20_D20a_straight_corner`, `C20_3d_normal_nonzero`, `C20_2d_normal_nonzero_iff`,
    `C20_plane_normal_of_scene`

  The 3-D orbits, identifiers and iterators are those of Props/C03b.lean (`orb3`, `cellId3`), as the 2-D ones of
  Props/C20.lean are those of Props/C03.lean.

  NOT PROVED here: see SPEC["not_proved"] of tools/props/c20.py.
-/
import Honeycomb.Props.C20
import Honeycomb.Props.C03b
import Mathlib.Tactic.Ring
import Mathlib.Tactic.Linarith
import Mathlib.Tactic.FieldSimp


namespace HC.C20
open HC

/-! ## the walk lemma in any dimension -/

/-- the BFS over the single image `β1`, from `d` (what `orbit(Custom(&[1]), d)` computes) -/
def walkB {X : Type} (m : Map X) (d : Nat) : List Nat :=
  bfsPure (fun x => [m.β 1 x]) (m.n + 1) [d] [0, d] []

theorem walkB_cycle {X : Type} {nb : Nat} {m : Map X} (hwf : WF nb m) (h2 : 2 ≤ nb)
    (hcl : ClosedFaces m) {d : Nat} (hd : InUse m d) :
    walkB m d = List.iterate (m.β 1) d (walkB m d).length ∧ 0 < (walkB m d).length ∧
    (walkB m d).Nodup ∧ (m.β 1)^[(walkB m d).length] d = d ∧ ∀ x, x ∈ walkB m d → InUse m x :=
  bfs1_cycle hwf h2 hcl hd rfl

theorem walkB_succ {X : Type} {nb : Nat} {m : Map X} (hwf : WF nb m) (h2 : 2 ≤ nb)
    (hcl : ClosedFaces m) {d : Nat} (hd : InUse m d) {i x y : Nat} (hx : (walkB m d)[i]? = some x)
    (hy : (walkB m d)[(i + 1) % (walkB m d).length]? = some y) : y = m.β 1 x :=
  have h := walkB_cycle hwf h2 hcl hd
  iterate_cycle_succ h.1 h.2.2.2.1 hx hy

/-- number of darts of the β1-cycle of `d` -/
def periodB {X : Type} (m : Map X) (d : Nat) : Nat := (walkB m d).length

/-- the β1-cycle of `d`, as a list starting at `d` -/
def cycleB {X : Type} (m : Map X) (d : Nat) : List Nat := List.iterate (m.β 1) d (periodB m d)

theorem cycleB_eq {X : Type} {nb : Nat} {m : Map X} (hwf : WF nb m) (h2 : 2 ≤ nb)
    (hcl : ClosedFaces m) {d : Nat} (hd : InUse m d) : walkB m d = cycleB m d :=
  (walkB_cycle hwf h2 hcl hd).1

/-- `periodB m d` is the least positive period of `β1` at `d`; the cycle's darts are in use -/
theorem periodB_spec {X : Type} {nb : Nat} {m : Map X} (hwf : WF nb m) (h2 : 2 ≤ nb)
    (hcl : ClosedFaces m) {d : Nat} (hd : InUse m d) :
    0 < periodB m d ∧ (m.β 1)^[periodB m d] d = d ∧ (cycleB m d).Nodup ∧
    ∀ x, x ∈ cycleB m d → InUse m x := by
  obtain ⟨hit, hpos, hnd, hcyc, hin⟩ := walkB_cycle hwf h2 hcl hd
  unfold cycleB periodB
  exact ⟨hpos, hcyc, by rw [← hit]; exact hnd, by rw [← hit]; exact hin⟩

theorem cycleB_inUse {X : Type} {nb : Nat} {m : Map X} (hwf : WF nb m) (h2 : 2 ≤ nb)
    (hcl : ClosedFaces m) {d : Nat} (hd : InUse m d) : ∀ x, x ∈ cycleB m d → InUse m x :=
  (periodB_spec hwf h2 hcl hd).2.2.2

/-! ## 3-D: what the reader computes on a well-formed map -/

section ThreeD
variable {m : Map Val} {sc : Scene}

theorem walk3_eq (hwf : WF 4 m) {d : Nat} (hd0 : d ≠ 0) (hdn : d < m.n) :
    (reader3 m).walk d = some (walkB m d) :=
  evalP_of_run (C03.C03_orbit3_spec hwf (pol := .custom [1]) (by decide) hd0 hdn).1

theorem walk3_zero (hwf : WF 4 m) : (reader3 m).walk 0 = some [0] := by
  have h0 := C03.run_gen3 hwf (pol := .custom [1]) (by decide) hwf.npos
  have hb : m.β 1 0 = 0 := hwf.null 1 (by omega)
  show evalP (orbit3 m.n (.custom [1]) 0) m = some [0]
  apply evalP_of_run (m' := m)
  unfold orbit3 orbitWith
  rw [bfs]
  show run ((gen3 (.custom [1]) 0).bind _) m = _
  rw [run_bind, h0]
  simp only [C03.g3, List.map, hb, List.foldl_cons, List.foldl_nil, bfsCheck]
  cases m.n <;> simp [bfs]

theorem side2_eq (hwf : WF 4 m) (hcl : ClosedFaces m) {f : Nat} (hf : InUse m f) :
    (reader3 m).side2 f = some (if m.β 3 f = 0 then [] else cycleB m (m.β 3 f)) := by
  show ((reader3 m).walk (m.β 3 f)).map (fun w => w.filter (· ≠ 0)) = _
  by_cases h3 : m.β 3 f = 0
  · rw [h3, walk3_zero hwf, if_pos rfl]; rfl
  · have hu := C01.inUse_image hwf (by omega) (by omega) hf.2.1 h3
    rw [walk3_eq hwf hu.1 hu.2.1, if_neg h3, cycleB_eq hwf (by omega) hcl hu]
    simp only [Option.map_some, Option.some.injEq]
    rw [List.filter_eq_self]
    intro x hx
    have := (cycleB_inUse hwf (by omega) hcl hu x hx).1
    simpa using this

theorem mem_iterFaces3_inUse {f : Nat} (hf : f ∈ iterFaces3 m) : InUse m f := C03.mem_iterCells_inUse hf

/-! ## C20, 3-D -/

/-- **C20 (3-D), dart entity: end** (closed faces): for the darts of both sides of a face, `end` is
    `index_map` of the vertex id of the successor `β1 d` — the table row with its coordinates -/
theorem C20_3d_dart_end (hwf : WF 4 m) (hcl : ClosedFaces m) (h : extract3 m = some sc)
    {e : DartEnt} (he : e ∈ sc.darts) :
    ∃ v' x, evalP (vertexId3 m.n (m.β 1 e.d)) m = some v' ∧
      rowOf (iterVertices3 m) v' = some e.t ∧ sc.table[e.t]? = some x ∧ m.att 0 v' = some x := by
  obtain ⟨sc0, k, h0, _, e1, _, _, _, e5, _⟩ := extract3_inv h
  rw [e5] at he
  obtain ⟨h1, _, _, _, _, w, w2, hw, hw2, hcase⟩ := dart_entity (R := reader3 m) h0 he
  have hf := mem_iterFaces3_inUse h1
  have hw' : w = walkB m e.f := Option.some.inj (hw.symm.trans (walk3_eq hwf hf.1 hf.2.1))
  have hw2' : w2 = if m.β 3 e.f = 0 then [] else cycleB m (m.β 3 e.f) := Option.some.inj (hw2.symm.trans (side2_eq hwf hcl hf))
  rw [e1]
  rcases hcase with ⟨i, d', k1, k2, k3⟩ | ⟨i, d', k1, k2, k3⟩
  · subst hw'
    exact walkB_succ hwf (by omega) hcl hf k1 k2 ▸ row_of_dart3 h0 k3
  · by_cases h3 : m.β 3 e.f = 0
    · rw [if_pos h3] at hw2'; subst hw2'; simp at k1
    · rw [if_neg h3] at hw2'
      have hu := C01.inUse_image hwf (by omega) (by omega) hf.2.1 h3
      rw [← cycleB_eq hwf (by omega) hcl hu] at hw2'
      subst hw2'
      exact walkB_succ hwf (by omega) hcl hu k1 k2 ▸ row_of_dart3 h0 k3

/-- **C20 (3-D), face entities** (closed faces): the corner list of face `f` has as many entries as
    the β1-cycle of `f` has darts (`β1^k f = f`, the `k` darts distinct, `k ≥ 2`), and its `i`-th
    entry is `index_map` of the vertex id of `β1^i f` — the table row with that corner's coordinates -/
theorem C20_3d_face_corners (hwf : WF 4 m) (hcl : ClosedFaces m) (h : extract3 m = some sc) :
    sc.faces.map (·.1) = iterFaces3 m ∧
    ∀ f rows, (f, rows) ∈ sc.faces →
      2 ≤ rows.length ∧ (m.β 1)^[rows.length] f = f ∧ (List.iterate (m.β 1) f rows.length).Nodup ∧
      ∀ i r, rows[i]? = some r →
        ∃ v x, evalP (vertexId3 m.n ((m.β 1)^[i] f)) m = some v ∧
          rowOf (iterVertices3 m) v = some r ∧ sc.table[r]? = some x ∧ m.att 0 v = some x := by
  obtain ⟨sc0, k, h0, _, e1, _, _, e4, _⟩ := extract3_inv h
  obtain ⟨h1, h2⟩ := face_corners_of_cycle (s := m.β 1) h0 fun f hf =>
    have hfu := mem_iterFaces3_inUse hf
    have hc := walkB_cycle hwf (by omega) hcl hfu
    ⟨_, walk3_eq hwf hfu.1 hfu.2.1, hc.1, hc.2.2.1, hc.2.2.2.1⟩
  rw [e4, e1]
  refine ⟨h1, fun f rows hm => ?_⟩
  obtain ⟨hlen, hc, hnd, hrow⟩ := h2 f rows hm
  exact ⟨hlen, hc, hnd, fun i r hr => row_of_dart3 h0 (hrow i r hr)⟩

/-- the darts that get an entity tagged with face `f`: the β1-cycle of `f`, then that of `β3 f` -/
def faceDarts (m : Map Val) (f : Nat) : List Nat :=
  cycleB m f ++ (if m.β 3 f = 0 then [] else cycleB m (m.β 3 f))

/-- **C20 (3-D), dart entities, face by face** (closed faces): the dart entities are, in spawn order
    and face after face in `iter_faces` order, the darts of the β1-cycle of the face id `f` followed —
    when `f` is 3-linked — by the darts of the β1-cycle of `β3 f`, all tagged with `f` -/
theorem C20_3d_dart_entities_of_face (hwf : WF 4 m) (hcl : ClosedFaces m)
    (h : extract3 m = some sc) :
    sc.darts.map (fun e => (e.f, e.d)) =
      (iterFaces3 m).flatMap (fun f => (faceDarts m f).map (fun d => (f, d))) := by
  obtain ⟨sc0, k, h0, _, _, _, _, _, e5, _⟩ := extract3_inv h
  rw [e5, dart_entities_of_walks (W1 := walkB m)
    (W2 := fun f => if m.β 3 f = 0 then [] else cycleB m (m.β 3 f)) h0 fun f hf =>
      ⟨walk3_eq hwf (mem_iterFaces3_inUse hf).1 (mem_iterFaces3_inUse hf).2.1,
        side2_eq hwf hcl (mem_iterFaces3_inUse hf)⟩]
  refine List.flatMap_congr fun f hf => ?_
  rw [cycleB_eq hwf (by omega) hcl (mem_iterFaces3_inUse hf)]
  rfl

end ThreeD

/-! ## cycles of β1: membership, symmetry, closure under β1 and β0 -/

section Cycles
variable {X : Type} {nb : Nat} {m : Map X}

theorem reach_iterate (m : Map X) (x : Nat) : ∀ j, Reach (fun y => [m.β 1 y]) x ((m.β 1)^[j] x) := by
  intro j
  induction j with
  | zero => exact .refl _
  | succ j ih =>
      rw [Function.iterate_succ_apply']
      exact ih.tail (by simp)

theorem mem_cycleB_iff (hwf : WF nb m) (h2 : 2 ≤ nb) (hcl : ClosedFaces m) {d : Nat}
    (hd : InUse m d) (x : Nat) :
    x ∈ cycleB m d ↔ x ≠ 0 ∧ Reach (fun y => [m.β 1 y]) d x := by
  rw [← cycleB_eq hwf h2 hcl hd]
  exact (bfsPure_spec (step1_null hwf h2) (step1_range hwf h2) hd.1 hd.2.1).2.2.2.1 x

theorem mem_cycleB_iterate (hwf : WF nb m) (h2 : 2 ≤ nb) (hcl : ClosedFaces m) {d : Nat}
    (hd : InUse m d) (j : Nat) : (m.β 1)^[j] d ∈ cycleB m d := by
  rw [mem_cycleB_iff hwf h2 hcl hd]
  refine ⟨?_, reach_iterate m d j⟩
  induction j with
  | zero => exact hd.1
  | succ j ih =>
      rw [Function.iterate_succ_apply']
      have := reach1_inUse hwf h2 hd (reach_iterate m d j) ih
      exact hcl _ this.2.1 this.1 this.2.2

theorem self_mem_cycleB (hwf : WF nb m) (h2 : 2 ≤ nb) (hcl : ClosedFaces m) {d : Nat}
    (hd : InUse m d) : d ∈ cycleB m d := mem_cycleB_iterate hwf h2 hcl hd 0

theorem reach_back (hwf : WF nb m) (h2 : 2 ≤ nb) (hcl : ClosedFaces m) {d x : Nat}
    (hd : InUse m d) (hx : x ∈ cycleB m d) : Reach (fun y => [m.β 1 y]) x d := by
  obtain ⟨hpos, hcyc, _, _⟩ := periodB_spec hwf h2 hcl hd
  unfold cycleB at hx
  rw [List.mem_iterate] at hx
  obtain ⟨j, hj, rfl⟩ := hx
  have : (m.β 1)^[periodB m d - j] ((m.β 1)^[j] d) = d := by
    rw [← Function.iterate_add_apply, show periodB m d - j + j = periodB m d by omega, hcyc]
  have r := reach_iterate m ((m.β 1)^[j] d) (periodB m d - j)
  rw [this] at r
  exact r

theorem cycleB_congr (hwf : WF nb m) (h2 : 2 ≤ nb) (hcl : ClosedFaces m) {d x : Nat}
    (hd : InUse m d) (hx : x ∈ cycleB m d) (y : Nat) : y ∈ cycleB m x ↔ y ∈ cycleB m d := by
  have hxu := cycleB_inUse hwf h2 hcl hd x hx
  rw [mem_cycleB_iff hwf h2 hcl hxu, mem_cycleB_iff hwf h2 hcl hd]
  have h1 := ((mem_cycleB_iff hwf h2 hcl hd x).1 hx).2
  have h3 := reach_back hwf h2 hcl hd hx
  exact ⟨fun ⟨a, b⟩ => ⟨a, h1.trans b⟩, fun ⟨a, b⟩ => ⟨a, h3.trans b⟩⟩

theorem cycleB_closed (hwf : WF nb m) (h2 : 2 ≤ nb) (hcl : ClosedFaces m) {d x : Nat}
    (hd : InUse m d) (hx : x ∈ cycleB m d) :
    m.β 1 x ∈ cycleB m d ∧ m.β 0 x ∈ cycleB m d ∧ m.β 0 x ≠ 0 := by
  obtain ⟨hpos, hcyc, _, hin⟩ := periodB_spec hwf h2 hcl hd
  have hxu := hin x hx
  have h1 : m.β 1 x ∈ cycleB m d := by
    rw [← cycleB_congr hwf h2 hcl hd hx]
    exact mem_cycleB_iterate hwf h2 hcl hxu 1
  -- `β0 x` is the last dart of the cycle of `x`
  obtain ⟨hposx, hcycx, _, hinx⟩ := periodB_spec hwf h2 hcl hxu
  have hlast := mem_cycleB_iterate hwf h2 hcl hxu (periodB m x - 1)
  have hlu := hinx _ hlast
  have e : m.β 1 ((m.β 1)^[periodB m x - 1] x) = x := by
    rw [← Function.iterate_succ_apply' (m.β 1), show (periodB m x - 1).succ = periodB m x by omega, hcycx]
  have e0 : m.β 0 x = (m.β 1)^[periodB m x - 1] x := by
    have := hwf.inv01 _ hlu.2.1 (by rw [e]; exact hxu.1)
    rw [e] at this; exact this
  rw [e0]
  exact ⟨h1, (cycleB_congr hwf h2 hcl hd hx _).1 hlast, hlu.1⟩

theorem b0_iter_b1_iter (hwf : WF nb m) (h2 : 2 ≤ nb) (hcl : ClosedFaces m) :
    ∀ (i z : Nat), InUse m z → (m.β 0)^[i] ((m.β 1)^[i] z) = z := by
  intro i
  induction i with
  | zero => intro z _; rfl
  | succ i ih =>
      intro z hz
      have hw := cycleB_inUse hwf h2 hcl hz _ (mem_cycleB_iterate hwf h2 hcl hz i)
      have hne := hcl _ hw.2.1 hw.1 hw.2.2
      rw [Function.iterate_succ_apply, Function.iterate_succ_apply', hwf.inv01 _ hw.2.1 hne]
      exact ih z hz

theorem b0_iter_mem (hwf : WF nb m) (h2 : 2 ≤ nb) (hcl : ClosedFaces m) {d : Nat} (hd : InUse m d) :
    ∀ i, (m.β 0)^[i] d ∈ cycleB m d := by
  intro i
  induction i with
  | zero => exact self_mem_cycleB hwf h2 hcl hd
  | succ i ih =>
      rw [Function.iterate_succ_apply']
      exact (cycleB_closed hwf h2 hcl hd ih).2.1

end Cycles

/-! ## 3-D: the second side is the mirror image of the first -/

section Mirror3
variable {m : Map Val} {sc : Scene}

theorem sided_cycle (hwf : WF 4 m) (hcl : ClosedFaces m) (hs : Sided m) {f x : Nat} (hf : InUse m f)
    (hx : x ∈ cycleB m f) : m.β 3 x = 0 ↔ m.β 3 f = 0 := by
  unfold cycleB at hx
  rw [List.mem_iterate] at hx
  obtain ⟨j, hj, rfl⟩ := hx
  clear hj
  induction j with
  | zero => rfl
  | succ j ih =>
      rw [Function.iterate_succ_apply']
      have hu := cycleB_inUse hwf (by omega) hcl hf _ (mem_cycleB_iterate hwf (by omega) hcl hf j)
      rw [← hs _ hu.2.1 (hcl _ hu.2.1 hu.1 hu.2.2)]
      exact ih

/-- **C20 (3-D), the second side is the mirror of the first** (closed, mirrored, wholly 3-linked
    faces): walking forward from `β3 f` is walking backward from `f` on the other side,
    `β1^i (β3 f) = β3 (β0^i f)`; hence the darts of the second cycle are exactly the β3-images of the
    darts of the first -/
theorem C20_3d_second_side_is_mirror (hwf : WF 4 m) (hcl : ClosedFaces m) (hM : Mirror m)
    (hs : Sided m) {f : Nat} (hf : InUse m f) (h3 : m.β 3 f ≠ 0) :
    (∀ i, (m.β 1)^[i] (m.β 3 f) = m.β 3 ((m.β 0)^[i] f)) ∧
    ∀ x, x ∈ cycleB m (m.β 3 f) ↔ ∃ y, y ∈ cycleB m f ∧ x = m.β 3 y := by
  have hin := cycleB_inUse hwf (by omega) hcl hf
  have step : ∀ i, (m.β 1)^[i] (m.β 3 f) = m.β 3 ((m.β 0)^[i] f) := by
    intro i
    induction i with
    | zero => rfl
    | succ i ih =>
        have hy := hin _ (b0_iter_mem hwf (by omega) hcl hf i)
        have h3y : m.β 3 ((m.β 0)^[i] f) ≠ 0 := fun e =>
          h3 ((sided_cycle hwf hcl hs hf (b0_iter_mem hwf (by omega) hcl hf i)).1 e)
        rw [Function.iterate_succ_apply', ih, (C03.mirror_bwd hwf ⟨hM, hs⟩ hy.2.1 h3y).1,
          ← Function.iterate_succ_apply' (m.β 0)]
  refine ⟨step, ?_⟩
  have hu3 := C01.inUse_image hwf (by omega) (by omega) hf.2.1 h3
  intro x
  constructor
  · intro hx
    unfold cycleB at hx
    rw [List.mem_iterate] at hx
    obtain ⟨j, _, rfl⟩ := hx
    exact ⟨_, b0_iter_mem hwf (by omega) hcl hf j, step j⟩
  · rintro ⟨y, hy, rfl⟩
    -- `y = β1^j f = β0^(k-j) f`
    obtain ⟨hpos, hcyc, _, _⟩ := periodB_spec hwf (by omega) hcl hf
    have hy' := hy
    unfold cycleB at hy'
    rw [List.mem_iterate] at hy'
    obtain ⟨j, hj, rfl⟩ := hy'
    have e : (m.β 0)^[periodB m f - j] f = (m.β 1)^[j] f := by
      have h1 : (m.β 1)^[periodB m f - j] ((m.β 1)^[j] f) = f := by
        rw [← Function.iterate_add_apply, show periodB m f - j + j = periodB m f by omega, hcyc]
      have := b0_iter_b1_iter hwf (by omega) hcl (periodB m f - j) _ (hin _ hy)
      rw [h1] at this
      exact this
    rw [← e, ← step]
    exact mem_cycleB_iterate hwf (by omega) hcl hu3 _

/-- **C20 (3-D), one entity per dart of the face** (closed, mirrored, wholly 3-linked faces): the
    darts that get an entity tagged `f` are exactly the non-null darts reachable from `f` through
    `β1`, `β0` and `β3` — the 3-D face orbit of `f` -/
theorem C20_3d_face_darts_are_the_face_orbit (hwf : WF 4 m) (hcl : ClosedFaces m) (hM : Mirror m)
    (hs : Sided m) {f : Nat} (hf : InUse m f) (x : Nat) :
    x ∈ faceDarts m f ↔ x ≠ 0 ∧ Reach (fun y => [m.β 1 y, m.β 0 y, m.β 3 y]) f x := by
  have hin := cycleB_inUse hwf (by omega) hcl hf
  have sub : ∀ a b, Reach (fun y => [m.β 1 y]) a b → Reach (fun y => [m.β 1 y, m.β 0 y, m.β 3 y]) a b :=
    fun a b h => h.mono (fun x y hy => by simp only [List.mem_singleton] at hy; simp [hy])
  unfold faceDarts
  rw [List.mem_append]
  constructor
  · rintro (hx | hx)
    · obtain ⟨h0, hr⟩ := (mem_cycleB_iff hwf (by omega) hcl hf x).1 hx
      exact ⟨h0, sub _ _ hr⟩
    · by_cases h3 : m.β 3 f = 0
      · rw [if_pos h3] at hx; simp at hx
      · rw [if_neg h3] at hx
        obtain ⟨y, hy, rfl⟩ := ((C20_3d_second_side_is_mirror hwf hcl hM hs hf h3).2 x).1 hx
        have hu3 := C01.inUse_image hwf (by omega) (by omega) hf.2.1 h3
        refine ⟨(cycleB_inUse hwf (by omega) hcl hu3 _ hx).1, ?_⟩
        exact (sub _ _ ((mem_cycleB_iff hwf (by omega) hcl hf y).1 hy).2).tail (by simp)
  · rintro ⟨hx0, hr⟩
    by_cases h3 : m.β 3 f = 0
    · -- a 3-free cycle is closed under the three images
      rw [if_pos h3, List.mem_nil_iff, or_false]
      refine reach_closed (S := (· ∈ cycleB m f)) (C03.g3_ok hwf .face trivial).null (fun b c hb hc hc0 => ?_)
        (self_mem_cycleB hwf (by omega) hcl hf) hr hx0
      obtain ⟨c1, c2, _⟩ := cycleB_closed hwf (by omega) hcl hf hb
      simp only [C03.g3, List.mem_cons, List.not_mem_nil, or_false] at hc
      rcases hc with rfl | rfl | rfl
      · exact c1
      · exact c2
      · exact absurd ((sided_cycle hwf hcl hs hf hb).2 h3) hc0
    · -- a 3-linked cycle covers the face with its β3-images (`C03.face_cover`)
      rw [if_neg h3]
      have hmk : ∀ {y}, y ∈ 0 :: cycleB m f → y ≠ 0 → y ∈ cycleB m f := fun hy hy0 =>
        (List.mem_cons.1 hy).resolve_left hy0
      have hclo : ∀ y, y ∈ 0 :: cycleB m f → y ≠ 0 → m.β 1 y ∈ 0 :: cycleB m f ∧
          m.β 0 y ∈ 0 :: cycleB m f ∧ y < m.n ∧ m.β 3 y ≠ 0 := by
        intro y hy hy0
        obtain ⟨c1, c2, _⟩ := cycleB_closed hwf (by omega) hcl hf (hmk hy hy0)
        exact ⟨List.mem_cons_of_mem _ c1, List.mem_cons_of_mem _ c2, (hin y (hmk hy hy0)).2.1,
          fun e => h3 ((sided_cycle hwf hcl hs hf (hmk hy hy0)).1 e)⟩
      rcases C03.face_cover hwf ⟨hM, hs⟩ (List.mem_cons_of_mem _ (self_mem_cycleB hwf (by omega) hcl hf))
        hclo x hr hx0 with hx | ⟨y, hy, hy0, rfl⟩
      · exact Or.inl (hmk hx hx0)
      · exact Or.inr (((C20_3d_second_side_is_mirror hwf hcl hM hs hf h3).2 _).2 ⟨y, hmk hy hy0, rfl⟩)

/-- **C20 (3-D), no dart twice within a face**: if `β3 f` does not lie on the β1-cycle of `f`
    (always the case for faces built by `three_link`, which refuses to pair two darts of one cycle),
    the darts tagged `f` are pairwise distinct -/
theorem C20_3d_face_darts_nodup (hwf : WF 4 m) (hcl : ClosedFaces m) {f : Nat} (hf : InUse m f)
    (hns : m.β 3 f ∉ cycleB m f) : (faceDarts m f).Nodup := by
  unfold faceDarts
  by_cases h3 : m.β 3 f = 0
  · rw [if_pos h3, List.append_nil]; exact (periodB_spec hwf (by omega) hcl hf).2.2.1
  · rw [if_neg h3]
    have hu3 := C01.inUse_image hwf (by omega) (by omega) hf.2.1 h3
    rw [List.nodup_append]
    refine ⟨(periodB_spec hwf (by omega) hcl hf).2.2.1, (periodB_spec hwf (by omega) hcl hu3).2.2.1, ?_⟩
    intro a ha b hb hab
    subst hab
    -- `a` on both cycles: then `β3 f` is on the cycle of `f`
    apply hns
    rw [← cycleB_congr hwf (by omega) hcl hf ha]
    have hau := cycleB_inUse hwf (by omega) hcl hf a ha
    rw [mem_cycleB_iff hwf (by omega) hcl hau]
    exact ⟨h3, reach_back hwf (by omega) hcl hu3 hb⟩

/-- **C20 (3-D), a self-glued face is enumerated twice**: if `β3` pairs darts of ONE β1-cycle
    (well-formed and mirrored, but refused by `three_link`), every dart of the face gets two dart
    entities tagged `f` — the code walks the same cycle from `f` and from `β3 f` -/
theorem C20_3d_self_glued_face_twice (hwf : WF 4 m) (hcl : ClosedFaces m) {f : Nat} (hf : InUse m f)
    (h3 : m.β 3 f ≠ 0) (hself : m.β 3 f ∈ cycleB m f) {x : Nat} (hx : x ∈ cycleB m f) :
    (faceDarts m f).count x = 2 := by
  unfold faceDarts
  rw [if_neg h3, List.count_append]
  have hu3 := C01.inUse_image hwf (by omega) (by omega) hf.2.1 h3
  have hx2 : x ∈ cycleB m (m.β 3 f) := (cycleB_congr hwf (by omega) hcl hf hself x).2 hx
  rw [List.count_eq_one_of_mem (periodB_spec hwf (by omega) hcl hf).2.2.1 hx,
    List.count_eq_one_of_mem (periodB_spec hwf (by omega) hcl hu3).2.2.1 hx2]

end Mirror3

/-! ## `face_id` in 3-D is the minimum of the two-sided face, and every in-use dart gets ONE entity -/

section FaceId
variable {m : Map Val} {sc : Scene}

theorem self_mem_faceDarts (hwf : WF 4 m) (hcl : ClosedFaces m) {d : Nat} (hd : InUse m d) :
    d ∈ faceDarts m d := List.mem_append_left _ (self_mem_cycleB hwf (by omega) hcl hd)

theorem faceDarts_inUse (hwf : WF 4 m) (hcl : ClosedFaces m) {d x : Nat} (hd : InUse m d)
    (hx : x ∈ faceDarts m d) : InUse m x := by
  unfold faceDarts at hx
  rcases List.mem_append.1 hx with hx | hx
  · exact cycleB_inUse hwf (by omega) hcl hd x hx
  · by_cases h3 : m.β 3 d = 0
    · rw [if_pos h3] at hx; simp at hx
    · rw [if_neg h3] at hx
      exact cycleB_inUse hwf (by omega) hcl (C01.inUse_image hwf (by omega) (by omega) hd.2.1 h3) x hx

/-- the darts that get an entity tagged `f` are the face cell of `f` (C03's 3-D face orbit) -/
theorem mem_faceDarts_iff (hwf : WF 4 m) (hcl : ClosedFaces m) (hM : Mirror m) (hs : Sided m) {f : Nat}
    (hf : InUse m f) (x : Nat) : x ∈ faceDarts m f ↔ x ∈ C03.orb3 m .face f :=
  (C20_3d_face_darts_are_the_face_orbit hwf hcl hM hs hf x).trans
    (C03.mem_orb3 hwf (pol := .face) trivial hf.1 hf.2.1 x).symm

theorem faceId3_of_mem_iterFaces (hwf : WF 4 m) (hM : Mirror m) (hs : Sided m) {f : Nat}
    (hf : f ∈ iterFaces3 m) : C03.cellId3 m .face f = f := by
  obtain ⟨h1, h2, _, h4⟩ := (C03.mem_iterCells m _ f).1 hf
  rw [(C03.C03_faceId3_min hwf ⟨hM, hs⟩ h2 h1).1, C03.okVal_ok] at h4
  exact h4

/-- the smallest dart of the two-sided face of `d` -/
def faceMin (m : Map Val) (d : Nat) : Nat := listMin (faceDarts m d) d

theorem faceMin_eq (hwf : WF 4 m) (hcl : ClosedFaces m) (hM : Mirror m) (hs : Sided m) {d : Nat}
    (hd : InUse m d) : faceMin m d = C03.cellId3 m .face d :=
  min_unique (listMin_spec (self_mem_faceDarts hwf hcl hd))
    (C03.cellId3_spec hwf (pol := .face) trivial hd.1 hd.2.1) (mem_faceDarts_iff hwf hcl hM hs hd)

theorem run_faceId3_eq (hwf : WF 4 m) (hcl : ClosedFaces m) (hM : Mirror m) (hs : Sided m) {d : Nat}
    (hd : InUse m d) : run (faceId3 (X := Val) m.n d) m = (.ok (faceMin m d), m) :=
  faceMin_eq hwf hcl hM hs hd ▸ (C03.C03_faceId3_min hwf ⟨hM, hs⟩ hd.1 hd.2.1).1

/-- **`face_id` (3-D) is the smallest dart of the two-sided face** (closed, mirrored, wholly
    3-linked faces): `face_id_transac` succeeds, leaves the map alone, and returns the minimum of
    the β1-cycle of `d` together with the β1-cycle of `β3 d` -/
theorem faceId3_min (hwf : WF 4 m) (hcl : ClosedFaces m) (hM : Mirror m) (hs : Sided m) {d : Nat}
    (hd : InUse m d) :
    ∃ v, run (faceId3 (X := Val) m.n d) m = (.ok v, m) ∧ v ∈ faceDarts m d ∧
      ∀ x, x ∈ faceDarts m d → v ≤ x :=
  ⟨_, run_faceId3_eq hwf hcl hM hs hd, listMin_spec (self_mem_faceDarts hwf hcl hd)⟩

/-- **`iter_faces` (3-D)** yields exactly the face minima of the in-use darts -/
theorem mem_iterFaces3_iff (hwf : WF 4 m) (hcl : ClosedFaces m) (hM : Mirror m) (hs : Sided m)
    (f : Nat) : f ∈ iterFaces3 m ↔ InUse m f ∧ faceMin m f = f := by
  constructor
  · intro hf
    have hu := mem_iterFaces3_inUse hf
    rw [faceMin_eq hwf hcl hM hs hu]
    exact ⟨hu, faceId3_of_mem_iterFaces hwf hM hs hf⟩
  · rintro ⟨hu, h4⟩
    rw [faceMin_eq hwf hcl hM hs hu] at h4
    exact (C03.C03_iterFaces3_mem hwf ⟨hM, hs⟩ f).2 ⟨f, hu.1, hu.2.1, hu.2.2, h4⟩

/-- no face is 3-linked to itself (`three_link` refuses to pair two darts of one β1-cycle) -/
def NoSelfGlue (m : Map Val) : Prop :=
  ∀ d, d < m.n → d ≠ 0 → m.unused d = false → m.β 3 d ∉ cycleB m d

instance (m : Map Val) : Decidable (NoSelfGlue m) := by unfold NoSelfGlue; exact inferInstance

/-- **C20 (3-D), one dart entity per in-use dart** (closed, mirrored, wholly 3-linked faces, none
    glued to itself): no dart has two dart entities, and the darts that have one are exactly the
    in-use darts — the two-sided enumeration `Custom(&[1])` from `id` and from `β3 id` is exact -/
theorem C20_3d_each_dart_once (hwf : WF 4 m) (hcl : ClosedFaces m) (hM : Mirror m) (hs : Sided m)
    (hns : NoSelfGlue m) (h : extract3 m = some sc) :
    (sc.darts.map (·.d)).Nodup ∧ ∀ d, d ∈ sc.darts.map (·.d) ↔ InUse m d := by
  have key : sc.darts.map (·.d) = (iterFaces3 m).flatMap (faceDarts m) := by
    obtain ⟨sc0, k, h0, _, _, _, _, _, e5, _⟩ := extract3_inv h
    rw [e5, dart_ids_of_walks (W1 := walkB m)
      (W2 := fun f => if m.β 3 f = 0 then [] else cycleB m (m.β 3 f)) h0 fun f hf =>
        ⟨walk3_eq hwf (mem_iterFaces3_inUse hf).1 (mem_iterFaces3_inUse hf).2.1,
          side2_eq hwf hcl (mem_iterFaces3_inUse hf)⟩]
    refine List.flatMap_congr fun f hf => ?_
    rw [cycleB_eq hwf (by omega) hcl (mem_iterFaces3_inUse hf)]
    rfl
  -- a dart of the face cell of `f` has the face identifier of `f`
  have same : ∀ {f d}, InUse m f → d ∈ faceDarts m f → C03.cellId3 m .face d = C03.cellId3 m .face f := by
    intro f d hf hd
    have hdu := faceDarts_inUse hwf hcl hf hd
    exact ((C03.C03_same_id3_iff_same_cell hwf (pol := .face) trivial hf.1 hf.2.1 hdu.1 hdu.2.1).1.2
      ((C20_3d_face_darts_are_the_face_orbit hwf hcl hM hs hf d).1 hd).2).symm
  rw [key]
  refine darts_once (cid := C03.cellId3 m .face) (C03.iterCells_sorted m (faceId3 m.n))
    (fun f hf => C20_3d_face_darts_nodup hwf hcl (mem_iterFaces3_inUse hf)
      (hns f (mem_iterFaces3_inUse hf).2.1 (mem_iterFaces3_inUse hf).1 (mem_iterFaces3_inUse hf).2.2))
    (fun f hf d hd => ⟨(same (mem_iterFaces3_inUse hf) hd).trans (faceId3_of_mem_iterFaces hwf hM hs hf),
      faceDarts_inUse hwf hcl (mem_iterFaces3_inUse hf) hd⟩) ?_
  intro d hd
  have hf : C03.cellId3 m .face d ∈ iterFaces3 m :=
    (C03.C03_iterFaces3_mem hwf ⟨hM, hs⟩ _).2 ⟨d, hd.1, hd.2.1, hd.2.2, rfl⟩
  have hfu := mem_iterFaces3_inUse hf
  refine ⟨hf, (mem_faceDarts_iff hwf hcl hM hs hfu d).2 ((C03.mem_orb3 hwf (pol := .face) trivial hfu.1 hfu.2.1 d).2
    ⟨hd.1, ?_⟩)⟩
  exact (C03.C03_same_id3_iff_same_cell hwf (pol := .face) trivial hfu.1 hfu.2.1 hd.1 hd.2.1).1.1
    (faceId3_of_mem_iterFaces hwf hM hs hf)

end FaceId

/-! ## normals: the exact (un-normalised) part over ℚ

  The 3-D system computes at every corner of a face, from `vec_in = p - p_in`, `vec_out = p_out - p`:
  `plane_normal = vec_in.cross(vec_out).normalize()` and then
  `(vec_in.cross(plane_normal).normalize() + vec_out.cross(plane_normal).normalize()).normalize()`.
  The 2-D system uses `Z` instead of `plane_normal`.  `normalize` of the zero vector is NaN in glam
  (`v * (1 / 0)` = `0 * inf`); that IEEE fact is the only thing not covered below.  What IS proved,
  exactly, over ℚ (any ordered field would do):
  * `C20_D20a_zero_normal_iff`   `vec_in × vec_out = 0` iff the two sides at the corner are linearly
                                 dependent (`vec_out = t • vec_in`, for `vec_in ≠ 0`)
  * `C20_D20a_straight_corner`   in particular at every straight corner (a vertex strictly inside a
                                 straight side) — finding D20a — and at every spike
  * `C20_3d_normal_nonzero`      conversely, if the plane normal is not zero then the vector handed to
                                 the last `normalize` is not zero, whatever positive weights the two
                                 inner normalisations contribute
  * `C20_2d_normal_nonzero_iff`, `C20_2d_spike_zero`
                                 2-D: the sum is zero for some positive weights iff the corner is a
                                 spike (`vec_out = -t • vec_in`, `t > 0`), and then it IS zero for the
                                 weights `1/|vec_in|, 1/|vec_out|` the code uses (`a = t * b`)
  * `C20_newell_is_vector_area`  the per-face vector of `VolumeNormals` (Newell's formula) is the sum of
                                 the cross products of consecutive corners (twice the vector area)
  * `C20_plane_normal_of_scene`  the plane normal the system computes from the table rows of a face
                                 entity is the cross product of the differences of the map's own
                                 coordinates of the vertices of `β1^(i-1) f, β1^i f, β1^(i+1) f`
-/

section Normals

abbrev V3 := Rat × Rat × Rat

def vsub (a b : V3) : V3 := (a.1 - b.1, a.2.1 - b.2.1, a.2.2 - b.2.2)
def vadd (a b : V3) : V3 := (a.1 + b.1, a.2.1 + b.2.1, a.2.2 + b.2.2)
def vsmul (t : Rat) (a : V3) : V3 := (t * a.1, t * a.2.1, t * a.2.2)
def vdot (a b : V3) : Rat := a.1 * b.1 + a.2.1 * b.2.1 + a.2.2 * b.2.2
/-- glam's `Vec3::cross` -/
def cross3 (u v : V3) : V3 :=
  (u.2.1 * v.2.2 - u.2.2 * v.2.1, u.2.2 * v.1 - u.1 * v.2.2, u.1 * v.2.1 - u.2.1 * v.1)

def vzero : V3 := (0, 0, 0)

theorem v3_ext {a b : V3} (h1 : a.1 = b.1) (h2 : a.2.1 = b.2.1) (h3 : a.2.2 = b.2.2) : a = b := by
  obtain ⟨a1, a2, a3⟩ := a
  obtain ⟨b1, b2, b3⟩ := b
  simp only at h1 h2 h3
  subst h1 h2 h3
  rfl

theorem v3_eq_iff {a b : V3} : a = b ↔ a.1 = b.1 ∧ a.2.1 = b.2.1 ∧ a.2.2 = b.2.2 :=
  ⟨fun h => by subst h; exact ⟨rfl, rfl, rfl⟩, fun ⟨h1, h2, h3⟩ => v3_ext h1 h2 h3⟩

/-- **D20a as a theorem**: the plane normal `vec_in × vec_out` of a corner whose incoming side is
    not degenerate is the zero vector exactly when the outgoing side is a multiple of the incoming
    one (the three points are collinear) -/
theorem C20_D20a_zero_normal_iff (u v : V3) (hu : u ≠ vzero) :
    cross3 u v = vzero ↔ ∃ t : Rat, v = vsmul t u := by
  obtain ⟨u1, u2, u3⟩ := u
  obtain ⟨v1, v2, v3⟩ := v
  simp only [cross3, vzero, vsmul, v3_eq_iff]
  constructor
  · rintro ⟨h1, h2, h3⟩
    by_cases k1 : u1 = 0
    · by_cases k2 : u2 = 0
      · have k3 : u3 ≠ 0 := by
          intro k3; apply hu; simp [vzero, k1, k2, k3]
        refine ⟨v3 / u3, ?_, ?_, ?_⟩
        · subst k1; field_simp; linarith
        · subst k2; field_simp; linarith
        · field_simp
      · refine ⟨v2 / u2, ?_, ?_, ?_⟩
        · field_simp; linarith
        · field_simp
        · field_simp; linarith
    · refine ⟨v1 / u1, ?_, ?_, ?_⟩
      · field_simp
      · field_simp; linarith
      · field_simp; linarith
  · rintro ⟨t, h1, h2, h3⟩
    subst h1 h2 h3
    refine ⟨by ring, by ring, by ring⟩

/-- **D20a, the straight corner**: if the corner `p` lies on the segment from `p_in` to `p_out`
    (`p = p_in + s • (p_out - p_in)`, any `s`: strictly inside for `0 < s < 1`, a spike outside), the
    plane normal the 3-D system normalises is the zero vector -/
theorem C20_D20a_straight_corner (pin pout : V3) (s : Rat) :
    let p := vadd pin (vsmul s (vsub pout pin))
    cross3 (vsub p pin) (vsub pout p) = vzero := by
  obtain ⟨a1, a2, a3⟩ := pin
  obtain ⟨b1, b2, b3⟩ := pout
  simp only [cross3, vzero, vsmul, vsub, vadd, v3_eq_iff]
  refine ⟨by ring, by ring, by ring⟩

theorem vdot_self_eq_zero {p : V3} (h : vdot p p = 0) : p = vzero := by
  obtain ⟨p1, p2, p3⟩ := p
  simp only [vdot] at h
  rw [add_eq_zero_iff_of_nonneg (add_nonneg (mul_self_nonneg _) (mul_self_nonneg _)) (mul_self_nonneg _),
    mul_self_add_mul_self_eq_zero, mul_self_eq_zero] at h
  obtain ⟨⟨rfl, rfl⟩, rfl⟩ := h
  rfl

set_option linter.unusedVariables false in
/-- **the 3-D corner normal is well defined away from D20a**: if the plane normal `pn = u × v` is
    not zero, the vector `a • (u × pn) + b • (v × pn)` handed to the final `normalize` is not zero,
    for all positive weights `a, b` (the code's are `1/|u × pn|`, `1/|v × pn|`) -/
theorem C20_3d_normal_nonzero (u v : V3) (a b : Rat) (ha : 0 < a) (hb : 0 < b)
    (hpn : cross3 u v ≠ vzero) :
    vadd (vsmul a (cross3 u (cross3 u v))) (vsmul b (cross3 v (cross3 u v))) ≠ vzero := by
  intro h
  apply hpn
  apply vdot_self_eq_zero
  -- dot the equation with `v`: `(u × pn)·v = -|pn|²`, `(v × pn)·v = 0`
  have key : vdot (vadd (vsmul a (cross3 u (cross3 u v))) (vsmul b (cross3 v (cross3 u v)))) v
      = -(a * vdot (cross3 u v) (cross3 u v)) := by
    obtain ⟨u1, u2, u3⟩ := u
    obtain ⟨v1, v2, v3⟩ := v
    simp only [cross3, vsmul, vadd, vdot]
    ring
  rw [h] at key
  have z : vdot vzero v = 0 := by simp [vdot, vzero]
  rw [z] at key
  have : a * vdot (cross3 u v) (cross3 u v) = 0 := by linarith
  rcases mul_eq_zero.1 this with h1 | h1
  · exact absurd h1 (ne_of_gt ha)
  · exact h1

abbrev V2 := Rat × Rat
/-- `(x, y, 0) × Z = (y, -x, 0)` -/
def perp2 (u : V2) : V2 := (u.2, -u.1)

theorem sq2_pos {x y : Rat} (h : (x, y) ≠ (0, 0)) : 0 < x * x + y * y :=
  lt_of_le_of_ne (add_nonneg (mul_self_nonneg x) (mul_self_nonneg y)) fun e =>
    h (by obtain ⟨rfl, rfl⟩ := mul_self_add_mul_self_eq_zero.1 e.symm; rfl)

/-- **2-D corner normal**: for non-degenerate sides `u = vec_in`, `v = vec_out`, the sum
    `a • (u × Z) + b • (v × Z)` vanishes for some positive weights iff the corner is a spike: the
    sides are parallel (`u.x v.y = u.y v.x`) and point in opposite directions (`u·v < 0`).  A straight
    corner (`u·v > 0`) is fine in 2-D. -/
theorem C20_2d_normal_nonzero_iff (u v : V2) (hu : u ≠ (0, 0)) (hv : v ≠ (0, 0)) :
    (∃ a b : Rat, 0 < a ∧ 0 < b ∧
      (a * (perp2 u).1 + b * (perp2 v).1 = 0 ∧ a * (perp2 u).2 + b * (perp2 v).2 = 0)) ↔
    (u.1 * v.2 - u.2 * v.1 = 0 ∧ u.1 * v.1 + u.2 * v.2 < 0) := by
  obtain ⟨u1, u2⟩ := u
  obtain ⟨v1, v2⟩ := v
  simp only [perp2]
  have hu' := sq2_pos hu
  have hv' := sq2_pos hv
  constructor
  · rintro ⟨a, b, ha, hb, h1, h2⟩
    -- `a u = -b v`
    have e1 : a * u1 = -(b * v1) := by linarith
    have e2 : a * u2 = -(b * v2) := by linarith
    constructor
    · have : a * (u1 * v2 - u2 * v1) = 0 := by
        calc a * (u1 * v2 - u2 * v1) = (a * u1) * v2 - (a * u2) * v1 := by ring
          _ = 0 := by rw [e1, e2]; ring
      rcases mul_eq_zero.1 this with h | h
      · exact absurd h (ne_of_gt ha)
      · exact h
    · have : a * (u1 * v1 + u2 * v2) = -(b * (v1 * v1 + v2 * v2)) := by
        calc a * (u1 * v1 + u2 * v2) = (a * u1) * v1 + (a * u2) * v2 := by ring
          _ = -(b * (v1 * v1 + v2 * v2)) := by rw [e1, e2]; ring
      have hneg : a * (u1 * v1 + u2 * v2) < 0 := by
        rw [this]; exact neg_neg_of_pos (mul_pos hb hv')
      by_contra hge
      have := mul_nonneg (le_of_lt ha) (not_lt.1 hge)
      linarith
  · rintro ⟨hc, hd⟩
    -- weights `a = -(u·v)`, `b = u·u`
    refine ⟨-(u1 * v1 + u2 * v2), u1 * u1 + u2 * u2, by linarith, hu', ?_, ?_⟩
    · have : -(u1 * v1 + u2 * v2) * u2 + (u1 * u1 + u2 * u2) * v2 = u1 * (u1 * v2 - u2 * v1) := by ring
      rw [this, hc]; ring
    · have : -(u1 * v1 + u2 * v2) * -u1 + (u1 * u1 + u2 * u2) * -v1 = u2 * (u1 * v2 - u2 * v1) := by
        ring
      rw [this, hc]; ring

/-- **2-D spike**: if `vec_out = -t • vec_in` with `t > 0`, the two unit normals cancel: the sum is
    zero for all weights with `a = t * b` — which `a = 1/|vec_in|`, `b = 1/|vec_out| = 1/(t |vec_in|)`
    satisfy -/
theorem C20_2d_spike_zero (u : V2) (t a b : Rat) (hab : a = t * b) :
    let v : V2 := (-(t * u.1), -(t * u.2))
    a * (perp2 u).1 + b * (perp2 v).1 = 0 ∧ a * (perp2 u).2 + b * (perp2 v).2 = 0 := by
  obtain ⟨u1, u2⟩ := u
  simp only [perp2]
  subst hab
  constructor <;> ring

/-- the point stored in a table entry -/
def ptOf : Val → V3
  | .pt x y z => (x, y, z)
  | _ => vzero

/-- the plane normal, before normalisation, that the 3-D system computes at corner `i` of a face
    entity with corner rows `rows`: `(ver_in, ver, ver_out) = (rows[i-1], rows[i], rows[i+1])`
    cyclically — the first block of the Rust code is `i = 0`, the `windows(3)` loop `0 < i < n_v-1`,
    the last block `i = n_v - 1` — and `vec_in.cross(vec_out)` on the table entries -/
def planeNormalAt (table : List Val) (rows : List Nat) (i : Nat) : V3 :=
  let n := rows.length
  let P := fun j => ptOf (table.getD (rows.getD j 0) default)
  cross3 (vsub (P i) (P ((i + n - 1) % n))) (vsub (P ((i + 1) % n)) (P i))

variable {m : Map Val} {sc : Scene}

/-- **C20 (3-D), the plane normal in terms of the map**: at corner `i` of face `f` the system's
    plane normal is the cross product of the differences of the map's own coordinates of the vertices
    of the darts `β1^(i-1) f`, `β1^i f`, `β1^(i+1) f` (indices mod the number of sides) -/
theorem C20_plane_normal_of_scene (hwf : WF 4 m) (hcl : ClosedFaces m) (h : extract3 m = some sc)
    {f : Nat} {rows : List Nat} (hm : (f, rows) ∈ sc.faces) {i : Nat} (hi : i < rows.length) :
    ∃ vp v vn xp x xn,
      evalP (vertexId3 m.n ((m.β 1)^[(i + rows.length - 1) % rows.length] f)) m = some vp ∧
      evalP (vertexId3 m.n ((m.β 1)^[i] f)) m = some v ∧
      evalP (vertexId3 m.n ((m.β 1)^[(i + 1) % rows.length] f)) m = some vn ∧
      m.att 0 vp = some xp ∧ m.att 0 v = some x ∧ m.att 0 vn = some xn ∧
      planeNormalAt sc.table rows i =
        cross3 (vsub (ptOf x) (ptOf xp)) (vsub (ptOf xn) (ptOf x)) := by
  obtain ⟨_, hall⟩ := C20_3d_face_corners hwf hcl h
  obtain ⟨_, _, _, hrow⟩ := hall f rows hm
  have at_ : ∀ j, j < rows.length → ∃ v x, evalP (vertexId3 m.n ((m.β 1)^[j] f)) m = some v ∧
      m.att 0 v = some x ∧ sc.table.getD (rows.getD j 0) default = x := by
    intro j hj
    obtain ⟨v, x, j1, _, j3, j4⟩ := hrow j rows[j] (List.getElem?_eq_getElem hj)
    refine ⟨v, x, j1, j4, ?_⟩
    rw [List.getD_eq_getElem?_getD, List.getD_eq_getElem?_getD, List.getElem?_eq_getElem hj]
    simp only [Option.getD_some]
    rw [j3]; rfl
  have hn : 0 < rows.length := by omega
  obtain ⟨vp, xp, a1, a2, a3⟩ := at_ ((i + rows.length - 1) % rows.length) (Nat.mod_lt _ hn)
  obtain ⟨v, x, b1, b2, b3⟩ := at_ i hi
  obtain ⟨vn, xn, c1, c2, c3⟩ := at_ ((i + 1) % rows.length) (Nat.mod_lt _ hn)
  refine ⟨vp, v, vn, xp, x, xn, a1, b1, c1, a2, b2, c2, ?_⟩
  unfold planeNormalAt
  simp only [a3, b3, c3]

/-! ### the per-face normal of `VolumeNormals` (Newell's formula)

  For every face of a volume the 3-D system accumulates, over the consecutive corner pairs
  `(v1, v2)` of `orbit(Custom(&[1]), d).chain([d])`,
  `base.x += (v1.y - v2.y) * (v1.z + v2.z)` (and cyclically for `y`, `z`), then normalises.
  Exactly: that sum is the sum of the cross products `v1 × v2`, i.e. twice the vector area of the
  polygon — in particular it is the zero vector exactly when the vector area is. -/

def newellTerm (p q : V3) : V3 :=
  ((p.2.1 - q.2.1) * (p.2.2 + q.2.2), (p.2.2 - q.2.2) * (p.1 + q.1), (p.1 - q.1) * (p.2.1 + q.2.1))

def vsum (l : List V3) : V3 := l.foldr vadd vzero

/-- the vector the code hands to `normalize` for a face with corner points `ps` -/
def newell (ps : List V3) : V3 := vsum ((cyclicPairs ps).map (fun pq => newellTerm pq.1 pq.2))

theorem vsum_components (l : List V3) :
    (vsum l).1 = (l.map (·.1)).sum ∧ (vsum l).2.1 = (l.map (·.2.1)).sum ∧
      (vsum l).2.2 = (l.map (·.2.2)).sum := by
  induction l with
  | nil => simp [vsum, vzero]
  | cons a t ih =>
      obtain ⟨h1, h2, h3⟩ := ih
      simp only [vsum, List.foldr_cons, vadd, List.map_cons, List.sum_cons] at h1 h2 h3 ⊢
      exact ⟨by rw [h1], by rw [h2], by rw [h3]⟩

theorem sum_zip_sub {α : Type} (g : α → Rat) : ∀ (l1 l2 : List α), l1.length = l2.length →
    ((l1.zip l2).map (fun p => g p.1 - g p.2)).sum = (l1.map g).sum - (l2.map g).sum := by
  intro l1
  induction l1 with
  | nil => intro l2 h; cases l2 <;> simp at h ⊢
  | cons a t ih =>
      intro l2 h
      cases l2 with
      | nil => simp at h
      | cons b t2 =>
          simp only [List.length_cons, Nat.add_right_cancel_iff] at h
          simp only [List.zip_cons_cons, List.map_cons, List.sum_cons, ih t2 h]
          ring

/-- a telescoping sum around a closed polygon vanishes -/
theorem cyclic_telescope {α : Type} (g : α → Rat) (l : List α) :
    ((cyclicPairs l).map (fun p => g p.1 - g p.2)).sum = 0 := by
  unfold cyclicPairs
  rw [sum_zip_sub g l (l.tail ++ l.take 1) (by cases l <;> simp)]
  cases l with
  | nil => simp
  | cons a t => simp only [List.tail_cons, List.take_succ_cons, List.take_zero, List.map_append,
      List.sum_append, List.map_cons, List.map_nil, List.sum_cons, List.sum_nil]; ring

/-- **Newell's formula is the sum of the cross products** of consecutive corners (twice the vector
    area of the face): what the 3-D system normalises for the faces of a volume -/
theorem C20_newell_is_vector_area (ps : List V3) :
    newell ps = vsum ((cyclicPairs ps).map (fun pq => cross3 pq.1 pq.2)) := by
  unfold newell
  obtain ⟨a1, a2, a3⟩ := vsum_components ((cyclicPairs ps).map (fun pq => newellTerm pq.1 pq.2))
  obtain ⟨b1, b2, b3⟩ := vsum_components ((cyclicPairs ps).map (fun pq => cross3 pq.1 pq.2))
  have t1 := cyclic_telescope (fun p : V3 => p.2.1 * p.2.2) ps
  have t2 := cyclic_telescope (fun p : V3 => p.2.2 * p.1) ps
  have t3 := cyclic_telescope (fun p : V3 => p.1 * p.2.1) ps
  have comb : ∀ (f g h : V3 × V3 → Rat) (l : List (V3 × V3)), (∀ x, f x = g x + h x) →
      (l.map f).sum = (l.map g).sum + (l.map h).sum := by
    intro f g h l hfg
    induction l with
    | nil => simp
    | cons a t ih => simp only [List.map_cons, List.sum_cons, ih, hfg a]; ring
  apply v3_ext
  · rw [a1, b1, List.map_map, List.map_map]
    rw [comb _ (fun pq => (cross3 pq.1 pq.2).1) (fun pq => pq.1.2.1 * pq.1.2.2 - pq.2.2.1 * pq.2.2.2) _
      (fun x => by simp only [Function.comp, newellTerm, cross3]; ring)]
    have : ((cyclicPairs ps).map (fun pq => pq.1.2.1 * pq.1.2.2 - pq.2.2.1 * pq.2.2.2)).sum = 0 := t1
    rw [this, add_zero]; rfl
  · rw [a2, b2, List.map_map, List.map_map]
    rw [comb _ (fun pq => (cross3 pq.1 pq.2).2.1) (fun pq => pq.1.2.2 * pq.1.1 - pq.2.2.2 * pq.2.1) _
      (fun x => by simp only [Function.comp, newellTerm, cross3]; ring)]
    have : ((cyclicPairs ps).map (fun pq => pq.1.2.2 * pq.1.1 - pq.2.2.2 * pq.2.1)).sum = 0 := t2
    rw [this, add_zero]; rfl
  · rw [a3, b3, List.map_map, List.map_map]
    rw [comb _ (fun pq => (cross3 pq.1 pq.2).2.2) (fun pq => pq.1.1 * pq.1.2.1 - pq.2.1 * pq.2.2.1) _
      (fun x => by simp only [Function.comp, newellTerm, cross3]; ring)]
    have : ((cyclicPairs ps).map (fun pq => pq.1.1 * pq.1.2.1 - pq.2.1 * pq.2.2.1)).sum = 0 := t3
    rw [this, add_zero]; rfl

-- the unit square in the plane z = 0: Newell vector (0, 0, 2) = twice the area, along +z
example : newell [(0, 0, 0), (1, 0, 0), (1, 1, 0), (0, 1, 0)] = (0, 0, 2) := by decide +kernel
example : newell [(0, 0, 0), (1, 0, 0), (1, 1, 0), (0, 1, 0)] =
    vsum ((cyclicPairs [((0, 0, 0) : V3), (1, 0, 0), (1, 1, 0), (0, 1, 0)]).map
      (fun pq => cross3 pq.1 pq.2)) := C20_newell_is_vector_area _

end Normals

/-! ## the keys of `FaceNormals` and `VolumeNormals` -/

section Keys
variable {R : Reader} {vn : Option (List (Nat × Nat))} {sc : Scene} {m : Map Val}

theorem fn_keys (h : extractWith R vn = some sc) :
    sc.fnKeys = sc.faces.flatMap (fun p => p.2.map (fun r => (p.1, r))) := by
  obtain ⟨table, verts, edges, fbs, _, _, _, h4, _, _, _, e4, _, e6, _⟩ := extractWith_inv h
  rw [e6, e4, List.flatMap_def, List.map_map]
  congr 1
  apply List.map_congr_left
  intro fb hfb
  obtain ⟨f, _, hf⟩ := mapO_mem' h4 hfb
  obtain ⟨w, rows, d1, w2, d2, _, _, _, _, _, _, rfl⟩ := faceBundle_inv hf
  rfl

/-- **C20, `FaceNormals` keys (2-D)**: one key `(f, row)` per corner of every face entity -/
theorem C20_face_normal_keys (h : extract2 m = some sc) :
    sc.fnKeys = sc.faces.flatMap (fun p => p.2.map (fun r => (p.1, r))) :=
  fn_keys (R := reader2 m) h

/-- **C20, `FaceNormals` keys (3-D)** -/
theorem C20_3d_face_normal_keys (h : extract3 m = some sc) :
    sc.fnKeys = sc.faces.flatMap (fun p => p.2.map (fun r => (p.1, r))) := by
  obtain ⟨sc0, k, h0, _, rfl⟩ := extract3_inv' h
  exact fn_keys (R := reader3 m) (sc := sc0) h0

/-- images of the 3-D Volume policy -/
def gVol (m : Map Val) (x : Nat) : List Nat := [m.β 1 x, m.β 0 x, m.β 2 x]

theorem volume_orbit_eq (hwf : WF 4 m) {d : Nat} (hd0 : d ≠ 0) (hdn : d < m.n) :
    ∃ ds, evalP (orbit3 m.n .volume d) m = some ds ∧
      ∀ x, x ∈ ds ↔ x ≠ 0 ∧ Reach (gVol m) d x :=
  have h := C03.C03_orbit3_spec hwf (pol := .volume) trivial hd0 hdn
  ⟨_, evalP_of_run h.1, h.2.2.2.2.1⟩

/-- **C20, `VolumeNormals` keys (3-D)**: the keys are exactly the pairs `(vol, index_map (vertex_id d))`
    for `vol` an id of `iter_volumes` and `d` a dart of the volume of `vol` (the non-null darts
    reachable from `vol` through `β1, β0, β2`) -/
theorem C20_3d_volume_normal_keys (hwf : WF 4 m) (h : extract3 m = some sc) :
    ∃ ks, sc.vnKeys = some ks ∧ ∀ vol r, (vol, r) ∈ ks ↔
      vol ∈ iterVolumes3 m ∧ ∃ d, d ≠ 0 ∧ Reach (gVol m) vol d ∧ (reader3 m).rowOfDart d = some r := by
  obtain ⟨sc0, ks, _, hk, rfl⟩ := extract3_inv' h
  refine ⟨ks, rfl, ?_⟩
  unfold volKeys3 at hk
  simp only [Option.map_eq_some_iff] at hk
  obtain ⟨per, hper, rfl⟩ := hk
  intro vol r
  rw [List.mem_flatten]
  have one : ∀ v keys, v ∈ iterVolumes3 m →
      (match evalP (orbit3 m.n .volume v) m with
        | none => none
        | some ds =>
          match mapO (fun d => evalP (faceId3 m.n d) m) ds with
          | none => none
          | some fids =>
            match mapO (fun d => ((reader3 m).walk d).bind
                (fun w => mapO (reader3 m).rowOfDart (w ++ [d]))) (uniqueByKey (ds.zip fids) []),
              mapO (reader3 m).rowOfDart ds with
            | some _, some rows => some (rows.map (fun r => (v, r)))
            | _, _ => none) = some keys →
      ∀ vol r, (vol, r) ∈ keys ↔ vol = v ∧ ∃ d, d ≠ 0 ∧ Reach (gVol m) v d ∧
        (reader3 m).rowOfDart d = some r := by
    intro v keys hv hF vol r
    obtain ⟨h1, h2, h3, _⟩ := (C03.mem_iterCells m _ v).1 hv
    obtain ⟨ds, hds, hmem⟩ := volume_orbit_eq hwf h2 h1
    rw [hds] at hF
    simp only at hF
    split at hF
    · exact absurd hF (by simp)
    · split at hF
      · rename_i rows _ hrows
        simp only [Option.some.injEq] at hF
        subst hF
        simp only [List.mem_map, Prod.mk.injEq]
        constructor
        · rintro ⟨r', hr', rfl, rfl⟩
          obtain ⟨d, hd, hrd⟩ := mapO_mem' hrows hr'
          exact ⟨rfl, d, ((hmem d).1 hd).1, ((hmem d).1 hd).2, hrd⟩
        · rintro ⟨rfl, d, hd0, hr, hrd⟩
          obtain ⟨b, hb, hfb⟩ := mapO_mem hrows ((hmem d).2 ⟨hd0, hr⟩)
          rw [hrd] at hfb
          exact ⟨b, hb, rfl, (Option.some.inj hfb).symm⟩
      · exact absurd hF (by simp)
  constructor
  · rintro ⟨keys, hkeys, hin⟩
    obtain ⟨v, hv, hF⟩ := mapO_mem' hper hkeys
    obtain ⟨rfl, rest⟩ := (one v keys hv hF vol r).1 hin
    exact ⟨hv, rest⟩
  · rintro ⟨hv, rest⟩
    obtain ⟨keys, hkeys, hF⟩ := mapO_mem hper hv
    exact ⟨keys, hkeys, (one vol keys hv hF vol r).2 ⟨rfl, rest⟩⟩

end Keys

/-! ## the 3-D extraction does not panic on embedded maps with closed mirrored faces -/

section NoPanic3
variable {m : Map Val}

theorem lookups3_inUse (hwf : WF 4 m) {d : Nat} (hd : InUse m d) :
    (∃ r, (reader3 m).rowOfDart d = some r) ∧ (∃ v, (reader3 m).vid d = some v) ∧
      (∃ e, (reader3 m).eid d = some e) ∧ ∃ c, (reader3 m).volid d = some c := by
  have hv : (reader3 m).vid d = some (C03.cellId3 m .vertex d) :=
    evalP_of_run (C03.C03_vertexId3_min hwf hd.1 hd.2.1).1
  obtain ⟨r, hr⟩ := rowOf_of_mem ((C03.C03_iterVertices3_mem hwf _).2 ⟨d, hd.1, hd.2.1, hd.2.2, rfl⟩)
  refine ⟨⟨r, ?_⟩, ⟨_, hv⟩, ⟨_, evalP_of_run (C03.C03_edgeId3_min hwf hd.1 hd.2.1).1⟩,
    ⟨_, evalP_of_run (C03.C03_volumeId3_min hwf hd.1 hd.2.1).1⟩⟩
  unfold Reader.rowOfDart
  rw [hv]; exact hr

/-- every vertex id of the 3-map has coordinates -/
def Embedded3 (m : Map Val) : Prop := ∀ v, v ∈ iterVertices3 m → (m.att 0 v).isSome = true

instance (m : Map Val) : Decidable (Embedded3 m) := by unfold Embedded3; exact inferInstance

theorem uniqueByKey_subset : ∀ (l : List (Nat × Nat)) (seen : List Nat) (x : Nat),
    x ∈ uniqueByKey l seen → ∃ k, (x, k) ∈ l := by
  intro l
  induction l with
  | nil => intro seen x h; simp [uniqueByKey] at h
  | cons p rest ih =>
      intro seen x h
      obtain ⟨d, k⟩ := p
      unfold uniqueByKey at h
      by_cases c : seen.contains k = true
      · rw [if_pos c] at h
        obtain ⟨k', hk'⟩ := ih seen x h
        exact ⟨k', List.mem_cons_of_mem _ hk'⟩
      · rw [if_neg c] at h
        rcases List.mem_cons.1 h with rfl | h
        · exact ⟨k, List.mem_cons_self⟩
        · obtain ⟨k', hk'⟩ := ih _ x h
          exact ⟨k', List.mem_cons_of_mem _ hk'⟩

theorem reach_gVol_inUse (hwf : WF 4 m) {d x : Nat} (hd : InUse m d) (hr : Reach (gVol m) d x)
    (hx0 : x ≠ 0) : InUse m x := by
  have hx := (C03.mem_orb3 hwf (pol := .volume) trivial hd.1 hd.2.1 x).2 ⟨hx0, hr⟩
  exact ⟨hx0, (C03.C03_orbit3_spec hwf (pol := .volume) trivial hd.1 hd.2.1).2.2.2.2.2 x hx,
    C03.C03_orbit3_of_in_use_is_in_use hwf (pol := .volume) trivial hd.1 hd.2.1 hd.2.2 x hx⟩

/-- **C20 (3-D), the extraction succeeds**: on a well-formed 3-map whose in-use darts all lie on
    closed, mirrored, wholly 3-linked faces of at least two sides and whose vertex ids all have
    coordinates, the start-up system does not panic -/
theorem C20_3d_no_panic (hwf : WF 4 m) (hcl : ClosedFaces m) (hnl : NoLoops m) (hM : Mirror m)
    (hs : Sided m) (hemb : Embedded3 m) : ∃ sc, extract3 m = some sc := by
  have hsc0 : ∃ sc0, extractWith (reader3 m) (some []) = some sc0 := by
    apply extractWith_isSome
    · intro v hv
      exact Option.isSome_iff_exists.1 (hemb v hv)
    · intro id hid
      have hu : InUse m id := C03.mem_iterCells_inUse hid
      obtain ⟨⟨r1, hr1⟩, _⟩ := lookups3_inUse hwf hu
      have hend : InUse m ((reader3 m).edgeEnd id) := by
        show InUse m (if m.β 3 id = 0 then (if m.β 2 id = 0 then m.β 1 id else m.β 2 id) else m.β 3 id)
        by_cases k3 : m.β 3 id = 0
        · rw [if_pos k3]
          by_cases k2 : m.β 2 id = 0
          · rw [if_pos k2]; exact C01.inUse_image hwf (by omega) (by omega) hu.2.1 (hcl id hu.2.1 hu.1 hu.2.2)
          · rw [if_neg k2]; exact C01.inUse_image hwf (by omega) (by omega) hu.2.1 k2
        · rw [if_neg k3]; exact C01.inUse_image hwf (by omega) (by omega) hu.2.1 k3
      obtain ⟨⟨r2, hr2⟩, _⟩ := lookups3_inUse hwf hend
      unfold edgeBundle
      rw [hr1, hr2]
      exact ⟨_, rfl⟩
    · intro f hf
      have hfu := mem_iterFaces3_inUse hf
      obtain ⟨hit, hpos, _, hcyc, hin⟩ := walkB_cycle hwf (by omega) hcl hfu
      refine faceBundle_isSome (walk3_eq hwf hfu.1 hfu.2.1) (side2_eq hwf hcl hfu) ?_ ?_
      · by_contra hlt
        have h1 : (walkB m f).length = 1 := by omega
        rw [h1] at hcyc
        exact hnl f hfu.2.1 hfu.1 hfu.2.2 hcyc
      · intro d hd
        rcases List.mem_append.1 hd with hd | hd
        · exact lookups3_inUse hwf (hin d hd)
        · by_cases k3 : m.β 3 f = 0
          · rw [if_pos k3] at hd; simp at hd
          · rw [if_neg k3] at hd
            exact lookups3_inUse hwf ((periodB_spec hwf (by omega) hcl
              (C01.inUse_image hwf (by omega) (by omega) hfu.2.1 k3)).2.2.2 d hd)
  obtain ⟨sc0, h0⟩ := hsc0
  have hvk : ∃ k, volKeys3 m (reader3 m) = some k := by
    unfold volKeys3
    have key : ∀ vol, vol ∈ iterVolumes3 m → ∃ keys,
        (match evalP (orbit3 m.n .volume vol) m with
        | none => none
        | some ds =>
          match mapO (fun d => evalP (faceId3 m.n d) m) ds with
          | none => none
          | some fids =>
            match mapO (fun d => ((reader3 m).walk d).bind
                (fun w => mapO (reader3 m).rowOfDart (w ++ [d]))) (uniqueByKey (ds.zip fids) []),
              mapO (reader3 m).rowOfDart ds with
            | some _, some rows => some (rows.map (fun r => (vol, r)))
            | _, _ => none) = some keys := by
      intro vol hvol
      have hvu : InUse m vol := C03.mem_iterCells_inUse hvol
      obtain ⟨ds, hds, hmem⟩ := volume_orbit_eq hwf hvu.1 hvu.2.1
      have hdsu : ∀ d, d ∈ ds → InUse m d := fun d hd =>
        reach_gVol_inUse hwf hvu ((hmem d).1 hd).2 ((hmem d).1 hd).1
      obtain ⟨fids, hfids⟩ := mapO_isSome (f := fun d => evalP (faceId3 m.n d) m) (l := ds)
        fun d hd => ⟨_, evalP_of_run (C03.C03_faceId3_min hwf ⟨hM, hs⟩ (hdsu d hd).1 (hdsu d hd).2.1).1⟩
      obtain ⟨x1, hx1⟩ := mapO_isSome (f := fun d => ((reader3 m).walk d).bind
          (fun w => mapO (reader3 m).rowOfDart (w ++ [d]))) (l := uniqueByKey (ds.zip fids) []) (by
        intro d hd
        obtain ⟨k, hk⟩ := uniqueByKey_subset _ _ _ hd
        have hdu := hdsu d (List.of_mem_zip hk).1
        rw [walk3_eq hwf hdu.1 hdu.2.1]
        simp only [Option.bind_some]
        apply mapO_isSome
        intro y hy
        rcases List.mem_append.1 hy with hy | hy
        · exact (lookups3_inUse hwf ((walkB_cycle hwf (by omega) hcl hdu).2.2.2.2 y hy)).1
        · simp only [List.mem_singleton] at hy
          rw [hy]; exact (lookups3_inUse hwf hdu).1)
      obtain ⟨rows, hrows⟩ := mapO_isSome (f := (reader3 m).rowOfDart) (l := ds)
        fun d hd => (lookups3_inUse hwf (hdsu d hd)).1
      rw [hds]
      simp only [hfids, hx1, hrows]
      exact ⟨_, rfl⟩
    obtain ⟨per, hper⟩ := mapO_isSome key
    refine ⟨per.flatten, ?_⟩
    rw [Option.map_eq_some_iff]
    exact ⟨per, hper, rfl⟩
  obtain ⟨k, hk⟩ := hvk
  unfold extract3
  simp only [h0, hk]
  exact ⟨_, rfl⟩

end NoPanic3

/-! ## non-vacuity -/

theorem exP_closed : ClosedFaces exP := by decide +kernel
theorem exP_mirror : Mirror exP := exP_wf.2
theorem exP_sided : Sided exP := by decide +kernel
theorem exP_inUse1 : InUse exP 1 := by decide +kernel

example : cycleB exP 1 = [1, 2, 3] ∧ cycleB exP 4 = [4, 5, 6] ∧ periodB exP 1 = 3 := by decide +kernel
example : walkB exP 1 = List.iterate (exP.β 1) 1 (walkB exP 1).length ∧ (exP.β 1)^[(walkB exP 1).length] 1 = 1 :=
  let h := walkB_cycle exP_wf.1 (by omega) exP_closed exP_inUse1
  ⟨h.1, h.2.2.2.1⟩
-- dart 4 lies on the SECOND side of face 1: its end row 0 is the row of the vertex of β1 4 = 5 (point A)
example : ∃ v' x, evalP (vertexId3 exP.n (exP.β 1 4)) exP = some v' ∧
    rowOf (iterVertices3 exP) v' = some 0 ∧ exPScene.table[0]? = some x ∧ exP.att 0 v' = some x :=
  C20_3d_dart_end exP_wf.1 exP_closed exP_scene (e := ⟨4, 2, 1, 1, 4, 1, 0⟩) (by decide)
example : (exP.β 1)^[3] 1 = 1 ∧ (List.iterate (exP.β 1) 1 3).Nodup :=
  let h := (C20_3d_face_corners exP_wf.1 exP_closed exP_scene).2 1 [0, 1, 2] (by decide)
  ⟨h.2.1, h.2.2.1⟩
example : faceDarts exP 1 = [1, 2, 3, 4, 5, 6] := by decide +kernel
example : exPScene.darts.map (fun e => (e.f, e.d)) =
    (iterFaces3 exP).flatMap (fun f => (faceDarts exP f).map (fun d => (f, d))) :=
  C20_3d_dart_entities_of_face exP_wf.1 exP_closed exP_scene
example : iterFaces3 exP = [1] := (C20_3d_face_entity exP_scene).1.symm
-- second side = mirror of the first: β1 (β3 1) = 5 = β3 (β0 1) = β3 3
example : (exP.β 1)^[1] (exP.β 3 1) = exP.β 3 ((exP.β 0)^[1] 1) :=
  (C20_3d_second_side_is_mirror exP_wf.1 exP_closed exP_mirror exP_sided exP_inUse1 (by decide)).1 1
example : 5 ∈ cycleB exP (exP.β 3 1) ↔ ∃ y, y ∈ cycleB exP 1 ∧ 5 = exP.β 3 y :=
  (C20_3d_second_side_is_mirror exP_wf.1 exP_closed exP_mirror exP_sided exP_inUse1 (by decide)).2 5
example : 6 ∈ faceDarts exP 1 ↔ 6 ≠ 0 ∧ Reach (fun y => [exP.β 1 y, exP.β 0 y, exP.β 3 y]) 1 6 :=
  C20_3d_face_darts_are_the_face_orbit exP_wf.1 exP_closed exP_mirror exP_sided exP_inUse1 6
example : (faceDarts exP 1).Nodup :=
  C20_3d_face_darts_nodup exP_wf.1 exP_closed exP_inUse1 (by decide +kernel)
example : exPScene.fnKeys = exPScene.faces.flatMap (fun p => p.2.map (fun r => (p.1, r))) :=
  C20_3d_face_normal_keys exP_scene
example : exTScene.fnKeys = exTScene.faces.flatMap (fun p => p.2.map (fun r => (p.1, r))) :=
  C20_face_normal_keys exT_scene
-- volume 4 (the second side, a volume of its own) reaches dart 5, whose vertex A sits in row 0
example : ∃ ks, exPScene.vnKeys = some ks ∧ ((4, 0) ∈ ks ↔ 4 ∈ iterVolumes3 exP ∧
    ∃ d, d ≠ 0 ∧ Reach (gVol exP) 4 d ∧ (reader3 exP).rowOfDart d = some 0) := by
  obtain ⟨ks, h1, h2⟩ := C20_3d_volume_normal_keys exP_wf.1 exP_scene
  exact ⟨ks, h1, h2 4 0⟩
example : exPScene.vnKeys = some [(1, 0), (1, 1), (1, 2), (4, 1), (4, 0), (4, 2)] := rfl

/-- a square folded onto itself: `β3` pairs `1↔2`, `3↔4` on the ONE β1-cycle `1 2 3 4` — well-formed
    and mirrored, but `three_link` refuses it; the scene has every dart entity twice -/
def exSelf : Map Val :=
  { n := 5
    b := #[#[0, 4, 1, 2, 3], #[0, 2, 3, 4, 1], #[0, 0, 0, 0, 0], #[0, 2, 1, 4, 3]]
    u := #[false, false, false, false, false]
    a := #[#[none, some (.pt 0 0 0), some (.pt 1 0 0), some (.pt 1 1 0), some (.pt 0 1 0)]] }

theorem exSelf_wf : WF 4 exSelf ∧ Mirror exSelf ∧ Sided exSelf ∧ ClosedFaces exSelf := by decide +kernel
example : WF 4 exSelf ∧ Mirror exSelf ∧ Sided exSelf ∧ ClosedFaces exSelf := exSelf_wf
example : (faceDarts exSelf 1).count 3 = 2 :=
  C20_3d_self_glued_face_twice (m := exSelf) exSelf_wf.1 exSelf_wf.2.2.2 (by decide) (by decide)
    (by decide +kernel) (by decide +kernel)
example : faceDarts exSelf 1 = [1, 2, 3, 4, 2, 3, 4, 1] := by decide +kernel

-- `face_id` in 3-D: dart 5 (second side) has face id 1, the minimum over both sides
theorem exP_noSelfGlue : NoSelfGlue exP := by decide +kernel
example : faceMin exP 5 = 1 := by decide +kernel
example : run (faceId3 (X := Val) exP.n 5) exP = (.ok (faceMin exP 5), exP) :=
  run_faceId3_eq exP_wf.1 exP_closed exP_mirror exP_sided (by decide)
example : ∃ v, run (faceId3 (X := Val) exP.n 5) exP = (.ok v, exP) ∧ v ∈ faceDarts exP 5 ∧
    ∀ x, x ∈ faceDarts exP 5 → v ≤ x :=
  faceId3_min exP_wf.1 exP_closed exP_mirror exP_sided (by decide)
example : 1 ∈ iterFaces3 exP ↔ InUse exP 1 ∧ faceMin exP 1 = 1 :=
  mem_iterFaces3_iff exP_wf.1 exP_closed exP_mirror exP_sided 1
-- every in-use dart of the two-sided triangle has exactly one dart entity
example : (exPScene.darts.map (·.d)).Nodup ∧ ∀ d, d ∈ exPScene.darts.map (·.d) ↔ InUse exP d :=
  C20_3d_each_dart_once exP_wf.1 exP_closed exP_mirror exP_sided exP_noSelfGlue exP_scene
-- the self-glued square violates `NoSelfGlue`, and its scene has repeated darts
example : ¬ NoSelfGlue exSelf := by decide +kernel

-- the 3-D extraction does not panic on the two-sided triangle
example : ∃ sc, extract3 exP = some sc :=
  C20_3d_no_panic exP_wf.1 exP_closed (by decide) exP_mirror exP_sided (by
    unfold Embedded3
    rw [← (C20_3d_vertex_entities exP_scene).1]
    decide)
example : ∃ v, (reader3 exP).vid 5 = some v ∧ v ∈ iterVertices3 exP :=
  ⟨_, evalP_of_run (C03.C03_vertexId3_min exP_wf.1 (d := 5) (by decide) (by decide)).1,
    (C03.C03_iterVertices3_mem exP_wf.1 _).2 ⟨5, by decide, by decide, by decide, rfl⟩⟩

/-- a pentagon in a 3-map with a straight corner at dart 2 (a vertex in the middle of the side
    `(0,0,0)–(2,0,0)`): the configuration of finding D20a -/
def exStraight : Map Val :=
  { n := 6
    b := #[#[0, 5, 1, 2, 3, 4], #[0, 2, 3, 4, 5, 1], #[0, 0, 0, 0, 0, 0], #[0, 0, 0, 0, 0, 0]]
    u := #[false, false, false, false, false, false]
    a := #[#[none, some (.pt 0 0 0), some (.pt 1 0 0), some (.pt 2 0 0), some (.pt 2 1 1),
             some (.pt 0 1 1)]] }

def exStraightScene : Scene :=
  { table := [.pt 0 0 0, .pt 1 0 0, .pt 2 0 0, .pt 2 1 1, .pt 0 1 1]
    verts := [(1, 0), (2, 1), (3, 2), (4, 3), (5, 4)]
    edges := [(1, 0, 1), (2, 1, 2), (3, 2, 3), (4, 3, 4), (5, 4, 0)]
    faces := [(1, [0, 1, 2, 3, 4])]
    darts := [⟨1, 1, 1, 1, 1, 0, 1⟩, ⟨2, 2, 2, 1, 1, 1, 2⟩, ⟨3, 3, 3, 1, 1, 2, 3⟩,
              ⟨4, 4, 4, 1, 1, 3, 4⟩, ⟨5, 5, 5, 1, 1, 4, 0⟩]
    fnKeys := [(1, 0), (1, 1), (1, 2), (1, 3), (1, 4)]
    vnKeys := some [(1, 0), (1, 1), (1, 4), (1, 2), (1, 3)] }

theorem exStraight_scene : extract3 exStraight = some exStraightScene := by decide +kernel

-- the plane normal at corner 1 comes from the map's coordinates of the vertices of darts 1, 2, 3 …
example := C20_plane_normal_of_scene (m := exStraight) (by decide) (by decide) exStraight_scene
  (f := 1) (rows := [0, 1, 2, 3, 4]) (by decide) (i := 1) (by decide)
-- … and is the zero vector there (D20a), but not at corner 0
example : planeNormalAt exStraightScene.table [0, 1, 2, 3, 4] 1 = vzero := by decide +kernel
example : planeNormalAt exStraightScene.table [0, 1, 2, 3, 4] 0 ≠ vzero := by decide +kernel
example : cross3 (1, 0, 0) (1, 0, 0) = vzero ↔ ∃ t : Rat, ((1, 0, 0) : V3) = vsmul t (1, 0, 0) :=
  C20_D20a_zero_normal_iff (1, 0, 0) (1, 0, 0) (by decide)
example : ∃ t : Rat, ((1, 0, 0) : V3) = vsmul t (1, 0, 0) := ⟨1, by decide +kernel⟩
example : cross3 (vsub (1, 0, 0) (0, 0, 0)) (vsub (2, 0, 0) (1, 0, 0)) = vzero := by
  have := C20_D20a_straight_corner (0, 0, 0) (2, 0, 0) (1 / 2)
  have e : vadd ((0, 0, 0) : V3) (vsmul (1 / 2) (vsub (2, 0, 0) (0, 0, 0))) = (1, 0, 0) := by
    decide +kernel
  simp only [e] at this
  exact this
example : vadd (vsmul 1 (cross3 (1, 0, 0) (cross3 (1, 0, 0) (0, 1, 0))))
    (vsmul 1 (cross3 (0, 1, 0) (cross3 (1, 0, 0) (0, 1, 0)))) ≠ vzero :=
  C20_3d_normal_nonzero (1, 0, 0) (0, 1, 0) 1 1 (by decide) (by decide) (by decide +kernel)
-- 2-D: a straight corner is fine, a spike is not
example : ¬ ((1 : Rat) * 0 - 0 * 1 = 0 ∧ (1 : Rat) * 1 + 0 * 0 < 0) := by decide +kernel
example := (C20_2d_normal_nonzero_iff (1, 0) (-2, 0) (by decide) (by decide)).2 (by decide +kernel)
example := C20_2d_spike_zero (1, 0) 2 1 (1 / 2) (by decide +kernel)

section FaceScopeOfC03
open HC.C03 (FaceScope exOpen)

-- the hypotheses of this file are a special case of the scope of `C03_faceId3_min`, which also covers open faces
example : ¬ C20.ClosedFaces exOpen := by decide
example : FaceScope C20.exP :=
  FaceScope.of_closedFaces C20.exP_wf.2 (by decide +kernel)

end FaceScopeOfC03

end HC.C20

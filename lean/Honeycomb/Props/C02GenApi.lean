/-
  C02 / C05 — the PUBLIC (un)link / (un)sew API of `CMap3`, end to end on translated code.
  `Gen/Dispatch3.lean` (tools/gen_lean.py `dispatch3`) holds, for `link::<I>`, `unlink::<I>`, `sew::<I>`,
  `unsew::<I>` and their `force_` forms, the two assertions on `I` and the internal function each arm finally runs
  (plain wrappers followed).  `apiFn` maps every function code to the INTERPRETATION OF ITS TRANSLATED BODY
  (Gen/LinkCores, Gen/Links3, Gen/Links3Loops, Gen/Sews3, Gen/Sews3Loops); `apiCall` dispatches through the
  translated table.  `C02_gen_api` proves that the transactional closure `C02.prog` — the function the history
  theorems of C02 (`C02_history_preserves_WF_and_Mirror`) and the per-call theorems of C05 are about — IS that:
  for every `I` (the out-of-range ones included: a panic), every call of the 3-D API runs the translated code.
  What stays hand-written below this line: the traversals behind `vertex_id_transac` / `edge_id_transac` /
  `orbit_transac` (their image tables are translated, Props/C03Gen.lean) and `merge_attributes` /
  `split_attributes` (a loop over the registered storages; `AttrSparseVec::merge/split` is translated,
  Props/C04Gen.lean).
-/
import Honeycomb.Gen.Dispatch3
import Honeycomb.Props.C01Gen
import Honeycomb.Props.C02Gen
import Honeycomb.Props.C02Gen3
import Honeycomb.Props.C05Gen
import Honeycomb.Props.C05Gen3

namespace HC.GenTie
open HC HC.C02
variable {X : Type}

/-- the translated body of the internal function with the given code, run on `(l, r)` (`r` unused by the
    one-argument functions) -/
def apiFn (cfg : Cfg X) (n : Nat) (l r : Nat) : Nat → Option (P X Unit)
  | 1 => some (interpCore l r 0 Gen.twoLinkCore)
  | 4 => some (interpCore l 0 0 Gen.twoUnlinkCore)
  | 10 => some (interpLink l r 16 [] Gen.oneLink3)
  | 11 => some (interpLink l 0 16 [] Gen.oneUnlink3)
  | 12 => some ((interpL n l r 32 [] 0 0 Gen.threeLink3).bind (fun _ => Prog.ret ()))
  | 13 => some ((interpL n l 0 32 [] 0 0 Gen.threeUnlink3).bind (fun _ => Prog.ret ()))
  | 20 => some (interpSew3 cfg n l r 16 [] Gen.oneSew3)
  | 21 => some (interpSew3 cfg n l 0 16 [] Gen.oneUnsew3)
  | 22 => some (interpSew3 cfg n l r 64 [] Gen.twoSew3)
  | 23 => some (interpSew3 cfg n l 0 64 [] Gen.twoUnsew3)
  | 24 => some (interpS3cSkel cfg n l r Gen.threeSewBodies 32 [] [] ([], []) Gen.threeSewSkel)
  | 25 => some (interpS3cSkel cfg n l 0 Gen.threeUnsewBodies 16 [] [] ([], []) Gen.threeUnsewSkel)
  | _ => none

/-- a public call as translated: `assert!(I < bound); assert_ne!(I, excluded); match I { … }` -/
def apiCall (cfg : Cfg X) (n : Nat) (t : Nat × Nat × List (Nat × Nat)) (i l r : Nat) : P X Unit :=
  if i < t.1 ∧ i ≠ t.2.1 then
    match t.2.2.lookup i with
    | some c => (apiFn cfg n l r c).getD Prog.panic
    | none => Prog.panic       -- `_ => unreachable!()`
  else Prog.panic

/-- **the 3-D API runs the translated code** (transactional forms) -/
theorem C02_gen_api (cfg : Cfg X) (n i l r : Nat) :
    prog cfg n (.link i l r) = apiCall cfg n Gen.Dispatch3.link3 i l r ∧
    prog cfg n (.unlink i l) = apiCall cfg n Gen.Dispatch3.unlink3 i l 0 ∧
    prog cfg n (.sew i l r) = apiCall cfg n Gen.Dispatch3.sew3 i l r ∧
    prog cfg n (.unsew i l) = apiCall cfg n Gen.Dispatch3.unsew3 i l 0 := by
  have h4 : ∀ k : Nat, (k + 4 < 4) = False := fun k => by simp
  refine ⟨?_, ?_, ?_, ?_⟩
  · match i with
    | 0 => rfl
    | 1 => exact (C02_gen_oneLink3 l r).symm
    | 2 => exact (C01_gen_twoLinkCore l r).symm
    | 3 => exact (C02_gen_threeLink3 n l r).symm
    | k + 4 => simp only [apiCall, Gen.Dispatch3.link3, h4, false_and, if_false]; rfl
  · match i with
    | 0 => rfl
    | 1 => exact (C02_gen_oneUnlink3 l).symm
    | 2 => exact (C01_gen_twoUnlinkCore l).symm
    | 3 => exact (C02_gen_threeUnlink3 n l).symm
    | k + 4 => simp only [apiCall, Gen.Dispatch3.unlink3, h4, false_and, if_false]; rfl
  · match i with
    | 0 => rfl
    | 1 => exact (C05_gen_oneSew3 cfg n l r).symm
    | 2 => exact (C05_gen_twoSew3 cfg n l r).symm
    | 3 => exact (C05_gen_threeSew3 cfg n l r).symm
    | k + 4 => simp only [apiCall, Gen.Dispatch3.sew3, h4, false_and, if_false]; rfl
  · match i with
    | 0 => rfl
    | 1 => exact (C05_gen_oneUnsew3 cfg n l).symm
    | 2 => exact (C05_gen_twoUnsew3 cfg n l).symm
    | 3 => exact (C05_gen_threeUnsew3 cfg n l).symm
    | k + 4 => simp only [apiCall, Gen.Dispatch3.unsew3, h4, false_and, if_false]; rfl

/-- the `force_` forms run the same internal function as the transactional forms (inside one
    `atomically_with_err`, checked by the translator): the tables coincide -/
theorem C02_gen_force_tables :
    Gen.Dispatch3.forceLink3 = Gen.Dispatch3.link3 ∧ Gen.Dispatch3.forceUnlink3 = Gen.Dispatch3.unlink3 ∧
    Gen.Dispatch3.forceSew3 = Gen.Dispatch3.sew3 ∧ Gen.Dispatch3.forceUnsew3 = Gen.Dispatch3.unsew3 := by decide

/-- **C02 on the translated API**: one public transactional call of the 3-D API, run as translated, on a
    well-formed (mirrored) 3-map with admissible arguments leaves a well-formed (mirrored) map — the one-step
    theorem of C02 with `prog` replaced by the translated dispatch -/
theorem C02_gen_api_step_preserves_WF (cfg : Cfg X) {m : Map X} (h : WF 4 m) (i l r : Nat)
    (ha : ArgsOK m (.sew i l r)) :
    WF 4 (atomically (apiCall cfg m.n Gen.Dispatch3.sew3 i l r) m).2 := by
  rw [← (C02_gen_api cfg m.n i l r).2.2.1]
  exact C02_step_preserves_WF cfg m (.sew i l r) h ha

end HC.GenTie

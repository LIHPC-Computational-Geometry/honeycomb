/-
  C17 — the colouring loop of `classify_capture`: surface identifiers.

  On a well-formed 2-map with the anchor storages that carries NO edge and NO face anchor before the call (the
  shape `capture_geometry` returns: only node anchors on vertices), for every size:

  * `C17_surface_edge_faces`     after the three loops, an edge anchored to `Surface(k)` lies between two faces
                                 anchored to `Surface(k)`
  * `C17_edge_anchor_kinds`      an edge anchor is then a curve or a surface
  * `C17_faces_across_non_curve_edge_same`  after `classify_capture = Ok`: an in-use 2-linked dart whose edge is not
                                 anchored to a curve has its edge and both its faces anchored to one `Surface(k)`
  * `C17_surface_connected_same` faces reachable from each other without crossing a curve-anchored edge carry the
                                 same face anchor (one surface identifier per region)
  * `C17_same_surface_linked`    conversely two faces anchored to the same `Surface(k)` are linked by a chain of edges
                                 anchored to `Surface(k)`: regions separated by curves get different identifiers

  Method: loop invariants `DInv` / `SInv` (queue, `marked`, closed faces, status of the two faces of every
  surface-anchored edge) and `TInv` (every face of surface `k` is linked to the face the colouring `k` started from)
  through `colourDarts` / `colourSurface` / `classifySurfaces`; the frame `OnlyVals` (the first two loops only
  write curves, the third only surfaces), followed through the programs by `Frame` of Props/C17.lean.
-/
import Honeycomb.Props.C17
import Honeycomb.Lemmas.CmapText


namespace HC.C17
open HC HC.C03

/-! ## combinatorics of edges and faces on a well-formed map -/

theorem edOf_sameTopo {m m' : Map Val} (t : SameTopo m m') (d : Nat) : edOf m' d = edOf m d := by
  unfold edOf; rw [t.β]

section
variable {m0 : Map Val}

/-- `h` is the identifier of a face -/
def FaceId (m0 : Map Val) (h : Nat) : Prop := h ≠ 0 ∧ h < m0.n ∧ cellId m0 .face h = h

theorem face_of_mem (h0 : WF 3 m0) {crt x : Nat} (hc : FaceId m0 crt) (hx : x ∈ orb m0 .face crt) :
    x ≠ 0 ∧ x < m0.n ∧ cellId m0 .face x = crt := by
  obtain ⟨c0, clt, cid⟩ := hc
  have sp := C03_orbit2_spec h0 (pol := .face) trivial c0 clt
  have hxlt := sp.2.2.2.2.2 x hx
  obtain ⟨hx0, hr⟩ := (mem_orb h0 (pol := .face) trivial c0 clt x).1 hx
  refine ⟨hx0, hxlt, ?_⟩
  rw [← cid]
  exact ((C03_same_id_iff_same_cell h0 (pol := .face) trivial c0 clt hx0 hxlt).1.2 hr).symm

theorem mem_own_face (h0 : WF 3 m0) {y : Nat} (hy0 : y ≠ 0) (hy : y < m0.n) :
    FaceId m0 (cellId m0 .face y) ∧ y ∈ orb m0 .face (cellId m0 .face y) := by
  obtain ⟨k0, klt, kid⟩ := cellId_idem h0 (pol := .face) trivial hy0 hy
  refine ⟨⟨k0, klt, kid⟩, ?_⟩
  have sp := cellId_spec h0 (pol := .face) trivial hy0 hy
  have hr := ((mem_orb h0 (pol := .face) trivial hy0 hy _).1 sp.1).2
  exact (mem_orb h0 (pol := .face) trivial k0 klt y).2 ⟨hy0, reach_symm h0 (pol := .face) trivial hy k0 hr⟩

theorem edOf_lt (h0 : WF 3 m0) {x : Nat} (hx : x < m0.n) : edOf m0 x < m0.n := eid_lt h0 hx

theorem edOf_b2 (h0 : WF 3 m0) {x : Nat} (hx : x < m0.n) (hb : m0.β 2 x ≠ 0) :
    edOf m0 (m0.β 2 x) = edOf m0 x := by
  obtain ⟨e1, e2⟩ := h0.invol 2 (by omega) (by omega) x hx hb
  unfold edOf
  rw [e1, if_neg hb]
  have : x ≠ 0 := by
    intro e; rw [e, h0.null 2 (by omega)] at hb; exact hb rfl
  rw [if_neg this]
  exact Nat.min_comm _ _

theorem edOf_eq (h0 : WF 3 m0) {x y : Nat} (hx0 : x ≠ 0) (hx : x < m0.n) (hy0 : y ≠ 0) (hy : y < m0.n)
    (e : edOf m0 y = edOf m0 x) : y = x ∨ (m0.β 2 x ≠ 0 ∧ y = m0.β 2 x) := by
  have ix := h0.invol 2 (by omega) (by omega) x hx
  have iy := h0.invol 2 (by omega) (by omega) y hy
  unfold edOf at e
  by_cases bx : m0.β 2 x = 0 <;> by_cases bY : m0.β 2 y = 0
  · simp only [bx, bY, if_true] at e; exact Or.inl e
  · simp only [bx, bY, if_true, if_false] at e
    rcases Nat.le_total (m0.β 2 y) y with hle | hle
    · rw [Nat.min_eq_left hle] at e
      exfalso
      have := (iy bY).1
      rw [e, bx] at this
      exact hy0 this.symm
    · rw [Nat.min_eq_right hle] at e; exact Or.inl e
  · simp only [bx, bY, if_true, if_false] at e
    rcases Nat.le_total (m0.β 2 x) x with hle | hle
    · rw [Nat.min_eq_left hle] at e
      exfalso
      have := (ix bx).1
      rw [← e, bY] at this
      exact hx0 this.symm
    · rw [Nat.min_eq_right hle] at e; exact Or.inl e
  · simp only [bx, bY, if_false] at e
    have ix' := ix bx
    have iy' := iy bY
    rcases Nat.le_total (m0.β 2 x) x with hx1 | hx1 <;> rcases Nat.le_total (m0.β 2 y) y with hy1 | hy1
    · rw [Nat.min_eq_left hx1, Nat.min_eq_left hy1] at e
      left
      have := congrArg (m0.β 2) e
      rw [iy'.1, ix'.1] at this; exact this
    · rw [Nat.min_eq_left hx1, Nat.min_eq_right hy1] at e
      exact Or.inr ⟨bx, e⟩
    · rw [Nat.min_eq_right hx1, Nat.min_eq_left hy1] at e
      right
      refine ⟨bx, ?_⟩
      have := congrArg (m0.β 2) e
      rw [iy'.1] at this; exact this
    · rw [Nat.min_eq_right hx1, Nat.min_eq_right hy1] at e
      exact Or.inl e

theorem vSurface_inj {k k' : Nat} (e : some (vSurface k) = some (vSurface k')) : k = k' := by
  unfold vSurface at e
  injection e with e
  injection e with e
  injection e with e
  omega

/-! ## what the body of the colouring writes -/

theorem colourStep_attF (m : Map Val) (sid d x : Nat) : (colourStep m sid d).att sFA x = m.att sFA x := by
  unfold colourStep
  simp only
  split
  · rw [Map.att_setA, if_neg (fun hh => absurd hh.1 (by decide)), Map.att_setA,
      if_neg (fun hh => absurd hh.1 (by decide))]
  · rw [Map.att_setA, if_neg (fun hh => absurd hh.1 (by decide))]

theorem colourStep_attE (m : Map Val) (sid d x : Nat) (hok : m.okA sEA (edOf m d) = true) :
    (colourStep m sid d).att sEA x = if edOf m d = x then some (vSurface sid) else m.att sEA x := by
  unfold colourStep
  simp only
  split
  · rw [Map.att_setA, if_neg (fun hh => absurd hh.1 (by decide)), Map.att_setA]
    by_cases e : edOf m d = x
    · rw [if_pos ⟨rfl, e, hok⟩, if_pos e]
    · rw [if_neg (fun hh => e hh.2.1), if_neg e]
  · rw [Map.att_setA]
    by_cases e : edOf m d = x
    · rw [if_pos ⟨rfl, e, hok⟩, if_pos e]
    · rw [if_neg (fun hh => e hh.2.1), if_neg e]

/-! ## faces linked by edges of one surface -/

/-- the faces `b` and `c` lie on the two sides of an edge anchored to `Surface(k)` -/
def SAdj (m0 m : Map Val) (k b c : Nat) : Prop :=
  ∃ x, x ≠ 0 ∧ x < m0.n ∧ m0.β 2 x ≠ 0 ∧ m.att sEA (edOf m0 x) = some (vSurface k) ∧
    ((cellId m0 .face x = b ∧ cellId m0 .face (m0.β 2 x) = c) ∨
     (cellId m0 .face x = c ∧ cellId m0 .face (m0.β 2 x) = b))

/-- linked by a chain of edges anchored to `Surface(k)` -/
inductive SLink (m0 m : Map Val) (k : Nat) : Nat → Nat → Prop where
  | refl (a : Nat) : SLink m0 m k a a
  | step {a b c : Nat} : SLink m0 m k a b → SAdj m0 m k b c → SLink m0 m k a c

theorem SAdj.symm {m0 m : Map Val} {k b c : Nat} (h : SAdj m0 m k b c) : SAdj m0 m k c b := by
  obtain ⟨x, h1, h2, h3, h4, h5⟩ := h
  exact ⟨x, h1, h2, h3, h4, h5.symm⟩

theorem SLink.trans {m0 m : Map Val} {k a b c : Nat} (h1 : SLink m0 m k a b) (h2 : SLink m0 m k b c) :
    SLink m0 m k a c := by
  induction h2 with
  | refl => exact h1
  | step _ hadj ih => exact SLink.step ih hadj

theorem SLink.symm {m0 m : Map Val} {k a b : Nat} (h : SLink m0 m k a b) : SLink m0 m k b a := by
  induction h with
  | refl => exact SLink.refl _
  | step _ hadj ih => exact (SLink.step (SLink.refl _) hadj.symm).trans ih

theorem SLink.mono {m0 m m' : Map Val} {k a b : Nat}
    (hE : ∀ x k, m.att sEA x = some (vSurface k) → m'.att sEA x = some (vSurface k))
    (h : SLink m0 m k a b) : SLink m0 m' k a b := by
  induction h with
  | refl => exact SLink.refl _
  | step _ hadj ih =>
      obtain ⟨x, h1, h2, h3, h4, h5⟩ := hadj
      exact SLink.step ih ⟨x, h1, h2, h3, hE _ _ h4, h5⟩

/-! ## the invariant of the colouring -/

/-- every dart of the face `h` has an anchored edge -/
def Closed (m0 m : Map Val) (h : Nat) : Prop :=
  ∀ x, x ∈ orb m0 .face h → (m.att sEA (edOf m0 x)).isSome = true

/-- the face carries `Surface(k)`, or it is waiting in the queue of the colouring `k` -/
def Status (m : Map Val) (q : List Nat) (sid k h : Nat) : Prop :=
  m.att sFA h = some (vSurface k) ∨ (k = sid ∧ h ∈ q)

/-- invariant inside the colouring `sid`, while the darts of the face `crt` are visited (`pre` = the
    darts already visited) -/
structure DInv (m0 m : Map Val) (q mk : List Nat) (sid crt : Nat) (pre : List Nat) : Prop where
  topo : SameTopo m0 m
  qf : ∀ h, h ∈ q → FaceId m0 h
  mkf : ∀ h, h ∈ mk → h = 0 ∨ FaceId m0 h
  mk0 : 0 ∈ mk
  Q : ∀ h, h ∈ q → m.att sFA h = none ∨ m.att sFA h = some (vSurface sid)
  M : ∀ h, h ∈ mk → h ≠ 0 → h ∈ q ∨ (m.att sFA h).isSome = true
  C : ∀ h, FaceId m0 h → (m.att sFA h).isSome = true → h ≠ crt → Closed m0 m h
  P : m.att sFA crt = some (vSurface sid) ∧ ∀ x, x ∈ pre → (m.att sEA (edOf m0 x)).isSome = true
  crtf : FaceId m0 crt
  R : ∀ x, x ≠ 0 → x < m0.n → m0.β 2 x ≠ 0 → ∀ k, m.att sEA (edOf m0 x) = some (vSurface k) →
    Status m q sid k (cellId m0 .face x) ∧ Status m q sid k (cellId m0 .face (m0.β 2 x))

theorem Status.mono {m m' : Map Val} {q q' : List Nat} {sid k h : Nat} (hs : Status m q sid k h)
    (hF : m'.att sFA h = m.att sFA h) (hq : ∀ x, x ∈ q → x ∈ q') : Status m' q' sid k h := by
  rcases hs with e | ⟨e1, e2⟩
  · exact Or.inl (by rw [hF]; exact e)
  · exact Or.inr ⟨e1, hq h e2⟩

/-- a dart whose edge is already anchored is skipped -/
theorem DInv.skip {m : Map Val} {q mk : List Nat} {sid crt d : Nat} {pre : List Nat}
    (I : DInv m0 m q mk sid crt pre) (ha : (m.att sEA (edOf m0 d)).isSome = true) :
    DInv m0 m q mk sid crt (pre ++ [d]) := by
  refine { I with P := ⟨I.P.1, ?_⟩ }
  intro x hx
  rcases List.mem_append.1 hx with hx | hx
  · exact I.P.2 x hx
  · rw [List.mem_singleton.1 hx]; exact ha

/-- the body of the colouring for a dart `d` of `crt` whose edge was unanchored -/
theorem DInv.write (h0 : Ok9 m0) {m : Map Val} {q mk : List Nat} {sid crt d : Nat} {pre : List Nat}
    (I : DInv m0 m q mk sid crt pre) (hd : d ∈ orb m0 .face crt)
    (ha : ¬ (m.att sEA (edOf m0 d)).isSome = true) :
    (cellId m0 .face (m0.β 2 d) ∈ mk →
      DInv m0 (colourStep m sid d) q mk sid crt (pre ++ [d])) ∧
    (cellId m0 .face (m0.β 2 d) ∉ mk →
      DInv m0 (colourStep m sid d) (q ++ [cellId m0 .face (m0.β 2 d)])
        (mk ++ [cellId m0 .face (m0.β 2 d)]) sid crt (pre ++ [d])) := by
  obtain ⟨hd0, hdlt, hfd⟩ := face_of_mem h0.wf I.crtf hd
  have hm9 := h0.sameTopo I.topo
  have hed : edOf m d = edOf m0 d := edOf_sameTopo I.topo d
  have hok : m.okA sEA (edOf m d) = true := by
    rw [hed]; exact hm9.okA (by decide : sEA ≤ 8) (by rw [I.topo.n]; exact edOf_lt h0.wf hdlt)
  have hnone : m.att sEA (edOf m0 d) = none := by
    cases hx : m.att sEA (edOf m0 d) with
    | none => rfl
    | some v => rw [hx] at ha; exact absurd rfl ha
  have aF : ∀ x, (colourStep m sid d).att sFA x = m.att sFA x := colourStep_attF m sid d
  have aE : ∀ x, (colourStep m sid d).att sEA x =
      if edOf m0 d = x then some (vSurface sid) else m.att sEA x := by
    intro x; rw [colourStep_attE m sid d x hok, hed]
  have aEmono : ∀ x, (m.att sEA x).isSome = true → ((colourStep m sid d).att sEA x).isSome = true := by
    intro x hx; rw [aE]; split
    · rfl
    · exact hx
  have topo' : SameTopo m0 (colourStep m sid d) := I.topo.trans (colourStep_grow m sid d).topo
  have hb2lt : m0.β 2 d < m0.n := h0.wf.range 2 (by omega) d hdlt
  -- a closed face cannot contain a dart of the edge that was still unanchored
  have notClosed : ∀ h, Closed m0 m h → m0.β 2 d ≠ 0 → cellId m0 .face (m0.β 2 d) ≠ h := by
    intro h hcl hb e
    have hmem := (mem_own_face h0.wf hb hb2lt).2
    rw [e] at hmem
    have := hcl _ hmem
    rw [edOf_b2 h0.wf hdlt hb, hnone] at this
    cases this
  have common_P : (colourStep m sid d).att sFA crt = some (vSurface sid) ∧
      ∀ x, x ∈ pre ++ [d] → ((colourStep m sid d).att sEA (edOf m0 x)).isSome = true := by
    refine ⟨by rw [aF]; exact I.P.1, ?_⟩
    intro x hx
    rcases List.mem_append.1 hx with hx | hx
    · exact aEmono _ (I.P.2 x hx)
    · rw [List.mem_singleton.1 hx, aE, if_pos rfl]; rfl
  have common_C : ∀ h, FaceId m0 h → ((colourStep m sid d).att sFA h).isSome = true → h ≠ crt →
      Closed m0 (colourStep m sid d) h := by
    intro h hf hs hne x hx
    rw [aF] at hs
    exact aEmono _ (I.C h hf hs hne x hx)
  have relR : ∀ (q' : List Nat), (∀ x, x ∈ q → x ∈ q') →
      (m0.β 2 d ≠ 0 → Status (colourStep m sid d) q' sid sid (cellId m0 .face (m0.β 2 d))) →
      ∀ x, x ≠ 0 → x < m0.n → m0.β 2 x ≠ 0 → ∀ k,
        (colourStep m sid d).att sEA (edOf m0 x) = some (vSurface k) →
        Status (colourStep m sid d) q' sid k (cellId m0 .face x) ∧
          Status (colourStep m sid d) q' sid k (cellId m0 .face (m0.β 2 x)) := by
    intro q' hqq hnf x hx0 hx hbx k hk
    rw [aE] at hk
    by_cases e : edOf m0 d = edOf m0 x
    · rw [if_pos e] at hk
      have hks : sid = k := vSurface_inj hk
      subst hks
      have scrt : Status (colourStep m sid d) q' sid sid crt := Or.inl common_P.1
      rcases edOf_eq h0.wf hd0 hdlt hx0 hx e.symm with rfl | ⟨hb, rfl⟩
      · rw [hfd]; exact ⟨scrt, hnf hbx⟩
      · have : m0.β 2 (m0.β 2 d) = d := (h0.wf.invol 2 (by omega) (by omega) d hdlt hb).1
        rw [this, hfd]; exact ⟨hnf hb, scrt⟩
    · rw [if_neg e] at hk
      obtain ⟨s1, s2⟩ := I.R x hx0 hx hbx k hk
      exact ⟨s1.mono (aF _) hqq, s2.mono (aF _) hqq⟩
  constructor
  · -- the neighbour face is already marked
    intro hmk
    refine ⟨topo', I.qf, I.mkf, I.mk0, ?_, ?_, common_C, common_P, I.crtf, ?_⟩
    · intro h hh; rw [aF]; exact I.Q h hh
    · intro h hh hne; rw [aF]; exact I.M h hh hne
    · refine relR q (fun _ hx => hx) ?_
      intro hb
      obtain ⟨nff, _⟩ := mem_own_face h0.wf hb hb2lt
      rcases I.M _ hmk nff.1 with hq | hs
      · exact Or.inr ⟨rfl, hq⟩
      · by_cases hc : cellId m0 .face (m0.β 2 d) = crt
        · rw [hc]; exact Or.inl common_P.1
        · exact absurd rfl (notClosed _ (I.C _ nff hs hc) hb)
  · -- the neighbour face is pushed
    intro hmk
    have hb : m0.β 2 d ≠ 0 := by
      intro e; apply hmk; rw [e, cellId_zero h0.wf (pol := .face) trivial]; exact I.mk0
    obtain ⟨nff, _⟩ := mem_own_face h0.wf hb hb2lt
    refine ⟨topo', ?_, ?_, List.mem_append_left _ I.mk0, ?_, ?_, common_C, common_P, I.crtf, ?_⟩
    · intro h hh
      rcases List.mem_append.1 hh with hh | hh
      · exact I.qf h hh
      · rw [List.mem_singleton.1 hh]; exact nff
    · intro h hh
      rcases List.mem_append.1 hh with hh | hh
      · exact I.mkf h hh
      · rw [List.mem_singleton.1 hh]; exact Or.inr nff
    · intro h hh
      rw [aF]
      rcases List.mem_append.1 hh with hh | hh
      · exact I.Q h hh
      · rw [List.mem_singleton.1 hh]
        cases hs : m.att sFA (cellId m0 .face (m0.β 2 d)) with
        | none => exact Or.inl rfl
        | some v =>
            by_cases hc : cellId m0 .face (m0.β 2 d) = crt
            · right; rw [← hs, hc]; exact I.P.1
            · exact absurd rfl (notClosed _ (I.C _ nff (by rw [hs]; rfl) hc) hb)
    · intro h hh hne
      rw [aF]
      rcases List.mem_append.1 hh with hh | hh
      · rcases I.M h hh hne with hq | hs
        · exact Or.inl (List.mem_append_left _ hq)
        · exact Or.inr hs
      · rw [List.mem_singleton.1 hh]; exact Or.inl (List.mem_append_right _ List.mem_cons_self)
    · exact relR _ (fun _ hx => List.mem_append_left _ hx)
        (fun _ => Or.inr ⟨rfl, List.mem_append_right _ List.mem_cons_self⟩)

/-- invariant of the colouring `sid` between two pops of the face queue -/
structure SInv (m0 m : Map Val) (q mk : List Nat) (sid : Nat) : Prop where
  topo : SameTopo m0 m
  qf : ∀ h, h ∈ q → FaceId m0 h
  mkf : ∀ h, h ∈ mk → h = 0 ∨ FaceId m0 h
  mk0 : 0 ∈ mk
  Q : ∀ h, h ∈ q → m.att sFA h = none ∨ m.att sFA h = some (vSurface sid)
  M : ∀ h, h ∈ mk → h ≠ 0 → h ∈ q ∨ (m.att sFA h).isSome = true
  C : ∀ h, FaceId m0 h → (m.att sFA h).isSome = true → Closed m0 m h
  R : ∀ x, x ≠ 0 → x < m0.n → m0.β 2 x ≠ 0 → ∀ k, m.att sEA (edOf m0 x) = some (vSurface k) →
    Status m q sid k (cellId m0 .face x) ∧ Status m q sid k (cellId m0 .face (m0.β 2 x))

/-- popping the head of the queue and anchoring it -/
theorem SInv.pop (h0 : Ok9 m0) {m : Map Val} {crt : Nat} {q mk : List Nat} {sid : Nat}
    (I : SInv m0 m (crt :: q) mk sid) :
    DInv m0 (m.setA sFA crt (some (vSurface sid))) q mk sid crt [] := by
  have hcf := I.qf crt List.mem_cons_self
  have hm9 := h0.sameTopo I.topo
  have hok : m.okA sFA crt = true := hm9.okA (by decide : sFA ≤ 8) (by rw [I.topo.n]; exact hcf.2.1)
  have aF : ∀ x, (m.setA sFA crt (some (vSurface sid))).att sFA x =
      if crt = x then some (vSurface sid) else m.att sFA x := by
    intro x; rw [Map.att_setA]
    by_cases e : crt = x
    · rw [if_pos ⟨rfl, e, hok⟩, if_pos e]
    · rw [if_neg (fun hh => e hh.2.1), if_neg e]
  have aE : ∀ x, (m.setA sFA crt (some (vSurface sid))).att sEA x = m.att sEA x := by
    intro x; rw [Map.att_setA, if_neg (fun hh => absurd hh.1 (by decide))]
  have stat : ∀ k h, Status m (crt :: q) sid k h → Status (m.setA sFA crt (some (vSurface sid))) q sid k h := by
    intro k h hs
    by_cases e : crt = h
    · subst e
      rcases hs with e1 | ⟨e1, _⟩
      · rcases I.Q crt List.mem_cons_self with e2 | e2
        · rw [e1] at e2; cases e2
        · rw [e1] at e2; have := vSurface_inj e2; subst this
          exact Or.inl (by rw [aF, if_pos rfl])
      · subst e1; exact Or.inl (by rw [aF, if_pos rfl])
    · rcases hs with e1 | ⟨e1, e2⟩
      · exact Or.inl (by rw [aF, if_neg e]; exact e1)
      · rcases List.mem_cons.1 e2 with e3 | e3
        · exact absurd e3.symm e
        · exact Or.inr ⟨e1, e3⟩
  refine ⟨I.topo.trans (SameTopo.setA _ _ _ _), fun h hh => I.qf h (List.mem_cons_of_mem _ hh), I.mkf, I.mk0,
    ?_, ?_, ?_, ⟨by rw [aF, if_pos rfl], fun x hx => by cases hx⟩, hcf, ?_⟩
  · intro h hh
    rw [aF]
    by_cases e : crt = h
    · rw [if_pos e]; exact Or.inr rfl
    · rw [if_neg e]; exact I.Q h (List.mem_cons_of_mem _ hh)
  · intro h hh hne
    rw [aF]
    by_cases e : crt = h
    · rw [if_pos e]; exact Or.inr rfl
    · rw [if_neg e]
      rcases I.M h hh hne with hq | hs
      · rcases List.mem_cons.1 hq with e3 | e3
        · exact absurd e3.symm e
        · exact Or.inl e3
      · exact Or.inr hs
  · intro h hf hs hne x hx
    rw [aF, if_neg (fun e => hne e.symm)] at hs
    rw [aE]; exact I.C h hf hs x hx
  · intro x hx0 hx hbx k hk
    rw [aE] at hk
    obtain ⟨s1, s2⟩ := I.R x hx0 hx hbx k hk
    exact ⟨stat _ _ s1, stat _ _ s2⟩

/-- all darts of the popped face have been visited -/
theorem DInv.finish {m : Map Val} {q mk : List Nat} {sid crt : Nat} (I : DInv m0 m q mk sid crt (orb m0 .face crt)) :
    SInv m0 m q mk sid := by
  refine ⟨I.topo, I.qf, I.mkf, I.mk0, I.Q, I.M, ?_, I.R⟩
  intro h hf hs
  by_cases e : h = crt
  · subst e; exact fun x hx => I.P.2 x hx
  · exact I.C h hf hs e

theorem SInv.resid {m : Map Val} {mk : List Nat} {sid sid' : Nat} (I : SInv m0 m [] mk sid) :
    SInv m0 m [] mk sid' := by
  refine ⟨I.topo, I.qf, I.mkf, I.mk0, ?_, I.M, I.C, ?_⟩
  · intro h hh; cases hh
  intro x hx0 hx hbx k hk
  obtain ⟨s1, s2⟩ := I.R x hx0 hx hbx k hk
  constructor
  · rcases s1 with e | ⟨_, e⟩
    · exact Or.inl e
    · cases e
  · rcases s2 with e | ⟨_, e⟩
    · exact Or.inl e
    · cases e

/-- the start face of the colouring `k` is recorded in a ghost function -/
def upd (root : Nat → Nat) (k v : Nat) : Nat → Nat := fun j => if j = k then v else root j

theorem upd_self (root : Nat → Nat) (k v : Nat) : upd root k v k = v := by simp [upd]
theorem upd_ne (root : Nat → Nat) {j k : Nat} (h : j ≠ k) (v : Nat) : upd root k v j = root j := by
  simp [upd, h]

/-- second invariant: every face of the surface `k` (anchored or waiting) is linked to the face the
    colouring `k` started from; identifiers above the current one are not in use -/
structure TInv (m0 m : Map Val) (q : List Nat) (sid : Nat) (root : Nat → Nat) : Prop where
  T : ∀ h k, Status m q sid k h → SLink m0 m k (root k) h
  N : ∀ h k, m.att sFA h = some (vSurface k) → k ≤ sid

theorem TInv.write (h0 : Ok9 m0) {m : Map Val} {q mk : List Nat} {sid crt d : Nat} {pre : List Nat}
    {root : Nat → Nat} (I : DInv m0 m q mk sid crt pre) (J : TInv m0 m q sid root)
    (hd : d ∈ orb m0 .face crt) (ha : ¬ (m.att sEA (edOf m0 d)).isSome = true) :
    TInv m0 (colourStep m sid d) q sid root ∧
    (cellId m0 .face (m0.β 2 d) ∉ mk →
      TInv m0 (colourStep m sid d) (q ++ [cellId m0 .face (m0.β 2 d)]) sid root) := by
  obtain ⟨hd0, hdlt, hfd⟩ := face_of_mem h0.wf I.crtf hd
  have hm9 := h0.sameTopo I.topo
  have hed : edOf m d = edOf m0 d := edOf_sameTopo I.topo d
  have hok : m.okA sEA (edOf m d) = true := by
    rw [hed]; exact hm9.okA (by decide : sEA ≤ 8) (by rw [I.topo.n]; exact edOf_lt h0.wf hdlt)
  have hnone : m.att sEA (edOf m0 d) = none := by
    cases hx : m.att sEA (edOf m0 d) with
    | none => rfl
    | some v => rw [hx] at ha; exact absurd rfl ha
  have aF : ∀ x, (colourStep m sid d).att sFA x = m.att sFA x := colourStep_attF m sid d
  have aE : ∀ x, (colourStep m sid d).att sEA x =
      if edOf m0 d = x then some (vSurface sid) else m.att sEA x := by
    intro x; rw [colourStep_attE m sid d x hok, hed]
  have emono : ∀ x k, m.att sEA x = some (vSurface k) → (colourStep m sid d).att sEA x = some (vSurface k) := by
    intro x k hx
    rw [aE]
    by_cases e : edOf m0 d = x
    · rw [← e, hnone] at hx; cases hx
    · rw [if_neg e]; exact hx
  have oldT : ∀ h k, Status m q sid k h → SLink m0 (colourStep m sid d) k (root k) h :=
    fun h k hs => (J.T h k hs).mono emono
  have hN : ∀ h k, (colourStep m sid d).att sFA h = some (vSurface k) → k ≤ sid := by
    intro h k hh; rw [aF] at hh; exact J.N h k hh
  constructor
  · refine ⟨?_, hN⟩
    intro h k hs
    apply oldT
    rcases hs with e | e
    · exact Or.inl (by rw [← aF]; exact e)
    · exact Or.inr e
  · intro hmk
    have hb : m0.β 2 d ≠ 0 := by
      intro e; apply hmk; rw [e, cellId_zero h0.wf (pol := .face) trivial]; exact I.mk0
    refine ⟨?_, hN⟩
    intro h k hs
    rcases hs with e | ⟨e1, e2⟩
    · exact oldT h k (Or.inl (by rw [← aF]; exact e))
    · rcases List.mem_append.1 e2 with e2 | e2
      · exact oldT h k (Or.inr ⟨e1, e2⟩)
      · rw [List.mem_singleton.1 e2, e1]
        have hcrt := oldT crt sid (Or.inl I.P.1)
        refine SLink.step hcrt ⟨d, hd0, hdlt, hb, by rw [aE, if_pos rfl], Or.inl ⟨hfd, rfl⟩⟩

theorem TInv.pop (h0 : Ok9 m0) {m : Map Val} {crt : Nat} {q mk : List Nat} {sid : Nat} {root : Nat → Nat}
    (I : SInv m0 m (crt :: q) mk sid) (J : TInv m0 m (crt :: q) sid root) :
    TInv m0 (m.setA sFA crt (some (vSurface sid))) q sid root := by
  have hcf := I.qf crt List.mem_cons_self
  have hm9 := h0.sameTopo I.topo
  have hok : m.okA sFA crt = true := hm9.okA (by decide : sFA ≤ 8) (by rw [I.topo.n]; exact hcf.2.1)
  have aF : ∀ x, (m.setA sFA crt (some (vSurface sid))).att sFA x =
      if crt = x then some (vSurface sid) else m.att sFA x := by
    intro x; rw [Map.att_setA]
    by_cases e : crt = x
    · rw [if_pos ⟨rfl, e, hok⟩, if_pos e]
    · rw [if_neg (fun hh => e hh.2.1), if_neg e]
  have aE : ∀ x, (m.setA sFA crt (some (vSurface sid))).att sEA x = m.att sEA x := by
    intro x; rw [Map.att_setA, if_neg (fun hh => absurd hh.1 (by decide))]
  constructor
  · intro h k hs
    have old : Status m (crt :: q) sid k h := by
      rcases hs with e | ⟨e1, e2⟩
      · rw [aF] at e
        by_cases ec : crt = h
        · rw [if_pos ec] at e
          have := vSurface_inj e; subst this; subst ec
          exact Or.inr ⟨rfl, List.mem_cons_self⟩
        · rw [if_neg ec] at e; exact Or.inl e
      · exact Or.inr ⟨e1, List.mem_cons_of_mem _ e2⟩
    exact (J.T h k old).mono (fun x k hx => by rw [aE]; exact hx)
  · intro h k hh
    rw [aF] at hh
    by_cases ec : crt = h
    · rw [if_pos ec] at hh; have := vSurface_inj hh; omega
    · rw [if_neg ec] at hh; exact J.N h k hh

/-- the loop over the darts of the current face keeps the two invariants -/
theorem colourDarts_inv (h0 : Ok9 m0) (sid crt : Nat) (root : Nat → Nat) :
    ∀ (ds pre q mk : List Nat) (m : Map Val),
    DInv m0 m q mk sid crt pre → TInv m0 m q sid root → orb m0 .face crt = pre ++ ds →
    ∃ q' mk' m', run (colourDarts m0.n sid ds q mk) m = (.ok (q', mk'), m') ∧
      DInv m0 m' q' mk' sid crt (pre ++ ds) ∧ TInv m0 m' q' sid root := by
  intro ds
  induction ds with
  | nil =>
      intro pre q mk m I J _
      exact ⟨q, mk, m, by simp [colourDarts], by simpa using I, J⟩
  | cons d ds ih =>
      intro pre q mk m I J ho
      have hd : d ∈ orb m0 .face crt := by rw [ho]; simp
      obtain ⟨hd0, hdlt, hfd⟩ := face_of_mem h0.wf I.crtf hd
      have hm9 := h0.sameTopo I.topo
      have hn : m.n = m0.n := I.topo.n
      have ho' : orb m0 .face crt = (pre ++ [d]) ++ ds := by rw [ho]; simp
      have e1 : pre ++ d :: ds = (pre ++ [d]) ++ ds := by simp
      rw [← hn, run_colourDarts_cons hm9 (by rw [hn]; exact hdlt), edOf_sameTopo I.topo,
        cellId_sameTopo I.topo, I.topo.β, hn, e1]
      by_cases ha : (m.att sEA (edOf m0 d)).isSome = true
      · rw [if_pos ha]
        exact ih _ q mk m (I.skip ha) J ho'
      · rw [if_neg ha]
        obtain ⟨w1, w2⟩ := I.write h0 hd ha
        obtain ⟨t1, t2⟩ := TInv.write h0 I J hd ha
        by_cases hc : mk.contains (cellId m0 .face (m0.β 2 d)) = true
        · rw [if_pos hc]
          exact ih _ q mk _ (w1 (List.contains_iff_mem.1 hc)) t1 ho'
        · rw [if_neg hc]
          have hnm : cellId m0 .face (m0.β 2 d) ∉ mk := fun hh => hc (List.contains_iff_mem.2 hh)
          exact ih _ _ _ _ (w2 hnm) (t2 hnm) ho'

theorem colourSurface_inv (h0 : Ok9 m0) (sid : Nat) (root : Nat → Nat) :
    ∀ (f : Nat) (q mk : List Nat) (m : Map Val),
    SInv m0 m q mk sid → TInv m0 m q sid root →
    ∀ mk' m', run (colourSurface m0.n sid f q mk) m = (.ok mk', m') →
    SInv m0 m' [] mk' sid ∧ TInv m0 m' [] sid root := by
  intro f
  induction f with
  | zero => intro q mk m _ _ mk' m' hr; simp [colourSurface] at hr
  | succ f ih =>
      intro q mk m I J mk' m' hr
      cases q with
      | nil =>
          simp only [colourSurface, Prog.pure_eq, run_ret, Prod.mk.injEq, Out.ok.injEq] at hr
          obtain ⟨e1, e2⟩ := hr
          subst e1; subst e2; exact ⟨I, J⟩
      | cons crt q =>
          have hcf := I.qf crt List.mem_cons_self
          have hm9 := h0.sameTopo I.topo
          have hn : m.n = m0.n := I.topo.n
          rw [← hn, run_colourSurface_cons hm9 (by rw [hn]; exact hcf.2.1), orb_sameTopo I.topo, hn] at hr
          obtain ⟨q', mk1, m1, hr1, I1, J1⟩ := colourDarts_inv h0 sid crt root (orb m0 .face crt) [] q mk _
            (I.pop h0) (TInv.pop h0 I J) (by simp)
          rw [hr1] at hr
          simp only [List.nil_append] at I1
          exact ih q' mk1 m1 I1.finish J1 mk' m' hr

/-- the third loop keeps both invariants: at the end every anchored face is linked to the start face of
    its surface -/
theorem classifySurfaces_inv (h0 : Ok9 m0) : ∀ (ds : List Nat) (sid : Nat) (mk : List Nat) (m m' : Map Val)
    (root : Nat → Nat),
    (∀ d, d ∈ ds → d ≠ 0 ∧ d < m0.n) → SInv m0 m [] mk sid → TInv m0 m [] sid root →
    (∀ h k, m.att sFA h = some (vSurface k) → k < sid) →
    run (classifySurfaces m0.n ds sid mk) m = (.ok (), m') →
    ∃ mk' sid' root', SInv m0 m' [] mk' sid' ∧ TInv m0 m' [] sid' root' := by
  intro ds
  induction ds with
  | nil =>
      intro sid mk m m' root _ I J _ hr
      simp only [classifySurfaces, Prog.pure_eq, run_ret, Prod.mk.injEq, true_and] at hr
      subst hr; exact ⟨mk, sid, root, I, J⟩
  | cons x xs ih =>
      intro sid mk m m' root hds I J hfresh hr
      have hx := hds x List.mem_cons_self
      have hxs : ∀ d, d ∈ xs → d ≠ 0 ∧ d < m0.n := fun d hd => hds d (List.mem_cons_of_mem _ hd)
      have hm9 := h0.sameTopo I.topo
      have hn : m.n = m0.n := I.topo.n
      rw [← hn, run_classifySurfaces_cons hm9.wf ⟨hx.1, by rw [hn]; exact hx.2⟩, hn] at hr
      split at hr
      · exact ih sid mk m m' root hxs I J hfresh hr
      · rename_i hskip
        split at hr
        · rename_i hok
          obtain ⟨_, hcx', hnone⟩ := SkipFace.of_not hskip hok
          rw [cellId_sameTopo I.topo] at hcx'
          obtain ⟨mk1, m1, h1, hr2⟩ := run_bind_ok hr
          have Istart : SInv m0 m [x] mk sid := by
            refine ⟨I.topo, ?_, I.mkf, I.mk0, ?_, ?_, I.C, ?_⟩
            · intro h hh; rw [List.mem_singleton.1 hh]; exact ⟨hx.1, hx.2, hcx'⟩
            · intro h hh; rw [List.mem_singleton.1 hh]; exact Or.inl hnone
            · intro h hh hne
              rcases I.M h hh hne with hq | hs
              · cases hq
              · exact Or.inr hs
            · intro y hy0 hy hby k hk
              obtain ⟨s1, s2⟩ := I.R y hy0 hy hby k hk
              exact ⟨s1.mono rfl (fun _ hq => by cases hq), s2.mono rfl (fun _ hq => by cases hq)⟩
          have Jstart : TInv m0 m [x] sid (upd root sid x) := by
            constructor
            · intro h k hs
              rcases hs with e | ⟨e1, e2⟩
              · have hk := hfresh h k e
                rw [upd_ne root (by omega : k ≠ sid) x]
                exact J.T h k (Or.inl e)
              · rw [e1, List.mem_singleton.1 e2, upd_self]
                exact SLink.refl _
            · intro h k e; exact Nat.le_of_lt (hfresh h k e)
          obtain ⟨I1, J1⟩ := colourSurface_inv h0 sid _ (m0.n + 2) [x] mk m Istart Jstart mk1 m1 h1
          have J1' : TInv m0 m1 [] (sid + 1) (upd root sid x) := by
            refine ⟨?_, fun h k e => by have := J1.N h k e; omega⟩
            intro h k hs
            rcases hs with e | ⟨_, e⟩
            · exact J1.T h k (Or.inl e)
            · cases e
          exact ih (sid + 1) mk1 m1 m' _ hxs I1.resid J1'
            (fun h k e => by have := J1.N h k e; omega) hr2
        · cases hr

end

/-! ## frames: the first two loops only write curves, the third only surfaces -/

/-- every slot that changed holds a value `f c` afterwards, for some `c`, in one of the storages `S` (`OnlyCurve c` of
    Props/C17.lean fixes the one value `Curve(c)`) -/
def OnlyVals (S : List Nat) (f : Nat → Val) (m m' : Map Val) : Prop :=
  ∀ s d, m'.att s d ≠ m.att s d → s ∈ S ∧ ∃ c, m'.att s d = some (f c)

theorem OnlyVals.refl (S : List Nat) (f : Nat → Val) (m : Map Val) : OnlyVals S f m m := fun _ _ h => absurd rfl h

theorem OnlyVals.trans {S : List Nat} {f : Nat → Val} {m m' m'' : Map Val} (h1 : OnlyVals S f m m')
    (h2 : OnlyVals S f m' m'') : OnlyVals S f m m'' := by
  intro s d hne
  by_cases e : m''.att s d = m'.att s d
  · rw [e] at hne ⊢; exact h1 s d hne
  · exact h2 s d e

theorem OnlyVals.setA (S : List Nat) (f : Nat → Val) (m : Map Val) (s d c : Nat) (hs : s ∈ S) :
    OnlyVals S f m (m.setA s d (some (f c))) := by
  intro t e hne
  rw [Map.att_setA] at hne ⊢
  by_cases hc : s = t ∧ d = e ∧ m.okA s d = true
  · rw [if_pos hc]; exact ⟨hc.1 ▸ hs, c, rfl⟩
  · rw [if_neg hc] at hne; exact absurd rfl hne

theorem onlyValsFrame (S : List Nat) (f : Nat → Val) :
    Frame (OnlyVals S f) (fun s v => s ∈ S ∧ ∃ c, v = f c) :=
  ⟨⟨OnlyVals.refl S f, OnlyVals.trans⟩, fun m s d _ ⟨hs, c, e⟩ => e ▸ OnlyVals.setA S f m s d c hs⟩

theorem curveW : CurveW (fun s v => s ∈ [sVA, sEA] ∧ ∃ c, v = vCurve c) :=
  fun c => ⟨⟨by decide, c, rfl⟩, ⟨by decide, c, rfl⟩⟩

theorem surfW : SurfW (fun s v => s ∈ [sVA, sEA, sFA] ∧ ∃ k, v = vSurface k) :=
  fun k => ⟨⟨by decide, k, rfl⟩, ⟨by decide, k, rfl⟩, ⟨by decide, k, rfl⟩⟩

theorem writes_classifyNodes (n : Nat) (ds : List Nat) (i cid : Nat) :
    Keeps (OnlyVals [sVA, sEA] vCurve) (classifyNodes n ds i cid) :=
  (onlyValsFrame _ _).classifyNodes curveW n ds i cid

theorem writes_classifyLoops (n f cid : Nat) : Keeps (OnlyVals [sVA, sEA] vCurve) (classifyLoops n f cid) :=
  (onlyValsFrame _ _).classifyLoops curveW n f cid

theorem writes_classifySurfaces (n : Nat) (ds : List Nat) (sid : Nat) (mk : List Nat) :
    Keeps (OnlyVals [sVA, sEA, sFA] vSurface) (classifySurfaces n ds sid mk) :=
  (onlyValsFrame _ _).classifySurfaces surfW n ds sid mk

theorem curve_ne_surface (c k : Nat) : (some (vCurve c) : Option Val) ≠ some (vSurface k) := by
  unfold vCurve vSurface
  intro e
  injection e with e
  injection e with e
  injection e with e
  omega

/-! ## the property theorems -/

theorem classifyCore_parts {m m' : Map Val} (hr : run (classifyCore m.n) m = (.ok (), m')) :
    ∃ cid r m1 m2, run (classifyNodes m.n (List.range' 1 (m.n - 1)) 0 0) m = (.ok cid, m1) ∧
      run (classifyLoops m.n (m.n + 1) cid) m1 = (.ok r, m2) ∧
      run (classifySurfaces m.n (List.range' 1 (m.n - 1)) 0 [0]) m2 = (.ok (), m') := by
  unfold classifyCore at hr
  simp only [Prog.bind_eq] at hr
  obtain ⟨cid, m1, h1, hr⟩ := run_bind_ok hr
  obtain ⟨r, m2, h2, hr⟩ := run_bind_ok hr
  exact ⟨cid, r, m1, m2, h1, h2, hr⟩

/-- the three loops on a map without edge and face anchors: the first two write curves only, so the third
    starts from the invariants of an uncoloured map and keeps them -/
theorem classifyCore_inv {m m' : Map Val} (h : WF 3 m) (hst : 8 < m.a.size)
    (hE : ∀ x, m.att sEA x = none) (hF : ∀ x, m.att sFA x = none)
    (hr : run (classifyCore m.n) m = (.ok (), m')) :
    ∃ mk sid root, SInv m m' [] mk sid ∧ TInv m m' [] sid root := by
  have h9 : Ok9 m := ⟨h, hst⟩
  obtain ⟨cid, r, m1, m2, h1, h2, h3⟩ := classifyCore_parts hr
  have g1 := Keeps.of_run (anch_classifyNodes m.n (List.range' 1 (m.n - 1)) 0 0) h1
  have g2 := Keeps.of_run (anch_classifyLoops m.n (m.n + 1) cid) h2
  have w1 := Keeps.of_run (writes_classifyNodes m.n (List.range' 1 (m.n - 1)) 0 0) h1
  have w2 := Keeps.of_run (writes_classifyLoops m.n (m.n + 1) cid) h2
  have w := w1.trans w2
  have hF2 : ∀ x, m2.att sFA x = none := by
    intro x
    by_cases e : m2.att sFA x = m.att sFA x
    · rw [e, hF]
    · exact absurd (w sFA x e).1 (by decide)
  have I0 : SInv m m2 [] [0] 0 := by
    refine ⟨g1.topo.trans g2.topo, ?_, ?_, by simp, ?_, ?_, ?_, ?_⟩
    · intro h hh; cases hh
    · intro h hh; exact Or.inl (List.mem_singleton.1 hh)
    · intro h hh; cases hh
    · intro h hh hne; exact absurd (List.mem_singleton.1 hh) hne
    · intro h _ hs; rw [hF2] at hs; cases hs
    · intro x hx0 hx hbx k hk
      exfalso
      by_cases e : m2.att sEA (edOf m x) = m.att sEA (edOf m x)
      · rw [e, hE] at hk; cases hk
      · obtain ⟨_, c, ec⟩ := w sEA (edOf m x) e
        rw [ec] at hk
        exact curve_ne_surface c k hk
  have J0 : TInv m m2 [] 0 (fun _ => 0) := by
    constructor
    · intro h k hs
      rcases hs with e | ⟨_, e⟩
      · rw [hF2] at e; cases e
      · cases e
    · intro h k e; rw [hF2] at e; cases e
  exact classifySurfaces_inv h9 _ 0 [0] m2 m' _ (fun d hd => mem_darts.1 hd) I0 J0
    (fun h k e => by rw [hF2] at e; cases e) h3

/-- **C17, surfaces — every surface-anchored edge separates two faces of that surface**: run the three
    classification loops on a well-formed 2-map that carries no edge and no face anchor (the shape
    `capture_geometry` returns: only node anchors on vertices).  When they end without error, every
    2-linked dart whose edge is anchored to `Surface(k)` lies between two faces anchored to
    `Surface(k)`. -/
theorem C17_surface_edge_faces {m m' : Map Val} (h : WF 3 m) (hst : 8 < m.a.size)
    (hE : ∀ x, m.att sEA x = none) (hF : ∀ x, m.att sFA x = none)
    (hr : run (classifyCore m.n) m = (.ok (), m')) :
    ∀ x, x ≠ 0 → x < m.n → m.β 2 x ≠ 0 → ∀ k, m'.att sEA (cellId m .edge x) = some (vSurface k) →
      m'.att sFA (cellId m .face x) = some (vSurface k) ∧
      m'.att sFA (cellId m .face (m.β 2 x)) = some (vSurface k) := by
  obtain ⟨mk', sid', root', I, _⟩ := classifyCore_inv h hst hE hF hr
  intro x hx0 hx hbx k hk
  have he : cellId m .edge x = edOf m x := (C03_edgeId2_min h hx0 hx).2.2.2
  rw [he] at hk
  obtain ⟨s1, s2⟩ := I.R x hx0 hx hbx k hk
  constructor
  · rcases s1 with e | ⟨_, e⟩
    · exact e
    · cases e
  · rcases s2 with e | ⟨_, e⟩
    · exact e
    · cases e

/-- after the three loops on a map without edge anchors, an edge anchor is a curve or a surface -/
theorem C17_edge_anchor_kinds {m m' : Map Val} (hE : ∀ x, m.att sEA x = none)
    (hr : run (classifyCore m.n) m = (.ok (), m')) :
    ∀ x, m'.att sEA x = none ∨ (∃ c, m'.att sEA x = some (vCurve c)) ∨ ∃ k, m'.att sEA x = some (vSurface k) := by
  obtain ⟨cid, r, m1, m2, h1, h2, h3⟩ := classifyCore_parts hr
  have w1 := Keeps.of_run (writes_classifyNodes m.n (List.range' 1 (m.n - 1)) 0 0) h1
  have w2 := Keeps.of_run (writes_classifyLoops m.n (m.n + 1) cid) h2
  have w3 := Keeps.of_run (writes_classifySurfaces m.n (List.range' 1 (m.n - 1)) 0 [0]) h3
  intro x
  by_cases e3 : m'.att sEA x = m2.att sEA x
  · by_cases e2 : m2.att sEA x = m.att sEA x
    · left; rw [e3, e2, hE]
    · right; left; obtain ⟨_, c, ec⟩ := (w1.trans w2) sEA x e2; exact ⟨c, by rw [e3, ec]⟩
  · right; right; obtain ⟨_, k, ek⟩ := w3 sEA x e3; exact ⟨k, ek⟩

/-- **C17, surfaces — faces that touch along an edge which is not anchored to a curve carry the same
    surface identifier**: `classify_capture = Ok` on a well-formed 2-map without edge / face anchors
    (only node anchors, as `capture_geometry` returns it).  For every in-use 2-linked dart whose edge is
    not anchored to a curve, that edge and the two faces on its sides are anchored to one and the same
    `Surface(k)`. -/
theorem C17_faces_across_non_curve_edge_same {m m' : Map Val} (h : WF 3 m) (hst : 8 < m.a.size)
    (hE : ∀ x, m.att sEA x = none) (hF : ∀ x, m.att sFA x = none)
    (hr : run (classifyCapture m.n) m = (.ok (), m')) :
    ∀ x, x ≠ 0 → x < m.n → m.unused x = false → m.β 2 x ≠ 0 →
      (∀ c, m'.att sEA (cellId m .edge x) ≠ some (vCurve c)) →
      ∃ k, m'.att sEA (cellId m .edge x) = some (vSurface k) ∧
        m'.att sFA (cellId m .face x) = some (vSurface k) ∧
        m'.att sFA (cellId m .face (m.β 2 x)) = some (vSurface k) := by
  intro x hx0 hx hu hb hnc
  have hcore := (classifyCapture_ok_parts hr).1
  obtain ⟨hw', hall⟩ := C17_classify_ok_all_anchored h hr
  have t := (anch_classifyCapture m.n m).topo
  rw [hr] at t
  have hae := (hall x hx0 (by rw [t.n]; exact hx) (by rw [t.unused]; exact hu)).2.1
  rw [cellId_sameTopo t] at hae
  rcases C17_edge_anchor_kinds hE hcore (cellId m .edge x) with e | ⟨c, e⟩ | ⟨k, e⟩
  · rw [e] at hae; cases hae
  · exact absurd e (hnc c)
  · obtain ⟨f1, f2⟩ := C17_surface_edge_faces h hst hE hF hcore x hx0 hx hb k e
    exact ⟨k, e, f1, f2⟩

/-- faces linked by a chain of in-use 2-linked darts none of whose edges is anchored to a curve -/
inductive NoCurveLinked (m m' : Map Val) : Nat → Nat → Prop where
  | refl (f : Nat) : NoCurveLinked m m' f f
  | step {f x : Nat} : NoCurveLinked m m' f (cellId m .face x) → x ≠ 0 → x < m.n → m.unused x = false →
      m.β 2 x ≠ 0 → (∀ c, m'.att sEA (cellId m .edge x) ≠ some (vCurve c)) →
      NoCurveLinked m m' f (cellId m .face (m.β 2 x))

/-- **C17, one surface identifier per region**: faces that can be reached from each other without
    crossing a curve-anchored edge carry the same face anchor -/
theorem C17_surface_connected_same {m m' : Map Val} (h : WF 3 m) (hst : 8 < m.a.size)
    (hE : ∀ x, m.att sEA x = none) (hF : ∀ x, m.att sFA x = none)
    (hr : run (classifyCapture m.n) m = (.ok (), m')) {f f' : Nat} (hl : NoCurveLinked m m' f f') :
    m'.att sFA f = m'.att sFA f' := by
  induction hl with
  | refl => rfl
  | step _ hx0 hx hu hb hnc ih =>
      obtain ⟨k, _, f1, f2⟩ := C17_faces_across_non_curve_edge_same h hst hE hF hr _ hx0 hx hu hb hnc
      rw [ih, f1, f2]

/-- **C17, surfaces — two faces with the same surface identifier are linked**: after the three loops
    on a well-formed 2-map without edge and face anchors, two faces anchored to the same `Surface(k)`
    are joined by a chain of edges anchored to `Surface(k)` (so two regions separated by curve-anchored
    edges never share an identifier) -/
theorem C17_same_surface_linked {m m' : Map Val} (h : WF 3 m) (hst : 8 < m.a.size)
    (hE : ∀ x, m.att sEA x = none) (hF : ∀ x, m.att sFA x = none)
    (hr : run (classifyCore m.n) m = (.ok (), m')) {f f' k : Nat}
    (e1 : m'.att sFA f = some (vSurface k)) (e2 : m'.att sFA f' = some (vSurface k)) :
    SLink m m' k f f' := by
  obtain ⟨mk', sid', root', _, J⟩ := classifyCore_inv h hst hE hF hr
  exact (J.T f k (Or.inl e1)).symm.trans (J.T f' k (Or.inl e2))

/-! ## non-vacuity -/

/-- two triangles 1-2-3 and 4-5-6 glued along the edge 2|4, nine storages, no anchor -/
def exTwo : Map Val :=
  { (Map.empty 3 9 7 : Map Val) with
    b := #[#[0, 3, 1, 2, 6, 4, 5], #[0, 2, 3, 1, 5, 6, 4], #[0, 0, 4, 0, 2, 0, 0]] }

theorem exTwo_wf : WF 3 exTwo := by decide

/-- everything the examples below read off the classified map, in one evaluation of the run -/
theorem exTwo_run :
    (run (classifyCapture exTwo.n) exTwo).1 = .ok () ∧
    ((run (classifyCapture exTwo.n) exTwo).2).att sEA 2 = some (vSurface 0) ∧
    (((run (classifyCapture exTwo.n) exTwo).2).att sFA 1 = some (vSurface 0) ∧
      ((run (classifyCapture exTwo.n) exTwo).2).att sFA 4 = some (vSurface 0)) ∧
    ((run (classifyCapture exTwo.n) exTwo).2).att sEA 1 = some (vCurve 1) := by decide +kernel

theorem exTwo_cells :
    cellId exTwo .face 2 = 1 ∧ cellId exTwo .face (exTwo.β 2 2) = 4 ∧ cellId exTwo .edge 2 = 2 := by
  decide +kernel

example : 8 < exTwo.a.size := by decide
example : (∀ x, x < 8 → exTwo.att sEA x = none ∧ exTwo.att sFA x = none) := by decide
example : (run (classifyCapture exTwo.n) exTwo).1 = .ok () := exTwo_run.1
-- the glued edge (identifier 2) is anchored to the surface 0, as are the two triangles (1 and 4);
-- the outer sides form one curve
example : ((run (classifyCapture exTwo.n) exTwo).2).att sEA 2 = some (vSurface 0) := exTwo_run.2.1
example : ((run (classifyCapture exTwo.n) exTwo).2).att sFA 1 = some (vSurface 0) ∧
    ((run (classifyCapture exTwo.n) exTwo).2).att sFA 4 = some (vSurface 0) := exTwo_run.2.2.1
example : ((run (classifyCapture exTwo.n) exTwo).2).att sEA 1 = some (vCurve 1) := exTwo_run.2.2.2
example : cellId exTwo .face 2 = 1 ∧ cellId exTwo .face (exTwo.β 2 2) = 4 ∧ cellId exTwo .edge 2 = 2 :=
  exTwo_cells

theorem exTwo_blank (s x : Nat) : exTwo.att s x = none := CmapText.att_empty 9 7 s x

-- the theorems apply to it: dart 2 links the faces 1 and 4 without crossing a curve
example : ((run (classifyCapture exTwo.n) exTwo).2).att sFA 1 = ((run (classifyCapture exTwo.n) exTwo).2).att sFA 4 := by
  have hr := run_eq_of_fst exTwo_run.1
  obtain ⟨e1, e2, e3⟩ := exTwo_cells
  have l : NoCurveLinked exTwo (run (classifyCapture exTwo.n) exTwo).2 1 4 := by
    rw [← e2]
    refine NoCurveLinked.step (by rw [e1]; exact NoCurveLinked.refl 1) (by decide) (by decide) (by decide)
      (by decide) ?_
    intro c
    rw [e3, exTwo_run.2.1]
    exact fun e => curve_ne_surface c 0 e.symm
  exact C17_surface_connected_same exTwo_wf (by decide) (exTwo_blank sEA) (exTwo_blank sFA) hr l

end HC.C17

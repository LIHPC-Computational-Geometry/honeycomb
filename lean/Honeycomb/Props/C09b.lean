/-
  C09b — the cmap round trip at CHARACTER level (everything except the decimal text of the
  coordinate values).

  * `C09_chars_tokenise_to_tokens`: for EVERY map (any size, well formed or not), any version
    token and any coordinate formatter `fmt` producing non-empty blank-free strings, the reader's
    tokenisation (`str::lines`, `str::split_whitespace` with the Unicode `White_Space` blanks) of
    the characters written by `CMap2::serialize` — headers, META line, the three BETAS lines with
    their `{:>width$}` padding and the `trim`, the UNUSED line with its trailing blank, the
    VERTICES lines — is exactly the list of token lines of the token-level model.
  * `C09_chars_reader_is_token_reader`: the character-level mirror of `CMapFile::try_from`
    (`trim`, `starts_with`, `contains`, `trim_matches`, `to_lowercase`, `split('#')`) followed by
    the builder is the token-level `load` after tokenisation, for EVERY character string.
  * `C09_char_level_round_trip`: hence, for every well-formed 2-map with fewer than 2^32 darts,
    whose null dart is not flagged and whose coordinates are 18-digit rationals printed exactly
    (`fmt = ratStr`): reading the characters written by `serialize` succeeds, yields the same
    darts, β images, flags and vertex values, and serializing the result writes the same
    characters again.

  Numerals: `{}` of an integer is `Nat.toDigits 10` (= `Nat.repr`), read back by the model of
  `parse::<u32>` (`parseU32_natTok`, from core's `Nat.ofDigitChars_ten_toDigits`).
  Outside: the decimal text of `f64` values (`Display` / `FromStr for f64`), validated by `rt`.
-/
import Honeycomb.Lemmas.CmapChars
import Honeycomb.Props.C09

namespace HC.C09
open HC HC.CmapText

theorem C09_chars_tokenise_to_tokens (ver : String) (hv : TokChars ver.toList)
    (fmt : Rat → String) (hf : ∀ q, TokChars (fmt q).toList) (m : Map Val) :
    tokenise (serializeChars ver fmt m) = serializeF ver fmt m :=
  tokenise_serializeChars ver hv fmt hf m

theorem C09_chars_reader_is_token_reader (ns : Nat) (cs : List Char) :
    loadChars ns cs = load ns (tokenise cs) ∧ parseFileC cs = parseFile (tokenise cs) :=
  ⟨loadChars_eq ns cs, parseFileC_eq cs⟩

/-- the exact rational text is a token: non-empty, blank-free -/
theorem tokChars_ratStr (q : Rat) : TokChars (ratStr q).toList := by
  have hint : ∀ i : Int, intChars i ≠ [] ∧ ∀ c ∈ intChars i, isWs c = false := by
    intro i
    cases i with
    | ofNat k => exact ⟨(tok_digits k).ne, (tok_digits k).noWs⟩
    | negSucc k =>
      refine ⟨by simp [intChars], ?_⟩
      intro c hc
      simp only [intChars, List.mem_cons] at hc
      rcases hc with rfl | hc
      · decide
      · exact (tok_digits (k + 1)).noWs c hc
  rw [toList_ratStr]
  split
  · exact ⟨(hint q.num).1, (hint q.num).2⟩
  · refine ⟨by simp, ?_⟩
    intro c hc
    simp only [List.mem_append, List.mem_cons] at hc
    rcases hc with h | rfl | h
    · exact (hint q.num).2 c h
    · decide
    · exact (tok_digits q.den).noWs c h

/-- the characters of `serialize` with exact coordinates tokenise to the token-level `serialize` -/
theorem C09_chars_tokenise_ratStr (ver : String) (hv : TokChars ver.toList) (m : Map Val) :
    tokenise (serializeChars ver ratStr m) = serialize ver m := by
  rw [C09_chars_tokenise_to_tokens ver hv ratStr tokChars_ratStr m, serializeF_ratStr]

theorem C09_char_level_round_trip (ver : String) (hv : TokChars ver.toList) (hver : PlainVer ver)
    (ns : Nat) (hns : 0 < ns) (m : Map Val) (hwf : WF 3 m) (hu0 : m.unused 0 = false)
    (h32 : m.n ≤ u32Bound) (hc : SmallCoords m) :
    ∃ m', loadChars ns (serializeChars ver ratStr m) = .ok m' ∧ m'.n = m.n ∧
      (∀ i, i < 3 → ∀ d, m'.β i d = m.β i d) ∧ (∀ d, m'.unused d = m.unused d) ∧
      (∀ v ∈ iterVertices2 m, m'.att 0 v = m.att 0 v) ∧
      serializeChars ver ratStr m' = serializeChars ver ratStr m := by
  obtain ⟨m', hl, hn, hβ, hu, ha, hs⟩ := C09_roundtrip_small ver hver ns hns m hwf hu0 h32 hc
  refine ⟨m', ?_, hn, hβ, hu, ha, ?_⟩
  · rw [loadChars_eq, C09_chars_tokenise_ratStr ver hv m]; exact hl
  · apply serializeChars_congr ver ratStr _ hn
    rw [serializeF_ratStr, serializeF_ratStr]; exact hs

/-! ## non-vacuity and concrete texts -/

theorem tokChars_pkgVersion : TokChars pkgVersion.toList :=
  ⟨by decide, by decide⟩

theorem exMap_small : SmallCoords exMap := exMap_coords

example : ∃ m', loadChars 1 (serializeChars pkgVersion ratStr exMap) = .ok m' ∧ m'.n = exMap.n ∧
    (∀ i, i < 3 → ∀ d, m'.β i d = exMap.β i d) ∧ (∀ d, m'.unused d = exMap.unused d) ∧
    (∀ v ∈ iterVertices2 exMap, m'.att 0 v = exMap.att 0 v) ∧
    serializeChars pkgVersion ratStr m' = serializeChars pkgVersion ratStr exMap :=
  C09_char_level_round_trip pkgVersion tokChars_pkgVersion plainVer_pkgVersion 1 (by decide) exMap
    exMap_wf (by decide) (by decide) exMap_small

/-- the characters written for the example map (width 1: six darts) -/
example : String.ofList (serializeChars pkgVersion ratStr exMap) =
    "[META]\n0.8.1 2 5\n\n[BETAS]\n0 0 1 0 0 0\n0 2 0 0 0 0\n0 0 0 4 3 0\n\n[UNUSED]\n5 \n\n[VERTICES]\n1 1/4 -2\n2 7 7\n3 3 -5/8\n" := by
  -- compare the characters, not the UTF-8 bytes of the two strings
  apply congrArg String.ofList
  decide +kernel

/-- column padding: with 12 darts (`n_darts = 12`, width 2) every image is right-aligned on two
    characters, the buffer is trimmed at both ends -/
def exWide : Map Val :=
  { n := 12
    b := #[#[0, 0, 1, 0, 0, 0, 0, 0, 0, 0, 0, 10], #[0, 2, 0, 0, 0, 0, 0, 0, 0, 0, 11, 0],
           #[0, 0, 0, 0, 0, 0, 0, 0, 0, 0, 0, 0]]
    u := #[false, false, false, false, false, false, false, false, false, true, false, false]
    a := #[#[none, none, none, none, none, none, none, none, none, none, none, none]] }

example : String.ofList (serializeChars pkgVersion ratStr exWide) =
    "[META]\n0.8.1 2 11\n\n[BETAS]\n0  0  1  0  0  0  0  0  0  0  0 10\n0  2  0  0  0  0  0  0  0  0 11  0\n0  0  0  0  0  0  0  0  0  0  0  0\n\n[UNUSED]\n9 \n\n[VERTICES]\n" := by
  apply congrArg String.ofList
  decide +kernel

example : tokenise (serializeChars pkgVersion ratStr exWide) = serialize pkgVersion exWide :=
  C09_chars_tokenise_ratStr pkgVersion tokChars_pkgVersion exWide

end HC.C09

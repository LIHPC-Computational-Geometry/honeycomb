/-
  C04 — 2-D sew/unsew keep embedded data attached to the right cells.

  What is proved here (for EVERY attribute configuration `cfg`: any number of storages, any laws,
  any registration order; no fault injection, `fc = 0`):

  (a) topological effect: a successful sew/unsew changes the β functions exactly as the
      corresponding link/unlink does, and touches neither flags nor sizes;
  (b) data placement, relative to the identifiers the operation computes (old ids BEFORE the
      link, new id AFTER it — `vertex_id_transac` / `edge_id_transac`, whose meaning "smallest
      dart of the cell" is C03): in every storage bound to the cell kind — the built-in vertex
      storage and every user storage alike, independently of each other — the new id carries
      `merge*(old₁, old₂)` (`merge`, `merge_incomplete`, `merge_from_none` by the defined/undefined
      pattern), both old ids are cleared unless they are the new id, and EVERY other slot of EVERY
      storage is unchanged (frame); unsew is the mirror image with `split*`;
  (c) a 2-sew of two fully embedded edges whose direction test fails is refused with
      `BadGeometry`, and the test is skipped when a coordinate is missing;
  (d) a rejected merge/split makes the call fail (state untouched: C06).
  (e) D2: when the two old ids COINCIDE (the same old cell twice — its dart set
      does not change) no law is called: the value is kept bit for bit and moves to the new id
      (`MergedIn.moved`, `C04_same_cell_value_is_kept`).

  The identification of the ids with cells ("the new cell is the union of the two old cells",
  Appendix A3/A4 of DESIGN.md) is proved in Props/C04Cells.lean and Props/C04Cells2.lean; the
  oracle of tools/props/c04.py evaluates it on the real implementation as well (cells recomputed
  independently from the β arrays).
-/
import Honeycomb.Lemmas.Attr
import Honeycomb.Props.C01


namespace HC.C04
open HC
variable {X : Type}

theorem storagesOf_nodup (cfg : Cfg X) (k : Nat) : (storagesOf cfg k).Nodup := by
  unfold storagesOf
  exact List.Nodup.sublist List.filter_sublist List.nodup_range

theorem zero_notin_storagesOf (cfg : Cfg X) (k : Nat) : 0 ∉ storagesOf cfg k := by
  unfold storagesOf; simp

theorem vStores_nodup (cfg : Cfg X) : (vStores cfg).Nodup :=
  List.nodup_cons.2 ⟨zero_notin_storagesOf cfg 0, storagesOf_nodup cfg 0⟩

theorem link1_fc {l r : Nat} {m m1 : Map X} {u : Unit} (h : run (oneLinkCore (X := X) l r) m = (.ok u, m1)) :
    m1.fc = m.fc ∧ (∀ s e, m1.att s e = m.att s e) ∧ m1.a = m.a :=
  ((topoOnly_oneLinkCore l r).run h).fc_att

theorem linkI_fc {i l r : Nat} {m m1 : Map X} {u : Unit} (h : run (iLinkCore (X := X) i l r) m = (.ok u, m1)) :
    m1.fc = m.fc ∧ (∀ s e, m1.att s e = m.att s e) ∧ m1.a = m.a :=
  ((topoOnly_iLinkCore i l r).run h).fc_att

theorem unlink1_fc {l : Nat} {m m1 : Map X} {u : Unit} (h : run (oneUnlinkCore (X := X) l) m = (.ok u, m1)) :
    m1.fc = m.fc ∧ (∀ s e, m1.att s e = m.att s e) ∧ m1.a = m.a :=
  ((topoOnly_oneUnlinkCore l).run h).fc_att

theorem unlinkI_fc {i l : Nat} {m m1 : Map X} {u : Unit} (h : run (iUnlinkCore (X := X) i l) m = (.ok u, m1)) :
    m1.fc = m.fc ∧ (∀ s e, m1.att s e = m.att s e) ∧ m1.a = m.a :=
  ((topoOnly_iUnlinkCore i l).run h).fc_att

/-- `self.vertices.merge(..)` followed by `merge_attributes(Vertex, ..)` is one pass over the
    vertex-bound storages -/
theorem mergeVertex_eq (cfg : Cfg X) (out l r : Nat) :
    ((mergeS cfg 0 out l r).bind fun _ => mergeAttrs cfg 0 out l r) =
      forM_ (vStores cfg) (fun s => mergeS cfg s out l r) := rfl

theorem splitVertex_eq (cfg : Cfg X) (lo ro inp : Nat) :
    ((splitS cfg 0 lo ro inp).bind fun _ => splitAttrs cfg 0 lo ro inp) =
      forM_ (vStores cfg) (fun s => splitS cfg s lo ro inp) := rfl

/-! ## 1-sew / 1-unsew -/

/-- **C04 (1-sew)** -/
theorem C04_oneSew2_effect (cfg : Cfg X) (n l r : Nat) (m m' : Map X) (u : Unit) (hfc : m.fc = 0)
    (h : run (oneSew2 cfg n l r) m = (.ok u, m')) :
    ∃ m1, run (oneLinkCore (X := X) l r) m = (.ok (), m1) ∧ SameTopo m1 m' ∧
      ((m.β 2 l = 0 ∧ m' = m1) ∨
       (m.β 2 l ≠ 0 ∧ ∃ v1 v2 nv,
          run (vertexId2 n (m.β 2 l)) m = (.ok v1, m) ∧ run (vertexId2 n r) m = (.ok v2, m) ∧
          run (vertexId2 n r) m1 = (.ok nv, m1) ∧
          MergedIn cfg (vStores cfg) nv v1 v2 m1 m')) := by
  unfold oneSew2 at h
  replace h := run_rB_bind_ok h
  by_cases h0 : m.β 2 l = 0
  · simp only [h0, if_true] at h
    exact ⟨m', h, SameTopo.refl _, Or.inl ⟨h0, rfl⟩⟩
  · simp only [h0, if_false] at h
    obtain ⟨v1, hv1, h⟩ := run_ro_bind_ok (readOnly_vertexId2 _ _) h
    obtain ⟨v2, hv2, h⟩ := run_ro_bind_ok (readOnly_vertexId2 _ _) h
    obtain ⟨_, m1, hl, h⟩ := run_bind_ok h
    obtain ⟨nv, hnv, h⟩ := run_ro_bind_ok (readOnly_vertexId2 _ _) h
    have h : run (forM_ (vStores cfg) (fun s => mergeS cfg s nv v1 v2)) m1 = (.ok u, m') := h
    have hm := forM_merge_ok cfg nv v1 v2 (vStores cfg) m1 m' u (vStores_nodup cfg)
      (by rw [(link1_fc hl).1]; exact hfc) h
    exact ⟨m1, hl, hm.topo, Or.inr ⟨h0, v1, v2, nv, hv1, hv2, hnv, hm⟩⟩

/-- **C04 (1-unsew)** -/
theorem C04_oneUnsew2_effect (cfg : Cfg X) (n l : Nat) (m m' : Map X) (u : Unit) (hfc : m.fc = 0)
    (h : run (oneUnsew2 cfg n l) m = (.ok u, m')) :
    ∃ m1, run (oneUnlinkCore (X := X) l) m = (.ok (), m1) ∧ SameTopo m1 m' ∧
      ((m.β 2 l = 0 ∧ m' = m1) ∨
       (m.β 2 l ≠ 0 ∧ ∃ vold nl nr,
          run (vertexId2 n (m.β 1 l)) m = (.ok vold, m) ∧
          run (vertexId2 n (m.β 2 l)) m1 = (.ok nl, m1) ∧ run (vertexId2 n (m.β 1 l)) m1 = (.ok nr, m1) ∧
          SplitIn cfg (vStores cfg) nl nr vold m1 m')) := by
  unfold oneUnsew2 at h
  replace h := run_rB_bind_ok h
  by_cases h0 : m.β 2 l = 0
  · simp only [h0, if_true] at h
    exact ⟨m', h, SameTopo.refl _, Or.inl ⟨h0, rfl⟩⟩
  · simp only [h0, if_false] at h
    replace h := run_rB_bind_ok h
    obtain ⟨vold, hv, h⟩ := run_ro_bind_ok (readOnly_vertexId2 _ _) h
    obtain ⟨_, m1, hl, h⟩ := run_bind_ok h
    obtain ⟨nl, hnl, h⟩ := run_ro_bind_ok (readOnly_vertexId2 _ _) h
    obtain ⟨nr, hnr, h⟩ := run_ro_bind_ok (readOnly_vertexId2 _ _) h
    have h : run (forM_ (vStores cfg) (fun s => splitS cfg s nl nr vold)) m1 = (.ok u, m') := h
    have hm := forM_split_ok cfg nl nr vold (vStores cfg) m1 m' u (vStores_nodup cfg)
      (by rw [(unlink1_fc hl).1]; exact hfc) h
    exact ⟨m1, hl, hm.topo, Or.inr ⟨h0, vold, nl, nr, hv, hnl, hnr, hm⟩⟩

/-! ## 2-sew -/

theorem eStores_nodup (cfg : Cfg X) : (eStores cfg).Nodup := storagesOf_nodup cfg 1

theorem run_forM_single (f : Nat → P X Unit) (s : Nat) (m : Map X) :
    run (forM_ [s] f) m = run (f s) m := by
  show run ((f s).bind fun _ => Prog.ret ()) m = run (f s) m
  have : (fun (_ : Unit) => (Prog.ret () : P X Unit)) = Prog.ret := by funext x; rfl
  rw [this, Prog.bind_ret]

theorem run_mergeVertex (cfg : Cfg X) (out l r : Nat) {m ma mb : Map X} {u1 u2 : Unit}
    (hA : run (mergeS cfg 0 out l r) m = (.ok u1, ma))
    (hB : run (mergeAttrs cfg 0 out l r) ma = (.ok u2, mb)) :
    run (forM_ (vStores cfg) (fun s => mergeS cfg s out l r)) m = (.ok u2, mb) := by
  show run ((mergeS cfg 0 out l r).bind fun _ => forM_ (storagesOf cfg 0) (fun s => mergeS cfg s out l r)) m = _
  rw [run_bind, hA]; exact hB

theorem run_splitVertex (cfg : Cfg X) (lo ro inp : Nat) {m ma mb : Map X} {u1 u2 : Unit}
    (hA : run (splitS cfg 0 lo ro inp) m = (.ok u1, ma))
    (hB : run (splitAttrs cfg 0 lo ro inp) ma = (.ok u2, mb)) :
    run (forM_ (vStores cfg) (fun s => splitS cfg s lo ro inp)) m = (.ok u2, mb) := by
  show run ((splitS cfg 0 lo ro inp).bind fun _ => forM_ (storagesOf cfg 0) (fun s => splitS cfg s lo ro inp)) m = _
  rw [run_bind, hA]; exact hB

theorem C04_twoSew2_topology (cfg : Cfg X) (n l r : Nat) (m m' : Map X) (u : Unit)
    (h : run (twoSew2 cfg n l r) m = (.ok u, m')) :
    ∃ m1, run (iLinkCore (X := X) 2 l r) m = (.ok (), m1) ∧ SameTopo m1 m' :=
  (topo_twoSew2 cfg n l r).ok h

/-! The four arms of `two_sew`, once for `CMap2` and `CMap3` (`twoSewG`), for any read-only identifier computations. -/

section arms
variable {vid eidPre eidPost : Nat → P X Nat} (hv : ∀ d, ReadOnly (vid d)) (he : ∀ d, ReadOnly (eidPre d))
  (he' : ∀ d, ReadOnly (eidPost d))
include hv he he'

omit hv in
/-- both darts 1-free: only the edge storages are merged: old edge ids before the link, new edge id after it -/
theorem twoSewG_free (cfg : Cfg X) (l r : Nat) (m m' : Map X) (u : Unit) (hfc : m.fc = 0)
    (hl0 : m.β 1 l = 0) (hr0 : m.β 1 r = 0)
    (h : run (twoSewG cfg vid eidPre eidPost l r) m = (.ok u, m')) :
    ∃ el er m1 en, run (eidPre l) m = (.ok el, m) ∧ run (eidPre r) m = (.ok er, m) ∧
      run (iLinkCore (X := X) 2 l r) m = (.ok (), m1) ∧ run (eidPost l) m1 = (.ok en, m1) ∧
      MergedIn cfg (eStores cfg) en el er m1 m' := by
  unfold twoSewG at h
  replace h := run_rB_bind_ok (run_rB_bind_ok h)
  simp only [hl0, hr0, and_self, if_true] at h
  obtain ⟨el, hel, h⟩ := run_ro_bind_ok (he _) h
  obtain ⟨er, her, h⟩ := run_ro_bind_ok (he _) h
  obtain ⟨_, m1, hl, h⟩ := run_bind_ok h
  obtain ⟨en, hen, h⟩ := run_ro_bind_ok (he' _) h
  have h : run (forM_ (eStores cfg) (fun s => mergeS cfg s en el er)) m1 = (.ok u, m') := h
  exact ⟨el, er, m1, en, hel, her, hl, hen, forM_merge_ok cfg en el er _ m1 m' u (eStores_nodup cfg)
    (by rw [(linkI_fc hl).1]; exact hfc) h⟩

/-- one of the darts has a successor: the vertices of `x` and `y` are merged into the new vertex id of `z`, then the
    edge storages -/
theorem twoSewOne_ok (cfg : Cfg X) (l r x y z : Nat) (m m' : Map X) (u : Unit) (hfc : m.fc = 0)
    (h : run (twoSewOne cfg vid eidPre eidPost l r x y z) m = (.ok u, m')) :
    ∃ el er xv yv m1 zn en ma,
      run (eidPre l) m = (.ok el, m) ∧ run (eidPre r) m = (.ok er, m) ∧
      run (vid x) m = (.ok xv, m) ∧ run (vid y) m = (.ok yv, m) ∧
      run (iLinkCore (X := X) 2 l r) m = (.ok (), m1) ∧
      run (vid z) m1 = (.ok zn, m1) ∧ run (eidPost l) m1 = (.ok en, m1) ∧
      MergedIn cfg (vStores cfg) zn xv yv m1 ma ∧ MergedIn cfg (eStores cfg) en el er ma m' := by
  unfold twoSewOne at h
  obtain ⟨el, hel, h⟩ := run_ro_bind_ok (he _) h
  obtain ⟨er, her, h⟩ := run_ro_bind_ok (he _) h
  obtain ⟨xv, hxv, h⟩ := run_ro_bind_ok (hv _) h
  obtain ⟨yv, hyv, h⟩ := run_ro_bind_ok (hv _) h
  obtain ⟨_, m1, hl, h⟩ := run_bind_ok h
  obtain ⟨zn, hzn, h⟩ := run_ro_bind_ok (hv _) h
  obtain ⟨en, hen, h⟩ := run_ro_bind_ok (he' _) h
  obtain ⟨_, mA, hA, h⟩ := run_bind_ok h
  obtain ⟨_, mB, hB, h⟩ := run_bind_ok h
  have hfc1 : m1.fc = 0 := by rw [(linkI_fc hl).1]; exact hfc
  have hvm := forM_merge_ok cfg zn xv yv _ m1 mB () (vStores_nodup cfg) hfc1 (run_mergeVertex cfg _ _ _ hA hB)
  have h : run (forM_ (eStores cfg) (fun s => mergeS cfg s en el er)) mB = (.ok u, m') := h
  have hE := forM_merge_ok cfg en el er _ mB m' u (eStores_nodup cfg) (by rw [hvm.fc]; exact hfc1) h
  exact ⟨el, er, xv, yv, m1, zn, en, mB, hel, her, hxv, hyv, hl, hzn, hen, hvm, hE⟩

omit hv he he' in
/-- `l` is 1-free, `r` is not: the vertices of `l` and of `β1 r` go into the new vertex of `l` -/
theorem twoSewG_left (cfg : Cfg X) (l r : Nat) (m m' : Map X) (u : Unit) (hl0 : m.β 1 l = 0) (hr0 : m.β 1 r ≠ 0)
    (h : run (twoSewG cfg vid eidPre eidPost l r) m = (.ok u, m')) :
    run (twoSewOne cfg vid eidPre eidPost l r l (m.β 1 r) l) m = (.ok u, m') := by
  unfold twoSewG at h
  replace h := run_rB_bind_ok (run_rB_bind_ok h)
  simp only [hl0, hr0, and_false, if_false, if_true] at h
  exact h

omit hv he he' in
/-- mirror case: the vertices of `β1 l` and of `r` go into the new vertex of `r` -/
theorem twoSewG_right (cfg : Cfg X) (l r : Nat) (m m' : Map X) (u : Unit) (hl0 : m.β 1 l ≠ 0) (hr0 : m.β 1 r = 0)
    (h : run (twoSewG cfg vid eidPre eidPost l r) m = (.ok u, m')) :
    run (twoSewOne cfg vid eidPre eidPost l r (m.β 1 l) r r) m = (.ok u, m') := by
  unfold twoSewG at h
  replace h := run_rB_bind_ok (run_rB_bind_ok h)
  simp only [hl0, hr0, false_and, if_false, if_true] at h
  exact h

/-- both darts have a successor.  The orientation test passed (or was skipped because a coordinate is missing); the
    two vertex merges, then the edge merge, are applied — in the order of the code: built-in vertices (both ends),
    user vertex storages (both ends), edge storages. -/
theorem twoSewG_both (cfg : Cfg X) (l r : Nat) (m m' : Map X) (u : Unit) (hfc : m.fc = 0)
    (hl0 : m.β 1 l ≠ 0) (hr0 : m.β 1 r ≠ 0)
    (h : run (twoSewG cfg vid eidPre eidPost l r) m = (.ok u, m')) :
    ∃ el er lv b1rv b1lv rv m1 lvn rvn en ma mb mc md,
      run (eidPre l) m = (.ok el, m) ∧ run (eidPre r) m = (.ok er, m) ∧
      run (vid l) m = (.ok lv, m) ∧ run (vid (m.β 1 r)) m = (.ok b1rv, m) ∧
      run (vid (m.β 1 l)) m = (.ok b1lv, m) ∧ run (vid r) m = (.ok rv, m) ∧
      badPair cfg (m.att 0 lv) (m.att 0 b1rv) (m.att 0 b1lv) (m.att 0 rv) = false ∧
      run (iLinkCore (X := X) 2 l r) m = (.ok (), m1) ∧
      run (vid l) m1 = (.ok lvn, m1) ∧ run (vid r) m1 = (.ok rvn, m1) ∧
      run (eidPost l) m1 = (.ok en, m1) ∧
      MergedIn cfg [0] lvn lv b1rv m1 ma ∧ MergedIn cfg [0] rvn b1lv rv ma mb ∧
      MergedIn cfg (storagesOf cfg 0) lvn lv b1rv mb mc ∧ MergedIn cfg (storagesOf cfg 0) rvn b1lv rv mc md ∧
      MergedIn cfg (eStores cfg) en el er md m' := by
  unfold twoSewG at h
  replace h := run_rB_bind_ok (run_rB_bind_ok h)
  simp only [hl0, hr0, and_false, if_false] at h
  obtain ⟨el, hel, h⟩ := run_ro_bind_ok (he _) h
  obtain ⟨er, her, h⟩ := run_ro_bind_ok (he _) h
  obtain ⟨lv, hlv, h⟩ := run_ro_bind_ok (hv _) h
  obtain ⟨b1rv, hb1rv, h⟩ := run_ro_bind_ok (hv _) h
  obtain ⟨b1lv, hb1lv, h⟩ := run_ro_bind_ok (hv _) h
  obtain ⟨rv, hrv, h⟩ := run_ro_bind_ok (hv _) h
  replace h := run_rA_bind_ok (run_rA_bind_ok (run_rA_bind_ok (run_rA_bind_ok h)))
  have hbad : badPair cfg (m.att 0 lv) (m.att 0 b1rv) (m.att 0 b1lv) (m.att 0 rv) = false := by
    by_cases hb : badPair cfg (m.att 0 lv) (m.att 0 b1rv) (m.att 0 b1lv) (m.att 0 rv) = true
    · exfalso
      rw [if_pos hb] at h
      simp at h
    · simpa using hb
  rw [if_neg (by rw [hbad]; simp)] at h
  obtain ⟨_, m1, hl, h⟩ := run_bind_ok h
  obtain ⟨lvn, hlvn, h⟩ := run_ro_bind_ok (hv _) h
  obtain ⟨rvn, hrvn, h⟩ := run_ro_bind_ok (hv _) h
  obtain ⟨en, hen, h⟩ := run_ro_bind_ok (he' _) h
  obtain ⟨_, mA, hA, h⟩ := run_bind_ok h
  obtain ⟨_, mB, hB, h⟩ := run_bind_ok h
  obtain ⟨_, mC, hC, h⟩ := run_bind_ok h
  obtain ⟨_, mD, hD, h⟩ := run_bind_ok h
  have hfc1 : m1.fc = 0 := by rw [(linkI_fc hl).1]; exact hfc
  have nd0 : ([0] : List Nat).Nodup := by simp
  have rA' := forM_merge_ok cfg lvn lv b1rv [0] m1 mA () nd0 hfc1 (by rw [run_forM_single]; exact hA)
  have fA : mA.fc = 0 := by rw [rA'.fc]; exact hfc1
  have rB' := forM_merge_ok cfg rvn b1lv rv [0] mA mB () nd0 fA (by rw [run_forM_single]; exact hB)
  have fB : mB.fc = 0 := by rw [rB'.fc]; exact fA
  have rC' := forM_merge_ok cfg lvn lv b1rv _ mB mC () (storagesOf_nodup cfg 0) fB hC
  have fC : mC.fc = 0 := by rw [rC'.fc]; exact fB
  have rD' := forM_merge_ok cfg rvn b1lv rv _ mC mD () (storagesOf_nodup cfg 0) fC hD
  have fD : mD.fc = 0 := by rw [rD'.fc]; exact fC
  have h : run (forM_ (eStores cfg) (fun s => mergeS cfg s en el er)) mD = (.ok u, m') := h
  have rE' := forM_merge_ok cfg en el er _ mD m' u (eStores_nodup cfg) fD h
  exact ⟨el, er, lv, b1rv, b1lv, rv, m1, lvn, rvn, en, mA, mB, mC, mD, hel, her, hlv, hb1rv, hb1lv, hrv, hbad, hl,
    hlvn, hrvn, hen, rA', rB', rC', rD', rE'⟩

end arms

/-- **C04 (2-sew, both darts 1-free)**: only the edge storages are merged, into the new edge id -/
theorem C04_twoSew2_free (cfg : Cfg X) (n l r : Nat) (m m' : Map X) (u : Unit) (hfc : m.fc = 0)
    (hl0 : m.β 1 l = 0) (hr0 : m.β 1 r = 0)
    (h : run (twoSew2 cfg n l r) m = (.ok u, m')) :
    ∃ m1 eid, run (iLinkCore (X := X) 2 l r) m = (.ok (), m1) ∧ run (edgeId2 (X := X) l) m1 = (.ok eid, m1) ∧
      MergedIn cfg (eStores cfg) eid l r m1 m' := by
  rw [twoSew2_eq] at h
  obtain ⟨el, er, m1, en, hel, her, k⟩ :=
    twoSewG_free (vid := vertexId2 n) ReadOnly.pure readOnly_edgeId2 cfg l r m m' u hfc hl0 hr0 h
  rw [(run_pure_ok hel).1, (run_pure_ok her).1] at k
  exact ⟨m1, en, k⟩

/-- **C04 (2-sew, one vertex to merge)**: `l` is 1-free, `r` is not: the vertex of `l` and the
    vertex of `β1 r` are merged into the new vertex id of `l`, then the edge storages -/
theorem C04_twoSew2_left (cfg : Cfg X) (n l r : Nat) (m m' : Map X) (u : Unit) (hfc : m.fc = 0)
    (hl0 : m.β 1 l = 0) (hr0 : m.β 1 r ≠ 0)
    (h : run (twoSew2 cfg n l r) m = (.ok u, m')) :
    ∃ lv b1rv m1 lvn eid ma,
      run (vertexId2 n l) m = (.ok lv, m) ∧ run (vertexId2 n (m.β 1 r)) m = (.ok b1rv, m) ∧
      run (iLinkCore (X := X) 2 l r) m = (.ok (), m1) ∧
      run (vertexId2 n l) m1 = (.ok lvn, m1) ∧ run (edgeId2 (X := X) l) m1 = (.ok eid, m1) ∧
      MergedIn cfg (vStores cfg) lvn lv b1rv m1 ma ∧ MergedIn cfg (eStores cfg) eid l r ma m' := by
  rw [twoSew2_eq] at h
  obtain ⟨el, er, lv, b1rv, m1, lvn, en, ma, hel, her, k⟩ :=
    twoSewOne_ok (readOnly_vertexId2 n) ReadOnly.pure readOnly_edgeId2 cfg _ _ _ _ _ m m' u hfc
      (twoSewG_left cfg l r m m' u hl0 hr0 h)
  rw [(run_pure_ok hel).1, (run_pure_ok her).1] at k
  exact ⟨lv, b1rv, m1, lvn, en, ma, k⟩

/-- **C04 (2-sew, one vertex to merge)**, mirror case: `r` is 1-free, `l` is not -/
theorem C04_twoSew2_right (cfg : Cfg X) (n l r : Nat) (m m' : Map X) (u : Unit) (hfc : m.fc = 0)
    (hl0 : m.β 1 l ≠ 0) (hr0 : m.β 1 r = 0)
    (h : run (twoSew2 cfg n l r) m = (.ok u, m')) :
    ∃ b1lv rv m1 rvn eid ma,
      run (vertexId2 n (m.β 1 l)) m = (.ok b1lv, m) ∧ run (vertexId2 n r) m = (.ok rv, m) ∧
      run (iLinkCore (X := X) 2 l r) m = (.ok (), m1) ∧
      run (vertexId2 n r) m1 = (.ok rvn, m1) ∧ run (edgeId2 (X := X) l) m1 = (.ok eid, m1) ∧
      MergedIn cfg (vStores cfg) rvn b1lv rv m1 ma ∧ MergedIn cfg (eStores cfg) eid l r ma m' := by
  rw [twoSew2_eq] at h
  obtain ⟨el, er, b1lv, rv, m1, rvn, en, ma, hel, her, k⟩ :=
    twoSewOne_ok (readOnly_vertexId2 n) ReadOnly.pure readOnly_edgeId2 cfg _ _ _ _ _ m m' u hfc
      (twoSewG_right cfg l r m m' u hl0 hr0 h)
  rw [(run_pure_ok hel).1, (run_pure_ok her).1] at k
  exact ⟨b1lv, rv, m1, rvn, en, ma, k⟩

/-- **C04 (2-sew, both vertices to merge)**: both darts have a successor.  The orientation test
    passed (or was skipped because a coordinate is missing); the two vertex merges, then the edge
    merge, are applied — in the order of the code: built-in vertices (both ends), user vertex
    storages (both ends), edge storages. -/
theorem C04_twoSew2_both (cfg : Cfg X) (n l r : Nat) (m m' : Map X) (u : Unit) (hfc : m.fc = 0)
    (hl0 : m.β 1 l ≠ 0) (hr0 : m.β 1 r ≠ 0)
    (h : run (twoSew2 cfg n l r) m = (.ok u, m')) :
    ∃ lv b1rv b1lv rv m1 lvn rvn eid ma mb mc md,
      run (vertexId2 n l) m = (.ok lv, m) ∧ run (vertexId2 n (m.β 1 r)) m = (.ok b1rv, m) ∧
      run (vertexId2 n (m.β 1 l)) m = (.ok b1lv, m) ∧ run (vertexId2 n r) m = (.ok rv, m) ∧
      badPair cfg (m.att 0 lv) (m.att 0 b1rv) (m.att 0 b1lv) (m.att 0 rv) = false ∧
      run (iLinkCore (X := X) 2 l r) m = (.ok (), m1) ∧
      run (vertexId2 n l) m1 = (.ok lvn, m1) ∧ run (vertexId2 n r) m1 = (.ok rvn, m1) ∧
      run (edgeId2 (X := X) l) m1 = (.ok eid, m1) ∧
      MergedIn cfg [0] lvn lv b1rv m1 ma ∧ MergedIn cfg [0] rvn b1lv rv ma mb ∧
      MergedIn cfg (storagesOf cfg 0) lvn lv b1rv mb mc ∧ MergedIn cfg (storagesOf cfg 0) rvn b1lv rv mc md ∧
      MergedIn cfg (eStores cfg) eid l r md m' := by
  rw [twoSew2_eq] at h
  obtain ⟨el, er, lv, b1rv, b1lv, rv, m1, lvn, rvn, en, ma, mb, mc, md, hel, her, k⟩ :=
    twoSewG_both (readOnly_vertexId2 n) ReadOnly.pure readOnly_edgeId2 cfg l r m m' u hfc hl0 hr0 h
  rw [(run_pure_ok hel).1, (run_pure_ok her).1] at k
  exact ⟨lv, b1rv, b1lv, rv, m1, lvn, rvn, en, ma, mb, mc, md, k⟩

/-- **C04 (refusal)**: two fully embedded edges that do not point in opposite directions are refused
    with `BadGeometry`, whatever else the map contains -/
theorem C04_twoSew2_refuses (cfg : Cfg X) (n l r : Nat) (m : Map X)
    (lv b1rv b1lv rv : Nat) (a b c d : X)
    (hl0 : m.β 1 l ≠ 0) (hr0 : m.β 1 r ≠ 0) (ho1 : m.okβ 1 l = true) (ho2 : m.okβ 1 r = true)
    (h1 : run (vertexId2 n l) m = (.ok lv, m)) (h2 : run (vertexId2 n (m.β 1 r)) m = (.ok b1rv, m))
    (h3 : run (vertexId2 n (m.β 1 l)) m = (.ok b1lv, m)) (h4 : run (vertexId2 n r) m = (.ok rv, m))
    (k1 : m.okA 0 lv = true) (k2 : m.okA 0 b1rv = true) (k3 : m.okA 0 b1lv = true) (k4 : m.okA 0 rv = true)
    (v1 : m.att 0 lv = some a) (v2 : m.att 0 b1rv = some b) (v3 : m.att 0 b1lv = some c) (v4 : m.att 0 rv = some d)
    (hbad : cfg.badOrient a b c d = true) :
    run (twoSew2 cfg n l r) m = (.err (errBadGeometry 2 l r), m) := by
  unfold twoSew2
  simp only [bind, run_rB, ho1, ho2, if_true, hl0, hr0, false_and, if_false]
  rw [run_bind, h1]; simp only
  rw [run_bind, h2]; simp only
  rw [run_bind, h3]; simp only
  rw [run_bind, h4]; simp only
  have hb : badPair cfg (some a) (some b) (some c) (some d) = true := hbad
  simp only [run_rA, k1, k2, k3, k4, if_true, v1, v2, v3, v4, hb]
  rfl

/-! ## 2-unsew -/

/-- **C04 (2-unsew)**: the four cases of `two_unsew`.  The topology changes exactly as the 2-unlink
    does; the edge storages split the old edge id into `(l, r)`; then the vertex of `l` (when `r` has
    a successor) and the vertex of `r` (when `l` has one) are split, in every vertex-bound storage. -/
theorem C04_twoUnsew2_effect (cfg : Cfg X) (n l : Nat) (m m' : Map X) (u : Unit) (hfc : m.fc = 0)
    (h : run (twoUnsew2 cfg n l) m = (.ok u, m')) :
    ∃ eold m1 me,
      run (edgeId2 (X := X) l) m = (.ok eold, m) ∧
      run (iUnlinkCore (X := X) 2 l) m = (.ok (), m1) ∧
      SplitIn cfg (eStores cfg) l (m.β 2 l) eold m1 me ∧ SameTopo m1 m' ∧
      ((m.β 1 l = 0 ∧ m.β 1 (m.β 2 l) = 0 ∧ m' = me) ∨
       (m.β 1 l = 0 ∧ m.β 1 (m.β 2 l) ≠ 0 ∧ ∃ lvold a b,
          run (vertexId2 n l) m = (.ok lvold, m) ∧
          run (vertexId2 n l) me = (.ok a, me) ∧ run (vertexId2 n (m.β 1 (m.β 2 l))) me = (.ok b, me) ∧
          SplitIn cfg (vStores cfg) a b lvold me m') ∨
       (m.β 1 l ≠ 0 ∧ m.β 1 (m.β 2 l) = 0 ∧ ∃ rvold a b,
          run (vertexId2 n (m.β 2 l)) m = (.ok rvold, m) ∧
          run (vertexId2 n (m.β 1 l)) me = (.ok a, me) ∧ run (vertexId2 n (m.β 2 l)) me = (.ok b, me) ∧
          SplitIn cfg (vStores cfg) a b rvold me m') ∨
       (m.β 1 l ≠ 0 ∧ m.β 1 (m.β 2 l) ≠ 0 ∧ ∃ lvold rvold a b c d mv,
          run (vertexId2 n l) m = (.ok lvold, m) ∧ run (vertexId2 n (m.β 2 l)) m = (.ok rvold, m) ∧
          run (vertexId2 n l) me = (.ok a, me) ∧ run (vertexId2 n (m.β 1 (m.β 2 l))) me = (.ok b, me) ∧
          run (vertexId2 n (m.β 1 l)) me = (.ok c, me) ∧ run (vertexId2 n (m.β 2 l)) me = (.ok d, me) ∧
          SplitIn cfg (vStores cfg) a b lvold me mv ∧ SplitIn cfg (vStores cfg) c d rvold mv m')) := by
  unfold twoUnsew2 at h
  replace h := run_rB_bind_ok (run_rB_bind_ok (run_rB_bind_ok h))
  by_cases c1 : m.β 1 l = 0 ∧ m.β 1 (m.β 2 l) = 0
  · rw [if_pos c1] at h
    obtain ⟨eold, he, h⟩ := run_ro_bind_ok (readOnly_edgeId2 _) h
    obtain ⟨_, m1, hl, h⟩ := run_bind_ok h
    have hfc1 : m1.fc = 0 := by rw [(unlinkI_fc hl).1]; exact hfc
    have h : run (forM_ (eStores cfg) (fun s => splitS cfg s l (m.β 2 l) eold)) m1 = (.ok u, m') := h
    have hE := forM_split_ok cfg l (m.β 2 l) eold _ m1 m' u (eStores_nodup cfg) hfc1 h
    exact ⟨eold, m1, m', he, hl, hE, hE.topo, Or.inl ⟨c1.1, c1.2, rfl⟩⟩
  · rw [if_neg c1] at h
    by_cases c2 : m.β 1 l = 0
    · rw [if_pos c2] at h
      have c2' : m.β 1 (m.β 2 l) ≠ 0 := fun hh => c1 ⟨c2, hh⟩
      obtain ⟨eold, he, h⟩ := run_ro_bind_ok (readOnly_edgeId2 _) h
      obtain ⟨lvold, hlv, h⟩ := run_ro_bind_ok (readOnly_vertexId2 _ _) h
      obtain ⟨_, m1, hl, h⟩ := run_bind_ok h
      have hfc1 : m1.fc = 0 := by rw [(unlinkI_fc hl).1]; exact hfc
      obtain ⟨_, me, hE0, h⟩ := run_bind_ok h
      have hE := forM_split_ok cfg l (m.β 2 l) eold _ m1 me () (eStores_nodup cfg) hfc1 hE0
      have hfce : me.fc = 0 := by rw [hE.fc]; exact hfc1
      obtain ⟨a, ha, h⟩ := run_ro_bind_ok (readOnly_vertexId2 _ _) h
      obtain ⟨b, hb2, h⟩ := run_ro_bind_ok (readOnly_vertexId2 _ _) h
      have h : run (forM_ (vStores cfg) (fun s => splitS cfg s a b lvold)) me = (.ok u, m') := h
      have hV := forM_split_ok cfg a b lvold _ me m' u (vStores_nodup cfg) hfce h
      exact ⟨eold, m1, me, he, hl, hE, hE.topo.trans hV.topo,
        Or.inr (Or.inl ⟨c2, c2', lvold, a, b, hlv, ha, hb2, hV⟩)⟩
    · rw [if_neg c2] at h
      by_cases c3 : m.β 1 (m.β 2 l) = 0
      · rw [if_pos c3] at h
        obtain ⟨eold, he, h⟩ := run_ro_bind_ok (readOnly_edgeId2 _) h
        obtain ⟨rvold, hrv, h⟩ := run_ro_bind_ok (readOnly_vertexId2 _ _) h
        obtain ⟨_, m1, hl, h⟩ := run_bind_ok h
        have hfc1 : m1.fc = 0 := by rw [(unlinkI_fc hl).1]; exact hfc
        obtain ⟨_, me, hE0, h⟩ := run_bind_ok h
        have hE := forM_split_ok cfg l (m.β 2 l) eold _ m1 me () (eStores_nodup cfg) hfc1 hE0
        have hfce : me.fc = 0 := by rw [hE.fc]; exact hfc1
        obtain ⟨a, ha, h⟩ := run_ro_bind_ok (readOnly_vertexId2 _ _) h
        obtain ⟨b, hb2, h⟩ := run_ro_bind_ok (readOnly_vertexId2 _ _) h
        have h : run (forM_ (vStores cfg) (fun s => splitS cfg s a b rvold)) me = (.ok u, m') := h
        have hV := forM_split_ok cfg a b rvold _ me m' u (vStores_nodup cfg) hfce h
        exact ⟨eold, m1, me, he, hl, hE, hE.topo.trans hV.topo,
          Or.inr (Or.inr (Or.inl ⟨c2, c3, rvold, a, b, hrv, ha, hb2, hV⟩))⟩
      · rw [if_neg c3] at h
        obtain ⟨eold, he, h⟩ := run_ro_bind_ok (readOnly_edgeId2 _) h
        obtain ⟨lvold, hlv, h⟩ := run_ro_bind_ok (readOnly_vertexId2 _ _) h
        obtain ⟨rvold, hrv, h⟩ := run_ro_bind_ok (readOnly_vertexId2 _ _) h
        obtain ⟨_, m1, hl, h⟩ := run_bind_ok h
        have hfc1 : m1.fc = 0 := by rw [(unlinkI_fc hl).1]; exact hfc
        obtain ⟨_, me, hE0, h⟩ := run_bind_ok h
        have hE := forM_split_ok cfg l (m.β 2 l) eold _ m1 me () (eStores_nodup cfg) hfc1 hE0
        have hfce : me.fc = 0 := by rw [hE.fc]; exact hfc1
        obtain ⟨a, ha, h⟩ := run_ro_bind_ok (readOnly_vertexId2 _ _) h
        obtain ⟨b, hb2, h⟩ := run_ro_bind_ok (readOnly_vertexId2 _ _) h
        obtain ⟨c, hc, h⟩ := run_ro_bind_ok (readOnly_vertexId2 _ _) h
        obtain ⟨d, hd, h⟩ := run_ro_bind_ok (readOnly_vertexId2 _ _) h
        obtain ⟨_, mA, hA, h⟩ := run_bind_ok h
        obtain ⟨_, mB, hB, h⟩ := run_bind_ok h
        obtain ⟨_, mC, hC, h⟩ := run_bind_ok h
        have hV1 := forM_split_ok cfg a b lvold _ me mB () (vStores_nodup cfg) hfce (run_splitVertex cfg _ _ _ hA hB)
        have hfcB : mB.fc = 0 := by rw [hV1.fc]; exact hfce
        have hV2 := forM_split_ok cfg c d rvold _ mB m' u (vStores_nodup cfg) hfcB (run_splitVertex cfg _ _ _ hC h)
        exact ⟨eold, m1, me, he, hl, hE, (hE.topo.trans hV1.topo).trans hV2.topo,
          Or.inr (Or.inr (Or.inr ⟨c2, c3, lvold, rvold, a, b, c, d, mB, hlv, hrv, ha, hb2, hc, hd, hV1, hV2⟩))⟩

/-! ## failure of a law, and D2 -/

/-- a merge rejected by the attribute makes the storage update fail (and then, by C06, the whole
    call leaves the map unchanged) -/
theorem C04_rejected_merge_fails (cfg : Cfg X) (s out l r : Nat) (m : Map X) (e : Err) (hfc : m.fc = 0)
    (hlr : l ≠ r) (hl : m.okA s l = true) (hr : m.okA s r = true) (ho : m.okA s out = true)
    (hv : mergeVal (cfg.law s) (m.att s l) (m.att s r) = .error e) :
    run (mergeS cfg s out l r) m = (.err e, m) := by
  rw [mergeS_run cfg s out l r m hfc hlr hl hr ho, hv]

/-- **D2** (/repo commit "fix: AttrSparseVec::merge/split move the value …"): when the two
    old identifiers coincide (`l = r`: both darts already belong to the SAME cell, whose dart set
    the sew does not change) no law is called at all: the value — defined or not — is kept bit for
    bit and only moves to the new identifier. -/
theorem C04_same_cell_value_is_kept (cfg : Cfg X) (s out l : Nat) (m : Map X)
    (hl : m.okA s l = true) (ho : m.okA s out = true) :
    ∃ m', run (mergeS cfg s out l l) m = (.ok (), m') ∧ m'.att s out = m.att s l ∧
      (l ≠ out → m'.att s l = none) ∧ (∀ e, e ≠ out → e ≠ l → m'.att s e = m.att s e) := by
  refine ⟨m.moveAt s out l, mergeS_run_move cfg s out l m hl ho, ?_, ?_, ?_⟩
  · rw [att_moveAt m s out l s out hl ho]; simp
  · intro h; rw [att_moveAt m s out l s l hl ho]; simp [h]
  · intro e h1 h2; rw [att_moveAt m s out l s e hl ho]; simp [h1, h2]

/-- the unsew twin: when the two new identifiers coincide nothing is split -/
theorem C04_same_cell_value_is_kept_split (cfg : Cfg X) (s lo inp : Nat) (m : Map X)
    (hi : m.okA s inp = true) (hl : m.okA s lo = true) :
    ∃ m', run (splitS cfg s lo lo inp) m = (.ok (), m') ∧ m'.att s lo = m.att s inp ∧
      (inp ≠ lo → m'.att s inp = none) := by
  refine ⟨m.moveAt s lo inp, splitS_run_move cfg s lo inp m hi hl, ?_, ?_⟩
  · rw [att_moveAt m s lo inp s lo hi hl]; simp
  · intro h; rw [att_moveAt m s lo inp s inp hi hl]; simp [h]

/-! ## non-vacuity -/

/-- one evaluation of the sews on the two triangles of C01 (all vertices defined, two user
    attributes set) for the examples below -/
theorem exMap_sews_run :
    (run (twoSew2 (stdCfg 3 7) 9 2 4) C01.exMap).1 = .ok () ∧
    (run (oneSew2 (stdCfg 3 7) 9 7 7) C01.exMap).1 = .ok () ∧
    ((run (twoSew2 (stdCfg 3 7) 9 2 4) C01.exMap).2).att 0 2 = some (.pt (3/2) 0 0) ∧
    ((run (twoSew2 (stdCfg 3 7) 9 2 4) C01.exMap).2).att 0 5 = none ∧
    (run (twoSew2 (stdCfg 3 7) 9 2 5) C01.exMap).1 = .err (errBadGeometry 2 2 5) := by decide +kernel

example : (run (twoSew2 (stdCfg 3 7) 9 2 4) C01.exMap).1 = .ok () := exMap_sews_run.1
example : (run (oneSew2 (stdCfg 3 7) 9 7 7) C01.exMap).1 = .ok () := exMap_sews_run.2.1
example : C01.exMap.fc = 0 := rfl
/-- after the 2-sew of darts 2 and 4 the vertex {2, 5} (old ids 2 and 5, new id 2) holds the average -/
example : ((run (twoSew2 (stdCfg 3 7) 9 2 4) C01.exMap).2).att 0 2 = some (.pt (3/2) 0 0) := exMap_sews_run.2.2.1
example : ((run (twoSew2 (stdCfg 3 7) 9 2 4) C01.exMap).2).att 0 5 = none := exMap_sews_run.2.2.2.1
/-- a same-direction 2-sew is refused -/
example : (run (twoSew2 (stdCfg 3 7) 9 2 5) C01.exMap).1 = .err (errBadGeometry 2 2 5) := exMap_sews_run.2.2.2.2

end HC.C04

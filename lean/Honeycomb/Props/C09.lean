/-
  C09 — cmap text serialization round-trips every 2-map (token level).

  `C09_roundtrip`: for every well-formed 2-map `m` (any size below 2^32 darts, open and closed
  cells, isolated and removed darts, defined and undefined vertices), loading the token lines
  written by `serialize` succeeds and yields a map with the same number of darts, the same β
  images, the same removal flags, the same value (or absence of value) on every vertex id, and
  serializing that map gives the same token lines again.

  What is assumed (explicit hypotheses, no axiom):
  * `CoordsPrintable m`: the printed coordinate tokens contain no `#` and are read back by the
    model's coordinate parser as the same rational (coordinates are opaque tokens at this level;
    the float printing/parsing of the implementation is validated by `rt`, not proved);
  * `PlainVer ver`: the version token has no `#` and does not start with `[`;
  * `m.n ≤ 2^32`: dart ids are `u32`;
  * `m.unused 0 = false`: the null dart is not flagged as removed (the validating loader rejects
    the id 0 in `[UNUSED]`, while `serialize` prints it when the flag is set).
  The numeral round trip `parseU32 (natTok v) = some v` is proved (`parseU32_natTok`).
-/
import Honeycomb.Lemmas.CmapText

namespace HC.C09
open HC HC.CmapText

/-- the vertex slots that `serialize` prints hold 2-D points whose coordinate tokens are
    `#`-free and parse back to the same value -/
structure CoordsPrintable (m : Map Val) : Prop where
  pt : ∀ v ∈ iterVertices2 m, ∀ val, m.att 0 v = some val →
    ∃ x y, val = .pt x y 0 ∧ parseCoord (ratStr x) = some x ∧ parseCoord (ratStr y) = some y ∧
      NoHash (ratStr x) ∧ NoHash (ratStr y)

def fx (m : Map Val) (v : Nat) : Rat := match m.att 0 v with | some (.pt x _ _) => x | _ => 0
def fy (m : Map Val) (v : Nat) : Rat := match m.att 0 v with | some (.pt _ y _) => y | _ => 0

/-- the `[VERTICES]` lines as a map over the vertex ids that hold a value -/
theorem vertexLines_eq (m : Map Val) : ∀ (l : List Nat),
    (∀ v ∈ l, ∀ val, m.att 0 v = some val → ∃ x y, val = .pt x y 0) →
    l.filterMap (vertexLine m) =
      (l.filter fun v => (m.att 0 v).isSome).map fun v => [natTok v, ratStr (fx m v), ratStr (fy m v)]
  | [], _ => rfl
  | v :: l, h => by
    have ih := vertexLines_eq m l (fun w hw => h w (by simp [hw]))
    cases hv : m.att 0 v with
    | none =>
      simp only [List.filterMap_cons, vertexLine, hv, List.filter_cons, Option.isSome_none]
      simpa using ih
    | some val =>
      obtain ⟨x, y, rfl⟩ := h v (by simp) val hv
      have e1 : fx m v = x := by simp [fx, hv]
      have e2 : fy m v = y := by simp [fy, hv]
      simp only [List.filterMap_cons, vertexLine, hv, List.filter_cons, Option.isSome_some, if_true,
        List.map_cons, e1, e2]
      rw [ih]

theorem mem_iterVertices2_props {m : Map Val} {v : Nat} (h : v ∈ iterVertices2 m) :
    v ≠ 0 ∧ m.unused v = false := by
  unfold iterVertices2 iterCells at h
  have := (List.mem_filter.mp h).2
  simp only [decide_eq_true_eq] at this
  exact ⟨this.1, by simpa using this.2.1⟩

/-- **C09** (token level).  The hypothesis `m.unused 0 = false` is needed since the loader fix
    7170072: `serialize` prints the null dart in `[UNUSED]` when its flag is set (reachable with
    `remove_free_dart(0)`), and the validating loader rejects the id 0 there. -/
theorem C09_roundtrip (ver : String) (hver : PlainVer ver) (ns : Nat) (hns : 0 < ns)
    (m : Map Val) (hwf : WF 3 m) (hu0 : m.unused 0 = false) (h32 : m.n ≤ u32Bound)
    (hc : CoordsPrintable m) :
    ∃ m', load ns (serialize ver m) = .ok m' ∧ m'.n = m.n ∧
      (∀ i, i < 3 → ∀ d, m'.β i d = m.β i d) ∧ (∀ d, m'.unused d = m.unused d) ∧
      (∀ v ∈ iterVertices2 m, m'.att 0 v = m.att 0 v) ∧ serialize ver m' = serialize ver m := by
  have hs : Sized 3 m := hwf.toSized
  have hn : 0 < m.n := hs.npos
  have hpt : ∀ v ∈ iterVertices2 m, ∀ val, m.att 0 v = some val → ∃ x y, val = .pt x y 0 := by
    intro v hv val h
    obtain ⟨x, y, e, _⟩ := hc.pt v hv val h
    exact ⟨x, y, e⟩
  -- the vertex ids holding a value, and their lines
  let vs := (iterVertices2 m).filter fun v => (m.att 0 v).isSome
  have hV := vertexLines_eq m (iterVertices2 m) hpt
  have hfx : ∀ v ∈ vs, m.att 0 v = some (.pt (fx m v) (fy m v) 0) ∧
      parseCoord (ratStr (fx m v)) = some (fx m v) ∧ parseCoord (ratStr (fy m v)) = some (fy m v) ∧
      NoHash (ratStr (fx m v)) ∧ NoHash (ratStr (fy m v)) ∧ v ∈ iterVertices2 m := by
    intro v hv
    have h1 := List.mem_filter.mp hv
    cases hav : m.att 0 v with
    | none => rw [hav] at h1; simp at h1
    | some val =>
      obtain ⟨x, y, rfl, r⟩ := hc.pt v h1.1 val hav
      have e1 : fx m v = x := by simp [fx, hav]
      have e2 : fy m v = y := by simp [fy, hav]
      rw [e1, e2]
      exact ⟨rfl, r.1, r.2.1, r.2.2.1, r.2.2.2, h1.1⟩
  have hdata : ∀ l ∈ (iterVertices2 m).filterMap (vertexLine m), DataLine l := by
    rw [hV]
    intro l hl
    obtain ⟨v, hv, rfl⟩ := List.mem_map.mp hl
    obtain ⟨_, _, _, n1, n2, _⟩ := hfx v hv
    refine dataLine_natTok_cons v _ fun t ht => ?_
    simp only [List.mem_cons, List.not_mem_nil, or_false] at ht
    rcases ht with rfl | rfl
    · exact n1
    · exact n2
  -- stage 1: the section parser
  have hparse := parseFile_serialize hver m hn (by unfold usizeBound; unfold u32Bound at h32; omega)
    _ hdata
  -- stage 2: every image is parsed; the table is β
  have hrows := parseRows_ok (fun i e => natTok (m.β i e)) (fun i e => m.β i e) m.n 0
    (fun i hi e _ he => parseU32_natTok (by
      have := hwf.range i hi e (by omega)
      omega))
  have hbl : ∀ i, betaLine m i = (List.range' 0 m.n).map (fun e => natTok (m.β i e)) := by
    intro i; unfold betaLine; rw [List.range_eq_range']
  have hT : tbl ((List.range' 0 m.n).map (fun e => m.β 0 e), (List.range' 0 m.n).map (fun e => m.β 1 e),
      (List.range' 0 m.n).map (fun e => m.β 2 e)) = fun i e => m.β i e :=
    tbl_map_range' (fun i e => m.β i e) m.n (fun i e h => β_oob hs h)
  obtain ⟨hnull, hrange, hchk⟩ := checks_of_wf hwf
  -- stage 3: the β loop
  have hn0 : m.n - 1 + 1 = m.n := by omega
  obtain ⟨m1, hrun1, hs1, hn1, ha1, hβ1, hun1, hatt1⟩ :=
    setLoop_empty (fun i e => m.β i e) ns (m.n - 1) hwf.null
  have hn1' : m1.n = m.n := hn1.trans hn0
  have hβ1' : ∀ i, i < 3 → ∀ d, d < m.n → m1.β i d = m.β i d :=
    fun i hi d hd => hβ1 i hi d (by omega)
  -- stage 4: the unused loop
  let ids := (List.range m.u.size).filter fun d => m.unused d
  have hids : ∀ d ∈ ids, d < m.n ∧ m.unused d = true := by
    intro d hd
    have := List.mem_filter.mp hd
    exact ⟨by have := List.mem_range.mp this.1; rw [hs.usz] at this; exact this, this.2⟩
  obtain ⟨m2, hrun2, hs2, hn2, hb2, ha2, hu2⟩ :=
    unusedLoop_ok (ids.map natTok) ids m1
      (parsed_natTok ids (fun d hd => by have := (hids d hd).1; omega))
      (List.Nodup.sublist List.filter_sublist List.nodup_range) hs1
      (fun d hd => by
        obtain ⟨hdn, hdu⟩ := hids d hd
        have hd0 : d ≠ 0 := by
          intro e; subst e; rw [hu0] at hdu; cases hdu
        have hdn1 : d < m1.n := by rw [hn1']; exact hdn
        refine ⟨hd0, hdn1, ?_, ?_⟩
        · exact (isFree3_iff m1 d).2 fun i hi => by rw [hβ1' i hi d hdn]; exact hwf.unusedFree d hdn hdu i hi
        · exact hun1 d)
  have hu2' : ∀ d, m2.unused d = m.unused d := by
    intro d
    rw [hu2 d]
    rw [hun1 d, Bool.false_or]
    by_cases hd : d < m.n
    · cases hud : m.unused d with
      | true =>
        have : d ∈ ids := List.mem_filter.mpr ⟨List.mem_range.mpr (by rw [hs.usz]; exact hd), hud⟩
        simp [this]
      | false =>
        have : d ∉ ids := fun h => by have := (hids d h).2; rw [hud] at this; cases this
        simp [this]
    · have : d ∉ ids := fun h => hd (hids d h).1
      simp [this, unused_oob hs hd]
  -- stage 5: the vertices loop
  have ha0 : 0 < m2.a.size := by rw [ha2, ha1]; exact hns
  obtain ⟨m3, hrun3, hs3, _, hn3, hb3, hu3, ha3⟩ :=
    verticesLoop_ok natTok (fun v => ratStr (fx m v)) (fun v => ratStr (fy m v)) (fx m) (fy m) vs m2
      hs2 ha0 (List.Nodup.sublist List.filter_sublist (nodup_iterVertices2 m))
      (fun v hv => by
        obtain ⟨_, p1, p2, _, _⟩ := hfx v hv
        have hvn := mem_iterVertices2_lt (hfx v hv).2.2.2.2.2
        obtain ⟨hv0, hvu⟩ := mem_iterVertices2_props (hfx v hv).2.2.2.2.2
        exact ⟨hv0, by rw [hn2, hn1']; exact hvn, by rw [hu2']; exact hvu,
          parseU32_natTok (by omega), p1, p2⟩)
  have hn3' : m3.n = m.n := hn3.trans (hn2.trans hn1')
  have hβ3 : ∀ i d, m3.β i d = m1.β i d := by
    intro i d
    show rd (rd m3.b i) d = rd (rd m1.b i) d
    rw [hb3, hb2]
  have hu3' : ∀ d, m3.unused d = m.unused d := by
    intro d
    show rd m3.u d = m.unused d
    rw [hu3]; exact hu2' d
  have hatt : ∀ v ∈ iterVertices2 m, m3.att 0 v = m.att 0 v := by
    intro v hv
    rw [ha3 0 v]
    by_cases hin : v ∈ vs
    · simp only [hin, and_self, if_true]
      exact (hfx v hin).1.symm
    · simp only [hin, and_false, if_false]
      have hnone : m.att 0 v = none := by
        cases h : m.att 0 v with
        | none => rfl
        | some val => exact absurd (List.mem_filter.mpr ⟨hv, by rw [h]; rfl⟩) hin
      rw [hnone]
      show rd (rd m2.a 0) v = none
      rw [ha2]
      exact hatt1 0 v
  have hsame : ∀ i d, m3.β i d = m.β i d := β_eq_of_sized hs hs3 hn3'
    (fun i hi d hd => by rw [hβ3, hβ1' i hi d hd])
  refine ⟨m3, ?_, hn3', fun i _ d => hsame i d, hu3', hatt, ?_⟩
  · -- load
    unfold load serialize
    rw [hparse]
    refine build_of_stages (rows := _) rfl rfl (by rw [length_betaLine]; show m.n = m.n - 1 + 1; omega)
      (by rw [length_betaLine]; show m.n = m.n - 1 + 1; omega)
      (by rw [length_betaLine]; show m.n = m.n - 1 + 1; omega) (m1 := m1) (m2 := m2)
      (by rw [hbl 0, hbl 1, hbl 2]; exact hrows) ?_ ?_ ?_ ?_ ?_ ?_
    · rw [hT]; exact hnull
    · rw [hT, hn0]; exact hrange
    · rw [hT]; exact hchk
    · rw [hT]; exact hrun1
    · have : ((some (if unusedLine m = [] then [] else [unusedLine m]) : Option (List Line)).getD []).flatten
          = ids.map natTok := by
        show (if unusedLine m = [] then [] else [unusedLine m]).flatten = unusedLine m
        split
        · rename_i h; rw [h]; rfl
        · simp
      rw [this]
      exact hrun2
    · show verticesLoop ((iterVertices2 m).filterMap (vertexLine m)) m2 = .ok m3
      rw [hV]
      exact hrun3
  · exact serialize_congr ver hwf hs3 hn3' hsame hu3' hatt

/-- the printed vertices are 2-D points whose coordinates have numerators and denominators of
    at most 18 digits (the range of the harness' exact notation) -/
structure SmallCoords (m : Map Val) : Prop where
  pt : ∀ v ∈ iterVertices2 m, ∀ val, m.att 0 v = some val →
    ∃ x y, val = .pt x y 0 ∧ x.num.natAbs < 10 ^ 18 ∧ x.den < 10 ^ 18 ∧
      y.num.natAbs < 10 ^ 18 ∧ y.den < 10 ^ 18

/-- `CoordsPrintable` is not an extra assumption on that range: it is proved
    (`parseCoord_ratStr`, `noHash_ratStr`) -/
theorem C09_coordsPrintable_of_small {m : Map Val} (h : SmallCoords m) : CoordsPrintable m := by
  constructor
  intro v hv val hval
  obtain ⟨x, y, e, a, b, c, d⟩ := h.pt v hv val hval
  exact ⟨x, y, e, parseCoord_ratStr x a b, parseCoord_ratStr y c d, noHash_ratStr x, noHash_ratStr y⟩

/-- the round trip with no assumption on tokens: every well-formed 2-map with fewer than 2^32
    darts and 18-digit rational coordinates -/
theorem C09_roundtrip_small (ver : String) (hver : PlainVer ver) (ns : Nat) (hns : 0 < ns)
    (m : Map Val) (hwf : WF 3 m) (hu0 : m.unused 0 = false) (h32 : m.n ≤ u32Bound)
    (hc : SmallCoords m) :
    ∃ m', load ns (serialize ver m) = .ok m' ∧ m'.n = m.n ∧
      (∀ i, i < 3 → ∀ d, m'.β i d = m.β i d) ∧ (∀ d, m'.unused d = m.unused d) ∧
      (∀ v ∈ iterVertices2 m, m'.att 0 v = m.att 0 v) ∧ serialize ver m' = serialize ver m :=
  C09_roundtrip ver hver ns hns m hwf hu0 h32 (C09_coordsPrintable_of_small hc)

/-! ## non-vacuity: a 5-dart map with an open β1 path, a β2 pair, a removed dart, defined and
    undefined vertices, a value on a non-vertex id (2 is a vertex here; 5 is removed and holds a
    stale value that is not printed) satisfies every hypothesis -/

def exMap : Map Val :=
  { n := 6
    b := #[#[0, 0, 1, 0, 0, 0], #[0, 2, 0, 0, 0, 0], #[0, 0, 0, 4, 3, 0]]
    u := #[false, false, false, false, false, true]
    a := #[#[none, some (.pt (1/4) (-2) 0), some (.pt 7 7 0), some (.pt 3 (-5/8) 0), none,
            some (.pt 1 1 0)]] }

theorem exMap_wf : WF 3 exMap := by decide

theorem plainVer_pkgVersion : PlainVer pkgVersion := ⟨by decide, by decide⟩

theorem exMap_coords : SmallCoords exMap := by
  constructor
  intro v hv val h
  have hl : iterVertices2 exMap = [1, 2, 3, 4] := by decide
  rw [hl] at hv
  simp only [List.mem_cons, List.not_mem_nil, or_false] at hv
  rcases hv with rfl | rfl | rfl | rfl
  · have e : exMap.att 0 1 = some (.pt (1/4) (-2) 0) := rfl
    rw [e] at h; injection h with h; subst h
    exact ⟨1/4, -2, rfl, by decide +kernel, by decide +kernel, by decide +kernel, by decide +kernel⟩
  · have e : exMap.att 0 2 = some (.pt 7 7 0) := rfl
    rw [e] at h; injection h with h; subst h
    exact ⟨7, 7, rfl, by decide +kernel, by decide +kernel, by decide +kernel, by decide +kernel⟩
  · have e : exMap.att 0 3 = some (.pt 3 (-5/8) 0) := rfl
    rw [e] at h; injection h with h; subst h
    exact ⟨3, -5/8, rfl, by decide +kernel, by decide +kernel, by decide +kernel, by decide +kernel⟩
  · have e : exMap.att 0 4 = none := by decide
    rw [e] at h; cases h

theorem exMap_printable : CoordsPrintable exMap := C09_coordsPrintable_of_small exMap_coords

example : ∃ m', load 1 (serialize pkgVersion exMap) = .ok m' ∧ m'.n = exMap.n ∧
    (∀ i, i < 3 → ∀ d, m'.β i d = exMap.β i d) ∧ (∀ d, m'.unused d = exMap.unused d) ∧
    (∀ v ∈ iterVertices2 exMap, m'.att 0 v = exMap.att 0 v) ∧
    serialize pkgVersion m' = serialize pkgVersion exMap :=
  C09_roundtrip pkgVersion plainVer_pkgVersion 1 (by decide) exMap exMap_wf (by decide) (by decide)
    exMap_printable

end HC.C09

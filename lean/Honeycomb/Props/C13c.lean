/-
  C13, third part — exact face structure after ear clipping, and the first side of the star search.

  PROVED
  * `C13_earclip_structure` — on a closed face (darts in β1 order = the order in which the kernel enumerates them:
      `closedFace_orbit_eq`, `bfs_linear_chain`) with 2(n−3) live, free, distinct spare darts outside the face, a
      successful `earclip_cell_*` whose ears are never found at the last index leaves exactly the n−2 triangles of
      `earTris` — per spare pair the ear `(darts[ear], darts[ear+1], nd1)` read from the kernel's own dart vector, then
      the last three darts — each a closed β1 3-cycle; plus the frame of `C13_earclip_frame`.  The loop invariant is
      "the kernel's `darts` vector is the current face in cyclic order" through `remove / push / swap_remove`
      (`dartSurgery_eq`, `ClosedFace.rotate_at`).  One iteration is described once (`earSews_eff`: what the seven
      sews do; `EarIter`, `earclip_iter`: the state around the ear) and `earclipLoop_struct` here, the
      coordinates (C13e) and the freeness of the spare darts (C13f) are instances of one induction along the loop
      (`earclipLoop_induct`); well-formedness on any face (`earclipLoop_frame`, C13b) and the tie with the vertex-list
      computation (`earclipLoop_ok`, C13) have inductions of their own.
  * `EarsNotLast` (hypothesis, decidable on the vertex list): the ear is never found at index n−1.  It is NECESSARY
      for the invariant: for `ear = n − 1` the vector surgery (`remove(0)`, `push(nd2)`, `swap_remove(n − 1)`) drops
      `nd2` instead of `darts[n−1]`, so the vector no longer describes the face (the map surgery itself is still
      right).  On a simple polygon it holds by the two-ears theorem (not proved).
  * `C13_fan_test_iff`, `C13_fan_first_side_weak_witness` — exactly what the star test guarantees on its first
      examined side: nothing about its magnitude; a degenerate first triangle is accepted (witness).

  CONTINUED: that the triangles carry the coordinates of the vertex-list triangles when read through the vertex
  identifiers of the result is proved in Props/C13d.lean for the two fan kernels
  (`C13_fan_triangles_carry_list_coordinates`) and in Props/C13e.lean for ear clipping
  (`C13_earclip_triangles_carry_list_coordinates`), with the labelling invariant of Lemmas/PosCalc.lean.
-/
import Honeycomb.Props.C13b
import Honeycomb.Lemmas.ListFacts


namespace HC.C13
open HC

variable {n : Nat} {u : Array Bool}

/-! ## closed faces as cyclic lists -/

/-- reading a closed face from another of its darts, deterministically -/
theorem ClosedFace.rotate_at {m : Map Val} {a s : Nat} {pre post : List Nat}
    (hc : ClosedFace m a (pre ++ s :: post)) : ClosedFace m s (post ++ a :: pre) := by
  have hch := hc.chain
  rw [List.append_assoc, List.cons_append, B1Chain.append] at hch
  obtain ⟨h1, h2⟩ := hch
  have hperm : (s :: (post ++ a :: pre)).Perm (a :: (pre ++ s :: post)) := by
    have e1 : s :: (post ++ a :: pre) = (s :: post) ++ (a :: pre) := by simp
    have e2 : a :: (pre ++ s :: post) = (a :: pre) ++ (s :: post) := by simp
    rw [e1, e2]; exact List.perm_append_comm
  refine ⟨?_, hperm.nodup_iff.2 hc.nodup, fun x hx => hc.nz x (hperm.subset hx)⟩
  rw [List.append_assoc, List.cons_append, B1Chain.append]
  exact ⟨h2, h1⟩

theorem B1Chain.last {m : Map Val} : ∀ (l : List Nat) (d z : Nat), B1Chain m d (l ++ [z]) →
    B1Chain m d l ∧ m.β 1 (l.getLastD d) = z := by
  intro l
  induction l with
  | nil => intro d z h; exact ⟨trivial, h.1⟩
  | cons x rest ih =>
      intro d z h
      obtain ⟨a, b⟩ := ih x z h.2
      exact ⟨⟨h.1, a⟩, by rw [List.getLastD_cons]; exact b⟩

theorem B1Chain.snoc {m : Map Val} : ∀ (l : List Nat) (d z : Nat), B1Chain m d l → m.β 1 (l.getLastD d) = z →
    B1Chain m d (l ++ [z]) := by
  intro l
  induction l with
  | nil => intro d z _ h; exact ⟨h, trivial⟩
  | cons x rest ih =>
      intro d z h hz
      rw [List.getLastD_cons] at hz
      exact ⟨h.1, ih x z h.2 hz⟩

/-- `orbit_transac(FaceLinear, a)` enumerates a closed face in its cyclic order -/
theorem bfs_linear_chain {m : Map Val} (a : Nat) : ∀ (L : List Nat) (x : Nat) (mk out : List Nat) (fuel : Nat),
    B1Chain m x (L ++ [a]) → a ∈ mk → (∀ y ∈ L, y ∉ mk) → L.Nodup → L.length < fuel →
    bfsPure (C03.g2 m .faceLinear) fuel [x] mk out = out ++ x :: L := by
  intro L
  induction L with
  | nil =>
      intro x mk out fuel h ha _ _ hf
      cases fuel with
      | zero => omega
      | succ f =>
          have hx : m.β 1 x = a := h.1
          have hc : mk.contains a = true := by simpa using ha
          simp only [bfsPure, C03.g2, List.foldl, bfsCheck, hx, hc, if_true]
          cases f <;> rfl
  | cons y L' ih =>
      intro x mk out fuel h ha hL hnd hf
      cases fuel with
      | zero => omega
      | succ f =>
          have hx : m.β 1 x = y := h.1
          have hy : mk.contains y = false := by
            have := hL y (by simp)
            simpa using this
          simp only [bfsPure, C03.g2, List.foldl, bfsCheck, hx, hy, Bool.false_eq_true, if_false, List.nil_append]
          simp only [List.nodup_cons] at hnd
          rw [ih y (mk ++ [y]) (out ++ [x]) f h.2 (by simp [ha]) ?_ hnd.2 (by simp at hf; omega)]
          · simp
          · intro z hz hh
            simp only [List.mem_append, List.mem_singleton] at hh
            rcases hh with c | c
            · exact hL z (by simp [hz]) c
            · exact hnd.1 (c ▸ hz)

theorem closedFace_orbit_eq {m : Map Val} (hwf : WF 3 m) {a : Nat} {rest : List Nat} (hc : ClosedFace m a rest) :
    run (orbit2 m.n .faceLinear a) m = (.ok (a :: rest), m) := by
  have halt := hc.lt hwf (by simp : a ∈ a :: rest)
  have ha0 := hc.nz a (by simp)
  have hspec := (C03.C03_orbit2_spec hwf (pol := .faceLinear) trivial ha0 halt).1
  rw [hspec]
  unfold C03.orb
  have hnd := hc.nodup
  simp only [List.nodup_cons] at hnd
  have hlen : (a :: rest).length < m.n :=
    length_lt_of_nodup hwf.npos hc.nodup hc.nz (fun x hx => hc.lt hwf hx)
  rw [bfs_linear_chain a rest a [0, a] [] (m.n + 1) hc.chain (by simp) ?_ hnd.2 (by simp at hlen; omega)]
  · simp
  · intro y hy hh
    simp only [List.mem_cons, List.not_mem_nil, or_false] at hh
    rcases hh with c | c
    · exact hc.nz y (by simp [hy]) c
    · exact hnd.1 (c ▸ hy)

/-! ## the vector surgery -/

theorem dartSurgery_eq (A B : List Nat) (x y nd2 : Nat) :
    dartSurgery (A ++ x :: y :: B) A.length nd2 = A ++ nd2 :: B := by
  unfold dartSurgery swapRemove
  have hlt : A.length + 1 < (A ++ x :: y :: B).length := by simp
  simp only [Nat.mod_eq_of_lt hlt]
  rw [List.eraseIdx_append_of_length_le (by omega)]
  have e1 : A.length + 1 - A.length = 1 := by omega
  rw [e1]
  simp only [List.eraseIdx_cons_succ, List.eraseIdx_cons_zero]
  have e2 : (A ++ x :: B ++ [nd2]).getLastD 0 = nd2 := by
    have e : A ++ x :: B ++ [nd2] = (A ++ x :: B) ++ [nd2] := by simp
    rw [e, List.getLastD_eq_getLast?, List.getLast?_append]; simp
  rw [e2]
  have e3 : (A ++ x :: B ++ [nd2]).set A.length nd2 = A ++ nd2 :: B ++ [nd2] := by simp
  rw [e3, List.dropLast_concat]

theorem split_at_ear (darts : List Nat) (ear : Nat) (h : ear + 1 < darts.length) :
    ∃ A x y B, darts = A ++ x :: y :: B ∧ A.length = ear := by
  refine ⟨darts.take ear, darts[ear], darts[ear + 1], darts.drop (ear + 2), ?_, by simp; omega⟩
  have h1 : darts = darts.take ear ++ darts.drop ear := (List.take_append_drop ear darts).symm
  have h2 : darts.drop ear = darts[ear] :: darts.drop (ear + 1) := (List.getElem_cons_drop (by omega)).symm
  have h3 : darts.drop (ear + 1) = darts[ear + 1] :: darts.drop (ear + 2) := (List.getElem_cons_drop h).symm
  rw [← h3, ← h2]; exact h1

/-! ## the ears and the triangles, on lists -/

/-- the ear found is never the last index of the vertex list (then `(ear + 1) % n = ear + 1`).  On a simple polygon
    the first ear found cannot be at the last index unless it is the only ear, which the two-ears theorem excludes
    (not proved); for `ear = n − 1` the kernel's vector surgery (`remove(0)`, `push`, `swap_remove(n − 1)`) drops the
    wrong dart. -/
def EarsNotLast (inside : P2 → P2 → P2 → Bool) : Nat → List P2 → Prop
  | 0, _ => True
  | k + 1, vs =>
      match findEar inside vs with
      | none => True
      | some ear => ear + 1 < vs.length ∧ EarsNotLast inside k (vs.eraseIdx (ear + 1))

def decEarsNotLast (inside : P2 → P2 → P2 → Bool) : (k : Nat) → (vs : List P2) → Decidable (EarsNotLast inside k vs)
  | 0, _ => isTrue trivial
  | k + 1, vs => by
      unfold EarsNotLast
      cases h : findEar inside vs with
      | none => exact isTrue trivial
      | some ear =>
          exact @instDecidableAnd _ _ inferInstance (decEarsNotLast inside k (vs.eraseIdx (ear + 1)))

instance (inside : P2 → P2 → P2 → Bool) (k : Nat) (vs : List P2) : Decidable (EarsNotLast inside k vs) :=
  decEarsNotLast inside k vs

/-- the dart triangles cut by the loop, computed with the kernel's own vectors: per spare pair `(nd1, nd2)` the ear
    `(darts[ear], darts[ear+1], nd1)`, then the last three darts -/
def earTris (inside : P2 → P2 → P2 → Bool) : List (Nat × Nat) → List Nat → List P2 → List (Nat × Nat × Nat)
  | [], darts, _ =>
      match darts with
      | [a, b, c] => [(a, b, c)]
      | _ => []
  | (nd1, nd2) :: cs, darts, vs =>
      match findEar inside vs with
      | none => []
      | some ear =>
          (darts.getD ear 0, darts.getD ((ear + 1) % vs.length) 0, nd1) ::
            earTris inside cs (dartSurgery darts ear nd2) (vs.eraseIdx ((ear + 1) % vs.length))

/-! ## the loop -/

/-- β after the seven sews of an ear-clipping iteration: `rl → nd2 → r0`, `y → nd1 → x`, `nd1 ↔ nd2`, the updates in the
    order of the sews (the last one outermost) -/
def earTab (f : Nat → Nat → Nat) (x y r0 rl nd1 nd2 i z : Nat) : Nat :=
  if 2 = i ∧ nd2 = z then nd1 else if 2 = i ∧ nd1 = z then nd2 else
  if 0 = i ∧ r0 = z then nd2 else if 1 = i ∧ nd2 = z then r0 else
  if 0 = i ∧ nd2 = z then rl else if 1 = i ∧ rl = z then nd2 else
  if 0 = i ∧ x = z then nd1 else if 1 = i ∧ nd1 = z then x else
  if 0 = i ∧ nd1 = z then y else if 1 = i ∧ y = z then nd1 else
  if 0 = i ∧ r0 = z then 0 else if 1 = i ∧ y = z then 0 else
  if 0 = i ∧ x = z then 0 else if 1 = i ∧ rl = z then 0 else f i z

/-- the seven sews of one iteration of the ear-clipping loop, on `rl → x → y → r0` with the spare pair `nd1`, `nd2` -/
def earSews (cfg : Cfg Val) (nn x y r0 rl nd1 nd2 : Nat) : P Val Unit := do
  oneUnsew2 cfg nn rl
  oneUnsew2 cfg nn y
  oneSew2 cfg nn y nd1
  oneSew2 cfg nn nd1 x
  oneSew2 cfg nn rl nd2
  oneSew2 cfg nn nd2 r0
  twoSew2 cfg nn nd1 nd2

/-- **what the seven sews do**: they ran on live darts, both spare darts were free (each of their β images is tested by
    one of the link cores), and the β tables of the result are the seven updates: `rl → nd2 → r0`, `y → nd1 → x`,
    `nd1 ↔ nd2` -/
theorem earSews_eff (cfg : Cfg Val) (nn : Nat) {x y r0 rl nd1 nd2 : Nat} {m m7 : Map Val} (hi : Inv n u m)
    (l1 : Live n u nd1) (l2 : Live n u nd2) (h12 : nd1 ≠ nd2) (cyr : m.β 1 y = r0) (clx : m.β 1 rl = x) (hyl : y ≠ rl)
    (hn1 : nd1 ≠ x ∧ nd1 ≠ y ∧ nd1 ≠ r0 ∧ nd1 ≠ rl) (hn2 : nd2 ≠ x ∧ nd2 ≠ y ∧ nd2 ≠ r0 ∧ nd2 ≠ rl)
    (h : run (earSews cfg nn x y r0 rl nd1 nd2) m = (.ok (), m7)) :
    Inv n u m7 ∧ (Live n u x ∧ Live n u y ∧ Live n u r0 ∧ Live n u rl) ∧
    (∀ i, i < 3 → m.β i nd1 = 0 ∧ m.β i nd2 = 0) ∧
    ∀ i z, m7.β i z = earTab m.β x y r0 rl nd1 nd2 i z := by
  unfold earSews at h
  obtain ⟨_, m1, s1, h⟩ := run_bind_ok h
  obtain ⟨i1, lrl, lx, e1⟩ := oneUnsew2_eff cfg nn hi s1
  rw [clx] at lx e1
  obtain ⟨_, m2, s2, h⟩ := run_bind_ok h
  obtain ⟨i2, ly, lr0, e2⟩ := oneUnsew2_eff cfg nn i1 s2
  have hm1y : m1.β 1 y = r0 := by
    rw [e1, if_neg (fun hh => absurd hh.1 (by decide)), if_neg (fun hh => hyl hh.2.symm), cyr]
  rw [hm1y] at lr0 e2
  obtain ⟨_, m3, s3, h⟩ := run_bind_ok h
  obtain ⟨i3, _, f3, e3⟩ := oneSew2_eff cfg nn i2 ly l1 s3
  obtain ⟨_, m4, s4, h⟩ := run_bind_ok h
  obtain ⟨i4, f4, _, e4⟩ := oneSew2_eff cfg nn i3 l1 lx s4
  obtain ⟨_, m5, s5, h⟩ := run_bind_ok h
  obtain ⟨i5, _, f5, e5⟩ := oneSew2_eff cfg nn i4 lrl l2 s5
  obtain ⟨_, m6, s6, h⟩ := run_bind_ok h
  obtain ⟨i6, f6, _, e6⟩ := oneSew2_eff cfg nn i5 l2 lr0 s6
  obtain ⟨i7, f7a, f7b, e7⟩ := twoSew2_eff cfg nn i6 l1 l2 h12 h
  rw [e2, if_neg (fun hh => hn1.2.2.1 hh.2.symm), if_neg (fun hh => absurd hh.1 (by decide)), e1,
    if_neg (fun hh => hn1.1 hh.2.symm), if_neg (fun hh => absurd hh.1 (by decide))] at f3
  rw [e3, if_neg (fun hh => absurd hh.1 (by decide)), if_neg (fun hh => hn1.2.1 hh.2.symm), e2,
    if_neg (fun hh => absurd hh.1 (by decide)), if_neg (fun hh => hn1.2.1 hh.2.symm), e1,
    if_neg (fun hh => absurd hh.1 (by decide)), if_neg (fun hh => hn1.2.2.2 hh.2.symm)] at f4
  rw [e4, if_neg (fun hh => hn2.1 hh.2.symm), if_neg (fun hh => absurd hh.1 (by decide)), e3,
    if_neg (fun hh => h12 hh.2), if_neg (fun hh => absurd hh.1 (by decide)), e2,
    if_neg (fun hh => hn2.2.2.1 hh.2.symm), if_neg (fun hh => absurd hh.1 (by decide)), e1,
    if_neg (fun hh => hn2.1 hh.2.symm), if_neg (fun hh => absurd hh.1 (by decide))] at f5
  rw [e5, if_neg (fun hh => absurd hh.1 (by decide)), if_neg (fun hh => hn2.2.2.2 hh.2.symm), e4,
    if_neg (fun hh => absurd hh.1 (by decide)), if_neg (fun hh => h12 hh.2), e3,
    if_neg (fun hh => absurd hh.1 (by decide)), if_neg (fun hh => hn2.2.1 hh.2.symm), e2,
    if_neg (fun hh => absurd hh.1 (by decide)), if_neg (fun hh => hn2.2.1 hh.2.symm), e1,
    if_neg (fun hh => absurd hh.1 (by decide)), if_neg (fun hh => hn2.2.2.2 hh.2.symm)] at f6
  have b2_6 : ∀ z, m6.β 2 z = m.β 2 z := by
    intro z
    rw [e6, e5, e4, e3, e2, e1]
    simp only [show ¬ (0 = 2) by decide, show ¬ (1 = 2) by decide, false_and, if_false]
  rw [b2_6] at f7a f7b
  refine ⟨i7, ⟨lx, ly, lr0, lrl⟩, fun i hi3 => ?_, fun i z => by rw [e7, e6, e5, e4, e3, e2, e1, earTab]⟩
  have hi' : i = 0 ∨ i = 1 ∨ i = 2 := by omega
  rcases hi' with rfl | rfl | rfl
  · exact ⟨f3, f5⟩
  · exact ⟨f4, f6⟩
  · exact ⟨f7a, f7b⟩


/-- the state of one iteration of the ear-clipping loop on a closed face held in cyclic order in the kernel's vector
    `A ++ x :: y :: B`: the ear is `x → y`, the rest of the face `r0 :: Rt = B ++ A` ends in `rl = Rt.getLastD r0 → x`;
    the seven sews with the spare pair `nd1`, `nd2` lead from `m` to `m7` -/
structure EarIter (n : Nat) (u : Array Bool) (m m7 : Map Val) (A B Rt : List Nat) (x y r0 nd1 nd2 : Nat) : Prop where
  split : B ++ A = r0 :: Rt
  face : ClosedFace m x (y :: r0 :: Rt)
  inv : Inv n u m7
  live : Live n u x ∧ Live n u y ∧ Live n u r0 ∧ Live n u (Rt.getLastD r0)
  spare : Live n u nd1 ∧ Live n u nd2 ∧ nd1 ≠ nd2
  out1 : nd1 ∉ x :: y :: r0 :: Rt
  out2 : nd2 ∉ x :: y :: r0 :: Rt
  free : ∀ i, i < 3 → m.β i nd1 = 0 ∧ m.β i nd2 = 0
  β : ∀ i z, m7.β i z = earTab m.β x y r0 (Rt.getLastD r0) nd1 nd2 i z

section
variable {m m7 : Map Val} {A B Rt : List Nat} {x y r0 nd1 nd2 : Nat}

theorem EarIter.mem_face (h : EarIter n u m m7 A B Rt x y r0 nd1 nd2) {z : Nat} :
    z ∈ x :: y :: r0 :: Rt ↔ z ∈ A ++ x :: y :: B := by
  have : z ∈ r0 :: Rt ↔ z ∈ B ∨ z ∈ A := by rw [← h.split, List.mem_append]
  simp only [List.mem_cons, List.mem_append] at this ⊢
  rw [this]
  constructor
  · rintro (c | c | c | c)
    · exact Or.inr (Or.inl c)
    · exact Or.inr (Or.inr (Or.inl c))
    · exact Or.inr (Or.inr (Or.inr c))
    · exact Or.inl c
  · rintro (c | c | c | c)
    · exact Or.inr (Or.inr (Or.inr c))
    · exact Or.inl c
    · exact Or.inr (Or.inl c)
    · exact Or.inr (Or.inr (Or.inl c))

theorem EarIter.β_other (h : EarIter n u m m7 A B Rt x y r0 nd1 nd2) {z : Nat} (hz : z ∉ x :: y :: r0 :: Rt) (h1 : z ≠ nd1)
    (h2 : z ≠ nd2) (i : Nat) : m7.β i z = m.β i z := by
  simp only [List.mem_cons, not_or] at hz
  have hl : Rt.getLastD r0 ≠ z := fun hh => by
    have := ListFacts.getLastD_mem Rt r0
    rw [hh, List.mem_cons] at this
    exact this.elim hz.2.2.1 hz.2.2.2
  rw [h.β, earTab, if_neg (fun c => h2 c.2.symm), if_neg (fun c => h1 c.2.symm), if_neg (fun c => hz.2.2.1 c.2.symm),
    if_neg (fun c => h2 c.2.symm), if_neg (fun c => h2 c.2.symm), if_neg (fun c => hl c.2),
    if_neg (fun c => hz.1 c.2.symm), if_neg (fun c => h1 c.2.symm), if_neg (fun c => h1 c.2.symm),
    if_neg (fun c => hz.2.1 c.2.symm), if_neg (fun c => hz.2.2.1 c.2.symm), if_neg (fun c => hz.2.1 c.2.symm),
    if_neg (fun c => hz.1 c.2.symm), if_neg (fun c => hl c.2)]


theorem EarIter.β1 (h : EarIter n u m m7 A B Rt x y r0 nd1 nd2) (z : Nat) :
    m7.β 1 z = if nd2 = z then r0 else if Rt.getLastD r0 = z then nd2 else if nd1 = z then x else
      if y = z then nd1 else if y = z then 0 else if Rt.getLastD r0 = z then 0 else m.β 1 z := by
  rw [h.β, earTab]
  simp only [show ¬ (0 = 1) by decide, show ¬ (2 = 1) by decide, false_and, if_false, true_and]

theorem EarIter.face' (h : EarIter n u m m7 A B Rt x y r0 nd1 nd2) : ClosedFace m7 nd2 (r0 :: Rt) := by
  have hcn := h.face.nodup
  simp only [List.nodup_cons, List.mem_cons, not_or] at hcn
  obtain ⟨⟨hxy, hxr, hxR⟩, ⟨hyr, hyR⟩, hrR, hRnd⟩ := hcn
  have o1 := h.out1
  have o2 := h.out2
  simp only [List.mem_cons, not_or] at o1 o2
  have hch := h.face.chain
  simp only [List.cons_append] at hch
  obtain ⟨_, _, hchR⟩ := hch
  obtain ⟨hchRt, _⟩ := B1Chain.last Rt r0 x hchR
  have hrlm := ListFacts.getLastD_mem Rt r0
  have hrld := ListFacts.getLastD_not_mem_dropLast Rt r0 (List.nodup_cons.2 ⟨hrR, hRnd⟩)
  have hmem : ∀ z, z ∈ r0 :: Rt → nd2 ≠ z ∧ nd1 ≠ z ∧ y ≠ z := by
    intro z hz
    rw [List.mem_cons] at hz
    rcases hz with rfl | hz
    · exact ⟨o2.2.2.1, o1.2.2.1, hyr⟩
    · exact ⟨fun c => o2.2.2.2 (c ▸ hz), fun c => o1.2.2.2 (c ▸ hz), fun c => hyR (c ▸ hz)⟩
  refine ⟨?_, ?_, ?_⟩
  · simp only [List.cons_append]
    refine ⟨by rw [h.β1, if_pos rfl], ?_⟩
    refine B1Chain.snoc Rt r0 nd2 (B1Chain.frame Rt r0 hchRt fun z hz => ?_) ?_
    · obtain ⟨z2, z1, zy⟩ := hmem z (List.dropLast_subset _ hz)
      have zl : Rt.getLastD r0 ≠ z := fun c => hrld (c ▸ hz)
      rw [h.β1, if_neg z2, if_neg zl, if_neg z1, if_neg zy, if_neg zy, if_neg zl]
    · rw [h.β1, if_neg (hmem _ hrlm).1, if_pos rfl]
  · exact List.nodup_cons.2 ⟨fun c => (hmem _ c).1 rfl, List.nodup_cons.2 ⟨hrR, hRnd⟩⟩
  · intro z hz
    rw [List.mem_cons] at hz
    rcases hz with rfl | hz
    · exact h.spare.2.1.1
    · exact h.face.nz z (List.mem_cons_of_mem _ (List.mem_cons_of_mem _ hz))

theorem EarIter.surgery_face (h : EarIter n u m m7 A B Rt x y r0 nd1 nd2) :
    ∃ d0' rest', A ++ nd2 :: B = d0' :: rest' ∧ ClosedFace m7 d0' rest' := by
  have hcf := h.face'
  rw [← h.split] at hcf
  cases A with
  | nil => exact ⟨nd2, B, rfl, by simpa using hcf⟩
  | cons a0 A' => exact ⟨a0, A' ++ nd2 :: B, by simp, hcf.rotate_at⟩

theorem EarIter.tri (h : EarIter n u m m7 A B Rt x y r0 nd1 nd2) : TriFace m7 (x, y, nd1) := by
  have hcn := h.face.nodup
  simp only [List.nodup_cons, List.mem_cons, not_or] at hcn
  obtain ⟨⟨hxy, hxr, hxR⟩, ⟨hyr, hyR⟩, _, _⟩ := hcn
  have o1 := h.out1
  have o2 := h.out2
  simp only [List.mem_cons, not_or] at o1 o2
  have hrlm := ListFacts.getLastD_mem Rt r0
  have hl : ∀ z, z ∉ r0 :: Rt → Rt.getLastD r0 ≠ z := fun z hz c => hz (c ▸ hrlm)
  have hxl := hl x (by simp only [List.mem_cons, not_or]; exact ⟨hxr, hxR⟩)
  have hyl := hl y (by simp only [List.mem_cons, not_or]; exact ⟨hyr, hyR⟩)
  have h1l := hl nd1 (by simp only [List.mem_cons, not_or]; exact o1.2.2)
  refine ⟨?_, ?_, ?_⟩
  · show m7.β 1 x = y
    rw [h.β1, if_neg o2.1, if_neg hxl, if_neg o1.1, if_neg (Ne.symm hxy), if_neg (Ne.symm hxy), if_neg hxl]
    exact h.face.chain.1
  · show m7.β 1 y = nd1
    rw [h.β1, if_neg o2.2.1, if_neg hyl, if_neg o1.2.1, if_pos rfl]
  · show m7.β 1 nd1 = x
    rw [h.β1, if_neg (Ne.symm h.spare.2.2), if_neg h1l, if_pos rfl]
end

theorem getD_split (A B : List Nat) (x y : Nat) :
    (A ++ x :: y :: B).getD A.length 0 = x ∧ (A ++ x :: y :: B).getD (A.length + 1) 0 = y := by
  simp [List.getD_eq_getElem?_getD]

theorem earclip_iter (cfg : Cfg Val) (nn : Nat) (inside : P2 → P2 → P2 → Bool) {cs : List (Nat × Nat)}
    {darts rest : List Nat} {vs : List P2} {m m' : Map Val} {d0 nd1 nd2 ear : Nat}
    (hi : Inv n u m) (hd : darts = d0 :: rest) (hc : ClosedFace m d0 rest) (hlen : darts.length = vs.length)
    (hvs : vs.length = cs.length + 4) (l1 : Live n u nd1) (l2 : Live n u nd2) (hne : nd1 ≠ nd2)
    (hn1 : nd1 ∉ darts) (hn2 : nd2 ∉ darts) (hf : findEar inside vs = some ear) (hearlt : ear + 1 < vs.length)
    (h : run (earclipLoop cfg nn inside ((nd1, nd2) :: cs) darts vs) m = (.ok (), m')) :
    ∃ A B Rt x y r0 m7, darts = A ++ x :: y :: B ∧ A.length = ear ∧ EarIter n u m m7 A B Rt x y r0 nd1 nd2 ∧
      run (earSews cfg nn x y r0 (Rt.getLastD r0) nd1 nd2) m = (.ok (), m7) ∧
      dartSurgery darts ear nd2 = A ++ nd2 :: B ∧
      run (earclipLoop cfg nn inside cs (dartSurgery darts ear nd2) (vs.eraseIdx (ear + 1))) m7 = (.ok (), m') := by
  obtain ⟨A, x, y, B, hsplit, hA⟩ := split_at_ear darts ear (by rw [hlen]; exact hearlt)
  have hg := getD_split A B x y
  rw [hA, ← hsplit] at hg
  unfold earclipLoop at h
  simp only [hf] at h
  rw [Nat.mod_eq_of_lt hearlt, hg.1, hg.2] at h
  -- the face read from the ear: x → y → R → x with R = B ++ A
  have hcx : ClosedFace m x (y :: (B ++ A)) := by
    rw [hd] at hsplit
    cases A with
    | nil =>
        simp only [List.nil_append, List.cons.injEq] at hsplit
        obtain ⟨rfl, rfl⟩ := hsplit
        simpa using hc
    | cons a0 A' =>
        simp only [List.cons_append, List.cons.injEq] at hsplit
        obtain ⟨rfl, rfl⟩ := hsplit
        simpa using hc.rotate_at
  have hRlen : (B ++ A).length = cs.length + 2 := by
    have := congrArg List.length hsplit
    simp only [List.length_append, List.length_cons] at this ⊢
    omega
  cases hR : B ++ A with
  | nil => rw [hR] at hRlen; simp at hRlen
  | cons r0 Rt =>
    rw [hR] at hcx
    have hch := hcx.chain
    simp only [List.cons_append] at hch
    obtain ⟨cxy, cyr, hchR⟩ := hch
    obtain ⟨_, hlast⟩ := B1Chain.last Rt r0 x hchR
    have hcn := hcx.nodup
    simp only [List.nodup_cons, List.mem_cons, not_or] at hcn
    have hrlm := ListFacts.getLastD_mem Rt r0
    have hyrl : y ≠ Rt.getLastD r0 := fun c => by
      rw [← c, List.mem_cons] at hrlm
      exact hrlm.elim hcn.2.1.1 hcn.2.1.2
    have hx0 : x ≠ 0 := hcx.nz x (by simp)
    have hb0 : m.β 0 x = Rt.getLastD r0 := by
      have hrllt : Rt.getLastD r0 < m.n :=
        hi.wf.toSized.lt_of_β_ne (i := 1) (by omega) (by rw [hlast]; exact hx0)
      have := hi.wf.inv01 _ hrllt (by rw [hlast]; exact hx0)
      rw [hlast] at this; exact this
    -- the spare darts are not darts of the face
    have hmem : ∀ z, z ∈ x :: y :: r0 :: Rt → z ∈ darts := by
      intro z hz
      have e : z ∈ r0 :: Rt ↔ z ∈ B ∨ z ∈ A := by rw [← hR, List.mem_append]
      rw [hsplit]
      simp only [List.mem_cons, List.mem_append] at hz e ⊢
      rcases hz with c | c | c
      · exact Or.inr (Or.inl c)
      · exact Or.inr (Or.inr (Or.inl c))
      · exact (e.1 c).elim (fun c => Or.inr (Or.inr (Or.inr c))) Or.inl
    have o1 : nd1 ∉ x :: y :: r0 :: Rt := fun c => hn1 (hmem _ c)
    have o2 : nd2 ∉ x :: y :: r0 :: Rt := fun c => hn2 (hmem _ c)
    have hrl4 : Rt.getLastD r0 ∈ x :: y :: r0 :: Rt := List.mem_cons_of_mem _ (List.mem_cons_of_mem _ hrlm)
    obtain ⟨_, _, h⟩ := rB_ok hi h
    obtain ⟨_, _, h⟩ := rB_ok hi h
    rw [hb0, cyr] at h
    have hk : run ((earSews cfg nn x y r0 (Rt.getLastD r0) nd1 nd2).bind fun _ =>
        earclipLoop cfg nn inside cs (dartSurgery darts ear nd2) (vs.eraseIdx (ear + 1))) m = (.ok (), m') := by
      unfold earSews
      simp only [Prog.bind_eq, Prog.bind_assoc]
      exact h
    obtain ⟨_, m7, hs, hrest⟩ := run_bind_ok hk
    obtain ⟨i7, lv, fr, tb⟩ := earSews_eff cfg nn hi l1 l2 hne cyr hlast hyrl
      ⟨fun c => o1 (by simp [c]), fun c => o1 (by simp [c]), fun c => o1 (by simp [c]), fun c => o1 (c ▸ hrl4)⟩
      ⟨fun c => o2 (by simp [c]), fun c => o2 (by simp [c]), fun c => o2 (by simp [c]), fun c => o2 (c ▸ hrl4)⟩ hs
    refine ⟨A, B, Rt, x, y, r0, m7, hsplit, hA, ⟨hR, hcx, i7, lv, ⟨l1, l2, hne⟩, o1, o2, fr, tb⟩, hs, ?_, hrest⟩
    rw [hsplit, ← hA]
    exact dartSurgery_eq A B x y nd2

theorem earTris_cons (inside : P2 → P2 → P2 → Bool) (nd1 nd2 : Nat) (cs : List (Nat × Nat)) (A B : List Nat) (x y : Nat)
    {vs : List P2} (hf : findEar inside vs = some A.length) (hlt : A.length + 1 < vs.length) :
    earTris inside ((nd1, nd2) :: cs) (A ++ x :: y :: B) vs
      = (x, y, nd1) :: earTris inside cs (A ++ nd2 :: B) (vs.eraseIdx (A.length + 1)) := by
  simp only [earTris, hf, Nat.mod_eq_of_lt hlt, (getD_split A B x y).1, (getD_split A B x y).2, dartSurgery_eq]

/-- **induction along the ear-clipping loop** on a closed face held in cyclic order in the kernel's `darts` vector, with
    live, distinct spare darts outside the face and ears never found at the last index: a property `Q` of (spare pairs,
    vector, vertex list, state before, final state) holds of every successful run if it holds of the last triangle and
    passes from the state after one iteration (`EarIter`) back to the state before -/
theorem earclipLoop_induct (cfg : Cfg Val) (nn : Nat) (inside : P2 → P2 → P2 → Bool)
    {Q : List (Nat × Nat) → List Nat → List P2 → Map Val → Map Val → Prop}
    (base : ∀ (a b c : Nat) (vs : List P2) (m : Map Val), Inv n u m → ClosedFace m a [b, c] → vs.length = 3 →
      Q [] [a, b, c] vs m m)
    (step : ∀ (nd1 nd2 : Nat) (cs : List (Nat × Nat)) (vs : List P2) (m m7 m' : Map Val) (A B Rt : List Nat)
      (x y r0 : Nat), Inv n u m → findEar inside vs = some A.length → A.length + 1 < vs.length →
      (A ++ x :: y :: B).length = vs.length → (sparesOf ((nd1, nd2) :: cs)).Nodup →
      (∀ z ∈ sparesOf ((nd1, nd2) :: cs), Live n u z ∧ z ∉ A ++ x :: y :: B) →
      EarIter n u m m7 A B Rt x y r0 nd1 nd2 →
      run (earSews cfg nn x y r0 (Rt.getLastD r0) nd1 nd2) m = (.ok (), m7) →
      Q cs (A ++ nd2 :: B) (vs.eraseIdx (A.length + 1)) m7 m' → Q ((nd1, nd2) :: cs) (A ++ x :: y :: B) vs m m') :
    ∀ (chunks : List (Nat × Nat)) (darts : List Nat) (vs : List P2) (m m' : Map Val) (d0 : Nat) (rest : List Nat),
      Inv n u m → darts = d0 :: rest → ClosedFace m d0 rest → darts.length = vs.length →
      vs.length = chunks.length + 3 → (sparesOf chunks).Nodup →
      (∀ x ∈ sparesOf chunks, Live n u x ∧ x ∉ darts) → EarsNotLast inside chunks.length vs →
      run (earclipLoop cfg nn inside chunks darts vs) m = (.ok (), m') → Q chunks darts vs m m' := by
  intro chunks
  induction chunks with
  | nil =>
      intro darts vs m m' d0 rest hi hd hc hlen hvs _ _ _ h
      unfold earclipLoop at h
      have h3 : vs.length = 3 := hvs
      simp [h3] at h
      subst h hd
      match rest, hlen.trans h3 with
      | [b, c], _ => exact base d0 b c vs m hi hc h3
  | cons c rest' ih =>
      intro darts vs m m' d0 rest hi hd hc hlen hvs hsnd hsp hears h
      obtain ⟨nd1, nd2⟩ := c
      have hsnd' := hsnd
      have hsp' := hsp
      rw [sparesOf_cons] at hsnd' hsp'
      simp only [List.nodup_cons, List.mem_cons, not_or] at hsnd'
      obtain ⟨l1, hn1⟩ := hsp' nd1 (by simp)
      obtain ⟨l2, hn2⟩ := hsp' nd2 (by simp)
      simp only [List.length_cons] at hears hvs
      unfold EarsNotLast at hears
      cases hf : findEar inside vs with
      | none => unfold earclipLoop at h; simp [hf] at h
      | some ear =>
          rw [hf] at hears
          obtain ⟨hearlt, hears'⟩ := hears
          obtain ⟨A, B, Rt, x, y, r0, m7, hsplit, hA, it, hs, hsurg, hrest⟩ :=
            earclip_iter cfg nn inside hi hd hc hlen hvs l1 l2 hsnd'.1.1 hn1 hn2 hf hearlt h
          subst hA hsplit
          obtain ⟨d0', rest'', hd', hc'⟩ := it.surgery_face
          rw [hsurg] at hrest
          refine step nd1 nd2 rest' vs m m7 m' A B Rt x y r0 hi hf hearlt hlen hsnd hsp it hs
            (ih _ _ m7 m' d0' rest'' it.inv hd' hc' ?_ ?_ hsnd'.2.2 (fun z hz => ⟨(hsp' z (by simp [hz])).1, ?_⟩)
              hears' hrest)
          · rw [List.length_eraseIdx, if_pos hearlt, ← hlen]
            simp
          · rw [List.length_eraseIdx, if_pos hearlt, hvs]
            rfl
          · intro hh
            have hzd := (hsp' z (by simp [hz])).2
            simp only [List.mem_append, List.mem_cons] at hh hzd
            rcases hh with c | c | c
            · exact hzd (Or.inl c)
            · exact hsnd'.2.1 (c ▸ hz)
            · exact hzd (Or.inr (Or.inr (Or.inr c)))

/-- the ear-clipping loop on a closed face held in cyclic order in the kernel's `darts` vector -/
theorem earclipLoop_struct (cfg : Cfg Val) (nn : Nat) (inside : P2 → P2 → P2 → Bool) :
    ∀ (chunks : List (Nat × Nat)) (darts : List Nat) (vs : List P2) (m m' : Map Val) (d0 : Nat) (rest : List Nat),
      Inv n u m → darts = d0 :: rest → ClosedFace m d0 rest → darts.length = vs.length →
      vs.length = chunks.length + 3 → (sparesOf chunks).Nodup →
      (∀ x ∈ sparesOf chunks, Live n u x ∧ x ∉ darts) → EarsNotLast inside chunks.length vs →
      run (earclipLoop cfg nn inside chunks darts vs) m = (.ok (), m') →
      Inv n u m' ∧ (∀ t ∈ earTris inside chunks darts vs, TriFace m' t) ∧
      (earTris inside chunks darts vs).length = chunks.length + 1 ∧
      (∀ y, y ∉ darts → y ∉ sparesOf chunks → m'.β 1 y = m.β 1 y) := by
  refine earclipLoop_induct cfg nn inside ?_ ?_
  · intro a b c vs m hi hc _
    have hch := hc.chain
    refine ⟨hi, ?_, rfl, fun _ _ _ => rfl⟩
    intro t ht
    simp only [earTris, List.mem_singleton] at ht
    subst ht
    exact ⟨hch.1, hch.2.1, hch.2.2.1⟩
  · intro nd1 nd2 cs vs m m7 m' A B Rt x y r0 _ hf hlt _ hsnd hsp it _ ⟨j1, j2, j3, j4⟩
    rw [sparesOf_cons] at hsnd hsp
    simp only [List.nodup_cons, List.mem_cons, not_or] at hsnd
    rw [earTris_cons inside nd1 nd2 cs A B x y hf hlt]
    have nsurg : ∀ z, z ∉ A → z ∉ B → z ≠ nd2 → z ∉ A ++ nd2 :: B := by
      intro z a b c hh
      simp only [List.mem_append, List.mem_cons] at hh
      exact hh.elim a (fun h => h.elim c b)
    have nAB : ∀ z, z ∉ r0 :: Rt → z ∉ A ∧ z ∉ B := by
      intro z hz
      rw [← it.split, List.mem_append, not_or] at hz
      exact ⟨hz.2, hz.1⟩
    have hnd := it.face.nodup
    rw [List.nodup_cons, List.nodup_cons] at hnd
    have o1 := it.out1
    have o2 := it.out2
    simp only [List.mem_cons, not_or] at o1 o2
    have hxAB := nAB x (fun c => hnd.1 (List.mem_cons_of_mem _ c))
    have hyAB := nAB y hnd.2.1
    have h1AB := nAB nd1 (by simp only [List.mem_cons, not_or]; exact o1.2.2)
    have hsp' : ∀ z, z ∈ A ++ x :: y :: B → z ∉ sparesOf cs := fun z hz c => (hsp z (by simp [c])).2 hz
    refine ⟨j1, ?_, by simp only [List.length_cons, j3], ?_⟩
    · intro t ht
      rw [List.mem_cons] at ht
      rcases ht with rfl | ht
      · obtain ⟨t1, t2, t3⟩ := it.tri
        refine ⟨?_, ?_, ?_⟩
        · show m'.β 1 x = y
          rw [j4 x (nsurg x hxAB.1 hxAB.2 (Ne.symm o2.1)) (hsp' x (by simp))]
          exact t1
        · show m'.β 1 y = nd1
          rw [j4 y (nsurg y hyAB.1 hyAB.2 (Ne.symm o2.2.1)) (hsp' y (by simp))]
          exact t2
        · show m'.β 1 nd1 = x
          rw [j4 nd1 (nsurg nd1 h1AB.1 h1AB.2 hsnd.1.1) hsnd.1.2]
          exact t3
      · exact j2 t ht
    · intro z hz1 hz2
      rw [sparesOf_cons] at hz2
      simp only [List.mem_cons, not_or] at hz2
      rw [j4 z (nsurg z (fun c => hz1 (by simp [c])) (fun c => hz1 (by simp [c])) hz2.2.1) hz2.2.2]
      exact it.β_other (fun c => hz1 (it.mem_face.1 c)) hz2.1 hz2.2.1 1

theorem earclip_kernel_closed (cfg : Cfg Val) (inside : P2 → P2 → P2 → Bool) (m m' : Map Val) (face : Nat)
    (nds rest : List Nat) (hwf : WF 3 m) (hc : ClosedFace m face rest)
    (h : run (earclipCell cfg m.n inside face nds) m = (.ok (), m')) :
    ∃ vals, run (faceVertices m.n (face :: rest)) m = (.ok vals, m) ∧ vals.length = (face :: rest).length ∧
      run (earclipLoop cfg m.n inside (chunks2 nds) (face :: rest) (vals.map Val.p2)) m = (.ok (), m') ∧
      (chunks2 nds).length + 3 = (face :: rest).length ∧ nds.length % 2 = 0 := by
  obtain ⟨darts, vals, h1, h2, h4, hreq⟩ := C13_earclip_kernel_loop cfg m.n inside face nds m m' h
  have hd : darts = face :: rest := by
    have := closedFace_orbit_eq hwf hc
    rw [h1] at this
    exact Out.ok.inj (Prod.mk.inj this).1
  subst hd
  have hk := chunks2_length nds
  exact ⟨vals, h2, (faceVertices_length _ _ _ _ _ h2).1, h4, by omega, by omega⟩

/-- **C13, exact face structure after ear clipping**: on a closed face `face :: rest` (its darts in β1 order, which is
    the order in which the kernel enumerates them: `closedFace_orbit_eq`) with `n ≥ 4` darts and `2(n-3)` live, free,
    pairwise distinct spare darts outside the face, a successful `earclip_cell_*` whose ears are never found at the
    last index (`EarsNotLast`, a decidable condition on the vertex list; see there) leaves
    * exactly the `n − 2` triangles of `earTris` — per spare pair `(nd1, nd2)` the ear `(darts[ear], darts[ear+1], nd1)`
      read from the kernel's own dart vector, and finally the last three darts — each a closed β1-cycle of three darts;
    * a well-formed map; every β image of every dart outside face ∪ spares unchanged; β2 of every other dart than the
      spare darts — in particular of every side of the polygon — unchanged; the spare darts 2-linked pair by pair
      (`C13_earclip_frame`). -/
theorem C13_earclip_structure (cfg : Cfg Val) (inside : P2 → P2 → P2 → Bool) (m m' : Map Val) (face : Nat)
    (nds : List Nat) (rest : List Nat) (hwf : WF 3 m) (hc : ClosedFace m face rest)
    (hsp : ∀ d ∈ nds, C01.InUse m d ∧ m.isFree 3 d = true ∧ d ∉ face :: rest) (hnd : nds.Nodup)
    (hears : ∀ vals, run (faceVertices m.n (face :: rest)) m = (.ok vals, m) →
      EarsNotLast inside (chunks2 nds).length (vals.map Val.p2))
    (h : run (earclipCell cfg m.n inside face nds) m = (.ok (), m')) :
    ∃ vals, run (faceVertices m.n (face :: rest)) m = (.ok vals, m) ∧ WF 3 m' ∧
      (∀ t ∈ earTris inside (chunks2 nds) (face :: rest) (vals.map Val.p2), TriFace m' t) ∧
      (earTris inside (chunks2 nds) (face :: rest) (vals.map Val.p2)).length = rest.length - 1 ∧
      (∀ i y, y ∉ face :: rest → y ∉ nds → m'.β i y = m.β i y) ∧
      (∀ y, y ∉ sparesOf (chunks2 nds) → m'.β 2 y = m.β 2 y) ∧
      (∀ c ∈ chunks2 nds, m'.β 2 c.1 = c.2 ∧ m'.β 2 c.2 = c.1) := by
  obtain ⟨hwf', hfr1, hfr2, hfr3⟩ := C13_earclip_frame cfg inside m m' face nds face rest hwf hc (by simp) hsp hnd h
  obtain ⟨vals, h2, hvl, h4, hcl, _⟩ := earclip_kernel_closed cfg inside m m' face nds rest hwf hc h
  have hsub := sparesOf_chunks2_sublist nds
  obtain ⟨_, j2, j3, _⟩ := earclipLoop_struct (n := m.n) (u := m.u) cfg m.n inside (chunks2 nds) (face :: rest)
    (vals.map Val.p2) m m' face rest (Inv.of_wf hwf) rfl hc (by rw [List.length_map, hvl])
    (by rw [List.length_map, hvl]; exact hcl.symm)
    (hnd.sublist hsub)
    (fun x hx => ⟨(hsp x (hsub.subset hx)).1, (hsp x (hsub.subset hx)).2.2⟩) (hears vals h2) h4
  refine ⟨vals, h2, hwf', j2, ?_, hfr1, hfr2, hfr3⟩
  rw [j3]; simp only [List.length_cons] at hcl; omega

/-! ## the first side examined by the star search -/

/-- **C13 (e), exactly what the star test guarantees**: it accepts candidate `k` iff, `i0` being the first side not
    incident to `v_k` (smallest index), every OTHER non-incident side has the `signum` of side `i0` and a cross product
    of magnitude `≥ ε`.  Nothing is required of the magnitude of side `i0` itself: its cross product only has the
    common sign weakly (`C13_fan_star_sees_every_side`) and may vanish (`C13_fan_first_side_weak_witness`). -/
theorem C13_fan_test_iff (vs : List P2) (k : Nat) :
    fanTest vs k = some true ↔
      ∃ i0 rest, fanSegs vs.length k = i0 :: rest ∧
        ∀ i ∈ rest, sideSignum vs k i = sideSignum vs k i0 ∧ ¬ ratAbs (sideCross vs k i) < eps := by
  constructor
  · intro h
    obtain ⟨i0, rest, a, _, c⟩ := fanTest_true h
    exact ⟨i0, rest, a, c⟩
  · rintro ⟨i0, rest, hs, hall⟩
    unfold fanTest
    simp only [hs, List.map_cons, Option.some.injEq, List.all_eq_true, List.mem_map, Bool.and_eq_true,
      decide_eq_true_eq, Bool.not_eq_true', decide_eq_false_iff_not, forall_exists_index, and_imp]
    intro cz i hi hcz
    subst hcz
    obtain ⟨a, b⟩ := hall i hi
    unfold sideSignum sideCross at a
    unfold sideCross at b
    exact ⟨a, b⟩

/-- a quadrilateral whose vertices 0, 1, 2 are collinear -/
def flatQuad : List P2 := [⟨0, 0⟩, ⟨1, 0⟩, ⟨2, 0⟩, ⟨1, 2⟩]

/-- **the weak sign on the first side is tight**: the star test accepts apex 0 of `flatQuad` although the triangle
    `(v0, v1, v2)` over its first examined side is degenerate (cross product 0, `signum(+0.0) = 1`); the fan then
    contains a triangle of area 0 -/
theorem C13_fan_first_side_weak_witness :
    fanTest flatQuad 0 = some true ∧ fanStar flatQuad = some (some 0) ∧ sideCross flatQuad 0 1 = 0 ∧
    (fanTriangles flatQuad 0).map tri2 = [0, 4] := by decide +kernel

/-! ## non-vacuity -/

/-- the pentagon of `d7Map`: the ears are found at indices 1 and 0 (never last); the triangles are (2,3,6), (1,7,8)
    and (9,4,5), as the kernel's vectors say -/
example : EarsNotLast insideCCW 2 d7Pentagon := by decide +kernel

example : earTris insideCCW [(6, 7), (8, 9)] [1, 2, 3, 4, 5] d7Pentagon = [(2, 3, 6), (1, 7, 8), (9, 4, 5)] := by
  decide +kernel

example : ∀ t ∈ [(2, 3, 6), (1, 7, 8), (9, 4, 5)],
    TriFace (run (earclipCell (stdCfg 3 0) d7Map.n insideCCW 1 [6, 7, 8, 9]) d7Map).2 t := by
  rw [d7_earclip_run]
  decide +kernel

theorem d7_vals : run (faceVertices d7Map.n [1, 2, 3, 4, 5]) d7Map
    = (.ok [.pt 0 0 0, .pt 2 1 0, .pt 4 0 0, .pt 4 4 0, .pt 0 4 0], d7Map) := by
  exact faceVertices_of_fst (by decide +kernel)

example : ∃ vals, run (faceVertices d7Map.n [1, 2, 3, 4, 5]) d7Map = (.ok vals, d7Map) ∧
    WF 3 (run (earclipCell (stdCfg 3 0) d7Map.n insideCCW 1 [6, 7, 8, 9]) d7Map).2 ∧
    (∀ t ∈ earTris insideCCW (chunks2 [6, 7, 8, 9]) [1, 2, 3, 4, 5] (vals.map Val.p2),
      TriFace (run (earclipCell (stdCfg 3 0) d7Map.n insideCCW 1 [6, 7, 8, 9]) d7Map).2 t) := by
  obtain ⟨vals, a, b, c, _⟩ := C13_earclip_structure (stdCfg 3 0) insideCCW d7Map _ 1 [6, 7, 8, 9] [2, 3, 4, 5]
    d7_wf d7_closed (by decide +kernel) (by decide)
    (run_ok_elim d7_vals (by decide +kernel))
    (run_eq_of_fst (congrArg Prod.fst d7_earclip_run))
  exact ⟨vals, a, b, c⟩

end HC.C13

/-
  C11, writer side — the legacy ASCII text at token level.

  `C11_ascii_tokens_parse`: reading (`VtkText.parseTokens`, the legacy format as specified) the tokens written
  (`VtkText.renderTokens`, the model of vtkio's `write_legacy_ascii`, tied to the real output of `to_vtk_ascii` by
  the `vtkascii` stream) gives back exactly the piece — points, `num_cells`, flat list, type codes.
  `C11_asciiTokens_export`: hence the tokens of `to_vtk_ascii` denote the piece of `exportPiece`.

  What stays TRUSTED after this: vtkio's BINARY writer, vtkio's reader (both formats) — the harness checks on every
  case that both files are read back to the same piece and build the same map —, the blanks / line structure of the
  text and the decimal printing and parsing of floats (coordinates are opaque tokens here; exactness of the float
  text is validated by the wide-coordinate stream).
-/
import Honeycomb.Model.VtkText
import Honeycomb.Lemmas.CmapText


namespace HC.C11
open HC HC.Vtk HC.VtkText HC.CmapText

theorem stripPrefix_append : ∀ (p l : List Tok), stripPrefix p (p ++ l) = some l := by
  intro p
  induction p with
  | nil => intro l; cases l <;> rfl
  | cons a p ih => intro l; simp [stripPrefix, ih]

theorem takeN_append (a b : List Tok) {n : Nat} (h : a.length = n) : takeN n (a ++ b) = some (a, b) := by
  unfold takeN
  rw [if_pos (by rw [List.length_append]; omega), List.take_left' h, List.drop_left' h]

theorem coordToks_length : ∀ (pts : List Val), (coordToks pts).length = 3 * pts.length := by
  intro pts
  induction pts with
  | nil => rfl
  | cons p ps ih =>
      have : coordToks (p :: ps) = ptToks p ++ coordToks ps := by simp [coordToks]
      rw [this, List.length_append, ih]
      cases p <;> simp [ptToks] <;> omega

theorem parseAll_natTok : ∀ (l : List Nat), (∀ v, v ∈ l → v < usizeBound) →
    parseAll parseUsize (l.map natTok) = some l := by
  intro l
  induction l with
  | nil => intro _; rfl
  | cons v l ih =>
      intro h
      unfold parseAll at ih ⊢
      simp only [List.map_cons]
      rw [parseUsize_natTok (h v List.mem_cons_self)]
      simp only [optAll, ih (fun w hw => h w (List.mem_cons_of_mem _ hw))]

/-- a coordinate the token notation can carry: numerator and denominator below `10^18` -/
def SmallQ (q : Rat) : Prop := q.num.natAbs < 10 ^ 18 ∧ q.den < 10 ^ 18
instance (q : Rat) : Decidable (SmallQ q) := by unfold SmallQ; exact inferInstance
/-- a point with printable coordinates -/
def PrintablePt (p : Val) : Prop := ∃ x y z, p = .pt x y z ∧ SmallQ x ∧ SmallQ y ∧ SmallQ z

def coordsOf : List Val → List Rat
  | [] => []
  | .pt x y z :: r => x :: y :: z :: coordsOf r
  | _ :: r => coordsOf r

theorem parseAll_coordToks : ∀ (pts : List Val), (∀ p, p ∈ pts → PrintablePt p) →
    parseAll parseCoord (coordToks pts) = some (coordsOf pts) ∧ triplesV (coordsOf pts) = some pts := by
  intro pts
  induction pts with
  | nil => intro _; exact ⟨rfl, rfl⟩
  | cons p ps ih =>
      intro h
      obtain ⟨x, y, z, rfl, hx, hy, hz⟩ := h p List.mem_cons_self
      obtain ⟨i1, i2⟩ := ih (fun q hq => h q (List.mem_cons_of_mem _ hq))
      have e : coordToks (Val.pt x y z :: ps) = ratStr x :: ratStr y :: ratStr z :: coordToks ps := by
        simp [coordToks, ptToks]
      unfold parseAll at i1 ⊢
      constructor
      · rw [e]
        simp only [List.map_cons, coordsOf]
        rw [parseCoord_ratStr x hx.1 hx.2, parseCoord_ratStr y hy.1 hy.2, parseCoord_ratStr z hz.1 hz.2]
        simp only [optAll, i1]
      · simp only [coordsOf, triplesV, i2]

/-- **C11 (f1)**: the legacy ASCII tokens of a piece are read back as the same piece -/
theorem C11_ascii_tokens_parse (pts : List Val) (nc : Nat) (verts types : List Nat)
    (hp : ∀ p, p ∈ pts → PrintablePt p) (hn : pts.length < usizeBound) (hnc : nc < usizeBound)
    (hv : verts.length < usizeBound ∧ ∀ v, v ∈ verts → v < usizeBound)
    (ht : types.length < usizeBound ∧ ∀ t, t ∈ types → t < usizeBound) :
    parseTokens (renderTokens pts nc verts types) = some (pts, nc, verts, types) := by
  obtain ⟨c1, c2⟩ := parseAll_coordToks pts hp
  unfold parseTokens renderTokens
  rw [stripPrefix_append]
  simp only [List.cons_append, List.nil_append, parsePoints]
  rw [if_neg (by decide), parseUsize_natTok hn]
  simp only
  rw [takeN_append _ _ (coordToks_length pts)]
  simp only [c1, c2, parseCells]
  rw [parseUsize_natTok hnc, parseUsize_natTok hv.1]
  simp only
  rw [takeN_append _ _ (by simp)]
  simp only [parseAll_natTok verts hv.2, parseTypes]
  rw [parseUsize_natTok ht.1]
  simp only
  rw [takeN_append _ _ (by simp)]
  simp only [parseAll_natTok types ht.2, parseTail]

/-- **C11 (f2)**: the tokens of `to_vtk_ascii` denote the exported piece -/
theorem C11_asciiTokens_export (m : Map Val) (pts : List Val) (cells : List VCell)
    (h : exportPiece m = .ok (pts, cells)) (hp : ∀ p, p ∈ pts → PrintablePt p)
    (hb : pts.length < usizeBound ∧ cells.length < usizeBound ∧
      (toLegacy cells).2.1.length < usizeBound ∧ (∀ v, v ∈ (toLegacy cells).2.1 → v < usizeBound) ∧
      ∀ t, t ∈ (toLegacy cells).2.2 → t < usizeBound) :
    ∃ toks, asciiTokens m = .ok toks ∧
      parseTokens toks = some (pts, (toLegacy cells).1, (toLegacy cells).2.1, (toLegacy cells).2.2) := by
  refine ⟨_, by unfold asciiTokens; rw [h], ?_⟩
  exact C11_ascii_tokens_parse _ _ _ _ hp hb.1 (by simpa [toLegacy] using hb.2.1) ⟨hb.2.2.1, hb.2.2.2.1⟩
    ⟨by simpa [toLegacy] using hb.2.1, hb.2.2.2.2⟩

/-- non-vacuity: the piece of `exMap` -/
example : parseTokens (renderTokens [.pt 0 0 0, .pt (1/2) 1 0] 1 [2, 0, 1] [3]) =
    some ([.pt 0 0 0, .pt (1/2) 1 0], 1, [2, 0, 1], [3]) :=
  C11_ascii_tokens_parse _ _ _ _
    (by
      intro p hp
      simp only [List.mem_cons, List.not_mem_nil, or_false] at hp
      rcases hp with rfl | rfl
      · exact ⟨0, 0, 0, rfl, by decide, by decide, by decide⟩
      · exact ⟨1/2, 1, 0, rfl, by decide +kernel, by decide, by decide⟩)
    (by decide) (by decide) ⟨by decide, by decide⟩ ⟨by decide, by decide⟩

end HC.C11

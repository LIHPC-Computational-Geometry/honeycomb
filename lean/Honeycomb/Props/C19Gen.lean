/-
  C19 — the arithmetic of the geometric primitives TRANSLATED from the source on every run (`Gen/Geometry.lean`, written by
  tools/gen_lean.py `geom` from geometry/dim2/vector.rs, dim2/vertex.rs, dim3/vector.rs, dim3/vertex.rs): for every function of
  every impl block (the operator impls `Add/Sub/Mul/Div/Neg` and their `…Assign` forms, by value and by reference, `Vertex − Vertex`,
  `Vertex ± Vector`, `dot`, `cross`, `norm`, `normal_dir`, `average`, `cross_product_from_vertices`, the unit vectors, the
  conversions and the accessors) the expression tree of every output COMPONENT over the input components, the statements of the
  `&mut self` bodies in order, and the zero-divisor assertion of `Div` / `DivAssign`.

  Here the trees get their meaning — an evaluator over an ARBITRARY coordinate type that has `+ - * /` and unary minus (operations
  only, no laws: the same assumptions as Model/Geometry.lean, so the statements hold for machine floats as well as for a field) —
  and each evaluated operator is proved EQUAL (`rfl`) to the model function every C19 theorem is about (`V2.add`, `V2.subAssign`,
  `V3.cross`, `P2.average`, …).  The tie is per component: the defect D12 (`Vector2 -= Vector2` subtracting `rhs.0` twice, never
  `rhs.1`) would break `C19_gen_v2_SubAssign_Vector2`.  Nothing is normalised: `a + b` and `b + a`, `(a + b) + c` and `a + (b + c)`
  are different trees (they are different floating-point programs).

  Literals: `T::zero()`, `T::one()`, `T::from(2.0).unwrap()` are `.lit 0/1/2`; the evaluator reads them through an arbitrary
  function `lit : Nat → α`, and the model function is taken at the instances `OfNat α n := ⟨lit n⟩`, so a changed literal is noticed
  (`lit 3` is not `lit 2` for an arbitrary `lit`).  `is_zero()` is comparison with `T::zero()`, i.e. with `lit 0`.

  Completeness (`C19_gen_*_complete`): the list of translated functions per file with their signatures, and the list of blocks the
  translator pins textually instead (the marker impls `Send` / `Sync`, `AttributeUpdate`, `AttributeBind`, `unit_dir`); the translator
  refuses any other top-level item, impl item, statement or expression form, so no impl escapes.

  NOT covered here: `unit_dir` (control flow around `norm` and `Div`, pinned by the translator; the model is `unitDirPre`), the root
  functions `hypot` / `sqrt` themselves (`C19_gen_*_norm` ties the radicand), `#[derive(Default, PartialEq)]` (recorded in
  `Gen.Geometry.structs`, `C19_gen_structs`).
-/
import Honeycomb.Gen.Geometry
import Honeycomb.Model.Geometry

namespace HC.GenTie
open HC.Geo HC.Gen.Geometry

/-! ## the evaluator -/
section Eval
variable {α β : Type} [Add α] [Sub α] [Mul α] [Div α] [Neg α]

/-- value of an expression: `lit` interprets the literals, `env k c` is component `c` of parameter `k` -/
def evalE (lit : Nat → α) (env : Nat → Nat → α) : E → α
  | .v k c => env k c
  | .lit n => lit n
  | .add a b => evalE lit env a + evalE lit env b
  | .sub a b => evalE lit env a - evalE lit env b
  | .mul a b => evalE lit env a * evalE lit env b
  | .div a b => evalE lit env a / evalE lit env b
  | .neg a => - evalE lit env a

/-- one statement of a `&mut self` body: the listed components of parameter 0 (self) receive their new values, all of them
    computed in the state BEFORE the statement -/
def assignG (lit : Nat → α) (env : Nat → Nat → α) (grp : List (Nat × E)) : Nat → Nat → α :=
  fun k c => match k with
    | 0 => match grp.find? (fun p => p.1 == c) with
      | some p => evalE lit env p.2
      | none => env 0 c
    | _ => env k c

/-- the statements in source order -/
def runStmts (lit : Nat → α) (env : Nat → Nat → α) : List (List (Nat × E)) → (Nat → Nat → α)
  | [] => env
  | g :: gs => runStmts lit (assignG lit env g) gs

/-- the components of the result: `ret` evaluated after the statements -/
def _root_.HC.Gen.Geometry.Op.vals (op : Op) (lit : Nat → α) (env : Nat → Nat → α) : List α :=
  op.ret.map (evalE lit (runStmts lit env op.stmts))

/-- result of an operator WITHOUT assertion whose `root` code is `r` (0 = the value is `ret` itself); `mk` builds the result
    type from the components.  An operator that has a guard, or another root code, has no value here. -/
def _root_.HC.Gen.Geometry.Op.atRoot (op : Op) (r : Nat) (mk : List α → Option β) (lit : Nat → α) (env : Nat → Nat → α) : Option β :=
  match op.guard, op.root == r with
  | [], true => mk (op.vals lit env)
  | _, _ => none

abbrev _root_.HC.Gen.Geometry.Op.plain (op : Op) (mk : List α → Option β) (lit : Nat → α) (env : Nat → Nat → α) : Option β :=
  op.atRoot 0 mk lit env

/-- the leading assertions `assert!(!e.is_zero())`: `none` (panic) as soon as one of the expressions is `T::zero()` -/
def guarded [DecidableEq α] (lit : Nat → α) (env : Nat → Nat → α) : List E → Option β → Option β
  | [], r => r
  | e :: es, r => if evalE lit env e = lit 0 then none else guarded lit env es r

/-- result of an operator with its assertions (`none` = panic) -/
def _root_.HC.Gen.Geometry.Op.checked [DecidableEq α] (op : Op) (mk : List α → Option β) (lit : Nat → α) (env : Nat → Nat → α) :
    Option β :=
  match op.root with
  | 0 => guarded lit env op.guard (mk (op.vals lit env))
  | _ => none

/-- radicand of `norm`: root code 1 = `(r).sqrt()`, 2 = `x.hypot(y)`, i.e. the root of `x·x + y·y` -/
def _root_.HC.Gen.Geometry.Op.radicand (op : Op) (lit : Nat → α) (env : Nat → Nat → α) : Option α :=
  match op.guard, op.stmts, op.root, op.vals lit env with
  | [], [], 1, [r] => some r
  | [], [], 2, [x, y] => some (x * x + y * y)
  | _, _, _, _ => none

/-! builders of the result types (the number of components must fit) and component functions of the parameters -/
def mk1 : List α → Option α | [x] => some x | _ => none
def mkT2 : List α → Option (α × α) | [x, y] => some (x, y) | _ => none
def mkT3 : List α → Option (α × α × α) | [x, y, z] => some (x, y, z) | _ => none
def mkV2 : List α → Option (V2 α) | [x, y] => some ⟨x, y⟩ | _ => none
def mkP2 : List α → Option (P2 α) | [x, y] => some ⟨x, y⟩ | _ => none
def mkV3 : List α → Option (V3 α) | [x, y, z] => some ⟨x, y, z⟩ | _ => none
def mkP3 : List α → Option (P3 α) | [x, y, z] => some ⟨x, y, z⟩ | _ => none

def cScalar (k : α) : Nat → α := fun _ => k
def cT2 (p : α × α) : Nat → α | 0 => p.1 | _ => p.2
def cT3 (p : α × α × α) : Nat → α | 0 => p.1 | 1 => p.2.1 | _ => p.2.2
def cV2 (a : V2 α) : Nat → α | 0 => a.x | _ => a.y
def cP2 (a : P2 α) : Nat → α | 0 => a.x | _ => a.y
def cV3 (a : V3 α) : Nat → α | 0 => a.x | 1 => a.y | _ => a.z
def cP3 (a : P3 α) : Nat → α | 0 => a.x | 1 => a.y | _ => a.z

/-- environments of a function without / with one / two / three parameters (the translator checks every index it emits against
    the declared parameters and the number of fields of their types) -/
def env0 (lit : Nat → α) : Nat → Nat → α := fun _ _ => lit 0
def env1 (f : Nat → α) : Nat → Nat → α := fun _ c => f c
def env2 (f g : Nat → α) : Nat → Nat → α := fun k c => match k with | 0 => f c | _ => g c
def env3 (f g h : Nat → α) : Nat → Nat → α := fun k c => match k with | 0 => f c | 1 => g c | _ => h c

end Eval

/-! ## the structs -/
theorem C19_gen_structs :
    structs = [("Vector2", 2, ["Debug", "Clone", "Copy", "Default", "PartialEq"]),
               ("Vertex2", 2, ["Debug", "Clone", "Copy", "Default", "PartialEq"]),
               ("Vector3", 3, ["Debug", "Clone", "Copy", "Default", "PartialEq"]),
               ("Vertex3", 3, ["Debug", "Clone", "Copy", "Default", "PartialEq"])] := rfl

variable {α : Type} [Add α] [Sub α] [Mul α] [Div α] [Neg α] (lit : Nat → α)

/-! ## Vector2 (dim2/vector.rs) -/
section V2gen

theorem C19_gen_v2_unit_x :
    letI : OfNat α 0 := ⟨lit 0⟩; letI : OfNat α 1 := ⟨lit 1⟩
    Vector2_unit_x.plain mkV2 lit (env0 lit) = some V2.unitX := rfl
theorem C19_gen_v2_unit_y :
    letI : OfNat α 0 := ⟨lit 0⟩; letI : OfNat α 1 := ⟨lit 1⟩
    Vector2_unit_y.plain mkV2 lit (env0 lit) = some V2.unitY := rfl
theorem C19_gen_v2_into_inner (a : V2 α) : Vector2_into_inner.plain mkT2 lit (env1 (cV2 a)) = some (V2.intoInner a) := rfl
theorem C19_gen_v2_x (a : V2 α) : Vector2_x.plain mk1 lit (env1 (cV2 a)) = some a.x := rfl
theorem C19_gen_v2_y (a : V2 α) : Vector2_y.plain mk1 lit (env1 (cV2 a)) = some a.y := rfl
/-- `norm` is the root (`hypot` in 2-D, `sqrt` in 3-D) of exactly the radicand of the model -/
theorem C19_gen_v2_norm (a : V2 α) : Vector2_norm.radicand lit (env1 (cV2 a)) = some (V2.normSq a) := rfl
/-- `normal_dir` = `unit_dir` of the translated receiver `Self(-self.1, self.0)`, errors mapped to `InvalidNormDir` -/
theorem C19_gen_v2_normal_dir [DecidableEq α] (a : V2 α) :
    letI : OfNat α 0 := ⟨lit 0⟩
    ∃ r, Vector2_normal_dir.atRoot 3 mkV2 lit (env1 (cV2 a)) = some r ∧
      V2.normalDirPre a = (match V2.unitDirPre r with | .ok q => .ok q | .error _ => .error .invalidNormDir) :=
  ⟨_, rfl, rfl⟩
theorem C19_gen_v2_dot (a b : V2 α) : Vector2_dot.plain mk1 lit (env2 (cV2 a) (cV2 b)) = some (V2.dot a b) := rfl
theorem C19_gen_v2_From_tuple (p : α × α) : Vector2_From_tuple.plain mkV2 lit (env1 (cT2 p)) = some (V2.ofTuple p) := rfl
theorem C19_gen_v2_Add_Vector2 (a : V2 α) (b : V2 α) : Vector2_Add_Vector2.plain mkV2 lit (env2 (cV2 a) (cV2 b)) = some (V2.add a b) := rfl
theorem C19_gen_v2_AddAssign_Vector2 (a : V2 α) (b : V2 α) : Vector2_AddAssign_Vector2.plain mkV2 lit (env2 (cV2 a) (cV2 b)) = some (V2.addAssign a b) := rfl
theorem C19_gen_v2_Sub_Vector2 (a : V2 α) (b : V2 α) : Vector2_Sub_Vector2.plain mkV2 lit (env2 (cV2 a) (cV2 b)) = some (V2.sub a b) := rfl
theorem C19_gen_v2_SubAssign_Vector2 (a : V2 α) (b : V2 α) : Vector2_SubAssign_Vector2.plain mkV2 lit (env2 (cV2 a) (cV2 b)) = some (V2.subAssign a b) := rfl
theorem C19_gen_v2_Mul_T (a : V2 α) (k : α) : Vector2_Mul_T.plain mkV2 lit (env2 (cV2 a) (cScalar k)) = some (V2.mul a k) := rfl
theorem C19_gen_v2_MulAssign_T (a : V2 α) (k : α) : Vector2_MulAssign_T.plain mkV2 lit (env2 (cV2 a) (cScalar k)) = some (V2.mulAssign a k) := rfl
/-- with the guard: the translated `assert!(!rhs.is_zero())` is the `none` of the model -/
theorem C19_gen_v2_Div_T [DecidableEq α] (a : V2 α) (k : α) :
    letI : OfNat α 0 := ⟨lit 0⟩
    Vector2_Div_T.checked mkV2 lit (env2 (cV2 a) (cScalar k)) = V2.div a k := rfl
/-- with the guard: the translated `assert!(!rhs.is_zero())` is the `none` of the model -/
theorem C19_gen_v2_DivAssign_T [DecidableEq α] (a : V2 α) (k : α) :
    letI : OfNat α 0 := ⟨lit 0⟩
    Vector2_DivAssign_T.checked mkV2 lit (env2 (cV2 a) (cScalar k)) = V2.divAssign a k := rfl
theorem C19_gen_v2_Neg (a : V2 α) : Vector2_Neg.plain mkV2 lit (env1 (cV2 a)) = some (V2.neg a) := rfl

/-- completeness: exactly these functions of dim2/vector.rs are translated (name, parameter types and passing, result type), in source
    order, and exactly these blocks are pinned instead; an impl that is added, removed or changes its signature shows here -/
theorem C19_gen_v2_complete :
    dim2_vector.map (fun p => (p.1, p.2.args, p.2.out)) =
    [("Vector2_unit_x", [], 1),
     ("Vector2_unit_y", [], 1),
     ("Vector2_into_inner", [(1, 0)], 5),
     ("Vector2_x", [(1, 1)], 0),
     ("Vector2_y", [(1, 1)], 0),
     ("Vector2_norm", [(1, 1)], 0),
     ("Vector2_normal_dir", [(1, 1)], 1),
     ("Vector2_dot", [(1, 1), (1, 1)], 0),
     ("Vector2_From_tuple", [(5, 0)], 1),
     ("Vector2_Add_Vector2", [(1, 0), (1, 0)], 1),
     ("Vector2_AddAssign_Vector2", [(1, 2), (1, 0)], 6),
     ("Vector2_Sub_Vector2", [(1, 0), (1, 0)], 1),
     ("Vector2_SubAssign_Vector2", [(1, 2), (1, 0)], 6),
     ("Vector2_Mul_T", [(1, 0), (0, 0)], 1),
     ("Vector2_MulAssign_T", [(1, 2), (0, 0)], 6),
     ("Vector2_Div_T", [(1, 0), (0, 0)], 1),
     ("Vector2_DivAssign_T", [(1, 2), (0, 0)], 6),
     ("Vector2_Neg", [(1, 0)], 1)] ∧
    dim2_vector_skipped =
    ["marker impl<T:CoordsFloat>Send for Vector2<T>",
     "marker impl<T:CoordsFloat>Sync for Vector2<T>",
     "Vector2::unit_dir"] := ⟨rfl, rfl⟩

end V2gen

/-! ## Vertex2 (dim2/vertex.rs) -/
section P2gen

theorem C19_gen_p2_into_inner (a : P2 α) : Vertex2_into_inner.plain mkT2 lit (env1 (cP2 a)) = some (P2.intoInner a) := rfl
theorem C19_gen_p2_x (a : P2 α) : Vertex2_x.plain mk1 lit (env1 (cP2 a)) = some a.x := rfl
theorem C19_gen_p2_y (a : P2 α) : Vertex2_y.plain mk1 lit (env1 (cP2 a)) = some a.y := rfl
theorem C19_gen_p2_average (a b : P2 α) :
    letI : OfNat α 2 := ⟨lit 2⟩
    Vertex2_average.plain mkP2 lit (env2 (cP2 a) (cP2 b)) = some (P2.average a b) := rfl
theorem C19_gen_p2_cross_product_from_vertices (v1 v2 v3 : P2 α) :
    Vertex2_cross_product_from_vertices.plain mk1 lit (env3 (cP2 v1) (cP2 v2) (cP2 v3)) = some (P2.orient v1 v2 v3) := rfl
theorem C19_gen_p2_From_tuple (p : α × α) : Vertex2_From_tuple.plain mkP2 lit (env1 (cT2 p)) = some (P2.ofTuple p) := rfl
theorem C19_gen_p2_Add_Vector2 (a : P2 α) (b : V2 α) : Vertex2_Add_Vector2.plain mkP2 lit (env2 (cP2 a) (cV2 b)) = some (P2.addV a b) := rfl
theorem C19_gen_p2_AddAssign_Vector2 (a : P2 α) (b : V2 α) : Vertex2_AddAssign_Vector2.plain mkP2 lit (env2 (cP2 a) (cV2 b)) = some (P2.addVAssign a b) := rfl
theorem C19_gen_p2_Add_refVector2 (a : P2 α) (b : V2 α) : Vertex2_Add_refVector2.plain mkP2 lit (env2 (cP2 a) (cV2 b)) = some (P2.addVRef a b) := rfl
theorem C19_gen_p2_AddAssign_refVector2 (a : P2 α) (b : V2 α) : Vertex2_AddAssign_refVector2.plain mkP2 lit (env2 (cP2 a) (cV2 b)) = some (P2.addVRefAssign a b) := rfl
theorem C19_gen_p2_Sub_Vector2 (a : P2 α) (b : V2 α) : Vertex2_Sub_Vector2.plain mkP2 lit (env2 (cP2 a) (cV2 b)) = some (P2.subV a b) := rfl
theorem C19_gen_p2_SubAssign_Vector2 (a : P2 α) (b : V2 α) : Vertex2_SubAssign_Vector2.plain mkP2 lit (env2 (cP2 a) (cV2 b)) = some (P2.subVAssign a b) := rfl
theorem C19_gen_p2_Sub_refVector2 (a : P2 α) (b : V2 α) : Vertex2_Sub_refVector2.plain mkP2 lit (env2 (cP2 a) (cV2 b)) = some (P2.subVRef a b) := rfl
theorem C19_gen_p2_SubAssign_refVector2 (a : P2 α) (b : V2 α) : Vertex2_SubAssign_refVector2.plain mkP2 lit (env2 (cP2 a) (cV2 b)) = some (P2.subVRefAssign a b) := rfl
theorem C19_gen_p2_Sub_Vertex2 (a : P2 α) (b : P2 α) : Vertex2_Sub_Vertex2.plain mkV2 lit (env2 (cP2 a) (cP2 b)) = some (P2.sub a b) := rfl

/-- completeness: exactly these functions of dim2/vertex.rs are translated (name, parameter types and passing, result type), in source
    order, and exactly these blocks are pinned instead; an impl that is added, removed or changes its signature shows here -/
theorem C19_gen_p2_complete :
    dim2_vertex.map (fun p => (p.1, p.2.args, p.2.out)) =
    [("Vertex2_into_inner", [(2, 0)], 5),
     ("Vertex2_x", [(2, 1)], 0),
     ("Vertex2_y", [(2, 1)], 0),
     ("Vertex2_average", [(2, 1), (2, 1)], 2),
     ("Vertex2_cross_product_from_vertices", [(2, 1), (2, 1), (2, 1)], 0),
     ("Vertex2_From_tuple", [(5, 0)], 2),
     ("Vertex2_Add_Vector2", [(2, 0), (1, 0)], 2),
     ("Vertex2_AddAssign_Vector2", [(2, 2), (1, 0)], 6),
     ("Vertex2_Add_refVector2", [(2, 0), (1, 1)], 2),
     ("Vertex2_AddAssign_refVector2", [(2, 2), (1, 1)], 6),
     ("Vertex2_Sub_Vector2", [(2, 0), (1, 0)], 2),
     ("Vertex2_SubAssign_Vector2", [(2, 2), (1, 0)], 6),
     ("Vertex2_Sub_refVector2", [(2, 0), (1, 1)], 2),
     ("Vertex2_SubAssign_refVector2", [(2, 2), (1, 1)], 6),
     ("Vertex2_Sub_Vertex2", [(2, 0), (2, 0)], 1)] ∧
    dim2_vertex_skipped =
    ["marker impl<T:CoordsFloat>Send for Vertex2<T>",
     "marker impl<T:CoordsFloat>Sync for Vertex2<T>",
     "impl<T:CoordsFloat>AttributeUpdate for Vertex2<T>",
     "impl<T:CoordsFloat>AttributeBind for Vertex2<T>"] := ⟨rfl, rfl⟩

end P2gen

/-! ## Vector3 (dim3/vector.rs) -/
section V3gen

theorem C19_gen_v3_unit_x :
    letI : OfNat α 0 := ⟨lit 0⟩; letI : OfNat α 1 := ⟨lit 1⟩
    Vector3_unit_x.plain mkV3 lit (env0 lit) = some V3.unitX := rfl
theorem C19_gen_v3_unit_y :
    letI : OfNat α 0 := ⟨lit 0⟩; letI : OfNat α 1 := ⟨lit 1⟩
    Vector3_unit_y.plain mkV3 lit (env0 lit) = some V3.unitY := rfl
theorem C19_gen_v3_unit_z :
    letI : OfNat α 0 := ⟨lit 0⟩; letI : OfNat α 1 := ⟨lit 1⟩
    Vector3_unit_z.plain mkV3 lit (env0 lit) = some V3.unitZ := rfl
theorem C19_gen_v3_into_inner (a : V3 α) : Vector3_into_inner.plain mkT3 lit (env1 (cV3 a)) = some (V3.intoInner a) := rfl
theorem C19_gen_v3_x (a : V3 α) : Vector3_x.plain mk1 lit (env1 (cV3 a)) = some a.x := rfl
theorem C19_gen_v3_y (a : V3 α) : Vector3_y.plain mk1 lit (env1 (cV3 a)) = some a.y := rfl
theorem C19_gen_v3_z (a : V3 α) : Vector3_z.plain mk1 lit (env1 (cV3 a)) = some a.z := rfl
/-- `norm` is the root (`hypot` in 2-D, `sqrt` in 3-D) of exactly the radicand of the model -/
theorem C19_gen_v3_norm (a : V3 α) : Vector3_norm.radicand lit (env1 (cV3 a)) = some (V3.normSq a) := rfl
theorem C19_gen_v3_dot (a b : V3 α) : Vector3_dot.plain mk1 lit (env2 (cV3 a) (cV3 b)) = some (V3.dot a b) := rfl
theorem C19_gen_v3_cross (a b : V3 α) : Vector3_cross.plain mkV3 lit (env2 (cV3 a) (cV3 b)) = some (V3.cross a b) := rfl
theorem C19_gen_v3_From_tuple (p : α × α × α) : Vector3_From_tuple.plain mkV3 lit (env1 (cT3 p)) = some (V3.ofTuple p) := rfl
theorem C19_gen_v3_From_Vector2 (v : V2 α) :
    letI : OfNat α 0 := ⟨lit 0⟩
    Vector3_From_Vector2.plain mkV3 lit (env1 (cV2 v)) = some (V3.ofV2 v) := rfl
theorem C19_gen_v3_Add_Vector3 (a : V3 α) (b : V3 α) : Vector3_Add_Vector3.plain mkV3 lit (env2 (cV3 a) (cV3 b)) = some (V3.add a b) := rfl
theorem C19_gen_v3_AddAssign_Vector3 (a : V3 α) (b : V3 α) : Vector3_AddAssign_Vector3.plain mkV3 lit (env2 (cV3 a) (cV3 b)) = some (V3.addAssign a b) := rfl
theorem C19_gen_v3_Sub_Vector3 (a : V3 α) (b : V3 α) : Vector3_Sub_Vector3.plain mkV3 lit (env2 (cV3 a) (cV3 b)) = some (V3.sub a b) := rfl
theorem C19_gen_v3_SubAssign_Vector3 (a : V3 α) (b : V3 α) : Vector3_SubAssign_Vector3.plain mkV3 lit (env2 (cV3 a) (cV3 b)) = some (V3.subAssign a b) := rfl
theorem C19_gen_v3_Mul_T (a : V3 α) (k : α) : Vector3_Mul_T.plain mkV3 lit (env2 (cV3 a) (cScalar k)) = some (V3.mul a k) := rfl
theorem C19_gen_v3_MulAssign_T (a : V3 α) (k : α) : Vector3_MulAssign_T.plain mkV3 lit (env2 (cV3 a) (cScalar k)) = some (V3.mulAssign a k) := rfl
/-- with the guard: the translated `assert!(!rhs.is_zero())` is the `none` of the model -/
theorem C19_gen_v3_Div_T [DecidableEq α] (a : V3 α) (k : α) :
    letI : OfNat α 0 := ⟨lit 0⟩
    Vector3_Div_T.checked mkV3 lit (env2 (cV3 a) (cScalar k)) = V3.div a k := rfl
/-- with the guard: the translated `assert!(!rhs.is_zero())` is the `none` of the model -/
theorem C19_gen_v3_DivAssign_T [DecidableEq α] (a : V3 α) (k : α) :
    letI : OfNat α 0 := ⟨lit 0⟩
    Vector3_DivAssign_T.checked mkV3 lit (env2 (cV3 a) (cScalar k)) = V3.divAssign a k := rfl
theorem C19_gen_v3_Neg (a : V3 α) : Vector3_Neg.plain mkV3 lit (env1 (cV3 a)) = some (V3.neg a) := rfl

/-- completeness: exactly these functions of dim3/vector.rs are translated (name, parameter types and passing, result type), in source
    order, and exactly these blocks are pinned instead; an impl that is added, removed or changes its signature shows here -/
theorem C19_gen_v3_complete :
    dim3_vector.map (fun p => (p.1, p.2.args, p.2.out)) =
    [("Vector3_unit_x", [], 3),
     ("Vector3_unit_y", [], 3),
     ("Vector3_unit_z", [], 3),
     ("Vector3_into_inner", [(3, 0)], 5),
     ("Vector3_x", [(3, 1)], 0),
     ("Vector3_y", [(3, 1)], 0),
     ("Vector3_z", [(3, 1)], 0),
     ("Vector3_norm", [(3, 1)], 0),
     ("Vector3_dot", [(3, 1), (3, 1)], 0),
     ("Vector3_cross", [(3, 1), (3, 1)], 3),
     ("Vector3_From_tuple", [(5, 0)], 3),
     ("Vector3_From_Vector2", [(1, 0)], 3),
     ("Vector3_Add_Vector3", [(3, 0), (3, 0)], 3),
     ("Vector3_AddAssign_Vector3", [(3, 2), (3, 0)], 6),
     ("Vector3_Sub_Vector3", [(3, 0), (3, 0)], 3),
     ("Vector3_SubAssign_Vector3", [(3, 2), (3, 0)], 6),
     ("Vector3_Mul_T", [(3, 0), (0, 0)], 3),
     ("Vector3_MulAssign_T", [(3, 2), (0, 0)], 6),
     ("Vector3_Div_T", [(3, 0), (0, 0)], 3),
     ("Vector3_DivAssign_T", [(3, 2), (0, 0)], 6),
     ("Vector3_Neg", [(3, 0)], 3)] ∧
    dim3_vector_skipped =
    ["marker impl<T:CoordsFloat>Send for Vector3<T>",
     "marker impl<T:CoordsFloat>Sync for Vector3<T>",
     "Vector3::unit_dir"] := ⟨rfl, rfl⟩

end V3gen

/-! ## Vertex3 (dim3/vertex.rs) -/
section P3gen

theorem C19_gen_p3_into_inner (a : P3 α) : Vertex3_into_inner.plain mkT3 lit (env1 (cP3 a)) = some (P3.intoInner a) := rfl
theorem C19_gen_p3_x (a : P3 α) : Vertex3_x.plain mk1 lit (env1 (cP3 a)) = some a.x := rfl
theorem C19_gen_p3_y (a : P3 α) : Vertex3_y.plain mk1 lit (env1 (cP3 a)) = some a.y := rfl
theorem C19_gen_p3_z (a : P3 α) : Vertex3_z.plain mk1 lit (env1 (cP3 a)) = some a.z := rfl
theorem C19_gen_p3_average (a b : P3 α) :
    letI : OfNat α 2 := ⟨lit 2⟩
    Vertex3_average.plain mkP3 lit (env2 (cP3 a) (cP3 b)) = some (P3.average a b) := rfl
theorem C19_gen_p3_From_tuple (p : α × α × α) : Vertex3_From_tuple.plain mkP3 lit (env1 (cT3 p)) = some (P3.ofTuple p) := rfl
theorem C19_gen_p3_From_Vertex2 (v : P2 α) :
    letI : OfNat α 0 := ⟨lit 0⟩
    Vertex3_From_Vertex2.plain mkP3 lit (env1 (cP2 v)) = some (P3.ofP2 v) := rfl
theorem C19_gen_p3_Add_Vector3 (a : P3 α) (b : V3 α) : Vertex3_Add_Vector3.plain mkP3 lit (env2 (cP3 a) (cV3 b)) = some (P3.addV a b) := rfl
theorem C19_gen_p3_AddAssign_Vector3 (a : P3 α) (b : V3 α) : Vertex3_AddAssign_Vector3.plain mkP3 lit (env2 (cP3 a) (cV3 b)) = some (P3.addVAssign a b) := rfl
theorem C19_gen_p3_Add_refVector3 (a : P3 α) (b : V3 α) : Vertex3_Add_refVector3.plain mkP3 lit (env2 (cP3 a) (cV3 b)) = some (P3.addVRef a b) := rfl
theorem C19_gen_p3_AddAssign_refVector3 (a : P3 α) (b : V3 α) : Vertex3_AddAssign_refVector3.plain mkP3 lit (env2 (cP3 a) (cV3 b)) = some (P3.addVRefAssign a b) := rfl
theorem C19_gen_p3_Sub_Vector3 (a : P3 α) (b : V3 α) : Vertex3_Sub_Vector3.plain mkP3 lit (env2 (cP3 a) (cV3 b)) = some (P3.subV a b) := rfl
theorem C19_gen_p3_SubAssign_Vector3 (a : P3 α) (b : V3 α) : Vertex3_SubAssign_Vector3.plain mkP3 lit (env2 (cP3 a) (cV3 b)) = some (P3.subVAssign a b) := rfl
theorem C19_gen_p3_Sub_refVector3 (a : P3 α) (b : V3 α) : Vertex3_Sub_refVector3.plain mkP3 lit (env2 (cP3 a) (cV3 b)) = some (P3.subVRef a b) := rfl
theorem C19_gen_p3_SubAssign_refVector3 (a : P3 α) (b : V3 α) : Vertex3_SubAssign_refVector3.plain mkP3 lit (env2 (cP3 a) (cV3 b)) = some (P3.subVRefAssign a b) := rfl
theorem C19_gen_p3_Sub_Vertex3 (a : P3 α) (b : P3 α) : Vertex3_Sub_Vertex3.plain mkV3 lit (env2 (cP3 a) (cP3 b)) = some (P3.sub a b) := rfl

/-- completeness: exactly these functions of dim3/vertex.rs are translated (name, parameter types and passing, result type), in source
    order, and exactly these blocks are pinned instead; an impl that is added, removed or changes its signature shows here -/
theorem C19_gen_p3_complete :
    dim3_vertex.map (fun p => (p.1, p.2.args, p.2.out)) =
    [("Vertex3_into_inner", [(4, 0)], 5),
     ("Vertex3_x", [(4, 1)], 0),
     ("Vertex3_y", [(4, 1)], 0),
     ("Vertex3_z", [(4, 1)], 0),
     ("Vertex3_average", [(4, 1), (4, 1)], 4),
     ("Vertex3_From_tuple", [(5, 0)], 4),
     ("Vertex3_From_Vertex2", [(2, 0)], 4),
     ("Vertex3_Add_Vector3", [(4, 0), (3, 0)], 4),
     ("Vertex3_AddAssign_Vector3", [(4, 2), (3, 0)], 6),
     ("Vertex3_Add_refVector3", [(4, 0), (3, 1)], 4),
     ("Vertex3_AddAssign_refVector3", [(4, 2), (3, 1)], 6),
     ("Vertex3_Sub_Vector3", [(4, 0), (3, 0)], 4),
     ("Vertex3_SubAssign_Vector3", [(4, 2), (3, 0)], 6),
     ("Vertex3_Sub_refVector3", [(4, 0), (3, 1)], 4),
     ("Vertex3_SubAssign_refVector3", [(4, 2), (3, 1)], 6),
     ("Vertex3_Sub_Vertex3", [(4, 0), (4, 0)], 3)] ∧
    dim3_vertex_skipped =
    ["marker impl<T:CoordsFloat>Send for Vertex3<T>",
     "marker impl<T:CoordsFloat>Sync for Vertex3<T>",
     "impl<T:CoordsFloat>AttributeUpdate for Vertex3<T>",
     "impl<T:CoordsFloat>AttributeBind for Vertex3<T>"] := ⟨rfl, rfl⟩

end P3gen
end HC.GenTie

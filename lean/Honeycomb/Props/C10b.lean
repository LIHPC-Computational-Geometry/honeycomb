/-
  C10b — building from cmap TEXT (characters) yields a well-formed map or an error.

  `loadChars` is the character-level mirror of `from_cmap_file(..).build()`: `str::lines`, and
  for every line `trim`, comment / header detection (`starts_with`, `contains`,
  `trim_matches(['[', ']'])`, `to_lowercase`), `split('#')`, then `split_whitespace` and
  `parse::<u32 / usize>` where the builder uses them.  `parseFileC_eq` proves that it is the
  token-level reader applied to the tokenised text, so the token-level theorem transfers:

  * `C10_chars_load_wf_or_error`: for EVERY character string whose section layout is accepted,
    the result is a `BuilderError`, or a well-formed 2-map that agrees with the text;
  * `C10_chars_never_panics`: for EVERY character string the loader does not panic.

  Outside the model: invalid UTF-8 (`read_to_string(..).expect(..)` panics before the text exists),
  the decimal grammar of `f64` beyond the finite forms of `parseCoord`, memory exhaustion on a huge
  dart count.
-/
import Honeycomb.Lemmas.CmapChars
import Honeycomb.Props.C10

namespace HC.C10
open HC HC.CmapText

theorem C10_chars_load_wf_or_error (ns : Nat) (hns : 0 < ns) (cs : List Char) (cf : CFile)
    (hp : parseFileC cs = .ok cf) :
    (∃ e, loadChars ns cs = .err e) ∨ (∃ m, loadChars ns cs = .ok m ∧ WF 3 m ∧ Agrees cf m) := by
  rw [loadChars_eq]
  rw [parseFileC_eq] at hp
  exact C10_load_wf_or_error ns hns (tokenise cs) cf hp

theorem C10_chars_never_panics (ns : Nat) (hns : 0 < ns) (cs : List Char) :
    loadChars ns cs ≠ .panic := by
  rw [loadChars_eq]
  exact C10_load_never_panics ns hns (tokenise cs)

/-! ## non-vacuity: concrete character strings -/

/-- CRLF line ends, tabs, a no-break space, `+` and leading zeros, comments, mixed-case headers,
    a repeated vertex id: accepted -/
def textGood : String :=
  "# example\r\n[Meta]\r\n0.8.1\t2\u00a05 # darts\r\n\r\n[BETAS]\r\n0 0 1 0 0 0\r\n0 +2 0 0 0 0\r\n 0 0 0 04 3 0#x\r\n[VERTICES]\r\n1 0.25 -2\r\n3 1e1 -5/8\r\n1 7 7\r\n[UNUSED]\r\n5\r\n"

/-- `String.toList_ofList` reads the characters off the literal; left to itself the kernel decodes them
    from its UTF-8 bytes -/
theorem textGood_load : ∃ m, loadChars 1 textGood.toList = .ok m ∧
    (m.n, m.β 1 1, m.β 0 2, m.β 2 3, m.β 2 4, m.unused 5) = (6, 2, 1, 4, 3, true) ∧
    (m.att 0 1, m.att 0 2) = (some (.pt 7 7 0), none) := by
  apply ok_of_checks
  unfold textGood
  rw [String.toList_ofList]
  decide +kernel

example : ((okMap (loadChars 1 textGood.toList)).map fun m =>
    (m.n, m.β 1 1, m.β 0 2, m.β 2 3, m.β 2 4, m.unused 5)) = some (6, 2, 1, 4, 3, true) := by
  obtain ⟨m, hm, h1, _⟩ := textGood_load
  rw [hm]
  exact congrArg some h1

example : ((okMap (loadChars 1 textGood.toList)).map fun m => (m.att 0 1, m.att 0 2)) =
    some (some (.pt 7 7 0), none) := by
  obtain ⟨m, hm, _, h2⟩ := textGood_load
  rw [hm]
  exact congrArg some h2

example : ∃ cf m, parseFileC textGood.toList = .ok cf ∧ loadChars 1 textGood.toList = .ok m ∧
    WF 3 m ∧ Agrees cf m := by
  obtain ⟨m, hm, _⟩ := textGood_load
  obtain ⟨cf, hp⟩ := parseFile_of_load_ok ((loadChars_eq 1 _).symm.trans hm)
  rw [← parseFileC_eq] at hp
  rcases C10_chars_load_wf_or_error 1 (by decide) textGood.toList cf hp with ⟨e, he⟩ | ⟨m', hm', hw, ha⟩
  · rw [he] at hm; cases hm
  · exact ⟨cf, m', hp, hm', hw, ha⟩

/-- malformed characters: every one is an error (never a panic, never a map) -/
example : errOf (loadChars 1 "[META]\n0.8.1 2 1\n[BETAS]\n0 0\n0 -1\n0 0\n".toList) = some (errBadValue 1) := by
  rw [String.toList_ofList]
  decide +kernel
example : errOf (loadChars 1 "[META]\n0.8.1 2 1\n[BETAS]\n0 0\n0 4294967296\n0 0\n".toList) = some (errBadValue 1) := by
  rw [String.toList_ofList]
  decide +kernel
example : errOf (loadChars 1 "[META]\n0.8.1 2 1\n[BETAS]\n0 0\n0 1_0\n0 0\n".toList) = some (errBadValue 1) := by
  rw [String.toList_ofList]
  decide +kernel
example : errOf (loadChars 1 "[META]\n0.8.1 2 1\n[BETAS]\n0 0\n0 7\n0 0\n".toList) = some (errInconsistent 5) := by
  rw [String.toList_ofList]
  decide +kernel
example : errOf (loadChars 1 "[META]\n0.8.1 2 1\n".toList) = some (errMissing 1) := by
  rw [String.toList_ofList]
  decide +kernel
example : errOf (loadChars 1 "[META] x\n0.8.1 2 1\n".toList) = some errUnknownHeader := by
  rw [String.toList_ofList]
  decide +kernel
example : errOf (loadChars 1 "".toList) = some (errMissing 0) := by decide +kernel

end HC.C10

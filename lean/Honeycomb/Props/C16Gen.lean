/-
  C16, translated part: the case analysis of `generate_intersection_data` and the four `*_intersec!` macros
  (honeycomb-kernels/src/grisubal/routines/compute_intersecs.rs), REGENERATED from the source by
  `tools/gen_lean.py gcross` (Gen/GCross.lean), given their meaning here and proved EQUAL to the hand-written
  model (`leftI … upI`, `vCross`, `hCross`, `diagPick`, `crossingsOf` of Model/Grisubal.lean).

  What is data (holes of the generator's template): every macro formula, every macro / cell size / dart offset
  per arm, the patterns of the neighbour case, the bounds of the ranges, the comparison operators of the
  corner / acceptance / retain tests, the divisors of the cell coordinates.  What is fixed by the template:
  the control skeleton (the `match dist`, the `is_positive()` selections, the reversal, sort and zip).
-/
import Honeycomb.Gen.GCross
import Honeycomb.Model.Grisubal
import Honeycomb.Props.C16Cross

namespace HC.GenTie
open HC HC.Gen

/-! ## meaning of the data -/

def gxEval (va vb vd : Pt) (c s : Rat) : GxE → Rat
  | .vax => va.1 | .vay => va.2 | .vbx => vb.1 | .vby => vb.2 | .vdx => vd.1 | .vdy => vd.2
  | .s => s | .c => c
  | .sub a b => gxEval va vb vd c s a - gxEval va vb vd c s b
  | .mul a b => gxEval va vb vd c s a * gxEval va vb vd c s b
  | .div a b => gxEval va vb vd c s a / gxEval va vb vd c s b

/-- `{{ let s = …; (s, …) }}` -/
def gxRun (m : GxMacro) (va vb vd : Pt) (c : Rat) : Rat × Rat :=
  let s := gxEval va vb vd c 0 m.s
  (s, gxEval va vb vd c s m.t)

def gxMac (k : Nat) : GxMacro := gxMacros.getD k ⟨"", .s, .s⟩

def gxCellSize (g : GGrid) : GxCell → Rat
  | .cx => g.cx
  | .cy => g.cy

/-- one macro call on the dart `d_base + off` of cell `(x, y)` -/
def gxSide (g : GGrid) (va vb : Pt) (sd : GxSide) (x y : Int) : Cross :=
  let st := gxRun (gxMac sd.mac) va vb (cornerOf g x y sd.off) (gxCellSize g sd.cell)
  { dart := (dBase g x y + (sd.off : Int)).toNat, t := st.2, s := st.1 }

def gxLinV (l : GxLin) (base off : Int) : Int := l.b * base + l.o * off + l.k
def gxLo (r : GxRange) (base off : Int) : Int := min (gxLinV r.lo1 base off) (gxLinV r.lo2 base off)
def gxHi (r : GxRange) (base off : Int) : Int := max (gxLinV r.hi1 base off) (gxLinV r.hi2 base off)

def gxCmpB (c : GxCmp) (a b : Rat) : Bool :=
  match c with
  | .lt => decide (a < b)
  | .le => decide (a ≤ b)

def gxCellOf (g : GGrid) (p : Pt) (k : Nat) : Nat × Nat :=
  (((p.1 - g.ox) / gxCellSize g (gxCellDiv.getD k .cy)).floor.toNat,
   ((p.2 - g.oy) / gxCellSize g (gxCellDiv.getD (k + 1) .cx)).floor.toNat)

/-- the `filter_map` closure of the diagonal arm with the translated operators -/
def gxDiagPick (d : GxDiag) (eps : Rat) (i j : Int) (v h : Cross) : Option Cross :=
  let ab : Rat → Rat := fun x => if x < 0 then -x else x
  let corner : Option Cross :=
    if decide (0 < i) = decide (0 < j) then
      if gxCmpB (d.corner.getD 0 .le) (ab (v.t - 1)) eps ∧ gxCmpB (d.corner.getD 1 .le) (ab h.t) eps then
        some { h with t := 0 }
      else none
    else
      if gxCmpB (d.corner.getD 2 .le) (ab v.t) eps ∧ gxCmpB (d.corner.getD 3 .le) (ab (h.t - 1)) eps then
        some { v with t := 0 }
      else none
  match corner with
  | some c => some c
  | none =>
    if gxCmpB (d.vacc.getD 0 .lt) eps v.s ∧ gxCmpB (d.vacc.getD 1 .lt) v.s (1 - eps)
        ∧ gxCmpB (d.vacc.getD 2 .lt) eps v.t ∧ gxCmpB (d.vacc.getD 3 .lt) v.t (1 - eps) then some v
    else if gxCmpB (d.hacc.getD 0 .le) eps h.s ∧ gxCmpB (d.hacc.getD 1 .lt) h.s (1 - eps)
        ∧ gxCmpB (d.hacc.getD 2 .lt) eps h.t ∧ gxCmpB (d.hacc.getD 3 .lt) h.t (1 - eps) then some h
    else none

/-- a straight arm: the range, the side chosen by `is_positive()`, the reversal -/
def gxStraightList (g : GGrid) (va vb : Pt) (a : GxStraight) (alongX : Bool) (d ib jb : Int) : List Cross :=
  let sd := if 0 < d then a.pos else a.neg
  let base := if alongX then ib else jb
  let l := (irange (gxLo a.range base d) (gxHi a.range base d)).map
    (fun z => if alongX then gxSide g va vb sd z jb else gxSide g va vb sd ib z)
  if 0 < d then l else l.reverse

/-- the translated step for one segment -/
def gxCrossings (g : GGrid) (eps : Rat) (va vb : Pt) : List Cross :=
  let c1 := gxCellOf g va 0
  let c2 := gxCellOf g vb 2
  let i : Int := (c2.1 : Int) - (c1.1 : Int)
  let j : Int := (c2.2 : Int) - (c1.2 : Int)
  let dist := i.natAbs + j.natAbs
  let ib : Int := c1.1
  let jb : Int := c1.2
  match dist with
  | 0 => []
  | 1 =>
      match gxUnit.find? (fun a => decide (a.di = i ∧ a.dj = j)) with
      | some a => [gxSide g va vb a.side ib jb]
      | none => []
  | _ =>
      if j = 0 then gxStraightList g va vb gxRow true i ib jb
      else if i = 0 then gxStraightList g va vb gxCol false j ib jb
      else
        let xs := irange (gxLo gxDiag.xr ib i) (gxHi gxDiag.xr ib i + 1)
        let ys := irange (gxLo gxDiag.yr jb j) (gxHi gxDiag.yr jb j + 1)
        let cand := xs.flatMap (fun x => ys.filterMap (fun y =>
          gxDiagPick gxDiag eps i j
            (gxSide g va vb (if 0 < i then gxDiag.vpos else gxDiag.vneg) x y)
            (gxSide g va vb (if 0 < j then gxDiag.hpos else gxDiag.hneg) x y)))
        (sortByS (cand.filter (fun c =>
          gxCmpB (gxDiag.retain.getD 0 .lt) 0 c.s && gxCmpB (gxDiag.retain.getD 1 .lt) c.s 1))).take dist

/-! ## the macros -/

theorem C16_gen_cross_macro_names : gxMacros.map (·.name) = ["left_intersec", "right_intersec", "down_intersec", "up_intersec"] := by
  decide

theorem C16_gen_cross_left (va vb vd : Pt) (c : Rat) : gxRun (gxMac 0) va vb vd c = leftI va vb vd c := rfl
theorem C16_gen_cross_right (va vb vd : Pt) (c : Rat) : gxRun (gxMac 1) va vb vd c = rightI va vb vd c := rfl
theorem C16_gen_cross_down (va vb vd : Pt) (c : Rat) : gxRun (gxMac 2) va vb vd c = downI va vb vd c := rfl
theorem C16_gen_cross_up (va vb vd : Pt) (c : Rat) : gxRun (gxMac 3) va vb vd c = upI va vb vd c := rfl

/-! ## the arms -/

/-- completeness: the neighbour case has exactly the four unit patterns, the far case the three arms of the template -/
theorem C16_gen_cross_arms_complete :
    gxUnit.map (fun a => (a.di, a.dj)) = [(-1, 0), (1, 0), (0, -1), (0, 1)] ∧ gxUnit.length = 4 := by
  decide

theorem C16_gen_cross_cell (g : GGrid) (p : Pt) : gxCellOf g p 0 = gridCellOf g p ∧ gxCellOf g p 2 = gridCellOf g p :=
  ⟨rfl, rfl⟩

theorem C16_gen_cross_row_pos (g : GGrid) (va vb : Pt) (x y : Int) : gxSide g va vb gxRow.pos x y = vCross g va vb true x y := rfl
theorem C16_gen_cross_row_neg (g : GGrid) (va vb : Pt) (x y : Int) : gxSide g va vb gxRow.neg x y = vCross g va vb false x y := rfl
theorem C16_gen_cross_col_pos (g : GGrid) (va vb : Pt) (x y : Int) : gxSide g va vb gxCol.pos x y = hCross g va vb true x y := rfl
theorem C16_gen_cross_col_neg (g : GGrid) (va vb : Pt) (x y : Int) : gxSide g va vb gxCol.neg x y = hCross g va vb false x y := rfl
theorem C16_gen_cross_diag_vpos (g : GGrid) (va vb : Pt) (x y : Int) : gxSide g va vb gxDiag.vpos x y = vCross g va vb true x y := rfl
theorem C16_gen_cross_diag_vneg (g : GGrid) (va vb : Pt) (x y : Int) : gxSide g va vb gxDiag.vneg x y = vCross g va vb false x y := rfl
theorem C16_gen_cross_diag_hpos (g : GGrid) (va vb : Pt) (x y : Int) : gxSide g va vb gxDiag.hpos x y = hCross g va vb true x y := rfl
theorem C16_gen_cross_diag_hneg (g : GGrid) (va vb : Pt) (x y : Int) : gxSide g va vb gxDiag.hneg x y = hCross g va vb false x y := rfl

/-- the four arms of the neighbour case, one by one -/
theorem C16_gen_cross_unit (g : GGrid) (va vb : Pt) (x y : Int) :
    gxUnit.map (fun a => gxSide g va vb a.side x y) =
      [vCross g va vb false x y, vCross g va vb true x y, hCross g va vb false x y, hCross g va vb true x y] := rfl

theorem gxSidePick (g : GGrid) (va vb : Pt) (F : Bool → Int → Int → Cross) (p n : GxSide) (d : Int)
    (hp : ∀ x y, gxSide g va vb p x y = F true x y)
    (hn : ∀ x y, gxSide g va vb n x y = F false x y) (x y : Int) :
    gxSide g va vb (if 0 < d then p else n) x y = F (decide (0 < d)) x y := by
  by_cases h : 0 < d <;> simp [h, hp, hn]

/-- the arm `(i, 0)`: range, macros, cell size, dart offsets, reversal -/
theorem C16_gen_cross_row (g : GGrid) (va vb : Pt) (i ib jb : Int) :
    gxStraightList g va vb gxRow true i ib jb = HC.C16.rowList g va vb i ib jb := by
  unfold gxStraightList HC.C16.rowList HC.C16.straightList
  have hs := gxSidePick g va vb (vCross g va vb) gxRow.pos gxRow.neg i (C16_gen_cross_row_pos g va vb) (C16_gen_cross_row_neg g va vb)
  have hlo : gxLo gxRow.range ib i = min ib (ib + 1 + i) := by
    simp only [gxLo, gxLinV, gxRow]; congr 1 <;> omega
  have hhi : gxHi gxRow.range ib i = max (ib + i) (ib + 1) := by
    simp only [gxHi, gxLinV, gxRow]; congr 1 <;> omega
  simp only [if_true, hs, hlo, hhi]

/-- the arm `(0, j)` -/
theorem C16_gen_cross_col (g : GGrid) (va vb : Pt) (j ib jb : Int) :
    gxStraightList g va vb gxCol false j ib jb = HC.C16.colList g va vb j ib jb := by
  unfold gxStraightList HC.C16.colList HC.C16.straightList
  have hs := gxSidePick g va vb (hCross g va vb) gxCol.pos gxCol.neg j (C16_gen_cross_col_pos g va vb) (C16_gen_cross_col_neg g va vb)
  have hlo : gxLo gxCol.range jb j = min jb (jb + 1 + j) := by
    simp only [gxLo, gxLinV, gxCol]; congr 1 <;> omega
  have hhi : gxHi gxCol.range jb j = max (jb + j) (jb + 1) := by
    simp only [gxHi, gxLinV, gxCol]; congr 1 <;> omega
  simp only [Bool.false_eq_true, if_false, hs, hlo, hhi]

/-- the acceptance tests of the diagonal arm, with their strictness -/
theorem C16_gen_cross_diag_pick (eps : Rat) (i j : Int) (v h : Cross) :
    gxDiagPick gxDiag eps i j v h = diagPick eps i j v h := by
  unfold gxDiagPick diagPick
  simp only [gxDiag, gxCmpB, List.getD_cons_zero, List.getD_cons_succ, decide_eq_true_eq]
  generalize (if decide (0 < i) = decide (0 < j) then _ else _ : Option Cross) = cr
  cases cr <;> rfl

/-- the arm `(i, j)`: the two ranges, the sides chosen by `is_positive()`, the tests of the closure and
    of `retain` -/
theorem C16_gen_cross_diag (g : GGrid) (eps : Rat) (va vb : Pt) (i j ib jb : Int) :
    sortByS (((irange (gxLo gxDiag.xr ib i) (gxHi gxDiag.xr ib i + 1)).flatMap (fun x =>
      (irange (gxLo gxDiag.yr jb j) (gxHi gxDiag.yr jb j + 1)).filterMap (fun y =>
        gxDiagPick gxDiag eps i j
          (gxSide g va vb (if 0 < i then gxDiag.vpos else gxDiag.vneg) x y)
          (gxSide g va vb (if 0 < j then gxDiag.hpos else gxDiag.hneg) x y)))).filter (fun c =>
        gxCmpB (gxDiag.retain.getD 0 .lt) 0 c.s && gxCmpB (gxDiag.retain.getD 1 .lt) c.s 1)) =
      HC.C16.diagList g eps va vb i j ib jb := by
  have hv := gxSidePick g va vb (vCross g va vb) gxDiag.vpos gxDiag.vneg i (C16_gen_cross_diag_vpos g va vb) (C16_gen_cross_diag_vneg g va vb)
  have hh := gxSidePick g va vb (hCross g va vb) gxDiag.hpos gxDiag.hneg j (C16_gen_cross_diag_hpos g va vb) (C16_gen_cross_diag_hneg g va vb)
  have hxl : gxLo gxDiag.xr ib i = min ib (ib + i) := by
    simp only [gxLo, gxLinV, gxDiag]; congr 1 <;> omega
  have hxh : gxHi gxDiag.xr ib i = max (ib + i) ib := by
    simp only [gxHi, gxLinV, gxDiag]; congr 1 <;> omega
  have hyl : gxLo gxDiag.yr jb j = min jb (jb + j) := by
    simp only [gxLo, gxLinV, gxDiag]; congr 1 <;> omega
  have hyh : gxHi gxDiag.yr jb j = max (jb + j) jb := by
    simp only [gxHi, gxLinV, gxDiag]; congr 1 <;> omega
  have hr : ∀ c : Cross, (gxCmpB (gxDiag.retain.getD 0 .lt) 0 c.s && gxCmpB (gxDiag.retain.getD 1 .lt) c.s 1)
      = decide (0 ≤ c.s ∧ c.s ≤ 1) := by
    intro c; simp [gxDiag, gxCmpB]
  unfold HC.C16.diagList HC.C16.diagCand
  simp only [C16_gen_cross_diag_pick, hv, hh, hxl, hxh, hyl, hyh, hr]

theorem unit_offsets {i j : Int} (h : i.natAbs + j.natAbs = 1) :
    (i = -1 ∧ j = 0) ∨ (i = 1 ∧ j = 0) ∨ (i = 0 ∧ j = -1) ∨ (i = 0 ∧ j = 1) := by
  rcases Nat.eq_zero_or_pos i.natAbs with hi | hi
  · have hj : j = 1 ∨ j = -1 := by omega
    rcases hj with hj | hj
    · exact Or.inr (Or.inr (Or.inr ⟨Int.natAbs_eq_zero.1 hi, hj⟩))
    · exact Or.inr (Or.inr (Or.inl ⟨Int.natAbs_eq_zero.1 hi, hj⟩))
  · have hj : j.natAbs = 0 := by omega
    have hi : i = 1 ∨ i = -1 := by omega
    rcases hi with hi | hi
    · exact Or.inr (Or.inl ⟨hi, Int.natAbs_eq_zero.1 hj⟩)
    · exact Or.inl ⟨hi, Int.natAbs_eq_zero.1 hj⟩

/-- the whole step for one segment: the translated case analysis IS the model's `crossingsOf` -/
theorem C16_gen_cross_step (g : GGrid) (eps : Rat) (va vb : Pt) : gxCrossings g eps va vb = crossingsOf g eps va vb := by
  unfold gxCrossings crossingsOf
  simp only [(C16_gen_cross_cell g _).1, (C16_gen_cross_cell g _).2]
  generalize ((gridCellOf g vb).1 : Int) - ((gridCellOf g va).1 : Int) = i
  generalize ((gridCellOf g vb).2 : Int) - ((gridCellOf g va).2 : Int) = j
  generalize ((gridCellOf g va).1 : Int) = ib
  generalize ((gridCellOf g va).2 : Int) = jb
  generalize hd : i.natAbs + j.natAbs = dist
  match dist, hd with
  | 0, _ => rfl
  | 1, hd =>
    rcases unit_offsets hd with ⟨rfl, rfl⟩ | ⟨rfl, rfl⟩ | ⟨rfl, rfl⟩ | ⟨rfl, rfl⟩
    -- unfolding the search over the four patterns first keeps the check of `rfl` small
    all_goals
      simp only [gxUnit, List.find?]
      rfl
  | n + 2, hd =>
    simp only [C16_gen_cross_row, C16_gen_cross_col, C16_gen_cross_diag]
    rfl

/-- `C16_crossings_sorted` of Props/C16Cross.lean, restated on the translated step -/
theorem C16_gen_cross_sorted {g : GGrid} {eps : Rat} {a b : Pt} (H : HC.C16.GenPos g eps a b) :
    (gxCrossings g eps a b).Pairwise (fun c d => c.s < d.s) := by
  rw [C16_gen_cross_step]; exact HC.C16.C16_crossings_sorted H

end HC.GenTie

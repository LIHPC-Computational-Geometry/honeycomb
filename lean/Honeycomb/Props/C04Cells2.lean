/-
  C04, cell level (2-unsew): the identifiers computed by `two_unsew` ARE the cells.

  On a well-formed 2-map, a successful `two_unsew l` (with `r = β2 l`):
    * has the topology of the 2-unlink (`unlink2 m l`), which is again well-formed;
    * the OLD vertex partition is the NEW one in which the cells of `l` and `β1 r` are united (when
      `r` has a successor) and the cells of `r` and `β1 l` are united (when `l` has a successor) —
      the cell calculus A4 read backwards: re-linking what was unlinked gives back the map;
    * every identifier the code computes is the minimum of the corresponding cell: the old edge id
      is `min l r`, the old vertex ids are the minima of the old cells, the new vertex ids are the
      minima of the new cells (C03 on the unlinked map);
    * the data (C04): the edge storages split `min l r` into `(l, r)`; the vertex storages split the
      old vertex of `l` into the new vertices of `l` and `β1 r`, then the old vertex of `r` into
      the new vertices of `β1 l` and `r`.
-/
import Honeycomb.Props.C04Cells

namespace HC.C04
open HC HC.C03 HC.CellCalc
variable {X : Type}

/-- the map after `two_unlink_core l` -/
def unlink2 (m : Map X) (l : Nat) : Map X := (m.setβ 2 l 0).setβ 2 (m.β 2 l) 0

theorem unlink2_β {m : Map X} (h : WF 3 m) {l : Nat} (hl : l < m.n) (j e : Nat) :
    (unlink2 m l).β j e =
      if 2 = j ∧ m.β 2 l = e then 0 else if 2 = j ∧ l = e then 0 else m.β j e :=
  h.toSized.β_unlinkI (by omega) hl (h.range 2 (by omega) l hl) j e

/-- re-linking what was unlinked gives back the same β functions -/
theorem link2_unlink2_β {m : Map X} (h : WF 3 m) {l : Nat} (hl : l < m.n) (hne : m.β 2 l ≠ 0) (j e : Nat) :
    (link2 (unlink2 m l) l (m.β 2 l)).β j e = m.β j e :=
  h.toSized.β_relinkI (by omega) hl (h.range 2 (by omega) l hl) (h.invol 2 (by omega) (by omega) l hl hne).1 j e

/-- the identifier computed on a map with the topology of `mu` is the cell identifier of `mu` -/
theorem vid_on_sameTopo {mu me : Map X} (hwf : WF 3 mu) (st : SameTopo mu me) {n d a : Nat} (hn : n = mu.n)
    (hd0 : d ≠ 0) (hd : d < mu.n) (h : run (vertexId2 (X := X) n d) me = (.ok a, me)) :
    a = cellId mu .vertex d := by
  rw [← cellId_sameTopo st]
  exact vid_eq (hwf.sameTopo st) (by rw [st.n, hn]) hd0 (by rw [hn]; exact hd) h

/-- **C04, 2-unsew at cell level**.  `r = β2 l`; `mu = unlink2 m l` is the map after the call as far
    as topology is concerned. -/
theorem C04_twoUnsew2_cells (cfg : Cfg X) (m m' : Map X) (l : Nat) (u : Unit)
    (hwf : WF 3 m) (hl : C01.InUse m l) (hfc : m.fc = 0)
    (h : run (twoUnsew2 cfg m.n l) m = (.ok u, m')) :
    m.β 2 l ≠ 0 ∧ WF 3 (unlink2 m l) ∧ SameTopo (unlink2 m l) m' ∧
    -- the OLD vertex partition, from the new one: unite cell(l) ∪ cell(β1 r), then cell(r) ∪ cell(β1 l)
    (∃ R : Nat → Nat → Prop,
      (∀ d e, R d e ↔ if m.β 1 (m.β 2 l) = 0 then SameCell (g2 (unlink2 m l) .vertex) m.n d e
                       else United (g2 (unlink2 m l) .vertex) m.n l (m.β 1 (m.β 2 l)) d e) ∧
      (∀ d e, SameCell (g2 m .vertex) m.n d e ↔
        if m.β 1 l = 0 then R d e else UnitedR R (m.β 2 l) (m.β 1 l) d e)) ∧
    -- the data, with every identifier expressed as the minimum of a cell
    (∃ me, SplitIn cfg (eStores cfg) l (m.β 2 l) (min (m.β 2 l) l) (unlink2 m l) me ∧
      ((m.β 1 l = 0 ∧ m.β 1 (m.β 2 l) = 0 ∧ m' = me) ∨
       (m.β 1 l = 0 ∧ m.β 1 (m.β 2 l) ≠ 0 ∧
          SplitIn cfg (vStores cfg) (cellId (unlink2 m l) .vertex l)
            (cellId (unlink2 m l) .vertex (m.β 1 (m.β 2 l))) (cellId m .vertex l) me m') ∨
       (m.β 1 l ≠ 0 ∧ m.β 1 (m.β 2 l) = 0 ∧
          SplitIn cfg (vStores cfg) (cellId (unlink2 m l) .vertex (m.β 1 l))
            (cellId (unlink2 m l) .vertex (m.β 2 l)) (cellId m .vertex (m.β 2 l)) me m') ∨
       (m.β 1 l ≠ 0 ∧ m.β 1 (m.β 2 l) ≠ 0 ∧ ∃ mv,
          SplitIn cfg (vStores cfg) (cellId (unlink2 m l) .vertex l)
            (cellId (unlink2 m l) .vertex (m.β 1 (m.β 2 l))) (cellId m .vertex l) me mv ∧
          SplitIn cfg (vStores cfg) (cellId (unlink2 m l) .vertex (m.β 1 l))
            (cellId (unlink2 m l) .vertex (m.β 2 l)) (cellId m .vertex (m.β 2 l)) mv m'))) := by
  obtain ⟨hl0, hln, _⟩ := hl
  obtain ⟨eold, m1, me, he, hunl, hE, htopo, hcase⟩ := C04_twoUnsew2_effect cfg m.n l m m' u hfc h
  obtain ⟨_, _, hne, hm1⟩ := iUnlinkCore_ok hunl
  have hm1' : m1 = unlink2 m l := hm1
  subst hm1'
  have hrn : m.β 2 l < m.n := hwf.range 2 (by omega) l hln
  have hwf1 : WF 3 (unlink2 m l) := hwf.unlinkI (by omega) (by omega) hln hne
  have hinv := hwf.invol 2 (by omega) (by omega) l hln hne
  have hlr : l ≠ m.β 2 l := fun hh => hinv.2 hh.symm
  have e0 : eold = min (m.β 2 l) l := by
    have := (C03_edgeId2_min hwf hl0 hln)
    have e := run_ok_inj he this.1
    rw [e, this.2.2.2, if_neg hne]
  subst e0
  have hb := unlink2_β hwf hln
  have hn1 : (unlink2 m l).n = m.n := by simp only [unlink2, Map.n_setβ]
  have h2l' : (unlink2 m l).β 2 l = 0 := by rw [hb]; simp
  have h2r' : (unlink2 m l).β 2 (m.β 2 l) = 0 := by rw [hb]; simp
  have h1 : ∀ e, (unlink2 m l).β 1 e = m.β 1 e := by intro e; rw [hb]; simp
  obtain ⟨R, hR, hcells⟩ := vertex_cells_link2 hwf1 (m := unlink2 m l) hl0 hne hlr hln hrn h2l' h2r'
  have hpart : ∃ R : Nat → Nat → Prop,
      (∀ d e, R d e ↔ if m.β 1 (m.β 2 l) = 0 then SameCell (g2 (unlink2 m l) .vertex) m.n d e
                       else United (g2 (unlink2 m l) .vertex) m.n l (m.β 1 (m.β 2 l)) d e) ∧
      (∀ d e, SameCell (g2 m .vertex) m.n d e ↔
        if m.β 1 l = 0 then R d e else UnitedR R (m.β 2 l) (m.β 1 l) d e) := by
    refine ⟨R, ?_, ?_⟩
    · intro d e
      have := hR d e
      rw [h1] at this
      exact this
    · intro d e
      rw [← sameCell_of_beta_eq (link2_unlink2_β hwf hln hne) m.n d e]
      have := hcells d e
      rw [h1] at this
      exact this
  refine ⟨hne, hwf1, htopo, hpart, me, hE, ?_⟩
  have ste : SameTopo (unlink2 m l) me := hE.topo
  have vid : ∀ {d a}, d ≠ 0 → d < m.n → run (vertexId2 (X := X) m.n d) me = (.ok a, me) →
      a = cellId (unlink2 m l) .vertex d :=
    fun hd0 hd h => vid_on_sameTopo hwf1 ste hn1.symm hd0 (by rw [hn1]; exact hd) h
  have hb1r : m.β 1 (m.β 2 l) < m.n := hwf.range 1 (by omega) _ hrn
  have hb1l : m.β 1 l < m.n := hwf.range 1 (by omega) _ hln
  rcases hcase with ⟨c1, c2, rfl⟩ | ⟨c1, c2, lvold, a, b, hlv, ha, hb2, hV⟩ |
      ⟨c1, c2, rvold, a, b, hrv, ha, hb2, hV⟩ |
      ⟨c1, c2, lvold, rvold, a, b, c, d, mv, hlv, hrv, ha, hb2, hc, hd, hV1, hV2⟩
  · exact Or.inl ⟨c1, c2, rfl⟩
  · have e1 := vid_eq hwf rfl hl0 hln hlv
    have e2 := vid hl0 hln ha
    have e3 := vid c2 hb1r hb2
    subst e1 e2 e3
    exact Or.inr (Or.inl ⟨c1, c2, hV⟩)
  · have e1 := vid_eq hwf rfl hne hrn hrv
    have e2 := vid c1 hb1l ha
    have e3 := vid hne hrn hb2
    subst e1 e2 e3
    exact Or.inr (Or.inr (Or.inl ⟨c1, c2, hV⟩))
  · have e1 := vid_eq hwf rfl hl0 hln hlv
    have e1' := vid_eq hwf rfl hne hrn hrv
    have e2 := vid hl0 hln ha
    have e3 := vid c2 hb1r hb2
    have e4 := vid c1 hb1l hc
    have e5 := vid hne hrn hd
    subst e1 e1' e2 e3 e4 e5
    exact Or.inr (Or.inr (Or.inr ⟨c1, c2, mv, hV1, hV2⟩))

/-! ## the three degenerate arms of 2-sew (a dart without successor) at cell level -/

/-- **C04, 2-sew at cell level, neither dart has a successor**: no vertex cell changes, only the
    edge storages merge `(l, r)` into `min l r` -/
theorem C04_twoSew2_cells_free (cfg : Cfg X) (m m' : Map X) (l r : Nat) (u : Unit)
    (hwf : WF 3 m) (hl : C01.InUse m l) (hr : C01.InUse m r) (hlr : l ≠ r) (hfc : m.fc = 0)
    (hbl : m.β 1 l = 0) (hbr : m.β 1 r = 0)
    (h : run (twoSew2 cfg m.n l r) m = (.ok u, m')) :
    WF 3 (link2 m l r) ∧ SameTopo (link2 m l r) m' ∧
    (∀ d e, SameCell (g2 (link2 m l r) .vertex) m.n d e ↔ SameCell (g2 m .vertex) m.n d e) ∧
    MergedIn cfg (eStores cfg) (min l r) l r (link2 m l r) m' := by
  obtain ⟨hl0, hln, hlu⟩ := hl
  obtain ⟨hr0, hrn, hru⟩ := hr
  obtain ⟨m1, eid, hlink, heid, hE⟩ := C04_twoSew2_free cfg m.n l r m m' u hfc hbl hbr h
  obtain ⟨_, _, h2l, h2r, rfl⟩ := iLinkCore_ok hlink
  have hwf1 : WF 3 (link2 m l r) := hwf.linkI (by omega) (by omega) hl0 hr0 hlr hln hrn hlu hru h2l h2r
  have e7 := eid_after_link2 hwf hr0 hlr hln hrn hwf1 heid
  subst e7
  obtain ⟨R, hR, hcells⟩ := vertex_cells_link2 hwf hl0 hr0 hlr hln hrn h2l h2r
  refine ⟨hwf1, hE.topo, ?_, hE⟩
  intro d e
  rw [hcells, if_pos hbl, hR, if_pos hbr]

/-- **C04, 2-sew at cell level, only `r` has a successor**: the cells of `l` and `β1 r` are united,
    nothing else changes; the new id is the minimum of the two old ids -/
theorem C04_twoSew2_cells_left (cfg : Cfg X) (m m' : Map X) (l r : Nat) (u : Unit)
    (hwf : WF 3 m) (hl : C01.InUse m l) (hr : C01.InUse m r) (hlr : l ≠ r) (hfc : m.fc = 0)
    (hbl : m.β 1 l = 0) (hbr : m.β 1 r ≠ 0)
    (h : run (twoSew2 cfg m.n l r) m = (.ok u, m')) :
    WF 3 (link2 m l r) ∧ SameTopo (link2 m l r) m' ∧
    (∀ d e, SameCell (g2 (link2 m l r) .vertex) m.n d e ↔ United (g2 m .vertex) m.n l (m.β 1 r) d e) ∧
    cellId (link2 m l r) .vertex l = min (cellId m .vertex l) (cellId m .vertex (m.β 1 r)) ∧
    (∃ ma, MergedIn cfg (vStores cfg) (cellId (link2 m l r) .vertex l) (cellId m .vertex l)
        (cellId m .vertex (m.β 1 r)) (link2 m l r) ma ∧
      MergedIn cfg (eStores cfg) (min l r) l r ma m') := by
  obtain ⟨hl0, hln, hlu⟩ := hl
  obtain ⟨hr0, hrn, hru⟩ := hr
  have han : m.β 1 r < m.n := hwf.range 1 (by omega) r hrn
  obtain ⟨lv, b1rv, m1, lvn, eid, ma, hlv, hb1rv, hlink, hlvn, heid, hV, hE⟩ :=
    C04_twoSew2_left cfg m.n l r m m' u hfc hbl hbr h
  obtain ⟨_, _, h2l, h2r, rfl⟩ := iLinkCore_ok hlink
  have hwf1 : WF 3 (link2 m l r) := hwf.linkI (by omega) (by omega) hl0 hr0 hlr hln hrn hlu hru h2l h2r
  have e1 := vid_eq hwf rfl hl0 hln hlv
  have e2 := vid_eq hwf rfl hbr han hb1rv
  have e5 := vid_eq hwf1 (link2_n m l r) hl0 hln hlvn
  have e7 := eid_after_link2 hwf hr0 hlr hln hrn hwf1 heid
  subst e1 e2 e5 e7
  obtain ⟨R, hR, hcells⟩ := vertex_cells_link2 hwf hl0 hr0 hlr hln hrn h2l h2r
  have hcells' : ∀ d e, SameCell (g2 (link2 m l r) .vertex) m.n d e ↔
      United (g2 m .vertex) m.n l (m.β 1 r) d e := by
    intro d e; rw [hcells, if_pos hbl, hR, if_neg hbr]
  exact ⟨hwf1, hV.topo.trans hE.topo, hcells',
    cellId_of_union hwf hwf1 (link2_n m l r) hl0 hln hl0 hln hbr han fun x => (hcells' l x).trans (United.at_left x),
    ma, hV, hE⟩

/-- **C04, 2-sew at cell level, only `l` has a successor**: the cells of `r` and `β1 l` are united,
    nothing else changes; the new id is the minimum of the two old ids -/
theorem C04_twoSew2_cells_right (cfg : Cfg X) (m m' : Map X) (l r : Nat) (u : Unit)
    (hwf : WF 3 m) (hl : C01.InUse m l) (hr : C01.InUse m r) (hlr : l ≠ r) (hfc : m.fc = 0)
    (hbl : m.β 1 l ≠ 0) (hbr : m.β 1 r = 0)
    (h : run (twoSew2 cfg m.n l r) m = (.ok u, m')) :
    WF 3 (link2 m l r) ∧ SameTopo (link2 m l r) m' ∧
    (∀ d e, SameCell (g2 (link2 m l r) .vertex) m.n d e ↔ United (g2 m .vertex) m.n r (m.β 1 l) d e) ∧
    cellId (link2 m l r) .vertex r = min (cellId m .vertex (m.β 1 l)) (cellId m .vertex r) ∧
    (∃ ma, MergedIn cfg (vStores cfg) (cellId (link2 m l r) .vertex r) (cellId m .vertex (m.β 1 l))
        (cellId m .vertex r) (link2 m l r) ma ∧
      MergedIn cfg (eStores cfg) (min l r) l r ma m') := by
  obtain ⟨hl0, hln, hlu⟩ := hl
  obtain ⟨hr0, hrn, hru⟩ := hr
  have hbn : m.β 1 l < m.n := hwf.range 1 (by omega) l hln
  obtain ⟨b1lv, rv, m1, rvn, eid, ma, hb1lv, hrv, hlink, hrvn, heid, hV, hE⟩ :=
    C04_twoSew2_right cfg m.n l r m m' u hfc hbl hbr h
  obtain ⟨_, _, h2l, h2r, rfl⟩ := iLinkCore_ok hlink
  have hwf1 : WF 3 (link2 m l r) := hwf.linkI (by omega) (by omega) hl0 hr0 hlr hln hrn hlu hru h2l h2r
  have e1 := vid_eq hwf rfl hbl hbn hb1lv
  have e2 := vid_eq hwf rfl hr0 hrn hrv
  have e5 := vid_eq hwf1 (link2_n m l r) hr0 hrn hrvn
  have e7 := eid_after_link2 hwf hr0 hlr hln hrn hwf1 heid
  subst e1 e2 e5 e7
  obtain ⟨R, hR, hcells⟩ := vertex_cells_link2 hwf hl0 hr0 hlr hln hrn h2l h2r
  have hR' : ∀ d e, SameCell (g2 m .vertex) m.n d e ↔ R d e := by
    intro d e; rw [hR, if_pos hbr]
  have hcells' : ∀ d e, SameCell (g2 (link2 m l r) .vertex) m.n d e ↔
      United (g2 m .vertex) m.n r (m.β 1 l) d e := by
    intro d e; rw [hcells, if_neg hbl, united_congr hR']
  exact ⟨hwf1, hV.topo.trans hE.topo, hcells',
    cellId_of_union hwf hwf1 (link2_n m l r) hr0 hrn hbl hbn hr0 hrn fun x =>
      ((hcells' r x).trans (United.at_left x)).trans Or.comm,
    ma, hV, hE⟩

/-! non-vacuity: the two triangles of C01 glued along 2|4 (`glued`), then 2-unsewn at dart 2 -/
def reopened : Map Val := (run (twoUnsew2 (stdCfg 3 7) 9 2) glued).2

theorem glued_reopened_run :
    (C01.InUse glued 2 ∧ (run (twoUnsew2 (stdCfg 3 7) glued.n 2) glued).1 = .ok ()) ∧
    (glued.β 1 2 ≠ 0 ∧ glued.β 1 (glued.β 2 2) ≠ 0) ∧
    (cellId glued .vertex 2 = 2 ∧ cellId glued .vertex 4 = 3 ∧
      cellId (unlink2 glued 2) .vertex 2 = 2 ∧ cellId (unlink2 glued 2) .vertex 5 = 5 ∧
      cellId (unlink2 glued 2) .vertex 3 = 3 ∧ cellId (unlink2 glued 2) .vertex 4 = 4) ∧
    (reopened.att 0 2 ≠ none ∧ reopened.att 0 5 ≠ none ∧ reopened.att 0 3 ≠ none ∧ reopened.att 0 4 ≠ none) := by
  decide +kernel

example : C01.InUse glued 2 ∧ (run (twoUnsew2 (stdCfg 3 7) glued.n 2) glued).1 = .ok () := glued_reopened_run.1
example : glued.β 1 2 ≠ 0 ∧ glued.β 1 (glued.β 2 2) ≠ 0 := glued_reopened_run.2.1
/-- before: vertices {2,5} ↦ 2 and {3,4} ↦ 3; after: 2, 5, 3, 4 are four vertices again -/
example : cellId glued .vertex 2 = 2 ∧ cellId glued .vertex 4 = 3 ∧
    cellId (unlink2 glued 2) .vertex 2 = 2 ∧ cellId (unlink2 glued 2) .vertex 5 = 5 ∧
    cellId (unlink2 glued 2) .vertex 3 = 3 ∧ cellId (unlink2 glued 2) .vertex 4 = 4 := glued_reopened_run.2.2.1
example : reopened.att 0 2 ≠ none ∧ reopened.att 0 5 ≠ none ∧ reopened.att 0 3 ≠ none ∧ reopened.att 0 4 ≠ none :=
  glued_reopened_run.2.2.2

/-- degenerate arms on a 6-dart map with the open chains 1→2 and 3→4 and the free darts 5, 6:
    `sew 2 5 6` (free arm), `sew 2 5 3` (left arm: only r = 3 has a successor), `sew 2 1 5` (right arm) -/
def chains : Map Val :=
  { (Map.empty 3 6 7 : Map Val) with
    b := #[#[0, 0, 1, 0, 3, 0, 0], #[0, 2, 0, 4, 0, 0, 0], #[0, 0, 0, 0, 0, 0, 0]]
    a := (Map.empty 3 6 7 : Map Val).a.setIfInBounds 0
      #[none, some (.pt 0 0 0), some (.pt 1 0 0), some (.pt 0 1 0), some (.pt 0 2 0), some (.pt 2 0 0), some (.pt 1 1 0)] }

theorem chains_run :
    (WF 3 chains ∧ chains.fc = 0 ∧ chains.n = 7 ∧ chains.β 1 1 = 2 ∧ chains.β 1 3 = 4 ∧ chains.β 1 5 = 0) ∧
    ((run (twoSew2 (stdCfg 3 0) chains.n 5 6) chains).1 = .ok () ∧
      (run (twoSew2 (stdCfg 3 0) chains.n 5 3) chains).1 = .ok () ∧
      (run (twoSew2 (stdCfg 3 0) chains.n 1 5) chains).1 = .ok ()) ∧
    (cellId (link2 chains 5 3) .vertex 5 = 4 ∧ cellId chains .vertex 5 = 5 ∧ cellId chains .vertex 4 = 4 ∧
      cellId (link2 chains 1 5) .vertex 5 = 2) := by decide +kernel

example : WF 3 chains ∧ chains.fc = 0 ∧ chains.n = 7 ∧ chains.β 1 1 = 2 ∧ chains.β 1 3 = 4 ∧ chains.β 1 5 = 0 :=
  chains_run.1
example : (run (twoSew2 (stdCfg 3 0) chains.n 5 6) chains).1 = .ok () ∧
    (run (twoSew2 (stdCfg 3 0) chains.n 5 3) chains).1 = .ok () ∧
    (run (twoSew2 (stdCfg 3 0) chains.n 1 5) chains).1 = .ok () := chains_run.2.1
example : cellId (link2 chains 5 3) .vertex 5 = 4 ∧ cellId chains .vertex 5 = 5 ∧ cellId chains .vertex 4 = 4 ∧
    cellId (link2 chains 1 5) .vertex 5 = 2 := chains_run.2.2

end HC.C04

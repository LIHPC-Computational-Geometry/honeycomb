/-
  C13, second part — the map surgery of the triangulation kernels
  (`honeycomb-kernels/src/triangulation/{fan,ear_clipping}.rs`, model `Model/Kernels/{Fan,EarClip}.lean`).
  `Props/C13.lean` treats the vertex-list computations (star search, ear search, areas); this file treats what the
  sew/unsew loops do to the map.  Tools: `Lemmas/KernelWF2.lean` (a successful sew = its link core + attribute moves;
  exact β tables after each sew on a well-formed map).

  PROVED (every map, every face size, every attribute configuration and law)
  * `C13_earclip_preserves_WF`   — a successful `earclip_cell_*` keeps `WF 3`: any face, any polygon, any ears; the
                                    only user-side hypotheses are "spare darts live and pairwise distinct"; all other
                                    side conditions follow from the code's own reads and the success of its unsews.
  * `C13_fan_preserves_WF`, `C13_fan_convex_preserves_WF`, `C13_fan_preserves_WF_closed_face`
                                  — a successful `fan_cell` / `fan_convex_cell` keeps `WF 3` on a closed face (given as
                                    one β1-cycle, or dart-wise as β1-paths) with live, pairwise distinct spare darts
                                    outside the face.  The closedness hypothesis is NECESSARY: on an open β1-chain the
                                    final `sew::<1>(β1(β1 d0), d0)` can be `sew::<1>(0, d0)`, which succeeds and
                                    writes β1(0) (the model and the real code agree: degenerate stream of c13.py).
  * `C13_fan_structure`, `C13_fan_convex_structure`, `C13_fan_cell_structure` (`FanResult`)
                                  — exact face structure after the fan: the n−2 triangles
                                    (s,c1,p1), (q1,c2,p2), …, (q_{n-3},c_{n-2},c_{n-1}) are closed β1-cycles of three
                                    darts; spare darts 2-linked pair by pair; β2 of every other dart (every side of
                                    the polygon) unchanged; every β image of every dart outside face ∪ spares
                                    unchanged.
                                    One iteration of the fan loop is described once (`fanSews_eff`, `FanIter`), the
                                    structure (`fanLoop_struct` here), the coordinates (C13d) and the freeness of the
                                    spare darts (C13f) are instances of one induction along the loop
                                    (`fanLoop_induct`); the well-formedness theorems, whose hypotheses are weaker (a
                                    β1-path, not a closed face), have an induction of their own (`fanLoop_spec`), and a successful
                                    `fanFrom` is taken apart once (`fanFrom_open`, `fanClose_elim`;
                                    `fanFrom_elim` on a closed face).
  * `closedFace_orbit`, `ClosedFace.rotate` — a closed cycle is exactly what `orbit_transac(FaceLinear, ·)`
                                    enumerates from any of its darts (uses C03's BFS theorem).

  * `C13_earclip_frame`           — ear clipping on a closed face: well-formed result, every β image of every dart
                                    outside face ∪ spares unchanged (other faces untouched), β2 of every face dart (the
                                    neighbour across each side) unchanged, spare darts 2-linked pair by pair.

  CONTINUED in Props/C13c.lean: the exact face structure after ear clipping (`C13_earclip_structure`).

  CONTINUED in Props/C13d.lean: the triangles of `FanResult` carry the coordinates of `fanTriangles` (vertex data only
  moves through `avg v v = v` on equal copies, merges with valueless fresh darts, and the final `write_vertex`).
-/
import Honeycomb.Lemmas.KernelWF2
import Honeycomb.Props.C13
import Honeycomb.Props.C03


namespace HC.C13
open HC

variable {n : Nat} {u : Array Bool}

/-! ## the spare pairs -/

theorem chunks2_mem : ∀ (l : List Nat) (c : Nat × Nat), c ∈ chunks2 l → c.1 ∈ l ∧ c.2 ∈ l
  | [], c, h => by simp [chunks2] at h
  | [_], c, h => by simp [chunks2] at h
  | a :: b :: rest, c, h => by
      simp only [chunks2, List.mem_cons] at h
      rcases h with rfl | h
      · simp
      · obtain ⟨h1, h2⟩ := chunks2_mem rest c h
        exact ⟨by simp [h1], by simp [h2]⟩

theorem chunks2_ne : ∀ (l : List Nat), l.Nodup → ∀ c ∈ chunks2 l, c.1 ≠ c.2
  | [], _, c, h => by simp [chunks2] at h
  | [_], _, c, h => by simp [chunks2] at h
  | a :: b :: rest, hnd, c, h => by
      simp only [chunks2, List.mem_cons] at h
      simp only [List.nodup_cons, List.mem_cons, not_or] at hnd
      rcases h with rfl | h
      · exact hnd.1.1
      · exact chunks2_ne rest hnd.2.2 c h

/-! ## the fan keeps the map well formed -/

theorem fan_chain_next {m m5 : Map Val} {d0 x1 x2 d1 d2 : Nat} {L' : List Nat}
    (b1 : ∀ y, m5.β 1 y = if d1 = y then d0 else if x1 = y then d1 else if d2 = y then x2 else
      if x1 = y then 0 else m.β 1 y)
    (c3 : B1Chain m x2 L') (h12 : d1 ≠ d2) (hx1d2 : x1 ≠ d2) (h1 : d1 ∉ x2 :: L') (h2 : d2 ∉ x2 :: L')
    (h3 : x1 ∉ x2 :: L') : B1Chain m5 d2 (x2 :: L') := by
  refine ⟨by rw [b1, if_neg h12, if_neg hx1d2, if_pos rfl], B1Chain.frame L' x2 c3 fun y hy => ?_⟩
  have hyL : y ∈ x2 :: L' := List.dropLast_subset _ hy
  have n1 : d1 ≠ y := fun c => h1 (c ▸ hyL)
  have n2 : d2 ≠ y := fun c => h2 (c ▸ hyL)
  have n3 : x1 ≠ y := fun c => h3 (c ▸ hyL)
  rw [b1, if_neg n1, if_neg n3, if_neg n2, if_neg n3]

/-- β after the five sews of a fan iteration: `d0 → x1 → d1 → d0`, `d2 → x2`, `d1 ↔ d2`, the updates in the order of the
    sews (the last one outermost) -/
def fanTab (f : Nat → Nat → Nat) (d0 x1 x2 d1 d2 i z : Nat) : Nat :=
  if 0 = i ∧ d0 = z then d1 else if 1 = i ∧ d1 = z then d0 else
  if 0 = i ∧ d1 = z then x1 else if 1 = i ∧ x1 = z then d1 else
  if 0 = i ∧ x2 = z then d2 else if 1 = i ∧ d2 = z then x2 else
  if 2 = i ∧ d2 = z then d1 else if 2 = i ∧ d1 = z then d2 else
  if 0 = i ∧ x2 = z then 0 else if 1 = i ∧ x1 = z then 0 else f i z

/-- the five sews of one iteration of the fan loop, on `d0 → x1 → x2` with the spare pair `d1`, `d2` -/
def fanSews (cfg : Cfg Val) (nn d0 x1 x2 d1 d2 : Nat) : P Val Unit := do
  oneUnsew2 cfg nn x1
  twoSew2 cfg nn d1 d2
  oneSew2 cfg nn d2 x2
  oneSew2 cfg nn x1 d1
  oneSew2 cfg nn d1 d0

/-- **what the five sews do**: they ran on live darts; when the spare darts are off `x1`, `x2` and `d0 ≠ x2`, the images
    `β1`, `β2` of both spare darts, `β0 d1` and `β0 d0` were null (each is tested by one of the link cores; `β0 d2` is
    not: it is tested one iteration later, or by the closing sew); the β tables of the result are the five updates:
    `d0 → x1 → d1 → d0`, `d2 → x2`, `d1 ↔ d2` -/
theorem fanSews_eff (cfg : Cfg Val) (nn : Nat) {d0 x1 x2 d1 d2 : Nat} {m m5 : Map Val} (hi : Inv n u m)
    (l0 : Live n u d0) (l1 : Live n u d1) (l2 : Live n u d2) (h12 : d1 ≠ d2) (c2 : m.β 1 x1 = x2)
    (h : run (fanSews cfg nn d0 x1 x2 d1 d2) m = (.ok (), m5)) :
    Inv n u m5 ∧ (Live n u x1 ∧ Live n u x2) ∧
    (d1 ≠ x1 ∧ d1 ≠ x2 → d2 ≠ x1 → d0 ≠ x2 →
      m.β 1 d1 = 0 ∧ m.β 2 d1 = 0 ∧ m.β 0 d1 = 0 ∧ m.β 1 d2 = 0 ∧ m.β 2 d2 = 0 ∧ m.β 0 d0 = 0) ∧
    ∀ i z, m5.β i z = fanTab m.β d0 x1 x2 d1 d2 i z := by
  unfold fanSews at h
  obtain ⟨_, m1, s1, h⟩ := run_bind_ok h
  obtain ⟨i1, lx1, lx2, e1⟩ := oneUnsew2_eff cfg nn hi s1
  rw [c2] at lx2 e1
  obtain ⟨_, m2, s2, h⟩ := run_bind_ok h
  obtain ⟨i2, f2a, f2b, e2⟩ := twoSew2_eff cfg nn i1 l1 l2 h12 s2
  obtain ⟨_, m3, s3, h⟩ := run_bind_ok h
  obtain ⟨i3, f3, _, e3⟩ := oneSew2_eff cfg nn i2 l2 lx2 s3
  obtain ⟨_, m4, s4, h⟩ := run_bind_ok h
  obtain ⟨i4, _, f4, e4⟩ := oneSew2_eff cfg nn i3 lx1 l1 s4
  obtain ⟨i5, f5a, f5b, e5⟩ := oneSew2_eff cfg nn i4 l1 l0 h
  refine ⟨i5, ⟨lx1, lx2⟩, fun hd1 hd2 h02 => ?_, fun i z => by rw [e5, e4, e3, e2, e1, fanTab]⟩
  rw [e1, if_neg (fun hh => absurd hh.1 (by decide)), if_neg (fun hh => absurd hh.1 (by decide))] at f2a f2b
  rw [e2, if_neg (fun hh => absurd hh.1 (by decide)), if_neg (fun hh => absurd hh.1 (by decide)), e1,
    if_neg (fun hh => absurd hh.1 (by decide)), if_neg (fun hh => hd2 hh.2.symm)] at f3
  rw [e3, if_neg (fun hh => hd1.2 hh.2.symm), if_neg (fun hh => absurd hh.1 (by decide)), e2,
    if_neg (fun hh => absurd hh.1 (by decide)), if_neg (fun hh => absurd hh.1 (by decide)), e1,
    if_neg (fun hh => hd1.2 hh.2.symm), if_neg (fun hh => absurd hh.1 (by decide))] at f4
  rw [e4, if_neg (fun hh => absurd hh.1 (by decide)), if_neg (fun hh => hd1.1 hh.2.symm), e3,
    if_neg (fun hh => absurd hh.1 (by decide)), if_neg (fun hh => h12 hh.2.symm), e2,
    if_neg (fun hh => absurd hh.1 (by decide)), if_neg (fun hh => absurd hh.1 (by decide)), e1,
    if_neg (fun hh => absurd hh.1 (by decide)), if_neg (fun hh => hd1.1 hh.2.symm)] at f5a
  by_cases h01 : d0 = d1
  · exact absurd (h01 ▸ f5b) (by rw [e4, if_pos ⟨rfl, rfl⟩]; exact lx1.1)
  rw [e4, if_neg (fun hh => h01 hh.2.symm), if_neg (fun hh => absurd hh.1 (by decide)), e3,
    if_neg (fun hh => h02 hh.2.symm), if_neg (fun hh => absurd hh.1 (by decide)), e2,
    if_neg (fun hh => absurd hh.1 (by decide)), if_neg (fun hh => absurd hh.1 (by decide)), e1,
    if_neg (fun hh => h02 hh.2.symm), if_neg (fun hh => absurd hh.1 (by decide))] at f5b
  exact ⟨f5a, f2a, f4, f3, f2b, f5b⟩

/-- one round of the fan loop, the two reads done: the five sews, then the loop from `d2` -/
theorem fanLoop_cons (cfg : Cfg Val) (nn : Nat) {cs : List (Nat × Nat)} {d0 x1 x2 d1 d2 r : Nat} {m m' : Map Val}
    (hi : Inv n u m) (c1 : m.β 1 d0 = x1) (c2 : m.β 1 x1 = x2)
    (h : run (fanLoop cfg nn d0 ((d1, d2) :: cs)) m = (.ok r, m')) :
    ∃ m5, run (fanSews cfg nn d0 x1 x2 d1 d2) m = (.ok (), m5) ∧ run (fanLoop cfg nn d2 cs) m5 = (.ok r, m') := by
  unfold fanLoop at h
  obtain ⟨_, _, h⟩ := rB_ok hi h
  rw [c1] at h
  obtain ⟨_, _, h⟩ := rB_ok hi h
  rw [c2] at h
  have hk : run ((fanSews cfg nn d0 x1 x2 d1 d2).bind fun _ => fanLoop cfg nn d2 cs) m = (.ok r, m') := by
    unfold fanSews
    simp only [Prog.bind_eq, Prog.bind_assoc]
    exact h
  obtain ⟨_, m5, hs, hrest⟩ := run_bind_ok hk
  exact ⟨m5, hs, hrest⟩

/-- the loop of the fan kernels from apex dart `d0`: `L` is the β1-path ahead of `d0` (two darts more than there are
    spare pairs left); at the end the last two darts of the path are still ahead of the returned dart -/
theorem fanLoop_spec (cfg : Cfg Val) (nn : Nat) :
    ∀ (cs : List (Nat × Nat)) (d0 : Nat) (L : List Nat) (m m' : Map Val) (r : Nat),
      Inv n u m → Live n u d0 → B1Chain m d0 L → L.length = cs.length + 2 → L.Nodup → (∀ x ∈ L, x ≠ 0) →
      (∀ c ∈ cs, Live n u c.1 ∧ Live n u c.2 ∧ c.1 ≠ c.2 ∧ c.1 ∉ L ∧ c.2 ∉ L) →
      run (fanLoop cfg nn d0 cs) m = (.ok r, m') →
      Inv n u m' ∧ Live n u r ∧ ∃ x1 x2, B1Chain m' r [x1, x2] ∧ x2 ≠ 0 := by
  intro cs
  induction cs with
  | nil =>
      intro d0 L m m' r hi hd0 hch hlen _ hnz _ h
      simp [fanLoop] at h
      obtain ⟨rfl, rfl⟩ := h
      match L, hlen with
      | [x1, x2], _ => exact ⟨hi, hd0, x1, x2, hch, hnz x2 (by simp)⟩
  | cons c rest ih =>
      intro d0 L m m' r hi hd0 hch hlen hnd hnz hsp h
      obtain ⟨d1, d2⟩ := c
      obtain ⟨l1, l2, hne, hn1, hn2⟩ := hsp (d1, d2) (by simp)
      match L, hlen with
      | x1 :: x2 :: L', hlen =>
        obtain ⟨c1, c2, c3⟩ := hch
        obtain ⟨m5, hs, h⟩ := fanLoop_cons cfg nn hi c1 c2 h
        obtain ⟨i5, _, _, tb⟩ := fanSews_eff cfg nn hi hd0 l1 l2 hne c2 hs
        have b1 : ∀ y, m5.β 1 y = if d1 = y then d0 else if x1 = y then d1 else if d2 = y then x2 else
            if x1 = y then 0 else m.β 1 y := by
          intro y
          rw [tb, fanTab]
          simp only [show ¬ (0 = 1) by decide, show ¬ (2 = 1) by decide, false_and, if_false, true_and]
        have hch' : B1Chain m5 d2 (x2 :: L') :=
          fan_chain_next b1 c3 hne (fun hh => hn2 (by simp [hh])) (fun hh => hn1 (List.mem_cons_of_mem _ hh))
            (fun hh => hn2 (List.mem_cons_of_mem _ hh)) (List.nodup_cons.1 hnd).1
        simp only [List.nodup_cons, List.mem_cons, not_or] at hnd
        refine ih d2 (x2 :: L') m5 m' r i5 l2 hch' (by simp at hlen ⊢; omega) ?_ ?_ ?_ h
        · simp only [List.nodup_cons]; exact hnd.2
        · intro x hx; exact hnz x (List.mem_cons_of_mem _ hx)
        · intro c hc
          obtain ⟨a1, a2, a3, a4, a5⟩ := hsp c (by simp [hc])
          exact ⟨a1, a2, a3, fun hh => a4 (List.mem_cons_of_mem _ hh), fun hh => a5 (List.mem_cons_of_mem _ hh)⟩

/-- the β1-path ahead of a dart: `L` are the next darts, pairwise distinct, distinct from it, non-null.  For a dart
    of a closed `n`-gon face, `L` is the rest of the face (`n - 1` darts). -/
structure FacePath (m : Map Val) (s : Nat) (L : List Nat) : Prop where
  chain : B1Chain m s L
  nodup : (s :: L).Nodup
  nz : ∀ x ∈ L, x ≠ 0

/-- what both fan kernels do once the loop has returned `r`: the closing sew and the write of the apex value `v0` -/
def fanClose (cfg : Cfg Val) (nn s r : Nat) (v0 : Val) : P Val Unit := do
  let b1d0 ← rB 1 r
  let b1b1d0 ← rB 1 b1d0
  oneSew2 cfg nn b1b1d0 r
  let vid ← vertexId2 nn s
  let _ ← writeVtx vid v0
  pure ()

/-- **a successful `fanFrom` up to the end of the loop**, from the dart `s` with the β1-path `L` ahead: the apex value
    `v0` is read, the dart before `s` is unsewn (`m1`; it is not an inner dart of the path, which stays), the loop runs
    from `s` and returns `r` (`m2`), and `fanClose` leads to the result -/
theorem fanFrom_open (cfg : Cfg Val) (nn s : Nat) (nds : List Nat) (L : List Nat) (m m' : Map Val)
    (hi : Inv n u m) (hp : FacePath m s L) (h : run (fanFrom cfg nn s nds) m = (.ok (), m')) :
    ∃ (vid : Nat) (v0 : Val) (m1 m2 : Map Val) (r : Nat),
      run (vertexId2 nn s) m = (.ok vid, m) ∧ run (rA 0 vid) m = (.ok (some v0), m) ∧ Live n u s ∧
      m.β 1 (m.β 0 s) = s ∧ run (oneUnsew2 cfg nn (m.β 0 s)) m = (.ok (), m1) ∧ Inv n u m1 ∧
      (∀ i d, m1.β i d = if 0 = i ∧ s = d then 0 else if 1 = i ∧ m.β 0 s = d then 0 else m.β i d) ∧
      B1Chain m1 s L ∧ run (fanLoop cfg nn s (chunks2 nds)) m1 = (.ok r, m2) ∧
      run (fanClose cfg nn s r v0) m2 = (.ok (), m') := by
  unfold fanFrom at h
  obtain ⟨_, hs, h⟩ := rB_ok hi h
  obtain ⟨vid, hvid, h⟩ := run_ro_bind_ok (readOnly_vertexId2 nn s) h
  obtain ⟨v0, hv0, h⟩ := run_ro_bind_ok (ReadOnly.rA 0 vid) h
  cases v0 with
  | none => simp at h
  | some v0 =>
      simp only at h
      obtain ⟨_, m1, s1, h⟩ := run_bind_ok h
      obtain ⟨i1, lb0, _, e1⟩ := oneUnsew2_eff cfg nn hi s1
      have ls : Live n u s := hi.live_source (by omega) hs lb0.1
      -- β1(β0 s) = s, so the unsew cuts the dart before `s`, which is not an inner dart of the path
      have hback : m.β 1 (m.β 0 s) = s := hi.wf.inv10 s (by rw [hi.n_eq]; exact hs) lb0.1
      rw [hback] at e1
      have hnd := hp.nodup
      simp only [List.nodup_cons] at hnd
      have hch1 : B1Chain m1 s L := by
        refine B1Chain.frame L s hp.chain fun y hy => ?_
        have hyne : m.β 0 s ≠ y := by
          rintro rfl
          have := B1Chain.succ_mem L s _ hp.chain hy
          rw [hback] at this
          exact hnd.1 this
        rw [e1, if_neg (fun hh => absurd hh.1 (by decide)), if_neg (fun hh => hyne hh.2)]
      obtain ⟨r, m2, s2, h⟩ := run_bind_ok h
      exact ⟨vid, v0, m1, m2, r, hvid, hv0, ls, hback, s1, i1, e1, hch1, s2, h⟩

/-- **`fanClose`, step by step**, when the last two darts `x1`, `x2` of the face are ahead of `r`: the closing sew
    `x2 → r` gives `m3`, and the apex value is written back -/
theorem fanClose_elim (cfg : Cfg Val) (nn s : Nat) {r x1 x2 : Nat} {v0 : Val} {m2 m' : Map Val} (i2 : Inv n u m2)
    (hch : B1Chain m2 r [x1, x2]) (hx2 : x2 ≠ 0) (h : run (fanClose cfg nn s r v0) m2 = (.ok (), m')) :
    ∃ (m3 : Map Val) (vid2 : Nat) (a : Option Val), Live n u x2 ∧ run (oneSew2 cfg nn x2 r) m2 = (.ok (), m3) ∧
      run (vertexId2 nn s) m3 = (.ok vid2, m3) ∧ run (writeVtx vid2 v0) m3 = (.ok a, m') := by
  unfold fanClose at h
  obtain ⟨_, _, h⟩ := rB_ok i2 h
  rw [hch.1] at h
  obtain ⟨_, hx1, h⟩ := rB_ok i2 h
  rw [hch.2.1] at h
  have lx2 : Live n u x2 := by
    have := i2.live_image (i := 1) (by omega) hx1 (by rw [hch.2.1]; exact hx2)
    rw [hch.2.1] at this
    exact this
  obtain ⟨_, m3, s3, h⟩ := run_bind_ok h
  obtain ⟨vid2, hvid2, h⟩ := run_ro_bind_ok (readOnly_vertexId2 nn s) h
  obtain ⟨a, m4, s4, h⟩ := run_bind_ok h
  simp at h
  subst h
  exact ⟨m3, vid2, a, lx2, s3, hvid2, s4⟩

theorem keeps_fanFrom (cfg : Cfg Val) (nn s : Nat) (nds : List Nat) (L : List Nat) (m m' : Map Val)
    (hi : Inv n u m) (hp : FacePath m s L) (hlen : L.length = (chunks2 nds).length + 2)
    (hsp : ∀ c ∈ chunks2 nds, Live n u c.1 ∧ Live n u c.2 ∧ c.1 ≠ c.2 ∧ c.1 ∉ L ∧ c.2 ∉ L)
    (h : run (fanFrom cfg nn s nds) m = (.ok (), m')) : Inv n u m' := by
  obtain ⟨_, v0, m1, m2, r, _, _, ls, _, _, i1, _, hch1, s2, hcl⟩ := fanFrom_open cfg nn s nds L m m' hi hp h
  obtain ⟨i2, lr, x1, x2, hch, hx2⟩ :=
    fanLoop_spec cfg nn _ s L m1 m2 r i1 ls hch1 hlen (List.nodup_cons.1 hp.nodup).2 hp.nz hsp s2
  obtain ⟨m3, vid2, _, lx2, s3, _, s4⟩ := fanClose_elim cfg nn s i2 hch hx2 hcl
  obtain ⟨i3, _, _, _⟩ := oneSew2_eff cfg nn i2 lx2 lr s3
  have st := attrOnly_writeVtx vid2 v0 m3
  rw [s4] at st
  exact i3.sameTopo st

/-- **C13, well-formedness (fan, convex version)**: a successful `fan_convex_cell` keeps a well-formed 2-map well
    formed, when the face dart lies on a β1-path of `n - 1` further distinct non-null darts (`n` = number of darts
    the kernel counted: a closed `n`-gon face) and the spare darts are live, pairwise distinct and not on the
    face. -/
theorem C13_fan_convex_preserves_WF (cfg : Cfg Val) (m m' : Map Val) (face : Nat) (nds : List Nat) (L : List Nat)
    (hwf : WF 3 m) (hp : FacePath m face L)
    (hlen : ∀ darts, run (orbit2 m.n .faceLinear face) m = (.ok darts, m) → L.length + 1 = darts.length)
    (hsp : ∀ d ∈ nds, C01.InUse m d ∧ d ∉ L) (hnd : nds.Nodup)
    (h : run (fanConvexCell cfg m.n face nds) m = (.ok (), m')) : WF 3 m' := by
  obtain ⟨darts, h1, h3, hreq⟩ := C13_fanConvex_kernel cfg m.n face nds m m' h
  have hk := chunks2_length nds
  refine (keeps_fanFrom (n := m.n) (u := m.u) cfg m.n face nds L m m' (Inv.of_wf hwf) hp ?_ ?_ h3).wf
  · have := hlen darts h1; omega
  · intro c hcm
    obtain ⟨a, b⟩ := chunks2_mem nds c hcm
    exact ⟨(hsp _ a).1, (hsp _ b).1, chunks2_ne nds hnd c hcm, (hsp _ a).2, (hsp _ b).2⟩

/-- **C13, well-formedness (fan)**: a successful `fan_cell` keeps a well-formed 2-map well formed, when every dart of
    the face (as the kernel enumerates it) lies on a β1-path of `n - 1` further distinct non-null darts avoiding the
    spare darts — i.e. the face is a closed `n`-gon — and the spare darts are live and pairwise distinct.
    (`facePath_of_cycle` below derives the path hypothesis from one closed cycle.) -/
theorem C13_fan_preserves_WF (cfg : Cfg Val) (m m' : Map Val) (face : Nat) (nds : List Nat)
    (hwf : WF 3 m)
    (hface : ∀ darts, run (orbit2 m.n .faceLinear face) m = (.ok darts, m) → ∀ s ∈ darts,
      ∃ L, FacePath m s L ∧ L.length + 1 = darts.length ∧ ∀ d ∈ nds, d ∉ L)
    (hsp : ∀ d ∈ nds, C01.InUse m d) (hnd : nds.Nodup)
    (h : run (fanCell cfg m.n face nds) m = (.ok (), m')) : WF 3 m' := by
  obtain ⟨darts, vals, id, h1, h2, h4, hn, hs, hfrom, _⟩ := C13_fan_kernel_star cfg m.n face nds m m' h
  obtain ⟨hvl, _⟩ := faceVertices_length m.n _ _ _ _ h2
  have hid : id < darts.length := by
    have := (fanStarFrom_some _ _ id hs).1
    simpa [hvl] using this
  have hmem : darts.getD id 0 ∈ darts := by
    rw [List.getD_eq_getElem?_getD, List.getElem?_eq_getElem hid]
    exact List.getElem_mem hid
  obtain ⟨L, hp, hl, hdis⟩ := hface darts h1 _ hmem
  have hk := chunks2_length nds
  refine (keeps_fanFrom (n := m.n) (u := m.u) cfg m.n _ nds L m m' (Inv.of_wf hwf) hp (by omega) ?_ hfrom).wf
  intro c hcm
  obtain ⟨a, b⟩ := chunks2_mem nds c hcm
  exact ⟨hsp _ a, hsp _ b, chunks2_ne nds hnd c hcm, hdis _ a, hdis _ b⟩

/-! ## closed faces: the path hypothesis from one cycle -/

/-- `cyc = a :: rest` is a closed face: `a → rest[0] → … → a` through β1, darts pairwise distinct and non-null -/
structure ClosedFace (m : Map Val) (a : Nat) (rest : List Nat) : Prop where
  chain : B1Chain m a (rest ++ [a])
  nodup : (a :: rest).Nodup
  nz : ∀ x ∈ a :: rest, x ≠ 0

theorem B1Chain.append {m : Map Val} : ∀ (l1 : List Nat) (d x : Nat) (l2 : List Nat),
    B1Chain m d (l1 ++ x :: l2) ↔ B1Chain m d (l1 ++ [x]) ∧ B1Chain m x l2 := by
  intro l1
  induction l1 with
  | nil => intro d x l2; simp [B1Chain]
  | cons y rest ih =>
      intro d x l2
      simp only [List.cons_append, B1Chain]
      rw [ih y x l2]
      exact ⟨fun ⟨a, b, c⟩ => ⟨⟨a, b⟩, c⟩, fun ⟨⟨a, b⟩, c⟩ => ⟨a, b, c⟩⟩

theorem B1Chain.prefix {m : Map Val} : ∀ (l1 l2 : List Nat) (d : Nat), B1Chain m d (l1 ++ l2) → B1Chain m d l1 := by
  intro l1
  induction l1 with
  | nil => intro _ _ _; trivial
  | cons y rest ih => intro l2 d h; exact ⟨h.1, ih l2 y h.2⟩

theorem ClosedFace.facePath {m : Map Val} {s : Nat} {L : List Nat} (hc : ClosedFace m s L) : FacePath m s L :=
  ⟨B1Chain.prefix L [s] s hc.chain, hc.nodup, fun x hx => hc.nz x (List.mem_cons_of_mem _ hx)⟩

/-- a closed face can be read from any of its darts: the rest of the face lies ahead on the β1-path -/
theorem ClosedFace.rotate {m : Map Val} {a : Nat} {rest : List Nat} (hc : ClosedFace m a rest) {s : Nat}
    (hs : s ∈ a :: rest) :
    ∃ L, ClosedFace m s L ∧ L.length + 1 = (a :: rest).length ∧ (∀ x, x ∈ L → x ∈ a :: rest) ∧
      (∀ x, x ∈ a :: rest → x = s ∨ x ∈ L) := by
  obtain ⟨pre, post, hsplit⟩ := List.append_of_mem hs
  cases pre with
  | nil =>
      simp only [List.nil_append, List.cons.injEq] at hsplit
      obtain ⟨rfl, rfl⟩ := hsplit
      exact ⟨rest, hc, rfl, fun x hx => by simp [hx], fun x hx => by simpa using hx⟩
  | cons b pre' =>
      simp only [List.cons_append, List.cons.injEq] at hsplit
      obtain ⟨rfl, hrest⟩ := hsplit
      have hch := hc.chain
      rw [hrest, List.append_assoc, List.cons_append, B1Chain.append] at hch
      have hperm : (s :: (post ++ a :: pre')).Perm (a :: rest) := by
        have e1 : s :: (post ++ a :: pre') = (s :: post) ++ (a :: pre') := by simp
        have e2 : a :: rest = (a :: pre') ++ (s :: post) := by rw [hrest]; simp
        rw [e1, e2]; exact List.perm_append_comm
      have hmem : ∀ x, x ∈ post ++ a :: pre' → x ∈ a :: rest := fun x hx =>
        hperm.subset (List.mem_cons_of_mem _ hx)
      refine ⟨post ++ a :: pre', ⟨?_, hperm.nodup_iff.2 hc.nodup, fun x hx => hc.nz x (hperm.subset hx)⟩,
        by simpa using hperm.length_eq, hmem, fun x hx => List.mem_cons.1 (hperm.symm.subset hx)⟩
      rw [List.append_assoc, List.cons_append, B1Chain.append]
      exact ⟨hch.2, hch.1⟩

theorem B1Chain.reach {m : Map Val} : ∀ (l : List Nat) (d : Nat), B1Chain m d l →
    ∀ x ∈ l, Reach (C03.g2 m .faceLinear) d x := by
  intro l
  induction l with
  | nil => intro d _ x hx; simp at hx
  | cons y rest ih =>
      intro d h x hx
      have h1 : Reach (C03.g2 m .faceLinear) d y := Reach.single (by simp [C03.g2, h.1])
      simp only [List.mem_cons] at hx
      rcases hx with rfl | hx
      · exact h1
      · exact h1.trans (ih y h.2 x hx)

/-- a closed face is exactly what `orbit_transac(FaceLinear, face)` enumerates from any of its darts, and every
    enumerated dart has the rest of the face ahead of it -/
theorem closedFace_orbit {m : Map Val} (hwf : WF 3 m) {a : Nat} {rest : List Nat} (hc : ClosedFace m a rest)
    {face : Nat} (hf : face ∈ a :: rest) (hlt : face < m.n) :
    ∀ darts, run (orbit2 m.n .faceLinear face) m = (.ok darts, m) →
      darts.length = (a :: rest).length ∧ ∀ s ∈ darts, s ∈ a :: rest := by
  intro darts hrun
  have hf0 : face ≠ 0 := hc.nz face hf
  obtain ⟨hspec, _, hnd, _⟩ := C03.C03_orbit2_spec hwf (pol := .faceLinear) trivial hf0 hlt
  rw [hspec] at hrun
  simp only [Prod.mk.injEq, Out.ok.injEq, and_true] at hrun
  subst hrun
  -- the cycle is closed under β1
  have hclosed : ∀ x, x ∈ a :: rest → m.β 1 x ∈ a :: rest := by
    intro x hx
    have hx' : x ∈ (a :: (rest ++ [a])).dropLast := by
      have : a :: (rest ++ [a]) = (a :: rest) ++ [a] := by simp
      rw [this, List.dropLast_concat]; exact hx
    have := B1Chain.succ_mem _ a x hc.chain hx'
    simp only [List.mem_append, List.mem_cons, List.not_mem_nil, or_false] at this ⊢
    exact this.symm
  obtain ⟨Lf, hcf, _, _, hcov⟩ := hc.rotate hf
  have hsame := (orbG_of_list (C03.g2_ok hwf .faceLinear trivial) hf0 hlt (a :: rest) hc.nz
    (fun y hy => (hcov y hy).elim (fun e => e ▸ .refl _) (B1Chain.reach Lf face hcf.facePath.chain y)) hf
    (fun y hy x hx => by
      simp only [C03.g2, List.mem_singleton] at hx
      exact Or.inr (hx ▸ hclosed y hy))).1
  exact ⟨((List.perm_ext_iff_of_nodup hnd hc.nodup).2 hsame).length_eq, fun s hs => (hsame s).1 hs⟩

/-- the path hypothesis of `C13_fan_preserves_WF` from one closed cycle -/
theorem facePath_of_cycle {m : Map Val} (hwf : WF 3 m) {a : Nat} {rest : List Nat} (hc : ClosedFace m a rest)
    {face : Nat} (hf : face ∈ a :: rest) (hlt : face < m.n) (nds : List Nat) (hdis : ∀ d ∈ nds, d ∉ a :: rest) :
    ∀ darts, run (orbit2 m.n .faceLinear face) m = (.ok darts, m) → ∀ s ∈ darts,
      ∃ L, FacePath m s L ∧ L.length + 1 = darts.length ∧ ∀ d ∈ nds, d ∉ L := by
  intro darts hrun s hs
  obtain ⟨hlen, hin⟩ := closedFace_orbit hwf hc hf hlt darts hrun
  obtain ⟨L, hcs, hl, hinL, _⟩ := hc.rotate (hin s hs)
  exact ⟨L, hcs.facePath, by rw [hlen]; exact hl, fun d hd hh => hdis d hd (hinL d hh)⟩

theorem ClosedFace.lt {m : Map Val} (hwf : WF 3 m) {a : Nat} {rest : List Nat} (hc : ClosedFace m a rest)
    {x : Nat} (hx : x ∈ a :: rest) : x < m.n := by
  obtain ⟨L, hcx, _, _, _⟩ := hc.rotate hx
  have := hcx.chain
  cases L with
  | nil =>
      simp only [List.nil_append, B1Chain] at this
      exact hwf.toSized.lt_of_β_ne (i := 1) (by omega) (by rw [this.1]; exact hc.nz _ hx)
  | cons y L' =>
      exact hwf.toSized.lt_of_β_ne (i := 1) (by omega) (by rw [this.1]; exact hcx.nz y (by simp))

/-- **C13, well-formedness (fan) on a closed face**: `fan_cell` on a face given as one closed β1-cycle `a :: rest`
    (pairwise distinct non-null darts), with live, pairwise distinct spare darts outside the face -/
theorem C13_fan_preserves_WF_closed_face (cfg : Cfg Val) (m m' : Map Val) (face : Nat) (nds : List Nat)
    (a : Nat) (rest : List Nat) (hwf : WF 3 m) (hc : ClosedFace m a rest) (hf : face ∈ a :: rest)
    (hsp : ∀ d ∈ nds, C01.InUse m d ∧ d ∉ a :: rest) (hnd : nds.Nodup)
    (h : run (fanCell cfg m.n face nds) m = (.ok (), m')) : WF 3 m' := by
  have hlt : face < m.n := hc.lt hwf hf
  exact C13_fan_preserves_WF cfg m m' face nds hwf
    (facePath_of_cycle hwf hc hf hlt nds (fun d hd => (hsp d hd).2)) (fun d hd => (hsp d hd).1) hnd h

/-! ## exact face structure after the fan -/

/-- `a → b → c → a` through β1: the three darts bound a triangular face -/
def TriFace (m : Map Val) (t : Nat × Nat × Nat) : Prop :=
  m.β 1 t.1 = t.2.1 ∧ m.β 1 t.2.1 = t.2.2 ∧ m.β 1 t.2.2 = t.1

instance (m : Map Val) (t : Nat × Nat × Nat) : Decidable (TriFace m t) := by unfold TriFace; exact inferInstance

/-- the triangles closed by the loop: `(d0, x1, d1)` per spare pair `(d1, d2)`, then on from `d2` -/
def loopTris : Nat → List Nat → List (Nat × Nat) → List (Nat × Nat × Nat)
  | d0, x1 :: L, (d1, d2) :: cs => (d0, x1, d1) :: loopTris d2 L cs
  | _, _, _ => []

/-- the dart returned by the loop -/
def loopEnd : Nat → List (Nat × Nat) → Nat
  | d0, [] => d0
  | _, (_, d2) :: cs => loopEnd d2 cs

/-- the spare darts in the order they are consumed -/
def sparesOf (cs : List (Nat × Nat)) : List Nat := cs.flatMap (fun c => [c.1, c.2])

theorem sparesOf_cons (d1 d2 : Nat) (cs : List (Nat × Nat)) : sparesOf ((d1, d2) :: cs) = d1 :: d2 :: sparesOf cs := by
  simp [sparesOf]

theorem mem_sparesOf {cs : List (Nat × Nat)} {c : Nat × Nat} (h : c ∈ cs) : c.1 ∈ sparesOf cs ∧ c.2 ∈ sparesOf cs := by
  unfold sparesOf
  simp only [List.mem_flatMap, List.mem_cons, List.not_mem_nil, or_false]
  exact ⟨⟨c, h, Or.inl rfl⟩, ⟨c, h, Or.inr rfl⟩⟩

theorem loopTris_mem : ∀ (cs : List (Nat × Nat)) (d0 : Nat) (L : List Nat) (t : Nat × Nat × Nat),
    t ∈ loopTris d0 L cs → (t.1 = d0 ∨ t.1 ∈ sparesOf cs) ∧ t.2.1 ∈ L.take cs.length ∧ t.2.2 ∈ sparesOf cs := by
  intro cs
  induction cs with
  | nil => intro d0 L t h; cases L <;> simp [loopTris] at h
  | cons c rest ih =>
      intro d0 L t h
      obtain ⟨d1, d2⟩ := c
      cases L with
      | nil => simp [loopTris] at h
      | cons x1 L' =>
          simp only [loopTris, List.mem_cons] at h
          rw [sparesOf_cons]
          rcases h with rfl | h
          · simp
          · obtain ⟨a, b, c⟩ := ih d2 L' t h
            refine ⟨?_, ?_, ?_⟩
            · rcases a with a | a
              · right; simp [a]
              · right; simp [a]
            · simp [b]
            · simp [c]

theorem loopTris_length : ∀ (cs : List (Nat × Nat)) (d0 : Nat) (L : List Nat), cs.length ≤ L.length →
    (loopTris d0 L cs).length = cs.length := by
  intro cs
  induction cs with
  | nil => intro d0 L _; cases L <;> simp [loopTris]
  | cons c rest ih =>
      intro d0 L h
      obtain ⟨d1, d2⟩ := c
      cases L with
      | nil => simp at h
      | cons x1 L' =>
          simp only [loopTris, List.length_cons]
          rw [ih d2 L' (by simpa using h)]

theorem loopEnd_mem : ∀ (cs : List (Nat × Nat)) (d0 : Nat), loopEnd d0 cs = d0 ∨ loopEnd d0 cs ∈ sparesOf cs := by
  intro cs
  induction cs with
  | nil => intro d0; left; rfl
  | cons c rest ih =>
      intro d0
      obtain ⟨d1, d2⟩ := c
      rw [sparesOf_cons]
      simp only [loopEnd]
      rcases ih d2 with h | h
      · right; simp [h]
      · right; simp [h]

/-- the state of one iteration of the fan loop: `d0 → x1 → x2 → L'` is the β1-path ahead of the apex-side dart `d0`, the
    five sews with the spare pair `d1`, `d2` lead from `m` to `m5` -/
structure FanIter (n : Nat) (u : Array Bool) (m m5 : Map Val) (d0 x1 x2 d1 d2 : Nat) (L' : List Nat) : Prop where
  chain : B1Chain m d0 (x1 :: x2 :: L')
  nodup : (d0 :: x1 :: x2 :: L').Nodup
  inv : Inv n u m5
  live : Live n u d0 ∧ Live n u x1 ∧ Live n u x2
  spare : Live n u d1 ∧ Live n u d2 ∧ d1 ≠ d2
  out1 : d1 ∉ d0 :: x1 :: x2 :: L'
  out2 : d2 ∉ d0 :: x1 :: x2 :: L'
  tested : m.β 1 d1 = 0 ∧ m.β 2 d1 = 0 ∧ m.β 0 d1 = 0 ∧ m.β 1 d2 = 0 ∧ m.β 2 d2 = 0 ∧ m.β 0 d0 = 0
  β : ∀ i z, m5.β i z = fanTab m.β d0 x1 x2 d1 d2 i z

section
variable {m m5 : Map Val} {d0 x1 x2 d1 d2 : Nat} {L' : List Nat}

theorem FanIter.β1 (h : FanIter n u m m5 d0 x1 x2 d1 d2 L') (z : Nat) :
    m5.β 1 z = if d1 = z then d0 else if x1 = z then d1 else if d2 = z then x2 else if x1 = z then 0 else m.β 1 z := by
  rw [h.β, fanTab]
  simp only [show ¬ (0 = 1) by decide, show ¬ (2 = 1) by decide, false_and, if_false, true_and]

theorem FanIter.β2 (h : FanIter n u m m5 d0 x1 x2 d1 d2 L') (z : Nat) :
    m5.β 2 z = if d2 = z then d1 else if d1 = z then d2 else m.β 2 z := by
  rw [h.β, fanTab]
  simp only [show ¬ (0 = 2) by decide, show ¬ (1 = 2) by decide, false_and, if_false, true_and]

theorem FanIter.β0 (h : FanIter n u m m5 d0 x1 x2 d1 d2 L') (z : Nat) :
    m5.β 0 z = if d0 = z then d1 else if d1 = z then x1 else if x2 = z then d2 else if x2 = z then 0 else m.β 0 z := by
  rw [h.β, fanTab]
  simp only [show ¬ (1 = 0) by decide, show ¬ (2 = 0) by decide, false_and, if_false, true_and]

theorem FanIter.β_other (h : FanIter n u m m5 d0 x1 x2 d1 d2 L') {z : Nat} (h0 : z ≠ d0) (hx1 : z ≠ x1) (hx2 : z ≠ x2)
    (h1 : z ≠ d1) (h2 : z ≠ d2) (i : Nat) : m5.β i z = m.β i z := by
  rw [h.β, fanTab, if_neg (fun c => h0 c.2.symm), if_neg (fun c => h1 c.2.symm), if_neg (fun c => h1 c.2.symm),
    if_neg (fun c => hx1 c.2.symm), if_neg (fun c => hx2 c.2.symm), if_neg (fun c => h2 c.2.symm),
    if_neg (fun c => h2 c.2.symm), if_neg (fun c => h1 c.2.symm), if_neg (fun c => hx2 c.2.symm),
    if_neg (fun c => hx1 c.2.symm)]

theorem FanIter.chain' (h : FanIter n u m m5 d0 x1 x2 d1 d2 L') : B1Chain m5 d2 (x2 :: L') :=
  fan_chain_next h.β1 h.chain.2.2 h.spare.2.2 (fun c => h.out2 (by simp [c]))
    (fun c => h.out1 (List.mem_cons_of_mem _ (List.mem_cons_of_mem _ c)))
    (fun c => h.out2 (List.mem_cons_of_mem _ (List.mem_cons_of_mem _ c)))
    (List.nodup_cons.1 (List.nodup_cons.1 h.nodup).2).1

theorem FanIter.tri (h : FanIter n u m m5 d0 x1 x2 d1 d2 L') : TriFace m5 (d0, x1, d1) := by
  have hnd := h.nodup
  have o1 := h.out1
  have o2 := h.out2
  simp only [List.nodup_cons, List.mem_cons, not_or] at hnd o1 o2
  refine ⟨?_, ?_, ?_⟩
  · show m5.β 1 d0 = x1
    rw [h.β1, if_neg o1.1, if_neg (Ne.symm hnd.1.1), if_neg o2.1, if_neg (Ne.symm hnd.1.1)]
    exact h.chain.1
  · show m5.β 1 x1 = d1
    rw [h.β1, if_neg o1.2.1, if_pos rfl]
  · show m5.β 1 d1 = d0
    rw [h.β1, if_pos rfl]
end

theorem fan_iter (cfg : Cfg Val) (nn : Nat) {cs : List (Nat × Nat)} {L' : List Nat} {m m' : Map Val}
    {d0 x1 x2 d1 d2 r : Nat} (hi : Inv n u m) (hd0 : Live n u d0) (hch : B1Chain m d0 (x1 :: x2 :: L'))
    (hnd : (d0 :: x1 :: x2 :: L').Nodup) (l1 : Live n u d1) (l2 : Live n u d2) (hne : d1 ≠ d2)
    (hn1 : d1 ∉ d0 :: x1 :: x2 :: L') (hn2 : d2 ∉ d0 :: x1 :: x2 :: L')
    (h : run (fanLoop cfg nn d0 ((d1, d2) :: cs)) m = (.ok r, m')) :
    ∃ m5, FanIter n u m m5 d0 x1 x2 d1 d2 L' ∧ run (fanSews cfg nn d0 x1 x2 d1 d2) m = (.ok (), m5) ∧
      run (fanLoop cfg nn d2 cs) m5 = (.ok r, m') := by
  obtain ⟨m5, hs, hrest⟩ := fanLoop_cons cfg nn hi hch.1 hch.2.1 h
  have o1 := hn1
  have o2 := hn2
  have hnd' := hnd
  simp only [List.nodup_cons, List.mem_cons, not_or] at o1 o2 hnd'
  obtain ⟨i5, lv, ts, tb⟩ := fanSews_eff cfg nn hi hd0 l1 l2 hne hch.2.1 hs
  exact ⟨m5, ⟨hch, hnd, i5, ⟨hd0, lv.1, lv.2⟩, ⟨l1, l2, hne⟩, hn1, hn2,
    ts ⟨o1.2.1, o1.2.2.1⟩ o2.2.1 hnd'.1.2.1, tb⟩, hs, hrest⟩

/-- **induction along the fan loop** from the apex-side dart `d0`, with the β1-path `L` ahead (two darts more than there
    are spare pairs) and live, distinct spare darts outside it: a property `Q` of (spare pairs, `d0`, path, state before,
    final state, returned dart) holds of every successful run if it holds when no pair is left and passes from the state
    after one iteration (`FanIter`) back to the state before -/
theorem fanLoop_induct (cfg : Cfg Val) (nn : Nat)
    {Q : List (Nat × Nat) → Nat → List Nat → Map Val → Map Val → Nat → Prop}
    (base : ∀ (d0 : Nat) (L : List Nat) (m : Map Val), Inv n u m → Live n u d0 → B1Chain m d0 L → Q [] d0 L m m d0)
    (step : ∀ (d1 d2 : Nat) (cs : List (Nat × Nat)) (d0 x1 x2 : Nat) (L' : List Nat) (m m5 m' : Map Val) (r : Nat),
      Inv n u m → (∀ x ∈ x1 :: x2 :: L', x ≠ 0) → (sparesOf ((d1, d2) :: cs)).Nodup →
      (∀ z ∈ sparesOf ((d1, d2) :: cs), Live n u z ∧ z ∉ d0 :: x1 :: x2 :: L') → L'.length = cs.length + 1 →
      FanIter n u m m5 d0 x1 x2 d1 d2 L' → run (fanSews cfg nn d0 x1 x2 d1 d2) m = (.ok (), m5) →
      Q cs d2 (x2 :: L') m5 m' r → Q ((d1, d2) :: cs) d0 (x1 :: x2 :: L') m m' r) :
    ∀ (cs : List (Nat × Nat)) (d0 : Nat) (L : List Nat) (m m' : Map Val) (r : Nat),
      Inv n u m → Live n u d0 → B1Chain m d0 L → L.length = cs.length + 2 → (d0 :: L).Nodup → (∀ x ∈ L, x ≠ 0) →
      (sparesOf cs).Nodup → (∀ x ∈ sparesOf cs, Live n u x ∧ x ∉ d0 :: L) →
      run (fanLoop cfg nn d0 cs) m = (.ok r, m') → Q cs d0 L m m' r := by
  intro cs
  induction cs with
  | nil =>
      intro d0 L m m' r hi hd0 hch _ _ _ _ _ h
      simp [fanLoop] at h
      obtain ⟨rfl, rfl⟩ := h
      exact base d0 L m hi hd0 hch
  | cons c rest ih =>
      intro d0 L m m' r hi hd0 hch hlen hnd hnz hsnd hsp h
      obtain ⟨d1, d2⟩ := c
      have hsnd' := hsnd
      have hsp' := hsp
      rw [sparesOf_cons] at hsnd' hsp'
      simp only [List.nodup_cons, List.mem_cons, not_or] at hsnd'
      match L, hlen with
      | x1 :: x2 :: L', hlen =>
        obtain ⟨l1, hn1⟩ := hsp' d1 (by simp)
        obtain ⟨l2, hn2⟩ := hsp' d2 (by simp)
        obtain ⟨m5, it, hs, hrest⟩ := fan_iter cfg nn hi hd0 hch hnd l1 l2 hsnd'.1.1 hn1 hn2 h
        have hlen' : L'.length = rest.length + 1 := by simp only [List.length_cons] at hlen; omega
        have hnd5 := hnd
        have o2 := hn2
        simp only [List.nodup_cons, List.mem_cons, not_or] at hnd5 o2
        refine step d1 d2 rest d0 x1 x2 L' m m5 m' r hi hnz hsnd hsp hlen' it hs
          (ih d2 (x2 :: L') m5 m' r it.inv l2 it.chain' (by rw [List.length_cons, hlen']) ?_
            (fun x hx => hnz x (List.mem_cons_of_mem _ hx)) hsnd'.2.2 (fun x hx => ?_) hrest)
        · simp only [List.nodup_cons, List.mem_cons, not_or]
          exact ⟨⟨o2.2.2.1, o2.2.2.2⟩, hnd5.2.2⟩
        · obtain ⟨a, b⟩ := hsp' x (by simp [hx])
          simp only [List.mem_cons, not_or] at b ⊢
          exact ⟨a, fun c => hsnd'.2.1 (c ▸ hx), b.2.2.1, b.2.2.2⟩

/-- the loop, with everything it does to the β tables -/
theorem fanLoop_struct (cfg : Cfg Val) (nn : Nat) :
    ∀ (cs : List (Nat × Nat)) (d0 : Nat) (L : List Nat) (m m' : Map Val) (r : Nat),
      Inv n u m → Live n u d0 → B1Chain m d0 L → L.length = cs.length + 2 → (d0 :: L).Nodup → (∀ x ∈ L, x ≠ 0) →
      (sparesOf cs).Nodup → (∀ x ∈ sparesOf cs, Live n u x ∧ x ∉ d0 :: L) →
      run (fanLoop cfg nn d0 cs) m = (.ok r, m') →
      Inv n u m' ∧ Live n u r ∧ r = loopEnd d0 cs ∧ B1Chain m' r (L.drop cs.length) ∧
      (∀ t ∈ loopTris d0 L cs, TriFace m' t) ∧
      (∀ c ∈ cs, m'.β 2 c.1 = c.2 ∧ m'.β 2 c.2 = c.1) ∧
      (∀ y, y ∉ sparesOf cs → m'.β 2 y = m.β 2 y) ∧
      (∀ y, y ∉ L.take cs.length → y ∉ sparesOf cs → m'.β 1 y = m.β 1 y) ∧
      (∀ y, y ∉ d0 :: L → y ∉ sparesOf cs → m'.β 0 y = m.β 0 y) := by
  refine fanLoop_induct cfg nn ?_ ?_
  · intro d0 L m hi hd0 hch
    refine ⟨hi, hd0, rfl, by simpa using hch, ?_, by simp, fun _ _ => rfl, fun _ _ _ => rfl, fun _ _ _ => rfl⟩
    intro t ht; cases L <;> simp [loopTris] at ht
  · intro d1 d2 cs d0 x1 x2 L' m m5 m' r _ _ hsnd hsp _ it _ ⟨j1, j2, j3, j4, j5, j6, j7, j8, j9⟩
    rw [sparesOf_cons] at hsnd hsp
    simp only [List.nodup_cons, List.mem_cons, not_or] at hsnd
    have hnd := it.nodup
    have o1 := it.out1
    have o2 := it.out2
    simp only [List.nodup_cons, List.mem_cons, not_or] at hnd o1 o2
    have htake : ∀ z, z ≠ x2 → z ∉ L' → z ∉ (x2 :: L').take cs.length := fun z a b c => by
      have := List.mem_of_mem_take c
      rw [List.mem_cons] at this
      exact this.elim a b
    have hsp0 : ∀ z, z ∈ d0 :: x1 :: x2 :: L' → z ∉ sparesOf cs := fun z hz c => (hsp z (by simp [c])).2 hz
    obtain ⟨t1, t2, t3⟩ := it.tri
    refine ⟨j1, j2, by simp only [loopEnd]; exact j3, by simpa using j4, ?_, ?_, ?_, ?_, ?_⟩
    · intro t ht
      simp only [loopTris, List.mem_cons] at ht
      rcases ht with rfl | ht
      · exact ⟨by rw [← t1]; exact j8 d0 (htake d0 hnd.1.2.1 hnd.1.2.2) (hsp0 d0 (by simp)),
          by rw [← t2]; exact j8 x1 (htake x1 hnd.2.1.1 hnd.2.1.2) (hsp0 x1 (by simp)),
          by rw [← t3]; exact j8 d1 (htake d1 o1.2.2.1 o1.2.2.2) hsnd.1.2⟩
      · exact j5 t ht
    · intro c hc
      rw [List.mem_cons] at hc
      rcases hc with rfl | hc
      · exact ⟨by rw [j7 d1 hsnd.1.2, it.β2, if_neg (Ne.symm hsnd.1.1), if_pos rfl],
          by rw [j7 d2 hsnd.2.1, it.β2, if_pos rfl]⟩
      · exact j6 c hc
    · intro y hy
      rw [sparesOf_cons] at hy
      simp only [List.mem_cons, not_or] at hy
      rw [j7 y hy.2.2, it.β2, if_neg (Ne.symm hy.2.1), if_neg (Ne.symm hy.1)]
    · intro y hy1 hy2
      rw [sparesOf_cons] at hy2
      simp only [List.mem_cons, not_or] at hy2
      simp only [List.length_cons, List.take_succ_cons, List.mem_cons, not_or] at hy1
      rw [j8 y hy1.2 hy2.2.2, it.β1, if_neg (Ne.symm hy2.1), if_neg (Ne.symm hy1.1), if_neg (Ne.symm hy2.2.1),
        if_neg (Ne.symm hy1.1)]
    · intro y hy1 hy2
      rw [sparesOf_cons] at hy2
      simp only [List.mem_cons, not_or] at hy1 hy2
      rw [j9 y (by simp only [List.mem_cons, not_or]; exact ⟨hy2.2.1, hy1.2.2.1, hy1.2.2.2⟩) hy2.2.2,
        it.β_other hy1.1 hy1.2.1 hy1.2.2.1 hy2.1 hy2.2.1]

/-- what a successful fan from the apex dart `s` of the closed face `s :: L` with the spare pairs `cs` leaves:
    * the `|cs| + 1 = n - 2` triangles `(s, c1, p1), (q1, c2, p2), …, (q_last, c_{n-2}, c_{n-1})`, each a closed β1-cycle
      of three darts (`(pj, qj)` the spare pairs in order, `ci` the face darts after `s`);
    * the spare darts 2-linked pair by pair, β2 of every other dart — in particular of every side of the polygon —
      unchanged;
    * every β image of every dart outside the face and the spare darts unchanged (other faces untouched) -/
def FanResult (m m' : Map Val) (s : Nat) (L : List Nat) (cs : List (Nat × Nat)) : Prop :=
  (∃ x1 x2, L.drop cs.length = [x1, x2] ∧
    ∀ t ∈ loopTris s L cs ++ [(loopEnd s cs, x1, x2)], TriFace m' t) ∧
  (loopTris s L cs).length + 1 = L.length - 1 ∧
  (∀ c ∈ cs, m'.β 2 c.1 = c.2 ∧ m'.β 2 c.2 = c.1) ∧
  (∀ y, y ∉ sparesOf cs → m'.β 2 y = m.β 2 y) ∧
  (∀ i y, i < 3 → y ∉ s :: L → y ∉ sparesOf cs → m'.β i y = m.β i y)

theorem ClosedFace.last {m : Map Val} {s : Nat} {L : List Nat} (hc : ClosedFace m s L) (hne : L ≠ []) :
    m.β 1 (L.getLast hne) = s := by
  have hch := hc.chain
  rw [← List.dropLast_concat_getLast hne, List.append_assoc, List.singleton_append, B1Chain.append] at hch
  exact hch.2.1

/-- **a successful `fanFrom`, step by step**, from the apex dart `s` of the closed face `s :: L`: the apex value `v0` is
    read, the dart before `s` (the last dart of the face) is unsewn (`m1`), the loop runs from `s` and returns `r` (`m2`),
    the last two darts `x1`, `x2` of the face are still ahead of `r`, the closing sew `x2 → r` gives `m3`, and the apex
    value is written back -/
theorem fanFrom_elim (cfg : Cfg Val) (nn s : Nat) (nds : List Nat) (L : List Nat) (m m' : Map Val)
    (hi : Inv n u m) (hc : ClosedFace m s L) (hlen : L.length = (chunks2 nds).length + 2)
    (hsnd : (sparesOf (chunks2 nds)).Nodup) (hsp : ∀ x ∈ sparesOf (chunks2 nds), Live n u x ∧ x ∉ s :: L)
    (h : run (fanFrom cfg nn s nds) m = (.ok (), m')) :
    ∃ (vid : Nat) (v0 : Val) (m1 m2 m3 : Map Val) (r x1 x2 vid2 : Nat) (a : Option Val) (hLne : L ≠ []),
      run (vertexId2 nn s) m = (.ok vid, m) ∧ run (rA 0 vid) m = (.ok (some v0), m) ∧
      Live n u s ∧ m.β 0 s = L.getLast hLne ∧ run (oneUnsew2 cfg nn (m.β 0 s)) m = (.ok (), m1) ∧ Inv n u m1 ∧
      (∀ i d, m1.β i d = if 0 = i ∧ s = d then 0 else if 1 = i ∧ m.β 0 s = d then 0 else m.β i d) ∧
      B1Chain m1 s L ∧ run (fanLoop cfg nn s (chunks2 nds)) m1 = (.ok r, m2) ∧ Inv n u m2 ∧ Live n u r ∧
      r = loopEnd s (chunks2 nds) ∧ L.drop (chunks2 nds).length = [x1, x2] ∧ B1Chain m2 r [x1, x2] ∧ Live n u x2 ∧
      run (oneSew2 cfg nn x2 r) m2 = (.ok (), m3) ∧ run (vertexId2 nn s) m3 = (.ok vid2, m3) ∧
      run (writeVtx vid2 v0) m3 = (.ok a, m') := by
  have hp : FacePath m s L := hc.facePath
  have hLne : L ≠ [] := by intro h0; rw [h0] at hlen; simp at hlen
  obtain ⟨vid, v0, m1, m2, r, hvid, hv0, ls, hback, s1, i1, e1, hch1, s2, hcl⟩ :=
    fanFrom_open cfg nn s nds L m m' hi hp h
  -- the dart before `s` is the last dart of the face
  have hlast := hc.last hLne
  have hzlt : L.getLast hLne < m.n :=
    hi.wf.toSized.lt_of_β_ne (i := 1) (by omega) (by rw [hlast]; exact ls.1)
  have hb0 : m.β 0 s = L.getLast hLne := by
    have := hi.wf.inv01 _ hzlt (by rw [hlast]; exact ls.1)
    rw [hlast] at this
    exact this
  obtain ⟨i2, lr, hr, hchr, _⟩ :=
    fanLoop_struct cfg nn _ s L m1 m2 r i1 ls hch1 hlen hp.nodup hp.nz hsnd hsp s2
  have hdrop : (L.drop (chunks2 nds).length).length = 2 := by rw [List.length_drop]; omega
  match hD : L.drop (chunks2 nds).length, hdrop with
  | [x1, x2], _ =>
    rw [hD] at hchr
    have hx2L : x2 ∈ L := List.mem_of_mem_drop (by rw [hD]; simp)
    obtain ⟨m3, vid2, a, lx2, s3, hvid2, s4⟩ := fanClose_elim cfg nn s i2 hchr (hp.nz x2 hx2L) hcl
    exact ⟨vid, v0, m1, m2, m3, r, x1, x2, vid2, a, hLne, hvid, hv0, ls, hb0, s1, i1, e1, hch1, s2, i2, lr, hr, rfl,
      hchr, lx2, s3, hvid2, s4⟩

/-- **C13, exact face structure after the fan** (both `fan_cell` and `fan_convex_cell` end in `fanFrom` from the apex
    dart `s`): on a closed face `s :: L` with `n = |L| + 1 ≥ 4` darts and `2(n-3)` live, pairwise distinct spare
    darts outside the face, a successful run leaves a well-formed map with exactly the `n - 2` triangles of
    `FanResult`, the polygon's sides keep their β2 neighbours, every other face is untouched. -/
theorem C13_fan_structure (cfg : Cfg Val) (nn s : Nat) (nds : List Nat) (L : List Nat) (m m' : Map Val)
    (hi : Inv n u m) (hc : ClosedFace m s L) (hlen : L.length = (chunks2 nds).length + 2)
    (hsnd : (sparesOf (chunks2 nds)).Nodup)
    (hsp : ∀ x ∈ sparesOf (chunks2 nds), Live n u x ∧ x ∉ s :: L)
    (h : run (fanFrom cfg nn s nds) m = (.ok (), m')) :
    Inv n u m' ∧ FanResult m m' s L (chunks2 nds) := by
  unfold FanResult
  obtain ⟨_, v0, m1, m2, m3, r, x1, x2, vid2, _, hLne, _, _, ls, hb0, _, i1, e1, hch1, s2, i2, lr, hr, hD, ⟨c1, c2, _⟩, lx2,
    s3, _, s4⟩ := fanFrom_elim cfg nn s nds L m m' hi hc hlen hsnd hsp h
  have hp : FacePath m s L := hc.facePath
  have hnd := hp.nodup
  simp only [List.nodup_cons] at hnd
  have hzL : L.getLast hLne ∈ L := List.getLast_mem hLne
  obtain ⟨_, _, _, _, htris, hpairs, hf2, hf1, hf0⟩ :=
    fanLoop_struct cfg nn _ s L m1 m2 r i1 ls hch1 hlen hp.nodup hp.nz hsnd hsp s2
  have hx1L : x1 ∈ L := List.mem_of_mem_drop (by rw [hD]; simp)
  have hx2L : x2 ∈ L := List.mem_of_mem_drop (by rw [hD]; simp)
  have hx12 : x1 ≠ x2 := by
    have : (L.drop (chunks2 nds).length).Nodup := hnd.2.sublist (List.drop_sublist _ _)
    rw [hD] at this; simp at this; exact this
  obtain ⟨i3, _, _, e3⟩ := oneSew2_eff cfg nn i2 lx2 lr s3
  have st := attrOnly_writeVtx vid2 v0 m3
  rw [s4] at st
  -- where `r` is: the apex or a spare dart, hence not on `L`
  have hrL : r ∉ L := by
    rcases loopEnd_mem (chunks2 nds) s with e | e
    · rw [hr, e]; exact hnd.1
    · rw [hr]; exact fun hh => (hsp _ e).2 (List.mem_cons_of_mem _ hh)
  have b1 : ∀ y, m'.β 1 y = if x2 = y then r else m2.β 1 y := by
    intro y; rw [st.β, e3]
    simp only [show ¬ (0 = 1) by decide, false_and, if_false, true_and]
  -- x2 is not among the first |cs| darts of L
  have hx2take : x2 ∉ L.take (chunks2 nds).length := by
    intro hh
    have hdis := (List.nodup_append.1 (by rw [List.take_append_drop]; exact hnd.2 :
      (L.take (chunks2 nds).length ++ L.drop (chunks2 nds).length).Nodup)).2.2
    exact hdis x2 hh x2 (by rw [hD]; simp) rfl
  have hx2sp : x2 ∉ sparesOf (chunks2 nds) := fun hh => (hsp x2 hh).2 (List.mem_cons_of_mem _ hx2L)
  refine ⟨i3.sameTopo st, ⟨x1, x2, hD, ?_⟩, ?_, ?_, ?_, ?_⟩
  · intro t ht
    simp only [List.mem_append, List.mem_singleton] at ht
    rcases ht with ht | rfl
    · obtain ⟨a, b, c⟩ := loopTris_mem _ _ _ t ht
      obtain ⟨t1, t2, t3⟩ := htris t ht
      have n1 : x2 ≠ t.1 := by
        rcases a with a | a
        · rw [a]; exact fun hh => hnd.1 (hh ▸ hx2L)
        · exact fun hh => hx2sp (hh ▸ a)
      have n2 : x2 ≠ t.2.1 := fun hh => hx2take (hh ▸ b)
      have n3 : x2 ≠ t.2.2 := fun hh => hx2sp (hh ▸ c)
      exact ⟨by rw [b1, if_neg n1]; exact t1, by rw [b1, if_neg n2]; exact t2,
        by rw [b1, if_neg n3]; exact t3⟩
    · rw [← hr]
      refine ⟨?_, ?_, ?_⟩
      · show m'.β 1 r = x1
        rw [b1, if_neg (fun (hh : x2 = r) => hrL (hh ▸ hx2L))]; exact c1
      · show m'.β 1 x1 = x2
        rw [b1, if_neg (fun hh => hx12 hh.symm)]; exact c2
      · show m'.β 1 x2 = r
        rw [b1, if_pos rfl]
  · rw [loopTris_length _ _ _ (by omega)]; omega
  · intro c hcm
    obtain ⟨a, b⟩ := hpairs c hcm
    have e : ∀ y, m'.β 2 y = m2.β 2 y := by
      intro y; rw [st.β, e3]
      simp only [show ¬ (0 = 2) by decide, show ¬ (1 = 2) by decide, false_and, if_false]
    exact ⟨by rw [e]; exact a, by rw [e]; exact b⟩
  · intro y hy
    have e : m'.β 2 y = m2.β 2 y := by
      rw [st.β, e3]
      simp only [show ¬ (0 = 2) by decide, show ¬ (1 = 2) by decide, false_and, if_false]
    rw [e, hf2 y hy, e1]
    simp only [show ¬ (0 = 2) by decide, show ¬ (1 = 2) by decide, false_and, if_false]
  · intro i y hi3 hyF hySp
    simp only [List.mem_cons, not_or] at hyF
    have hys : s ≠ y := fun hh => hyF.1 hh.symm
    have hyb0 : m.β 0 s ≠ y := by rw [hb0]; exact fun hh => hyF.2 (hh ▸ hzL)
    have hyx2 : x2 ≠ y := fun hh => hyF.2 (hh ▸ hx2L)
    have hyr : r ≠ y := by
      rcases loopEnd_mem (chunks2 nds) s with e | e
      · rw [hr, e]; exact hys
      · rw [hr]; exact fun hh => hySp (hh ▸ e)
    rw [st.β, e3, if_neg (fun hh => hyr hh.2), if_neg (fun hh => hyx2 hh.2)]
    have : i = 0 ∨ i = 1 ∨ i = 2 := by omega
    rcases this with rfl | rfl | rfl
    · rw [hf0 y (by simp only [List.mem_cons, not_or]; exact hyF) hySp, e1,
        if_neg (fun hh => hys hh.2), if_neg (fun hh => absurd hh.1 (by decide))]
    · rw [hf1 y (fun hh => hyF.2 (List.mem_of_mem_take hh)) hySp, e1,
        if_neg (fun hh => absurd hh.1 (by decide)), if_neg (fun hh => hyb0 hh.2)]
    · rw [hf2 y hySp, e1, if_neg (fun hh => absurd hh.1 (by decide)),
        if_neg (fun hh => absurd hh.1 (by decide))]

theorem sparesOf_chunks2_sublist : ∀ (l : List Nat), (sparesOf (chunks2 l)).Sublist l
  | [] => by simp [chunks2, sparesOf]
  | [_] => by simp [chunks2, sparesOf]
  | a :: b :: rest => by
      simp only [chunks2, sparesOf_cons]
      exact ((sparesOf_chunks2_sublist rest).cons_cons b).cons_cons a

/-- **C13, exact face structure, `fan_convex_cell`** on a closed face read from the face dart -/
theorem C13_fan_convex_structure (cfg : Cfg Val) (m m' : Map Val) (face : Nat) (nds : List Nat) (L : List Nat)
    (hwf : WF 3 m) (hc : ClosedFace m face L) (hsp : ∀ d ∈ nds, C01.InUse m d ∧ d ∉ face :: L) (hnd : nds.Nodup)
    (h : run (fanConvexCell cfg m.n face nds) m = (.ok (), m')) :
    WF 3 m' ∧ FanResult m m' face L (chunks2 nds) := by
  obtain ⟨darts, h1, h3, hreq⟩ := C13_fanConvex_kernel cfg m.n face nds m m' h
  have hk := chunks2_length nds
  obtain ⟨hdl, _⟩ := closedFace_orbit hwf hc (by simp) (hc.lt hwf (by simp)) darts h1
  have hsub := sparesOf_chunks2_sublist nds
  obtain ⟨i1, r⟩ := C13_fan_structure (n := m.n) (u := m.u) cfg m.n face nds L m m' (Inv.of_wf hwf) hc
    (by simp at hdl; omega) (hnd.sublist hsub)
    (fun x hx => ⟨(hsp x (hsub.subset hx)).1, (hsp x (hsub.subset hx)).2⟩) h3
  exact ⟨i1.wf, r⟩

/-- **C13, exact face structure, `fan_cell`**: on a closed face `a :: rest`, a successful run has fanned the face
    from one of its darts `s` — the dart of the index returned by the star search; `s :: L` is the same face read
    from `s` — with the result of `FanResult` -/
theorem C13_fan_cell_structure (cfg : Cfg Val) (m m' : Map Val) (face : Nat) (nds : List Nat)
    (a : Nat) (rest : List Nat) (hwf : WF 3 m) (hc : ClosedFace m a rest) (hf : face ∈ a :: rest)
    (hsp : ∀ d ∈ nds, C01.InUse m d ∧ d ∉ a :: rest) (hnd : nds.Nodup)
    (h : run (fanCell cfg m.n face nds) m = (.ok (), m')) :
    WF 3 m' ∧ ∃ s L, s ∈ a :: rest ∧ ClosedFace m s L ∧ (∀ x, x ∈ s :: L ↔ x ∈ a :: rest) ∧
      FanResult m m' s L (chunks2 nds) := by
  obtain ⟨darts, vals, id, h1, h2, h4, hn, hs, hfrom, _⟩ := C13_fan_kernel_star cfg m.n face nds m m' h
  obtain ⟨hvl, _⟩ := faceVertices_length m.n _ _ _ _ h2
  have hid : id < darts.length := by
    have := (fanStarFrom_some _ _ id hs).1
    simpa [hvl] using this
  have hmem : darts.getD id 0 ∈ darts := by
    rw [List.getD_eq_getElem?_getD, List.getElem?_eq_getElem hid]
    exact List.getElem_mem hid
  obtain ⟨hdl, hin⟩ := closedFace_orbit hwf hc hf (hc.lt hwf hf) darts h1
  obtain ⟨L, hcs, hl, hinL, hcov⟩ := hc.rotate (hin _ hmem)
  have hk := chunks2_length nds
  have hsub := sparesOf_chunks2_sublist nds
  have hiff : ∀ x, x ∈ darts.getD id 0 :: L ↔ x ∈ a :: rest := by
    intro x
    constructor
    · intro hx
      rw [List.mem_cons] at hx
      rcases hx with rfl | hx
      · exact hin _ hmem
      · exact hinL x hx
    · intro hx
      rw [List.mem_cons]
      exact hcov x hx
  obtain ⟨i1, r⟩ := C13_fan_structure (n := m.n) (u := m.u) cfg m.n _ nds L m m' (Inv.of_wf hwf) hcs
    (by omega) (hnd.sublist hsub)
    (fun x hx => ⟨(hsp x (hsub.subset hx)).1, fun hh => (hsp x (hsub.subset hx)).2 ((hiff x).1 hh)⟩) hfrom
  exact ⟨i1.wf, _, L, hin _ hmem, hcs, hiff, r⟩

/-! ## ear clipping: the other faces are untouched, the sides keep their neighbours -/

/-- `D` is closed under the non-null β0 / β1 images -/
def DClosed (D : Nat → Prop) (m : Map Val) : Prop :=
  ∀ y, D y → (m.β 1 y = 0 ∨ D (m.β 1 y)) ∧ (m.β 0 y = 0 ∨ D (m.β 0 y))

/-- a 1-sew / 1-unsew shaped update inside `D` keeps `D` closed and touches nothing outside -/
theorem dstep1 {D : Nat → Prop} {m m' : Map Val} {r l l' r' : Nat}
    (eff : ∀ i d, m'.β i d = if 0 = i ∧ r = d then l else if 1 = i ∧ l' = d then r' else m.β i d)
    (hr : D r) (hl' : D l') (hl : l = 0 ∨ D l) (hr' : r' = 0 ∨ D r') (hc : DClosed D m) :
    DClosed D m' ∧ (∀ i y, ¬ D y → m'.β i y = m.β i y) := by
  refine ⟨fun y hy => ⟨?_, ?_⟩, fun i y hy => ?_⟩
  · rw [eff, if_neg (fun hh => absurd hh.1 (by decide))]
    by_cases c : l' = y
    · rw [if_pos ⟨rfl, c⟩]; exact hr'
    · rw [if_neg (fun hh => c hh.2)]; exact (hc y hy).1
  · rw [eff]
    by_cases c : r = y
    · rw [if_pos ⟨rfl, c⟩]; exact hl
    · rw [if_neg (fun hh => c hh.2), if_neg (fun hh => absurd hh.1 (by decide))]; exact (hc y hy).2
  · rw [eff, if_neg (fun (hh : 0 = i ∧ r = y) => hy (hh.2 ▸ hr)), if_neg (fun (hh : 1 = i ∧ l' = y) => hy (hh.2 ▸ hl'))]

theorem dstep2 {D : Nat → Prop} {m m' : Map Val} {l r : Nat}
    (eff : ∀ i d, m'.β i d = if 2 = i ∧ r = d then l else if 2 = i ∧ l = d then r else m.β i d)
    (hl : D l) (hr : D r) (hc : DClosed D m) :
    DClosed D m' ∧ (∀ i y, ¬ D y → m'.β i y = m.β i y) := by
  refine ⟨fun y hy => ?_, fun i y hy => ?_⟩
  · rw [eff, eff, if_neg (fun hh => absurd hh.1 (by decide)), if_neg (fun hh => absurd hh.1 (by decide)),
      if_neg (fun hh => absurd hh.1 (by decide)), if_neg (fun hh => absurd hh.1 (by decide))]
    exact hc y hy
  · rw [eff, if_neg (fun (hh : 2 = i ∧ r = y) => hy (hh.2 ▸ hr)), if_neg (fun (hh : 2 = i ∧ l = y) => hy (hh.2 ▸ hl))]

theorem getD_mem_of_ne {l : List Nat} {i : Nat} (h : l.getD i 0 ≠ 0) : l.getD i 0 ∈ l := by
  by_cases hi : i < l.length
  · exact getD_mem hi
  · exfalso; apply h
    rw [List.getD_eq_getElem?_getD, List.getElem?_eq_none (by omega)]; rfl

theorem dartSurgery_mem (darts : List Nat) (ear nd2 x : Nat) (h : x ∈ dartSurgery darts ear nd2) :
    x ∈ darts ∨ x = nd2 := by
  unfold dartSurgery swapRemove at h
  have h1 := List.dropLast_subset _ h
  rcases List.mem_or_eq_of_mem_set h1 with h2 | h2
  · simp only [List.mem_append, List.mem_singleton] at h2
    rcases h2 with h3 | h3
    · exact Or.inl (List.mem_of_mem_eraseIdx h3)
    · exact Or.inr h3
  · -- the last element of `erase ++ [nd2]` is `nd2`
    right
    rw [h2, List.getLastD_eq_getLast?]; simp

/-- the ear-clipping loop inside a dart set `D` closed under β0 / β1 (the face and the spare darts): well-formedness,
    nothing outside `D` is touched, β2 only changes at the spare darts, which end up 2-linked pair by pair -/
theorem earclipLoop_frame (cfg : Cfg Val) (nn : Nat) (inside : P2 → P2 → P2 → Bool) (D : Nat → Prop) :
    ∀ (chunks : List (Nat × Nat)) (darts : List Nat) (vs : List P2) (m m' : Map Val),
      Inv n u m → DClosed D m → (∀ x ∈ darts, D x) → (sparesOf chunks).Nodup →
      (∀ c ∈ chunks, Live n u c.1 ∧ Live n u c.2 ∧ D c.1 ∧ D c.2) →
      run (earclipLoop cfg nn inside chunks darts vs) m = (.ok (), m') →
      Inv n u m' ∧ (∀ i y, ¬ D y → m'.β i y = m.β i y) ∧
      (∀ y, y ∉ sparesOf chunks → m'.β 2 y = m.β 2 y) ∧
      (∀ c ∈ chunks, m'.β 2 c.1 = c.2 ∧ m'.β 2 c.2 = c.1) := by
  intro chunks
  induction chunks with
  | nil =>
      intro darts vs m m' hi _ _ _ _ h
      unfold earclipLoop at h
      by_cases h3 : vs.length = 3
      · simp [h3] at h; rw [← h]
        exact ⟨hi, fun _ _ _ => rfl, fun _ _ => rfl, by simp⟩
      · simp [h3] at h
  | cons x rest ih =>
      intro darts vs m m' hi hcl hdarts hsnd hsp h
      obtain ⟨nd1, nd2⟩ := x
      obtain ⟨l1, l2, D1, D2⟩ := hsp (nd1, nd2) (by simp)
      rw [sparesOf_cons] at hsnd
      simp only [List.nodup_cons, List.mem_cons, not_or] at hsnd
      have hne : nd1 ≠ nd2 := hsnd.1.1
      unfold earclipLoop at h
      cases hf : findEar inside vs with
      | none => simp [hf] at h
      | some ear =>
          simp only [hf] at h
          obtain ⟨_, hE1, h⟩ := rB_ok hi h
          obtain ⟨_, hE2, h⟩ := rB_ok hi h
          obtain ⟨_, m1, s1, h⟩ := run_bind_ok h
          obtain ⟨i1, lb0, _, e1⟩ := oneUnsew2_eff cfg nn hi s1
          have lE1 : Live n u (darts.getD ear 0) := hi.live_source (by omega) hE1 lb0.1
          have DE1 : D (darts.getD ear 0) := hdarts _ (getD_mem_of_ne lE1.1)
          have Db0 : D (m.β 0 (darts.getD ear 0)) := by
            rcases (hcl _ DE1).2 with c | c
            · exact absurd c lb0.1
            · exact c
          have hback : m.β 1 (m.β 0 (darts.getD ear 0)) = darts.getD ear 0 :=
            hi.wf.inv10 _ (by rw [hi.n_eq]; exact hE1) lb0.1
          rw [hback] at e1
          obtain ⟨c1, g1⟩ := dstep1 e1 DE1 Db0 (Or.inl rfl) (Or.inl rfl) hcl
          obtain ⟨_, m2, s2, h⟩ := run_bind_ok h
          obtain ⟨i2, lE2, lb1', e2⟩ := oneUnsew2_eff cfg nn i1 s2
          have DE2 : D (darts.getD ((ear + 1) % vs.length) 0) := hdarts _ (getD_mem_of_ne lE2.1)
          have hb1eq : m1.β 1 (darts.getD ((ear + 1) % vs.length) 0) = m.β 1 (darts.getD ((ear + 1) % vs.length) 0) := by
            rw [e1, if_neg (fun hh => absurd hh.1 (by decide))]
            by_cases hc : m.β 0 (darts.getD ear 0) = darts.getD ((ear + 1) % vs.length) 0
            · exfalso
              have := lb1'.1
              rw [e1, if_neg (fun hh => absurd hh.1 (by decide)), if_pos ⟨rfl, hc⟩] at this
              exact this rfl
            · rw [if_neg (fun hh => hc hh.2)]
          rw [hb1eq] at lb1' e2
          have Db1 : D (m.β 1 (darts.getD ((ear + 1) % vs.length) 0)) := by
            rcases (hcl _ DE2).1 with c | c
            · exact absurd c lb1'.1
            · exact c
          obtain ⟨c2, g2⟩ := dstep1 e2 Db1 DE2 (Or.inl rfl) (Or.inl rfl) c1
          obtain ⟨_, m3, s3, h⟩ := run_bind_ok h
          obtain ⟨i3, _, _, e3⟩ := oneSew2_eff cfg nn i2 lE2 l1 s3
          obtain ⟨c3, g3⟩ := dstep1 e3 D1 DE2 (Or.inr DE2) (Or.inr D1) c2
          obtain ⟨_, m4, s4, h⟩ := run_bind_ok h
          obtain ⟨i4, _, _, e4⟩ := oneSew2_eff cfg nn i3 l1 lE1 s4
          obtain ⟨c4, g4⟩ := dstep1 e4 DE1 D1 (Or.inr D1) (Or.inr DE1) c3
          obtain ⟨_, m5, s5, h⟩ := run_bind_ok h
          obtain ⟨i5, _, _, e5⟩ := oneSew2_eff cfg nn i4 lb0 l2 s5
          obtain ⟨c5, g5⟩ := dstep1 e5 D2 Db0 (Or.inr Db0) (Or.inr D2) c4
          obtain ⟨_, m6, s6, h⟩ := run_bind_ok h
          obtain ⟨i6, _, _, e6⟩ := oneSew2_eff cfg nn i5 l2 lb1' s6
          obtain ⟨c6, g6⟩ := dstep1 e6 Db1 D2 (Or.inr D2) (Or.inr Db1) c5
          obtain ⟨_, m7, s7, h⟩ := run_bind_ok h
          obtain ⟨i7, _, _, e7⟩ := twoSew2_eff cfg nn i6 l1 l2 hne s7
          obtain ⟨c7, g7⟩ := dstep2 e7 D1 D2 c6
          have b2 : ∀ y, m7.β 2 y = if nd2 = y then nd1 else if nd1 = y then nd2 else m.β 2 y := by
            intro y
            rw [e7, eff1_β2 e6, eff1_β2 e5, eff1_β2 e4, eff1_β2 e3, eff1_β2 e2, eff1_β2 e1]
            simp only [true_and]
          have hdarts' : ∀ x ∈ dartSurgery darts ear nd2, D x := by
            intro x hx
            rcases dartSurgery_mem darts ear nd2 x hx with c | c
            · exact hdarts x c
            · rw [c]; exact D2
          obtain ⟨j1, j2, j3, j4⟩ := ih _ _ m7 m' i7 c7 hdarts' hsnd.2.2 (fun c hc => hsp c (by simp [hc])) h
          refine ⟨j1, fun i y hy => ?_, fun y hy => ?_, fun c hc => ?_⟩
          · rw [j2 i y hy, g7 i y hy, g6 i y hy, g5 i y hy, g4 i y hy, g3 i y hy, g2 i y hy, g1 i y hy]
          · rw [sparesOf_cons] at hy
            simp only [List.mem_cons, not_or] at hy
            rw [j3 y hy.2.2, b2, if_neg (fun hh => hy.2.1 hh.symm), if_neg (fun hh => hy.1 hh.symm)]
          · simp only [List.mem_cons] at hc
            rcases hc with rfl | hc
            · exact ⟨by rw [j3 _ hsnd.1.2, b2, if_neg (fun hh => hne hh.symm), if_pos rfl],
                by rw [j3 _ hsnd.2.1, b2, if_pos rfl]⟩
            · exact j4 c hc

/-- **C13, well-formedness (ear clipping)**: a successful `earclip_cell_countercw` / `earclip_cell_cw` keeps a
    well-formed 2-map well formed — any face, any polygon, any ears.  User-side hypotheses: the spare darts are live
    darts (non-null, existing, not removed) and pairwise distinct; everything else is established by the code's own
    reads and by the success of its unsews. -/
theorem C13_earclip_preserves_WF (cfg : Cfg Val) (inside : P2 → P2 → P2 → Bool) (m m' : Map Val) (face : Nat)
    (nds : List Nat) (hwf : WF 3 m) (hsp : ∀ d ∈ nds, C01.InUse m d) (hnd : nds.Nodup)
    (h : run (earclipCell cfg m.n inside face nds) m = (.ok (), m')) : WF 3 m' := by
  obtain ⟨darts, vals, h1, _, h4, _⟩ := C13_earclip_kernel_loop cfg m.n inside face nds m m' h
  -- the frame lemma with the trivial dart set
  exact (earclipLoop_frame (n := m.n) (u := m.u) cfg m.n inside (fun _ => True) _ _ _ _ _ (Inv.of_wf hwf)
    (fun _ _ => ⟨Or.inr trivial, Or.inr trivial⟩) (fun _ _ => trivial)
    (hnd.sublist (sparesOf_chunks2_sublist nds))
    (fun c hcm => ⟨hsp _ (chunks2_mem nds c hcm).1, hsp _ (chunks2_mem nds c hcm).2, trivial, trivial⟩) h4).1.wf

/-- **C13, frame for ear clipping**: on a closed face `a :: rest` with live, pairwise distinct spare darts outside the
    face, a successful `earclip_cell_*` leaves a well-formed map in which every β image of every dart outside the face
    and the spare darts is unchanged (other faces untouched), β2 of every face dart — the neighbour across each side of
    the polygon — is unchanged, and the spare darts are 2-linked pair by pair (the new diagonals) -/
theorem C13_earclip_frame (cfg : Cfg Val) (inside : P2 → P2 → P2 → Bool) (m m' : Map Val) (face : Nat)
    (nds : List Nat) (a : Nat) (rest : List Nat) (hwf : WF 3 m) (hc : ClosedFace m a rest) (hf : face ∈ a :: rest)
    (hsp : ∀ d ∈ nds, C01.InUse m d ∧ m.isFree 3 d = true ∧ d ∉ a :: rest) (hnd : nds.Nodup)
    (h : run (earclipCell cfg m.n inside face nds) m = (.ok (), m')) :
    WF 3 m' ∧
    (∀ i y, y ∉ a :: rest → y ∉ nds → m'.β i y = m.β i y) ∧
    (∀ y, y ∉ sparesOf (chunks2 nds) → m'.β 2 y = m.β 2 y) ∧
    (∀ c ∈ chunks2 nds, m'.β 2 c.1 = c.2 ∧ m'.β 2 c.2 = c.1) := by
  obtain ⟨darts, vals, h1, _, h4, _⟩ := C13_earclip_kernel_loop cfg m.n inside face nds m m' h
  obtain ⟨_, hin⟩ := closedFace_orbit hwf hc hf (hc.lt hwf hf) darts h1
  have hsub := sparesOf_chunks2_sublist nds
  -- the face and the spare darts are closed under β0 / β1
  have hD : DClosed (fun y => y ∈ a :: rest ∨ y ∈ nds) m := by
    intro y hy
    rcases hy with hy | hy
    · obtain ⟨L, hcy, _, hinL, hcov⟩ := hc.rotate hy
      constructor
      · right; left
        have := hcy.chain
        cases L with
        | nil => simp only [List.nil_append, B1Chain] at this; rw [this.1]; exact hy
        | cons z L' => rw [this.1]; exact hinL z (by simp)
      · -- β0 y is the predecessor on the cycle
        by_cases c : m.β 0 y = 0
        · exact Or.inl c
        · right; left
          have hylt := hc.lt hwf hy
          have hb := hwf.inv10 y hylt c
          -- the predecessor is the last dart of the face read from `y`
          cases L with
          | nil =>
              have := hcy.chain
              simp only [List.nil_append, B1Chain] at this
              have e0 := hwf.inv01 y hylt (by rw [this.1]; exact hc.nz y hy)
              rw [this.1] at e0; rw [e0]; exact hy
          | cons z L' =>
              have hl := hcy.last (by simp)
              have hzlt : (z :: L').getLast (by simp) < m.n :=
                hwf.toSized.lt_of_β_ne (i := 1) (by omega) (by rw [hl]; exact hc.nz y hy)
              have e0 := hwf.inv01 _ hzlt (by rw [hl]; exact hc.nz y hy)
              rw [hl] at e0; rw [e0]
              exact hinL _ (List.getLast_mem _)
    · have hfr := (hsp y hy).2.1
      exact ⟨Or.inl ((isFree_iff m 3 y).1 hfr 1 (by omega)), Or.inl ((isFree_iff m 3 y).1 hfr 0 (by omega))⟩
  obtain ⟨j1, j2, j3, j4⟩ := earclipLoop_frame (n := m.n) (u := m.u) cfg m.n inside
    (fun y => y ∈ a :: rest ∨ y ∈ nds) (chunks2 nds) darts _ m m' (Inv.of_wf hwf) hD
    (fun x hx => Or.inl (hin x hx)) (hnd.sublist hsub)
    (fun c hcm => by
      obtain ⟨p, q⟩ := chunks2_mem nds c hcm
      exact ⟨(hsp _ p).1, (hsp _ q).1, Or.inr p, Or.inr q⟩) h4
  exact ⟨j1.wf, fun i y hy1 hy2 => j2 i y (fun hh => hh.elim hy1 hy2), j3, j4⟩

/-! ## non-vacuity -/

theorem d7_closed : ClosedFace d7Map 1 [2, 3, 4, 5] := ⟨by decide +kernel, by decide, by decide⟩

/-- the pentagon face 1-2-3-4-5 of `d7Map` with spare darts 6–9: ear clipping, fan (apex 1) and the convex fan all
    succeed and the theorems apply -/
example : WF 3 (run (earclipCell (stdCfg 3 0) d7Map.n insideCCW 1 [6, 7, 8, 9]) d7Map).2 :=
  C13_earclip_preserves_WF _ _ d7Map _ 1 [6, 7, 8, 9] d7_wf (by decide +kernel) (by decide) (run_eq_of_fst (congrArg Prod.fst d7_earclip_run))

example : ClosedFace d7Map 1 [2, 3, 4, 5] := d7_closed

example : WF 3 (run (fanCell (stdCfg 3 0) d7Map.n 1 [6, 7, 8, 9]) d7Map).2 :=
  C13_fan_preserves_WF_closed_face _ d7Map _ 1 [6, 7, 8, 9] 1 [2, 3, 4, 5] d7_wf d7_closed (by decide)
    (by decide +kernel) (by decide) (run_eq_of_fst (congrArg Prod.fst d7_fan_run))

example : WF 3 (run (fanConvexCell (stdCfg 3 0) d7Map.n 1 [6, 7, 8, 9]) d7Map).2 :=
  C13_fan_convex_preserves_WF _ d7Map _ 1 [6, 7, 8, 9] [2, 3, 4, 5] d7_wf d7_closed.facePath
    (fun darts hd => (closedFace_orbit d7_wf d7_closed (by decide) (by decide) darts hd).1.symm)
    (by decide +kernel) (by decide) (run_eq_of_fst (congrArg Prod.fst d7_fanConvex_run))

/-- the structure theorem on the pentagon: `fan_convex_cell` from dart 1 leaves the triangles (1,2,6), (7,3,8),
    (9,4,5), the spare pairs 6–7, 8–9 2-linked, and nothing else changed -/
example : FanResult d7Map (run (fanConvexCell (stdCfg 3 0) d7Map.n 1 [6, 7, 8, 9]) d7Map).2 1 [2, 3, 4, 5]
    [(6, 7), (8, 9)] :=
  (C13_fan_convex_structure _ d7Map _ 1 [6, 7, 8, 9] [2, 3, 4, 5] d7_wf d7_closed (by decide +kernel) (by decide)
    (run_eq_of_fst (congrArg Prod.fst d7_fanConvex_run))).2
example : loopTris 1 [2, 3, 4, 5] [(6, 7), (8, 9)] ++ [(loopEnd 1 [(6, 7), (8, 9)], 4, 5)]
    = [(1, 2, 6), (7, 3, 8), (9, 4, 5)] := by decide
example : ∀ t ∈ [(1, 2, 6), (7, 3, 8), (9, 4, 5)],
    TriFace (run (fanConvexCell (stdCfg 3 0) d7Map.n 1 [6, 7, 8, 9]) d7Map).2 t := by
  rw [d7_fanConvex_run]
  decide +kernel
/-- `fan_cell` on the same face fans it from dart 2 (vertex (2,1), index 1 of the star search) -/
example : ∃ s L, s ∈ [1, 2, 3, 4, 5] ∧ ClosedFace d7Map s L ∧ (∀ x, x ∈ s :: L ↔ x ∈ [1, 2, 3, 4, 5]) ∧
    FanResult d7Map (run (fanCell (stdCfg 3 0) d7Map.n 1 [6, 7, 8, 9]) d7Map).2 s L [(6, 7), (8, 9)] :=
  (C13_fan_cell_structure _ d7Map _ 1 [6, 7, 8, 9] 1 [2, 3, 4, 5] d7_wf d7_closed (by decide) (by decide +kernel)
    (by decide) (run_eq_of_fst (congrArg Prod.fst d7_fan_run))).2

/-- the frame theorem for ear clipping on the pentagon: the diagonals 6–7 and 8–9 are 2-linked, nothing outside
    the face and the spare darts moves -/
example : ∀ c ∈ [(6, 7), (8, 9)],
    (run (earclipCell (stdCfg 3 0) d7Map.n insideCCW 1 [6, 7, 8, 9]) d7Map).2.β 2 c.1 = c.2 ∧
    (run (earclipCell (stdCfg 3 0) d7Map.n insideCCW 1 [6, 7, 8, 9]) d7Map).2.β 2 c.2 = c.1 :=
  (C13_earclip_frame _ _ d7Map _ 1 [6, 7, 8, 9] 1 [2, 3, 4, 5] d7_wf d7_closed (by decide) (by decide +kernel)
    (by decide) (run_eq_of_fst (congrArg Prod.fst d7_earclip_run))).2.2.2

end HC.C13

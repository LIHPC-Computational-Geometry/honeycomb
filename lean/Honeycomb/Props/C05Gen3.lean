/-
  C05 — `CMap3::three_sew` / `three_unsew` (dim3/sews/three.rs), the two sews with `for` loops, TRANSLATED from the
  source on every run (`Gen/Sews3Loops.lean`, written by tools/gen_lean.py sews3c): a skeleton (the two face walks,
  their minima, the accumulators, the loops, the straight-line statements between them) and the bodies of the loops,
  instruction by instruction.  Interpreted in the model's transaction monad they are EQUAL as programs to the
  hand-written `threeSew3` / `threeUnsew3` of Model/Ops3.lean (and the loop bodies to one unfolding of
  `threeSewCollect` / `threeUnsewLoop`), which the C05 theorems are proved about.  What they call is tied elsewhere
  (`three_link` / `three_unlink`: Props/C02Gen3.lean; `AttrSparseVec::merge` / `split`: Props/C04Gen.lean; the images
  of `vertex_id_transac` / `edge_id_transac` and of the `Custom` policy: Props/C03Gen.lean) or stays hand-written
  (`merge_attributes` / `split_attributes` over the storages, the traversal itself).
-/
import Honeycomb.Gen.Sews3Loops
import Honeycomb.Model.Ops3
import Honeycomb.Props.C05

namespace HC.GenTie
open HC HC.C05
variable {X : Type}

/-- the two accumulators of `three_sew` (`edges`, `vertices`) -/
abbrev Accs3 := List (Nat × Nat) × List (Nat × Nat)

/-- operand of a generated instruction: parameters / loop variables, the null dart, bound variables -/
def s3cArg (l r : Nat) (env : List Nat) : Nat → Nat
  | 0 => l
  | 1 => r
  | 2 => 0
  | n => env.getD (n - 20) 0

/-- the meaning of a straight-line block (see the header of Gen/Sews3Loops.lean), in continuation-passing style: `k`
    receives the variables and the accumulators at the end of the block; the fuel only makes the recursion structural -/
def interpS3c {α : Type} (cfg : Cfg X) (n l r : Nat) :
    Nat → List Nat → Accs3 → List (Nat × List Nat) → (List Nat → Accs3 → P X α) → P X α
  | 0, _, _, _, _ => Prog.panic
  | _ + 1, env, acc, [], k => k env acc
  | f + 1, env, acc, (1, [i, a]) :: rest, k => do
      let v ← rB i (s3cArg l r env a)
      interpS3c cfg n l r f (env ++ [v]) acc rest k
  | f + 1, env, acc, (5, [a]) :: rest, k => do
      let v ← vertexId3 n (s3cArg l r env a)
      interpS3c cfg n l r f (env ++ [v]) acc rest k
  | f + 1, env, acc, (10, [a]) :: rest, k => do
      let v ← edgeId3 n (s3cArg l r env a)
      interpS3c cfg n l r f (env ++ [v]) acc rest k
  | f + 1, env, acc, (6, [0, x, y, z]) :: rest, k => do
      mergeS cfg 0 (s3cArg l r env x) (s3cArg l r env y) (s3cArg l r env z)
      interpS3c cfg n l r f env acc rest k
  | f + 1, env, acc, (6, [1, x, y, z]) :: rest, k => do
      splitS cfg 0 (s3cArg l r env x) (s3cArg l r env y) (s3cArg l r env z)
      interpS3c cfg n l r f env acc rest k
  | f + 1, env, acc, (7, [0, p, x, y, z]) :: rest, k => do
      mergeAttrs cfg p (s3cArg l r env x) (s3cArg l r env y) (s3cArg l r env z)
      interpS3c cfg n l r f env acc rest k
  | f + 1, env, acc, (7, [1, p, x, y, z]) :: rest, k => do
      splitAttrs cfg p (s3cArg l r env x) (s3cArg l r env y) (s3cArg l r env z)
      interpS3c cfg n l r f env acc rest k
  | f + 1, env, acc, (11, [vl, vb1r, vb1l, vr, i, a, b]) :: rest, k => do
      let pl ← rA 0 (s3cArg l r env vl)
      let pb1r ← rA 0 (s3cArg l r env vb1r)
      let pb1l ← rA 0 (s3cArg l r env vb1l)
      let pr ← rA 0 (s3cArg l r env vr)
      if badPair cfg pl pb1r pb1l pr then abort (errBadGeometry i (s3cArg l r env a) (s3cArg l r env b)) else
      interpS3c cfg n l r f env acc rest k
  | f + 1, env, acc, (15, [a, b]) :: rest, k =>
      interpS3c cfg n l r f (env ++ [min (s3cArg l r env a) (s3cArg l r env b)]) acc rest k
  | f + 1, env, acc, (18, [x, y, z]) :: rest, k =>
      interpS3c cfg n l r f (env ++ [if s3cArg l r env x = 0 then s3cArg l r env y else s3cArg l r env z]) acc rest k
  | f + 1, env, acc, (19, [a, m]) :: rest, k =>
      if s3cArg l r env a = 0 then
        interpS3c cfg n l r f env acc (rest.take m) (fun _ acc' => interpS3c cfg n l r f env acc' (rest.drop m) k)
      else interpS3c cfg n l r f env acc (rest.drop m) k
  | f + 1, env, acc, (20, [0, a, b]) :: rest, k =>
      interpS3c cfg n l r f env (acc.1 ++ [(s3cArg l r env a, s3cArg l r env b)], acc.2) rest k
  | f + 1, env, acc, (20, [1, a, b]) :: rest, k =>
      interpS3c cfg n l r f env (acc.1, acc.2 ++ [(s3cArg l r env a, s3cArg l r env b)]) rest k
  | f + 1, env, acc, (21, [0, 3, a, b]) :: rest, k => do
      threeLink3 n (s3cArg l r env a) (s3cArg l r env b)
      interpS3c cfg n l r f env acc rest k
  | f + 1, env, acc, (21, [1, 3, a, _]) :: rest, k => do
      threeUnlink3 n (s3cArg l r env a)
      interpS3c cfg n l r f env acc rest k
  | _, _, _, _, _ => Prog.panic

/-- a loop body run on the loop variables `l`, `r`: no variable bound yet, the variables are dropped at the end -/
def runBlockS3c {α : Type} (cfg : Cfg X) (n l r : Nat) (acc : Accs3) (body : List (Nat × List Nat))
    (k : Accs3 → P X α) : P X α :=
  interpS3c cfg n l r (body.length + 1) [] acc body (fun _ a => k a)

/-- `for (l, r) in <list of pairs> { body }` with the accumulators threaded through -/
def zipLoopS {α : Type} (body : Nat → Nat → Accs3 → (Accs3 → P X α) → P X α) :
    List (Nat × Nat) → Accs3 → (Accs3 → P X α) → P X α
  | [], acc, k => k acc
  | (l, r) :: rest, acc, k => body l r acc (fun acc' => zipLoopS body rest acc' k)

/-- the `filter` closure of a merge loop: `a1 != b1 && a2 != b2 && …` over 0, 1 = the components, 2 = the null dart -/
def condAllS (p : Nat × Nat) : List Nat → Bool
  | [] => true
  | a :: b :: rest => decide (s3cArg p.1 p.2 [] a ≠ s3cArg p.1 p.2 [] b) && condAllS p rest
  | [_] => false

/-- the meaning of a skeleton; `sides` are the collected walks with their start darts -/
def interpS3cSkel (cfg : Cfg X) (n ld rd : Nat) (bodies : List (List (Nat × List Nat))) :
    Nat → List Nat → List (List Nat × Nat) → Accs3 → List (Nat × List Nat) → P X Unit
  | 0, _, _, _, _ => Prog.panic
  | _ + 1, _, _, _, [] => pure ()
  | f + 1, env, sides, acc, (40, a :: g) :: rest => do
      let o ← orbitWith n (gen3 (.custom g)) (s3cArg ld rd env a)
      interpS3cSkel cfg n ld rd bodies f env (sides ++ [(o, s3cArg ld rd env a)]) acc rest
  | f + 1, env, sides, acc, (41, [s]) :: rest =>
      match sides[s]? with
      | some (o, d) => interpS3cSkel cfg n ld rd bodies f (env ++ [listMin o d]) sides acc rest
      | none => Prog.panic
  | f + 1, env, sides, acc, (42, [0]) :: rest => interpS3cSkel cfg n ld rd bodies f env sides ([], acc.2) rest
  | f + 1, env, sides, acc, (42, [1]) :: rest => interpS3cSkel cfg n ld rd bodies f env sides (acc.1, []) rest
  | f + 1, env, sides, acc, (43, [s, t, b]) :: rest =>
      match sides[s]?, sides[t]?, bodies[b]? with
      | some (o1, _), some (o2, _), some body =>
          zipLoopS (fun l r a k => runBlockS3c cfg n l r a body k) (o1.zip o2) acc
            (fun acc' => interpS3cSkel cfg n ld rd bodies f env sides acc' rest)
      | _, _, _ => Prog.panic
  | f + 1, env, sides, acc, (44, 0 :: b :: c) :: rest =>
      match bodies[b]? with
      | some body => do
          HC.forM_ (acc.1.filter (fun p => condAllS p c)) (fun p => runBlockS3c cfg n p.1 p.2 acc body (fun _ => pure ()))
          interpS3cSkel cfg n ld rd bodies f env sides acc rest
      | none => Prog.panic
  | f + 1, env, sides, acc, (44, 1 :: b :: c) :: rest =>
      match bodies[b]? with
      | some body => do
          HC.forM_ (acc.2.filter (fun p => condAllS p c)) (fun p => runBlockS3c cfg n p.1 p.2 acc body (fun _ => pure ()))
          interpS3cSkel cfg n ld rd bodies f env sides acc rest
      | none => Prog.panic
  | f + 1, env, sides, acc, (45, op :: args) :: rest =>
      interpS3c cfg n ld rd 2 env acc [(op, args)]
        (fun env' acc' => interpS3cSkel cfg n ld rd bodies f env' sides acc' rest)
  | _, _, _, _, _ => Prog.panic

/-- **one turn of the collecting loop of `three_sew`**: one unfolding of the model's loop is the translated body
    followed by the loop on the rest -/
theorem C05_gen_threeSewCollect_step (cfg : Cfg X) (n l r : Nat) (rest es vs : List (Nat × Nat)) :
    threeSewCollect (X := X) n ((l, r) :: rest) es vs =
      runBlockS3c cfg n l r (es, vs) Gen.threeSewBody0 (fun acc => threeSewCollect n rest acc.1 acc.2) := by
  simp only [runBlockS3c, Gen.threeSewBody0, List.length, interpS3c, s3cArg, threeSewCollect, List.drop, List.take,
    List.getD, List.nil_append, List.cons_append, List.append_assoc, Prog.bind_eq]
  rfl

theorem threeUnsewLoop_cons (cfg : Cfg X) (n : Nat) (p : Nat × Nat) (rest : List (Nat × Nat)) :
    threeUnsewLoop cfg n (p :: rest) = (threeUnsewLoop cfg n [p]).bind (fun _ => threeUnsewLoop cfg n rest) := by
  simp only [threeUnsewLoop, Prog.bind_eq, Prog.bind_assoc, Prog.ite_bind, Prog.pure_eq, Prog.ret_bind]

theorem runBlock_unsewBody0 {α : Type} (cfg : Cfg X) (n l r : Nat) (acc : Accs3) (k : Accs3 → P X α) :
    runBlockS3c cfg n l r acc Gen.threeUnsewBody0 k = (threeUnsewLoop cfg n [(l, r)]).bind (fun _ => k acc) := by
  simp only [runBlockS3c, Gen.threeUnsewBody0, List.length, interpS3c, s3cArg, threeUnsewLoop, List.drop, List.take,
    List.getD, List.nil_append, List.cons_append, Prog.bind_eq, Prog.bind_assoc, Prog.ite_bind, Prog.pure_eq,
    Prog.ret_bind]
  rfl

/-- **one turn of the splitting loop of `three_unsew`** -/
theorem C05_gen_threeUnsewLoop_step (cfg : Cfg X) (n l r : Nat) (rest : List (Nat × Nat)) (acc : Accs3) :
    threeUnsewLoop cfg n ((l, r) :: rest) =
      runBlockS3c cfg n l r acc Gen.threeUnsewBody0 (fun _ => threeUnsewLoop cfg n rest) := by
  rw [runBlock_unsewBody0, threeUnsewLoop_cons cfg n (l, r) rest]

/-- a straight-line block is natural in its continuation (the geometry test aborts, and `abort` absorbs what
    follows by definition) -/
theorem interpS3c_bind {α β : Type} (cfg : Cfg X) (n l r : Nat) (K : β → P X α) (f : Nat) (env : List Nat)
    (acc : Accs3) (body : List (Nat × List Nat)) (k : List Nat → Accs3 → P X β) :
    interpS3c cfg n l r f env acc body (fun e a => (k e a).bind K) =
      (interpS3c cfg n l r f env acc body k).bind K := by
  fun_induction interpS3c cfg n l r f env acc body k <;>
    simp only [interpS3c, Prog.bind_eq, Prog.bind_assoc, Prog.panic_bind, Prog.ite_bind, if_true, if_false, *]
  rfl

/-- **the collecting loop of `three_sew`**: the `for` loop over the translated body is `threeSewCollect` -/
theorem C05_gen_threeSewCollect {α : Type} (cfg : Cfg X) (n : Nat) (K : Accs3 → P X α) :
    ∀ (zs es vs : List (Nat × Nat)),
      zipLoopS (fun l r a k => runBlockS3c cfg n l r a Gen.threeSewBody0 k) zs (es, vs) K =
        (threeSewCollect n zs es vs).bind K
  | [], _, _ => rfl
  | (l, r) :: rest, es, vs => by
      have ih : (fun acc' : Accs3 => zipLoopS (fun l r a k => runBlockS3c cfg n l r a Gen.threeSewBody0 k) rest acc' K) =
          fun acc' => (threeSewCollect n rest acc'.1 acc'.2).bind K :=
        funext (fun a => C05_gen_threeSewCollect cfg n K rest a.1 a.2)
      rw [C05_gen_threeSewCollect_step cfg, zipLoopS, ih]
      exact interpS3c_bind cfg n l r K _ _ _ _ _

/-- **the splitting loop of `three_unsew`**: the `for` loop over the translated body is `threeUnsewLoop` (it leaves
    the accumulators alone) -/
theorem C05_gen_threeUnsewLoop {α : Type} (cfg : Cfg X) (n : Nat) (acc : Accs3) (K : Accs3 → P X α) :
    ∀ (zs : List (Nat × Nat)),
      zipLoopS (fun l r a k => runBlockS3c cfg n l r a Gen.threeUnsewBody0 k) zs acc K =
        (threeUnsewLoop cfg n zs).bind (fun _ => K acc)
  | [] => rfl
  | (l, r) :: rest => by
      have ih : (fun acc' : Accs3 => zipLoopS (fun l r a k => runBlockS3c cfg n l r a Gen.threeUnsewBody0 k) rest acc' K) =
          fun acc' => (threeUnsewLoop cfg n rest).bind (fun _ => K acc') :=
        funext (fun a => C05_gen_threeUnsewLoop cfg n a K rest)
      rw [zipLoopS, ih, runBlock_unsewBody0, threeUnsewLoop_cons cfg n (l, r) rest, Prog.bind_assoc]

/-- the translated `filter` closure of both merge loops is `keepPair` -/
theorem condAllS_keepPair : (fun p : Nat × Nat => condAllS p [0, 1, 0, 2, 1, 2]) = keepPair := by
  funext p
  simp [condAllS, s3cArg, keepPair]

/-- body of the edge-merging loop of `three_sew` -/
theorem runBlock_sewBody1 (cfg : Cfg X) (n a b : Nat) (acc : Accs3) :
    runBlockS3c cfg n a b acc Gen.threeSewBody1 (fun _ => Prog.ret ()) = mergeAttrs cfg 1 (min a b) a b := by
  simp only [runBlockS3c, Gen.threeSewBody1, List.length, interpS3c, s3cArg, List.getD, List.nil_append,
    Prog.bind_eq, Prog.bind_unit]
  rfl

/-- body of the vertex-merging loop of `three_sew` -/
theorem runBlock_sewBody2 (cfg : Cfg X) (n a b : Nat) (acc : Accs3) :
    runBlockS3c cfg n a b acc Gen.threeSewBody2 (fun _ => Prog.ret ()) =
      (mergeS cfg 0 (min a b) a b).bind (fun _ => mergeAttrs cfg 0 (min a b) a b) := by
  simp only [runBlockS3c, Gen.threeSewBody2, List.length, interpS3c, s3cArg, List.getD, List.nil_append,
    List.cons_append, Prog.bind_eq, Prog.bind_unit]
  rfl

/-- **tie of `CMap3::three_sew`**: the interpreted skeleton, looping over the interpreted bodies, is `threeSew3` -/
theorem C05_gen_threeSew3 (cfg : Cfg X) (n ld rd : Nat) :
    interpS3cSkel cfg n ld rd Gen.threeSewBodies 32 [] [] ([], []) Gen.threeSewSkel = threeSew3 cfg n ld rd := by
  simp only [Gen.threeSewSkel, Gen.threeSewBodies, interpS3cSkel, interpS3c, s3cArg, threeSew3, faceOrbits3,
    List.getD, List.nil_append, List.cons_append, List.getElem?_cons_zero, List.getElem?_cons_succ,
    Option.getD_some, Nat.sub_self, C05_gen_threeSewCollect, condAllS_keepPair, runBlock_sewBody1, runBlock_sewBody2,
    badPair, Prog.bind_eq, Prog.pure_eq, Prog.bind_assoc, Prog.ret_bind, Prog.bind_unit]
  rfl

/-- **tie of `CMap3::three_unsew`** -/
theorem C05_gen_threeUnsew3 (cfg : Cfg X) (n ld : Nat) :
    interpS3cSkel cfg n ld 0 Gen.threeUnsewBodies 16 [] [] ([], []) Gen.threeUnsewSkel = threeUnsew3 cfg n ld := by
  simp only [Gen.threeUnsewSkel, Gen.threeUnsewBodies, interpS3cSkel, interpS3c, s3cArg, threeUnsew3, faceOrbits3,
    List.getD, List.nil_append, List.cons_append, List.getElem?_cons_zero, List.getElem?_cons_succ,
    C05_gen_threeUnsewLoop, Prog.bind_eq, Prog.pure_eq, Prog.bind_assoc, Prog.ret_bind, Prog.bind_unit]
  rfl

/-- **C05 (a) stated on the translated code**: a successful run of the translated `CMap3::three_sew` leaves exactly
    the topology of `three_link`, one of the translated `three_unsew` exactly that of `three_unlink` -/
theorem C05_gen_three_sews_topology (cfg : Cfg X) (n ld rd : Nat) (m m' : Map X) (u : Unit) :
    (run (interpS3cSkel cfg n ld rd Gen.threeSewBodies 32 [] [] ([], []) Gen.threeSewSkel) m = (.ok u, m') →
      ∃ m1, run (threeLink3 (X := X) n ld rd) m = (.ok (), m1) ∧ SameTopo m1 m') ∧
    (run (interpS3cSkel cfg n ld 0 Gen.threeUnsewBodies 16 [] [] ([], []) Gen.threeUnsewSkel) m = (.ok u, m') →
      ∃ m1, run (threeUnlink3 (X := X) n ld) m = (.ok (), m1) ∧ SameTopo m1 m') := by
  rw [C05_gen_threeSew3, C05_gen_threeUnsew3]
  exact ⟨C05_threeSew3_topology cfg n ld rd m m' u, C05_threeUnsew3_topology cfg n ld m m' u⟩

/-- lists the interpreters do not understand are a panic, not a silent success: an unknown opcode, a loop over a
    walk that was never collected, a loop body that is not in the table -/
example (cfg : Cfg X) (n l r : Nat) (k : List Nat → Accs3 → P X Unit) :
    interpS3c cfg n l r 4 [] ([], []) [(21, [0, 2, 0, 1])] k = Prog.panic := rfl
example (cfg : Cfg X) (n l r : Nat) :
    interpS3cSkel cfg n l r [] 4 [] [] ([], []) [(43, [0, 1, 0])] = Prog.panic := rfl
example (cfg : Cfg X) (n l r : Nat) :
    interpS3cSkel cfg n l r [] 4 [] [] ([], []) [(44, [0, 0, 0, 1])] = Prog.panic := rfl

end HC.GenTie

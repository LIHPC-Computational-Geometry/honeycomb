/-
  C08 — operations composed in one transaction act like the same calls in sequence.

  For every list of transactional closures over a map (core operations, kernels, user blocks —
  anything of type `P X α`): if each succeeds when they are run one after the other, each in its
  own `atomically_with_err`, then running them inside ONE atomic block returns the same list of
  results and exactly the same final map; and conversely.  Proved for the sequential semantics
  and, through T1, for the transaction-log semantics that `fast-stm` implements (an operation
  reads its own transaction's earlier writes from the log, and nothing else).

  The premise that a real operation *is* such a closure (reads shared state only through its
  `Transaction`) is a fact about the code, checked by the differential run of tools/props/c08.py
  (findings D3, D4 of DESIGN.md §13.4: non-transactional reads of `three_sew/three_unsew` and of the
  vertex-insertion kernels).
-/
import Honeycomb.Lemmas.MapLawful
import Honeycomb.Props.C01

namespace HC.C08
open HC
variable {X α : Type}

theorem C08_block_equals_sequence (ps : List (P X α)) (m m' : Map X) (rs : List α)
    (h : runEach ps m = some (rs, m')) : atomically (seqAll ps) m = (.ok rs, m') :=
  compose_eq_sequence ps m m' rs h

theorem C08_sequence_of_block (ps : List (P X α)) (m m' : Map X) (rs : List α)
    (h : atomically (seqAll ps) m = (.ok rs, m')) : runEach ps m = some (rs, m') :=
  sequence_of_compose ps m m' rs h

/-- the same with the log semantics on both sides: what `fast-stm` executes -/
def runEachLog : List (P X α) → Map X → Option (List α × Map X)
  | [], s => some ([], s)
  | p :: ps, s =>
      match atomicallyLog p s with
      | (.ok a, s') =>
          match runEachLog ps s' with
          | some (as, s'') => some (a :: as, s'')
          | none => none
      | _ => none

theorem runEachLog_eq (ps : List (P X α)) : ∀ m : Map X, runEachLog ps m = runEach ps m := by
  induction ps with
  | nil => intro m; rfl
  | cons p ps ih =>
      intro m
      simp only [runEachLog, runEach, T1_atomicallyLog_eq]
      match atomically p m with
      | (.ok a, s') => simp only [ih]; cases runEach ps s' <;> rfl
      | (.err e, s') => rfl
      | (.retry, s') => rfl
      | (.panic, s') => rfl

theorem C08_log_block_equals_sequence (ps : List (P X α)) (m m' : Map X) (rs : List α)
    (h : runEachLog ps m = some (rs, m')) : atomicallyLog (seqAll ps) m = (.ok rs, m') := by
  rw [T1_atomicallyLog_eq]
  rw [runEachLog_eq] at h
  exact compose_eq_sequence ps m m' rs h

/-- read-your-writes, stated on its own: inside a transaction a read returns the last value the
    transaction wrote to that variable, else the committed one -/
theorem C08_read_your_writes (ℓ : Log MVar (MVal X)) (m : Map X) (hw : ℓ.WritesOK m) (v : MVar) :
    Store.sget (ℓ.apply m) v = (ℓ.lastWrite v).getD (Store.sget m v) :=
  sget_apply ℓ m hw v

/-! non-vacuity: a 1-unlink, a 1-link, a 2-sew and a 2-unsew on the two triangles of C01, in one block -/

def exProg : List (P Val Unit) :=
  [C01.prog (stdCfg 3 7) 9 (.unlink 1 3), C01.prog (stdCfg 3 7) 9 (.link 1 3 7),
   C01.prog (stdCfg 3 7) 9 (.sew 2 2 4), C01.prog (stdCfg 3 7) 9 (.unsew 2 4)]

example : (runEach exProg C01.exMap).isSome = true := by decide +kernel
example : (atomically (seqAll exProg) C01.exMap).1 = .ok [(), (), (), ()] := by decide +kernel

end HC.C08

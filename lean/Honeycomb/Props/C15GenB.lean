/-
  C15 — the edge-collapse kernel (honeycomb-kernels/src/remeshing/collapse.rs), TRANSLATED from the source on every
  run (`Gen/Collapse.lean`, written by `python3 tools/gen_lean.py collapse`): the half-cell helpers
  `collapse_halfcell_to_midpoint` / `collapse_halfcell_to_base`, the two edge-level helpers `collapse_edge_to_midpoint` /
  `collapse_edge_to_base` (which call the TRANSLATED half-cell helpers) and the guard function `is_collapsible`,
  interpreted in the model's transaction monad, are EQUAL as programs to the hand-written definitions of
  Model/Kernels/Collapse.lean.  `map.sew::<I>` / `map.unsew::<I>` are looked up in the translated dispatch of
  Props/C15Gen.lean.  Taken as given (as in C15Gen): `unlink::<2>` is `iUnlinkCore 2`, `remove_free_dart_transac` is
  `removeFreeDartTx`, `read_attribute` / `write_attribute` / `read_vertex` / `write_vertex` act on the storages of the
  model, `AttributeUpdate::merge` / `anchor_dim` on `VertexAnchor` / `EdgeAnchor` are the generated `merge` / `dim` of
  Gen/Anchors.lean.
-/
import Honeycomb.Lemmas.RemeshFixtures
import Honeycomb.Props.C15Gen
import Honeycomb.Gen.Collapse
import Honeycomb.Model.Kernels.Collapse

namespace HC.GenTie
open HC HC.C15 Gen.Anchors
variable {X : Type}

/-- numeric operand: as `remN`, plus 12 = NULL_VERTEX_ID -/
def colN (ps : List Nat) (env : List (RemVal X)) (a : Nat) : Nat :=
  if a = 12 then 0 else remN ps env a

/-- the meaning of a generated instruction list of Gen/Collapse.lean; returns the variables bound; `half h a b c` is the
    half-cell helper number `h` called on `(a, b, c)`; the fuel only makes the recursion structural -/
def colInterp (cfg : Cfg X) (n : Nat) (half : Nat → Nat → Nat → Nat → P X Unit) (ps : List Nat) :
    Nat → List (RemVal X) → List (Nat × List Nat) → P X (List (RemVal X))
  | 0, _, _ => Prog.panic
  | _ + 1, env, [] => pure env
  | f + 1, env, (1, [i, a]) :: rest => do
      let v ← rB i (colN ps env a)
      colInterp cfg n half ps f (env ++ [.n v]) rest
  | f + 1, env, (3, k :: i :: as) :: rest =>
      match remDispatch cfg n Gen.Remesh.sewDispatch k i (as.map (colN ps env)) with
      | some p => do p; colInterp cfg n half ps f env rest
      | none => Prog.panic
  | f + 1, env, (7, [a]) :: rest => do
      let v ← vertexId2 n (colN ps env a)
      colInterp cfg n half ps f (env ++ [.n v]) rest
  | f + 1, env, (11, [a, x]) :: rest =>
      match remX env x with
      | some v => do
          let _ ← remWriteVtx (colN ps env a) v
          colInterp cfg n half ps f env rest
      | none => Prog.panic
  | f + 1, env, (12, [x, m]) :: rest =>
      match remO env x with
      | some o => do
          remOnSome o (fun a => do let _ ← colInterp cfg n half ps f (env ++ [.x a]) (rest.take m); pure ())
          colInterp cfg n half ps f env (rest.drop m)
      | none => Prog.panic
  | f + 1, env, (13, [k, a, x, k']) :: rest =>
      match remX env x with
      | some v =>
          if k = k' then do
            let _ ← writeAttr cfg (stVA + k) (colN ps env a) v
            colInterp cfg n half ps f env rest
          else Prog.panic
      | none => Prog.panic
  | f + 1, env, (15, [a]) :: rest => do
      let _ ← removeFreeDartTx (colN ps env a)
      colInterp cfg n half ps f env rest
  | f + 1, env, (16, [2, a]) :: rest => do
      iUnlinkCore 2 (colN ps env a)
      colInterp cfg n half ps f env rest
  | f + 1, env, (17, [a, c, m]) :: rest => do
      (if colN ps env a ≠ colN ps env c then do let _ ← colInterp cfg n half ps f env (rest.take m); pure () else pure ())
      colInterp cfg n half ps f env (rest.drop m)
  | f + 1, env, (20, [h, a, b, c]) :: rest => do
      half h (colN ps env a) (colN ps env b) (colN ps env c)
      colInterp cfg n half ps f env rest
  | f + 1, env, (21, [a]) :: rest => do
      let v ← rA 0 (colN ps env a)
      colInterp cfg n half ps f (env ++ [.o v]) rest
  | f + 1, env, (22, [k, a]) :: rest => do
      let v ← readAttr cfg (stVA + k) (colN ps env a)
      colInterp cfg n half ps f (env ++ [.o v]) rest
  | f + 1, env, (23, [a, c, b, a', c', b', z]) :: rest => do
      let v ← (if colN ps env a ≠ colN ps env c then vertexId2 n (colN ps env b)
        else if colN ps env a' ≠ colN ps env c' then vertexId2 n (colN ps env b')
        else pure (colN ps env z) : P X Nat)
      colInterp cfg n half ps f (env ++ [.n v]) rest
  | _, _, _ => Prog.panic

/-- a translated function returning `Ok(())` -/
def colUnit (p : P X (List (RemVal X))) : P X Unit := p.bind (fun _ => .ret ())

/-- a translated function returning `Ok(<operand res>)` -/
def colNat (ps : List Nat) (res : Nat) (p : P X (List (RemVal X))) : P X Nat := p.bind (fun env => .ret (colN ps env res))

/-- no half-cell helper calls another -/
def colNoHalf : Nat → Nat → Nat → Nat → P X Unit := fun _ _ _ _ => Prog.panic

/-- the translated half-cell helper number `h` (0 = `collapse_halfcell_to_midpoint`, 1 = `collapse_halfcell_to_base`) -/
def colHalf (cfg : Cfg X) (n : Nat) : Nat → Nat → Nat → Nat → P X Unit
  | 0, a, b, c => colUnit (colInterp cfg n colNoHalf [a, b, c] 32 [] Gen.Collapse.collapseHalfcellToMidpoint)
  | 1, a, b, c => colUnit (colInterp cfg n colNoHalf [a, b, c] 32 [] Gen.Collapse.collapseHalfcellToBase)
  | _, _, _, _ => Prog.panic

/-- **tie of `collapse_halfcell_to_midpoint`** (three 1-unsews, the two β2 reads, two 2-unsews, the 2-sew with its
    arguments in order, the three removals) -/
theorem C15_gen_collapse_halfMid (cfg : Cfg Val) (n b0d d b1d : Nat) :
    colHalf cfg n 0 b0d d b1d = collapseHalfMid cfg n b0d d b1d := by
  simp only [colHalf, colUnit, Gen.Collapse.collapseHalfcellToMidpoint, colInterp, colN, remN, collapseHalfMid, List.map,
    List.getD_cons_zero, List.getD_cons_succ, List.nil_append, List.cons_append, rem_disp_sew2, rem_disp_unsew1, rem_disp_unsew2,
    Prog.bind_eq, Prog.pure_eq, Prog.bind_assoc, Prog.ret_bind, Nat.reduceEqDiff, if_false, Nat.reduceSub]

/-- **tie of `collapse_halfcell_to_base`** -/
theorem C15_gen_collapse_halfBase (cfg : Cfg Val) (n dPe dE dNe : Nat) :
    colHalf cfg n 1 dPe dE dNe = collapseHalfBase cfg n dPe dE dNe := by
  simp only [colHalf, colUnit, Gen.Collapse.collapseHalfcellToBase, colInterp, colN, remN, collapseHalfBase, List.map,
    List.getD_cons_zero, List.getD_cons_succ, List.nil_append, List.cons_append, List.take, List.drop,
    rem_disp_sew1, rem_disp_unsew1,
    Prog.bind_eq, Prog.pure_eq, Prog.bind_assoc, Prog.ret_bind, Prog.ite_bind, Nat.reduceEqDiff, if_false, Nat.reduceSub, Prog.bind_unit]

/-- **tie of `collapse_edge_to_midpoint`** (the half-cell helpers called are the translated ones) -/
theorem C15_gen_collapse_edgeToMidpoint (cfg : Cfg Val) (n b0l l b1l b0r r b1r : Nat) :
    colNat [b0l, l, b1l, b0r, r, b1r] Gen.Collapse.collapseEdgeToMidpointResult
      (colInterp cfg n (colHalf cfg n) [b0l, l, b1l, b0r, r, b1r] 32 [] Gen.Collapse.collapseEdgeToMidpoint) =
      collapseEdgeToMidpoint cfg n b0l l b1l b0r r b1r := by
  simp only [colNat, Gen.Collapse.collapseEdgeToMidpoint, Gen.Collapse.collapseEdgeToMidpointResult, colInterp, colN, remN,
    collapseEdgeToMidpoint, collapsedVid, C15_gen_collapse_halfMid, List.map,
    List.getD_cons_zero, List.getD_cons_succ, List.nil_append, List.cons_append, List.take, List.drop, rem_disp_unsew2,
    Prog.bind_eq, Prog.pure_eq, Prog.bind_assoc, Prog.ret_bind, Prog.ite_bind, Nat.reduceEqDiff, if_false, if_true, Nat.reduceSub,
    Prog.bind_unit, Prog.bind_ret]

/-- the model's `if let Some(v) = o { k v }` as `remOnSome` -/
theorem col_matchSome (o : Option Val) (k : Val → P Val Unit) :
    (match o with
     | some v => k v
     | none => pure ()) = remOnSome o k := by
  cases o <;> rfl

/-- **tie of `collapse_edge_to_base`** (the three reads of the base vertex before any edit, the 2-unsew of `l`, the half-cell
    helper on `(b1r, r, b0r)` then on `(b0l, l, b1l)`, the identifier selection, the two conditional writes at `new_vid`) -/
theorem C15_gen_collapse_edgeToBase (cfg : Cfg Val) (n b0l l b1l b0r r b1r : Nat) :
    colNat [b0l, l, b1l, b0r, r, b1r] Gen.Collapse.collapseEdgeToBaseResult
      (colInterp cfg n (colHalf cfg n) [b0l, l, b1l, b0r, r, b1r] 32 [] Gen.Collapse.collapseEdgeToBase) =
      collapseEdgeToBase cfg n b0l l b1l b0r r b1r := by
  simp only [colNat, Gen.Collapse.collapseEdgeToBase, Gen.Collapse.collapseEdgeToBaseResult, colInterp, colN, remN, remO, remX,
    collapseEdgeToBase, C15_gen_collapse_halfBase, List.map,
    List.getD_cons_zero, List.getD_cons_succ, List.nil_append, List.cons_append, List.take, List.drop, rem_disp_unsew2,
    Prog.bind_eq, Prog.pure_eq, Prog.bind_assoc, Prog.ret_bind, Nat.reduceEqDiff, if_false, if_true, Nat.reduceSub,
    Prog.bind_unit, remWriteVtx_val, Nat.add_zero]
  refine congrArg (Prog.bind _) (funext fun lVid => congrArg (Prog.bind _) (funext fun tv => congrArg (Prog.bind _)
    (funext fun ta => ?_)))
  cases tv <;> cases ta <;>
    simp only [remOnSome, Prog.ite_bind, collapsedVid, Prog.bind_assoc, Prog.ret_bind] <;> rfl

/-- the anchors numbered in the order read -/
def colVA (la ra : VertexAnchor) : Nat → Option VertexAnchor
  | 0 => some la
  | 1 => some ra
  | _ => none

def colDim (la ra : VertexAnchor) (ea : EdgeAnchor) : Nat → Option Nat
  | 0 => some la.dim
  | 1 => some ra.dim
  | 2 => some ea.dim
  | _ => none

def colChoiceOf : Nat → Option Collapsible
  | 0 => some .average
  | 1 => some .left
  | 2 => some .right
  | _ => none

/-- the decision of the translated `is_collapsible` once the three anchors are read (`none` = `unreachable!()` or a
    shape the interpreter gives no meaning to) -/
def colDecide (la ra : VertexAnchor) (ea : EdgeAnchor) (mrg : Nat × Nat) (dims : List (Nat × Nat)) (eqs : Nat × Nat)
    (tbl : List (Bool × Bool × Nat)) (msgs : String × String) : Option (Except Err Collapsible) :=
  match colVA la ra mrg.1, colVA la ra mrg.2, colVA la ra eqs.1, colVA la ra eqs.2, dims with
  | some x, some y, some p, some q, [(a, b), (c, d)] =>
    match colDim la ra ea a, colDim la ra ea b, colDim la ra ea c, colDim la ra ea d with
    | some da, some db, some dc, some dd =>
      match VertexAnchor.merge x y with
      | some val =>
        if da = db ∨ dc = dd then
          match tbl.find? (fun r => r.1 == decide (val = p) && r.2.1 == decide (val = q)) with
          | some r => (colChoiceOf r.2.2).map .ok
          | none => none
        else some (.error (errNonCollapsible msgs.1))
      | none => some (.error (errNonCollapsible msgs.2))
    | _, _, _, _ => none
  | _, _, _, _, _ => none

/-- **tie of the decision of `is_collapsible`**: which anchors are merged, which dimensions are compared, which
    outcome per arm, which message per refusal -/
theorem C15_gen_collapse_choice (la ra : VertexAnchor) (ea : EdgeAnchor) :
    colDecide la ra ea Gen.Collapse.guardMerge Gen.Collapse.guardDims Gen.Collapse.guardEqs Gen.Collapse.guardTable
      Gen.Collapse.guardMsgs = collapseChoice la ra ea := by
  simp only [colDecide, Gen.Collapse.guardMerge, Gen.Collapse.guardDims, Gen.Collapse.guardEqs, Gen.Collapse.guardTable,
    Gen.Collapse.guardMsgs, colVA, colDim, collapseChoice]
  cases VertexAnchor.merge la ra with
  | none => rfl
  | some val =>
    simp only
    split
    · cases decide (val = la) <;> cases decide (val = ra) <;> rfl
    · rfl

/-- the translated `is_collapsible` -/
def colGuard (cfg : Cfg Val) (n e : Nat) : P Val Collapsible :=
  if !regd cfg (stVA + Gen.Collapse.guardKind) then
    (match colChoiceOf Gen.Collapse.guardEarly with
     | some c => pure c
     | none => Prog.panic)
  else
  (colInterp cfg n colNoHalf [e] 8 [] Gen.Collapse.guardPre).bind fun env =>
  match Gen.Collapse.guardReads with
  | [(0, i1), (0, i2), (1, i3)] => do
      let a1 ← readAttr cfg (stVA + 0) (colN [e] env i1)
      let a2 ← readAttr cfg (stVA + 0) (colN [e] env i2)
      let a3 ← readAttr cfg (stVA + 1) (colN [e] env i3)
      match a1, a2, a3 with
      | some a1, some a2, some a3 =>
          match vAnchorOf a1, vAnchorOf a2, eAnchorOf a3 with
          | some la, some ra, some ea =>
              match colDecide la ra ea Gen.Collapse.guardMerge Gen.Collapse.guardDims Gen.Collapse.guardEqs
                  Gen.Collapse.guardTable Gen.Collapse.guardMsgs with
              | some (.ok c) => pure c
              | some (.error err) => abort err
              | none => Prog.panic
          | _, _, _ => Prog.panic
      | _, _, _ => Prog.retry
  | _ => Prog.panic

/-- **tie of `is_collapsible`** (the early return when no `VertexAnchor` storage is registered, the reads in order, the
    three anchor reads with their kinds and identifiers, `retry()` unless all three are defined, the decision) -/
theorem C15_gen_collapse_isCollapsible (cfg : Cfg Val) (n e : Nat) : colGuard cfg n e = isCollapsible cfg n e := by
  simp only [colGuard, isCollapsible, C15_gen_collapse_choice, Gen.Collapse.guardKind, Gen.Collapse.guardEarly,
    Gen.Collapse.guardPre, Gen.Collapse.guardReads, colChoiceOf, colInterp, colN, remN,
    List.nil_append, List.cons_append, Prog.bind_eq, Prog.pure_eq, Prog.bind_assoc, Prog.ret_bind, Nat.reduceEqDiff, if_false,
    Nat.reduceSub, Nat.add_zero, List.getD_eq_getElem?_getD, List.getElem?_cons_zero, List.getElem?_cons_succ, Option.getD_some]
  rfl

/-- the translated edge-level helper number `f` (0 = `collapse_edge_to_midpoint`, 1 = `collapse_edge_to_base`) on the
    two triples `ps` -/
def colEdge (cfg : Cfg Val) (n : Nat) : Nat → List Nat → P Val Nat
  | 0, ps => colNat ps Gen.Collapse.collapseEdgeToMidpointResult
      (colInterp cfg n (colHalf cfg n) ps 32 [] Gen.Collapse.collapseEdgeToMidpoint)
  | 1, ps => colNat ps Gen.Collapse.collapseEdgeToBaseResult
      (colInterp cfg n (colHalf cfg n) ps 32 [] Gen.Collapse.collapseEdgeToBase)
  | _, _ => Prog.panic

/-- the meaning of the translated top level `collapse_edge` (header of `Gen.Collapse.collapseEdge`); `guard` =
    `is_collapsible`, `edge f` = the edge-level helpers, `orient` = `is_orbit_orientation_consistent`; returns the
    variables bound -/
def colTop (guard : Nat → P Val Collapsible) (edge : Nat → List Nat → P Val Nat) (orient : Nat → P Val Bool)
    (errs : List String) (ps : List Nat) : Nat → List (RemVal Val) → List (Nat × List Nat) → P Val (List (RemVal Val))
  | 0, _, _ => Prog.panic
  | _ + 1, env, [] => pure env
  | f + 1, env, (0, [a, b, v]) :: rest =>
      if colN ps env a = colN ps env b then abort (remErr errs v) else
      colTop guard edge orient errs ps f env rest
  | f + 1, env, (1, [i, a]) :: rest => do
      let v ← rB i (colN ps env a)
      colTop guard edge orient errs ps f (env ++ [.n v]) rest
  | f + 1, env, (24, [i, a, b, v]) :: rest => do
      let x ← rB i (colN ps env a)
      if x ≠ colN ps env b then abort (remErr errs v) else
      colTop guard edge orient errs ps f env rest
  | f + 1, env, (25, [a, c, i, b, d, v]) :: rest => do
      -- `&&` short-circuits: the β is only read when the first comparison is true
      let bad ← (if colN ps env a ≠ colN ps env c then do
        let y ← rB i (colN ps env b)
        pure (decide (y ≠ colN ps env d)) else pure false : P Val Bool)
      if bad then abort (remErr errs v) else
      colTop guard edge orient errs ps f env rest
  | f + 1, env, (26, [x, f0, a1, a2, a3, a4, a5, a6, f1, b1, b2, b3, b4, b5, b6, f2, c1, c2, c3, c4, c5, c6]) :: rest => do
      let c ← guard (colN ps env x)
      let v ← (match c with
        | .average => edge f0 [colN ps env a1, colN ps env a2, colN ps env a3, colN ps env a4, colN ps env a5, colN ps env a6]
        | .left => edge f1 [colN ps env b1, colN ps env b2, colN ps env b3, colN ps env b4, colN ps env b5, colN ps env b6]
        | .right => edge f2 [colN ps env c1, colN ps env c2, colN ps env c3, colN ps env c4, colN ps env c5, colN ps env c6])
      colTop guard edge orient errs ps f (env ++ [.n v]) rest
  | f + 1, env, (27, [a, v]) :: rest => do
      let ok ← orient (colN ps env a)
      if !ok then abort (remErr errs v) else
      colTop guard edge orient errs ps f env rest
  | _, _, _ => Prog.panic

/-- the translated `collapse_edge(t, map, e)`, every callee the translated one except the orientation check `orient` -/
def colCollapseEdge (cfg : Cfg Val) (n : Nat) (orient : Nat → P Val Bool) (e : Nat) : P Val Nat :=
  colNat [e] Gen.Collapse.collapseEdgeResult
    (colTop (colGuard cfg n) (colEdge cfg n) orient Gen.Collapse.collapseErrors [e] 32 [] Gen.Collapse.collapseEdge)

theorem col_errs : remErr Gen.Collapse.collapseErrors 3 = errNullEdge ∧ remErr Gen.Collapse.collapseErrors 4 = errBadTopology ∧
    remErr Gen.Collapse.collapseErrors 2 = errInvertedOrientation := ⟨rfl, rfl, rfl⟩

/-- **tie of the top level `collapse_edge`**: the NullEdge guard, the five β reads in order, the two BadTopology guards (the
    second with its short-circuit `&&`), the match on the answer of the translated `is_collapsible` into the translated
    edge-level helpers with their two triples, the InvertedOrientation abort, the identifier returned -/
theorem C15_gen_collapse_edge (cfg : Cfg Val) (n e : Nat) :
    colCollapseEdge cfg n (isOrbitOrientationConsistent n) e = collapseEdge cfg n e := by
  simp only [colCollapseEdge, Gen.Collapse.collapseEdge, colTop, colEdge, colN, remN,
    C15_gen_collapse_isCollapsible, C15_gen_collapse_edgeToMidpoint, C15_gen_collapse_edgeToBase,
    col_errs.1, col_errs.2.1, col_errs.2.2,
    List.getD_cons_zero, List.getD_cons_succ, List.nil_append, List.cons_append, Nat.reduceEqDiff, if_false, Nat.reduceSub]
  simp only [colNat, Gen.Collapse.collapseEdgeResult, colN, remN, collapseEdge, abort, Prog.abort_bind,
    List.getD_cons_zero, List.getD_cons_succ,
    Prog.bind_eq, Prog.pure_eq, Prog.bind_assoc, Prog.ret_bind, Prog.ite_bind, Nat.reduceEqDiff, if_false, Nat.reduceSub
    ]
  rfl

/-- **C15 (b) stated on the translated decision**: the `unreachable!()` of the translated `is_collapsible` is unreachable -/
theorem C15_gen_collapse_choice_total (la ra : VertexAnchor) (ea : EdgeAnchor) :
    colDecide la ra ea Gen.Collapse.guardMerge Gen.Collapse.guardDims Gen.Collapse.guardEqs Gen.Collapse.guardTable
      Gen.Collapse.guardMsgs ≠ none := by
  rw [C15_gen_collapse_choice]
  exact C15_collapse_choice_total la ra ea

/-- the translated half-cell helper RUNS: on the unit square it gives the outcome of the model -/
example : (atomically (colHalf (stdCfg 3 0) unitSquare.n 0 1 2 3) unitSquare).1 =
    (atomically (collapseHalfMid (stdCfg 3 0) unitSquare.n 1 2 3) unitSquare).1 := by
  rw [C15_gen_collapse_halfMid]

end HC.GenTie
